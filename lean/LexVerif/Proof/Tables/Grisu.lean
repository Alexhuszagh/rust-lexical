import LexVerif.Gen.Grisu
import LexVerif.Spec.Tables
import LexVerif.Proof.Tables.Walk
import LexVerif.Model.Grisu
import LexVerif.Proof.FloorLogCert
/-!
Grisu (`compact`): `GRISU_POWERS_OF_TEN` rows are the nearest 64-bit normalised mantissas of `10^k`,
`k = -348 + 8·i`, with binary exponent `⌊log₂ 10^k⌋ - 63`; `cached_grisu_power` on the whole range its
debug assertion admits returns a table row that brings the product's exponent into `[-60, -32]`.
-/
namespace LexVerif.Proof.Tables.Grisu
open LexVerif LexVerif.Spec.Tables LexVerif.Gen.Grisu

def rows : List (Nat × Nat × Nat) := List.zip powersOfTenList (List.zip decimalPowerBiasedList binaryPowerBiasedList)

def rowOk (i : Nat) (r : Nat × Nat × Nat) : Bool :=
  let k : Int := (r.2.1 : Int) - decimalPowerBias
  let e : Int := (r.2.2 : Int) - binaryPowerBias
  decide (k = -348 + 8 * (i : Int) ∧ IsFloorLog2Pow10 k (e + 63) ∧ IsNearestPow10 k e r.1)

theorem rows_walk : allIdx rowOk 0 rows = true := by decide +kernel

theorem rows_size : powersOfTenList.length = 87 ∧ decimalPowerBiasedList.length = 87
    ∧ binaryPowerBiasedList.length = 87 ∧ accessorIsIndex = true := by decide +kernel

/-- `fast_binary_power`'s multiplier `(152170 + 65536) / 2^16` between the neighbours of `log₂ 10` for `|q| ≤ 400` -/
theorem fastBinaryPower_cert : FloorLog.logCertOk 10 2 400 217706 (2 ^ 16) = true := by decide +kernel

theorem fastBinaryPower_exact {q : Int} (h1 : -400 ≤ q) (h2 : q ≤ 400) :
    IsFloorLog2Pow10 q (Model.Grisu.fastBinaryPower q + 63) := by
  have e : Model.Grisu.fastBinaryPower q + 63 = ((217706 : Nat) : Int) * q / ((2 ^ 16 : Nat) : Int) := by
    simp only [Model.Grisu.fastBinaryPower]
    rw [DragonboxArith.i32_id (x := q * _) (by omega) (by omega), DragonboxArith.i32_id (by omega) (by omega)]
    omega
  exact e ▸ FloorLog.isFloorLog_of_cert (by decide) fastBinaryPower_cert (q := q) (by omega) (by omega)

theorem fastBinaryPower_walk :
    allIdx (vecOk (fun q v => Model.Grisu.fastBinaryPower q = v) fastBinaryPowerLo fastBinaryPowerTabBias) 0
      fastBinaryPowerTabBiased.toList = true := by decide +kernel
theorem fastBinaryPower_size :
    fastBinaryPowerTabBiased.size = (fastBinaryPowerHi - fastBinaryPowerLo + 1).toNat := by decide +kernel

theorem fastBinaryPower_spec (q : Int) (h1 : fastBinaryPowerLo ≤ q) (h2 : q ≤ fastBinaryPowerHi) :
    IsFloorLog2Pow10 q ((fastBinaryPowerTabBiased.getD (q - fastBinaryPowerLo).toNat 0 : Int) - fastBinaryPowerTabBias + 63) :=
  vec_spec fastBinaryPower_size fastBinaryPower_walk q h1 h2 ▸ fastBinaryPower_exact h1 h2

def cachedRows : List (Nat × Nat × Nat) := List.zip cachedMantList (List.zip cachedBinExpBiasedList cachedKBiasedList)

def cachedOk (i : Nat) (r : Nat × Nat × Nat) : Bool :=
  let exp : Int := cachedLo + i
  let be : Int := (r.2.1 : Int) - cachedBinExpBias
  let k : Int := (r.2.2 : Int) - cachedKBias
  let idx : Nat := ((k + 348) / 8).toNat
  decide (0 ≤ k + 348 ∧ (k + 348) % 8 = 0 ∧ idx < 87
    ∧ r.1 = powersOfTenList.getD idx 0
    ∧ be = (binaryPowerBiasedList.getD idx 0 : Int) - binaryPowerBias
    ∧ -60 ≤ exp + be + 64 ∧ exp + be + 64 ≤ -32)

/-! The dump is walked once, with `Nat` comparisons only (`pathOk`; `Int` arithmetic is dear in the kernel): `cachedOk`
follows from it here, and `Proof/GrisuCached.lean` reads the model's result off the same walk, where `binB` and
`startIdx` are proved to be what the model computes. -/

/-- `fast_binary_power (fast_decimal_power j) + 1220`: the argument is `q = 8j - 348`, `q·(152170 + 65536) = 1741648·j - 75761688`,
and `75761688 = 1157·2^16 - 63464`, so `(q·217706 >> 16) - 63 = binB j - 1157 - 63`. (`1220` is `binaryPowerBias` of the dump.) -/
def binB (j : Nat) : Nat := (1741648 * j + 63464) / 65536

/-- the index the loop starts from for argument `exp = -1140 + i`: `(⌊-(exp + 87)·ONE_LOG_TEN⌋ + 348) / 8` with truncating
divisions; `-(exp + 87) = 1053 - i`, `ONE_LOG_TEN = 2711437152599295 / 2^53` exactly -/
def startIdx (i : Nat) : Nat :=
  if i ≤ 1053 then ((1053 - i) * 2711437152599295 / 2 ^ 53 + 348) / 8
  else (348 - (i - 1053) * 2711437152599295 / 2 ^ 53) / 8

/-- row `i` of the dump `(mant, biased binary exponent, biased k)` is row `j = (k + 348) / 8` of the table, the window test
passes at `j`, and the loop gets there from its starting index: it starts there, or below with row `j - 1` under the
window, or above with row `j + 1` over it. Biases: `k + 348 = r.2.2 + 8` (`cachedKBias = 340`), binary exponent
`r.2.1 - 1193 = binB j - 1220`, and the window `-60 ≤ (i - 1140) + (binB j - 1220) + 64 ≤ -32` is `2236 ≤ i + binB j ≤ 2264`. -/
def pathOk (i : Nat) (r : Nat × Nat × Nat) : Bool :=
  let j := (r.2.2 + 8) / 8
  let s := startIdx i
  (r.2.2 + 8) % 8 == 0 && Nat.blt j 87 && r.1 == powersOfTenList.getD j 0 && r.2.1 + 27 == binB j
    && Nat.ble 2236 (i + binB j) && Nat.ble (i + binB j) 2264
    && (s == j || (Nat.blt s j && Nat.blt (i + binB (j - 1)) 2236)
      || (Nat.blt j s && Nat.blt s 87 && Nat.blt 2264 (i + binB (j + 1))))

theorem path_walk : allIdx pathOk 0 cachedRows = true := by decide +kernel

theorem binB_walk : allIdx (fun j v => v == binB j) 0 binaryPowerBiasedList = true := by decide +kernel

theorem cachedOk_of_path {i : Nat} {r : Nat × Nat × Nat} (h : pathOk i r = true) : cachedOk i r = true := by
  simp only [pathOk, Bool.and_eq_true, beq_iff_eq, Nat.blt_eq, Nat.ble_eq] at h
  obtain ⟨⟨⟨⟨⟨⟨h8, hj⟩, hm⟩, hb⟩, hw1⟩, hw2⟩, -⟩ := h
  have hlen : (r.2.2 + 8) / 8 < binaryPowerBiasedList.length := by rw [rows_size.2.2.1]; exact hj
  have hbin := allIdx_get _ binaryPowerBiasedList 0 binB_walk _ hlen
  rw [Nat.zero_add, beq_iff_eq] at hbin
  have hg : binaryPowerBiasedList.getD ((r.2.2 + 8) / 8) 0 = binB ((r.2.2 + 8) / 8) := by
    rw [List.getD_eq_getElem?_getD, List.getElem?_eq_getElem hlen, Option.getD_some, hbin]
  have hidx : (((r.2.2 : Int) - cachedKBias + 348) / 8).toNat = (r.2.2 + 8) / 8 := by unfold cachedKBias; omega
  simp only [cachedOk, decide_eq_true_eq]
  rw [hidx, hg]
  unfold cachedLo cachedBinExpBias cachedKBias binaryPowerBias
  exact ⟨by omega, by omega, hj, hm, by omega, by omega, by omega⟩

theorem cached_walk : allIdx cachedOk 0 cachedRows = true :=
  allIdx_mono (fun _ _ => cachedOk_of_path) _ _ path_walk

theorem cached_size : cachedMantList.length = (cachedHi - cachedLo + 1).toNat
    ∧ cachedBinExpBiasedList.length = (cachedHi - cachedLo + 1).toNat
    ∧ cachedKBiasedList.length = (cachedHi - cachedLo + 1).toNat ∧ cachedPanics = [] := by decide +kernel

end LexVerif.Proof.Tables.Grisu
