import LexVerif.Proof.Tables.LargePowersDefs
/-! `split_radix`, the large-power limbs, `integral_binary_factor` and the big-integer sizes of each feature set, every radix
(the predicates are in `LargePowersDefs`, apart, so that the executable models never depend on a proof). -/
namespace LexVerif.Proof.Tables
open LexVerif.Spec LexVerif.Spec.PowerTables LexVerif.Proof

/-- All 35 radices; `split_radix` has to return the odd part (`(3, 2)` for 12), because `get_large_int_power` of an
even base falls through to the radix-35 entry. -/
theorem split_radix_radix : radixAll (splitRadixOk LargeSet.Radix) = true := by
  decide +kernel

theorem large_powers_radix :
    ((List.range 37).filter fun b => 3 ≤ b && b % 2 == 1).all (largeEntryOk LargeSet.Radix) = true := by
  decide +kernel

theorem binary_factor_radix : radixAll (binaryFactorOk LargeSet.Radix) = true := by
  unfold binaryFactorOk clog2
  rw [log2_eq_log2F]
  decide +kernel

theorem bigint_size_radix : bigintSizeOk LargeSet.Radix SmallSet.Radix = true := by decide +kernel

/-! ### feature set `compact+radix` (no large powers: `pow` uses the small powers only; `integral_binary_factor` is the
same function as in `radix`) -/

theorem split_radix_compact : radixAll (splitRadixOk LargeSet.CompactRadix) = true := by
  decide +kernel

theorem bigint_size_compact : bigintSizeOk LargeSet.CompactRadix SmallSet.CompactRadix = true := by decide +kernel

/-! ### feature set `default` (decimal only: bases 2, 5, 10) -/

theorem split_radix_default : [2, 5, 10].all (splitRadixOk LargeSet.Default) = true := by decide +kernel

theorem binary_factor_default : binaryFactorOk LargeSet.Default 10 = true := by
  unfold binaryFactorOk clog2
  rw [log2_eq_log2F]
  decide +kernel

theorem bigint_size_default : bigintSizeOk LargeSet.Default SmallSet.Default = true := by decide +kernel

end LexVerif.Proof.Tables
