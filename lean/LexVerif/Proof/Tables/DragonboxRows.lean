import LexVerif.Gen.Dragonbox
import LexVerif.Spec.Tables
import LexVerif.Proof.Tables.Walk
import LexVerif.Proof.FastLog2
/-! `DRAGONBOX32_POWERS_OF_FIVE`, `DRAGONBOX64_POWERS_OF_FIVE`: every row is `⌈10^k⌉` normalised to 64 / 128 bits. -/
namespace LexVerif.Proof.Tables.Dragonbox
open LexVerif LexVerif.Spec.Tables LexVerif.Gen.Dragonbox LexVerif.Proof

def rows64 : List Nat := List.zipWith (fun hi lo => hi * 2 ^ 64 + lo) pow5_64HiList pow5_64LoList

/-- the closed form, and `IsCacheRow` with its conjuncts written out, so that `Nat.log2` is in sight for `log2_eq_log2F` -/
def cacheRowOk (bits : Nat) (smallest : Int) (i v : Nat) : Bool :=
  v == pow10Cache bits (smallest + i) &&
  decide (IsFloorLog2Pow10 (smallest + i) (pow10BinExp (smallest + i))) &&
  decide (IsCeilPow10 bits (smallest + i) (pow10BinExp (smallest + i) - ((bits : Int) - 1)) v)

theorem cacheRowOk_spec {bits : Nat} {smallest : Int} {i v : Nat} (h : cacheRowOk bits smallest i v = true) :
    v = pow10Cache bits (smallest + i) ∧ IsCacheRow bits (smallest + i) v := by
  simpa only [cacheRowOk, IsCacheRow, Bool.and_eq_true, beq_iff_eq, decide_eq_true_eq, and_assoc] using h

theorem pow5_32_walk : allIdx (cacheRowOk 64 smallestF32Pow5) 0 pow5_32.toList = true := by
  unfold cacheRowOk pow10BinExp pow10Cache bitLen
  rw [log2_eq_log2F]
  decide +kernel

theorem pow5_64_walk : allIdx (cacheRowOk 128 smallestF64Pow5) 0 rows64 = true := by
  unfold cacheRowOk pow10BinExp pow10Cache bitLen
  rw [log2_eq_log2F]
  decide +kernel

end LexVerif.Proof.Tables.Dragonbox
