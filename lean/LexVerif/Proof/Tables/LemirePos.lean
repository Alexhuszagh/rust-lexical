import LexVerif.Proof.Tables.LemireDefs
/-! Eisel–Lemire table, rows of the non-negative powers (`5^0 … 5^308`), and `power`. -/
namespace LexVerif.Proof.Tables
open LexVerif.Gen LexVerif.Spec LexVerif.Spec.PowerTables LexVerif.Proof

theorem lemire_rows_pos : tableAll (fun j => lemireRowOk (342 + j)) lemirePosRows = true := by
  unfold lemireRowOk lemireRow normTrunc clog2 bitlen
  rw [log2_eq_log2F]
  decide +kernel

theorem lemire_power_all : tableAll lemirePowerOk Lemire.powerTab = true := by
  unfold lemirePowerOk floorLog2Pow ilog2Q bitlen
  rw [log2_eq_log2F]
  decide +kernel

end LexVerif.Proof.Tables
