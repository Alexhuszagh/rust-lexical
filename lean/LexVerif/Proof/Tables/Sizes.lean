import LexVerif.Gen.Sizes
import LexVerif.Spec.Tables
import LexVerif.Proof.Tables.Walk
/-!
`FORMATTED_SIZE` / `FORMATTED_SIZE_DECIMAL` / `BUFFER_SIZE` against the longest numeral of each integer type,
for the feature sets `default`, `radix`, `compact+radix`.
-/
namespace LexVerif.Proof.Tables.Sizes
open LexVerif LexVerif.Spec.Tables LexVerif.Gen.Sizes

def tyOk (t : Ty) : Bool :=
  if t.float then true
  else if t.signed then t.minMag == 2 ^ (t.bits - 1) && t.max == 2 ^ (t.bits - 1) - 1
  else t.minMag == 0 && t.max == 2 ^ t.bits - 1

def maxMag (t : Ty) : Nat := max t.minMag t.max

/-- decimal: room for the longest digit string, plus the `-` for signed types -/
def decimalOk (t : Ty) (sz : Nat × Nat) : Bool :=
  t.float || (if t.signed then 1 + numDigits 10 (maxMag t) ≤ sz.2 else numDigits 10 (maxMag t) ≤ sz.2)

/-- decimal, *with* room for a sign character on every type (`+` is written for unsigned types when the format has
`required_mantissa_sign`) -/
def decimalSignOk (t : Ty) (sz : Nat × Nat) : Bool := t.float || 1 + numDigits 10 (maxMag t) ≤ sz.2

/-- any radix 2..36: room for the longest digit string plus a sign character -/
def radixOk (t : Ty) (sz : Nat × Nat) : Bool :=
  t.float || (List.range 35).all fun i => 1 + numDigits (i + 2) (maxMag t) ≤ sz.1

def all2 (p : Ty → Nat × Nat → Bool) (sizes : List (Nat × Nat)) : Bool :=
  (List.zip types sizes).all fun x => p x.1 x.2

theorem lengths : sizesDefault.length = 14 ∧ sizesRadix.length = 14 ∧ sizesCompactRadix.length = 14 := by decide +kernel

theorem buffer_size :
    bufferSizeDefault = 64 ∧ bufferSizeRadix = 256 ∧ bufferSizeCompactRadix = 256
    ∧ coreBufferSizeDefault = bufferSizeDefault ∧ coreBufferSizeRadix = bufferSizeRadix
    ∧ coreBufferSizeCompactRadix = bufferSizeCompactRadix
    ∧ (sizesDefault.drop 12) = [(64, 64), (64, 64)] ∧ (sizesRadix.drop 12) = [(256, 64), (256, 64)]
    ∧ (sizesCompactRadix.drop 12) = [(256, 64), (256, 64)] := by decide +kernel

end LexVerif.Proof.Tables.Sizes
