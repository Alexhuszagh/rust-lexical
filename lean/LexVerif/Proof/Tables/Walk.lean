/-!
# Linear table walkers for `decide +kernel`

Indexing a large `Array`/`List` literal inside the kernel is linear per access, so a `∀ i < n` check by
indexing is quadratic. `allIdx` walks the list once, carrying the
index; `allIdx_iff` says what a successful walk means. `allIdxTo` (which also checks the length) and `tableAll` of
`Util.lean` (indices from `List.range`, for arrays) are the same fold in other spellings and are read through it.
-/
namespace LexVerif.Proof.Tables

def allIdx {α : Type} (p : Nat → α → Bool) : Nat → List α → Bool
  | _, [] => true
  | s, a :: l => p s a && allIdx p (s + 1) l

theorem allIdx_iff {α : Type} {p : Nat → α → Bool} :
    ∀ {l : List α} {s : Nat}, allIdx p s l = true ↔ ∀ (j : Nat) (h : j < l.length), p (s + j) l[j] = true
  | [], _ => ⟨fun _ j h => absurd h (Nat.not_lt_zero j), fun _ => rfl⟩
  | a :: l, s => by
    simp only [allIdx, Bool.and_eq_true, allIdx_iff (l := l)]
    constructor
    · rintro ⟨h0, ht⟩ (_ | j) h
      · exact h0
      · simpa [Nat.add_assoc, Nat.add_comm 1 j] using ht j (by simpa using h)
    · intro h
      refine ⟨h 0 (by simp), fun j hj => ?_⟩
      have := h (j + 1) (by simpa using hj)
      simpa [Nat.add_assoc, Nat.add_comm 1 j] using this

theorem allIdx_get {α : Type} (p : Nat → α → Bool) (l : List α) (s : Nat) (hw : allIdx p s l = true)
    (j : Nat) (h : j < l.length) : p (s + j) l[j] = true :=
  allIdx_iff.mp hw j h

theorem allIdx_mono {α : Type} {p q : Nat → α → Bool} (h : ∀ i a, p i a = true → q i a = true) (l : List α) (s : Nat)
    (hw : allIdx p s l = true) : allIdx q s l = true :=
  allIdx_iff.mpr fun j hj => h _ _ (allIdx_iff.mp hw j hj)

theorem allIdx_array {p : Nat → Nat → Bool} {a : Array Nat} (hw : allIdx p 0 a.toList = true)
    (j : Nat) (h : j < a.size) : p j a[j] = true := by
  have := allIdx_get p a.toList 0 hw j (by simpa using h)
  simpa using this

def vecOk (P : Int → Int → Prop) [∀ q v, Decidable (P q v)] (lo : Int) (bias : Nat) (i v : Nat) : Bool :=
  decide (P (lo + i) ((v : Int) - bias))

theorem vec_spec {P : Int → Int → Prop} [∀ q v, Decidable (P q v)] {lo hi : Int} {bias : Nat} {tab : Array Nat}
    (hsize : tab.size = (hi - lo + 1).toNat)
    (hw : allIdx (vecOk P lo bias) 0 tab.toList = true)
    (q : Int) (h1 : lo ≤ q) (h2 : q ≤ hi) :
    P q ((tab.getD (q - lo).toNat 0 : Int) - bias) := by
  have hj : (q - lo).toNat < tab.size := by omega
  have h := allIdx_array hw (q - lo).toNat hj
  have hq : lo + ((q - lo).toNat : Int) = q := by omega
  simp only [vecOk, decide_eq_true_eq, hq] at h
  have hg : tab.getD (q - lo).toNat 0 = tab[(q - lo).toNat] := by simp [Array.getD, hj]
  rw [hg]; exact h

/-- `allIdx p 0 l` for a list of exactly `n` rows, in one pass: `k` counts the rows left, row `n - k` is checked.
The index is recomputed from the literal `k` at every row; a carried `s + 1` stays an unevaluated chain of
additions, and when the same chain comes up again (a second table in the same declaration) the kernel compares
the two structurally at every row. -/
def allIdxTo {α : Type} (p : Nat → α → Bool) (n : Nat) : Nat → List α → Bool
  | 0, [] => true
  | k + 1, a :: l => p (n - (k + 1)) a && allIdxTo p n k l
  | _, _ => false

theorem allIdxTo_get {α : Type} (p : Nat → α → Bool) (n : Nat) :
    ∀ (k : Nat) (l : List α), k ≤ n → allIdxTo p n k l = true → l.length = k ∧ allIdx p (n - k) l = true
  | 0, [], _, _ => ⟨rfl, rfl⟩
  | 0, _ :: _, _, h => by simp [allIdxTo] at h
  | _ + 1, [], _, h => by simp [allIdxTo] at h
  | k + 1, a :: l, hk, h => by
    simp only [allIdxTo, Bool.and_eq_true] at h
    have ih := allIdxTo_get p n k l (by omega) h.2
    have e : n - (k + 1) + 1 = n - k := by omega
    simp only [allIdx, Bool.and_eq_true, List.length_cons, e]
    exact ⟨by omega, h.1, ih.2⟩

theorem allIdxTo_spec {α : Type} {p : Nat → α → Bool} {n : Nat} {l : List α} (h : allIdxTo p n n l = true) :
    l.length = n ∧ allIdx p 0 l = true := by
  simpa using allIdxTo_get p n n l (Nat.le_refl n) h

theorem vec_spec_to {P : Int → Int → Prop} [∀ q v, Decidable (P q v)] {lo hi : Int} {bias : Nat} {tab : Array Nat}
    (hw : allIdxTo (vecOk P lo bias) (hi - lo + 1).toNat (hi - lo + 1).toNat tab.toList = true)
    (q : Int) (h1 : lo ≤ q) (h2 : q ≤ hi) :
    P q ((tab.getD (q - lo).toNat 0 : Int) - bias) :=
  vec_spec (by simpa using (allIdxTo_spec hw).1) (allIdxTo_spec hw).2 q h1 h2

/-- indices (from `s`) at which the walk fails — for diagnostics (`#eval`) after a broken theorem -/
def badIdx {α : Type} (p : Nat → α → Bool) : Nat → List α → List Nat
  | _, [] => []
  | s, a :: l => if p s a then badIdx p (s + 1) l else s :: badIdx p (s + 1) l

end LexVerif.Proof.Tables
