import LexVerif.Proof.Tables.BellDefs
import LexVerif.Proof.Tables.Walk
import LexVerif.Proof.RoundNECore
import LexVerif.Proof.FloorLogCert
/-!
A cheaper evaluation of `bellRadixOk`. `extTrunc` finds the binary exponent by a logarithm; the tables carry
that exponent next to each mantissa, so it is enough to check that the stored exponent is the floor logarithm
(two comparisons, `isFloorLog2Q`) and that the stored mantissa is the quotient it determines.
The `log2` multiplier is right on the whole exponent range by one pair of Farey neighbours of `log₂ r` (`bellLog2Cert`).
-/
namespace LexVerif.Proof.Tables
open LexVerif.Spec LexVerif.Spec.PowerTables LexVerif.Gen.Bellerophon LexVerif.Proof.RoundNE

theorem isFloorLog2Q_le2 {num den : Nat} {e : Int} (h : isFloorLog2Q num den e = true) :
    le2 den num e ∧ ¬ le2 den num (e + 1) := by
  unfold isFloorLog2Q at h
  unfold le2
  split at h
  · next he =>
    simp only [Bool.and_eq_true, decide_eq_true_eq] at h
    have e1 : (-e).toNat = 0 := by omega
    have e2 : (e + 1).toNat = e.toNat + 1 := by omega
    have e3 : (-(e + 1)).toNat = 0 := by omega
    rw [e1, e2, e3]
    omega
  · next he =>
    simp only [Bool.and_eq_true, decide_eq_true_eq] at h
    have e1 : e.toNat = 0 := by omega
    have e2 : (e + 1).toNat = 0 := by omega
    obtain ⟨k, hk⟩ : ∃ k, (-e).toNat = k + 1 := ⟨(-e).toNat - 1, by omega⟩
    have e3 : (-(e + 1)).toNat = k := by omega
    have e4 : num * (2 ^ k * 2) = 2 * (num * 2 ^ k) := by rw [Nat.mul_comm (2 ^ k) 2, Nat.mul_left_comm]
    rw [hk, Nat.pow_succ, e4] at h
    rw [e1, e2, e3, hk, Nat.pow_succ, e4]
    omega

theorem ilog2Q_eq {num den : Nat} {e : Int} (hn : num ≠ 0) (hd : den ≠ 0) (h : isFloorLog2Q num den e = true) :
    ilog2Q num den = e := by
  obtain ⟨a1, a2⟩ := isFloorLog2Q_le2 h
  obtain ⟨b1, b2⟩ := ilog2Q_spec hn hd
  apply Int.le_antisymm
  · exact Int.not_lt.mp fun hlt => a2 (le2_anti (by omega) b1)
  · exact Int.not_lt.mp fun hlt => b2 (le2_anti (by omega) a1)

def extRowOk (num den m : Nat) (e : Int) : Bool :=
  isFloorLog2Q num den (e + 63) &&
  m == (if -e ≥ 0 then num * 2 ^ (-e).toNat / den else num / (den * 2 ^ e.toNat))

theorem extTrunc_eq {num den m : Nat} {e : Int} (hn : num ≠ 0) (hd : den ≠ 0) (h : extRowOk num den m e = true) :
    extTrunc num den = (m, e) := by
  simp only [extRowOk, Bool.and_eq_true, beq_iff_eq] at h
  have e1 : (63 : Int) - (e + 63) = -e := by omega
  have e2 : e + 63 - 63 = e := by omega
  simp only [extTrunc, ilog2Q_eq hn hd h.1, e1, e2, h.2, Int.neg_neg]

theorem extTrunc_bracket {num den : Nat} {e : Int} (hn : num ≠ 0) (hd : den ≠ 0)
    (h : isFloorLog2Q num den e = true) :
    (extTrunc num den).2 = e - 63 ∧ 2 ^ 63 ≤ (extTrunc num den).1 ∧ (extTrunc num den).1 < 2 ^ 64 ∧
    (extTrunc num den).1 * 2 ^ (e - 63).toNat * den ≤ num * 2 ^ (63 - e).toNat ∧
    num * 2 ^ (63 - e).toNat < ((extTrunc num den).1 + 1) * 2 ^ (e - 63).toNat * den := by
  have hdp : 0 < den := Nat.pos_of_ne_zero hd
  obtain ⟨a1, a2⟩ := isFloorLog2Q_le2 h
  simp only [extTrunc, ilog2Q_eq hn hd h]
  by_cases hs : (63 : Int) - e ≥ 0
  · -- `e ≤ 63`: the mantissa is `num·2^(63−e) / den`, the bounds are the floor logarithm shifted by `63 − e`
    simp only [hs, if_true]
    obtain ⟨s, hsd⟩ : ∃ s : Nat, (63 - e).toNat = s := ⟨_, rfl⟩
    have e0 : (e - 63).toNat = 0 := by omega
    rw [le2_shift den num e s (by omega)] at a1
    rw [le2_shift den num (e + 1) s (by omega)] at a2
    have e1 : (e + s).toNat = 63 := by omega
    have e2 : (e + 1 + s).toNat = 64 := by omega
    rw [e1] at a1
    rw [e2] at a2
    rw [hsd, e0, Nat.pow_zero, Nat.mul_one, Nat.mul_one]
    refine ⟨trivial, ?_, ?_, ?_, ?_⟩
    · rw [Nat.le_div_iff_mul_le hdp, Nat.mul_comm (2 ^ 63) den]; exact a1
    · rw [Nat.div_lt_iff_lt_mul hdp, Nat.mul_comm (2 ^ 64) den]; exact Nat.not_le.mp a2
    · exact Nat.div_mul_le_self _ _
    · exact Nat.lt_of_lt_of_eq (Nat.lt_mul_div_succ _ hdp) (Nat.mul_comm _ _)
  · -- `e > 63`: the mantissa is `num / (den·2^(e−63))`
    have hs' : ¬ ((63 : Int) - e ≥ 0) := hs
    simp only [hs', if_false]
    obtain ⟨t, htd⟩ : ∃ t : Nat, (e - 63).toNat = t := ⟨_, rfl⟩
    have e0 : (63 - e).toNat = 0 := by omega
    have e3 : (-(63 - e)).toNat = t := by omega
    rw [le2_shift den num e 0 (by omega)] at a1
    rw [le2_shift den num (e + 1) 0 (by omega)] at a2
    have e1 : (e + (0 : Nat)).toNat = t + 63 := by omega
    have e2 : (e + 1 + (0 : Nat)).toNat = t + 64 := by omega
    rw [e1, Nat.pow_zero, Nat.mul_one] at a1
    rw [e2, Nat.pow_zero, Nat.mul_one] at a2
    have hp : 0 < den * 2 ^ t := Nat.mul_pos hdp (Nat.two_pow_pos t)
    rw [htd, e0, e3, Nat.pow_zero, Nat.mul_one]
    refine ⟨trivial, ?_, ?_, ?_, ?_⟩
    · rw [Nat.le_div_iff_mul_le hp, Nat.mul_comm (2 ^ 63), Nat.mul_assoc, ← Nat.pow_add]; exact a1
    · rw [Nat.div_lt_iff_lt_mul hp, Nat.mul_comm (2 ^ 64), Nat.mul_assoc, ← Nat.pow_add]; exact Nat.not_le.mp a2
    · rw [Nat.mul_assoc, Nat.mul_comm (2 ^ t) den]; exact Nat.div_mul_le_self _ _
    · rw [Nat.mul_assoc, Nat.mul_comm (2 ^ t) den]; exact Nat.lt_of_lt_of_eq (Nat.lt_mul_div_succ _ hp) (Nat.mul_comm _ _)

def extTablesOk (num den : Nat → Nat) (ms : Array Nat) (es : Array Int) : Bool :=
  es.size == ms.size && allIdx (fun i x => extRowOk (num i) (den i) x.1 x.2) 0 (ms.toList.zip es.toList)

theorem extTables {num den : Nat → Nat} (hn : ∀ i, num i ≠ 0) (hd : ∀ i, den i ≠ 0) {ms : Array Nat}
    {es : Array Int} (h : extTablesOk num den ms es = true) :
    tableAll (fun i m => m == (extTrunc (num i) (den i)).1) ms = true ∧
    tableAll (fun i e => e == (extTrunc (num i) (den i)).2) es = true := by
  simp only [extTablesOk, Bool.and_eq_true, beq_iff_eq] at h
  have row : ∀ i (h1 : i < ms.size) (h2 : i < es.size), extTrunc (num i) (den i) = (ms[i], es[i]) := by
    intro i h1 h2
    have := allIdx_get _ _ 0 h.2 i (by simp only [List.length_zip, Array.length_toList]; omega)
    simp only [Nat.zero_add, List.getElem_zip, Array.getElem_toList] at this
    exact extTrunc_eq (hn i) (hd i) this
  constructor
  · exact tableAll_iff.mpr fun i hi => by rw [row i hi (by omega)]; exact beq_self_eq_true _
  · exact tableAll_iff.mpr fun i hi => by rw [row i (by omega) hi]; exact beq_self_eq_true _

theorem powQ_ne_zero {r : Nat} (hr : 0 < r) (k : Int) : (powQ r k).1 ≠ 0 ∧ (powQ r k).2 ≠ 0 := by
  have := fun n => Nat.pos_iff_ne_zero.mp (Nat.pow_pos (n := n) hr)
  unfold powQ
  split
  · exact ⟨this _, Nat.one_ne_zero⟩
  · exact ⟨Nat.one_ne_zero, this _⟩

theorem powQ_eq (r : Nat) (k : Int) : (powQ r k).1 = r ^ k.toNat ∧ (powQ r k).2 = r ^ (-k).toNat := by
  unfold powQ
  split
  · next h =>
    have : (-k).toNat = 0 := by omega
    rw [this, Nat.pow_zero]; exact ⟨rfl, rfl⟩
  · next h =>
    have : k.toNat = 0 := by omega
    rw [this, Nat.pow_zero]; exact ⟨rfl, rfl⟩

def bellRadixEval (compact : Bool) (powers : Nat → Powers) (r : Nat) : Bool :=
  let P := powers r
  if bellHasTable compact r then
    decide (0 < r) && bellShapeOk P r &&
    extTablesOk (fun i => r ^ i) (fun _ => 1) P.small P.smallExp &&
    tableAll (fun i v => v == r ^ i && v < 2 ^ 64) P.smallInt &&
    extTablesOk (fun i => (powQ r (i * P.step - P.bias)).1) (fun i => (powQ r (i * P.step - P.bias)).2) P.large P.largeExp
  else P.small.size == 0 && P.large.size == 0 && P.smallInt.size == 0

theorem bellRadixOk_of_eval {compact : Bool} {powers : Nat → Powers} {r : Nat}
    (h : bellRadixEval compact powers r = true) : bellRadixOk compact powers r = true := by
  unfold bellRadixEval at h
  unfold bellRadixOk
  split at h
  · next ht =>
    simp only [Bool.and_eq_true, decide_eq_true_eq] at h
    obtain ⟨⟨⟨⟨hr, hshape⟩, hsmall⟩, hint⟩, hlarge⟩ := h
    have hs := extTables (fun i => Nat.pos_iff_ne_zero.mp (Nat.pow_pos hr)) (fun _ => Nat.one_ne_zero) hsmall
    have hl := extTables (fun i => (powQ_ne_zero hr _).1) (fun i => (powQ_ne_zero hr _).2) hlarge
    simp only [ht, if_true, Bool.and_eq_true]
    exact ⟨⟨⟨⟨⟨hshape, hs.1⟩, hs.2⟩, hint⟩, hl.1⟩, hl.2⟩
  · next ht => simpa only [ht, Bool.false_eq_true, if_false] using h

/-- the multiplier `log2 / 2^log2_shift` lies between the neighbours of `log₂ r` for every exponent the table serves -/
def bellLog2Cert (P : Powers) (r : Nat) : Bool :=
  decide (0 ≤ P.log2) && decide (0 ≤ P.bias) &&
  FloorLog.logCertOk r 2 (max P.bias.toNat (P.large.size * P.step.toNat - P.bias.toNat)) P.log2.toNat
    (2 ^ P.log2Shift.toNat)

theorem bellLog2Ok_of_cert {P : Powers} {r : Nat} (h : bellLog2Cert P r = true) : bellLog2Ok P r = true := by
  simp only [bellLog2Cert, Bool.and_eq_true, decide_eq_true_eq] at h
  obtain ⟨⟨hlog, hbias⟩, hc⟩ := h
  simp only [bellLog2Ok, List.all_eq_true, List.mem_range]
  intro j hj
  have := FloorLog.isFloorLog2Q_of_cert hc (q := (j : Int) - P.bias) (by omega) (by omega)
  rwa [Int.toNat_of_nonneg hlog, Int.natCast_pow] at this

end LexVerif.Proof.Tables
