import LexVerif.Gen.IntTables
import LexVerif.Spec.Tables
import LexVerif.Proof.Tables.Walk
/-!
`digit_to_char`, `min_step` / `max_step`; the predicates for the `u128_divrem_<r>` constants (S, with the
Granlund–Montgomery precondition) and for the `u128_divrem` probes (R), both evaluated in `Props.TablesWrite`.
-/
namespace LexVerif.Proof.Tables.IntSteps
open LexVerif LexVerif.Spec LexVerif.Spec.Tables LexVerif.Gen.IntTables

theorem digitToChar_walk :
    allIdx (fun d v => v == digitChar d) 0 digitToChar.toList = true ∧ digitToChar.size = 36 := by decide +kernel

/-- index `i` of the step tables ↦ `(radix, value bits)`; value bits = `bits - is_signed` -/
def stepRadix (i : Nat) : Nat := i / 10 + 2
def stepValueBits (i : Nat) : Nat := 8 * 2 ^ (i / 2 % 5) - i % 2

/-- `min_step`: the largest `k` with `r^k ≤ 2^valueBits` — every `k`-digit numeral fits the type -/
def minStepOk (i v : Nat) : Bool := decide (IsMaxPow (stepRadix i) (2 ^ stepValueBits i) v)

/-- `max_step`: the number of digits of the type's maximum `2^valueBits - 1` -/
def maxStepOk (i v : Nat) : Bool :=
  decide (0 < v ∧ stepRadix i ^ (v - 1) ≤ 2 ^ stepValueBits i - 1 ∧ 2 ^ stepValueBits i - 1 < stepRadix i ^ v)

theorem minStep_walk : allIdx minStepOk 0 minStepTab.toList = true ∧ minStepTab.size = 350 := by decide +kernel
theorem maxStep_walk : allIdx maxStepOk 0 maxStepTab.toList = true ∧ maxStepTab.size = 350 := by decide +kernel

theorem stepIndex_grid :
    ((List.range 35).all fun ri => [8, 16, 32, 64, 128].all fun bits => [false, true].all fun s =>
      let i := stepIndex (ri + 2) bits s
      i < 350 && stepRadix i == ri + 2 && stepValueBits i == bits - (if s then 1 else 0)) = true := by decide +kernel

/-- what must hold of the constants inside `u128_divrem_<r>` for it to be `n ↦ (n / r^step, n % r^step)`,
given the multiply-high identity (`Spec.Tables.MulHiIdentity`) -/
def div128Ok (r : Nat) : Bool :=
  let dd := r ^ u64Step r
  match div128 r with
  | .pow2 mask shr => decide (shr ≤ 64 ∧ mask = 2 ^ shr - 1 ∧ 2 ^ shr = dd)
  | .moderate d f s => decide (d = dd ∧ d < 2 ^ 64 ∧ MulHiPre 128 d f s)
  | .fast d fast fs f s =>
    decide (d = dd ∧ d < 2 ^ 64 ∧ fast = 2 ^ (64 + fs) ∧ d % 2 ^ fs = 0 ∧ 0 < d / 2 ^ fs ∧ MulHiPre 128 d f s)
  | .slow d ctlz => decide (d = dd ∧ d < 2 ^ 64 ∧ 0 < d ∧ ctlz = 64 - bitLen d)
  | .missing => false

/-- R probes of the compiled `u128_divrem(n, r)`: quotient and remainder by `r^u64_step(r)` -/
def divremRows : List (Nat × Nat × Nat × Nat) :=
  List.zip u128DivremRadixList (List.zip u128DivremNList (List.zip u128DivremQuotList u128DivremRemList))

def divremOk (_ : Nat) (t : Nat × Nat × Nat × Nat) : Bool :=
  let d := t.1 ^ u64Step t.1
  decide (2 ≤ t.1 ∧ t.1 ≤ 36 ∧ t.2.1 < 2 ^ 128 ∧ t.2.2.1 = t.2.1 / d ∧ t.2.2.2 = t.2.1 % d)

end LexVerif.Proof.Tables.IntSteps
