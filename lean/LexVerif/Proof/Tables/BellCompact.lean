import LexVerif.Proof.Tables.BellEval
/-!
Bellerophon tables, feature set `compact+radix`. The build adds the decimal table and leaves every other
radix as in `radix`, so only radix 10 is evaluated; the rest is carried over by comparing the literals.
-/
namespace LexVerif.Proof.Tables
open LexVerif.Spec LexVerif.Spec.PowerTables LexVerif.Proof LexVerif.Gen LexVerif.Gen.Bellerophon

/-- field-wise comparison (arrays as lists: `Array`'s own `DecidableEq` indexes, which is quadratic in the kernel) -/
def samePowers (P Q : Powers) : Bool :=
  P.step == Q.step && P.bias == Q.bias && P.log2 == Q.log2 && P.log2Shift == Q.log2Shift &&
  P.small.toList == Q.small.toList && P.smallExp.toList == Q.smallExp.toList &&
  P.large.toList == Q.large.toList && P.largeExp.toList == Q.largeExp.toList &&
  P.smallInt.toList == Q.smallInt.toList

theorem eq_of_samePowers {P Q : Powers} (h : samePowers P Q = true) : P = Q := by
  cases P; cases Q
  simpa only [samePowers, Bool.and_eq_true, beq_iff_eq, Array.toList_inj, Powers.mk.injEq, and_assoc] using h

theorem powers_compact_same :
    radixAll (fun r => r == 10 || samePowers (CompactRadix.powers r) (Radix.powers r)) = true := by
  decide +kernel

theorem powers_compact_eq {r : Nat} (h2 : 2 ≤ r) (h36 : r ≤ 36) (h10 : r ≠ 10) :
    CompactRadix.powers r = Radix.powers r := by
  have h := of_radixAll powers_compact_same r h2 h36
  simp only [Bool.or_eq_true, beq_iff_eq, h10, false_or] at h
  exact eq_of_samePowers h

theorem bellHasTable_compact {r : Nat} (h10 : r ≠ 10) : bellHasTable true r = bellHasTable false r := by
  simp [bellHasTable, h10]

theorem bellRadixOk_compact {r : Nat} (h2 : 2 ≤ r) (h36 : r ≤ 36) (h10 : r ≠ 10) :
    bellRadixOk true CompactRadix.powers r = bellRadixOk false Radix.powers r := by
  simp only [bellRadixOk, powers_compact_eq h2 h36 h10, bellHasTable_compact h10]

theorem bellRadixLog2Ok_compact {r : Nat} (h2 : 2 ≤ r) (h36 : r ≤ 36) (h10 : r ≠ 10) :
    bellRadixLog2Ok true CompactRadix.powers r = bellRadixLog2Ok false Radix.powers r := by
  simp only [bellRadixLog2Ok, powers_compact_eq h2 h36 h10, bellHasTable_compact h10]

theorem bell_compact_decimal : bellRadixEval true CompactRadix.powers 10 = true := by
  decide +kernel

theorem bellRadixOk_compact_decimal : bellRadixOk true CompactRadix.powers 10 = true :=
  bellRadixOk_of_eval bell_compact_decimal

theorem bell_log2_compact_decimal : bellRadixLog2Ok true CompactRadix.powers 10 = true := by
  have h : bellLog2Cert (CompactRadix.powers 10) 10 = true := by decide +kernel
  simp only [bellRadixLog2Ok, bellLog2Ok_of_cert h, Bool.or_true]

end LexVerif.Proof.Tables
