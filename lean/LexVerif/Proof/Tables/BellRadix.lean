import LexVerif.Proof.Tables.BellEval
/-! Bellerophon tables, feature set `radix`: every mantissa, exponent and constant of every radix, and the
`log2` multiplier on the whole exponent range. -/
namespace LexVerif.Proof.Tables
open LexVerif.Spec LexVerif.Spec.PowerTables LexVerif.Gen

theorem bell_radix : radixAll (bellRadixEval false Bellerophon.Radix.powers) = true := by
  decide +kernel

theorem bellRadixOk_radix {r : Nat} (h2 : 2 ≤ r) (h36 : r ≤ 36) : bellRadixOk false Bellerophon.Radix.powers r = true :=
  bellRadixOk_of_eval (of_radixAll bell_radix r h2 h36)

theorem bell_log2_cert_radix :
    radixAll (fun r => !bellHasTable false r || bellLog2Cert (Bellerophon.Radix.powers r) r) = true := by
  decide +kernel

theorem bell_log2_radix : radixAll (bellRadixLog2Ok false Bellerophon.Radix.powers) = true :=
  radixAll_mono (fun r h => by
    simp only [bellRadixLog2Ok, Bool.or_eq_true] at h ⊢
    exact h.imp id bellLog2Ok_of_cert) bell_log2_cert_radix

end LexVerif.Proof.Tables
