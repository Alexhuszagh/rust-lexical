import LexVerif.Proof.Tables.SmallDefs
import LexVerif.Proof.RoundNEDecode
/-!
A cheaper evaluation of the float power tables: an entry that is a finite pattern and decodes to exactly `r^e`
is what `r^e` rounds to (`roundNE_of_float'`), so the rounding itself is not evaluated.
-/
namespace LexVerif.Proof.Tables
open LexVerif.Spec LexVerif.Spec.PowerTables LexVerif.Proof.RoundNE

def floatPowEval (f : Fmt) (hi : Int) (r e v : Nat) : Bool :=
  if (e : Int) ≤ hi then decide (v < f.infBits) && exactlyRepr f v (r ^ e) else v == 0

theorem floatPowOk_of_eval {f : Fmt} (hf : WF f) {hi : Int} {r e v : Nat} (h : floatPowEval f hi r e v = true) :
    floatPowOk f hi r e v = true := by
  unfold floatPowEval at h
  unfold floatPowOk
  split
  · next he =>
    simp only [he, if_true, Bool.and_eq_true, decide_eq_true_eq] at h
    obtain ⟨hb, hx⟩ := h
    have hx' := hx
    simp only [exactlyRepr, Bool.and_eq_true, beq_iff_eq] at hx'
    have hd := (toFrac_decode hf hb).2
    have e1 : roundNE f (r ^ e) 1 = roundNE f (f.decode v).toFrac.1 (f.decode v).toFrac.2 :=
      Nat.le_antisymm (roundNE_mono' hf Nat.one_pos hd (by rw [hx'.2, Nat.mul_one]; exact Nat.le_refl _))
        (roundNE_mono' hf hd Nat.one_pos (by rw [hx'.2, Nat.mul_one]; exact Nat.le_refl _))
    rw [e1, roundNE_of_float' hf hb, hx]
    simp
  · next he => simpa only [he, if_false] using h

def floatPowTableEval (S : SmallSet) (f : Fmt) (r : Nat) : Bool :=
  tableAll (floatPowEval f (S.exponentLimit f r).2 r) (S.floatPow f r) &&
  decide ((S.exponentLimit f r).2 < ((S.floatPow f r).size : Int))

theorem floatPowTableOk_of_eval {S : SmallSet} {f : Fmt} (hf : WF f) {r : Nat} (h : floatPowTableEval S f r = true) :
    floatPowTableOk S f r = true := by
  simp only [floatPowTableEval, Bool.and_eq_true] at h
  simp only [floatPowTableOk, Bool.and_eq_true]
  exact ⟨tableAll_iff.mpr fun i hi => floatPowOk_of_eval hf (of_tableAll h.1 i hi), h.2⟩

theorem floatPow_of_eval {S : SmallSet} {f : Fmt} (hf : WF f) (h : S.radices.all (floatPowTableEval S f) = true) :
    S.radices.all (floatPowTableOk S f) = true := by
  rw [List.all_eq_true] at h ⊢
  exact fun r hr => floatPowTableOk_of_eval hf (h r hr)

end LexVerif.Proof.Tables
