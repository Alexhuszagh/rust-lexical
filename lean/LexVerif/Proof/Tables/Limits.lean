import LexVerif.Proof.Tables.SmallDefs
/-!
Limits (`exponent_limit`, `mantissa_limit`, `max_digits`, power limits) and step functions.
Feature set `compact` has the same functions as `radix` (identical `match` arms), so its statements are
definitionally those of `radix`.
-/
namespace LexVerif.Proof.Tables
open LexVerif.Spec LexVerif.Spec.PowerTables LexVerif.Proof

theorem limits_radix : SmallSet.Radix.radices.all (fun r => limitsOk SmallSet.Radix f32 r && limitsOk SmallSet.Radix f64 r) = true := by
  decide +kernel

theorem power_limits_radix : SmallSet.Radix.intRadices.all (fun r =>
    powerLimitOk 32 r (SmallSet.Radix.u32PowerLimit r) && powerLimitOk 64 r (SmallSet.Radix.u64PowerLimit r)) = true := by
  decide +kernel

theorem steps_radix : stepsOk SmallSet.Radix = true := by decide +kernel

theorem max_digits_radix : SmallSet.Radix.radices.all (fun r =>
    maxDigitsOk f32 r (SmallSet.Radix.f32MaxDigits r) && maxDigitsOk f64 r (SmallSet.Radix.f64MaxDigits r)) = true := by
  decide +kernel

theorem limits_default : SmallSet.Default.radices.all (fun r => limitsOk SmallSet.Default f32 r && limitsOk SmallSet.Default f64 r) = true := by
  decide +kernel

theorem power_limits_default : SmallSet.Default.intRadices.all (fun r =>
    powerLimitOk 32 r (SmallSet.Default.u32PowerLimit r) && powerLimitOk 64 r (SmallSet.Default.u64PowerLimit r)) = true := by
  decide +kernel

theorem steps_default : stepsOk SmallSet.Default = true := by decide +kernel

theorem max_digits_default : SmallSet.Default.radices.all (fun r =>
    maxDigitsOk f32 r (SmallSet.Default.f32MaxDigits r) && maxDigitsOk f64 r (SmallSet.Default.f64MaxDigits r)) = true := by
  decide +kernel

end LexVerif.Proof.Tables
