import LexVerif.Gen.IntTables
import LexVerif.Spec.Tables
import LexVerif.Proof.Tables.Walk
/-! Digit-pair tables `DIGIT_TO_BASE<r>_SQUARED`, r = 2…36: byte `j` is the character of
`(j/2) / r` (even `j`) or `(j/2) % r` (odd `j`), and the table has `2·r²` bytes. -/
namespace LexVerif.Proof.Tables.IntPairs
open LexVerif LexVerif.Spec.Tables LexVerif.Gen.IntTables

def pairOk (r j v : Nat) : Bool := v == pairEntry r j

theorem pair_walk :
    tableRadices.all (fun r => allIdxTo (pairOk r) (2 * r * r) (2 * r * r) (namedTable r).toList) = true := by
  decide +kernel

end LexVerif.Proof.Tables.IntPairs
