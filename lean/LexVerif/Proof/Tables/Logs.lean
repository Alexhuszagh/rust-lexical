import LexVerif.Gen.Logs
import LexVerif.Spec.Tables
import LexVerif.Model.Dragonbox
import LexVerif.Proof.Tables.Walk
import LexVerif.Proof.FloorLogCert
/-!
The five `floor_log*` functions of algorithm.rs on their whole documented domains. Each table dumped from the
compiled crate (`Gen.Logs`) is walked once and compared with the model's formula (the literals of the source).
That the formula is the exact floor logarithm: for the three pure multiples `⌊q·log_b a⌋` by one pair of Farey
neighbours of `log_b a` (`FloorLog.logCertOk`); for the two with an offset, which no such pair decides, row by row.
-/
namespace LexVerif.Proof.Tables.Logs
open LexVerif LexVerif.Spec.Tables LexVerif.Gen.Logs LexVerif.Model

theorem spec_of_walk {f : Int → Int} {tab : Array Nat} {lo hi : Int} {bias A B N c s : Nat}
    (hw : allIdxTo (vecOk (fun q v => f q = v) lo bias) (hi - lo + 1).toNat (hi - lo + 1).toNat tab.toList = true)
    (hf : ∀ q, f q = Dragonbox.i32 (q * c) / 2 ^ s) (hB : 1 < B) (hc : FloorLog.logCertOk A B N c (2 ^ s) = true)
    (hN : N * c < 2 ^ 31) (hlo : -(N : Int) ≤ lo) (hhi : hi ≤ N) (q : Int) (h1 : lo ≤ q) (h2 : q ≤ hi) :
    IsFloorLog B (powNum A q) (powDen A q) ((tab.getD (q - lo).toNat 0 : Int) - bias) ∧
      f q = (tab.getD (q - lo).toNat 0 : Int) - bias := by
  have e := vec_spec_to hw q h1 h2
  exact ⟨e ▸ hf q ▸ FloorLog.mulShift_exact hB hc hN (by omega) (by omega), e⟩

theorem log5Pow2_cert : FloorLog.logCertOk 2 5 1492 225799 (2 ^ 19) = true := by decide +kernel

theorem log5Pow2_walk :
    allIdxTo (vecOk (fun q v => Dragonbox.floorLog5Pow2 q = v) floorLog5Pow2Lo floorLog5Pow2TabBias)
      (floorLog5Pow2Hi - floorLog5Pow2Lo + 1).toNat (floorLog5Pow2Hi - floorLog5Pow2Lo + 1).toNat floorLog5Pow2TabBiased.toList = true := by
  decide +kernel

theorem log5Pow2_spec (q : Int) (h1 : floorLog5Pow2Lo ≤ q) (h2 : q ≤ floorLog5Pow2Hi) :
    IsFloorLog5Pow2 q (floorLog5Pow2 q) ∧ Dragonbox.floorLog5Pow2 q = floorLog5Pow2 q := by
  have := spec_of_walk log5Pow2_walk (fun _ => rfl) (by decide) log5Pow2_cert (by decide) (by decide) (by decide) q h1 h2
  simpa only [IsFloorLog5Pow2, floorLog5Pow2, floorLog5Pow2TabAt, h1, h2, and_self, if_true] using this

theorem log10Pow2_cert : FloorLog.logCertOk 2 10 1700 315653 (2 ^ 20) = true := by decide +kernel

theorem log10Pow2_walk :
    allIdxTo (vecOk (fun q v => Dragonbox.floorLog10Pow2 q = v) floorLog10Pow2Lo floorLog10Pow2TabBias)
      (floorLog10Pow2Hi - floorLog10Pow2Lo + 1).toNat (floorLog10Pow2Hi - floorLog10Pow2Lo + 1).toNat floorLog10Pow2TabBiased.toList = true := by
  decide +kernel

theorem log10Pow2_spec (q : Int) (h1 : floorLog10Pow2Lo ≤ q) (h2 : q ≤ floorLog10Pow2Hi) :
    IsFloorLog10Pow2 q (floorLog10Pow2 q) ∧ Dragonbox.floorLog10Pow2 q = floorLog10Pow2 q := by
  have := spec_of_walk log10Pow2_walk (fun _ => rfl) (by decide) log10Pow2_cert (by decide) (by decide) (by decide) q h1 h2
  simpa only [IsFloorLog10Pow2, floorLog10Pow2, floorLog10Pow2TabAt, h1, h2, and_self, if_true] using this

theorem log2Pow10_cert : FloorLog.logCertOk 10 2 1233 1741647 (2 ^ 19) = true := by decide +kernel

theorem log2Pow10_walk :
    allIdxTo (vecOk (fun q v => Dragonbox.floorLog2Pow10 q = v) floorLog2Pow10Lo floorLog2Pow10TabBias)
      (floorLog2Pow10Hi - floorLog2Pow10Lo + 1).toNat (floorLog2Pow10Hi - floorLog2Pow10Lo + 1).toNat floorLog2Pow10TabBiased.toList = true := by
  decide +kernel

theorem log2Pow10_spec (q : Int) (h1 : floorLog2Pow10Lo ≤ q) (h2 : q ≤ floorLog2Pow10Hi) :
    IsFloorLog2Pow10 q (floorLog2Pow10 q) ∧ Dragonbox.floorLog2Pow10 q = floorLog2Pow10 q := by
  have := spec_of_walk log2Pow10_walk (fun _ => rfl) (by decide) log2Pow10_cert (by decide) (by decide) (by decide) q h1 h2
  simpa only [IsFloorLog2Pow10, floorLog2Pow10, floorLog2Pow10TabAt, h1, h2, and_self, if_true] using this

theorem log5Pow2MinusLog5_3_walk :
    allIdxTo (vecOk (fun q v => IsFloorLog5Pow2MinusLog5_3 q v ∧ Dragonbox.floorLog5Pow2MinusLog5_3 q = v) floorLog5Pow2MinusLog5_3Lo floorLog5Pow2MinusLog5_3TabBias)
      (floorLog5Pow2MinusLog5_3Hi - floorLog5Pow2MinusLog5_3Lo + 1).toNat (floorLog5Pow2MinusLog5_3Hi - floorLog5Pow2MinusLog5_3Lo + 1).toNat floorLog5Pow2MinusLog5_3TabBiased.toList = true := by
  decide +kernel

theorem log5Pow2MinusLog5_3_spec (q : Int) (h1 : floorLog5Pow2MinusLog5_3Lo ≤ q) (h2 : q ≤ floorLog5Pow2MinusLog5_3Hi) :
    IsFloorLog5Pow2MinusLog5_3 q (floorLog5Pow2MinusLog5_3 q) ∧ Dragonbox.floorLog5Pow2MinusLog5_3 q = floorLog5Pow2MinusLog5_3 q := by
  have := vec_spec_to log5Pow2MinusLog5_3_walk q h1 h2
  simpa only [floorLog5Pow2MinusLog5_3, floorLog5Pow2MinusLog5_3TabAt, h1, h2, and_self, if_true] using this

theorem log10Pow2MinusLog10_4Over3_walk :
    allIdxTo (vecOk (fun q v => IsFloorLog10Pow2MinusLog10_4Over3 q v ∧ Dragonbox.floorLog10Pow2MinusLog10_4Over3 q = v) floorLog10Pow2MinusLog10_4Over3Lo floorLog10Pow2MinusLog10_4Over3TabBias)
      (floorLog10Pow2MinusLog10_4Over3Hi - floorLog10Pow2MinusLog10_4Over3Lo + 1).toNat (floorLog10Pow2MinusLog10_4Over3Hi - floorLog10Pow2MinusLog10_4Over3Lo + 1).toNat floorLog10Pow2MinusLog10_4Over3TabBiased.toList = true := by
  decide +kernel

theorem log10Pow2MinusLog10_4Over3_spec (q : Int) (h1 : floorLog10Pow2MinusLog10_4Over3Lo ≤ q) (h2 : q ≤ floorLog10Pow2MinusLog10_4Over3Hi) :
    IsFloorLog10Pow2MinusLog10_4Over3 q (floorLog10Pow2MinusLog10_4Over3 q) ∧ Dragonbox.floorLog10Pow2MinusLog10_4Over3 q = floorLog10Pow2MinusLog10_4Over3 q := by
  have := vec_spec_to log10Pow2MinusLog10_4Over3_walk q h1 h2
  simpa only [floorLog10Pow2MinusLog10_4Over3, floorLog10Pow2MinusLog10_4Over3TabAt, h1, h2, and_self, if_true] using this

/-! On the exponents of finite floats the products stay far from the `i32` range, so the two formulas that
index the caches are plain floor divisions. -/

theorem floorLog10Pow2_model {q : Int} (h1 : -1700 ≤ q) (h2 : q ≤ 1700) :
    Dragonbox.floorLog10Pow2 q = q * 315653 / 2 ^ 20 := by
  rw [Dragonbox.floorLog10Pow2, DragonboxArith.i32_id (by omega) (by omega)]

theorem floorLog10Pow2MinusLog10_4Over3_model {q : Int} (h1 : -1700 ≤ q) (h2 : q ≤ 1700) :
    Dragonbox.floorLog10Pow2MinusLog10_4Over3 q = (q * 1262611 - 524031) / 2 ^ 22 := by
  rw [Dragonbox.floorLog10Pow2MinusLog10_4Over3, DragonboxArith.i32_id (x := q * 1262611) (by omega) (by omega),
    DragonboxArith.i32_id (by omega) (by omega)]

theorem floorLog10Pow2_closed {q : Int} (h1 : -1700 ≤ q) (h2 : q ≤ 1700) :
    floorLog10Pow2 q = q * 315653 / 2 ^ 20 ∧
    floorLog10Pow2MinusLog10_4Over3 q = (q * 1262611 - 524031) / 2 ^ 22 := by
  rw [← (log10Pow2_spec q h1 h2).2, ← (log10Pow2MinusLog10_4Over3_spec q h1 h2).2]
  exact ⟨floorLog10Pow2_model h1 h2, floorLog10Pow2MinusLog10_4Over3_model h1 h2⟩

end LexVerif.Proof.Tables.Logs
