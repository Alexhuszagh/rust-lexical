import LexVerif.Proof.Tables.SmallRadix
/-!
Small power tables, feature set `compact`. The limits and the integer powers are those of `radix` (the same
`match` arms, so statements about them are definitionally those about `radix`); the float tables are those
of `radix` except for radix 10, which `radix` pads with zeros.
-/
namespace LexVerif.Proof.Tables
open LexVerif.Spec LexVerif.Spec.PowerTables LexVerif.Proof

theorem small_int_pow_compact : SmallSet.CompactRadix.intRadices.all (intPowTableOk SmallSet.CompactRadix) = true :=
  small_int_pow_radix

theorem floatPow_compact_same :
    SmallSet.Radix.radices.all (fun r => r == 10 ||
      ((SmallSet.CompactRadix.f32Pow r).toList == (SmallSet.Radix.f32Pow r).toList &&
       (SmallSet.CompactRadix.f64Pow r).toList == (SmallSet.Radix.f64Pow r).toList)) = true := by
  decide +kernel

theorem floatPowTableOk_compact (f : Fmt) {r : Nat} (hr : r ∈ SmallSet.Radix.radices) (h10 : r ≠ 10) :
    floatPowTableOk SmallSet.CompactRadix f r = floatPowTableOk SmallSet.Radix f r := by
  have h := List.all_eq_true.mp floatPow_compact_same r hr
  simp only [Bool.or_eq_true, Bool.and_eq_true, beq_iff_eq, h10, false_or, Array.toList_inj] at h
  have e : SmallSet.CompactRadix.floatPow f r = SmallSet.Radix.floatPow f r := by
    unfold SmallSet.floatPow
    split
    · exact h.1
    · exact h.2
  unfold floatPowTableOk
  rw [e]
  rfl

theorem small_float_pow_decimal_compact :
    floatPowTableOk SmallSet.CompactRadix f32 10 = true ∧ floatPowTableOk SmallSet.CompactRadix f64 10 = true :=
  ⟨floatPowTableOk_of_eval RoundNE.wf_f32 (by decide +kernel), floatPowTableOk_of_eval RoundNE.wf_f64 (by decide +kernel)⟩

theorem floatPow_compact {f : Fmt} (h : SmallSet.Radix.radices.all (floatPowTableOk SmallSet.Radix f) = true)
    (h10 : floatPowTableOk SmallSet.CompactRadix f 10 = true) :
    SmallSet.CompactRadix.radices.all (floatPowTableOk SmallSet.CompactRadix f) = true := by
  rw [List.all_eq_true]
  intro r hr
  by_cases e : r = 10
  · rw [e]; exact h10
  · rw [floatPowTableOk_compact f hr e]; exact List.all_eq_true.mp h r hr

theorem small_f32_pow_compact : SmallSet.CompactRadix.radices.all (floatPowTableOk SmallSet.CompactRadix f32) = true :=
  floatPow_compact small_f32_pow_radix small_float_pow_decimal_compact.1

theorem small_f64_pow_compact : SmallSet.CompactRadix.radices.all (floatPowTableOk SmallSet.CompactRadix f64) = true :=
  floatPow_compact small_f64_pow_radix small_float_pow_decimal_compact.2

end LexVerif.Proof.Tables
