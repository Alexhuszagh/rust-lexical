import LexVerif.Spec.PowerTables
import LexVerif.Proof.FastLog2
import LexVerif.Proof.Tables.Walk
/-!
# Proof.Tables.Util — how the table theorems are evaluated and restated

A table theorem is checked by the kernel in the form `tableAll p tab = true` /
`radixAll p = true` (one linear pass, indices as literals — indexing with `tab[i]!` is linear per
access for the kernel), then turned into the `∀ i < size` statement by `tableAll_iff`. `tableAll` takes its
indices from `List.range` and is what the row predicates of the string→float tables are written with; it is
`Walk.lean`'s `allIdx` (which carries the index, used on the number→string side) in another spelling.
-/
namespace LexVerif.Proof.Tables

def tableAll {α} (p : Nat → α → Bool) (tab : Array α) : Bool :=
  ((List.range tab.toList.length).zip tab.toList).all fun x => p x.1 x.2

/-- indices of the rows violating `p` (for `#eval` when a table theorem breaks) -/
def tableBad {α} (p : Nat → α → Bool) (tab : Array α) : List Nat :=
  (((List.range tab.toList.length).zip tab.toList).filter fun x => !p x.1 x.2).map (·.1)

def radixList : List Nat := (List.range 37).filter (2 ≤ ·)

def radixAll (p : Nat → Bool) : Bool := radixList.all p
def radixBad (p : Nat → Bool) : List Nat := radixList.filter fun r => !p r

theorem zipRange_all {α : Type} (p : Nat → α → Bool) :
    ∀ (l : List α) (s : Nat), ((List.range' s l.length).zip l).all (fun x => p x.1 x.2) = allIdx p s l
  | [], _ => rfl
  | a :: l, s => by
    simp only [List.length_cons, List.range'_succ, List.zip_cons_cons, List.all_cons, allIdx, zipRange_all p l (s + 1)]

theorem tableAll_eq_allIdx {α : Type} (p : Nat → α → Bool) (tab : Array α) :
    tableAll p tab = allIdx p 0 tab.toList := by
  rw [tableAll, List.range_eq_range', zipRange_all]

theorem tableAll_iff {α : Type} {p : Nat → α → Bool} {tab : Array α} :
    tableAll p tab = true ↔ ∀ i (hi : i < tab.size), p i tab[i] = true := by
  rw [tableAll_eq_allIdx, allIdx_iff]
  simp only [Nat.zero_add, Array.length_toList, Array.getElem_toList]

theorem of_tableAll {α : Type} {p : Nat → α → Bool} {tab : Array α} (h : tableAll p tab = true) :
    ∀ i (hi : i < tab.size), p i tab[i] = true :=
  tableAll_iff.mp h

/-- a table checked in two halves (two modules, in parallel) -/
theorem of_tableAll_split {α : Type} {p : Nat → α → Bool} {tab : Array α} (n : Nat)
    (h1 : tableAll p (tab.toList.take n).toArray = true)
    (h2 : tableAll (fun j => p (n + j)) (tab.toList.drop n).toArray = true) :
    ∀ i (hi : i < tab.size), p i tab[i] = true := by
  rw [tableAll_iff] at h1 h2
  intro i hi
  by_cases hn : i < n
  · have := h1 i (by simp; omega)
    simpa using this
  · have := h2 (i - n) (by simp; omega)
    have e : n + (i - n) = i := by omega
    simpa [e] using this

theorem radixAll_mono {p q : Nat → Bool} (h : ∀ r, p r = true → q r = true) (hp : radixAll p = true) :
    radixAll q = true :=
  List.all_eq_true.mpr fun r hr => h r (List.all_eq_true.mp hp r hr)

theorem of_radixAll {p : Nat → Bool} (h : radixAll p = true) :
    ∀ r, 2 ≤ r → r ≤ 36 → p r = true := by
  intro r h2 h36
  apply (List.all_eq_true.mp h) r
  simp only [radixList, List.mem_filter, List.mem_range, decide_eq_true_eq]
  omega

end LexVerif.Proof.Tables
