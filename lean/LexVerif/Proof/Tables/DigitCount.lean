import LexVerif.Gen.IntTables
import LexVerif.Spec.Tables
import LexVerif.Proof.Tables.Walk
/-!
Digit counting: the row predicates for the `fast_log2` / `fast_log10` / `fast_digit_count` probes (evaluated in
`Props.TablesWrite`), and the `fast_digit_count` table (S) row by row against Lemire's closed form.
-/
namespace LexVerif.Proof.Tables.DigitCount
open LexVerif LexVerif.Spec LexVerif.Spec.Tables LexVerif.Gen.IntTables

/-- the probe arguments are: 0, then for every bit length `j`: `2^j` and `2^(j+1) - 1` -/
def argOk (i x : Nat) : Bool :=
  if i = 0 then x == 0 else if (i - 1) % 2 = 0 then x == 2 ^ ((i - 1) / 2) else x == 2 ^ ((i - 1) / 2 + 1) - 1

/-- `fast_log2(x) = ⌊log₂ (x|1)⌋`; `fast_log10(x) = (fast_log2(x)·1233) >> 12 = ⌊log₁₀ 2^fast_log2(x)⌋` -/
def logOk (_ : Nat) (t : Nat × Nat × Nat) : Bool :=
  t.2.1 == (t.1 ||| 1).log2 && t.2.2 == (t.2.1 * 1233) >>> 12 && decide (IsFloorLog 10 (2 ^ t.2.1) 1 (t.2.2 : Int))

theorem fastDigitCountTable_walk :
    allIdx (fun j v => v == fastDigitCountRow j) 0 fastDigitCountTable.toList = true ∧ fastDigitCountTable.size = 32 := by
  decide +kernel

/-- the row for bit length `j` counts digits correctly at both ends of `[2^j, 2^(j+1))` and on both sides of every
power of ten inside it (the function is monotone in `x`, so these are the only places it can be wrong) -/
def rowSemOk (j t : Nat) : Bool :=
  let lo := if j = 0 then 0 else 2 ^ j
  let hi := 2 ^ (j + 1) - 1
  let d := numDigits 10 lo
  (lo + t) >>> 32 == d && (hi + t) >>> 32 == numDigits 10 hi && numDigits 10 hi ≤ d + 1 &&
  (if numDigits 10 hi == d then true else (10 ^ d - 1 + t) >>> 32 == d && (10 ^ d + t) >>> 32 == d + 1)

/-- R: the compiled `fast_digit_count(x)` is the number of decimal digits on every probe, and agrees with
`(x + TABLE[⌊log₂(x|1)⌋]) >> 32` computed from the S-extracted table -/
def fdcOk (_ : Nat) (t : Nat × Nat) : Bool :=
  t.2 == numDigits 10 t.1 && t.2 == (t.1 + fastDigitCountTableList.getD (t.1 ||| 1).log2 0) >>> 32 && decide (t.1 < 2 ^ 32)

end LexVerif.Proof.Tables.DigitCount
