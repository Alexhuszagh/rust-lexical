import LexVerif.Proof.Tables.SmallEval
/-! Small integer / f32 / f64 power tables, feature set `default`: every entry of every radix. -/
namespace LexVerif.Proof.Tables
open LexVerif.Spec LexVerif.Spec.PowerTables LexVerif.Proof

theorem small_int_pow_default : SmallSet.Default.intRadices.all (intPowTableOk SmallSet.Default) = true := by
  decide +kernel

theorem small_f32_pow_default : SmallSet.Default.radices.all (floatPowTableOk SmallSet.Default f32) = true :=
  floatPow_of_eval RoundNE.wf_f32 (by decide +kernel)

theorem small_f64_pow_default : SmallSet.Default.radices.all (floatPowTableOk SmallSet.Default f64) = true :=
  floatPow_of_eval RoundNE.wf_f64 (by decide +kernel)

end LexVerif.Proof.Tables
