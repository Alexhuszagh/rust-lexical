import LexVerif.Proof.Tables.FloatConstsDefs
/-! `SMALLEST_POWER_OF_TEN` is the tight bound for `f64` and a loose one for `f32` (the condition is stated in `FloatConstsDefs`). -/
namespace LexVerif.Proof.Tables
open LexVerif.Spec LexVerif.Spec.PowerTables LexVerif.Gen

theorem smallest_power_of_ten_tightness :
    (10 ^ 342 ≤ (2 ^ 64 - 1) * 2 ^ 1075) ∧ ¬ (10 ^ 65 ≤ (2 ^ 64 - 1) * 2 ^ 150) := by decide +kernel

end LexVerif.Proof.Tables
