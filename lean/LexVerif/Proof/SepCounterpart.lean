import LexVerif.Props.C12
/-!
# Proof.SepCounterpart — every format has a separator-free counterpart

`clearSep` clears the digit-separator byte (bits 64–71) and the separator flag bits (32–63) of a packed
format and keeps everything else; `plainOf c` is `c` with that format. It is a `PlainClass` format and a `Counterpart`
of `c`, and the documented grammar (`Syn.of`) does not see the difference. With `parseFloatSyntax_same` this transports
every theorem about separator-free formats to all formats on inputs without the separator byte.
-/
namespace LexVerif.Proof.Sep
open LexVerif LexVerif.Model LexVerif.Spec
open LexVerif.Props.C12

def clearSep (f : Format) : Format := ⟨2 ^ 72 * (f.raw / 2 ^ 72) + f.raw % 2 ^ 32⟩

/-- `c` without digit separators, as a release build (what `PlainClass` asks for) -/
def plainOf (c : Cfg) : Cfg := ⟨c.feats, clearSep c.fmt, false⟩

/-! `bit` and `byteAt` read through `Nat.testBit`, where `clearSep` is a statement about single bits -/

theorem bit_eq_testBit (f : Format) (i : Nat) : f.bit i = f.raw.testBit i :=
  Nat.testBit_eq_decide_div_mod_eq.symm

theorem byteAt_testBit (f : Format) (k j : Nat) :
    (f.byteAt k).testBit j = (decide (j < 8) && f.raw.testBit (j + k)) := by
  show (f.raw / 2 ^ k % 2 ^ 8).testBit j = _
  rw [Nat.testBit_mod_two_pow, Nat.testBit_div_two_pow]

theorem clearSep_testBit (f : Format) (j : Nat) :
    (clearSep f).raw.testBit j = ((decide (j < 32) || decide (72 ≤ j)) && f.raw.testBit j) := by
  have hlt : f.raw % 2 ^ 32 < 2 ^ 72 :=
    Nat.lt_of_lt_of_le (Nat.mod_lt _ (Nat.two_pow_pos 32)) (Nat.pow_le_pow_right (by decide) (by decide))
  unfold clearSep
  rw [Nat.testBit_two_pow_mul_add _ hlt, Nat.testBit_mod_two_pow, Nat.testBit_div_two_pow]
  by_cases h : j < 72
  · simp [h, Nat.not_le.mpr h]
  · have h' : 72 ≤ j := Nat.le_of_not_lt h
    have h32 : ¬ j < 32 := by omega
    simp [h, h', h32, Nat.sub_add_cancel h']

theorem clearSep_bit_low (f : Format) (i : Nat) (h : i < 32) : (clearSep f).bit i = f.bit i := by
  simp [bit_eq_testBit, clearSep_testBit, h]

theorem clearSep_bit_sep (f : Format) (i : Nat) (h1 : 32 ≤ i) (h2 : i < 72) : (clearSep f).bit i = false := by
  simp [bit_eq_testBit, clearSep_testBit, Nat.not_lt.mpr h1, Nat.not_le.mpr h2]

theorem clearSep_byteAt_high (f : Format) (k : Nat) (h : 72 ≤ k) : (clearSep f).byteAt k = f.byteAt k := by
  apply Nat.eq_of_testBit_eq
  intro j
  have hk : 72 ≤ j + k := Nat.le_trans h (Nat.le_add_left k j)
  simp [byteAt_testBit, clearSep_testBit, hk]

theorem clearSep_byteAt_sep (f : Format) (k : Nat) (h1 : 32 ≤ k) (h2 : k + 8 ≤ 72) : (clearSep f).byteAt k = 0 := by
  apply Nat.eq_of_testBit_eq
  intro j
  rw [byteAt_testBit, clearSep_testBit, Nat.zero_testBit]
  by_cases hj : j < 8
  · have h1' : ¬ j + k < 32 := by omega
    have h2' : ¬ 72 ≤ j + k := by omega
    simp [h1', h2']
  · simp [hj]

theorem clearSep_exponentBase (f : Format) : (clearSep f).exponentBase = f.exponentBase := by
  unfold Format.exponentBase Format.exponentBaseRaw Format.mantissaRadix
  rw [clearSep_byteAt_high f 112 (by decide), clearSep_byteAt_high f 104 (by decide)]

theorem clearSep_exponentRadix (f : Format) : (clearSep f).exponentRadix = f.exponentRadix := by
  unfold Format.exponentRadix Format.exponentRadixRaw Format.mantissaRadix
  rw [clearSep_byteAt_high f 120 (by decide), clearSep_byteAt_high f 104 (by decide)]

-- every packed field is a `bit` or a `byteAt` at a fixed index, so unfolded it is settled by one of the lemmas above
attribute [local simp] Format.requiredIntegerDigits Format.requiredFractionDigits Format.requiredExponentDigits
  Format.requiredMantissaDigits Format.noPositiveMantissaSign Format.requiredMantissaSign Format.noExponentNotation
  Format.noPositiveExponentSign Format.requiredExponentSign Format.noExponentWithoutFraction Format.noSpecial
  Format.caseSensitiveSpecial Format.noIntegerLeadingZeros Format.noFloatLeadingZeros Format.requiredExponentNotation
  Format.caseSensitiveExponent Format.caseSensitiveBasePrefix Format.caseSensitiveBaseSuffix
  Format.integerInternalSep Format.fractionInternalSep Format.exponentInternalSep Format.integerLeadingSep
  Format.fractionLeadingSep Format.exponentLeadingSep Format.integerTrailingSep Format.fractionTrailingSep
  Format.exponentTrailingSep Format.integerConsecutiveSep Format.fractionConsecutiveSep Format.exponentConsecutiveSep
  Format.specialSep Format.digitSeparator Format.basePrefix Format.baseSuffix Format.mantissaRadix
  clearSep_bit_low clearSep_bit_sep clearSep_byteAt_high clearSep_byteAt_sep clearSep_exponentBase
  clearSep_exponentRadix

theorem clearSep_sepPrefixFree (f : Format) (hp : f.basePrefix = 0) : SepPrefixFree (clearSep f) := by
  unfold Format.basePrefix at hp
  simp (disch := decide) [SepPrefixFree, hp]

theorem plainOf_counterpart (c : Cfg) : Counterpart c (plainOf c) := by
  constructor <;>
    simp (disch := decide) [plainOf, Cfg.requiredIntegerDigits, Cfg.requiredFractionDigits,
      Cfg.requiredExponentDigits, Cfg.requiredMantissaDigits, Cfg.noPositiveMantissaSign, Cfg.requiredMantissaSign,
      Cfg.noExponentNotation, Cfg.noPositiveExponentSign, Cfg.requiredExponentSign, Cfg.noExponentWithoutFraction,
      Cfg.noSpecial, Cfg.caseSensitiveSpecial, Cfg.noFloatLeadingZeros, Cfg.requiredExponentNotation,
      Cfg.caseSensitiveExponent, Cfg.caseSensitiveBasePrefix, Cfg.caseSensitiveBaseSuffix, Cfg.basePrefix,
      Cfg.baseSuffix, Cfg.mantissaRadix, Cfg.exponentBase, Cfg.exponentRadix, Cfg.flag]

theorem plainOf_plain (c : Cfg) (hr : c.feats.powerOfTwo = false → c.mantissaRadix ≤ 10) : PlainClass (plainOf c) := by
  refine ⟨rfl, ?_, ?_, ?_⟩
  · simp (disch := decide) [plainOf, Cfg.digitSeparator]
  · intro k
    cases k <;>
      simp (disch := decide) [plainOf, Cfg.iterContiguous, Cfg.sepFlags, Cfg.specialSep, Cfg.flag, SepFlags.any]
  · intro h
    have := hr h
    simpa (disch := decide) [plainOf, Cfg.mantissaRadix] using this

theorem syn_clearSep (feats : Features) (f : Format) : Syn.of feats (clearSep f) = Syn.of feats f := by
  unfold Syn.of
  simp (disch := decide)

end LexVerif.Proof.Sep
