import LexVerif.Proof.DragonboxExact
import LexVerif.Proof.DragonboxShortest
import LexVerif.Proof.DragonboxMath

/-!
# Proof.DragonboxNormal — `compute_nearest_normal` is `pureBody` of the exact products (`normal_eq_pure`), which meets `PureSpec` (`pure_correct`)
-/
namespace LexVerif.Proof.DragonboxNormal
open LexVerif.Model.Dragonbox LexVerif.Proof.DragonboxBits LexVerif.Proof.DragonboxExp
open LexVerif.Proof.DragonboxExact LexVerif.Proof.DragonboxMath

/-- `compute_nearest_normal`, "Step 3: Find the significand with the smaller divisor" (algorithm.rs), from `dist` on -/
def step3 (t : FTy) (deltai : Nat) (py : Bool × Bool) (significand r : Nat) (E0 : Int) : Nat × Int :=
      let smallDivisor := 10 ^ t.kappa.toNat
      let significand := u64 (significand * 10)
      let dist := u32 (sub32 r (deltai / 2) + smallDivisor / 2)
      let approxYParity : Bool := ((dist ^^^ (smallDivisor / 2)) &&& 1) != 0
      let (dist, isDistDivByKappa) := checkDivPow10 t dist
      let significand := u64 (significand + dist)
      let significand :=
        if isDistDivByKappa then
          let (yiParity, isYInteger) := py
          let roundDown := preferRoundDown significand
          if (yiParity ≠ approxYParity) ∨ (isYInteger ∧ roundDown) then sub64 significand 1 else significand
        else significand
      (significand, i32 E0)

/-- the same steps with the cache multiplications replaced by their (exact) results -/
def pureBody (t : FTy) (q : Nat) (exponent : Int) (E0 : Int) (zi deltai : Nat) (isZInteger : Bool)
    (px py : Bool × Bool) : Nat × Int :=
    let isEven := q % 2 = 0
    let bigDivisor := 10 * 10 ^ t.kappa.toNat
    let significand := zi / bigDivisor
    let r := zi % bigDivisor
    let (significand, r, shortCircuit) : Nat × Nat × Bool :=
      if r < deltai then
        if r = 0 ∧ ¬ isEven ∧ isZInteger then (sub64 significand 1, bigDivisor, false)
        else (significand, r, true)
      else if r > deltai then (significand, r, false)
      else
        if ¬ isEven ∨ exponent < t.fcPmHalfLower ∨ exponent > t.divBy5Threshold then
          let parity := px.1
          (significand, r, parity)
        else
          let (xiParity, xIsInteger) := px
          (significand, r, ¬ (¬ xiParity ∧ ¬ xIsInteger))
    if shortCircuit then
      processTrailingZeros t significand (i32 (i32 E0 + 1))
    else
      step3 t deltai py significand r E0

theorem pow32_big (t : FTy) : pow32 10 (t.kappa.toNat + 1) = 10 * 10 ^ t.kappa.toNat := by cases t <;> decide
theorem pow32_small (t : FTy) : pow32 10 t.kappa.toNat = 10 ^ t.kappa.toNat := by cases t <;> decide

theorem div_big (t : FTy) {zi : Nat} (h : zi < 2 ^ prec t * (10 * 10 ^ t.kappa.toNat)) :
    divideByPow10 t zi (t.kappa.toNat + 1)
      (sub64 (u64 (shl64 1 (t.mantissaSize + 1) * pow32 10 (t.kappa.toNat + 1))) 1)
      = zi / (10 * 10 ^ t.kappa.toNat) := by
  cases t
  · have h' : zi < 2 ^ 24 * 100 := h
    exact LexVerif.Proof.DragonboxArith.divideByPow10_f32 (by omega) _
  · have h' : zi < 2 ^ 53 * 1000 := h
    have e : sub64 (u64 (shl64 1 (FTy.f64.mantissaSize + 1) * pow32 10 (FTy.f64.kappa.toNat + 1))) 1
        = 2 ^ 53 * 1000 - 1 := by decide
    rw [e]
    exact LexVerif.Proof.DragonboxArith.divideByPow10_f64 (by omega)

theorem rem_big {zi B : Nat} (hz : zi < 2 ^ 64) (hB : B < 2 ^ 32) (hB0 : 0 < B) :
    u32 (sub64 zi (u64 (B * (zi / B)))) = zi % B := by
  have h1 : B * (zi / B) ≤ zi := Nat.mul_div_le zi B
  have h2 := Nat.div_add_mod zi B
  have h3 := Nat.mod_lt zi hB0
  rw [DragonboxArith.u64_id (by omega), sub64_eq h1 hz, DragonboxArith.u32_id (by omega)]
  omega

variable {t : FTy} {e : Int} {d : ExpData}

theorem nLo_le {q : Nat} (hq1 : 1 ≤ q) (hqn : e ≠ t.denormalExponent → 2 ^ (prec t - 1) ≤ q) :
    nLo t e ≤ 2 * q - 1 := by
  unfold nLo
  split
  · omega
  · rename_i hne
    have := hqn hne
    have e2 : 2 ^ prec t = 2 * 2 ^ (prec t - 1) := by cases t <;> decide
    omega

theorem setup (F : Facts t e d) {q : Nat} (hq1 : 1 ≤ q) : Setup d.a d.b (10 ^ t.kappa.toNat) q :=
  ⟨F.hpos.2, F.hpos.1, ten_kappa t, F.hdelta.1, F.hdelta.2, hq1⟩

/-- **exact computation** at one significand `q`: what the model computes from the cache entry for the multipliers
`2q+1`, `2`, `2q-1`, `2q` is the floor / parity / integrality of the multiple of `x = a/b` -/
theorem exact_all (F : Facts t e d) {q : Nat} (hq1 : 1 ≤ q) (hq2 : q < 2 ^ prec t)
    (hqn : e ≠ t.denormalExponent → 2 ^ (prec t - 1) ≤ q) :
    computeMul t (shl64 (shl64 q 1 ||| 1) d.beta) d.pow5 = ((2 * q + 1) * d.a / d.b, decide (d.b ∣ (2 * q + 1) * d.a))
    ∧ computeDelta t d.pow5 d.beta = 2 * d.a / d.b
    ∧ computeMulParity t (sub64 (shl64 q 1) 1) d.pow5 d.beta
        = (decide ((2 * q - 1) * d.a / d.b % 2 = 1), decide (d.b ∣ (2 * q - 1) * d.a))
    ∧ (computeMulParity t (shl64 q 1) d.pow5 d.beta).1 = decide (2 * q * d.a / d.b % 2 = 1)
    ∧ ((e, q) ∉ excFloats t → (computeMulParity t (shl64 q 1) d.pow5 d.beta).2 = decide (d.b ∣ 2 * q * d.a)) := by
  have hN : 2 ^ (prec t + 1) = 2 * 2 ^ prec t := by rw [Nat.pow_succ]; omega
  have hlo := nLo_le hq1 hqn
  have h54 : (2 : Nat) ^ (prec t + 1) ≤ 2 ^ 54 := Nat.pow_le_pow_right (by decide) (prec_le t)
  have hβ63 : d.beta ≤ 63 := by have := F.hb.2.1; omega
  have hu : (2 * q + 1) * 2 ^ d.beta < 2 ^ 64 := by
    have a1 : (2 * q + 1) * 2 ^ d.beta < 2 ^ (prec t + 1) * 2 ^ d.beta :=
      Nat.mul_lt_mul_of_pos_right (by omega) (Nat.two_pow_pos _)
    have a2 := F.hb.2.2
    have a3 : (2 : Nat) ^ (t.qb / 2) ≤ 2 ^ 64 := by cases t <;> decide
    omega
  have e1 : shl64 q 1 = 2 * q := shl64_one (by omega)
  have e2 := twoFc_or_one (m := q) hβ63 hu
  have e5 : sub64 (2 * q) 1 = 2 * q - 1 := sub64_one (by omega) (by omega)
  rw [e2, e1, e5]
  refine ⟨mul_exact F (by omega) (by omega) (by omega) (Or.inl (by omega)), delta_exact F,
    parity_exact F (by omega) (by omega) hlo (Or.inl (by omega)),
    parity_exact_fst F (by omega) (by omega), fun hx => ?_⟩
  rw [parity_exact F (n := 2 * q) (by omega) (by omega) (by omega) (Or.inr (by rwa [Nat.mul_div_cancel_left q (by decide : 0 < 2)]))]

theorem normal_eq_pure (F : Facts t e d) {bits q : Nat} (hm : t.mantissa bits = q) (he : t.exponent bits = e)
    (hq1 : 1 ≤ q) (hq2 : q < 2 ^ prec t)
    (hqn : e ≠ t.denormalExponent → 2 ^ (prec t - 1) ≤ q) (hexc : (e, q) ∉ excFloats t) :
    computeNearestNormal t bits
      = some (pureBody t q e (d.minusK + t.kappa) ((2 * q + 1) * d.a / d.b) (2 * d.a / d.b)
          (decide (d.b ∣ (2 * q + 1) * d.a))
          (decide ((2 * q - 1) * d.a / d.b % 2 = 1), decide (d.b ∣ (2 * q - 1) * d.a))
          (decide (2 * q * d.a / d.b % 2 = 1), decide (d.b ∣ 2 * q * d.a))) := by
  obtain ⟨e3, e4, e6, e7a, e7b⟩ := exact_all F hq1 hq2 hqn
  have e7 : computeMulParity t (shl64 q 1) d.pow5 d.beta
      = (decide (2 * q * d.a / d.b % 2 = 1), decide (d.b ∣ 2 * q * d.a)) := Prod.ext e7a (e7b hexc)
  have hzi := zi_bound (setup F hq1) hq2
  have hzi64 : (2 * q + 1) * d.a / d.b < 2 ^ 64 := by
    have : 2 ^ prec t * (10 * 10 ^ t.kappa.toNat) < 2 ^ 64 := by cases t <;> decide
    omega
  have hB32 : 10 * 10 ^ t.kappa.toNat < 2 ^ 32 := by cases t <;> decide
  have hB0 : 0 < 10 * 10 ^ t.kappa.toNat := by cases t <;> decide
  have hdiv := div_big t hzi
  rw [pow32_big] at hdiv
  unfold computeNearestNormal pureBody step3
  simp only [hm, he, ← F.hKm, F.hpow, Option.map_some, F.hbetaM, e3, e4, e6, e7, pow32_big,
    pow32_small, hdiv, rem_big hzi64 hB32 hB0]

theorem check_div (t : FTy) {n : Nat} (h : n ≤ 10 * 10 ^ t.kappa.toNat) :
    checkDivPow10 t n = (n / 10 ^ t.kappa.toNat, decide (n % 10 ^ t.kappa.toNat = 0)) := by
  cases t
  · have h' : n ≤ 100 := h
    exact LexVerif.Proof.DragonboxArith.checkDivPow10_f32 n (List.mem_range.mpr (by omega))
  · have h' : n ≤ 1000 := h
    exact LexVerif.Proof.DragonboxArith.checkDivPow10_f64 n (List.mem_range.mpr (by omega))

theorem xor_and_one (x y : Nat) : (x ^^^ y) &&& 1 = (x + y) % 2 := by
  rw [Nat.and_one_is_mod]
  have h := Nat.xor_mod_two_pow (a := x) (b := y) (n := 1)
  simp only [Nat.pow_one] at h
  rw [h, Nat.add_mod x y 2]
  rcases Nat.mod_two_eq_zero_or_one x with hx | hx <;> rcases Nat.mod_two_eq_zero_or_one y with hy | hy <;>
    rw [hx, hy] <;> rfl

theorem step3_correct {a b q : Nat} (S : Setup a b (10 ^ t.kappa.toNat) q) (s' r' : Nat) (E0 : Int)
    (hz : (2 * q + 1) * a / b = s' * (10 * 10 ^ t.kappa.toNat) + r')
    (h1 : 2 * a / b ≤ r') (h2 : r' ≤ 10 * 10 ^ t.kappa.toNat) (hs : s' < 2 ^ 56) :
    ∃ D, step3 t (2 * a / b) (decide (2 * q * a / b % 2 = 1), decide (b ∣ 2 * q * a)) s' r' E0 = (D, i32 E0)
      ∧ CloseTo a b (10 ^ t.kappa.toNat) q D := by
  obtain ⟨hh, hdist, ca, cb, cc⟩ := small_step S s' r' rfl hz h1 h2
  have hT := S.hT
  generalize hTd : 10 ^ t.kappa.toNat = T at *
  have hr32 : r' < 2 ^ 32 := by rcases hT with rfl | rfl <;> omega
  have e1 : u64 (s' * 10) = s' * 10 := DragonboxArith.u64_id (by omega)
  have e2 : sub32 r' (2 * a / b / 2) = r' - 2 * a / b / 2 := sub32_eq hh hr32
  have e3 : u32 (r' - 2 * a / b / 2 + T / 2) = r' - 2 * a / b / 2 + T / 2 :=
    DragonboxArith.u32_id (by rcases hT with rfl | rfl <;> omega)
  have e4 := check_div t (n := r' - 2 * a / b / 2 + T / 2) (by rw [hTd]; exact hdist)
  rw [hTd] at e4
  have hD64a : s' * 10 + (r' - 2 * a / b / 2 + T / 2) / T < 2 ^ 64 := by
    have : (r' - 2 * a / b / 2 + T / 2) / T ≤ 10 := by
      rcases hT with rfl | rfl <;> omega
    omega
  have e5 : u64 (s' * 10 + (r' - 2 * a / b / 2 + T / 2) / T) = s' * 10 + (r' - 2 * a / b / 2 + T / 2) / T :=
    DragonboxArith.u64_id hD64a
  have hcomm : s' * 10 + (r' - 2 * a / b / 2 + T / 2) / T = 10 * s' + (r' - 2 * a / b / 2 + T / 2) / T := by omega
  -- nothing wraps (`e1` … `e5`); what is left are the three outcomes of `small_step`, told apart by `dist % T` and the parity test
  unfold step3
  simp only [hTd, e1, e2, e3, e4, e5, xor_and_one]
  rw [hcomm] at *
  generalize hD0 : 10 * s' + (r' - 2 * a / b / 2 + T / 2) / T = D0 at *
  have hD64 : D0 < 2 ^ 64 := by omega
  by_cases hdiv : (r' - 2 * a / b / 2 + T / 2) % T = 0
  · simp only [hdiv, decide_true, if_true]
    by_cases hpar : 2 * q * a / b % 2 = (r' - 2 * a / b / 2 + T / 2 + T / 2) % 2
    · obtain ⟨c1, c2⟩ := cc hdiv hpar
      by_cases hcond : (decide (2 * q * a / b % 2 = 1) ≠ ((r' - 2 * a / b / 2 + T / 2 + T / 2) % 2 != 0))
          ∨ (decide (b ∣ 2 * q * a) = true ∧ preferRoundDown D0 = true)
      · rw [if_pos hcond]
        rcases hcond with hne | ⟨hint, _⟩
        · exfalso; apply hne
          rcases Nat.mod_two_eq_zero_or_one (2 * q * a / b) with h0 | h0 <;> rw [h0] at hpar <;>
            rw [h0, ← hpar] <;> decide
        · obtain ⟨d1, d2⟩ := c2 (by simpa using hint)
          exact ⟨D0 - 1, by rw [sub64_one d1 hD64], d2⟩
      · rw [if_neg hcond]; exact ⟨D0, rfl, c1⟩
    · obtain ⟨d1, d2⟩ := cb hdiv hpar
      have hcond : (decide (2 * q * a / b % 2 = 1) ≠ ((r' - 2 * a / b / 2 + T / 2 + T / 2) % 2 != 0))
          ∨ (decide (b ∣ 2 * q * a) = true ∧ preferRoundDown D0 = true) := by
        left
        rcases Nat.mod_two_eq_zero_or_one (2 * q * a / b) with h0 | h0 <;>
          rcases Nat.mod_two_eq_zero_or_one (r' - 2 * a / b / 2 + T / 2 + T / 2) with h1' | h1' <;>
          rw [h0, h1'] at hpar <;> rw [h0, h1'] <;> simp at hpar ⊢
      rw [if_pos hcond]
      exact ⟨D0 - 1, by rw [sub64_one d1 hD64], d2⟩
  · simp only [hdiv, decide_false, Bool.false_eq_true, if_false]
    exact ⟨D0, rfl, ca hdiv⟩

/-- `D·10^(κ+1)` lies in the rounding interval (closed iff the significand is even) -/
def BigCand (a b T q D : Nat) : Prop :=
  1 ≤ D ∧ (2 * q - 1) * a ≤ D * (10 * T) * b ∧ D * (10 * T) * b ≤ (2 * q + 1) * a
    ∧ (q % 2 = 1 → (2 * q - 1) * a < D * (10 * T) * b ∧ D * (10 * T) * b < (2 * q + 1) * a)

/-- what `pureBody` has to return: the multiple of `10^(κ+1)` in the interval (there is at most one) with its trailing
zeros removed, or, when there is none, a nearest multiple of `10^κ` to the centre -/
def PureSpec (t : FTy) (a b q : Nat) (E0 : Int) (out : Nat × Int) : Prop :=
  (∃ s, BigCand a b (10 ^ t.kappa.toNat) q s ∧ (∀ D, BigCand a b (10 ^ t.kappa.toNat) q D → D = s) ∧ s < 2 ^ prec t
      ∧ out = processTrailingZeros t s (i32 (i32 E0 + 1)))
  ∨ (∃ D, (∀ D', ¬ BigCand a b (10 ^ t.kappa.toNat) q D') ∧ CloseTo a b (10 ^ t.kappa.toNat) q D ∧ out = (D, i32 E0))

section spec
variable {a b q : Nat} (S : Setup a b (10 ^ t.kappa.toNat) q)
include S

theorem bigCand_eq {D : Nat} (hD : BigCand a b (10 ^ t.kappa.toNat) q D) :
    D = (2 * q + 1) * a / b / (10 * 10 ^ t.kappa.toNat) := by
  by_contra hne
  rcases big_unique S D hne with h | h
  · exact absurd hD.2.1 (Nat.not_le.mpr h)
  · exact absurd hD.2.2.1 (Nat.not_le.mpr h)

/-- Step 1 succeeded: `s = zi / 10^(κ+1)` is in the interval -/
theorem spec_big (hq2 : q < 2 ^ prec t) (E0 : Int)
    (hc : BigCand a b (10 ^ t.kappa.toNat) q ((2 * q + 1) * a / b / (10 * 10 ^ t.kappa.toNat))) :
    PureSpec t a b q E0
      (processTrailingZeros t ((2 * q + 1) * a / b / (10 * 10 ^ t.kappa.toNat)) (i32 (i32 E0 + 1))) := by
  refine Or.inl ⟨_, hc, fun D => bigCand_eq S, ?_, rfl⟩
  have hzb := zi_bound S hq2
  have hB0 : 0 < 10 * 10 ^ t.kappa.toNat := by have := S.hT; omega
  rw [Nat.div_lt_iff_lt_mul hB0]
  exact hzb

/-- Step 1 failed: no multiple of `10^(κ+1)` is in the interval, and Step 3 is entered with `zi = s'·10^(κ+1) + r'` -/
theorem spec_small (E0 : Int)
    (hn : ¬ BigCand a b (10 ^ t.kappa.toNat) q ((2 * q + 1) * a / b / (10 * 10 ^ t.kappa.toNat))) (s' r' : Nat)
    (hz : (2 * q + 1) * a / b = s' * (10 * 10 ^ t.kappa.toNat) + r')
    (h1 : 2 * a / b ≤ r') (h2 : r' ≤ 10 * 10 ^ t.kappa.toNat) (hs : s' < 2 ^ 56) :
    PureSpec t a b q E0
      (step3 t (2 * a / b) (decide (2 * q * a / b % 2 = 1), decide (b ∣ 2 * q * a)) s' r' E0) := by
  obtain ⟨D, hD, hC⟩ := step3_correct S s' r' E0 hz h1 h2 hs
  exact Or.inr ⟨D, fun D' hD' => hn (bigCand_eq S hD' ▸ hD'), hC, hD⟩

theorem pure_correct (e E0 : Int) (hq2 : q < 2 ^ prec t)
    (hwin : (e < t.fcPmHalfLower ∨ e > t.divBy5Threshold) → ¬ b ∣ (2 * q - 1) * a) :
    PureSpec t a b q E0
      (pureBody t q e E0 ((2 * q + 1) * a / b) (2 * a / b) (decide (b ∣ (2 * q + 1) * a))
        (decide ((2 * q - 1) * a / b % 2 = 1), decide (b ∣ (2 * q - 1) * a))
        (decide (2 * q * a / b % 2 = 1), decide (b ∣ 2 * q * a))) := by
  have hzb := zi_bound S hq2
  obtain ⟨hδ1, hδ2⟩ := delta_bounds S
  have hT := S.hT
  have hp56 : 2 ^ prec t * (10 * 10 ^ t.kappa.toNat) < 2 ^ 56 * (10 * 10 ^ t.kappa.toNat) := by cases t <;> decide
  have hbig := spec_big S hq2 E0
  have hsmall := spec_small S E0
  have hlt := @big_lt _ _ _ _ S
  have hgt := @big_gt _ _ _ _ S
  have heq := @big_eq _ _ _ _ S
  clear S
  unfold pureBody
  generalize 10 ^ t.kappa.toNat = T at *
  have hB0 : 0 < 10 * T := by omega
  have hdm := Nat.div_add_mod ((2 * q + 1) * a / b) (10 * T)
  rw [Nat.mul_comm (10 * T)] at hdm
  have hrB := Nat.mod_lt ((2 * q + 1) * a / b) hB0
  have hs56 : (2 * q + 1) * a / b / (10 * T) < 2 ^ 56 := by
    rw [Nat.div_lt_iff_lt_mul hB0]; omega
  -- Step 3 entered with the quotient and remainder of `zi` as they are
  have hstep := fun hn => hsmall hn _ _ hdm.symm
  by_cases c1 : (2 * q + 1) * a / b % (10 * T) < 2 * a / b
  · -- `r < δ`: `s·10^(κ+1) ∈ (X, Z]`
    obtain ⟨hs1, hlo, hhi, hend⟩ := hlt c1
    simp only [c1, if_true]
    by_cases c2 : (2 * q + 1) * a / b % (10 * T) = 0 ∧ ¬ q % 2 = 0 ∧ decide (b ∣ (2 * q + 1) * a) = true
    · -- it is the right end point `Z` and that is excluded: Step 3 with `(s − 1, 10^(κ+1))`
      simp only [c2, not_false_eq_true, and_self, if_true]
      rw [sub64_one hs1 (by omega)]
      refine hsmall (fun hc => ?_) _ _ ?_ (by omega) (by omega) (by omega)
      · have := (hc.2.2.2 (by omega)).2
        have := hend.mpr ⟨c2.1, by simpa using c2.2.2⟩
        omega
      · have := c2.1
        generalize (2 * q + 1) * a / b / (10 * T) = s at *
        have : (s - 1) * (10 * T) = s * (10 * T) - 10 * T := by rw [Nat.sub_mul, Nat.one_mul]
        have : 1 * (10 * T) ≤ s * (10 * T) := Nat.mul_le_mul_right _ hs1
        omega
    · simp only [c2, if_false]
      refine hbig ⟨hs1, Nat.le_of_lt hlo, hhi, fun hodd => ⟨hlo, Nat.lt_of_le_of_ne hhi fun he => ?_⟩⟩
      obtain ⟨h0, hdv⟩ := hend.mp he
      exact c2 ⟨h0, by omega, by simpa using hdv⟩
  · simp only [c1, if_false]
    by_cases c3 : (2 * q + 1) * a / b % (10 * T) > 2 * a / b
    · -- `r > δ`: `s·10^(κ+1) < X`
      simp only [c3, if_true]
      exact hstep (fun hc => absurd hc.2.1 (Nat.not_le.mpr (hgt c3))) (by omega) (by omega) hs56
    · -- `r = δ`: `s·10^(κ+1)` is `⌊X⌋` or `⌊X⌋ + 1`, told apart by the parity of `⌊X⌋`; in the first case it is in the
      -- interval iff `X` is an integer and the interval is closed
      obtain ⟨hs1, hhi, hodd, heven⟩ := heq (by omega)
      simp only [c3, if_false]
      by_cases hx : (2 * q - 1) * a / b % 2 = 1
      · have hc : BigCand a b T q ((2 * q + 1) * a / b / (10 * T)) :=
          ⟨hs1, Nat.le_of_lt (hodd hx), Nat.le_of_lt hhi, fun _ => ⟨hodd hx, hhi⟩⟩
        simp only [hx, decide_true, not_true_eq_false, false_and, not_false_eq_true, ite_self, if_true]
        exact hbig hc
      · obtain ⟨hle, hiff⟩ := heven (by omega)
        by_cases cw : ¬ q % 2 = 0 ∨ e < t.fcPmHalfLower ∨ e > t.divBy5Threshold
        · simp only [cw, if_true, hx, decide_false, Bool.false_eq_true, if_false]
          refine hstep (fun hc => ?_) (by omega) (by omega) hs56
          rcases cw with hq | hw
          · have := (hc.2.2.2 (by omega)).1; omega
          · have : (2 * q + 1) * a / b / (10 * T) * (10 * T) * b ≠ (2 * q - 1) * a :=
              fun he => hwin hw (hiff.mp he)
            have := hc.2.1
            omega
        · by_cases hxi : b ∣ (2 * q - 1) * a
          · simp only [cw, if_false, hx, hxi, decide_false, decide_true, Bool.false_eq_true, not_false_eq_true,
              not_true_eq_false, and_false, if_true]
            exact hbig ⟨hs1, Nat.le_of_eq (hiff.mpr hxi).symm, Nat.le_of_lt hhi, fun ho => by omega⟩
          · simp only [cw, if_false, hx, hxi, decide_false, Bool.false_eq_true, not_false_eq_true, and_self,
              not_true_eq_false, if_false]
            refine hstep (fun hc => ?_) (by omega) (by omega) hs56
            have : (2 * q + 1) * a / b / (10 * T) * (10 * T) * b ≠ (2 * q - 1) * a := fun he => hxi (hiff.mp he)
            have := hc.2.1
            omega

end spec

end LexVerif.Proof.DragonboxNormal
