import LexVerif.Proof.WriteRadixError
import LexVerif.Proof.WriteRadixRound
import Mathlib.Tactic.Ring
/-!
# Proof.WriteRadixMid — the ulp clause for floats with `1 ≤ x < 2^p`

Shared by both ranges below `2^p`: `delta` is half a spacing (`deltaOf_ival`); what `genFraction` returns, as a number
(`genFraction_value`); `generate_dist`: whatever bounds the trace's error and the final `delta` by `C` spacings bounds the
distance of the printed digits by `2·C` patterns. The ranges differ only in how they bound the three. `RadixFmt` collects
what the three ranges use of the format.

For `1 ≤ x < 2^p` the integer part is exact, `delta` doubles per step so at most `p` fraction digits are written, and the
absolute error `B` of a step is at most 16 spacings of `x`, the steps sum to at most 8: the digits are within 16.5
spacings of `x`.

Also here: `generate_digitBytes` (the bytes between the cursors are digits of the radix: read off `genFraction_value`);
`PositionalFits` and `layoutAll`, the exclusion under which the text is laid out from all generated digits
(`layoutText_all`).
-/
namespace LexVerif.Proof.WriteRadixMid
open LexVerif.Spec LexVerif.Model LexVerif.Proof.RoundNE LexVerif.Proof.WriteRadixF LexVerif.Proof.WriteRadixTerm
open LexVerif.Proof.WriteRadixInteger LexVerif.Proof.WriteRadixError LexVerif.Proof.WriteRadixFrac
open LexVerif.Proof.WriteRadixRound LexVerif.Proof.WriteRadixSpacing LexVerif.Model.WriteRadix
open LexVerif.Model.WriteInt (Res)

theorem one_eq {f : Fmt} (h : FOK f) : one f = f.bias * 2 ^ (f.p - 1) := by
  apply ival_inj f
  have := ival_pow_two h.wf 0
  rw [Nat.add_zero, Nat.pow_zero, Nat.one_mul] at this
  rw [(one_ival h).1, this]

theorem deltaOf_ival {f : Fmt} (h : FOK f) {v : Nat} (hv : v + 1 < f.infBits) :
    1 ≤ RoundNE.ival f (deltaOf f v) ∧ RoundNE.ival f (deltaOf f v) ≤ spacing f v ∧
      (2 * 2 ^ (f.p - 1) ≤ v → 2 * RoundNE.ival f (deltaOf f v) = spacing f v) := by
  have hu := unit_pos f
  have h1 := RoundNE.ival_one_pattern f
  obtain ⟨hc, hcle⟩ := fsub_succ h hv
  have hne : v ≠ maxFinite f := by unfold maxFinite; omega
  unfold deltaOf
  dsimp only
  rw [if_neg hne]
  generalize fsub f (v + 1) v = c at *
  have hcf : c < f.infBits := by omega
  refine ⟨?_, ?_, fun hv2 => ?_⟩
  · split
    · rw [← h1]; exact ival_mono f (by omega)
    · exact Nat.le_of_eq h1.symm
  · have hd : fmul f (half f) c ≤ c := by
      have e : fmul f (one f) c = c := by
        rw [fmul_eq, (one_ival h).1]
        exact roundNE_of_ival h.wf hcf (Nat.mul_pos hu hu) (by rw [unit_eq]; ring)
      exact Nat.le_trans (fmul_mono h.wf (Nat.le_of_lt (half_ival h).2) (Nat.le_refl _)) (Nat.le_of_eq e)
    split
    · rw [← hc]; exact ival_mono f hd
    · rw [h1]; exact Nat.two_pow_pos _
  · -- from pattern `2^p` up the spacing `2·2^k` is even, so its half is a pattern (`c2`) and `half · c` is exact
    obtain ⟨k, hk⟩ : ∃ k, v / 2 ^ (f.p - 1) - 1 = k + 1 :=
      ⟨v / 2 ^ (f.p - 1) - 2, by have := (Nat.le_div_iff_mul_le (Nat.two_pow_pos (f.p - 1))).mpr hv2; omega⟩
    have hsp : spacing f v = 2 * 2 ^ k := by unfold spacing; rw [hk, Nat.pow_succ, Nat.mul_comm]
    rw [hsp] at hc ⊢
    obtain ⟨c2, hc2⟩ := exists_pattern f k 1 (by have := Nat.two_pow_pos (f.p - 1); omega)
    rw [Nat.one_mul] at hc2
    have hc2f : c2 < f.infBits := by
      have : c2 ≤ c := le_of_ival_le f (by rw [hc, hc2]; omega)
      omega
    have hd : fmul f (half f) c = c2 := by
      rw [fmul_eq, hc]
      apply roundNE_of_ival h.wf hc2f (Nat.mul_pos hu hu)
      rw [hc2, ← unit_eq]
      apply Nat.eq_of_mul_eq_mul_left (show 0 < 2 by decide)
      calc 2 * (RoundNE.ival f (half f) * (2 * 2 ^ k) * unit f)
          = (2 * RoundNE.ival f (half f)) * (2 * 2 ^ k) * unit f := by ring
        _ = 2 * (2 ^ k * (unit f * unit f)) := by rw [(half_ival h).1]; ring
    rw [hd]
    split
    · rw [hc2]
    · have h0 : c2 ≠ 0 := by
        intro h0; rw [h0, ival_zero] at hc2
        have := Nat.two_pow_pos k; omega
      rw [← show c2 = 1 by omega, hc2]

/-- digit VALUE of a byte of the scratch buffer (`0-9`, `A-Z`) -/
def byteDigit (c : Nat) : Nat := if c < 58 then c - 48 else c - 55

theorem byteDigit_digitChar {d : Nat} (hd : d < 36) : byteDigit (digitChar d) = d := by
  unfold byteDigit digitChar
  split <;> split <;> omega

theorem vals_chars {r : Nat} (hr36 : r ≤ 36) : ∀ (ds : List Nat), (∀ d ∈ ds, d < r) →
    (ds.map (digitToCharConst · r)).map byteDigit = ds
  | [], _ => rfl
  | d :: t, h => by
    have hd : d < r := h d (by simp)
    simp only [List.map_cons]
    rw [digitToCharConst_eq hd hr36, byteDigit_digitChar (by omega), vals_chars hr36 t (fun x hx => h x (by simp [hx]))]

theorem charToDigitConst_char {d r : Nat} (hd : d < r) (hr36 : r ≤ 36) :
    charToDigitConst (digitToCharConst d r) r = some d := by
  unfold charToDigitConst
  rw [digitToCharConst_eq hd hr36, charToValidDigitConst_digitChar hd hr36]
  simp [hd]

/-- **numeric value of the round-up back-trace** (`rv`: digit values, last digit first): it adds one unit in the last
place (dropping the trailing largest digits), or reports the carry into the integer when all digits were largest -/
theorem backtrace_value {r : Nat} (hr36 : r ≤ 36) : ∀ (rv g : List Nat), (∀ d ∈ rv, d < r) →
    ∃ rv' : List Nat, (backtrace true r (rv.map (digitToCharConst · r)) g).1 = rv'.map (digitToCharConst · r) ∧
      (∀ d ∈ rv', d < r) ∧ rv'.length ≤ rv.length ∧
      (backtrace true r (rv.map (digitToCharConst · r)) g).2.2.toNat * r ^ rv.length
        + ofDigits r rv'.reverse * r ^ (rv.length - rv'.length) = ofDigits r rv.reverse + 1
  | [], g, _ => ⟨[], by simp [backtrace], by simp, by simp, by simp [backtrace, ofDigits]⟩
  | d :: t, g, h => by
    have hd : d < r := h d (by simp)
    have ht : ∀ x ∈ t, x < r := fun x hx => h x (by simp [hx])
    have hb : backtrace true r ((d :: t).map (digitToCharConst · r)) g
        = if d + 1 < r then (digitToCharConst (d + 1) r :: t.map (digitToCharConst · r), g, false)
          else backtrace true r (t.map (digitToCharConst · r)) (digitToCharConst d r :: g) := by
      rw [List.map_cons, backtrace, charToDigitConst_char hd hr36]
      simp
    rw [hb]
    by_cases hd1 : d + 1 < r
    · rw [if_pos hd1]
      refine ⟨(d + 1) :: t, by simp, ?_, by simp, ?_⟩
      · intro x hx
        rcases List.mem_cons.mp hx with rfl | hx
        · exact hd1
        · exact ht x hx
      · simp only [List.reverse_cons, ofDigits_snoc, List.length_cons, Nat.sub_self, Nat.pow_zero, Nat.mul_one,
          Bool.toNat_false, Nat.zero_mul, Nat.zero_add]
        omega
    · rw [if_neg hd1]
      obtain ⟨rv', e1, e2, e3, e4⟩ := backtrace_value hr36 t (digitToCharConst d r :: g) ht
      refine ⟨rv', e1, e2, by simp; omega, ?_⟩
      simp only [List.reverse_cons, ofDigits_snoc, List.length_cons]
      rw [show t.length + 1 - rv'.length = (t.length - rv'.length) + 1 by omega, Nat.pow_succ, Nat.pow_succ,
        ← Nat.mul_assoc, ← Nat.mul_assoc, ← Nat.add_mul, e4, show d = r - 1 by omega]
      have : r - 1 + 1 = r := by omega
      calc (ofDigits r t.reverse + 1) * r = ofDigits r t.reverse * r + (r - 1 + 1) := by rw [this]; ring
        _ = _ := by ring

theorem lt_of_one_lt_fadd {f : Fmt} (h : FOK f) {a b : Nat} (hlt : one f < fadd f a b) :
    unit f < RoundNE.ival f a + RoundNE.ival f b := by
  have hu := unit_pos f
  apply Nat.lt_of_not_le; intro hle
  have : fadd f a b ≤ one f := by
    rw [← roundNE_of_ival h.wf (one_ival h).2 hu (show unit f * 2 ^ L f = _ by rw [(one_ival h).1, unit_eq])]
    rw [fadd_eq]
    exact roundNE_mono' h.wf hu hu (Nat.mul_le_mul_right _ hle)
  omega

/-- **the fraction digits as a number.** For some `N` — the first iteration at which an exit test succeeds, `delta` was
below 1 until then; `N = 0` if nothing is written (`fraction ≤ delta`) — the bytes are digits `fv` (and a carry) whose
value `V/r^N` has `V` = the integer of the `N`-digit trace (exit `delta ≥ fraction`) or that integer plus one (round-up). -/
theorem genFraction_value {f : Fmt} (h : FOK f) {r : Nat} (hr36 : r ≤ 36) (hrp : r < 2 * 2 ^ (f.p - 1))
    (hpo : PredOne f r) {v : Nat} (hvfin : v < f.infBits) {fr : List Nat × List Nat × Bool}
    (hfr : genFraction true f r v = .ok fr) :
    ∃ N fv, N ≤ halfSize ∧ (∀ i, i < N → deltaIter f r i (deltaOf f v) < one f) ∧
      (0 < N → deltaOf f v < fsub f v (ffloor f v)) ∧ (N = 0 → fr.2.2 = false) ∧
      fr.1 = fv.map (digitToCharConst · r) ∧ (∀ d ∈ fv, d < r) ∧ fv.length ≤ N ∧
      (fr.2.2.toNat * r ^ N + ofDigits r fv * r ^ (N - fv.length)
            = ofDigits r (fracIter f r N (fsub f v (ffloor f v))).1 ∧
          RoundNE.ival f (fracIter f r N (fsub f v (ffloor f v))).2 ≤ RoundNE.ival f (deltaIter f r N (deltaOf f v)) ∨
       fr.2.2.toNat * r ^ N + ofDigits r fv * r ^ (N - fv.length)
            = ofDigits r (fracIter f r N (fsub f v (ffloor f v))).1 + 1 ∧
          unit f < RoundNE.ival f (fracIter f r N (fsub f v (ffloor f v))).2
            + RoundNE.ival f (deltaIter f r N (deltaOf f v))) := by
  have hx1 : fsub f v (ffloor f v) < one f := by
    rw [lt_one_iff h, fsub_ffloor_exact h.wf hvfin]; exact Nat.mod_lt _ (unit_pos f)
  rcases genFraction_eq_ok hfr with ⟨hle, rfl⟩ | ⟨hgt, out, hl, rfl⟩
  · exact ⟨0, [], Nat.zero_le _, fun i hi => absurd hi (Nat.not_lt_zero i), fun h0 => absurd h0 (Nat.lt_irrefl 0),
      fun _ => rfl, rfl, by simp, by simp, Or.inl ⟨by simp [fracIter, ofDigits],
        by simpa [fracIter, deltaIter] using ival_mono f (Nat.le_of_not_lt hle)⟩⟩
  · generalize fsub f v (ffloor f v) = x at *
    obtain ⟨N, hN1, hNf, hnoexit, hcase⟩ := fracLoop_run true f r halfSize x _ [] out hl
    have hlen := (fracIter_err h hr36 hrp N _ (Nat.le_of_lt hx1)).1
    have hdig := (fracIter_lt h hr36 hrp hpo N x hx1).1
    have hdlt : ∀ i, i < N → deltaIter f r i (deltaOf f v) < one f := by
      intro i hi
      by_cases hi0 : i = 0
      · subst hi0; exact Nat.lt_trans hgt hx1
      · exact Nat.lt_trans (hnoexit i (by omega) hi) (fracIter_lt h hr36 hrp hpo i x hx1).2
    generalize htd : (fracIter f r N x).1 = td at *
    rw [List.append_nil] at hcase
    rcases hcase with ⟨rfl, hle⟩ | ⟨rfl, hlt⟩
    · refine ⟨N, td, hNf, hdlt, fun _ => hgt, fun h0 => by omega, by simp, hdig, by omega, Or.inl ⟨?_, ival_mono f hle⟩⟩
      simp [hlen, htd]
    · obtain ⟨rv', b1, b2, b3, b4⟩ := backtrace_value hr36 td.reverse []
        (fun d hd => hdig d (List.mem_reverse.mp hd))
      rw [List.length_reverse, hlen] at b3 b4
      rw [List.reverse_reverse, List.map_reverse] at b4
      rw [List.map_reverse] at b1
      refine ⟨N, rv'.reverse, hNf, hdlt, fun _ => hgt, fun h0 => by omega, by dsimp only; rw [b1, List.map_reverse],
        fun d hd => b2 d (List.mem_reverse.mp hd), by simpa using b3,
        Or.inr ⟨by rw [List.length_reverse, htd]; exact b4, lt_of_one_lt_fadd h hlt⟩⟩

/-- **all bytes of the scratch buffer between the cursors are digits of the radix** (repaired back-trace): the integer
bytes always are, the fraction bytes are the characters of the digit values of `genFraction_value` -/
theorem generate_digitBytes {f : Fmt} (h : FOK f) {r : Nat} (hr : 2 ≤ r) (hr36 : r ≤ 36)
    (hrp : r < 2 * 2 ^ (f.p - 1)) (hB : f.bias + 2 ≤ halfSize) (hpo : PredOne f r) {bits : Nat} (hb : bits < f.infBits)
    {g : Gen} (hg : generate true f r bits = .ok g) :
    (∀ c ∈ g.ints ++ g.fracs, WriteRadixWF.DigitByte r c) ∧ g.ints ≠ [] := by
  obtain ⟨hints, hne⟩ := generate_ints h hr hr36 hrp hB hg
  obtain ⟨fr, ints, hfr, _, rfl⟩ := generate_eq_ok hg
  obtain ⟨_, fv, _, _, _, _, hf1, hf2, _⟩ := genFraction_value h hr36 hrp hpo hb hfr
  refine ⟨fun c hc => ?_, hne⟩
  rcases List.mem_append.mp hc with hc | hc
  · exact hints c hc
  · rw [show (Gen.mk ints fr.1 fr.2.1).fracs = fr.1 from rfl, hf1] at hc
    obtain ⟨d, hd, rfl⟩ := List.mem_map.mp hc
    exact ⟨d, hf2 d hd, digitToCharConst_eq (hf2 d hd) hr36⟩

theorem byteDigit_toDigits {r : Nat} (hr : 2 ≤ r) (hr36 : r ≤ 36) (n : Nat) :
    ((toDigits r n).map digitChar).map byteDigit = toDigits r n := by
  rw [List.map_map]
  conv => rhs; rw [← List.map_id (toDigits r n)]
  exact List.map_congr_left fun d hd =>
    byteDigit_digitChar (Nat.lt_of_lt_of_le (toDigits_digit_lt r n hr d hd) hr36)

theorem digits_value {r : Nat} (hr : 2 ≤ r) (hr36 : r ≤ 36) (n : Nat) (fv : List Nat) (hfv : ∀ d ∈ fv, d < r) :
    ofDigits r (((toDigits r n).map digitChar ++ fv.map (digitToCharConst · r)).map byteDigit)
      = n * r ^ fv.length + ofDigits r fv := by
  rw [List.map_append, byteDigit_toDigits hr hr36, vals_chars hr36 fv hfv, ofDigits_append_pow,
    ofDigits_toDigits r n hr]

theorem ulpDist_digits {f : Fmt} (hf : WF f) {r : Nat} (hr : 2 ≤ r) (hr36 : r ≤ 36) {v n N a b : Nat} {fv : List Nat}
    (hfv : ∀ d ∈ fv, d < r) (hlen : fv.length ≤ N) (hvfin : v < f.infBits) (hbT : 2 * b ≤ 2 ^ (f.p - 1))
    (hup : (n * r ^ N + ofDigits r fv * r ^ (N - fv.length)) * unit f ≤ (RoundNE.ival f v + a * spacing f v) * r ^ N)
    (hlo : RoundNE.ival f v * r ^ N
      ≤ (n * r ^ N + ofDigits r fv * r ^ (N - fv.length)) * unit f + b * spacing f v * r ^ N) :
    ulpDist (roundNE f (ofDigits r (((toDigits r n).map digitChar ++ fv.map (digitToCharConst · r)).map byteDigit))
      (r ^ (fv.map (digitToCharConst · r)).length)) v ≤ max a (2 * b) := by
  have hr0 : 0 < r := by omega
  have hpow : r ^ N = r ^ (N - fv.length) * r ^ fv.length := by rw [← Nat.pow_add]; congr 1; omega
  have hscale : roundNE f (n * r ^ fv.length + ofDigits r fv) (r ^ fv.length)
      = roundNE f (n * r ^ N + ofDigits r fv * r ^ (N - fv.length)) (r ^ N) := by
    rw [← roundNE_scale' hf (Nat.pow_pos hr0 : 0 < r ^ (N - fv.length)) _ (Nat.pow_pos hr0)]
    congr 1
    · rw [hpow]; ring
    · rw [hpow]
  rw [digits_value hr hr36 n fv hfv, List.length_map, hscale]
  apply pattern_dist hf (Nat.pow_pos hr0) hvfin hbT
  · exact hup
  · exact hlo

theorem fadd_one_ofNat {f : Fmt} (h : FOK f) {n : Nat} (hn : n + 1 < 2 * 2 ^ (f.p - 1)) :
    fadd f (ofNat f n) (one f) = ofNat f (n + 1) := by
  obtain ⟨hv, hfin⟩ := ofNat_ival h hn
  rw [fadd_eq, (ofNat_ival h (show n < 2 * 2 ^ (f.p - 1) by omega)).1, (one_ival h).1]
  apply roundNE_of_ival h.wf hfin (unit_pos f)
  rw [hv, unit_eq]; ring

theorem carry_ofNat {f : Fmt} (h : FOK f) {n : Nat} (c : Bool) (hn : n + c.toNat < 2 * 2 ^ (f.p - 1)) :
    (if c = true then fadd f (ofNat f n) (one f) else ofNat f n) = ofNat f (n + c.toNat) := by
  cases c
  · rw [if_neg Bool.false_ne_true, Bool.toNat_false, Nat.add_zero]
  · rw [if_pos rfl]
    exact fadd_one_ofNat h hn

theorem geom_double {r : Nat} (hr : 3 ≤ r) : ∀ n, 2 * geom r n + 1 ≤ r ^ n
  | 0 => by simp [geom]
  | n + 1 => by
    have ih := geom_double hr n
    rw [show geom r (n + 1) = r ^ n + geom r n from rfl, Nat.pow_succ]
    have : r ^ n * 3 ≤ r ^ n * r := Nat.mul_le_mul_left _ hr
    omega

theorem int_lt_T {f : Fmt} (v : Nat) (hx0 : RoundNE.ival f v % unit f ≠ 0) :
    RoundNE.ival f v / unit f < 2 ^ (f.p - 1) := by
  obtain ⟨k, q, hq, hq2⟩ := ival_decomp f v
  have hk : k < L f := by
    apply Nat.lt_of_not_le; intro hk
    apply hx0
    rw [hq, unit_eq]
    exact Nat.mod_eq_zero_of_dvd (Nat.dvd_trans (Nat.pow_dvd_pow 2 hk) ⟨q, Nat.mul_comm _ _⟩)
  rw [Nat.div_lt_iff_lt_mul (unit_pos f), hq, unit_eq]
  have hL : 2 ^ L f = 2 * 2 ^ (L f - 1) := by
    rw [show L f = (L f - 1) + 1 by omega, Nat.pow_succ]; simp; ring
  have : 2 ^ k ≤ 2 ^ (L f - 1) := Nat.pow_le_pow_right (by decide) (by omega)
  calc q * 2 ^ k ≤ q * 2 ^ (L f - 1) := Nat.mul_le_mul_left _ this
    _ < 2 * 2 ^ (f.p - 1) * 2 ^ (L f - 1) := Nat.mul_lt_mul_of_pos_right hq2 (Nat.two_pow_pos _)
    _ = 2 ^ (f.p - 1) * 2 ^ L f := by rw [hL]; ring

/-- the digits `n . d₁…d_N` (`V`: the trace `Dt`, or `Dt + 1` after the round-up) are within the trace's error `E` plus
the exit residual `dN` of the float `n·1.0 + x0` -/
theorem frac_exit {U n x0 R E Dt xN dN V C : Nat} (e1 : Dt * U + xN ≤ x0 * R + E) (e2 : x0 * R ≤ Dt * U + xN + E)
    (hV : V = Dt ∧ xN ≤ dN ∨ V = Dt + 1 ∧ U < xN + dN) (hx1 : xN < U) (hC : E + dN ≤ C) :
    (n * R + V) * U ≤ (n * U + x0) * R + C ∧ (n * U + x0) * R ≤ (n * R + V) * U + C := by
  rw [show (n * U + x0) * R = n * U * R + x0 * R by ring]
  rcases hV with ⟨rfl, hx⟩ | ⟨rfl, hx⟩
  · rw [show (n * R + V) * U = n * U * R + V * U by ring]
    omega
  · rw [show (n * R + (Dt + 1)) * U = n * U * R + Dt * U + U by ring]
    omega

theorem generate_dist {f : Fmt} (h : FOK f) (hT : 36 ≤ 2 ^ (f.p - 1)) (hpH : f.p ≤ halfSize) {r : Nat} (hr2 : 2 ≤ r)
    (hr36 : r ≤ 36) (hpo : PredOne f r) {v : Nat} (hv2 : v < (f.bias + f.p) * 2 ^ (f.p - 1)) {g : Gen}
    (hg : generate true f r v = .ok g) :
    ∃ N n', N ≤ halfSize ∧ (∀ i, i < N → deltaIter f r i (deltaOf f v) < one f) ∧
      (0 < N → deltaOf f v < fsub f v (ffloor f v)) ∧
      n' < 2 * 2 ^ (f.p - 1) ∧ g.ints = (toDigits r n').map digitChar ∧ g.fracs.length ≤ N ∧
      ∀ C, traceErr f r N (fsub f v (ffloor f v)) + RoundNE.ival f (deltaIter f r N (deltaOf f v))
          ≤ C * (spacing f v * r ^ N) → 2 * C ≤ 2 ^ (f.p - 1) →
        ulpDist (roundNE f (ofDigits r ((g.ints ++ g.fracs).map byteDigit)) (r ^ g.fracs.length)) v ≤ 2 * C := by
  have hu := unit_pos f
  have hrp : r < 2 * 2 ^ (f.p - 1) := by omega
  have hvfin := lt_two_pow_p_finite h hv2
  have hn2T : RoundNE.ival f v / unit f < 2 * 2 ^ (f.p - 1) := by
    rw [Nat.div_lt_iff_lt_mul hu, ← ival_two_pow_p h]; exact ival_strictMono f hv2
  have hfloor : ffloor f v = ofNat f (RoundNE.ival f v / unit f) := by
    apply ival_inj f
    rw [(ffloor_exact h.wf hvfin).1, (ofNat_ival h hn2T).1]
  have hxv := fsub_ffloor_exact h.wf hvfin
  obtain ⟨fr, ints, hfr, hi, rfl⟩ := generate_eq_ok hg
  obtain ⟨N, fv, hNf, hdlt, hgt, hN0, hf1, hf2, hf3, hV⟩ := genFraction_value h hr36 hrp hpo hvfin hfr
  have hx1 : fsub f v (ffloor f v) < one f := by rw [lt_one_iff h, hxv]; exact Nat.mod_lt _ hu
  have hxN1 := (lt_one_iff h).mp (fracIter_lt h hr36 hrp hpo N _ hx1).2
  have hcarry : RoundNE.ival f v / unit f + fr.2.2.toNat < 2 * 2 ^ (f.p - 1) := by
    rcases hc : fr.2.2 with _ | _
    · exact hn2T
    · have hNpos : 0 < N := Nat.pos_of_ne_zero fun h0 => by rw [hN0 h0] at hc; cases hc
      have := ival_strictMono f (hgt hNpos)
      rw [hxv] at this
      have := int_lt_T (f := f) v (by omega)
      show _ + 1 < _
      omega
  rw [hfloor, carry_ofNat h _ hcarry, genInteger_ofNat h hpH hr2 hr36 hrp hcarry] at hi
  cases Res.ok.inj hi
  refine ⟨N, _, hNf, hdlt, hgt, hcarry, rfl, by rw [hf1, List.length_map]; exact hf3, fun C hC hCT => ?_⟩
  dsimp only
  rw [hf1]
  obtain ⟨e1, e2⟩ := traceErr_spec f r N (fsub f v (ffloor f v))
  rw [hxv] at e1 e2
  have hiv : RoundNE.ival f v = RoundNE.ival f v / unit f * unit f + RoundNE.ival f v % unit f := by
    rw [Nat.mul_comm]; exact (Nat.div_add_mod _ _).symm
  obtain ⟨c1, c2⟩ := frac_exit (n := RoundNE.ival f v / unit f) e1 e2 hV hxN1 hC
  rw [← hiv] at c1 c2
  have e : (RoundNE.ival f v / unit f + fr.2.2.toNat) * r ^ N + ofDigits r fv * r ^ (N - fv.length)
      = RoundNE.ival f v / unit f * r ^ N + (fr.2.2.toNat * r ^ N + ofDigits r fv * r ^ (N - fv.length)) := by ring
  have := ulpDist_digits h.wf hr2 hr36 hf2 hf3 hvfin hCT (a := C) (n := RoundNE.ival f v / unit f + fr.2.2.toNat)
    (by rw [e, show (RoundNE.ival f v + C * spacing f v) * r ^ N = RoundNE.ival f v * r ^ N + C * (spacing f v * r ^ N) by ring]
        exact c1)
    (by rw [e, show C * spacing f v * r ^ N = C * (spacing f v * r ^ N) by ring]; exact c2)
  rwa [show max C (2 * C) = 2 * C by omega] at this

/-- what the three ranges use of the format (true of binary64 with `Ns = 678`, `Z = 613` and of binary32 with 94, 66):
`Ns + 1` bounds the fraction digits of a float below 1, `Z` the zero-padding steps of a float `≥ 2^p` -/
structure RadixFmt (f : Fmt) (Ns Z : Nat) : Prop where
  fok : FOK f
  bias2 : 2 ≤ f.bias
  /-- `j ≤ 1100` roundings have `j² + j ≤ 2^p`, which `Close.to_add` asks for -/
  tbig : 2 * (halfSize * halfSize + halfSize) ≤ 2 ^ (f.p - 1)
  slack : (f.bias + f.p + 1) * 2 ^ (f.p - 1) ≤ f.infBits
  hNs : 2 ^ (L f + 1) ≤ 3 ^ (Ns + 1)
  small : Ns + 1 ≤ halfSize
  hZ : 2 ^ (f.maxExpField - 1 - L f) ≤ 3 ^ (Z + 1)
  fuel : Z + f.p + 2 ≤ halfSize
  buf : f.bias + 2 ≤ halfSize

/-- up to `halfSize + 2` relative roundings are within what `Close.to_add` and `Close.le_two_mul` ask for -/
theorem RadixFmt.rounds {f : Fmt} {Ns Z : Nat} (m : RadixFmt f Ns Z) {j : Nat} (hj : j ≤ halfSize + 2) :
    j * j + j ≤ 2 * 2 ^ (f.p - 1) ∧ 2 * j ≤ 2 * 2 ^ (f.p - 1) ∧ j < 2 * 2 ^ (f.p - 1) := by
  have := m.tbig
  have : j * j ≤ (halfSize + 2) * (halfSize + 2) := Nat.mul_le_mul hj hj
  rw [show halfSize = 1100 from rfl] at *
  omega

theorem RadixFmt.radix_lt {f : Fmt} {Ns Z : Nat} (m : RadixFmt f Ns Z) {r : Nat} (hr36 : r ≤ 36) :
    r < 2 * 2 ^ (f.p - 1) ∧ 36 ≤ 2 ^ (f.p - 1) := by
  have := m.tbig
  rw [show halfSize = 1100 from rfl] at this
  omega

theorem RadixFmt.succ_finite {f : Fmt} {Ns Z : Nat} (m : RadixFmt f Ns Z) {v : Nat}
    (hv2 : v < (f.bias + f.p) * 2 ^ (f.p - 1)) : v + 1 < f.infBits := by
  have := m.slack
  have hT := Nat.two_pow_pos (f.p - 1)
  have : (f.bias + f.p + 1) * 2 ^ (f.p - 1) = (f.bias + f.p) * 2 ^ (f.p - 1) + 2 ^ (f.p - 1) := by ring
  omega

/-- **the ulp clause for `1 ≤ x < 2^p`**: the generated digits denote a number whose nearest float is at most 34
patterns from the input. `delta` doubles, so `N ≤ p`; the absolute error `B` of a step is at most 16 spacings of `x` and
sums to `≤ 8`; `delta` ends below `½ + 8`. -/
theorem error_mid {f : Fmt} {Ns Z : Nat} (m : RadixFmt f Ns Z) {r : Nat} (hr3 : 3 ≤ r) (hr36 : r ≤ 36) (hpo : PredOne f r)
    {v : Nat} (hv1 : one f ≤ v) (hv2 : v < (f.bias + f.p) * 2 ^ (f.p - 1)) {g : Gen}
    (hg : generate true f r v = .ok g) :
    ulpDist (roundNE f (ofDigits r ((g.ints ++ g.fracs).map byteDigit)) (r ^ g.fracs.length)) v ≤ 34 ∧
      g.ints.length + g.fracs.length ≤ 2 * f.p := by
  have h := m.fok
  have hT := Nat.two_pow_pos (f.p - 1)
  have hu := unit_pos f
  obtain ⟨hrp, hT36⟩ := m.radix_lt hr36
  have hone := one_eq h
  have hvfin := m.succ_finite hv2
  have hv2T : 2 * 2 ^ (f.p - 1) ≤ v := by
    have : 2 * 2 ^ (f.p - 1) ≤ f.bias * 2 ^ (f.p - 1) := Nat.mul_le_mul_right _ m.bias2
    omega
  have hxv := fsub_ffloor_exact h.wf (show v < f.infBits by omega)
  have hδ := (deltaOf_ival h hvfin).2.2 hv2T
  -- `x ≥ 1`: the spacing is at least that of 1.0, `2^(bias-1)`, which is `B/16` and `2·1.0/2^p`
  have hsp : 2 ^ (f.bias - 1) ≤ spacing f v :=
    pow_le_spacing f (by rw [show f.bias - 1 + 1 = f.bias by have := m.bias2; omega]; omega)
  have hBK : errB f ≤ 16 * spacing f v := by
    have : errB f = 16 * 2 ^ (f.bias - 1) := by
      rw [errB, show f.bias + 3 = (f.bias - 1) + 4 by have := m.bias2; omega, Nat.pow_add]; ring
    rw [this]
    exact Nat.mul_le_mul_left _ hsp
  have hKU : 2 * unit f ≤ spacing f v * 2 ^ f.p := by
    have : 2 * unit f = 2 ^ (f.bias - 1) * 2 ^ f.p := by
      rw [unit_eq, ← Nat.pow_add, show 2 * 2 ^ L f = 2 ^ (L f + 1) by rw [Nat.pow_succ]; ring]
      congr 1; have := L_add_two h.wf; have := m.bias2; omega
    rw [this]
    exact Nat.mul_le_mul_right _ hsp
  obtain ⟨N, n', _, hdlt, _, hn', hints, hfl, k⟩ := generate_dist h hT36 (by have := m.fuel; omega) (by omega) hr36 hpo hv2 hg
  have hx1 : fsub f v (ffloor f v) < one f := by rw [lt_one_iff h, hxv]; exact Nat.mod_lt _ hu
  generalize spacing f v = K at *
  -- `delta` doubles: at most `p` digits
  have hNp : N ≤ f.p := by
    apply Nat.le_of_not_lt; intro hlt
    have := deltaIter_double h hrp (by omega) (deltaOf f v) f.p (fun i hi => hdlt i (by omega))
    have := (lt_one_iff h).mp (hdlt f.p hlt)
    have e1 : 2 * (RoundNE.ival f (deltaOf f v) * 2 ^ f.p) = K * 2 ^ f.p := by rw [← hδ]; ring
    omega
  have hE := traceErr_abs h hr36 hrp N (Nat.le_of_lt hx1)
  have hdN := deltaIter_err h hrp hr36 (deltaOf f v) N (fun i hi => Nat.le_of_lt (hdlt i hi))
  have hB : 2 * (errB f * geom r N) ≤ 16 * (K * r ^ N) := by
    have hg := geom_double hr3 N
    calc 2 * (errB f * geom r N) = errB f * (2 * geom r N) := by ring
      _ ≤ 16 * K * r ^ N := Nat.mul_le_mul hBK (by omega)
      _ = 16 * (K * r ^ N) := by ring
  have h5 : 2 * (RoundNE.ival f (deltaOf f v) * r ^ N) = K * r ^ N := by rw [← hδ]; ring
  refine ⟨k 17 (by omega) (by omega), ?_⟩
  rw [hints, List.length_map]
  have : (toDigits r n').length ≤ f.p := by
    apply toDigits_length_le _ _ f.p (by omega) (by have := h.wf.hp; omega)
    have e := (two_pow_P h.wf).symm
    calc _ < 2 ^ f.p := by rw [← e]; exact hn'
      _ ≤ r ^ f.p := Nat.pow_le_pow_left (by omega) _
  omega

theorem radixFmt_f64 : RadixFmt f64 678 613 :=
  ⟨fok_f64, by decide, by decide, by decide, by decide +kernel, by decide, by decide +kernel, by decide, by decide⟩
theorem radixFmt_f32 : RadixFmt f32 94 66 :=
  ⟨fok_f32, by decide, by decide, by decide, by decide +kernel, by decide, by decide +kernel, by decide, by decide⟩

/-- all generated digits fit into the `MAX_DIGIT_LENGTH + 1 = 232` bytes the layout functions look at -/
def PositionalFits (g : Gen) : Prop := g.ints.length + g.fracs.length ≤ maxDigitLength + 1

instance (g : Gen) : Decidable (PositionalFits g) := by unfold PositionalFits; infer_instance

def layoutAll (fmt : Format) (feats : Features) (o : WOpts) (g : Gen) : Res Text :=
  let sciExp := sciExpOf g
  let minExp := o.negBreak.getD (-5)
  let maxExp := o.posBreak.getD 9
  let outside := sciExp < minExp ∨ sciExp > maxExp
  let require := fmt.requiredExponentNotation ∨ outside
  if ¬ fmt.noExponentNotation ∧ require then
    sciFinish fmt feats o
      ((g.ints ++ g.fracs).drop (if sciExp ≤ 0 then ((g.ints.length : Int) - sciExp - 1).toNat else 0)) sciExp
  else .ok (nonsciFinish o (g.ints ++ g.fracs) g.ints.length)

theorem layoutText_all (fmt : Format) (feats : Features) (o : WOpts) (ho : o.maxDigits = none) (r : Nat) (g : Gen)
    (hfit : PositionalFits g) : layoutText fmt feats o r g = layoutAll fmt feats o g := by
  unfold PositionalFits at hfit
  unfold layoutText layoutAll
  dsimp only
  split
  · unfold sciText
    dsimp only
    rw [WriteRadixWF.truncateAndRound_none _ o ho]
    simp only [Res.bind, Bool.false_eq_true, if_false, Int.add_zero]
    generalize (if sciExpOf g ≤ 0 then ((g.ints.length : Int) - sciExpOf g - 1).toNat else 0) = start
    rw [Nat.min_eq_left (by omega), WriteRadixWF.buf_window]
  · unfold nonsciText
    dsimp only
    rw [WriteRadixWF.truncateAndRound_none _ o ho]
    simp only [Res.bind, Bool.false_eq_true, false_and, if_false, Nat.add_zero]
    rw [WriteRadixWF.buf_take_all g hfit]

end LexVerif.Proof.WriteRadixMid
