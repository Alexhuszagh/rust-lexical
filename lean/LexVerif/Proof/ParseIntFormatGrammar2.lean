import LexVerif.Spec.Grammar
import LexVerif.Proof.ParseIntFormatPrefix
import LexVerif.Proof.ParseIntSwar
import LexVerif.Proof.GrammarStd
/-!
# Proof.ParseIntFormatGrammar2 — the documented integer grammar with base prefix and `no_integer_leading_zeros`

Common normal form `AcceptC` (acceptance and value of a sign-free body as a property of the byte list):
* `grammar_accept`: `Spec.grammarIntSyn` (no base suffix, digits required) derives `sign · body` with value `v`
  iff the sign flags allow the sign and `AcceptC body v`;
* `afterSign_accept`: the complete parser's `afterSign` (`Proof/ParseIntFormatPrefix.lean`) returns `Ok(v)` iff `AcceptC body v`.

`AcceptS` adds sign and emptiness: `grammar_acceptS` speaks of the grammar only, `prefix_acceptS` of the model only.

Before that, the specification scan of C04 in closed form:
`scan_complete_iff` : the complete scan accepts exactly when every byte is a digit (`Spec.takeDigits` leaves nothing)
and the Horner value fits the type; this is the shape in which the documented grammar `Spec.grammarIntSyn` speaks.
-/
namespace LexVerif.Proof.PIF
open LexVerif LexVerif.Spec LexVerif.Model
open LexVerif.Proof.Sep (zerosPrefix zerosPrefix_le)
open LexVerif.Proof.ParseInt (sgn)

def hornerFrom (r acc : Nat) (ds : List Nat) : Nat := ds.foldl (fun a d => a * r + d) acc

theorem hornerFrom_ge (r : Nat) (hr : 1 ≤ r) (ds : List Nat) (acc : Nat) : acc ≤ hornerFrom r acc ds := by
  rw [hornerFrom, foldl_horner]
  exact Nat.le_trans (Nat.le_mul_of_pos_right _ (Nat.pow_pos hr)) (Nat.le_add_right _ _)

theorem scan_complete_iff (r mx : Nat) (hr : 1 ≤ r) (neg : Bool) (cs : List Nat) (acc i : Nat) (v : Int) (n : Nat)
    (hacc : acc ≤ mx) :
    scanDigits r mx neg false cs acc i = .ok v n ↔
      ((takeDigits r cs).2 = [] ∧ hornerFrom r acc (takeDigits r cs).1 ≤ mx ∧
        v = sgn neg (hornerFrom r acc (takeDigits r cs).1) ∧ n = i + cs.length) := by
  induction cs generalizing acc i with
  | nil =>
    simp only [scanDigits, takeDigits, hornerFrom, List.foldl_nil, sgn, PRes.ok.injEq, List.length_nil, Nat.add_zero,
      true_and]
    constructor
    · rintro ⟨h1, h2⟩; exact ⟨hacc, h1.symm, h2.symm⟩
    · rintro ⟨_, h1, h2⟩; exact ⟨h1.symm, h2.symm⟩
  | cons c cs ih =>
    simp only [scanDigits, takeDigits]
    cases hd : digitVal r c with
    | none => simp
    | some d =>
      simp only [Bool.false_eq_true, if_false]
      by_cases hov : acc * r + d > mx
      · have := hornerFrom_ge r hr (takeDigits r cs).1 (acc * r + d)
        simp only [hov, if_true, hornerFrom, List.foldl_cons]
        simp only [hornerFrom] at this
        constructor
        · intro h; cases neg <;> simp at h
        · rintro ⟨_, h, _⟩; omega
      · simp only [hov, if_false, hornerFrom, List.foldl_cons, List.length_cons]
        rw [ih _ _ (by omega)]
        simp only [hornerFrom]
        constructor
        · rintro ⟨a, b, c, d⟩; exact ⟨a, b, c, by omega⟩
        · rintro ⟨a, b, c, d⟩; exact ⟨a, b, c, by omega⟩

theorem digitVal_sign (r : Nat) : digitVal r 43 = none ∧ digitVal r 45 = none := by
  simp [digitVal, digitVal36]

theorem spec_nonempty (t : IntTy) (r : Nat) (neg : Bool) (rest : List Nat) (i : Nat) (v : Int) :
    (∃ n : Nat, (match rest with
           | [] => PRes.empty i
           | _ => scanDigits r (t.maxMag neg) neg false rest 0 i : PRes) = PRes.ok v n) ↔
      (rest ≠ [] ∧ ∃ n, scanDigits r (t.maxMag neg) neg false rest 0 i = .ok v n) := by
  cases rest with
  | nil => simp
  | cons c cs => simp

open LexVerif.Model.ParseIntFormat
open LexVerif.Proof.PNDebug (matchesB)

theorem digitVal_48 (r : Nat) (hr : 1 ≤ r) : digitVal r 48 = some 0 := by
  simp [digitVal, digitVal36]; omega

theorem eq_48_of_digitVal_zero {r c : Nat} (h : digitVal r c = some 0) : c = 48 := by
  simp only [digitVal, digitVal36] at h
  split at h
  · next d hd =>
    split at hd
    · simp only [Option.some.injEq] at hd; split at h <;> simp at h; omega
    · split at hd
      · simp only [Option.some.injEq] at hd; split at h <;> simp at h; omega
      · split at hd
        · simp only [Option.some.injEq] at hd; split at h <;> simp at h; omega
        · cases hd
  · cases h

theorem takeDigits_zeros (r : Nat) (hr : 1 ≤ r) : ∀ l : List Nat,
    takeDigits r l = (List.replicate (zerosPrefix l) 0 ++ (takeDigits r (l.drop (zerosPrefix l))).1,
      (takeDigits r (l.drop (zerosPrefix l))).2) := by
  intro l
  induction l with
  | nil => simp [zerosPrefix, takeDigits]
  | cons x t ih =>
    by_cases hx : x = 48
    · subst hx
      have hz : zerosPrefix (48 :: t) = zerosPrefix t + 1 := by simp [zerosPrefix]
      rw [hz]
      simp only [takeDigits, digitVal_48 r hr, List.drop_succ_cons, List.replicate_succ, List.cons_append]
      rw [ih]
    · have hz : zerosPrefix (x :: t) = 0 := by simp [zerosPrefix, hx]
      rw [hz]; simp

theorem takeDigits_head_ne_zero (r : Nat) (l : List Nat) (hz : zerosPrefix l = 0) : (takeDigits r l).1.head? ≠ some 0 := by
  cases l with
  | nil => simp [takeDigits]
  | cons x t =>
    have hx : x ≠ 48 := by
      intro h; subst h; simp [zerosPrefix] at hz
    simp only [takeDigits]
    cases hd : digitVal r x with
    | none => simp
    | some d =>
      simp only [List.head?_cons, ne_eq, Option.some.injEq]
      intro h; subst h
      exact hx (eq_48_of_digitVal_zero hd)

theorem eq_zero_of_zerosPrefix_one {l : List Nat} (hz : zerosPrefix l = 1) (hl : l.drop 1 = []) : l = [48] := by
  cases l with
  | nil => simp [zerosPrefix] at hz
  | cons a tl =>
    simp only [List.drop_succ_cons, List.drop_zero] at hl
    subst hl
    have : a = 48 := by
      by_contra hne; simp [zerosPrefix, hne] at hz
    rw [this]

theorem takeDigits_nil_nil (r : Nat) (l : List Nat) (h1 : (takeDigits r l).1 = []) (h2 : (takeDigits r l).2 = []) : l = [] := by
  cases l with
  | nil => rfl
  | cons x t =>
    simp only [takeDigits] at h1 h2
    cases hd : digitVal r x with
    | none => simp [hd] at h2
    | some d => simp [hd] at h1

/-- index-free form of `scan_complete_iff` -/
def ScanOK (r mx : Nat) (neg : Bool) (l : List Nat) (v : Int) : Prop :=
  (takeDigits r l).2 = [] ∧ ofDigits r (takeDigits r l).1 ≤ mx ∧ v = sgn neg (ofDigits r (takeDigits r l).1)

theorem scan_iff_ScanOK (r mx : Nat) (hr : 1 ≤ r) (neg : Bool) (l : List Nat) (i : Nat) (v : Int) :
    (∃ n, scanDigits r mx neg false l 0 i = .ok v n) ↔ ScanOK r mx neg l v := by
  constructor
  · rintro ⟨n, h⟩
    have := (scan_complete_iff r mx hr neg l 0 i v n (Nat.zero_le _)).1 h
    exact ⟨this.1, this.2.1, this.2.2.1⟩
  · rintro ⟨h1, h2, h3⟩
    exact ⟨i + l.length, (scan_complete_iff r mx hr neg l 0 i v _ (Nat.zero_le _)).2 ⟨h1, h2, h3, rfl⟩⟩

theorem ScanOK_drop_zeros (r mx : Nat) (hr : 1 ≤ r) (neg : Bool) (l : List Nat) (v : Int) :
    ScanOK r mx neg l v ↔ ScanOK r mx neg (l.drop (zerosPrefix l)) v := by
  unfold ScanOK
  rw [takeDigits_zeros r hr l]
  simp only [ofDigits_zeros_append]

/-- acceptance and value of a sign-free, non-empty body: base prefix + digits, or digits under the leading-zero rule -/
def AcceptC (r mx : Nat) (neg cased : Bool) (pre : Nat) (noLZ : Bool) (body : List Nat) (v : Int) : Prop :=
  if isPre cased pre body = true then body.drop 2 ≠ [] ∧ ScanOK r mx neg (body.drop 2) v
  else if (noLZ && zerosPrefix body != 0) = true then body = [48] ∧ v = 0
  else ScanOK r mx neg (body.drop (zerosPrefix body)) v

theorem matchByte_eq_matchesB (cased : Bool) (want x : Nat) : matchByte cased want x = matchesB x want cased := by
  unfold matchByte matchesB
  cases cased
  · simp only [Bool.false_eq_true, if_false, eqUncased, eqIgnoreCase, lower, lowerAscii]
    exact decide_eq_decide.mpr Iff.rfl
  · simp only [if_true]
    by_cases h : x = want <;> simp [h]

theorem matchesB_48 (cased : Bool) (pre : Nat) (h48 : pre ≠ 48) : matchesB 48 pre cased = false := by
  unfold matchesB
  cases cased
  · have h1 : lowerAscii 48 = 48 := by decide
    simp only [Bool.false_eq_true, if_false, eqIgnoreCase, h1, decide_eq_false_iff_not]
    unfold lowerAscii
    split <;> omega
  · simp only [if_true, beq_eq_false_iff_ne, ne_eq]; omega

theorem splitPrefix_eq (y : Syn) (h48 : y.pre ≠ 48) (body : List Nat) :
    splitPrefix y body = if isPre y.csPrefix y.pre body = true then (true, body.drop 2) else (false, body) := by
  unfold splitPrefix isPre
  split
  · next x cs =>
    by_cases hp : y.pre = 0
    · simp [hp]
    · by_cases hx : x = 48
      · subst hx
        have : zerosPrefix (48 :: 48 :: cs) = zerosPrefix cs + 2 := by simp [zerosPrefix]
        simp [hp, matchByte_eq_matchesB, matchesB_48 _ _ h48, this]
      · have : zerosPrefix (48 :: x :: cs) = 1 := by simp [zerosPrefix, hx]
        simp only [this, matchByte_eq_matchesB]
        cases hm : matchesB x y.pre y.csPrefix <;> simp [hp, hm]
  · next hne =>
    have : (zerosPrefix body == 1 && (body[1]?).any (matchesB · y.pre y.csPrefix)) = false := by
      cases body with
      | nil => simp [zerosPrefix]
      | cons a t =>
        cases t with
        | nil => simp
        | cons x cs =>
          have ha : a ≠ 48 := by intro h; subst h; exact hne x cs rfl
          simp [zerosPrefix, ha]
    rw [Bool.and_assoc, this]; simp

theorem zero_in_range (t : IntTy) : t.minVal ≤ 0 ∧ (0 : Int) ≤ t.maxVal := by
  simp only [IntTy.minVal, IntTy.maxVal]; constructor <;> omega

theorem grammar_accept (y : Syn) (t : IntTy) (hr : 1 ≤ y.radix) (hsuf : y.suf = 0) (h48 : y.pre ≠ 48)
    (hreq : (y.reqInt || y.reqMant) = true) (s : List Nat) (hs : s ≠ []) (sign : Option Bool) (body : List Nat)
    (hsp : splitIntSign t.signed s = (sign, body)) (hb : body ≠ [])
    (neg : Bool) (hneg : neg = (sign == some true)) (v : Int) :
    grammarIntSyn y t s = .ok v ↔
      (signOk y.noPosMant y.reqMantSign sign = true ∧
        AcceptC y.radix (t.maxMag neg) neg y.csPrefix y.pre y.noIntLZ body v) := by
  have hne : s.isEmpty = false := by simpa using hs
  unfold grammarIntSyn
  simp only [hne, Bool.false_eq_true, if_false, hsp]
  have hrange : ∀ ds w, w = sgn neg (ofDigits y.radix ds) →
      (ofDigits y.radix ds ≤ t.maxMag neg ↔ (t.minVal ≤ w ∧ w ≤ t.maxVal)) :=
    fun ds w hw => hw ▸ (LexVerif.Proof.ParseInt.inRange_sgn t neg _).symm
  have hvv : ∀ ds, (if (sign == some true) = true then -(ofDigits y.radix ds : Int) else (ofDigits y.radix ds : Int)) =
      sgn neg (ofDigits y.radix ds) := by
    intro ds; subst hneg; simp [sgn]
  rw [splitPrefix_eq y h48]
  simp only [Grammar.splitSuffix_none y hsuf, hreq, Bool.true_and, hvv]
  unfold AcceptC
  by_cases hp : isPre y.csPrefix y.pre body = true
  · simp only [hp, if_true, Bool.not_true, Bool.false_and, Bool.and_false, Bool.not_false, Bool.and_true]
    generalize htd : takeDigits y.radix (body.drop 2) = td
    obtain ⟨ds, rest⟩ := td
    have hnn := takeDigits_nil_nil y.radix (body.drop 2)
    rw [htd] at hnn
    simp only [ScanOK, htd]
    generalize hw : sgn neg (ofDigits y.radix ds) = w
    have hrg := hrange ds w hw.symm
    constructor
    · intro h
      split at h
      · next hok =>
        simp only [Bool.and_eq_true, List.isEmpty_iff, Bool.not_eq_eq_eq_not, Bool.not_true, decide_eq_true_eq,
          List.isEmpty_eq_false_iff, ne_eq] at hok
        simp only [IRes.ok.injEq] at h
        obtain ⟨⟨⟨⟨⟨hrest, hsok⟩, hds⟩, _⟩, hmin⟩, hmax⟩ := hok
        refine ⟨hsok, ?_, hrest, hrg.2 ⟨hmin, hmax⟩, h.symm⟩
        intro hnil
        apply hds
        rw [hnil] at htd; simp [takeDigits] at htd; exact htd.1
      · cases h
    · rintro ⟨hsok, hne, hrest, hle, hv⟩
      have hds : ds ≠ [] := fun hd => hne (hnn hd hrest)
      have := hrg.1 hle
      simp [hrest, hsok, hds, this.1, this.2, hv]
  · have hp' : isPre y.csPrefix y.pre body = false := by simpa using hp
    simp only [hp', Bool.false_eq_true, if_false, Bool.false_and, Bool.not_false, Bool.and_true]
    have htz := takeDigits_zeros y.radix hr body
    generalize htd' : takeDigits y.radix (body.drop (zerosPrefix body)) = td' at htz
    obtain ⟨ds', rest⟩ := td'
    simp only at htz
    have hnn := takeDigits_nil_nil y.radix (body.drop (zerosPrefix body))
    rw [htd'] at hnn
    have hhead := takeDigits_head_ne_zero y.radix body
    rw [htz] at hhead
    simp only [htz, ScanOK, htd', ofDigits_zeros_append]
    generalize hz : zerosPrefix body = z at *
    generalize hw : sgn neg (ofDigits y.radix ds') = w
    have hrg := hrange ds' w hw.symm
    -- the digits are `z` zeros and then `ds'`, whose head is not zero: the grammar's leading-zero and emptiness tests
    -- become conditions on `z` and `ds'.length`, the terms in which `AcceptC` is written
    have hlz : leadingZeros (List.replicate z 0 ++ ds') = (decide (z + ds'.length > 1) && decide (z ≠ 0)) := by
      unfold leadingZeros
      cases z with
      | zero =>
        have := hhead rfl
        simp only [List.replicate_zero, List.nil_append] at this ⊢
        cases ds' with
        | nil => simp
        | cons d tl =>
          simp only [List.head?_cons, ne_eq, Option.some.injEq] at this
          simp [this]
      | succ n =>
        simp only [List.replicate_succ, List.cons_append, List.length_cons, List.length_append, List.length_replicate,
          List.head?_cons, beq_self_eq_true, Bool.and_true, ne_eq, Nat.succ_ne_zero, not_false_eq_true, decide_true]
        exact decide_eq_decide.mpr (by omega)
    have hemp : (List.replicate z 0 ++ ds').isEmpty = (decide (z = 0) && ds'.isEmpty) := by
      cases z <;> simp [List.replicate_succ]
    rw [hlz, hemp]
    by_cases hcz : (y.noIntLZ && z != 0) = true
    · have hn : y.noIntLZ = true := by simp only [Bool.and_eq_true] at hcz; exact hcz.1
      have hz0 : z ≠ 0 := by simp only [Bool.and_eq_true, bne_iff_ne, ne_eq] at hcz; exact hcz.2
      simp only [hcz, if_true]
      simp only [hn, Bool.true_and]
      constructor
      · intro h
        split at h
        · next hok =>
          simp only [Bool.and_eq_true, List.isEmpty_iff, Bool.not_eq_eq_eq_not, Bool.not_true, decide_eq_true_eq,
            Bool.and_eq_false_iff, decide_eq_false_iff_not] at hok
          simp only [IRes.ok.injEq] at h
          obtain ⟨⟨⟨⟨⟨hrest, hsok⟩, _⟩, hl⟩, _⟩, _⟩ := hok
          have hz1 : z = 1 ∧ ds' = [] := by
            rcases hl with hl | hl
            · constructor
              · omega
              · cases ds' with
                | nil => rfl
                | cons d tl => simp only [List.length_cons] at hl; omega
            · exact absurd hl (by simpa using hz0)
          obtain ⟨hz1, hds'⟩ := hz1
          subst hz1; subst hds'
          have hdrop : body.drop 1 = [] := hnn rfl hrest
          have hbody : body = [48] := eq_zero_of_zerosPrefix_one hz hdrop
          refine ⟨hsok, hbody, ?_⟩
          rw [← h, ← hw]; simp [sgn, ofDigits]
        · cases h
      · rintro ⟨hsok, hbody, hv⟩
        subst hbody
        have hz1 : z = 1 := by rw [← hz]; simp [zerosPrefix]
        subst hz1
        simp only [List.drop_succ_cons, List.drop_zero, takeDigits, Prod.mk.injEq] at htd'
        obtain ⟨hd1, hd2⟩ := htd'
        subst hd1; subst hd2
        have hw0 : w = 0 := by rw [← hw]; simp [sgn, ofDigits]
        have hzr := zero_in_range t
        subst hw0
        simp [hsok, hzr.1, hzr.2, hv]
    · have hcz' : ¬ (y.noIntLZ = true ∧ z ≠ 0) := by
        intro ⟨a, b⟩; apply hcz; simp [a, b]
      simp only [hcz, Bool.false_eq_true, if_false]
      have hnolz : (y.noIntLZ && (decide (z + ds'.length > 1) && decide (z ≠ 0))) = false := by
        cases hn : y.noIntLZ with
        | false => simp
        | true =>
          have : z = 0 := by by_contra h; exact hcz' ⟨hn, h⟩
          simp [this]
      constructor
      · intro h
        split at h
        · next hok =>
          simp only [Bool.and_eq_true, List.isEmpty_iff, Bool.not_eq_eq_eq_not, Bool.not_true, decide_eq_true_eq] at hok
          simp only [IRes.ok.injEq] at h
          obtain ⟨⟨⟨⟨⟨hrest, hsok⟩, _⟩, _⟩, hmin⟩, hmax⟩ := hok
          exact ⟨hsok, hrest, hrg.2 ⟨hmin, hmax⟩, h.symm⟩
        · cases h
      · rintro ⟨hsok, hrest, hle, hv⟩
        have := hrg.1 hle
        have hne : (decide (z = 0) && ds'.isEmpty) = false := by
          by_contra hcon
          simp only [Bool.not_eq_false, Bool.and_eq_true, decide_eq_true_eq, List.isEmpty_iff] at hcon
          obtain ⟨hz0, hds⟩ := hcon
          subst hz0
          exact hb (by simpa using hnn hds hrest)
        simp [hrest, hsok, hne, hnolz, this.1, this.2, hv]
        intro hn _
        by_contra h
        exact hcz' ⟨hn, h⟩

open LexVerif.Proof.ParseInt in
theorem digitsAt_spec (e : Env) (ht : IsIntTy e.t) (h2 : 2 ≤ e.radix) (h36 : e.radix ≤ 36)
    (hfeat : e.c.feats.powerOfTwo = true ∨ e.radix = 10) (neg : Bool) (hneg : neg = true → e.t.signed = true)
    (s : List Nat) (hb : ∀ b ∈ s, b < 256) (k : Nat) (hk : k ≤ s.length) :
    digitsAt e neg s k = ofM (.done (scanDigits e.radix (e.t.maxMag neg) neg e.partial_ (s.drop k) 0 k)) := by
  unfold digitsAt
  rw [body_spec e.c.feats e.t ht h2 h36 e.partial_ e.noMulti (Props.C04.hmulti_of hfeat (swarCorrect h2)) neg hneg
    (s.drop k) k s.length (by simp only [List.length_drop]; omega) (fun b hb' => hb b (List.mem_of_mem_drop hb'))]

theorem ofM_done_ok (x : PRes) (v : Int) : (∃ k, ofM (.done x) = .ok (v, k)) ↔ ∃ n, x = .ok v n := by
  cases x <;> simp [ofM, err]

/-- **the complete parser behind the sign accepts exactly `AcceptC`**: `afterSign` and `AcceptC` branch alike (no prefix
or leading-zero flag; prefix read; leading-zero rule; plain digits), and in each branch the digit phase is the
specification scan from the index where the digits start (`hdig`) -/
theorem afterSign_accept (e : Env) (hp : e.partial_ = false) (ht : LexVerif.Proof.ParseInt.IsIntTy e.t)
    (h2 : 2 ≤ e.radix) (h36 : e.radix ≤ 36) (hfeat : e.c.feats.powerOfTwo = true ∨ e.radix = 10)
    (neg : Bool) (hneg : neg = true → e.t.signed = true) (s : List Nat) (hb : ∀ b ∈ s, b < 256) (i0 : Nat)
    (hi : i0 < s.length) (v : Int) :
    (∃ k, afterSign e neg s i0 = .ok (v, k)) ↔
      AcceptC e.radix (e.t.maxMag neg) neg e.c.caseSensitiveBasePrefix e.c.fmt.basePrefix
        e.c.fmt.noIntegerLeadingZeros (s.drop i0) v := by
  have hr1 : 1 ≤ e.radix := by omega
  have hzle : zerosPrefix (s.drop i0) ≤ s.length - i0 := by have := zerosPrefix_le (s.drop i0); simpa using this
  have hdig : ∀ k, k ≤ s.length →
      ((∃ j, digitsAt e neg s k = .ok (v, j)) ↔ ScanOK e.radix (e.t.maxMag neg) neg (s.drop k) v) := by
    intro k hk
    rw [digitsAt_spec e ht h2 h36 hfeat neg hneg s hb k hk, ofM_done_ok, hp]
    exact scan_iff_ScanOK _ _ hr1 _ _ _ _
  unfold afterSign AcceptC
  by_cases h0 : e.c.fmt.basePrefix = 0 ∧ e.c.fmt.noIntegerLeadingZeros = false
  · have hnp : isPre e.c.caseSensitiveBasePrefix e.c.fmt.basePrefix (s.drop i0) = false := by simp [isPre, h0.1]
    simp only [h0, and_self, if_true, hnp, Bool.false_eq_true, if_false, Bool.false_and]
    rw [hdig i0 (by omega)]
    exact ScanOK_drop_zeros _ _ hr1 _ _ _
  · simp only [h0, if_false]
    by_cases hpa : isPre e.c.caseSensitiveBasePrefix e.c.fmt.basePrefix (s.drop i0) = true
    · simp only [hpa, if_true]
      by_cases hemp : i0 + 2 ≥ s.length
      · simp only [hemp, if_true]
        constructor
        · rintro ⟨k, hk⟩; simp [err] at hk
        · rintro ⟨hne, _⟩
          exfalso; apply hne
          simp only [List.drop_drop]
          apply List.drop_eq_nil_of_le; omega
      · simp only [hemp, if_false]
        rw [hdig (i0 + 2) (by omega), List.drop_drop]
        constructor
        · intro h
          refine ⟨?_, h⟩
          intro hnil
          have := congrArg List.length hnil
          simp only [List.length_drop, List.length_nil] at this; omega
        · exact fun h => h.2
    · simp only [hpa, Bool.false_eq_true, if_false]
      generalize hz : zerosPrefix (s.drop i0) = z at hzle ⊢
      by_cases hl : (e.c.fmt.noIntegerLeadingZeros && z != 0) = true
      · have hz0 : z ≠ 0 := by simp only [Bool.and_eq_true, bne_iff_ne, ne_eq] at hl; exact hl.2
        simp only [hl, if_true]
        unfold lzOutcome
        by_cases hz1 : z > 1
        · simp only [hz1, if_true]
          constructor
          · rintro ⟨k, hk⟩; simp [err] at hk
          · rintro ⟨hbody, _⟩
            rw [hbody] at hz; simp [zerosPrefix] at hz; omega
        · have hz1' : z = 1 := by omega
          subst hz1'
          simp only [gt_iff_lt, Nat.lt_irrefl, if_false, hp]
          cases hg : s[i0 + 1]? with
          | some ch =>
            have hlt : i0 + 1 < s.length := (List.getElem?_eq_some_iff.mp hg).1
            simp only
            constructor
            · rintro ⟨k, hk⟩
              cases hd : ParseInt.charToDigit ch e.radix <;> simp [hd, err] at hk
            · rintro ⟨hbody, _⟩
              have := congrArg List.length hbody
              simp only [List.length_drop, List.length_cons, List.length_nil] at this; omega
          | none =>
            have hge : s.length ≤ i0 + 1 := by rw [List.getElem?_eq_none_iff] at hg; exact hg
            simp only [Except.ok.injEq, Prod.mk.injEq]
            have hbody : s.drop i0 = [48] :=
              eq_zero_of_zerosPrefix_one hz (by rw [List.drop_drop]; exact List.drop_eq_nil_of_le (by omega))
            constructor
            · rintro ⟨k, hv, _⟩; exact ⟨hbody, hv.symm⟩
            · rintro ⟨_, hv⟩; exact ⟨_, hv.symm, rfl⟩
      · simp only [hl, Bool.false_eq_true, if_false]
        rw [hdig (i0 + z) (by omega), List.drop_drop]

/-- the sign flags of the model and of the grammar agree -/
theorem signGate_signOk (e : Env) (s : List Nat) (r : Res) :
    (signOk e.c.fmt.noPositiveMantissaSign e.c.fmt.requiredMantissaSign (splitIntSign e.t.signed s).1 = true →
      signGate e s r = r) ∧
    (signOk e.c.fmt.noPositiveMantissaSign e.c.fmt.requiredMantissaSign (splitIntSign e.t.signed s).1 = false →
      ∃ k, signGate e s r = err k 0) := by
  have key : ((splitIntSign e.t.signed s).1 == some false) = decide (s.head? = some 43) ∧
      (splitIntSign e.t.signed s).1.isNone = !hasSign e.t s := by
    cases s with
    | nil => simp [splitIntSign, hasSign]
    | cons x xs =>
      by_cases h43 : x = 43
      · subst h43; simp [splitIntSign, hasSign]
      · by_cases h45 : x = 45
        · subst h45
          by_cases hsg : e.t.signed = true
          · simp [splitIntSign, hasSign, hsg]
          · simp [splitIntSign, hasSign, hsg]
        · have : splitIntSign e.t.signed (x :: xs) = (none, x :: xs) := by
            unfold splitIntSign; split <;> simp_all
          simp [this, hasSign, h43, h45]
  simp only [signOk, key.1, key.2, signGate]
  -- `signOk` is the negation of the two gates of `signGate`
  have hok : (!(e.c.fmt.noPositiveMantissaSign && decide (s.head? = some 43)) &&
      !(e.c.fmt.requiredMantissaSign && !hasSign e.t s)) = false ↔
      (s.head? = some 43 ∧ e.c.fmt.noPositiveMantissaSign = true) ∨
        (e.c.fmt.requiredMantissaSign = true ∧ hasSign e.t s = false) := by
    simp only [Bool.and_eq_false_iff, Bool.not_eq_false', Bool.and_eq_true, decide_eq_true_eq, Bool.not_eq_true']
    exact or_congr and_comm Iff.rfl
  by_cases g1 : s.head? = some 43 ∧ e.c.fmt.noPositiveMantissaSign = true
  · rw [if_pos g1]
    exact ⟨fun h => absurd (hok.2 (.inl g1)) (by rw [h]; decide), fun _ => ⟨_, rfl⟩⟩
  · rw [if_neg g1]
    by_cases g2 : e.c.fmt.requiredMantissaSign = true ∧ hasSign e.t s = false
    · rw [if_pos g2]
      exact ⟨fun h => absurd (hok.2 (.inr g2)) (by rw [h]; decide), fun _ => ⟨_, rfl⟩⟩
    · rw [if_neg g2]
      exact ⟨fun _ => rfl, fun h => (hok.1 h).elim (fun h => absurd h g1) (fun h => absurd h g2)⟩

theorem splitIntSign_eq (t : IntTy) (s : List Nat) :
    (splitIntSign t.signed s).2 = s.drop (signLen t s) ∧
    ((splitIntSign t.signed s).1 == some true) = decide (s.head? = some 45 ∧ t.signed = true) := by
  cases s with
  | nil => simp [splitIntSign, signLen, hasSign]
  | cons x xs =>
    by_cases h43 : x = 43
    · subst h43; simp [splitIntSign, signLen, hasSign]
    · by_cases h45 : x = 45
      · subst h45
        by_cases hsg : t.signed = true
        · simp [splitIntSign, signLen, hasSign, hsg]
        · simp [splitIntSign, signLen, hasSign, hsg]
      · have : splitIntSign t.signed (x :: xs) = (none, x :: xs) := by
          unfold splitIntSign; split <;> simp_all
        simp [this, signLen, hasSign, h43, h45]

/-- acceptance of a whole input, in the vocabulary in which grammar and parser meet: the sign flags on the grammar's
sign split, a non-empty body, `AcceptC` of the body -/
def AcceptS (np rs : Bool) (t : IntTy) (r : Nat) (cased : Bool) (pre : Nat) (noLZ : Bool) (s : List Nat) (v : Int) : Prop :=
  signOk np rs (splitIntSign t.signed s).1 = true ∧ (splitIntSign t.signed s).2 ≠ [] ∧
    AcceptC r (t.maxMag ((splitIntSign t.signed s).1 == some true)) ((splitIntSign t.signed s).1 == some true)
      cased pre noLZ (splitIntSign t.signed s).2 v

theorem grammar_acceptS (y : Syn) (t : IntTy) (hr : 1 ≤ y.radix) (hsuf : y.suf = 0) (h48 : y.pre ≠ 48)
    (hreq : (y.reqInt || y.reqMant) = true) (s : List Nat) (v : Int) :
    grammarIntSyn y t s = .ok v ↔ AcceptS y.noPosMant y.reqMantSign t y.radix y.csPrefix y.pre y.noIntLZ s v := by
  unfold AcceptS
  by_cases hs : s = []
  · subst hs; simp [grammarIntSyn, splitIntSign]
  · by_cases hb : (splitIntSign t.signed s).2 = []
    · have hne : s.isEmpty = false := by simpa using hs
      simp [grammarIntSyn, hne, hb, splitPrefix, takeDigits, splitSuffix, hreq]
    · rw [grammar_accept y t hr hsuf h48 hreq s hs _ _ rfl hb _ rfl v]
      exact ⟨fun h => ⟨h.1, hb, h.2⟩, fun h => ⟨h.1, h.2.2⟩⟩

theorem prefix_acceptS (e : Env) (hs : Simple e.c) (hp : e.partial_ = false) (ht : LexVerif.Proof.ParseInt.IsIntTy e.t)
    (h2 : 2 ≤ e.radix) (h36 : e.radix ≤ 36) (hfeat : e.c.feats.powerOfTwo = true ∨ e.radix = 10)
    (hrd : e.requiredDigits = true) (s : List Nat) (hb : ∀ b ∈ s, b < 256) (v : Int) :
    (∃ k, parseIntFormat e s = .ok (v, k)) ↔
      AcceptS e.c.fmt.noPositiveMantissaSign e.c.fmt.requiredMantissaSign e.t e.radix e.c.caseSensitiveBasePrefix
        e.c.fmt.basePrefix e.c.fmt.noIntegerLeadingZeros s v := by
  obtain ⟨hbody, hneg⟩ := splitIntSign_eq e.t s
  have hsl := signLen_le e.t s
  have hgate := signGate_signOk e s
  rw [parseIntFormat_prefix_eq e hs, AcceptS, hbody, hneg, hrd]
  cases hok : signOk e.c.fmt.noPositiveMantissaSign e.c.fmt.requiredMantissaSign (splitIntSign e.t.signed s).1 with
  | false =>
    obtain ⟨k, hk⟩ := (hgate _).2 hok
    rw [hk]; simp [err]
  | true =>
    rw [(hgate _).1 hok]
    by_cases hl : signLen e.t s = s.length
    · simp [hl, err]
    · have hne : s.drop (signLen e.t s) ≠ [] := by
        intro h; have := congrArg List.length h; simp only [List.length_drop, List.length_nil] at this; omega
      simp only [hl, if_false, true_and, hne, ne_eq, not_false_eq_true]
      exact afterSign_accept e hp ht h2 h36 hfeat _ (by simp) s hb _ (by omega) v

end LexVerif.Proof.PIF
