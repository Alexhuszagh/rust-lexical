import LexVerif.Proof.IterSpec
/-!
# Proof.IterBasic — what the iterators of `parse.rs` guarantee, as `Props/C12` states it

`peek` of every component iterator, for every format and feature set, never moves the cursor backwards or past the end of
the buffer, never changes the buffer or the digit counts, and returns exactly the byte under the cursor it leaves behind — so
`Some` implies the cursor is in range, which is the safety argument of every `step_unchecked` that follows a `peek` in
`parse.rs`; `parse_sign!` reports error indices inside the buffer and leaves a valid cursor. The names are those of `Props/C12`.
-/
namespace LexVerif.Props.C12
open LexVerif LexVerif.Model LexVerif.Proof.IterSpec

/-- the cursor invariant of `Bytes` -/
def Bytes.Valid (b : Bytes) : Prop := b.index ≤ b.slc.length

/-- `peek_1!` / `peek_n!` -/
theorem peekPred_spec (c : Cfg) (p : Pred) (cnt : Nat) (b : Bytes) (h : Bytes.Valid b) :
    let r := peekPred c p cnt b
    r.2.slc = b.slc ∧ r.2.ic = b.ic ∧ r.2.fc = b.fc ∧ r.2.ec = b.ec ∧
    b.index ≤ r.2.index ∧ Bytes.Valid r.2 ∧ r.1 = r.2.slc[r.2.index]? := by
  unfold Bytes.Valid at *
  simp only [peekPred]
  cases hv : b.slc[b.index]? with
  | none => simp [hv, h]
  | some v =>
    have hlt : b.index < b.slc.length := by
      rcases List.getElem?_eq_some_iff.mp hv with ⟨hl, _⟩; exact hl
    simp only
    split
    · split
      · refine ⟨rfl, rfl, rfl, rfl, ?_, ?_, rfl⟩
        · simp only; split <;> omega
        · simp only
          split
          · have := countSeps_le c (b.slc.drop (b.index + 1))
            simp only [List.length_drop] at this
            omega
          · omega
      · simp [hv, h]
    · simp [hv, h]

theorem peek_spec (c : Cfg) (k : Comp) (b b' : Bytes) (v : Option Nat) (h : Bytes.Valid b)
    (hp : peek c k b = .ok (v, b')) :
    b'.slc = b.slc ∧ b'.ic = b.ic ∧ b'.fc = b.fc ∧ b'.ec = b.ec ∧
    b.index ≤ b'.index ∧ Bytes.Valid b' ∧ v = b'.slc[b'.index]? := by
  have hs : c.skip k ≠ .unreachable := fun hu => by simp [peek, hu] at hp
  obtain ⟨rfl, rfl⟩ := (peek_ok_iff hs).1 hp
  exact ⟨rfl, rfl, rfl, rfl, peekIdx_ge .., peekIdx_le _ _ _ _ _ h, rfl⟩

/-- the safety fact used by every `unsafe { iter.step_unchecked() }` after a successful `peek` -/
theorem peek_some_in_range (c : Cfg) (k : Comp) (b b' : Bytes) (x : Nat) (h : Bytes.Valid b)
    (hp : peek c k b = .ok (some x, b')) : b'.index < b'.slc.length := by
  have := (peek_spec c k b b' (some x) h hp).2.2.2.2.2.2
  rcases List.getElem?_eq_some_iff.mp this.symm with ⟨hl, _⟩
  exact hl

/-- `peek` only fails through the `unreachable!()` arm, i.e. for a component whose only separator flag is
"consecutive" — a combination `format.is_valid()` rejects -/
theorem peek_error_iff (c : Cfg) (k : Comp) (b : Bytes) :
    (∃ e, peek c k b = .error e) ↔ c.skip k = .unreachable := by
  unfold peek
  cases c.skip k <;> simp

theorem peek_noformat (c : Cfg) (k : Comp) (b : Bytes) (hf : c.feats.format = false) :
    peek c k b = .ok (b.slc[b.index]?, b) := by
  have hs : c.skip k = .noskip := by
    cases k <;> simp [Cfg.skip, Cfg.sepFlags, Cfg.flag, Cfg.specialSep, hf, SepFlags.skip]
  simp [peek, hs]

theorem stepUnchecked_release (c : Cfg) (contig : Bool) (b : Bytes) (hd : c.debug = false) :
    b.stepUnchecked c contig = .ok { b with index := b.index + 1 } := by
  simp [Bytes.stepUnchecked, Bytes.stepBy, hd]

/-- `parse_sign!` (release build): an error index is the cursor (inside the buffer); on success the cursor stays valid and
moves by at most one. -/
theorem parseSign_spec (c : Cfg) (np rq : Bool) (ip ms : String) (b : Bytes) (h : Bytes.Valid b)
    (hd : c.debug = false) :
    match parseSign c np rq ip ms b with
    | .ok (_, b') => b'.slc = b.slc ∧ Bytes.Valid b' ∧ b.index ≤ b'.index ∧ b'.index ≤ b.index + 1
    | .error (.err _ i) => i = b.index ∧ i ≤ b.slc.length
    | .error _ => False := by
  unfold Bytes.Valid at *
  have inr : ∀ v, b.first = some v → b.index < b.slc.length := by
    intro v hv
    unfold Bytes.first at hv
    rcases List.getElem?_eq_some_iff.mp hv with ⟨hl, _⟩; exact hl
  generalize hres : parseSign c np rq ip ms b = r
  unfold parseSign at hres
  split at hres
  · next hv =>
    have := inr _ hv
    cases np <;>
      simp [Bytes.step, stepUnchecked_release c _ b hd, bind, Except.bind, pure, Except.pure] at hres <;>
      subst hres <;> simp <;> omega
  · next hv =>
    have := inr _ hv
    simp [Bytes.step, stepUnchecked_release c _ b hd, bind, Except.bind, pure, Except.pure] at hres
    subst hres; simp; omega
  · cases rq <;> simp [pure, Except.pure] at hres <;> subst hres <;> simp [h]

theorem incCount_spec (c : Cfg) (k : Comp) (b : Bytes) :
    (b.incCount c k).slc = b.slc ∧ (b.incCount c k).index = b.index := by
  unfold Bytes.incCount
  split
  · exact ⟨rfl, rfl⟩
  · cases k <;> exact ⟨rfl, rfl⟩

/-- `parse_digits` (release build, any format / feature set / component): whenever it returns, the buffer is
unchanged, the cursor moved forward and is still inside the buffer, and it consumed at least one byte per digit. -/
theorem parseDigitsLoop_spec (c : Cfg) (k : Comp) (radix : Nat) (hd : c.debug = false) :
    ∀ (fuel : Nat) (b b' : Bytes) (ds : List Nat), Bytes.Valid b →
      parseDigitsLoop c k radix fuel b = .ok (ds, b') →
      b'.slc = b.slc ∧ Bytes.Valid b' ∧ b.index + ds.length ≤ b'.index := by
  intro fuel b b' ds hv h
  have hs : c.skip k ≠ .unreachable := fun hu => by
    cases fuel <;> simp [parseDigitsLoop, peek, hu, bind, Except.bind] at h
  rw [parseDigitsLoop_eq hs radix fuel b fun _ _ => StepOK.release hd _ _] at h
  split at h
  · simp only [Except.ok.injEq, Prod.mk.injEq] at h
    obtain ⟨rfl, rfl⟩ := h
    obtain ⟨h1, h2⟩ := scan_le (c := c) (k := k) b.slc (isDig radix) fuel (b.iterCount c k == 0) b.index hv
    have := List.length_filterMap_le (charToDigit · radix)
      (scan c k b.slc (isDig radix) fuel (b.iterCount c k == 0) b.index).1
    exact ⟨mv_slc .., by simpa [Bytes.Valid] using h1, by rw [mv_index]; omega⟩
  · cases h

theorem parseDigitsLoop_no_fuel_fault (c : Cfg) (k : Comp) (radix : Nat) (hd : c.debug = false) :
    ∀ (fuel : Nat) (b : Bytes), Bytes.Valid b → b.slc.length - b.index < fuel →
      parseDigitsLoop c k radix fuel b ≠ .error (.fault "fuel") := by
  intro fuel b _ hf
  by_cases hs : c.skip k = .unreachable
  · cases fuel with
    | zero => omega
    | succ n => simp [parseDigitsLoop, peek, hs, bind, Except.bind]
  · rw [parseDigitsLoop_ok hs radix fuel b hf fun _ _ => StepOK.release hd _ _]
    exact fun h => nomatch h

theorem parseDigits_spec (c : Cfg) (k : Comp) (radix : Nat) (hd : c.debug = false) (b b' : Bytes) (ds : List Nat)
    (hv : Bytes.Valid b) (h : parseDigits c k radix b = .ok (ds, b')) :
    b'.slc = b.slc ∧ Bytes.Valid b' ∧ b.index + ds.length ≤ b'.index :=
  parseDigitsLoop_spec c k radix hd _ b b' ds hv h

theorem takeN_valid (c : Cfg) (k : Comp) (n : Nat) (b sub b' : Bytes) (h : Bytes.Valid b)
    (ht : takeN c k n b = some (sub, b')) : Bytes.Valid sub ∧ Bytes.Valid b' ∧ b.index ≤ b'.index := by
  unfold Bytes.Valid at *
  unfold takeN at ht
  split at ht
  · cases ht
    simp only [List.length_take]
    omega
  · cases ht

end LexVerif.Props.C12
