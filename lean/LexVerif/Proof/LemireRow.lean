import LexVerif.Proof.LemireStable
import LexVerif.Proof.LemireRows
/-!
# Proof.LemireRow — `compute_float` over one row of the table, for every sign of `q`

A row for the power `q : Int` holds a 128-bit `T ≈ 5^q·2^σ ∈ [2^127, 2^128)`; `σ : Int` is its scale (`128 − b` for
`q ≥ 0`, `b + 127` for `q < 0`, `b = bitlen 5^|q|`), and `power q = 190 + q − σ` for every row. As a fraction of
naturals `5^q·2^σ = rowA q σ / rowD q σ`, so that the exact value behind the product words is `wn·rowA / (2^64·rowD)`
whatever the signs, and every exponent identity is `pow10_cross`.

`computeFloat_row`: past the early exits `compute_float` is right on a row as soon as the row supplies a `Regime`: off
the fall-back the upper bits are the exact quotient and the tie test is exact; on the fall-back the value lies within
two units of the upper word and within `2^−61` of the computed product. Rows truncated down supply the second half by
`RowDown.fallback`; what is particular to a range of `q` is the tie argument. The rows `0 ≤ q ≤ 308` are done here
(`computeFloat_pos`), `q ≤ −28` and `−27 ≤ q ≤ −1` in `Proof.LemireNegSmall`.
-/
namespace LexVerif.Proof.Lemire
open LexVerif.Spec LexVerif.Model LexVerif.Model.Lemire
open LexVerif.Proof.RoundNE LexVerif.Proof.ExtRound LexVerif.Proof.BinaryCorrect

/-- numerator of `5^q·2^σ` -/
def rowA (q σ : Int) : Nat := 5 ^ q.toNat * 2 ^ σ.toNat
/-- denominator of `5^q·2^σ` -/
def rowD (q σ : Int) : Nat := 5 ^ (-q).toNat * 2 ^ (-σ).toNat

theorem rowD_pos (q σ : Int) : 0 < rowD q σ :=
  Nat.mul_pos (Nat.pow_pos (by decide)) (Nat.two_pow_pos _)

/-- **the one exponent identity**: `w·10^q · 2^a / 2^c = w · (rowA/rowD)` when `q + a = c + σ`. -/
theorem pow10_cross (w : Nat) (q σ : Int) (a c : Nat) (h : q + a = c + σ) :
    w * 10 ^ q.toNat * 2 ^ a * rowD q σ = w * rowA q σ * 2 ^ c * 10 ^ (-q).toNat := by
  have h10 : ∀ n, (10 : Nat) ^ n = 5 ^ n * 2 ^ n := fun n => by rw [← Nat.mul_pow]
  have e : q.toNat + a + (-σ).toNat = σ.toNat + c + (-q).toNat := by omega
  unfold rowA rowD
  calc w * 10 ^ q.toNat * 2 ^ a * (5 ^ (-q).toNat * 2 ^ (-σ).toNat)
      = w * 5 ^ q.toNat * 5 ^ (-q).toNat * 2 ^ (q.toNat + a + (-σ).toNat) := by
        rw [h10]; simp only [Nat.pow_add]; ring
    _ = w * 5 ^ q.toNat * 5 ^ (-q).toNat * 2 ^ (σ.toNat + c + (-q).toNat) := by rw [e]
    _ = w * (5 ^ q.toNat * 2 ^ σ.toNat) * 2 ^ c * 10 ^ (-q).toNat := by
        rw [h10]; simp only [Nat.pow_add]; ring

/-- what every row satisfies, whichever way it is rounded; `σ` ranges over `[128 − 716, 795 + 127]` -/
structure Row (q σ : Int) (hi5 lo5 : Nat) : Prop where
  hi5_lt : hi5 < 2 ^ 64
  lo5_lt : lo5 < 2 ^ 64
  hi5_ge : 2 ^ 63 ≤ hi5
  pow : power (wrapI32 q) = 190 + q - σ
  q_lo : -342 ≤ q
  q_hi : q ≤ 308
  σ_lo : -600 ≤ σ
  σ_hi : σ ≤ 1000

theorem estOK_row {F p eb} (lay : Layout F p eb) {q σ : Int} {hi5 lo5 : Nat} (R : Row q σ hi5 lo5)
    (lz hi w : Nat) (hlz : lz ≤ 63) (hhi : hi < 2 ^ 64) (hhi62 : 2 ^ 62 ≤ hi)
    (hlow : hi * (2 ^ 64 * (2 ^ 64 * rowD q σ)) ≤ w * 2 ^ lz * rowA q σ)
    (hupp : w * 2 ^ lz * rowA q σ < (hi + 2) * (2 ^ 64 * (2 ^ 64 * rowD q σ))) :
    EstOK F p (computeErrorScaled F q hi lz) (powFrac 10 q w).1 (powFrac 10 q w).2 := by
  have hLeq : (L F.fmt : Int) = F.C.exponentBias - 1 := by
    rw [L_eq lay, lay.bias]; have := lay.hL127; omega
  have hbias := lay.bias
  have hb1024 := lay.hb1024
  have hp64 := lay.hp64
  have hB := Nat.two_pow_pos 64
  have h1 := R.q_lo; have h2 := R.q_hi; have h3 := R.σ_lo; have h4 := R.σ_hi
  rw [powFrac_toNat]
  apply estOK_of_bounds lay q hi lz _ _ _ _ hhi hhi62 (by rw [R.pow, hbias]; omega) (by rw [R.pow, hbias]; omega)
    (Nat.mul_pos hB (Nat.mul_pos hB (rowD_pos q σ))) (Nat.pow_pos (by decide)) hlow hupp
  intro hilz K S _ hrel
  rw [R.pow] at hrel
  have := pow10_cross w q σ (L F.fmt + S + 128) (lz + hilz + K) (by omega)
  calc w * 10 ^ q.toNat * 2 ^ L F.fmt * 2 ^ S * (2 ^ 64 * (2 ^ 64 * rowD q σ))
      = w * 10 ^ q.toNat * 2 ^ (L F.fmt + S + 128) * rowD q σ := by simp only [Nat.pow_add]; ring
    _ = w * rowA q σ * 2 ^ (lz + hilz + K) * 10 ^ (-q).toNat := this
    _ = w * 2 ^ lz * rowA q σ * 2 ^ hilz * 2 ^ K * 10 ^ (-q).toNat := by simp only [Nat.pow_add]; ring

theorem cfRound_row {F p eb sm lg rlo rhi} (LL : LemLayout F p eb sm lg rlo rhi) {q σ : Int} {hi5 lo5 : Nat}
    (R : Row q σ hi5 lo5) (lz lo hi w : Nat) (hlz : lz ≤ 63)
    (hhi : hi < 2 ^ 64) (hhi62 : 2 ^ 62 ≤ hi) {u sh : Nat} (hu : hi / 2 ^ 63 = u) (hshv : u + 62 - p = sh)
    (hquot : w * 2 ^ lz * rowA q σ / (2 ^ sh * 2 ^ 64 * (2 ^ 64 * rowD q σ)) = hi / 2 ^ sh)
    (htie : (tieTest F q lo hi sh = true) ↔
        (w * 2 ^ lz * rowA q σ % (2 ^ sh * 2 ^ 64 * (2 ^ 64 * rowD q σ)) = 0 ∧
          w * 2 ^ lz * rowA q σ / (2 ^ sh * 2 ^ 64 * (2 ^ 64 * rowD q σ)) % 4 = 1))
    (hsub : (190 : Int) + q - σ + u - lz + ((2 ^ (eb - 1) - 1 : Nat) : Int) ≤ 0 →
      ∀ t, ¬ w * 2 ^ lz * rowA q σ % (2 ^ sh * 2 ^ 64 * (2 ^ 64 * rowD q σ) * 2 ^ t) = 0) :
    ∃ fp, cfRound F q lo hi lz = .ok fp ∧ 0 ≤ fp.exp ∧
      extendedToFloat F fp = roundNE F.fmt (powFrac 10 q w).1 (powFrac 10 q w).2 := by
  have lay := LL.lay
  have hp := lay.hp
  have hp61 := p_le_61 lay
  obtain ⟨hu01, _, _⟩ := upper_word hp61 hhi hhi62 hu hshv
  have hB := Nat.two_pow_pos 64
  have hDpos : 0 < 2 ^ sh * 2 ^ 64 * (2 ^ 64 * rowD q σ) :=
    Nat.mul_pos (Nat.mul_pos (Nat.two_pow_pos _) hB) (Nat.mul_pos hB (rowD_pos q σ))
  have hL := L_eq lay
  have hL127 := lay.hL127
  have h1 := R.q_lo; have h2 := R.q_hi; have h3 := R.σ_lo; have h4 := R.σ_hi
  have hpwv : power (wrapI32 q) + (u : Int) - (lz : Int) - F.C.minimumExponent =
      (190 : Int) + q - σ + u - lz + ((2 ^ (eb - 1) - 1 : Nat) : Int) := by
    rw [R.pow, LL.minimum]; omega
  rw [powFrac_toNat]
  -- the proportion `num·2^L·(D·2^t·2) = N·(den·2^k)`, from `pow10_cross`
  have cross : ∀ t k : Nat, q + (L F.fmt + (sh + 129 + t) : Nat) = (lz + k : Nat) + σ →
      w * 10 ^ q.toNat * 2 ^ L F.fmt * (2 ^ sh * 2 ^ 64 * (2 ^ 64 * rowD q σ) * 2 ^ t * 2) =
        w * 2 ^ lz * rowA q σ * (10 ^ (-q).toNat * 2 ^ k) := by
    intro t k h
    have := pow10_cross w q σ (L F.fmt + (sh + 129 + t)) (lz + k) h
    calc _ = w * 10 ^ q.toNat * 2 ^ (L F.fmt + (sh + 129 + t)) * rowD q σ := by simp only [Nat.pow_add]; ring
      _ = _ := this
      _ = _ := by simp only [Nat.pow_add]; ring
  by_cases hnormal : (1 : Int) ≤ (190 : Int) + q - σ + u - lz + ((2 ^ (eb - 1) - 1 : Nat) : Int)
  · obtain ⟨En, hEn⟩ : ∃ En : Nat, (190 : Int) + q - σ + u - lz + ((2 ^ (eb - 1) - 1 : Nat) : Int) = ((En + 1 : Nat) : Int) :=
      ⟨((190 : Int) + q - σ + u - lz + ((2 ^ (eb - 1) - 1 : Nat) : Int) - 1).toNat, by omega⟩
    exact cfRound_of_quot LL q lo hi lz hhi hhi62 u sh hu hshv (w * 2 ^ lz * rowA q σ)
      (2 ^ sh * 2 ^ 64 * (2 ^ 64 * rowD q σ)) En hDpos hquot.symm htie (by rw [hpwv, hEn])
      (Nat.pow_pos (by decide)) (by
        have := cross 0 En (by omega)
        rwa [Nat.pow_zero, Nat.mul_one] at this)
  · obtain ⟨t, ht⟩ : ∃ t : Nat, (190 : Int) + q - σ + u - lz + ((2 ^ (eb - 1) - 1 : Nat) : Int) = 1 - (t : Int) :=
      ⟨(1 - ((190 : Int) + q - σ + u - lz + ((2 ^ (eb - 1) - 1 : Nat) : Int))).toNat, by omega⟩
    exact cfRound_sub LL q lo hi lz hhi hhi62 u sh hu hshv (w * 2 ^ lz * rowA q σ)
      (2 ^ sh * 2 ^ 64 * (2 ^ 64 * rowD q σ)) t hDpos hquot.symm (by omega) (fun h => hsub (by omega) t h.1)
      (by rw [hpwv, ht]) (Nat.pow_pos (by decide)) (cross t 0 (by omega))

/-- the witness of `LossyOK` is the computed product read as exact: `z·2^E` with `E = 64 − lz − σ + q` -/
theorem lossyOK_row {F p eb sm lg rlo rhi} (LL : LemLayout F p eb sm lg rlo rhi) {q σ : Int} {hi5 lo5 : Nat}
    (R : Row q σ hi5 lo5) (lz hi lo w : Nat) (hlo : lo < 2 ^ 64) (hall : lo + 1 = 2 ^ 64)
    (hhi : hi < 2 ^ 64) (hhi62 : 2 ^ 62 ≤ hi)
    (hlossy : computeFloat F q w true = cfRound F q lo hi lz)
    (hzl : (hi * 2 ^ 64 + lo) * (2 ^ 64 * rowD q σ) ≤ w * 2 ^ lz * rowA q σ)
    (hzu : w * 2 ^ lz * rowA q σ * 2 ^ 61 ≤ (hi * 2 ^ 64 + lo) * (2 ^ 64 * rowD q σ) * (2 ^ 61 + 1)) :
    LossyOK F q w (powFrac 10 q w).1 (powFrac 10 q w).2 := by
  have lay := LL.lay
  have hp := lay.hp
  have hp61 := p_le_61 lay
  generalize hu : hi / 2 ^ 63 = u
  generalize hshv : u + 62 - p = sh
  obtain ⟨hu01, _, _⟩ := upper_word hp61 hhi hhi62 hu hshv
  have hL := L_eq lay
  have hL127 := lay.hL127
  have h1 := R.q_lo; have h2 := R.q_hi; have h3 := R.σ_lo; have h4 := R.σ_hi
  have hpwv : power (wrapI32 q) + (u : Int) - (lz : Int) - F.C.minimumExponent =
      (190 : Int) + q - σ + u - lz + ((2 ^ (eb - 1) - 1 : Nat) : Int) := by
    rw [R.pow, LL.minimum]; omega
  rw [powFrac_toNat]
  generalize hE : (64 : Int) - lz - σ + q = E
  have hzpos : 0 < (hi * 2 ^ 64 + lo) * (2 ^ 64 * rowD q σ) :=
    Nat.mul_pos (by omega) (Nat.mul_pos (Nat.two_pow_pos _) (rowD_pos q σ))
  have hd' : 0 < 2 ^ (-E).toNat := Nat.two_pow_pos _
  obtain ⟨hb1, hb2⟩ := lossy_of_prop (n' := (hi * 2 ^ 64 + lo) * 2 ^ E.toNat) (d' := 2 ^ (-E).toNat)
    (num := w * 10 ^ q.toNat) (den := 10 ^ (-q).toNat) hzpos hzl hzu (by
      have := pow10_cross w q σ ((-E).toNat + 64) (E.toNat + lz) (by omega)
      calc _ = (hi * 2 ^ 64 + lo) * (w * rowA q σ * 2 ^ (E.toNat + lz) * 10 ^ (-q).toNat) := by
            rw [Nat.pow_add]; ring
        _ = (hi * 2 ^ 64 + lo) * (w * 10 ^ q.toNat * 2 ^ ((-E).toNat + 64) * rowD q σ) := by rw [this]
        _ = _ := by rw [Nat.pow_add]; ring)
  have hX : ∀ t k : Nat, E + (L F.fmt + (sh + 65 + t) : Nat) = k →
      (hi * 2 ^ 64 + lo) * 2 ^ E.toNat * 2 ^ L F.fmt * (2 ^ sh * 2 ^ 64 * 2 ^ t * 2) =
        (hi * 2 ^ 64 + lo) * (2 ^ (-E).toNat * 2 ^ k) := by
    intro t k h
    calc _ = (hi * 2 ^ 64 + lo) * 2 ^ (E.toNat + L F.fmt + (sh + 65 + t)) := by simp only [Nat.pow_add]; ring
      _ = (hi * 2 ^ 64 + lo) * 2 ^ ((-E).toNat + k) := by rw [show E.toNat + L F.fmt + (sh + 65 + t) = (-E).toNat + k by omega]
      _ = _ := by rw [Nat.pow_add]
  by_cases hnormal : (1 : Int) ≤ (190 : Int) + q - σ + u - lz + ((2 ^ (eb - 1) - 1 : Nat) : Int)
  · obtain ⟨En, hEn⟩ : ∃ En : Nat, (190 : Int) + q - σ + u - lz + ((2 ^ (eb - 1) - 1 : Nat) : Int) = ((En + 1 : Nat) : Int) :=
      ⟨((190 : Int) + q - σ + u - lz + ((2 ^ (eb - 1) - 1 : Nat) : Int) - 1).toNat, by omega⟩
    obtain ⟨fp, hfp1, hfp2, hfp3⟩ := cfRound_computed_normal LL q lo hi lz (by omega) hlo
      hhi hhi62 u sh hu hshv En (by rw [hpwv, hEn]) hd' (by
        have := hX 0 En (by omega)
        rwa [Nat.pow_zero, Nat.mul_one] at this)
    exact ⟨fp, _, _, by rw [hlossy]; exact hfp1, hfp2, hd', hfp3, hb1, hb2⟩
  · obtain ⟨t, ht⟩ : ∃ t : Nat, (190 : Int) + q - σ + u - lz + ((2 ^ (eb - 1) - 1 : Nat) : Int) = 1 - (t : Int) :=
      ⟨(1 - ((190 : Int) + q - σ + u - lz + ((2 ^ (eb - 1) - 1 : Nat) : Int))).toNat, by omega⟩
    obtain ⟨fp, hfp1, hfp2, hfp3⟩ := cfRound_computed_sub LL q lo hi lz (by omega) hlo
      hhi hhi62 u sh hu hshv t (by omega) (by rw [hpwv, ht]) hd' (hX t 0 (by omega))
    exact ⟨fp, _, _, by rw [hlossy]; exact hfp1, hfp2, hd', hfp3, hb1, hb2⟩

/-- what a regime has to supply about the product words `(lo, hi)` of `wn = w·2^lz` with a row: off the fall-back the
upper bits are the exact quotient, the tie test is exact, and no deeper bit pattern is a tie; on the fall-back the
value lies in `[hi, hi + 2)` and within `2^-61` of the computed product. `N / Dz = wn·5^q·2^σ / 2^64`. -/
structure Regime (F : FTy) (p eb : Nat) (q σ : Int) (wn lz lo hi : Nat) : Prop where
  main : ¬ (lo = litAllOnes ∧ ¬ (-27 ≤ q ∧ q ≤ 55)) → ∀ u sh, hi / 2 ^ 63 = u → u + 62 - p = sh →
    wn * rowA q σ / (2 ^ sh * 2 ^ 64 * (2 ^ 64 * rowD q σ)) = hi / 2 ^ sh ∧
    ((tieTest F q lo hi sh = true) ↔
        (wn * rowA q σ % (2 ^ sh * 2 ^ 64 * (2 ^ 64 * rowD q σ)) = 0 ∧
          wn * rowA q σ / (2 ^ sh * 2 ^ 64 * (2 ^ 64 * rowD q σ)) % 4 = 1)) ∧
    ((190 : Int) + q - σ + u - lz + ((2 ^ (eb - 1) - 1 : Nat) : Int) ≤ 0 →
      ∀ t, ¬ wn * rowA q σ % (2 ^ sh * 2 ^ 64 * (2 ^ 64 * rowD q σ) * 2 ^ t) = 0)
  fallback : lo = litAllOnes → ¬ (-27 ≤ q ∧ q ≤ 55) →
    hi * (2 ^ 64 * (2 ^ 64 * rowD q σ)) ≤ wn * rowA q σ ∧
    wn * rowA q σ < (hi + 2) * (2 ^ 64 * (2 ^ 64 * rowD q σ)) ∧
    (hi * 2 ^ 64 + lo) * (2 ^ 64 * rowD q σ) ≤ wn * rowA q σ ∧
    wn * rowA q σ * 2 ^ 61 ≤ (hi * 2 ^ 64 + lo) * (2 ^ 64 * rowD q σ) * (2 ^ 61 + 1)

/-- **`compute_float` inside the table, for any row and any regime** — the statement of `computeFloat_cases`. -/
theorem computeFloat_row {F p eb sm lg rlo rhi} (LL : LemLayout F p eb sm lg rlo rhi) {q σ : Int} {hi5 lo5 : Nat}
    (R : Row q σ hi5 lo5) (hq1 : -(sm : Int) ≤ q) (hq2 : q ≤ lg)
    (hrow : Gen.Lemire.powerOfFive128[(q + 342).toNat]? = some (hi5, lo5)) (w : Nat) (hw0 : w ≠ 0) (hw : w < 2 ^ 64)
    (reg : ∀ lo hi, Product p (w * 2 ^ clz64 w) hi5 lo5 lo hi → Regime F p eb q σ (w * 2 ^ clz64 w) (clz64 w) lo hi) :
    ∃ fp, computeFloat F q w false = .ok fp ∧
      (0 ≤ fp.exp → extendedToFloat F fp = roundNE F.fmt (powFrac 10 q w).1 (powFrac 10 q w).2) ∧
      (fp.exp < 0 → ¬ (-27 ≤ q ∧ q ≤ 55) ∧ EstOK F p fp (powFrac 10 q w).1 (powFrac 10 q w).2 ∧
        LossyOK F q w (powFrac 10 q w).1 (powFrac 10 q w).2) := by
  have lay := LL.lay
  obtain ⟨hlz, _, _, _⟩ := clz_norm hw0 hw
  obtain ⟨lo, hi, P, hcf, hlossy⟩ := computeFloat_mid LL hq1 hq2 hw0 hw hrow R.hi5_lt R.lo5_lt R.hi5_ge
  have G := reg lo hi P
  rw [hcf]
  by_cases hfb : lo = litAllOnes ∧ ¬ (-27 ≤ q ∧ q ≤ 55)
  · rw [if_pos hfb]
    have hall : lo + 1 = 2 ^ 64 := by rw [hfb.1]; decide
    obtain ⟨hlow, hupp, hzl, hzu⟩ := G.fallback hfb.1 hfb.2
    refine ⟨_, rfl, fun hv => ?_, fun _ => ⟨hfb.2, ?_, ?_⟩⟩
    · have := computeErrorScaled_neg lay q hi (clz64 w) R.q_lo R.q_hi
      omega
    · exact estOK_row lay R _ hi w hlz P.hi_lt P.hi_ge hlow hupp
    · exact lossyOK_row LL R _ hi lo w P.lo_lt hall P.hi_lt P.hi_ge hlossy hzl hzu
  · rw [if_neg hfb]
    obtain ⟨hquot, htie, hsub⟩ := G.main hfb _ _ rfl rfl
    obtain ⟨fp, hfp1, hfp2, hfp3⟩ := cfRound_row LL R _ lo hi w hlz P.hi_lt P.hi_ge rfl rfl hquot htie hsub
    exact ⟨fp, hfp1, fun _ => hfp3, fun h => absurd h (by omega)⟩

structure RowDown (q σ : Int) (hi5 lo5 : Nat) : Prop extends Row q σ hi5 lo5 where
  lower : (hi5 * 2 ^ 64 + lo5) * rowD q σ ≤ rowA q σ
  upper : rowA q σ < (hi5 * 2 ^ 64 + lo5 + 1) * rowD q σ

theorem RowDown.hi_bounds {p q σ hi5 lo5 wn lo hi} (R : RowDown q σ hi5 lo5) (P : Product p wn hi5 lo5 lo hi) :
    hi * (2 ^ 64 * (2 ^ 64 * rowD q σ)) ≤ wn * rowA q σ ∧
    wn * rowA q σ < (hi + 2) * (2 ^ 64 * (2 ^ 64 * rowD q σ)) := by
  have hwn0 : 0 < wn := by have := P.wn_ge; have := Nat.two_pow_pos 63; omega
  obtain ⟨hNlo, hNhi⟩ := scale_row_down hwn0 R.lower R.upper
  exact hi_bounds_down P hNlo hNhi

theorem RowDown.fallback {p q σ hi5 lo5 wn lo hi} (R : RowDown q σ hi5 lo5) (P : Product p wn hi5 lo5 lo hi)
    (hall : lo = litAllOnes) :
    hi * (2 ^ 64 * (2 ^ 64 * rowD q σ)) ≤ wn * rowA q σ ∧
    wn * rowA q σ < (hi + 2) * (2 ^ 64 * (2 ^ 64 * rowD q σ)) ∧
    (hi * 2 ^ 64 + lo) * (2 ^ 64 * rowD q σ) ≤ wn * rowA q σ ∧
    wn * rowA q σ * 2 ^ 61 ≤ (hi * 2 ^ 64 + lo) * (2 ^ 64 * rowD q σ) * (2 ^ 61 + 1) := by
  have hwn0 : 0 < wn := by have := P.wn_ge; have := Nat.two_pow_pos 63; omega
  obtain ⟨hNlo, hNhi⟩ := scale_row_down hwn0 R.lower R.upper
  obtain ⟨a, b⟩ := R.hi_bounds P
  obtain ⟨c, d⟩ := lossy_bounds P hNlo hNhi (by rw [hall]; decide)
  exact ⟨a, b, c, d⟩

theorem computeError_estOK_row {F p eb} (lay : Layout F p eb) {q σ : Int} {hi5 lo5 : Nat} (R : Row q σ hi5 lo5)
    (hrow : Gen.Lemire.powerOfFive128[(q + 342).toNat]? = some (hi5, lo5)) (w : Nat) (hw0 : w ≠ 0) (hw : w < 2 ^ 64)
    (hb : ∀ lo hi, Product p (w * 2 ^ clz64 w) hi5 lo5 lo hi →
      hi * (2 ^ 64 * (2 ^ 64 * rowD q σ)) ≤ w * 2 ^ clz64 w * rowA q σ ∧
      w * 2 ^ clz64 w * rowA q σ < (hi + 2) * (2 ^ 64 * (2 ^ 64 * rowD q σ))) :
    ∃ fp, computeError F q w = .ok fp ∧ EstOK F p fp (powFrac 10 q w).1 (powFrac 10 q w).2 := by
  obtain ⟨hlz, _, _, _⟩ := clz_norm hw0 hw
  obtain ⟨lo, hi, P, _, hce⟩ := product_mid lay R.q_lo R.q_hi hw0 hw hrow R.hi5_lt R.lo5_lt R.hi5_ge
  obtain ⟨hlow, hupp⟩ := hb lo hi P
  exact ⟨_, hce, estOK_row lay R _ hi w hlz P.hi_lt P.hi_ge hlow hupp⟩

theorem rowA_nat (q b : Nat) : rowA (q : Int) ((128 : Int) - b) = 5 ^ q * 2 ^ (128 - b) := by
  unfold rowA; rw [Int.toNat_natCast, show ((128 : Int) - b).toNat = 128 - b by omega]
theorem rowD_nat (q b : Nat) : rowD (q : Int) ((128 : Int) - b) = 2 ^ (b - 128) := by
  unfold rowD
  rw [show (-(q : Int)).toNat = 0 by omega, show (-((128 : Int) - b)).toNat = b - 128 by omega, Nat.pow_zero, Nat.one_mul]
theorem rowA_neg (e s : Nat) : rowA (-(e : Int)) (s : Int) = 2 ^ s := by
  unfold rowA; rw [show (-(e : Int)).toNat = 0 by omega, Int.toNat_natCast, Nat.pow_zero, Nat.one_mul]
theorem rowD_neg (e s : Nat) : rowD (-(e : Int)) (s : Int) = 5 ^ e := by
  unfold rowD
  rw [show (-(-(e : Int))).toNat = e by omega, show (-(s : Int)).toNat = 0 by omega, Nat.pow_zero, Nat.mul_one]

theorem RowDown.of_pos {q b hi5 lo5 : Nat} (h : RowPos q b hi5 lo5) (h308 : q ≤ 308) :
    RowDown q ((128 : Int) - b) hi5 lo5 := by
  obtain ⟨a1, a2, a3, a4, a5, a6, a7, _⟩ := h
  refine ⟨⟨a1, a2, a3, by rw [a6]; omega, by omega, by omega, by omega, by omega⟩, ?_, ?_⟩
  · rw [rowA_nat, rowD_nat]; exact a4
  · rw [rowA_nat, rowD_nat]; exact a5

theorem RowDown.of_neg {e b hi5 lo5 : Nat} (h : RowNeg e b hi5 lo5) (h342 : e ≤ 342) :
    RowDown (-(e : Int)) ((b + 127 : Nat) : Int) hi5 lo5 := by
  obtain ⟨a1, a2, a3, _, a4, a5, a6, a7⟩ := h
  refine ⟨⟨a1, a2, a3, by rw [a6]; omega, by omega, by omega, by omega, by omega⟩, ?_, ?_⟩
  · rw [rowA_neg, rowD_neg]; exact a4
  · rw [rowA_neg, rowD_neg]; exact a5

/-- a row with `bitlen (5^q) ≤ 63` is exact with a zero low word: the computed `z` is the product itself, and it is even -/
theorem exact_row_product {p wn hi5 lo5 lo hi q b : Nat} (P : Product p wn hi5 lo5 lo hi) (hlo5 : lo5 < 2 ^ 64)
    (hb : b ≤ 63) (hTlo : hi5 * 2 ^ 64 + lo5 ≤ 5 ^ q * 2 ^ (128 - b)) (hThi : 5 ^ q * 2 ^ (128 - b) < hi5 * 2 ^ 64 + lo5 + 1) :
    wn * (5 ^ q * 2 ^ (128 - b)) = (hi * 2 ^ 64 + lo) * 2 ^ 64 ∧ (lo ≤ 1 → lo = 0) := by
  obtain ⟨c, hc⟩ : ∃ c, 5 ^ q * 2 ^ (128 - b) = 2 ^ 64 * (2 * c) := ⟨5 ^ q * 2 ^ (63 - b), by
    rw [show 128 - b = 64 + 1 + (63 - b) by omega, Nat.pow_add, Nat.pow_add]; ring⟩
  rw [hc] at hTlo hThi ⊢
  have hhi5c : hi5 = 2 * c := by omega
  have hT : hi5 * 2 ^ 64 + lo5 = 2 ^ 64 * (2 * c) := by omega
  have hX : wn * (2 ^ 64 * (2 * c)) = 2 * (wn * c) * 2 ^ 64 := by ring
  have hz : hi * 2 ^ 64 + lo = 2 * (wn * c) := by
    rcases P.upper with h | ⟨_, h, _⟩
    · have hl := P.lower
      rw [hT, hX] at h hl
      exact Nat.le_antisymm (Nat.le_of_mul_le_mul_right hl (Nat.two_pow_pos 64))
        (Nat.lt_succ_iff.mp (Nat.lt_of_mul_lt_mul_right h))
    · rw [h, hhi5c]; ring
  rw [hX, hz]
  exact ⟨rfl, fun h1 => by omega⟩

/-- **`compute_float` for `0 ≤ q ≤ 308`** (rows truncated down, exact up to `q = 55`): it answers, and a valid answer is
`roundNE (w·10^q)`. The tie test is complete: an exact tie forces `5^q` to divide an odd `(p+1)`-bit number, i.e.
`q ≤ MAX_EXPONENT_ROUND_TO_EVEN`, where the row is exact with a zero low word. An invalid-marked answer occurs only when
the low word is all ones on a truncated row (`q > 55`). -/
theorem computeFloat_pos {F p eb sm lg rlo rhi} (LL : LemLayout F p eb sm lg rlo rhi) (hrhi : rhi < 28)
    (q : Nat) (hqlg : (q : Int) ≤ lg) (w : Nat) (hw0 : w ≠ 0) (hw : w < 2 ^ 64) :
    ∃ fp, computeFloat F (q : Int) w false = .ok fp ∧
      (0 ≤ fp.exp → extendedToFloat F fp = roundNE F.fmt (powFrac 10 q w).1 (powFrac 10 q w).2) ∧
      (fp.exp < 0 → ¬ (-27 ≤ (q : Int) ∧ (q : Int) ≤ 55) ∧ EstOK F p fp (powFrac 10 q w).1 (powFrac 10 q w).2 ∧
        LossyOK F q w (powFrac 10 q w).1 (powFrac 10 q w).2) := by
  have lay := LL.lay
  have hp := lay.hp
  have hp61 := p_le_61 lay
  have h308 : q ≤ 308 := by have := LL.lg308; omega
  obtain ⟨hi5, lo5, b, hrow, hR⟩ := rows_pos q h308
  have R := RowDown.of_pos hR h308
  obtain ⟨hhi5, hlo5, hhi5n, hTlo, hThi, hpow, hb716, hb63, hb65, hb128, hb129⟩ := hR
  obtain ⟨hlz, hwn1, hwn2, _⟩ := clz_norm hw0 hw
  have hwn0 : 0 < w * 2 ^ clz64 w := by have := Nat.two_pow_pos 63; omega
  refine computeFloat_row LL R.toRow (by omega) hqlg
    (by rw [show ((q : Int) + 342).toNat = q + 342 by omega]; exact hrow) w hw0 hw fun lo hi P =>
    ⟨fun hfb u sh hu hshv => ?_, fun hall _ => R.fallback P hall⟩
  generalize clz64 w = lz at *
  obtain ⟨hNlo, hNhi⟩ := scale_row_down hwn0 R.lower R.upper
  rw [rowA_nat, rowD_nat] at hNlo hNhi ⊢
  have hKpos := Nat.two_pow_pos (b - 128)
  have hB := Nat.two_pow_pos 64
  have hexact : b ≤ 128 → w * 2 ^ lz * (5 ^ q * 2 ^ (128 - b)) = w * 2 ^ lz * (hi5 * 2 ^ 64 + lo5) * 2 ^ (b - 128) := by
    intro hb'
    have hk0 : b - 128 = 0 := by omega
    rw [hk0, Nat.pow_zero, Nat.mul_one] at hTlo hThi ⊢
    rw [Nat.le_antisymm (Nat.lt_succ_iff.mp hThi) hTlo]
  have hsafe : lo + 2 ≤ 2 ^ 64 ∨
      w * 2 ^ lz * (5 ^ q * 2 ^ (128 - b)) = w * 2 ^ lz * (hi5 * 2 ^ 64 + lo5) * 2 ^ (b - 128) := by
    by_cases hl : lo = litAllOnes
    · exact Or.inr (hexact (hb128 (by
        apply Classical.byContradiction; intro hc; exact hfb ⟨hl, by omega⟩)))
    · have := P.lo_lt
      have : litAllOnes = 2 ^ 64 - 1 := by decide
      exact Or.inl (by omega)
  have hquot := upper_bits_lower hp61 P hKpos hNlo hNhi hsafe hu hshv
  obtain ⟨hu01, hm0lo, hm0up⟩ := upper_word hp61 P.hi_lt P.hi_ge hu hshv
  have hDpow : 2 ^ sh * 2 ^ 64 * (2 ^ 64 * 2 ^ (b - 128)) = 2 ^ (sh + 64 + (64 + (b - 128))) := by
    rw [← Nat.pow_add, ← Nat.pow_add, ← Nat.pow_add]
  refine ⟨hquot, ?_, fun h => by
    exfalso
    have := lay.hpb
    have hu0 : 0 ≤ (u : Int) := Int.natCast_nonneg u
    omega⟩
  generalize hNv : w * 2 ^ lz * (5 ^ q * 2 ^ (128 - b)) = N at *
  have hshl : shl64 (hi / 2 ^ sh) sh = hi / 2 ^ sh * 2 ^ sh := by
    unfold shl64
    apply Nat.mod_eq_of_lt
    have := Nat.div_mul_le_self hi (2 ^ sh)
    have := P.hi_lt
    omega
  have hdm := Nat.div_add_mod hi (2 ^ sh)
  unfold tieTest
  rw [LL.minRTE, LL.maxRTE, hquot, hshl]
  unfold litTieLo litTieMask litTieVal
  simp only [Bool.and_eq_true, decide_eq_true_eq, beq_iff_eq]
  by_cases hwin : q ≤ rhi
  · have hb63' := hb63 (by omega)
    have hk0 : b - 128 = 0 := by omega
    rw [hk0, Nat.pow_zero, Nat.mul_one] at hTlo hThi
    obtain ⟨hNz, hlo01⟩ := exact_row_product P hlo5 hb63' hTlo hThi
    rw [hNv] at hNz
    constructor
    · rintro ⟨⟨⟨⟨h1, _⟩, _⟩, h4⟩, h5⟩
      refine ⟨?_, h4⟩
      rw [hNz, hlo01 h1, Nat.add_zero, ← h5, show hi / 2 ^ sh * 2 ^ sh * 2 ^ 64 * 2 ^ 64 =
        hi / 2 ^ sh * (2 ^ sh * 2 ^ 64 * (2 ^ 64 * 2 ^ (b - 128))) by rw [hk0, Nat.pow_zero]; ring]
      exact Nat.mul_mod_left _ _
    · rintro ⟨hmod0, h4⟩
      obtain ⟨hl0, hr0⟩ := tie_pattern_of_exact hi lo sh N (2 ^ 64 * 2 ^ (b - 128)) hquot
        (by rw [hNz, hk0, Nat.pow_zero, Nat.mul_one]; exact Nat.lt_add_of_pos_right hB) hmod0
      refine ⟨⟨⟨⟨hl0 ▸ Nat.zero_le 1, Int.le_trans (Int.neg_nonpos_of_nonneg (Int.natCast_nonneg rlo))
        (Int.natCast_nonneg q)⟩, Int.ofNat_le.mpr hwin⟩, h4⟩, ?_⟩
      rw [Nat.mul_comm] at hdm; omega
  · constructor
    · rintro ⟨⟨⟨_, h3⟩, _⟩, _⟩
      omega
    · rintro ⟨hmod0, _⟩
      exfalso
      have hdmN := Nat.div_add_mod N (2 ^ sh * 2 ^ 64 * (2 ^ 64 * 2 ^ (b - 128)))
      rw [hmod0, Nat.add_zero, hquot, hDpow] at hdmN
      have h5 := five_pow_le_of_tie q (w * 2 ^ lz) (128 - b) (hi / 2 ^ sh) _
        (by have := Nat.two_pow_pos p; omega) (by rw [hNv, ← hdmN, Nat.mul_comm])
      have h6 : 5 ^ (rhi + 1) ≤ 5 ^ q := Nat.pow_le_pow_right (by decide) (by omega)
      have h7 := LL.rte_ok
      rw [Nat.pow_succ, Nat.mul_comm] at h7
      omega

end LexVerif.Proof.Lemire
