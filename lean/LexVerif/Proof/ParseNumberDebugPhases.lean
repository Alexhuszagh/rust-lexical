import LexVerif.Proof.ParseNumberTotalPhases
import LexVerif.Proof.ParseNumberDebugSkip
/-!
# Proof.ParseNumberDebugPhases — the phases of `parse_number` under `Ctx`

What the integer and the fraction phase did (`IntRun`, `FracRun` of `Proof/ParseNumberTotalPhases.lean`) gives, for `Good`
iterators (never skipping, or skipping every separator), that the slices they stored hold digits and skipped separators
only (`IntOk`, `FracOk`).
-/
namespace LexVerif.Proof.PNDebug
open LexVerif LexVerif.Model LexVerif.Spec
open LexVerif.Props.C12 (Bytes.Valid)
open LexVerif.Proof.PNTotal (Adv IntRun FracRun)

variable {c : Cfg}

theorem slice_all {P : Nat → Prop} {s : List Nat} {i j L : Nat} (h : ∀ n, i ≤ n → n < j → ∃ x, s[n]? = some x ∧ P x)
    (hL : L ≤ j - i) : ∀ x ∈ (s.drop i).take L, P x := by
  intro x hx
  obtain ⟨n, hn⟩ := List.mem_iff_getElem?.mp hx
  rw [List.getElem?_take] at hn
  split at hn
  · next hlt =>
    rw [List.getElem?_drop] at hn
    obtain ⟨y, hy, hd⟩ := h (i + n) (by omega) (by omega)
    rw [hn] at hy; cases hy; exact hd
  · cases hn

theorem slice_allDig {r : Nat} {s : List Nat} {i j L : Nat} (h : DigRange r s i j) (hL : L ≤ j - i) :
    ∀ x ∈ (s.drop i).take L, IsDig r x := slice_all h hL

theorem _root_.LexVerif.Proof.PNTotal.PassOk.allDS (cx : Ctx c) {k : Comp} (hg : Good c k) {st e : Bytes}
    (h : PNTotal.PassOk c k st e) : ∀ x ∈ (st.slc.drop st.index).take (Phase.storedLen c k st e), DSk c k x :=
  slice_all ((h.between (cx.multi k)).toDS hg) (Phase.storedLen_le h.adv)

structure IntOk (c : Cfg) (b : Bytes) (ip : IntPart) : Prop where
  advStart : Adv b ip.start
  advByte : Adv ip.start ip.byte
  nle : ip.nDigits ≤ ip.byte.index - ip.start.index
  nbc : c.bytesContiguous = true → ip.nDigits = ip.byte.index - ip.start.index
  digits : ∃ L, L ≤ ip.byte.index - ip.start.index ∧ (c.bytesContiguous = true → L = ip.nDigits) ∧
    ip.integerDigits = (b.slc.drop ip.start.index).take L
  range : DSRange c .integer b.slc ip.start.index ip.byte.index

theorem IntOk.allDS {b : Bytes} {ip : IntPart} (h : IntOk c b ip) : ∀ x ∈ ip.integerDigits, DSk c .integer x := by
  obtain ⟨L, hL, _, hd⟩ := h.digits
  rw [hd]; exact slice_all h.range hL

theorem IntOk.of_run (cx : Ctx c) (hi : Good c .integer) {b : Bytes} {ip : IntPart}
    (h : IntRun c b ip) : IntOk c b ip := by
  have ha := h.pass.adv
  refine ⟨h.advStart, ha, h.nle, fun hbc => (h.bc hbc).1, ⟨Phase.storedLen c .integer ip.start ip.byte, Phase.storedLen_le ha, fun hbc => ?_, ?_⟩, ?_⟩
  · rw [Phase.storedLen_bc hbc, (h.bc hbc).1]
  · rw [h.digits, h.advStart.slc]
  · rw [← h.advStart.slc]; exact (h.pass.between (cx.multi _)).toDS hi

structure FracOk (c : Cfg) (byte : Bytes) (fp : FracPart) : Prop where
  adv : Adv byte fp.byte
  noFrac : fp.fraction = none → fp.nAfterDot = 0
  digits : ∀ fd, fp.fraction = some fd → ∀ x ∈ fd, DSk c .fraction x

theorem FracOk.of_run (cx : Ctx c) (hf : Good c .fraction) {o : POpts} {byte : Bytes}
    {m : Nat} {fp : FracPart} (h : FracRun c o byte m fp) (hb : Bytes.Valid byte) : FracOk c byte fp := by
  refine ⟨h.adv hb, h.noFrac, fun fd hfd => ?_⟩
  obtain ⟨hd, rfl⟩ := h.stored hfd
  exact (h.point hd).pass.allDS cx hf

end LexVerif.Proof.PNDebug
