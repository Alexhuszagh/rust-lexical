import LexVerif.Proof.WriteIntAlgorithm
/-!
# Proof.WriteIntDecimalCount — `fast_digit_count` (all `u32`), `fallback_digit_count` / `fast_log10` (u64, u128)
are the exact decimal digit count
-/
namespace LexVerif.Model.WriteInt
open LexVerif.Spec

/-- with `D` digits known up to one, the count is decided by the one power of ten in between -/
theorem decLen_threshold (x D : Nat) (hD : 1 ≤ D) (hlo : D = 1 ∨ 10 ^ (D - 1) ≤ x) (hhi : x < 10 ^ (D + 1)) :
    (toDigits 10 x).length = if 10 ^ D ≤ x then D + 1 else D := by
  by_cases h : 10 ^ D ≤ x
  · rw [if_pos h]
    exact toDigits_length_eq 10 x (D + 1) (by omega) (by omega) hhi (Or.inr h)
  · rw [if_neg h]
    exact toDigits_length_eq 10 x D (by omega) hD (by omega) hlo

/-- adding `T = (D+1)·K - P` and taking the high word compares with `P`: this is how a row of the
`fast_digit_count` table works, `K = 2^32`, `P = 10^D` -/
theorem shifted_count (x K D P T : Nat) (hx : x < K) (hP : P ≤ K) (hT : T + P = (D + 1) * K) :
    (x + T) / K = if P ≤ x then D + 1 else D := by
  have hK : (D + 1) * K = D * K + K := by rw [Nat.add_mul, Nat.one_mul]
  by_cases h : P ≤ x
  · rw [if_pos h, show x + T = (x - P) + (D + 1) * K by omega, Nat.add_mul_div_right _ _ (by omega),
      Nat.div_eq_of_lt (by omega), Nat.zero_add]
  · rw [if_neg h, show x + T = (x + K - P) + D * K by omega, Nat.add_mul_div_right _ _ (by omega),
      Nat.div_eq_of_lt (by omega), Nat.zero_add]

/-- what row `j` of the `fast_digit_count` table must satisfy (`D` = decimal digits of `2^j`): either it compares with
`10^D`, or no power of ten lies in `[2^j, 2^(j+1))` and it adds the constant `D` -/
def RowOK (j T : Nat) : Prop :=
  let D := (toDigits 10 (2 ^ j)).length
  1 ≤ D ∧ (j = 0 → D = 1) ∧ 10 ^ (D - 1) ≤ 2 ^ j ∧ 2 ^ (j + 1) ≤ 10 ^ (D + 1) ∧ T + 2 ^ 32 ≤ 2 ^ 64 ∧
    ((10 ^ D ≤ 2 ^ 32 ∧ T + 10 ^ D = (D + 1) * 2 ^ 32) ∨ (T = D * 2 ^ 32 ∧ 2 ^ (j + 1) ≤ 10 ^ D))

instance (j T : Nat) : Decidable (RowOK j T) := by unfold RowOK; infer_instance

theorem fastDigitCount_rows : ∀ j, j < 32 → RowOK j (fastDigitCountTable.getD j 0) := by decide +kernel

theorem fastLog2_lt (bits x : Nat) (hb : 1 ≤ bits) (hx : x < 2 ^ bits) : fastLog2 bits x < bits := by
  obtain ⟨_, hlo, hz⟩ := fastLog2_spec bits x hb hx
  rcases Nat.eq_zero_or_pos x with h0 | h0
  · rw [hz h0]; omega
  · exact (Nat.pow_lt_pow_iff_right (by omega : 1 < 2)).1 (Nat.lt_of_le_of_lt (hlo h0) hx)

theorem fastDigitCount_spec (x : Nat) (hx : x < 2 ^ 32) : fastDigitCount x = .ok (toDigits 10 x).length := by
  obtain ⟨hup, hlo, hz⟩ := fastLog2_spec 32 x (by omega) hx
  have hj := fastLog2_lt 32 x (by omega) hx
  have hrow := fastDigitCount_rows _ hj
  unfold fastDigitCount
  generalize fastLog2 32 x = j at *
  have hlen : j < fastDigitCountTable.length := hj
  rw [List.getD_eq_getElem?_getD, List.getElem?_eq_getElem hlen, Option.getD_some] at hrow
  rw [List.getElem?_eq_getElem hlen]
  generalize fastDigitCountTable[j] = T at *
  obtain ⟨hD1, hD0, hlo10, hhi10, hT64, hT⟩ := hrow
  generalize (toDigits 10 (2 ^ j)).length = D at *
  simp only []
  rw [Nat.mod_eq_of_lt (by omega), decLen_threshold x D hD1 ?_ (by omega)]
  · rcases hT with ⟨hle, hTeq⟩ | ⟨hTeq, hle⟩
    · rw [shifted_count x (2 ^ 32) D (10 ^ D) T hx hle hTeq]
    · rw [if_neg (by omega), hTeq, Nat.add_mul_div_right _ _ (by omega), Nat.div_eq_of_lt hx, Nat.zero_add]
  · rcases Nat.eq_zero_or_pos x with h0 | h0
    · exact Or.inl (hD0 (hz h0))
    · exact Or.inr (Nat.le_trans hlo10 (hlo h0))

def LogOK (l : Nat) (table : List Nat) : Prop :=
  let e := l * 1233 / 2 ^ 12
  10 ^ e ≤ 2 ^ l ∧ 2 ^ (l + 1) ≤ 10 ^ (e + 2) ∧
    (table[e]? = some (10 ^ (e + 1)) ∨ (table[e]? = none ∧ 2 ^ (l + 1) ≤ 10 ^ (e + 1)))

instance (l : Nat) (table : List Nat) : Decidable (LogOK l table) := by unfold LogOK; infer_instance

theorem fallback_rows64 : ∀ l, l < 64 → LogOK l decimalTableU64 := by decide +kernel
theorem fallback_rows128 : ∀ l, l < 128 → LogOK l decimalTableU128 := by decide +kernel

def fbCore (x e : Nat) (table : List Nat) : Nat :=
  e + (if (match table[e]? with | some y => decide (x ≥ y) | none => false) = true then 1 else 0) + 1

theorem fallbackDigitCount_eq (bits x : Nat) (table : List Nat) :
    fallbackDigitCount bits x table = fbCore x (fastLog2 bits x * 1233 / 2 ^ 12) table := rfl

theorem fbCore_spec (x l e : Nat) (table : List Nat) (hup : x < 2 ^ (l + 1)) (hlo : 1 ≤ x → 2 ^ l ≤ x)
    (hz : x = 0 → l = 0) (he0 : l = 0 → e = 0) (h1 : 10 ^ e ≤ 2 ^ l) (h2 : 2 ^ (l + 1) ≤ 10 ^ (e + 2))
    (h3 : table[e]? = some (10 ^ (e + 1)) ∨ (table[e]? = none ∧ 2 ^ (l + 1) ≤ 10 ^ (e + 1))) :
    fbCore x e table = (toDigits 10 x).length := by
  have hlow : e + 1 = 1 ∨ 10 ^ (e + 1 - 1) ≤ x := by
    rcases Nat.eq_zero_or_pos x with h | h
    · exact Or.inl (by rw [he0 (hz h)])
    · exact Or.inr (Nat.le_trans h1 (hlo h))
  rw [decLen_threshold x (e + 1) (by omega) hlow (Nat.lt_of_lt_of_le hup h2)]
  rcases h3 with hs | ⟨hn, hle⟩
  · unfold fbCore
    by_cases hge : 10 ^ (e + 1) ≤ x
    · simp [hs, hge]
    · simp [hs, hge]
  · rw [if_neg (by omega)]
    unfold fbCore
    simp [hn]

theorem fallbackDigitCount_spec (bits x : Nat) (table : List Nat) (hb : 1 ≤ bits) (hx : x < 2 ^ bits)
    (hrows : ∀ l, l < bits → LogOK l table) : fallbackDigitCount bits x table = (toDigits 10 x).length := by
  obtain ⟨hup, hlo, hz⟩ := fastLog2_spec bits x hb hx
  have hl := fastLog2_lt bits x hb hx
  obtain ⟨h1, h2, h3⟩ := hrows _ hl
  rw [fallbackDigitCount_eq]
  exact fbCore_spec x _ _ table hup hlo hz (by intro h; rw [h]) h1 h2 h3

theorem decimalCount_spec (bits x : Nat) (hb : ValidBits bits) (hx : x < 2 ^ bits) :
    decimalCount bits x = .ok (toDigits 10 x).length := by
  unfold decimalCount
  rcases hb with h | h | h | h | h <;> subst h
  · rw [if_pos (by simp), Nat.mod_eq_of_lt (by omega)]; exact fastDigitCount_spec x (by omega)
  · rw [if_pos (by simp), Nat.mod_eq_of_lt (by omega)]; exact fastDigitCount_spec x (by omega)
  · rw [if_pos (by simp), Nat.mod_eq_of_lt (by omega)]; exact fastDigitCount_spec x (by omega)
  · rw [if_neg (by simp), if_pos rfl, fallbackDigitCount_spec 64 x _ (by omega) hx fallback_rows64]
  · rw [if_neg (by simp), if_neg (by simp), if_pos rfl,
      fallbackDigitCount_spec 128 x _ (by omega) hx fallback_rows128]

end LexVerif.Model.WriteInt
