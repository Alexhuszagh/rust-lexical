import LexVerif.Proof.ParseNumberC11Trunc
import LexVerif.Proof.ParseNumberTotalMany
/-!
# Proof.ParseNumberC11Many — the many-digits re-parse and `parse_number` under an admitted cut (release build)

`parse_number` under a cut up to its tail is `parseNumber_cut`. The tail, `manyDigitsPhase`, reads the original buffer only
through two `skip_zeros` runs. The first starts where the integer digit pass started, in the same iterator state: it is that
pass with the stronger test `== '0'` (`zeros_mirror`, from `IterSpec.scan_mono`), so it rests where the pass rested — then the
second run mirrors the fraction pass in the same way, or is not looked at — or earlier, on a non-zero digit (`ZerosMirror`).
What happens from there is the one thing a class of formats has to say (`SecondRunOK`); with why the cut is admitted
for the three digit loops that is `CutOK`, and `parseNumber_cutG` is `parse_number` under every such cut. Here the class
`NumContig` (`parseNumber_trunc`: every cut at or behind the count); formats with separator flags in
`ParseNumberC11SepMany.lean`.
-/
namespace LexVerif.Proof.C11
open LexVerif.Proof.IterSpec
open LexVerif LexVerif.Model LexVerif.Spec
open LexVerif.Props.C12 (Bytes.Valid)
open LexVerif.Proof.PNTotal (Rel manyDigitsPhase_eq manyMid manyTail)

theorem rel_nf {c : Cfg} (hf : c.feats.format = false) (hd : c.debug = false) : Rel c :=
  ⟨hd, fun k => by
    have hs : c.skip k = .noskip := by
      cases k <;> simp [Cfg.skip, Cfg.sepFlags, Cfg.flag, Cfg.specialSep, hf, SepFlags.skip]
    rw [hs]; intro h; cases h⟩

/-- the `EmptyMantissa` / `InvalidDigit` branch of `parse_number` -/
def emptyBranch (c : Cfg) (isPartial : Bool) (o : POpts) (ip : IntPart) (fp : FracPart) : Except Err (Number × Nat) := do
  let (anyv, _) ← peek c .integer ip.start
  if fp.hasDecimal || fp.byte.firstIs o.exp (c.caseSensitiveExponent && c.feats.format) || anyv.isNone || isPartial then
    .error (.err "EmptyMantissa" fp.byte.index)
  else .error (.err "InvalidDigit" ip.start.index)

theorem emptyBranch_not_ok {c : Cfg} (isPartial : Bool) (o : POpts) (ip : IntPart) (fp : FracPart)
    (r : Number × Nat) : emptyBranch c isPartial o ip fp ≠ .ok r := by
  unfold emptyBranch
  cases hp : peek c .integer ip.start with
  | error e => simp [bind, Except.bind]
  | ok pr =>
    simp only [bind, Except.bind]
    split <;> simp

/-- the end of `parse_number` after the base suffix at `endIdx`: few digits — the number as parsed; many — the re-parse -/
def numberTail (c : Cfg) (o : POpts) (neg : Bool) (ip : IntPart) (fp : FracPart) (ep : ExpPart) (endIdx : Nat) :
    Except Err (Number × Nat) :=
  if ip.nDigits + fp.nAfterDot ≤ u64Step c.feats c.mantissaRadix then
    .ok (⟨fp.mantissa,
      (if (c.feats.format && !c.requiredMantissaDigits && decide (ip.nDigits + fp.nAfterDot = 0)) = true
        then 0 else ep.exponent), neg, false, ip.integerDigits, fp.fraction, ep.explicit⟩, endIdx)
  else manyDigitsPhase c o neg ip fp ep (ip.nDigits + fp.nAfterDot) (u64Step c.feats c.mantissaRadix)
    (if (c.feats.format && !c.requiredMantissaDigits && decide (ip.nDigits + fp.nAfterDot = 0)) = true
      then 0 else ep.exponent) endIdx

theorem parseNumber_g {c : Cfg} (hc : Rel c) (isPartial : Bool) (o : POpts) (b : Bytes) (neg fv : Bool) :
    parseNumber c isPartial o b neg fv =
      match integerPhase c b with
      | .error e => .error e
      | .ok ip =>
        match fractionPhase c o ip.byte ip.mantissa with
        | .error e => .error e
        | .ok fp =>
          if (c.requiredMantissaDigits &&
              (decide (ip.nDigits + fp.nAfterDot = 0) || (c.feats.format && decide (fp.byte.currentCount c = 0)))) = true then
            emptyBranch c isPartial o ip fp
          else
            match exponentPhase c (fp.byte.firstIs o.exp (c.caseSensitiveExponent && c.feats.format)) fp.byte
                fp.fraction fp.exponent with
            | .error e => .error e
            | .ok ep =>
              match suffixPhase c ep.byte with
              | .error e => .error e
              | .ok sb => numberTail c o neg ip fp ep sb.index := by
  unfold parseNumber
  simp only [hc.hd, Bool.false_and, Bool.false_eq_true, if_false, bind, Except.bind]
  cases integerPhase c b with
  | error e => rfl
  | ok ip =>
    simp only
    cases fractionPhase c o ip.byte ip.mantissa with
    | error e => rfl
    | ok fp =>
      simp only
      split
      · unfold emptyBranch
        simp only [bind, Except.bind]
      · cases exponentPhase c (fp.byte.firstIs o.exp (c.caseSensitiveExponent && c.feats.format)) fp.byte
            fp.fraction fp.exponent with
        | error e => rfl
        | ok ep =>
          simp only
          cases suffixPhase c ep.byte with
          | error e => rfl
          | ok sb => simp only [pure, Except.pure, numberTail]

theorem manyTail_count {c : Cfg} (neg : Bool) (ip : IntPart) (fp : FracPart) (ep : ExpPart) (step endIdx : Nat)
    (x : Number) (cnt : Nat) (h : manyTail c neg ip fp ep step endIdx = .ok (x, cnt)) : cnt = endIdx := by
  unfold manyTail at h
  simp only [bind, Except.bind, pure, Except.pure] at h
  repeat' (split at h)
  all_goals (cases h)
  all_goals rfl

theorem many_count {c : Cfg} (o : POpts) (neg : Bool) (ip : IntPart) (fp : FracPart) (ep : ExpPart) (nd step : Nat) (e0 : Int)
    (endIdx : Nat) (x : Number) (cnt : Nat)
    (h : manyDigitsPhase c o neg ip fp ep nd step e0 endIdx = .ok (x, cnt)) : cnt = endIdx := by
  rw [manyDigitsPhase_eq] at h
  simp only [bind, Except.bind, pure, Except.pure] at h
  cases h1 : skipZeros c .integer ip.start with
  | error e => simp [h1] at h
  | ok pr =>
    obtain ⟨zi, zeros⟩ := pr
    simp only [h1] at h
    have fin : ∀ zz, manyMid c neg ip fp ep nd step e0 endIdx zi zz = .ok (x, cnt) → cnt = endIdx := by
      intro zz hm
      unfold manyMid at hm
      simp only [bind, Except.bind, pure, Except.pure] at hm
      cases h2 : skipZeros c .fraction zz with
      | error e => simp [h2] at hm
      | ok pr2 =>
        obtain ⟨zf, _⟩ := pr2
        simp only [h2] at hm
        split at hm
        · exact manyTail_count neg ip fp ep step endIdx x cnt hm
        · cases hm; rfl
    split at h
    · cases h2 : zeros.step c with
      | error e => simp [h2] at h
      | ok z2 => simp only [h2] at h; exact fin _ h
    · exact fin _ h

theorem parseNumber_inv {c : Cfg} (hc : Rel c) (p : Bool) (o : POpts) (b : Bytes) (neg fv : Bool) (r : Number)
    (count : Nat) (hm : c.requiredMantissaDigits = true) (h : parseNumber c p o b neg fv = .ok (r, count)) :
    ∃ ip fp ep sb, integerPhase c b = .ok ip ∧ fractionPhase c o ip.byte ip.mantissa = .ok fp ∧
      ¬ (c.requiredMantissaDigits &&
        (decide (ip.nDigits + fp.nAfterDot = 0) || (c.feats.format && decide (fp.byte.currentCount c = 0)))) = true ∧
      ip.nDigits + fp.nAfterDot ≠ 0 ∧
      exponentPhase c (fp.byte.firstIs o.exp (c.caseSensitiveExponent && c.feats.format)) fp.byte
        fp.fraction fp.exponent = .ok ep ∧
      suffixPhase c ep.byte = .ok sb ∧ count = sb.index ∧ numberTail c o neg ip fp ep sb.index = .ok (r, count) := by
  rw [parseNumber_g hc] at h
  cases hi : integerPhase c b with
  | error e => simp [hi] at h
  | ok ip =>
    simp only [hi] at h
    cases hfr : fractionPhase c o ip.byte ip.mantissa with
    | error e => simp [hfr] at h
    | ok fp =>
      simp only [hfr] at h
      split at h
      · exact absurd h (emptyBranch_not_ok p o ip fp _)
      · next hcnd =>
        cases hep : exponentPhase c (fp.byte.firstIs o.exp (c.caseSensitiveExponent && c.feats.format)) fp.byte
            fp.fraction fp.exponent with
        | error e => simp [hep] at h
        | ok ep =>
          simp only [hep] at h
          cases hsf : suffixPhase c ep.byte with
          | error e => simp [hsf] at h
          | ok sb =>
            simp only [hsf] at h
            refine ⟨ip, fp, ep, sb, rfl, hfr, hcnd, fun hz0 => hcnd (by simp [hm, hz0]), hep, hsf, ?_, h⟩
            unfold numberTail at h
            split at h
            · cases h; rfl
            · exact many_count o neg ip fp ep _ _ _ _ r count h

theorem firstIs_trunc (b : Bytes) (v : Nat) (cased : Bool) (n : Nat) :
    (trunc n b).firstIs v cased = if b.index < n then b.firstIs v cased else false := by
  rw [firstIs_eq, first_trunc, firstIs_eq]
  split
  · rfl
  · exact matchByte_none _ _

theorem parseNumber_cut {c : Cfg} (hc : Rel c) (p : Bool) (o : POpts) (b : Bytes)
    (neg fv : Bool) (ip : IntPart) (fp : FracPart) (ep : ExpPart) (sb : Bytes)
    (HI : IntPhaseOK c b ip) (HF : FracPhaseOK c o ip.byte ip.mantissa fp)
    (HE : ExpPhaseOK c (fp.byte.firstIs o.exp (c.caseSensitiveExponent && c.feats.format)) fp.byte fp.fraction
      fp.exponent ep)
    (hcnd : ¬ (c.requiredMantissaDigits &&
      (decide (ip.nDigits + fp.nAfterDot = 0) || (c.feats.format && decide (fp.byte.currentCount c = 0)))) = true)
    (hsf : suffixPhase c ep.byte = .ok sb) (n : Nat) (hn : sb.index ≤ n)
    (aI : Cut c .integer n ip.byte) (aF : ip.byte.firstIsCased o.dp = true → Cut c .fraction n fp.byte)
    (aE : fp.byte.firstIs o.exp (c.caseSensitiveExponent && c.feats.format) = true → Cut c .exponent n ep.byte) :
    parseNumber c p o (trunc n b) neg fv =
      numberTail c o neg { ip with start := trunc n ip.start, byte := trunc n ip.byte }
        { fp with byte := trunc n fp.byte } { ep with byte := trunc n ep.byte } sb.index := by
  obtain ⟨_, _, _, _, i6, _, _, _, i10⟩ := HI
  obtain ⟨_, f2, f3, _, _, _, f7⟩ := HF
  obtain ⟨_, x2, x3, x4, _, x6⟩ := HE
  obtain ⟨_, u2, _, u4⟩ := suffixPhase_trunc hc ep.byte sb x3 hsf
  rw [parseNumber_g hc, i10 n aI]
  simp only
  rw [f7 n (by omega) aF]
  simp only [trunc_currentCount]
  rw [if_neg hcnd]
  have hfi : (trunc n fp.byte).firstIs o.exp (c.caseSensitiveExponent && c.feats.format) =
      fp.byte.firstIs o.exp (c.caseSensitiveExponent && c.feats.format) := by
    rw [firstIs_trunc]
    split
    · rfl
    · next hlt =>
      cases hfe : fp.byte.firstIs o.exp (c.caseSensitiveExponent && c.feats.format) with
      | false => rfl
      | true => have := (x4 hfe).1; omega
  rw [hfi, x6 n (by omega) aE]
  simp only
  rw [u4 n hn]
  simp only [trunc_index]

def ZerosMirror (c : Cfg) (k : Comp) (E : Nat → Prop) : Prop :=
  ∀ (b0 b2 : Bytes) (m0 m : Nat), Bytes.Valid b0 → Phase.digitPass c k b0 m0 = .ok (m, b2) →
    ∃ z zb, skipZeros c k b0 = .ok (z, zb) ∧
      ((zb = b2 ∧ z = b2.currentCount c - b0.currentCount c) ∨
       (zb.index < b2.index ∧ zb.slc = b0.slc ∧ b0.index ≤ zb.index ∧
         ∃ x, b0.slc[zb.index]? = some x ∧ x ≠ 48 ∧ E x)) ∧
      ∀ n, Cut c k n b2 → skipZeros c k (trunc n b0) = .ok (z, trunc n zb)

theorem count_eq {c : Cfg} (k : Comp) (hk : k ≠ .special) (j m : Nat) (b : Bytes)
    (hpl : c.iterContiguous k = true ∨ c.bytesContiguous = true → j = b.index + m) :
    (mv c k j m b).iterCount c k - b.iterCount c k = (mv c k j m b).currentCount c - b.currentCount c := by
  cases hbc : c.bytesContiguous with
  | true =>
    have := hpl (.inr hbc)
    cases hct : c.iterContiguous k with
    | true => simp [Bytes.currentCount, Bytes.iterCount, hbc, hct]
    | false =>
      rw [mv_iterCount c k hct hk]
      simp only [Bytes.currentCount, hbc, if_true, mv_index]; omega
  | false =>
    have hf : c.feats.format = true := by
      cases hf : c.feats.format
      · simp [Cfg.bytesContiguous, Cfg.digitSeparator, hf] at hbc
      · rfl
    have hs := mv_sum c k hf hk j m b
    simp only [Bytes.currentCount, hbc, Bool.false_eq_true, if_false]
    cases hct : c.iterContiguous k with
    | true =>
      have := hpl (.inl hct)
      simp only [Bytes.iterCount, hct, if_true, mv_index]; omega
    | false => rw [mv_iterCount c k hct hk]; omega

section
variable {c : Cfg} {o : POpts} (hc : Rel c)
include hc

theorem zeros_mirror (k : Comp) (r : Nat) (h0 : charToDigit 48 r = some 0) (b : Bytes) :
    ∃ zb, skipZeros c k b = .ok (zb.iterCount c k - b.iterCount c k, zb) ∧
      (zb = mv c k (run c k (isDig r) b).2 (run c k (isDig r) b).1.length b ∨
        (zb.index < (run c k (isDig r) b).2 ∧ zb.slc = b.slc ∧ b.index ≤ zb.index ∧
          ∃ x, b.slc[zb.index]? = some x ∧ x ≠ 48 ∧ charToDigit x r ≠ none)) := by
  refine ⟨_, skipZeros_eq (hc.hs k) b (StepOK.release hc.hd _ _), ?_⟩
  -- the digit loop is the zero loop, then the digit test from the cursor that one rests at
  have hm := scan_mono (c := c) (k := k) b.slc (p := (· == 48)) (q := isDig r)
    (fun x hx => by simp [isDig, beq_iff_eq.mp hx, h0]) (b.slc.length + 1) (b.slc.length + 1) (b.iterCount c k == 0) b.index
    (Nat.le_refl _)
  have hzg := scan_ge (c := c) (k := k) b.slc (· == 48) (b.slc.length + 1) (b.iterCount c k == 0) b.index
  have hstop := scan_stop (c := c) (k := k) b.slc (· == 48) (b.slc.length + 1) (b.iterCount c k == 0) b.index
    (run_fuel _ b)
  simp only [run] at hm ⊢
  generalize scan c k b.slc (· == 48) (b.slc.length + 1) (b.iterCount c k == 0) b.index = z at hm hzg hstop ⊢
  rw [hm]
  rcases scanAt_cases (c := c) (k := k) b.slc (isDig r) (b.slc.length + 1 - z.1.length) z.2 with e | ⟨x, hx, hp, hj⟩
  · exact .inl (by rw [e]; simp)
  · exact .inr ⟨by simpa using hj, mv_slc .., by simpa using hzg, x, by simpa using hx, by simpa using hstop x hx,
      by simpa [isDig, Option.isSome_iff_ne_none] using hp⟩

/-- The first pass ends where `parse_digits` alone ends (`digitsPass_end`: the 8-digit blocks hold digits, `hrad`), and
`skip_zeros` from the same state runs along it. -/
theorem zerosMirror_gen {k : Comp} (hk : k ≠ .special) (hr1 : 1 ≤ c.mantissaRadix)
    (hrad : c.feats.powerOfTwo = false → c.mantissaRadix ≤ 10)
    (S : Cut.Step c k fun x => charToDigit x c.mantissaRadix ≠ none) :
    ZerosMirror c k fun x => charToDigit x c.mantissaRadix ≠ none := by
  intro b0 b2 m0 m hv hpass
  obtain ⟨m8, b1, ds, h8, hdg⟩ := digitPass_inv hpass
  have hg : ∀ x, isDig c.mantissaRadix x → StepOK c k x := fun _ _ => StepOK.release hc.hd _ _
  have hend : b2 = mv c k (run c k (isDig c.mantissaRadix) b0).2 (run c k (isDig c.mantissaRadix) b0).1.length b0 :=
    digitsPass_end (hc.hs k) hg (canMultidigit_radix hrad) b0 b1 b2 m0 m8 ds h8 hdg
  have h48 := CharDigit.charToDigit_48 c.mantissaRadix hr1
  obtain ⟨zb, hz, hor⟩ := zeros_mirror hc k c.mantissaRadix h48 b0
  rw [← hend] at hor
  refine ⟨_, zb, hz, ?_, fun n ha => skipZeros_cut hc S (by rw [h48]; simp) b0 zb _ hv hz n ?_⟩
  · rcases hor with rfl | h2
    · refine Or.inl ⟨rfl, ?_⟩
      rw [hend]
      refine count_eq k hk _ _ b0 fun hpl => ?_
      have hid : ∀ f i, peekIdx c k b0.slc f i = i := fun f i => by
        rcases hpl with h | h
        · exact peekIdx_noskip ((skip_noskip_iff c k).mpr h) ..
        · exact peekIdx_bc h ..
      exact scan_plain_idx b0.slc _ hid ..
    · rw [hend, mv_index]; exact Or.inr h2
  · rcases hor with rfl | ⟨r1, r2, r3, x, r4, r5, r6⟩
    · exact ha
    · exact S n zb x (by have := ha.1; rw [hend, mv_index] at this; omega) (by rw [r2]; exact r4) r6

omit hc in
/-- when the integer zero run stops early, on a non-zero byte, the second zero run from there (or from behind it, when
it is the decimal point) counts the same on the buffer cut at `n` -/
def SecondRunOK (c : Cfg) (o : POpts) (EI : Nat → Prop) (n : Nat) (ip : IntPart) : Prop :=
  ∀ zb : Bytes, zb.index < ip.byte.index → zb.slc = ip.start.slc → ip.start.index ≤ zb.index →
    (∃ x, ip.start.slc[zb.index]? = some x ∧ x ≠ 48 ∧ EI x) →
    ∀ zz, zz = (if zb.firstIsCased o.dp = true then cur zb (zb.index + 1) else zb) →
      ∀ r, skipZeros c .fraction zz = .ok r → ∃ zt, skipZeros c .fraction (trunc n zz) = .ok (r.1, zt)

theorem many_cut {EI EF : Nat → Prop} (ZI : ZerosMirror c .integer EI) (ZF : ZerosMirror c .fraction EF) (neg : Bool)
    (b : Bytes) (ip : IntPart) (fp : FracPart) (ep : ExpPart)
    (HI : IntPhaseOK c b ip) (HF : FracPhaseOK c o ip.byte ip.mantissa fp)
    (step : Nat) (e0 : Int) (endIdx n : Nat)
    (hn1 : Cut c .integer n ip.byte) (hn2 : fp.byte.index ≤ n)
    (hn3 : ip.byte.firstIsCased o.dp = true → Cut c .fraction n fp.byte) (hX : SecondRunOK c o EI n ip)
    (r : Number × Nat)
    (h : manyDigitsPhase c o neg ip fp ep (ip.nDigits + fp.nAfterDot) step e0 endIdx = .ok r) :
    manyDigitsPhase c o neg { ip with start := trunc n ip.start, byte := trunc n ip.byte }
      { fp with byte := trunc n fp.byte } { ep with byte := trunc n ep.byte }
      (ip.nDigits + fp.nAfterDot) step e0 endIdx = .ok r := by
  obtain ⟨⟨s1, s2, s3, s5⟩, hpass, i4, i5, i6, i7, _, i9, _⟩ := HI
  obtain ⟨f1, f2, f3, f4, f5, f6, _⟩ := HF
  obtain ⟨z, zb, hz, hor, hzt⟩ := ZI ip.start ip.byte 0 _ s3 hpass
  rw [manyDigitsPhase_eq] at h ⊢
  simp only [hz, bind, Except.bind] at h
  simp only [hzt n hn1, bind, Except.bind]
  have hin := hn1.1
  rcases hor with ⟨hzb, hzd⟩ | ⟨q1, q2, q3, hx⟩
  · -- the integer digits were all zeros: the re-parse stands where the first pass stood
    rw [← hzb] at f5 f6 i6 hin hn3
    by_cases hdp : zb.firstIsCased o.dp = true
    · obtain ⟨g1, _, _, hfpass, _⟩ := f5 hdp
      have hlt : zb.index < n := by omega
      have hdp2 : (trunc n zb).firstIsCased o.dp = true := by
        simp only [Bytes.firstIsCased, first_trunc, hlt, if_true] at hdp ⊢; exact hdp
      have hv0 : Bytes.Valid (cur zb (zb.index + 1)) := by
        have := first_some_lt zb o.dp (by simpa [Bytes.firstIsCased] using hdp)
        simp only [Bytes.Valid, cur_index, cur_slc]; omega
      obtain ⟨zf, zfb, hzf, _, hzft⟩ := ZF _ fp.byte ip.mantissa _ hv0 hfpass
      simp only [hdp, if_true, step_g hc] at h
      simp only [hdp2, if_true, step_g hc, trunc_index]
      unfold manyMid at h ⊢
      simp only [hzf, bind, Except.bind] at h
      rw [← trunc_cur, hzft n (hn3 hdp)]
      exact h
    · -- no fraction: `n_digits - step - zeros_integer` is 0 already, the second run is not looked at
      obtain ⟨g1, g2, g3⟩ := f6 hdp
      have hdp2 : ¬ (trunc n zb).firstIsCased o.dp = true := by
        simp only [Bytes.firstIsCased, first_trunc] at hdp ⊢
        split
        · exact hdp
        · simp
      simp only [hdp, if_false, pure, Except.pure, Bool.false_eq_true] at h
      simp only [hdp2, if_false, pure, Except.pure, Bool.false_eq_true]
      unfold manyMid at h ⊢
      have hvt : (trunc n zb).index ≤ (trunc n zb).slc.length := trunc_valid n zb i6 hin
      obtain ⟨zf2, zb2, hz2, _⟩ := PNTotal.skipZeros_tot hc .fraction (trunc n zb) hvt
      cases hz1 : skipZeros c .fraction zb with
      | error e => simp [hz1, bind, Except.bind] at h
      | ok pr =>
        obtain ⟨zf1, zb1⟩ := pr
        simp only [hz1, bind, Except.bind, pure, Except.pure] at h
        simp only [hz2, bind, Except.bind, pure, Except.pure]
        have e1 : ¬ (ip.nDigits + fp.nAfterDot - step - z - zf1 > 0) := by rw [g2, hzd, ← i7]; omega
        have e2 : ¬ (ip.nDigits + fp.nAfterDot - step - z - zf2 > 0) := by rw [g2, hzd, ← i7]; omega
        rw [if_neg e1] at h
        rw [if_neg e2]
        exact h
  · -- the zero run ends on a non-zero byte inside the integer digits
    have hlt : zb.index < n := by omega
    have hfc : (trunc n zb).firstIsCased o.dp = zb.firstIsCased o.dp := by
      simp only [Bytes.firstIsCased, first_trunc, hlt, if_true]
    have hX := hX zb q1 q2 q3 hx _ rfl
    rw [hfc]
    split at h
    · next hdp =>
      rw [if_pos hdp] at hX ⊢
      simp only [step_g hc] at h ⊢
      unfold manyMid at h ⊢
      cases hz1 : skipZeros c .fraction (cur zb (zb.index + 1)) with
      | error e => simp [hz1, bind, Except.bind] at h
      | ok pr =>
        obtain ⟨zt, hzt2⟩ := hX pr hz1
        simp only [hz1, bind, Except.bind] at h
        simp only [trunc_index, ← trunc_cur, hzt2, bind, Except.bind]
        exact h
    · next hdp =>
      rw [if_neg hdp] at hX ⊢
      simp only [pure, Except.pure] at h ⊢
      unfold manyMid at h ⊢
      cases hz1 : skipZeros c .fraction zb with
      | error e => simp [hz1, bind, Except.bind] at h
      | ok pr =>
        obtain ⟨zt, hzt2⟩ := hX pr hz1
        simp only [hz1, bind, Except.bind] at h
        simp only [hzt2, bind, Except.bind]
        exact h

omit hc in
/-- what a class of formats owes for the cut `n` of a successful run: the cut is admitted where the three digit loops came to
rest, and `SecondRunOK` -/
def CutOK (c : Cfg) (o : POpts) (EI : Nat → Prop) (n : Nat) (ip : IntPart) (fp : FracPart) (ep : ExpPart) : Prop :=
  Cut c .integer n ip.byte ∧ (ip.byte.firstIsCased o.dp = true → Cut c .fraction n fp.byte) ∧
  (fp.byte.firstIs o.exp (c.caseSensitiveExponent && c.feats.format) = true → Cut c .exponent n ep.byte) ∧
  SecondRunOK c o EI n ip

theorem parseNumber_cutG {EI EF : Nat → Prop} (ZI : ZerosMirror c .integer EI) (ZF : ZerosMirror c .fraction EF)
    (HI : ∀ b ip, Bytes.Valid b → integerPhase c b = .ok ip → IntPhaseOK c b ip)
    (HF : ∀ b m fp, Bytes.Valid b → fractionPhase c o b m = .ok fp → FracPhaseOK c o b m fp)
    (HE : ∀ he b fr ex ep, Bytes.Valid b → (he = true → b.index < b.slc.length) → exponentPhase c he b fr ex = .ok ep →
      ExpPhaseOK c he b fr ex ep)
    (p : Bool) (b : Bytes) (neg fv : Bool) (r : Number) (count : Nat)
    (hm : c.requiredMantissaDigits = true) (hv : Bytes.Valid b)
    (h : parseNumber c p o b neg fv = .ok (r, count)) :
    b.index < count ∧ count ≤ b.slc.length ∧
    ∀ n, count ≤ n → (∀ ip fp ep sb, integerPhase c b = .ok ip → fractionPhase c o ip.byte ip.mantissa = .ok fp →
        exponentPhase c (fp.byte.firstIs o.exp (c.caseSensitiveExponent && c.feats.format)) fp.byte fp.fraction
          fp.exponent = .ok ep → suffixPhase c ep.byte = .ok sb → count = sb.index → CutOK c o EI n ip fp ep) →
      parseNumber c p o (trunc n b) neg fv = .ok (r, count) := by
  obtain ⟨ip, fp, ep, sb, hi, hfr, hcnd, hz, hep, hsf, rfl, h⟩ := parseNumber_inv hc p o b neg fv r count hm h
  have hI := HI b ip hv hi
  have ⟨⟨s1, s2, s3, s5⟩, i3, i4, i5, i6, i7, i8, i9, i10⟩ := hI
  have hF := HF ip.byte ip.mantissa fp i6 hfr
  have ⟨f1, f2, f3, f4, f5, f6, f7⟩ := hF
  have hE := HE _ fp.byte fp.fraction fp.exponent ep f3 (fun hh => PNTotal.firstIs_lt hh) hep
  have ⟨x1, x2, x3, x4, x5, x6⟩ := hE
  obtain ⟨u1, u2, u3, u4⟩ := suffixPhase_trunc hc ep.byte sb x3 hsf
  have hsbv : sb.index ≤ b.slc.length := by
    have : sb.index ≤ sb.slc.length := u3
    rwa [u1, x1, f1, i4] at this
  refine ⟨by omega, hsbv, fun n hn hcut => ?_⟩
  obtain ⟨aI, aF, aE, hX⟩ := hcut ip fp ep sb hi hfr hep hsf rfl
  rw [parseNumber_cut hc p o b neg fv ip fp ep sb hI hF hE hcnd hsf n hn aI aF aE]
  unfold numberTail at h ⊢
  split at h
  · next hle => rw [if_pos hle]; exact h
  · next hle =>
    rw [if_neg hle]
    exact many_cut hc ZI ZF neg b ip fp ep hI hF _ _ _ n aI (by omega) aF hX _ h

end

section
variable {c : Cfg} {o : POpts} (hc : Rel c) (hb : NumContig c)
include hc hb

theorem skipZeros_le_num (k : Comp) (hk : k ≠ .special) (b zb : Bytes) (z : Nat)
    (h : skipZeros c k b = .ok (z, zb)) (j : Nat) (hij : b.index ≤ j) (hj : b.slc[j]? ≠ some 48) : zb.index ≤ j := by
  rw [skipZeros_eq (hc.hs k) b (StepOK.release hc.hd _ _)] at h
  simp only [Except.ok.injEq, Prod.mk.injEq] at h
  rw [← h.2, mv_index]
  exact scan_plain_le b.slc (peekIdx_num hb k hk _) _ _ _ _ j hij fun x hx => by
    cases h48 : x == 48
    · rfl
    · rw [beq_iff_eq.mp h48] at hx; exact absurd hx hj

/-- The mirror where the digit iterators never skip, for every radix: `parse_8digits` may take bytes that are no digits when
the radix is above 10 without `power-of-two` (no valid format; `partial_prefix_number` does not exclude it), so the first
pass is followed directly: `8 * n8` bytes, then the digit loop, every byte counted. -/
theorem zerosMirror_num {k : Comp} (hk : k ≠ .special) (hr1 : 1 ≤ c.mantissaRadix) : ZerosMirror c k fun _ => True := by
  intro b0 b2 m0 m hv hpass
  have hid := peekIdx_num hb k hk b0.slc
  obtain ⟨m8, b1, ds, h8, hdg⟩ := digitPass_inv hpass
  obtain ⟨_, n8, h8', hn8⟩ := PNTotal.parse8Digits_any k b0 m0 hv hc.nodbg
  rw [h8] at h8'
  simp only [Except.ok.injEq, Prod.mk.injEq] at h8'
  obtain ⟨-, rfl⟩ := h8'
  rw [parseDigits_eq (hc.hs k) _ _ fun _ _ => StepOK.release hc.hd _ _] at hdg
  simp only [Except.ok.injEq, Prod.mk.injEq, run, mv_slc, mv_index, mv_mv] at hdg
  obtain ⟨-, rfl⟩ := hdg
  have he := scan_plain_idx (c := c) (k := k) b0.slc (isDig c.mantissaRadix) hid (b0.slc.length + 1)
    ((mv c k (b0.index + 8 * n8) (8 * n8) b0).iterCount c k == 0) (b0.index + 8 * n8)
  obtain ⟨e1, e2⟩ := scan_le (c := c) (k := k) b0.slc (isDig c.mantissaRadix) (b0.slc.length + 1)
    ((mv c k (b0.index + 8 * n8) (8 * n8) b0).iterCount c k == 0) (b0.index + 8 * n8) hn8
  have hstop := scan_stop (c := c) (k := k) b0.slc (isDig c.mantissaRadix) (b0.slc.length + 1)
    ((mv c k (b0.index + 8 * n8) (8 * n8) b0).iterCount c k == 0) (b0.index + 8 * n8) (by omega)
  generalize scan c k b0.slc (isDig c.mantissaRadix) (b0.slc.length + 1)
    ((mv c k (b0.index + 8 * n8) (8 * n8) b0).iterCount c k == 0) (b0.index + 8 * n8) = q at he e1 e2 hstop ⊢
  -- the zero run: it stops at or before the byte that stopped the pass, which is no digit, hence not `'0'`
  have hsk := skipZeros_eq (hc.hs k) b0 (StepOK.release hc.hd _ _)
  simp only [run] at hsk
  have z1 := scan_plain_idx (c := c) (k := k) b0.slc (· == 48) hid (b0.slc.length + 1) (b0.iterCount c k == 0) b0.index
  obtain ⟨z2, z3⟩ := scan_le (c := c) (k := k) b0.slc (· == 48) (b0.slc.length + 1) (b0.iterCount c k == 0) b0.index hv
  have zstop := scan_stop (c := c) (k := k) b0.slc (· == 48) (b0.slc.length + 1) (b0.iterCount c k == 0) b0.index
    (by omega)
  have zle := scan_plain_le (c := c) (k := k) b0.slc hid (· == 48) (b0.slc.length + 1) (b0.iterCount c k == 0) b0.index q.2
    (by omega) fun x hx => by
      cases h48 : x == 48
      · rfl
      · rw [beq_iff_eq.mp h48] at hx
        have := hstop 48 hx
        simp [isDig, CharDigit.charToDigit_48 _ hr1] at this
  generalize scan c k b0.slc (· == 48) (b0.slc.length + 1) (b0.iterCount c k == 0) b0.index = zq at hsk z1 z2 z3 zstop zle
  refine ⟨_, _, hsk, ?_, fun n ha =>
    skipZeros_cut hc (D := fun _ => True) (Cut.step_num hb k hk) trivial b0 _ _ hv hsk n
      (Cut.of_num hb k hk (by have := ha.1; simp only [mv_index] at this ⊢; omega))⟩
  by_cases heq : zq.2 = q.2
  · have hl : zq.1.length = 8 * n8 + q.1.length := by omega
    refine .inl ⟨by rw [heq, hl], ?_⟩
    rw [heq, hl]
    exact count_eq k hk _ _ b0 fun _ => by omega
  · refine .inr ⟨by simp only [mv_index]; omega, mv_slc .., by simp only [mv_index]; omega, ?_⟩
    have hlt : zq.2 < b0.slc.length := by omega
    exact ⟨b0.slc[zq.2], by simp [List.getElem?_eq_getElem hlt],
      fun h48 => by have := zstop _ (List.getElem?_eq_getElem hlt); simp [h48] at this, trivial⟩

/-- The decimal point may be a digit here; a second zero run that starts inside the integer digits ends in front of the byte
that stopped them. -/
theorem parseNumber_trunc (p : Bool) (o : POpts) (b : Bytes) (neg fv : Bool) (r : Number) (count : Nat)
    (hr : 1 ≤ c.mantissaRadix) (hm : c.requiredMantissaDigits = true) (hv : Bytes.Valid b)
    (h : parseNumber c p o b neg fv = .ok (r, count)) :
    b.index < count ∧ count ≤ b.slc.length ∧
    ∀ n, count ≤ n → parseNumber c p o (trunc n b) neg fv = .ok (r, count) := by
  obtain ⟨h1, h2, h3⟩ := parseNumber_cutG hc (zerosMirror_num hc hb (by decide) hr) (zerosMirror_num hc hb (by decide) hr)
    (fun b ip hv h => integerPhase_trunc hc hb b ip hv h) (fun b m fp hv h => fractionPhase_trunc hc hb o b m fp hv h)
    (fun he b fr ex ep hv hlt h => exponentPhase_trunc hc hb he b fr ex ep hv hlt h) p b neg fv r count hm hv h
  refine ⟨h1, h2, fun n hn => h3 n hn fun ip fp ep sb hi hfr hep hsf hcnt => ?_⟩
  obtain ⟨⟨s1, _, _, _⟩, _, i4, _, i6, _, _, i9, _⟩ := integerPhase_trunc hc hb b ip hv hi
  obtain ⟨_, f2, f3, _⟩ := fractionPhase_trunc hc hb o ip.byte ip.mantissa fp i6 hfr
  obtain ⟨_, x2, x3, _⟩ := exponentPhase_trunc hc hb _ fp.byte fp.fraction fp.exponent ep f3
    (fun hh => PNTotal.firstIs_lt hh) hep
  obtain ⟨_, u2, _⟩ := suffixPhase_trunc hc ep.byte sb x3 hsf
  have of_le : ∀ (k : Comp) (e : Bytes), k ≠ .special → e.index ≤ n → Cut c k n e := fun k e hk h => Cut.of_num hb k hk h
  refine ⟨of_le .integer _ (by decide) (by omega), fun _ => of_le .fraction _ (by decide) (by omega),
    fun _ => of_le .exponent _ (by decide) (by omega), fun zb q1 q2 q3 _ zz hzz rr hrr => ?_⟩
  have hz48 : b.slc[ip.byte.index]? ≠ some 48 := fun h48 => by
    have := i9 48 h48; rw [CharDigit.charToDigit_48 _ hr] at this; cases this
  have hzs : zz.slc = b.slc ∧ zz.index ≤ ip.byte.index := by
    subst hzz; split <;> simp [q2, s1] <;> omega
  have hvz : Bytes.Valid zz := by
    have : ip.byte.index ≤ ip.byte.slc.length := i6
    rw [i4] at this
    unfold Bytes.Valid; rw [hzs.1]; omega
  have hle := skipZeros_le_num hc hb .fraction (by decide) zz rr.2 rr.1 hrr ip.byte.index hzs.2 (by rw [hzs.1]; exact hz48)
  exact ⟨_, skipZeros_cut hc (D := fun _ => True) (Cut.step_num hb _ (by decide)) trivial
    zz rr.2 rr.1 hvz hrr n (of_le .fraction _ (by decide) (by omega))⟩

end
end LexVerif.Proof.C11
