import LexVerif.Model.WriteRadixInt
import LexVerif.Proof.Numeral
import LexVerif.Proof.WriteBinaryDigits
/-!
# Proof.WriteRadixInt — under the IEEE exactness assumption the integer loop of radix.rs is the radix conversion
-/
namespace LexVerif.Proof.WriteRadixInt
open LexVerif.Spec LexVerif.Model LexVerif.Model.WriteBinary LexVerif.Model.WriteRadixInt
open LexVerif.Proof.WriteBinaryDigits

theorem intLoop_spec (ops : FOps) (r lim : Nat) (hx : IeeeExact lim ops) (hr : 2 ≤ r) (hrl : r < lim) :
    ∀ (fuel n : Nat) (acc : List Nat), 0 < n → n < lim → n < 2 ^ fuel →
      intLoop ops r fuel n acc = toDigits r n ++ acc := by
  intro fuel n acc h0 hl hf
  have h1 : 1 ≤ fuel := by
    rcases fuel with _ | k
    · simp at hf; omega
    · omega
  refine (loop_toDigits hr id (· < lim) id id (intLoop ops r) ?_ fuel n acc h1 hl hf).trans (by simp)
  intro fuel n acc hl
  obtain ⟨hrem, _, hsub0, hdiv⟩ := hx n r hl (by omega) hrl
  have hmodlt : n % r < r := Nat.mod_lt _ (by omega)
  have hsub : ops.fsub n (n % r) = n - n % r := by
    by_cases hz : n % r = 0
    · rw [hz]; simpa using hsub0
    · exact (hx n (n % r) hl (by omega) (by omega)).2.1 (Nat.mod_le _ _)
  have hdvd : r ∣ n - n % r := by
    have := Nat.div_add_mod n r
    exact ⟨n / r, by omega⟩
  have hquo : ops.fdiv (n - n % r) r = n / r := by
    have hlt : n - n % r < lim := by omega
    rw [(hx (n - n % r) r hlt (by omega) hrl).2.2.2 hdvd]
    have := Nat.div_add_mod n r
    have : n - n % r = r * (n / r) := by omega
    rw [this, Nat.mul_div_cancel_left _ (by omega)]
  refine ⟨n / r, Nat.lt_of_le_of_lt (Nat.div_le_self n r) hl, rfl, ?_⟩
  rw [intLoop]
  simp only [hrem, hsub, hquo, id]

theorem integerDigits_eq (ops : FOps) (r lim n : Nat) (hx : IeeeExact lim ops) (hr : 2 ≤ r) (hrl : r < lim)
    (h0 : 0 < n) (hl : n < lim) (h64 : lim ≤ 2 ^ 64) : integerDigits ops r n = toDigits r n := by
  unfold integerDigits
  rw [intLoop_spec ops r lim hx hr hrl 64 n [] h0 hl (by omega), List.append_nil]

/-- no leading zero, so `zero_count = 0` and `sci_exp = count - 1` -/
theorem ltrimZeroCount_toDigits (r n : Nat) (hr : 2 ≤ r) (h0 : 0 < n) : ltrimZeroCount (toDigits r n) = 0 := by
  obtain ⟨d, t, hdt, hd⟩ := toDigits_head_pos r n hr h0
  rw [hdt]; simp [ltrimZeroCount, List.takeWhile, hd]

end LexVerif.Proof.WriteRadixInt
