import LexVerif.Proof.SlowNegative
import LexVerif.Proof.SlowTables
/-!
# Proof.SlowCompose — `digit_comp` is `parse_mantissa` then one of the two comparisons

`digitComp_eq`: its `i32` exponent arithmetic does not wrap. `sig_value_pos`: `skip_zeros` removed the leading `b'0'`
bytes, so the big mantissa is non-zero as soon as there is a significant digit. `scientificExponent_spec`:
`scientific_exponent(num) = num.exponent + #digits(num.mantissa) − 1`.
-/

namespace LexVerif.Proof.Slow

open LexVerif.Spec LexVerif.Proof.Tables LexVerif.Model LexVerif.Model.Slow LexVerif.Model.Bellerophon

open LexVerif.Proof.RoundNE LexVerif.Proof.ExtRound LexVerif.Proof.Wrap

theorem digitComp_eq {E : Env} {F : FTy} {radix : Nat} (integer : List Nat) (fraction : Option (List Nat))
    (fp : ExtendedFloat80) (sciExp : Int) (maxDigits M c : Nat)
    (hpm : parseMantissa E radix maxDigits integer fraction = some (M, c)) (hc : c < 2 ^ 27)
    (hs1 : -(2 ^ 28 : Int) < sciExp) (hs2 : sciExp < 2 ^ 28) :
    digitComp E F radix integer fraction fp sciExp maxDigits =
      if sciExp + 1 - c ≥ 0 then positiveDigitComp E F radix M (sciExp + 1 - c)
      else negativeDigitComp E F radix M fp (sciExp + 1 - c) := by
  unfold digitComp
  rw [hpm]
  simp only [Option.bind_some]
  have e1 : wrapI32 (sciExp + 1) = sciExp + 1 := by apply wrapI32_eq <;> omega
  have e2 : wrapI32 ((c : Nat) : Int) = (c : Int) := by apply wrapI32_eq <;> omega
  have e3 : wrapI32 (sciExp + 1 - (c : Int)) = sciExp + 1 - c := by apply wrapI32_eq <;> omega
  rw [e1, e2, e3]

theorem digitVal_ne_zero {c radix : Nat} (hc : c < 256) (h48 : c ≠ 48) : Binary.digitVal c radix ≠ 0 :=
  fun h => h48 ((LexVerif.Proof.SlowBinary.digitVal_zero_iff c radix hc).mp h)

theorem ofDigits_pos_of_any {r : Nat} (hr : 0 < r) (ds : List Nat) (h : ds.any (· ≠ 0) = true) : 0 < ofDigits r ds := by
  obtain ⟨d, hd, hd0⟩ := List.any_eq_true.1 h
  exact ofDigits_pos hr ds ⟨d, hd, by simpa using hd0⟩

theorem anyNonzero_dv {radix : Nat} : ∀ (bs : List Nat), (∀ c ∈ bs, c < 256) →
    anyNonzero bs = (dv radix bs).any (· ≠ 0)
  | [], _ => rfl
  | c :: cs, h => by
    have ih := anyNonzero_dv (radix := radix) cs (fun x hx => h x (List.mem_cons_of_mem _ hx))
    unfold anyNonzero at ih ⊢
    simp only [dv, List.map_cons, List.any_cons] at ih ⊢
    rw [ih]
    congr 1
    by_cases h48 : c = 48
    · subst h48
      simp [digitVal_48 radix]
    · have := digitVal_ne_zero (radix := radix) (h c (List.mem_cons_self ..)) h48
      simp [h48, this]

theorem skipZeros_head : ∀ {bs : List Nat} {c : Nat} {cs : List Nat}, Binary.skipZeros bs = c :: cs → c ≠ 48
  | [], c, cs, h => by simp [Binary.skipZeros] at h
  | b :: bs, c, cs, h => by
    unfold Binary.skipZeros at h
    rw [List.dropWhile_cons] at h
    split at h
    · exact skipZeros_head (bs := bs) h
    · rename_i hb
      simp only [List.cons.injEq] at h
      rw [← h.1]; simpa using hb

theorem sigBytes_eq (i : List Nat) (f : Option (List Nat)) : sigBytes i f = Binary.skipZeros (i ++ f.getD []) := by
  unfold sigBytes Binary.skipZeros
  cases f with
  | none => simp
  | some fr =>
    rw [Option.getD_some, List.dropWhile_append]
    cases List.dropWhile (fun x => decide (x = 48)) i <;> simp

theorem sigBytes_head {integer : List Nat} {fraction : Option (List Nat)} {c : Nat} {cs : List Nat}
    (h : sigBytes integer fraction = c :: cs) : c ≠ 48 :=
  skipZeros_head (sigBytes_eq _ _ ▸ h)

theorem validDigits_sigBytes {radix : Nat} {integer : List Nat} {fraction : Option (List Nat)}
    (hvi : ValidDigits radix integer) (hvf : ∀ fr, fraction = some fr → ValidDigits radix fr) :
    ValidDigits radix (sigBytes integer fraction) := by
  rw [sigBytes_eq]
  refine valid_skipZeros (valid_append hvi ?_)
  cases fraction with
  | none => exact fun _ h => nomatch h
  | some fr => exact hvf fr rfl

theorem sig_value_pos {radix : Nat} (hr : 0 < radix) {integer : List Nat} {fraction : Option (List Nat)}
    (hne : sigBytes integer fraction ≠ []) (hb : ∀ c ∈ sigBytes integer fraction, c < 256) (n : Nat) (hn : 0 < n) :
    0 < ofDigits radix (dv radix ((sigBytes integer fraction).take n)) := by
  cases hs : sigBytes integer fraction with
  | nil => exact absurd hs hne
  | cons c cs =>
    have h48 := sigBytes_head hs
    have hc : c < 256 := hb c (by rw [hs]; exact List.mem_cons_self ..)
    obtain ⟨n', rfl⟩ : ∃ n', n = n' + 1 := ⟨n - 1, by omega⟩
    simp only [List.take_succ_cons, dv, List.map_cons]
    exact ofDigits_pos hr _ ⟨_, List.mem_cons_self .., digitVal_ne_zero hc h48⟩

/-- `while m >= d { m /= d; e += inc }` divides by `d^t` for the `t` that brings `m` below `d` -/
theorem divLoop_spec {d : Nat} (hd : 2 ≤ d) {inc : Int} (hi0 : 0 ≤ inc) (hi4 : inc ≤ 4) :
    ∀ (fuel m : Nat) (e : Int), m < 2 ^ fuel → -(2 ^ 60 : Int) ≤ e → e + 4 * fuel ≤ 2 ^ 60 →
      ∃ t, t ≤ fuel ∧ divLoop d inc fuel m e = (m / d ^ t, e + inc * t) ∧ m / d ^ t < d ∧ (1 ≤ m → 1 ≤ m / d ^ t)
  | 0, m, e, hm, _, _ => by
    have : m = 0 := by simpa using hm
    subst this
    exact ⟨0, Nat.le_refl _, by simp [divLoop], by simp; omega, by simp⟩
  | fuel + 1, m, e, hm, he1, he2 => by
    unfold divLoop
    by_cases hc : m ≥ d ∧ d ≥ 2
    · rw [if_pos hc]
      have hw : wrapI64 (e + inc) = e + inc := by apply wrapI64_eq <;> omega
      rw [hw]
      have hmd : m / d < 2 ^ fuel := by
        rw [Nat.div_lt_iff_lt_mul (by omega)]
        calc m < 2 ^ (fuel + 1) := hm
          _ = 2 ^ fuel * 2 := Nat.pow_succ ..
          _ ≤ 2 ^ fuel * d := Nat.mul_le_mul_left _ hd
      obtain ⟨t, ht, e1, e2, e3⟩ := divLoop_spec hd hi0 hi4 fuel (m / d) (e + inc) hmd (by omega) (by push_cast at he2 ⊢; omega)
      refine ⟨t + 1, by omega, ?_, ?_, ?_⟩
      · rw [e1, Nat.div_div_eq_div_mul, Nat.pow_succ, Nat.mul_comm d]
        congr 1; push_cast; ring
      · rw [Nat.pow_succ, Nat.mul_comm (d ^ t) d, ← Nat.div_div_eq_div_mul]; exact e2
      · intro _
        rw [Nat.pow_succ, Nat.mul_comm (d ^ t) d, ← Nat.div_div_eq_div_mul]
        exact e3 ((Nat.le_div_iff_mul_le (by omega)).mpr (by omega))
    · rw [if_neg hc]
      exact ⟨0, Nat.zero_le _, by simp, by simp; omega, by simp⟩

theorem scientificExponent_spec {radix : Nat} (hr : 2 ≤ radix) (hr36 : radix ≤ 36) {m : Nat} (hm1 : 1 ≤ m)
    (hm : m < 2 ^ 64) {e : Int} (he1 : -(2 ^ 30 : Int) ≤ e) (he2 : e ≤ 2 ^ 30) :
    ∃ T : Nat, radix ^ T ≤ m ∧ m < radix ^ (T + 1) ∧ scientificExponent radix m e = e + T := by
  have hr2 : radix * radix < 2 ^ 64 := by
    have : radix * radix ≤ 36 * 36 := Nat.mul_le_mul hr36 hr36
    omega
  have hr4 : radix * radix * (radix * radix) < 2 ^ 64 := by
    have : radix * radix ≤ 36 * 36 := Nat.mul_le_mul hr36 hr36
    have : radix * radix * (radix * radix) ≤ 36 * 36 * (36 * 36) := Nat.mul_le_mul this this
    omega
  have hge4 : 2 ≤ radix * radix * (radix * radix) := by
    have : 2 * 2 ≤ radix * radix := Nat.mul_le_mul hr hr
    have : 4 * 4 ≤ radix * radix * (radix * radix) := Nat.mul_le_mul this this
    omega
  have hge2 : 2 ≤ radix * radix := by
    have : 2 * 2 ≤ radix * radix := Nat.mul_le_mul hr hr
    omega
  unfold scientificExponent
  dsimp only
  rw [wrap64_id hr2, wrap64_id hr4]
  obtain ⟨t4, ht4, a1, a2, a3⟩ := divLoop_spec hge4 (inc := 4) (by omega) (by omega) 64 m e hm (by omega) (by omega)
  rw [a1]
  dsimp only
  have hm1' : m / (radix * radix * (radix * radix)) ^ t4 < 2 ^ 64 := Nat.lt_of_le_of_lt (Nat.div_le_self _ _) hm
  obtain ⟨t2, ht2, b1, b2, b3⟩ := divLoop_spec hge2 (inc := 2) (by omega) (by omega) 64
    (m / (radix * radix * (radix * radix)) ^ t4) (e + 4 * t4) hm1' (by omega) (by push_cast; omega)
  rw [b1]
  dsimp only
  have hm2' : m / (radix * radix * (radix * radix)) ^ t4 / (radix * radix) ^ t2 < 2 ^ 64 :=
    Nat.lt_of_le_of_lt (Nat.div_le_self _ _) hm1'
  obtain ⟨t1, ht1, c1, c2, c3⟩ := divLoop_spec hr (inc := 1) (by omega) (by omega) 64
    (m / (radix * radix * (radix * radix)) ^ t4 / (radix * radix) ^ t2) (e + 4 * t4 + 2 * t2) hm2' (by omega)
    (by push_cast; omega)
  rw [c1]
  dsimp only
  -- the three quotients are one division by `radix^T`
  have hpow : (radix * radix * (radix * radix)) ^ t4 * (radix * radix) ^ t2 * radix ^ t1 =
      radix ^ (4 * t4 + 2 * t2 + t1) := by
    have e4 : radix * radix * (radix * radix) = radix ^ 4 := by ring
    have e2 : radix * radix = radix ^ 2 := by ring
    rw [e4, e2, ← Nat.pow_mul, ← Nat.pow_mul, ← Nat.pow_add, ← Nat.pow_add]
  have hq : m / (radix * radix * (radix * radix)) ^ t4 / (radix * radix) ^ t2 / radix ^ t1 =
      m / radix ^ (4 * t4 + 2 * t2 + t1) := by
    rw [Nat.div_div_eq_div_mul, Nat.div_div_eq_div_mul, ← Nat.mul_assoc, hpow]
  rw [hq] at c2 c3
  have hpos : 0 < radix ^ (4 * t4 + 2 * t2 + t1) := Nat.pow_pos (by omega)
  have hlow := c3 (b3 (a3 hm1))
  refine ⟨4 * t4 + 2 * t2 + t1, ?_, ?_, ?_⟩
  · have := (Nat.le_div_iff_mul_le hpos).mp hlow
    omega
  · rw [Nat.div_lt_iff_lt_mul hpos] at c2
    rw [Nat.pow_succ, Nat.mul_comm]; exact c2
  · have : wrapI32 (e + 4 * ↑t4 + 2 * ↑t2 + 1 * ↑t1) = e + 4 * ↑t4 + 2 * ↑t2 + 1 * ↑t1 := by
      apply wrapI32_eq <;> omega
    rw [this]; push_cast; ring

end LexVerif.Proof.Slow
