import LexVerif.Proof.WriteRadixF
import LexVerif.Proof.Numeral
/-!
# Proof.WriteRadixInteger — the full radix.rs model on integral floats below `2^p` (Mathlib-free)

`generate_integral`: for the float of an integer `0 < n < 2^p`, digit generation of `Model.WriteRadix` (exact IEEE
arithmetic, no assumption) yields the canonical numeral `toDigits r n` as integer digits, no fraction digits, nothing
left behind: `float - floor(float) = 0` skips the fraction loop, `(n / r).exponent() ≤ 0` skips the zero padding and the
digit loop is the radix conversion because `%`, `-`, `/` are exact there (`Proof.WriteRadixF`). The integer loops are
treated for every float below `2^p`, integral or not (`genInteger_floor`).
-/
namespace LexVerif.Proof.WriteRadixInteger
open LexVerif.Spec LexVerif.Proof.RoundNE LexVerif.Proof.WriteRadixF
open LexVerif.Model.WriteRadix
open LexVerif.Model.WriteInt (Res)

theorem digitToCharConst_eq {d r : Nat} (hd : d < r) (hr : r ≤ 36) : digitToCharConst d r = digitChar d := by
  unfold digitToCharConst digitChar
  split <;> split <;> omega

/-- the remainder is exact, so is the subtraction (its result is a multiple of the base below `2^p`), and from then on
`integer` is an integer -/
theorem digitLoop_floor {f : Fmt} (h : FOK f) {r : Nat} (hr : 2 ≤ r) (hr36 : r ≤ 36) (hrp : r < 2 * 2 ^ (f.p - 1)) :
    ∀ (fuel y : Nat) (acc : List Nat), 1 ≤ fuel → y < (f.bias + f.p) * 2 ^ (f.p - 1) → RoundNE.ival f y / unit f < 2 ^ fuel →
      digitLoop f r (ofNat f r) fuel y acc = .ok ((toDigits r (RoundNE.ival f y / unit f)).map digitChar ++ acc) := by
  refine loop_toDigits hr (fun y => RoundNE.ival f y / unit f) (· < (f.bias + f.p) * 2 ^ (f.p - 1)) digitChar .ok
    (digitLoop f r (ofNat f r)) ?_
  intro fuel y acc hy
  have hu := unit_pos f
  have hr0 : 0 < r := by omega
  obtain ⟨hrv, hrf⟩ := ofNat_ival h hrp
  have hI : RoundNE.ival f y / unit f < 2 * 2 ^ (f.p - 1) := by
    rw [Nat.div_lt_iff_lt_mul hu, ← ival_two_pow_p h]; exact ival_strictMono f hy
  have hremv := (fmod_exact h.wf y hrf (by rw [hrv]; exact Nat.ne_of_gt (Nat.mul_pos hr0 hu))).1
  rw [hrv] at hremv
  generalize hYd : RoundNE.ival f y = Y at *
  have hdig : asU32 f (fmod f y (ofNat f r)) = Y / unit f % r := by
    unfold asU32
    rw [ival_eq, hremv, Nat.mul_comm r, Nat.mod_mul_right_div_self]
    have := Nat.mod_lt (Y / unit f) hr0
    omega
  have hm : Y / (r * unit f) = Y / unit f / r := by rw [Nat.mul_comm, Nat.div_div_eq_div_mul]
  have hmr : r * (Y / unit f / r) < 2 * 2 ^ (f.p - 1) := Nat.lt_of_le_of_lt (Nat.mul_div_le _ _) hI
  have hsub : fsub f y (fmod f y (ofNat f r)) = ofNat f (r * (Y / unit f / r)) := by
    obtain ⟨hv, hfin⟩ := ofNat_ival h hmr
    rw [fsub_eq, hYd, hremv, unit_eq]
    apply roundNE_of_ival h.wf hfin (Nat.two_pow_pos _)
    rw [hv, ← unit_eq, ← hm]
    have := Nat.div_add_mod Y (r * unit f)
    have e : Y - Y % (r * unit f) = r * unit f * (Y / (r * unit f)) := by omega
    rw [e]; ac_rfl
  have hq : fdiv f (ofNat f (r * (Y / unit f / r))) (ofNat f r) = ofNat f (Y / unit f / r) := by
    rw [fdiv_ofNat h hmr hrp hr0 ⟨_, rfl⟩, Nat.mul_div_cancel_left _ hr0]
  have hml : Y / unit f / r < 2 * 2 ^ (f.p - 1) := Nat.lt_of_le_of_lt (Nat.div_le_self _ _) hI
  have hval : RoundNE.ival f (ofNat f (Y / unit f / r)) / unit f = Y / unit f / r := by
    rw [(ofNat_ival h hml).1, Nat.mul_div_cancel _ hu]
  refine ⟨ofNat f (Y / unit f / r), ofNat_lt_two_pow_p h hml, hval, ?_⟩
  rw [digitLoop]
  simp only [hsub, hq, hdig, ofNat_eq_zero h hml, digitToCharConst_eq (Nat.mod_lt _ hr0) hr36]

theorem ffloor_ofNat {f : Fmt} (h : FOK f) {n : Nat} (hn : n < 2 * 2 ^ (f.p - 1)) : ffloor f (ofNat f n) = ofNat f n := by
  obtain ⟨hv, hfin⟩ := ofNat_ival h hn
  apply ival_inj f
  rw [(ffloor_exact h.wf hfin).1, hv, Nat.mul_div_cancel _ (unit_pos f)]

theorem fsub_self (f : Fmt) (a : Nat) : fsub f a a = 0 := by
  rw [fsub_eq, Nat.sub_self]; exact roundNE_zero f _

theorem genFraction_integral (cf : Bool) {f : Fmt} (h : FOK f) (r : Nat) {n : Nat} (hn : n < 2 * 2 ^ (f.p - 1)) :
    genFraction cf f r (ofNat f n) = .ok ([], [], false) := by
  unfold genFraction
  simp only [ffloor_ofNat h hn, fsub_self]
  rw [if_neg (Nat.not_lt_zero _)]

theorem genInteger_floor {f : Fmt} (h : FOK f) (hp : f.p ≤ halfSize) {r : Nat} (hr : 2 ≤ r) (hr36 : r ≤ 36)
    (hrp : r < 2 * 2 ^ (f.p - 1)) {y : Nat} (hy : y < (f.bias + f.p) * 2 ^ (f.p - 1)) :
    genInteger f r y = .ok ((toDigits r (RoundNE.ival f y / unit f)).map digitChar) := by
  have hexp := exponent_fdiv_le_zero h hy hrp (by omega : 0 < r)
  have hfuel : RoundNE.ival f y / unit f < 2 ^ halfSize := by
    have h2 := (two_pow_P h.wf).symm
    rw [Nat.div_lt_iff_lt_mul (unit_pos f)]
    calc RoundNE.ival f y < 2 * 2 ^ (f.p - 1) * unit f := by rw [← ival_two_pow_p h]; exact ival_strictMono f hy
      _ ≤ 2 ^ halfSize * unit f := Nat.mul_le_mul_right _ (by rw [h2]; exact Nat.pow_le_pow_right (by decide) hp)
  have hpad : padLoop f (ofNat f r) halfSize y [] = .ok (y, [], halfSize) := by
    show padLoop f (ofNat f r) (1099 + 1) y [] = _
    unfold padLoop
    rw [if_neg (by omega)]
    rfl
  unfold genInteger
  simp only [hpad, Res.bind, digitLoop_floor h hr hr36 hrp halfSize y [] (by decide) hy hfuel, List.append_nil]

theorem genInteger_ofNat {f : Fmt} (h : FOK f) (hp : f.p ≤ halfSize) {r : Nat} (hr : 2 ≤ r) (hr36 : r ≤ 36)
    (hrp : r < 2 * 2 ^ (f.p - 1)) {n : Nat} (hn : n < 2 * 2 ^ (f.p - 1)) :
    genInteger f r (ofNat f n) = .ok ((toDigits r n).map digitChar) := by
  rw [genInteger_floor h hp hr hr36 hrp (ofNat_lt_two_pow_p h hn), (ofNat_ival h hn).1,
    Nat.mul_div_cancel _ (unit_pos f)]

theorem generate_integral (cf : Bool) {f : Fmt} (h : FOK f) (hp : f.p ≤ halfSize) {r : Nat} (hr : 2 ≤ r) (hr36 : r ≤ 36)
    (hrp : r < 2 * 2 ^ (f.p - 1)) {n : Nat} (hn : n < 2 * 2 ^ (f.p - 1)) :
    generate cf f r (ofNat f n) = .ok ⟨(toDigits r n).map digitChar, [], []⟩ := by
  unfold generate
  rw [genFraction_integral cf h r hn]
  simp only [Res.bind, ffloor_ofNat h hn, Bool.false_eq_true, ↓reduceIte, genInteger_ofNat h hp hr hr36 hrp hn]

theorem generate_eq_ok {cf : Bool} {f : Fmt} {r bits : Nat} {g : Gen} (hg : generate cf f r bits = .ok g) :
    ∃ fr ints, genFraction cf f r bits = .ok fr ∧
      genInteger f r (if fr.2.2 then fadd f (ffloor f bits) (one f) else ffloor f bits) = .ok ints ∧
      g = ⟨ints, fr.1, fr.2.1⟩ := by
  obtain ⟨fr, hfr, hg⟩ := bind_eq_ok hg
  obtain ⟨ints, hi, hg⟩ := bind_eq_ok hg
  exact ⟨fr, ints, hfr, hi, (Res.ok.inj hg).symm⟩

theorem genFraction_eq_ok {cf : Bool} {f : Fmt} {r bits : Nat} {fr : List Nat × List Nat × Bool}
    (hfr : genFraction cf f r bits = .ok fr) :
    (¬ fsub f bits (ffloor f bits) > deltaOf f bits ∧ fr = ([], [], false)) ∨
    (fsub f bits (ffloor f bits) > deltaOf f bits ∧ ∃ out,
      fracLoop cf f r (ofNat f r) halfSize (fsub f bits (ffloor f bits)) (deltaOf f bits) [] = .ok out ∧
      fr = (out.1.reverse, out.2.1, out.2.2)) := by
  unfold genFraction at hfr
  dsimp only at hfr
  split at hfr
  · rename_i hgt
    obtain ⟨out, ho, hfr⟩ := bind_eq_ok hfr
    exact Or.inr ⟨hgt, out, ho, (Res.ok.inj hfr).symm⟩
  · rename_i hgt
    exact Or.inl ⟨hgt, (Res.ok.inj hfr).symm⟩

end LexVerif.Proof.WriteRadixInteger
