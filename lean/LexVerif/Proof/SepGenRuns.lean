import LexVerif.Proof.SepSkipAll
import LexVerif.Proof.ParseNumberTotal
import LexVerif.Proof.SepFreeMany
/-!
# Proof.SepGenRuns — the classes `GenStrip`, `StripClass`, and a digit run over ANY skip iterator (all 15 `peek` variants)

`Run` packages what `parse_digits` of one component did on an input WITH separators (where it ended, what it counted, that
the digits are the non-separator bytes it passed); the integer and the fraction phase over such an input are stated in terms
of it (`integerPhase_left`, `fractionPhase_left`).
-/
namespace LexVerif.Proof.Sep
open LexVerif LexVerif.Model LexVerif.Spec
open LexVerif.Props.C12

theorem advS_advS (c : Cfg) (k : Comp) (d1 c1 d2 c2 : Nat) (b : Bytes) :
    advS c k d2 c2 (advS c k d1 c1 b) = advS c k (d1 + d2) (c1 + c2) b := by
  cases k <;> cases hf : c.feats.format <;> simp [advS, hf, Nat.add_assoc]

theorem advS_zero_zero (c : Cfg) (k : Comp) (b : Bytes) : advS c k 0 0 b = b := by
  cases k <;> simp [advS]

/-- byte `x` passes the comparison `parse_number` makes against the exponent character
(`PNDebug.matchesB x o.exp (c.caseSensitiveExponent && c.feats.format)`) -/
def matchesExp (c : Cfg) (o : POpts) (x : Nat) : Bool :=
  if c.caseSensitiveExponent && c.feats.format then x == o.exp else eqIgnoreCase x o.exp

/-- the class for the general strip / insert theorems: release build of a valid separator format, ANY of the 15 `peek`
variants on each component -/
structure GenStrip (c : Cfg) (o : POpts) : Prop where
  rel : RelClass c
  sep : c.digitSeparator ≠ 0
  noPrefix : c.basePrefix = 0
  noSuffix : c.baseSuffix = 0
  noLz : c.noFloatLeadingZeros = false
  reqExp : c.requiredExponentDigits = true
  reqMant : c.requiredMantissaDigits = true
  sepPlus : c.isSep 43 = false
  sepMinus : c.isSep 45 = false
  sepDp : c.isSep o.dp = false
  sepExp : ∀ x, c.isSep x = true → matchesExp c o x = false
  dpDigit : charToDigit o.dp c.mantissaRadix = none
  sepDigM : ∀ x, c.isSep x = true → charToDigit x c.mantissaRadix = none
  sepDigE : ∀ x, c.isSep x = true → charToDigit x c.exponentRadix = none
  radixM1 : 1 ≤ c.mantissaRadix
  radixM : c.mantissaRadix ≤ 36
  radixE : c.exponentRadix ≤ 36
  dpSign : o.dp ≠ 43 ∧ o.dp ≠ 45

theorem GenStrip.format {c : Cfg} {o : POpts} (h : GenStrip c o) : c.feats.format = true :=
  IterSpec.format_of_sep (by simp [Cfg.bytesContiguous, h.sep])

/-- the separator cannot be taken for anything the parser looks for in or after the digits of component `k`. For the
fraction the decimal point in front of it is, moreover, no digit (the re-scan of the fraction's stored bytes starts
behind it). -/
def Inert (c : Cfg) (o : POpts) : Comp → Prop
  | .integer => c.isSep o.dp = false ∧ (∀ x, c.isSep x = true → matchesExp c o x = false) ∧
      ∀ x, c.isSep x = true → charToDigit x c.mantissaRadix = none
  | .fraction => charToDigit o.dp c.mantissaRadix = none ∧ (∀ x, c.isSep x = true → matchesExp c o x = false) ∧
      ∀ x, c.isSep x = true → charToDigit x c.mantissaRadix = none
  | .exponent => ∀ x, c.isSep x = true → charToDigit x c.exponentRadix = none
  | .special => True

/-- the class of the strip / insert theorems: each digit component either skips EVERY separator (I+L+T+C: its `peek`
never shows one, so nothing need be asked of the separator byte) or has any of the other `peek` variants and a separator
that is `Inert` for it. `SkipAll` (all three components I+L+T+C) and `GenStrip` (all three inert) are the two ends. -/
structure StripClass (c : Cfg) (o : POpts) : Prop where
  debug : c.debug = false
  reach : ∀ k, c.skip k ≠ .unreachable
  multi : ∀ k, k ≠ .special → canMultidigit c k = true → c.mantissaRadix ≤ 10
  sep : c.digitSeparator ≠ 0
  noPrefix : c.basePrefix = 0
  noSuffix : c.baseSuffix = 0
  noLz : c.noFloatLeadingZeros = false
  reqExp : c.requiredExponentDigits = true
  reqMant : c.requiredMantissaDigits = true
  sepPlus : c.isSep 43 = false
  sepMinus : c.isSep 45 = false
  radixM : c.mantissaRadix ≤ 36
  radixE : c.exponentRadix ≤ 36
  comp : ∀ k, k ≠ .special → c.skip k = .pred .iltc ∨ Inert c o k

theorem GenStrip.stripClass {c : Cfg} {o : POpts} (h : GenStrip c o) : StripClass c o where
  debug := h.rel.debug
  reach := h.rel.reach
  multi := fun k _ hm => h.rel.multi k hm
  sep := h.sep
  noPrefix := h.noPrefix
  noSuffix := h.noSuffix
  noLz := h.noLz
  reqExp := h.reqExp
  reqMant := h.reqMant
  sepPlus := h.sepPlus
  sepMinus := h.sepMinus
  radixM := h.radixM
  radixE := h.radixE
  comp := fun k hk => Or.inr (by
    cases k with
    | integer => exact ⟨h.sepDp, h.sepExp, h.sepDigM⟩
    | fraction => exact ⟨h.dpDigit, h.sepExp, h.sepDigM⟩
    | exponent => exact h.sepDigE
    | special => exact absurd rfl hk)

theorem SkipAll.stripClass {c : Cfg} (h : SkipAll c) (o : POpts) : StripClass c o where
  debug := h.debug
  reach := h.sepClass.reach
  multi := fun k hk hm => by
    have hc : c.iterContiguous k = false := by
      cases k with
      | integer => exact h.sepClass.int
      | fraction => exact h.sepClass.frac
      | exponent => simp [Cfg.iterContiguous, skip_iltc_any (c.sepFlags .exponent) h.exp]
      | special => exact absurd rfl hk
    exact multi_of_not_contig hc hm
  sep := h.sep
  noPrefix := h.noPrefix
  noSuffix := h.noSuffix
  noLz := h.noLz
  reqExp := h.reqExp
  reqMant := h.reqMant
  sepPlus := h.sepPlus
  sepMinus := h.sepMinus
  radixM := h.radixM
  radixE := h.radixE
  comp := fun k hk => Or.inl (by
    cases k with
    | integer => exact h.int
    | fraction => exact h.frac
    | exponent => exact h.exp
    | special => exact absurd rfl hk)

namespace StripClass
variable {c : Cfg} {o : POpts} (h : StripClass c o)
include h

theorem bytes : c.bytesContiguous = false := by simp [Cfg.bytesContiguous, h.sep]

theorem format : c.feats.format = true := IterSpec.format_of_sep h.bytes

theorem tot : PNTotal.Rel c := ⟨h.debug, h.reach⟩

theorem cleanM (k : Comp) (hk : k = .integer ∨ k = .fraction) : IterSpec.Clean c k (IterSpec.isDig c.mantissaRadix) := by
  rcases hk with rfl | rfl
  · rcases h.comp .integer (by decide) with h1 | h2
    · exact Or.inl h1
    · exact clean_of_sep h2.2.2 _
  · rcases h.comp .fraction (by decide) with h1 | h2
    · exact Or.inl h1
    · exact clean_of_sep h2.2.2 _

theorem cleanE : IterSpec.Clean c .exponent (IterSpec.isDig c.exponentRadix) := by
  rcases h.comp .exponent (by decide) with h1 | h2
  · exact Or.inl h1
  · exact clean_of_sep h2 _

theorem sepDig_of_contig (k : Comp) (hk : k = .integer ∨ k = .fraction) (hc : c.iterContiguous k = true) :
    ∀ x, c.isSep x = true → charToDigit x c.mantissaRadix = none := by
  rcases hk with rfl | rfl
  · rcases h.comp .integer (by decide) with h1 | h2
    · rw [skip_of_contig c _ hc] at h1; cases h1
    · exact h2.2.2
  · rcases h.comp .fraction (by decide) with h1 | h2
    · rw [skip_of_contig c _ hc] at h1; cases h1
    · exact h2.2.2

end StripClass

theorem firstIs_exp (c : Cfg) (o : POpts) (b : Bytes) :
    b.firstIs o.exp (c.caseSensitiveExponent && c.feats.format) =
      (match b.slc[b.index]? with | some x => matchesExp c o x | none => false) := by
  unfold Bytes.firstIs Bytes.firstIsCased Bytes.firstIsUncased Bytes.first matchesExp
  cases b.slc[b.index]? with
  | none => cases (c.caseSensitiveExponent && c.feats.format) <;> simp
  | some x => cases (c.caseSensitiveExponent && c.feats.format) <;> simp

theorem advS_csum (c : Cfg) (k : Comp) (di dc : Nat) (b : Bytes) (hf : c.feats.format = true) (hk : k ≠ .special) :
    Bytes.currentCount c (advS c k di dc b) - Bytes.currentCount c b = dc ∨ c.bytesContiguous = true := by
  cases hb : c.bytesContiguous
  · left
    simp only [Bytes.currentCount, hb, Bool.false_eq_true, if_false, advS_count c k di dc b hf hk]
    omega
  · right; rfl

theorem digitsPrefix_take_noSep (c : Cfg) (r : Nat) (hsep : ∀ x, c.isSep x = true → charToDigit x r = none) :
    ∀ l : List Nat, NoSep c (l.take (digitsPrefix r l).length) := by
  intro l
  induction l with
  | nil => intro x hx; simp at hx
  | cons y ys ih =>
    simp only [digitsPrefix]
    cases hdg : charToDigit y r with
    | none => intro x hx; simp at hx
    | some d =>
      simp only [List.length_cons, List.take_succ_cons]
      intro x hx
      simp only [List.mem_cons] at hx
      rcases hx with rfl | hx
      · cases hcs : c.isSep x with
        | false => rfl
        | true => have := hsep x hcs; rw [hdg] at this; cases this
      · exact ih x hx

theorem digitsRun_any (c : Cfg) (o : POpts) (hC : StripClass c o) (k : Comp) (hk : k = .integer ∨ k = .fraction)
    (b : Bytes) (m : Nat) (hv : Bytes.Valid b) :
    ∃ m1 b1 ds1 ds e, parse8Digits c k b m = .ok (m1, b1) ∧ parseDigits c k c.mantissaRadix b1 = .ok (ds1, e) ∧
      parseDigits c k c.mantissaRadix b = .ok (ds, e) ∧
      foldMantissa c.mantissaRadix m1 ds1 = foldMantissa c.mantissaRadix m ds ∧
      (c.iterContiguous k = true → e.index - b.index = ds.length ∧ NoSep c (slice b.slc b.index e.index)) := by
  have hks : k ≠ .special := by rcases hk with rfl | rfl <;> decide
  cases hc : c.iterContiguous k
  · obtain ⟨ds, e, h, _⟩ := PNTotal.parseDigits_tot hC.tot k c.mantissaRadix b hv
    exact ⟨m, b, ds, ds, e, parse8Digits_sep c k hc b m, h, h, rfl, by intro h; cases h⟩
  · have hp := plainPeek_noskip c k b.slc (skip_of_contig c k hc)
    obtain ⟨m1, b1, ds1, h1, h2, h3⟩ := digitsRun_pk c k hC.debug (hC.multi k hks) b m hp
    refine ⟨m1, b1, ds1, _, _, h1, h2, parseDigits_pk c k _ hC.debug b hp, h3, ?_⟩
    intro _
    refine ⟨by simp, ?_⟩
    simp only [adv_index, slice_drop]
    exact digitsPrefix_take_noSep c _ (hC.sepDig_of_contig k hk hc) _

structure Run (c : Cfg) (k : Comp) (r : Nat) (b e : Bytes) (ds : List Nat) : Prop where
  run : parseDigits c k r b = .ok (ds, e)
  eq : e = advS c k (e.index - b.index) ds.length b
  le : b.index ≤ e.index
  valid : e.index ≤ b.slc.length
  yields : (nonSep c (slice b.slc b.index e.index)).map (fun x => charToDigit x r) = ds.map some
  stop : ∀ x, b.slc[e.index]? = some x → charToDigit x r = none

theorem Run.of_clean (c : Cfg) (k : Comp) (r : Nat) (hd : c.debug = false)
    (hcl : IterSpec.Clean c k (IterSpec.isDig r)) (b e : Bytes)
    (ds : List Nat) (hv : Bytes.Valid b) (h : parseDigits c k r b = .ok (ds, e)) : Run c k r b e ds := by
  obtain ⟨h1, h2, h3, h4, h5⟩ := parseDigits_trace c k r hd hcl b e ds hv h
  exact ⟨h, h1, h2, h3, h4, h5⟩

theorem Run.total {c : Cfg} {o : POpts} (hC : StripClass c o) (k : Comp) (hk : k = .integer ∨ k = .fraction)
    (b : Bytes) (hv : Bytes.Valid b) : ∃ ds e, Run c k c.mantissaRadix b e ds := by
  obtain ⟨ds, e, h, _⟩ := PNTotal.parseDigits_tot hC.tot k c.mantissaRadix b hv
  exact ⟨ds, e, Run.of_clean c k _ hC.debug (hC.cleanM k hk) b e ds hv h⟩

theorem run_normal_iltc (c : Cfg) (k : Comp) (r : Nat) (hd : c.debug = false) (hk : c.skip k = .pred .iltc)
    (b e : Bytes) (ds : List Nat) (hR : Run c k r b e ds) : ∀ x, b.slc[e.index]? = some x → c.isSep x = false := by
  have h := hR.run
  rw [parseDigits_eq c k r hd (by rw [hk]; simp) b] at h
  simp only [Except.ok.injEq, Prod.mk.injEq] at h
  rw [← h.2, IterSpec.mv_index]
  exact IterSpec.scan_rest_iltc hk b.slc _ _ _ _

theorem Run.slc {c : Cfg} {k : Comp} {r : Nat} {b e : Bytes} {ds : List Nat} (h : Run c k r b e ds) : e.slc = b.slc := by
  rw [h.eq]; simp

theorem Run.countLB {c : Cfg} {k : Comp} {r : Nat} {b e : Bytes} {ds : List Nat} (h : Run c k r b e ds)
    (hf : c.feats.format = true) (hb : c.bytesContiguous = false) (hk : k ≠ .special) :
    Bytes.currentCount c e = Bytes.currentCount c b + ds.length := by
  rw [h.eq]
  simp only [Bytes.currentCount, hb, Bool.false_eq_true, if_false, advS_count c k _ _ b hf hk]

theorem Run.count {c : Cfg} {k : Comp} {r : Nat} {b e : Bytes} {ds : List Nat} (h : Run c k r b e ds)
    (hf : c.feats.format = true) (hb : c.bytesContiguous = false) (hk : k ≠ .special) :
    Bytes.currentCount c e - Bytes.currentCount c b = ds.length := by
  rw [h.countLB hf hb hk, Nat.add_sub_cancel_left]

theorem integerPhase_left (c : Cfg) (o : POpts) (hC : StripClass c o) (b : Bytes) (hv : Bytes.Valid b) :
    ∃ ds e, Run c .integer c.mantissaRadix b e ds ∧
      (c.iterContiguous .integer = true → e.index - b.index = ds.length ∧ NoSep c (slice b.slc b.index e.index)) ∧
      integerPhase c b =
        (if (c.requiredIntegerDigits && decide (ds.length = 0)) = true then .error (.err "EmptyInteger" e.index)
         else .ok ⟨false, b, e, foldMantissa c.mantissaRadix 0 ds, ds.length, slice b.slc b.index e.index⟩) := by
  obtain ⟨m1, b1, ds1, ds, e, h1, h2, h3, h4, h5⟩ := digitsRun_any c o hC .integer (Or.inl rfl) b 0 hv
  have hR := Run.of_clean c .integer _ hC.debug (hC.cleanM _ (Or.inl rfl)) b e ds hv h3
  refine ⟨ds, e, hR, h5, ?_⟩
  unfold integerPhase
  simp only [prefixPhase_none c hC.noPrefix b, bind, Except.bind, h1, h2, pure, Except.pure, h4,
    hR.count hC.format hC.bytes (by decide), hC.format, Bool.true_and]
  have hbd : (if (!c.iterContiguous Comp.integer) = true then e.index - b.index else ds.length) = e.index - b.index := by
    cases hc : c.iterContiguous .integer
    · simp
    · simp [(h5 hc).1]
  rw [hbd]
  by_cases hz : (c.requiredIntegerDigits && decide (ds.length = 0)) = true
  · simp only [hz, if_true]
  · simp only [hz, Bool.false_eq_true, if_false]
    rw [IterSpec.sliceTo_ok b _ _ (by have := hR.valid; omega)]
    simp only [hC.noLz, Bool.and_false, Bool.false_and, Bool.false_eq_true, if_false, slice]

theorem fractionPhase_left (c : Cfg) (o : POpts) (hC : StripClass c o) (b : Bytes) (m : Nat) :
    (b.firstIsCased o.dp = false ∧ fractionPhase c o b m = .ok ⟨b, m, 0, 0, none, false⟩) ∨
    (b.slc[b.index]? = some o.dp ∧ ∃ ds e, Run c .fraction c.mantissaRadix { b with index := b.index + 1 } e ds ∧
      (c.iterContiguous .fraction = true →
        e.index - (b.index + 1) = ds.length ∧ NoSep c (slice b.slc (b.index + 1) e.index)) ∧
      fractionPhase c o b m =
        (if (c.requiredFractionDigits && decide (ds.length = 0)) = true then .error (.err "EmptyFraction" e.index)
         else .ok ⟨e, foldMantissa c.mantissaRadix m ds, ds.length, scaleVal c (-(ds.length : Int)),
           some (slice b.slc (b.index + 1) e.index), true⟩)) := by
  by_cases hdp : b.firstIsCased o.dp = true
  · right
    have hget : b.slc[b.index]? = some o.dp := by
      simp only [Bytes.firstIsCased, Bytes.first, beq_iff_eq] at hdp; exact hdp
    have hlt : b.index < b.slc.length := (List.getElem?_eq_some_iff.mp hget).1
    have hv1 : Bytes.Valid ({ b with index := b.index + 1 } : Bytes) := by unfold Bytes.Valid; simp only; omega
    obtain ⟨m1, b1, ds1, ds, e, h1, h2, h3, h4, h5⟩ :=
      digitsRun_any c o hC .fraction (Or.inr rfl) { b with index := b.index + 1 } m hv1
    have hR := Run.of_clean c .fraction _ hC.debug (hC.cleanM _ (Or.inr rfl)) _ e ds hv1 h3
    refine ⟨hget, ds, e, hR, h5, ?_⟩
    unfold fractionPhase
    simp only [hdp, if_true, step_release c hC.debug, bind, Except.bind, h1, h2, pure, Except.pure, h4,
      hR.count hC.format hC.bytes (by decide), hC.format, Bool.true_and, scaleExponent_release c hC.debug]
    have hbd : (if (!c.iterContiguous Comp.fraction) = true then e.index - (b.index + 1) else ds.length)
        = e.index - (b.index + 1) := by
      cases hc : c.iterContiguous .fraction
      · simp
      · simp [(h5 hc).1]
    rw [hbd]
    have hlen : e.index - (b.index + 1) ≤ b.slc.length - (b.index + 1) := by
      have : e.index ≤ b.slc.length := hR.valid
      omega
    rw [IterSpec.sliceTo_ok { b with index := b.index + 1 } _ _ hlen]
    simp only [slice]
  · left
    have hdp' : b.firstIsCased o.dp = false := by simpa using hdp
    refine ⟨hdp', ?_⟩
    unfold fractionPhase
    simp only [hdp', Bool.false_eq_true, if_false, pure, Except.pure]

end LexVerif.Proof.Sep
