import LexVerif.Model.WriteBinary
import LexVerif.Spec.StdFloat
import LexVerif.Proof.Numeral
import LexVerif.Proof.GrammarStd
import LexVerif.Proof.RoundTripSplit
/-!
# Proof.WriteBinaryParse — digits → bytes → parser: `Spec.parseStdComplete` inverts `WriteBinary.render`

A `Layout` is a `RoundTrip.Shape` (`toShape`) and `WriteBinary.render` is `Shape.render` of it, so the documented grammar
accepts it (`RoundTrip.grammarFloatSyn_render`, the theorem under the decimal round trip, at the standard flags); a number of
the standard grammar is a number of the flag-free parser (`Grammar.parseStdComplete_of_grammar_num`):
`parseComplete_render`.
-/
namespace LexVerif.Proof.WriteBinaryParse
open LexVerif LexVerif.Spec LexVerif.Model LexVerif.Model.WriteBinary LexVerif.Proof.Grammar LexVerif.Proof.RoundTrip

/-- a `Layout` of binary.rs / hex.rs / radix.rs as the `Shape` of the decimal writer -/
def toShape (l : Layout) : Shape := ⟨l.int, if l.point then some l.frac else none, l.exp⟩

structure WFL (r : Nat) (l : Layout) : Prop where
  below : (toShape l).Below r
  int_ne : l.int ≠ []
  nopoint : l.point = false → l.frac = []

theorem WFL.digits_lt {r : Nat} {l : Layout} (hw : WFL r l) : ∀ d ∈ l.int ++ l.frac, d < r := by
  intro d hd
  rcases List.mem_append.mp hd with h | h
  · exact hw.below.1 d h
  · cases hp : l.point with
    | false => rw [hw.nopoint hp] at h; cases h
    | true => exact hw.below.2 l.frac (by simp [toShape, hp]) d h

theorem render_toShape (fmt : Format) (feats : Features) (o : WOpts) (l : Layout) :
    render fmt feats o l = (toShape l).render o.dp o.exp fmt.exponentRadix (plusReqOf fmt feats) := by
  obtain ⟨i, f, p, x⟩ := l
  unfold render toShape Shape.render
  cases p <;> cases x <;> simp [fracText, expPart, writeExponent_expText]

def sgOf (neg : Bool) : Option Bool := if neg then some true else none

theorem signBytes_sgOf (neg : Bool) : signBytes (sgOf neg) = if neg then [45] else [] := by cases neg <;> rfl

/-- none of the standard flags constrains a shape with integer digits (`hok`) -/
theorem parseComplete_render (fmt : Format) (feats : Features) (o : WOpts) (po : POpts) (l : Layout) (neg : Bool) (r : Nat)
    (hr : r ≤ 36) (hw : WFL r l) (hexp : po.exp = o.exp) (hdp : po.dp = o.dp)
    (hdpnd : digitVal r o.dp = none) (hexpnd : digitVal r o.exp = none) (hne : o.exp ≠ o.dp)
    (her2 : 2 ≤ fmt.exponentRadix) (her : fmt.exponentRadix ≤ 36) :
    parseStdComplete r fmt.exponentRadix po ((if neg then [45] else []) ++ render fmt feats o l)
      = .num ⟨neg, l.int, l.frac, l.exp.getD 0⟩ (((if neg then [45] else []) ++ render fmt feats o l).length) := by
  have hfr : (toShape l).frac.getD [] = l.frac := by
    unfold toShape; cases hp : l.point <;> simp [hw.nopoint, hp]
  have hneg : (sgOf neg == some true) = neg := by cases neg <;> rfl
  have hok : ShapeOk (stdSyn r fmt.exponentRadix) (plusReqOf fmt feats) (sgOf neg) (toShape l) :=
    ⟨by cases neg <;> rfl, hw.int_ne, nofun, nofun, nofun, nofun, nofun,
      fun e _ => by unfold signOk expSignOf; split <;> simp [stdSyn]⟩
  have key := grammarFloatSyn_render (stdSyn r fmt.exponentRadix) po (sgOf neg) (toShape l) (plusReqOf fmt feats) hr her2 her
    hw.below
    (hdp ▸ hdpnd) (hexp ▸ hexpnd) (by rw [hdp, hexp]; exact hne.symm) (splitPrefix_none _ rfl _) hok
  rw [hneg, hfr, signBytes_sgOf] at key
  rw [render_toShape, ← hdp, ← hexp]
  exact parseStdComplete_of_grammar_num _ _ _ _ _ _ key

end LexVerif.Proof.WriteBinaryParse
