import LexVerif.Proof.WriteRadixError
import LexVerif.Proof.WriteRadixWF
/-!
# Proof.WriteRadixFrac — every digit the (repaired) fraction loop leaves in the buffer is below the radix

`predOne_table_f64/f32` (kernel-evaluated, 29 generic radices each): the largest float below 1 times the base rounds
strictly below the base. By monotonicity of rounding `fraction < 1 ⇒ round(fraction · base) < base`, so
`fraction.as_u32()` never yields `radix` (`fracDigit_lt`, `fracIter_lt`).
-/
namespace LexVerif.Proof.WriteRadixFrac
open LexVerif.Spec LexVerif.Model LexVerif.Proof.RoundNE LexVerif.Proof.WriteRadixF LexVerif.Proof.WriteRadixTerm
open LexVerif.Proof.WriteRadixWF LexVerif.Proof.WriteRadixInteger LexVerif.Proof.WriteRadixError
open LexVerif.Model.WriteRadix
open LexVerif.Model.WriteInt (Res)

/-- the radices handled by radix.rs: 3..36 without the powers of two and ten -/
def genericRadices : List Nat :=
  [3, 5, 6, 7, 9, 11, 12, 13, 14, 15, 17, 18, 19, 20, 21, 22, 23, 24, 25, 26, 27, 28, 29, 30, 31, 33, 34, 35, 36]

theorem mem_genericRadices {r : Nat} (h1 : 3 ≤ r) (h2 : r ≤ 36)
    (h : r ≠ 4 ∧ r ≠ 8 ∧ r ≠ 10 ∧ r ≠ 16 ∧ r ≠ 32) : r ∈ genericRadices := by
  have table : ∀ r, r < 37 → 3 ≤ r → r ≠ 4 ∧ r ≠ 8 ∧ r ≠ 10 ∧ r ≠ 16 ∧ r ≠ 32 → r ∈ genericRadices := by decide
  exact table r (by omega) h1 h

/-- `(1 - ulp/2) · base` rounds strictly below `base` -/
def PredOne (f : Fmt) (r : Nat) : Prop := fmul f (one f - 1) (ofNat f r) < ofNat f r

instance (f : Fmt) (r : Nat) : Decidable (PredOne f r) := by unfold PredOne; infer_instance

theorem predOne_table_f32 : ∀ r ∈ genericRadices, PredOne f32 r := by decide +kernel
theorem predOne_table_f64 : ∀ r ∈ genericRadices, PredOne f64 r := by decide +kernel

theorem fracDigit_lt {f : Fmt} (h : FOK f) {r : Nat} (hr36 : r ≤ 36) (hrp : r < 2 * 2 ^ (f.p - 1))
    (hpo : PredOne f r) {x : Nat} (hx : x < one f) : asU32 f (fmul f x (ofNat f r)) < r := by
  obtain ⟨hd, _, _, _⟩ := frac_step h hr36 hrp (Nat.le_of_lt hx)
  have hle : fmul f x (ofNat f r) ≤ fmul f (one f - 1) (ofNat f r) :=
    fmul_mono h.wf (by omega) (Nat.le_refl _)
  have hlt : fmul f x (ofNat f r) < ofNat f r := Nat.lt_of_le_of_lt hle hpo
  have hv := ival_strictMono f hlt
  rw [(ofNat_ival h hrp).1] at hv
  rw [hd]
  exact (Nat.div_lt_iff_lt_mul (unit_pos f)).mpr hv

theorem fracIter_lt {f : Fmt} (h : FOK f) {r : Nat} (hr36 : r ≤ 36) (hrp : r < 2 * 2 ^ (f.p - 1)) (hpo : PredOne f r) :
    ∀ (n x : Nat), x < one f → (∀ d ∈ (fracIter f r n x).1, d < r) ∧ (fracIter f r n x).2 < one f
  | 0, x, hx => ⟨by simp [fracIter], hx⟩
  | n + 1, x, hx => by
    obtain ⟨_, _, _, hlt⟩ := frac_step h hr36 hrp (Nat.le_of_lt hx)
    obtain ⟨i1, i2⟩ := fracIter_lt h hr36 hrp hpo n _ hlt
    refine ⟨fun d hd => ?_, i2⟩
    rcases List.mem_cons.mp hd with rfl | hd
    · exact fracDigit_lt h hr36 hrp hpo hx
    · exact i1 d hd

theorem generate_ints {cf : Bool} {f : Fmt} (h : FOK f) {r : Nat} (hr : 2 ≤ r) (hr36 : r ≤ 36)
    (hrp : r < 2 * 2 ^ (f.p - 1)) (hB : f.bias + 2 ≤ halfSize) {bits : Nat} {g : Gen}
    (hg : generate cf f r bits = .ok g) : (∀ c ∈ g.ints, DigitByte r c) ∧ g.ints ≠ [] := by
  obtain ⟨fr, ints, _, hi, rfl⟩ := generate_eq_ok hg
  exact genInteger_digitBytes h hr hr36 hrp hB (WriteRadixTermInt.carried_le h.wf _ _) hi

end LexVerif.Proof.WriteRadixFrac
