import LexVerif.Proof.WriteFloatBuf
import LexVerif.Proof.Validity
import LexVerif.Proof.Numeral
/-!
# Proof.WriteFloatAscii — "every byte of a list satisfies `P`" (`AllP`, `Asc`, `Digs`) with its list rules, the digit range
that rounding and trimming keep, and what `OptionsBuilder::build` = `Ok` says about the bytes of the options (`ValidOpts`).
The statements about the text of the layouts are `RoundTrip.allP_render` and `Props/C17`.
-/
namespace LexVerif.Proof.WriteFloatAscii
open LexVerif.Spec LexVerif.Model LexVerif.Model.WriteFloat LexVerif.Proof.WriteFloatBuf

def AllP (P : Nat → Prop) (l : List Nat) : Prop := ∀ b ∈ l, P b
abbrev Asc (l : List Nat) : Prop := AllP (· < 128) l
abbrev Digs (r : Nat) (l : List Nat) : Prop := AllP (· < r) l

@[simp] theorem allP_append_iff {P : Nat → Prop} (a b : List Nat) : AllP P (a ++ b) ↔ AllP P a ∧ AllP P b :=
  List.forall_mem_append
@[simp] theorem allP_cons_iff {P : Nat → Prop} (x : Nat) (l : List Nat) : AllP P (x :: l) ↔ P x ∧ AllP P l :=
  List.forall_mem_cons
@[simp] theorem allP_nil_iff {P : Nat → Prop} : AllP P [] ↔ True := by simp [AllP]

theorem allP_chars {P : Nat → Prop} {r : Nat} (hdig : ∀ d, d < r → P (digitChar d)) {ds : List Nat} (h : Digs r ds) :
    AllP P (chars ds) := by
  intro b hb; unfold chars at hb
  obtain ⟨d, hd, rfl⟩ := List.mem_map.mp hb
  exact hdig d (h d hd)

theorem allP_append {P : Nat → Prop} {a b : List Nat} (ha : AllP P a) (hb : AllP P b) : AllP P (a ++ b) :=
  (allP_append_iff a b).mpr ⟨ha, hb⟩

theorem digitChar_lt_128 (d : Nat) (h : d < 36) : digitChar d < 128 := by
  unfold digitChar; split <;> omega

theorem asc_chars {ds : List Nat} (h : Digs 36 ds) : Asc (chars ds) := allP_chars digitChar_lt_128 h

theorem digs_mono {r s : Nat} {l : List Nat} (hrs : r ≤ s) (h : Digs r l) : Digs s l :=
  fun d hd => Nat.lt_of_lt_of_le (h d hd) hrs
theorem digs_take {r : Nat} {l : List Nat} (n : Nat) (h : Digs r l) : Digs r (l.take n) :=
  fun d hd => h d (List.mem_of_mem_take hd)
theorem digs_drop {r : Nat} {l : List Nat} (n : Nat) (h : Digs r l) : Digs r (l.drop n) :=
  fun d hd => h d (List.mem_of_mem_drop hd)
theorem digs_tail {r : Nat} {l : List Nat} (h : Digs r l) : Digs r l.tail :=
  fun d hd => h d (List.mem_of_mem_tail hd)

theorem asc_numeral (r n : Nat) (hr : 2 ≤ r) (hr36 : r ≤ 36) : Asc (numeral r n) := by
  unfold numeral
  exact asc_chars (digs_mono hr36 (LexVerif.Spec.toDigits_digit_lt r n hr))

theorem roundUp_digs (r : Nat) (hr : 2 ≤ r) (ds : List Nat) (hd : Digs r ds) : Digs r (roundUp r ds).1 := by
  rcases roundUp_cases r ds with ⟨p, d, s, rfl, h1, _, h⟩ | ⟨_, h⟩ <;> rw [h] <;> intro x hx
  · rcases List.mem_append.mp hx with hx | hx
    · exact hd x (List.mem_append_left _ hx)
    · simp only [List.mem_singleton] at hx; omega
  · simp only [List.mem_singleton] at hx; omega

theorem truncateAndRound_digs (ds : List Nat) (o : WOpts) (h : Digs 10 ds) : Digs 10 (truncateAndRound ds o).1 := by
  rcases truncateAndRound_cases ds o with ⟨_, e⟩ | ⟨mx, _, _, e | e⟩ <;> rw [e]
  · exact h
  · exact digs_take _ h
  · exact roundUp_digs 10 (by omega) _ (digs_take _ h)

theorem trimPos_digs (o : WOpts) (l : Nat) (ds : List Nat) (h : Digs 10 ds) : Digs 10 (trimPos o l ds) := by
  unfold trimPos; split
  · exact digs_take _ h
  · exact h
theorem trimSci_digs (o : WOpts) (ds : List Nat) (h : Digs 10 ds) : Digs 10 (trimSci o ds) :=
  trimSci_eq_trimPos o ds ▸ trimPos_digs o 1 ds h
theorem roundSci_digs (ds : List Nat) (o : WOpts) (h : Digs 10 ds) : Digs 10 (roundSci ds o).1 :=
  trimSci_digs o _ (truncateAndRound_digs ds o h)
theorem roundPos_digs (ds : List Nat) (e : Int) (o : WOpts) (h : Digs 10 ds) : Digs 10 (roundPos ds e o).1 :=
  trimPos_digs o _ _ (truncateAndRound_digs ds o h)

structure ValidOpts (o : WOpts) : Prop where
  exp : o.exp < 128
  dp : o.dp < 128
  nan : ∀ l, o.nan = some l → Asc l
  inf : ∀ l, o.inf = some l → Asc l

theorem validOpts_of_build (o : WOpts) (h : wOptsError o = none) : ValidOpts o := by
  obtain ⟨he, hd, hn, hi⟩ := Validity.wOptsError_strings o h
  have hl : ∀ {a b : Nat} {s : Option (List Nat)}, Spec.OptSpecial a b s → ∀ l, s = some l → Asc l :=
    fun hs l hl x hx => ((hs l hl).letters x hx).lt
  exact ⟨he.lt, hd.lt, hl hn, hl hi⟩

end LexVerif.Proof.WriteFloatAscii
