import LexVerif.Model.ParseNumber
/-!
# Proof.IterScan — what a component iterator sees, as functions of the buffer alone

`peekIdx c k s first i`: where `peek` of component `k` leaves a cursor that stood at `i` (it skips separators only, and looks
at the digit counts only to know whether the component has counted a digit yet: `first`).
`scan c k s p lim first i`: the bytes a loop `while let Some(x) = iter.peek() { if p x && lim > 0 { step; count } else break }`
takes, and the cursor it rests at. `parse_digits`, `skip_zeros` and the one-digit loop of `parse_u64_digits` are this loop
(`Proof/IterSpec.lean`). Nothing here mentions `Bytes` or `Except`: the facts about one run (`scan_le`, `scan_stop`, `scan_plain`),
about one loop inside another (`scan_mono`) and about a second buffer (`scan_truncAt`; slices and stripping in
`Proof/IterSlice.lean`) are facts about lists. The namespace is `LexVerif.Proof.IterSpec`, shared with `Proof/IterSpec.lean` and
the second half of `Proof/IterSlice.lean`: one `open` gives a family the whole layer.
-/
namespace LexVerif.Props.C12
open LexVerif LexVerif.Model

theorem countSeps_le (c : Cfg) (l : List Nat) : countSeps c l ≤ l.length := by
  induction l with
  | nil => simp [countSeps]
  | cons x xs ih => simp only [countSeps]; split <;> simp <;> omega

end LexVerif.Props.C12

namespace LexVerif.Proof.IterSpec
open LexVerif LexVerif.Model
open LexVerif.Props.C12 (countSeps_le)

/-- where `peek` of component `k` leaves a cursor that stood at `i`; `first`: the component has counted no digit -/
def peekIdx (c : Cfg) (k : Comp) (s : List Nat) (first : Bool) (i : Nat) : Nat :=
  match c.skip k with
  | .pred p =>
    match s[i]? with
    | some v =>
      if c.isSep v && p.holds c (nbr c s i) first then
        (if p.consecutive then i + 1 + countSeps c (s.drop (i + 1)) else i + 1)
      else i
    | none => i
  | _ => i

theorem peekIdx_noskip {c : Cfg} {k : Comp} (h : c.skip k = .noskip) (s : List Nat) (f : Bool) (i : Nat) :
    peekIdx c k s f i = i := by
  simp [peekIdx, h]

theorem peekIdx_nonsep (c : Cfg) (k : Comp) (s : List Nat) (f : Bool) (i : Nat)
    (h : ∀ x, s[i]? = some x → c.isSep x = false) : peekIdx c k s f i = i := by
  unfold peekIdx
  split
  · split
    · next v hv => simp [h v hv]
    · rfl
  · rfl

theorem peekIdx_skip {c : Cfg} {k : Comp} {p : Pred} (hk : c.skip k = .pred p) {s : List Nat} {f : Bool} {i v : Nat}
    (hv : s[i]? = some v) (hs : c.isSep v = true) (hh : p.holds c (nbr c s i) f = true) :
    peekIdx c k s f i = if p.consecutive then i + 1 + countSeps c (s.drop (i + 1)) else i + 1 := by
  simp only [peekIdx, hk, hv, hs, hh, Bool.and_self, if_true]

theorem isSep_bc {c : Cfg} (h : c.bytesContiguous = true) (x : Nat) : c.isSep x = false := by
  simp only [Cfg.bytesContiguous, decide_eq_true_eq] at h
  simp [Cfg.isSep, h]

theorem peekIdx_bc {c : Cfg} (h : c.bytesContiguous = true) (k : Comp) (s : List Nat) (f : Bool) (i : Nat) :
    peekIdx c k s f i = i :=
  peekIdx_nonsep c k s f i fun x _ => isSep_bc h x

theorem countSeps_get (c : Cfg) : ∀ (l : List Nat) (t : Nat), t < countSeps c l → ∃ x, l[t]? = some x ∧ c.isSep x = true
  | [], t, h => by simp [countSeps] at h
  | x :: xs, t, h => by
    simp only [countSeps] at h
    split at h
    · next hx =>
      cases t with
      | zero => exact ⟨x, rfl, hx⟩
      | succ t => simpa using countSeps_get c xs t (by omega)
    · omega

theorem drop_eq_cons {s : List Nat} {i x : Nat} (h : s[i]? = some x) : s.drop i = x :: s.drop (i + 1) := by
  have hlt := (List.getElem?_eq_some_iff.mp h).1
  rw [List.drop_eq_getElem_cons hlt]; congr 1
  exact Option.some.inj ((List.getElem?_eq_getElem hlt).symm.trans h)

theorem drop_of_none {s : List Nat} {i : Nat} (h : s[i]? = none) : s.drop i = [] :=
  List.drop_eq_nil_of_le (List.getElem?_eq_none_iff.mp h)

theorem peekIdx_ge (c : Cfg) (k : Comp) (s : List Nat) (f : Bool) (i : Nat) : i ≤ peekIdx c k s f i := by
  unfold peekIdx
  repeat' split
  all_goals omega

theorem peekIdx_le (c : Cfg) (k : Comp) (s : List Nat) (f : Bool) (i : Nat) (h : i ≤ s.length) :
    peekIdx c k s f i ≤ s.length := by
  unfold peekIdx
  split
  · split
    · next v hv =>
      have hlt : i < s.length := (List.getElem?_eq_some_iff.mp hv).1
      have := countSeps_le c (s.drop (i + 1))
      simp only [List.length_drop] at this
      repeat' split
      all_goals omega
    · exact h
  · exact h

theorem peekIdx_seps (c : Cfg) (k : Comp) (s : List Nat) (f : Bool) (i t : Nat) (h1 : i ≤ t)
    (h2 : t < peekIdx c k s f i) : ∃ x, s[t]? = some x ∧ c.isSep x = true := by
  unfold peekIdx at h2
  split at h2
  · split at h2
    · next v hv =>
      split at h2
      · next hc =>
        have hsv : c.isSep v = true := by
          cases hx : c.isSep v
          · simp [hx] at hc
          · rfl
        by_cases ht : t = i
        · subst ht; exact ⟨v, hv, hsv⟩
        · split at h2
          · obtain ⟨x, hx, hxs⟩ := countSeps_get c (s.drop (i + 1)) (t - (i + 1)) (by omega)
            refine ⟨x, ?_, hxs⟩
            rw [List.getElem?_drop] at hx
            rw [← hx]; congr 1; omega
          · omega
      · omega
    · omega
  · omega

theorem firstNonSep_eq (c : Cfg) : ∀ l : List Nat, firstNonSep c l = l[countSeps c l]?
  | [] => rfl
  | x :: xs => by
    simp only [firstNonSep, countSeps]
    split
    · rw [firstNonSep_eq c xs]; rfl
    · rfl

theorem countSeps_stop (c : Cfg) : ∀ (l : List Nat) (x : Nat), l[countSeps c l]? = some x → c.isSep x = false
  | [], x, h => by simp [countSeps] at h
  | y :: ys, x, h => by
    simp only [countSeps] at h
    cases hy : c.isSep y
    · simp only [hy, Bool.false_eq_true, if_false, List.getElem?_cons_zero, Option.some.injEq] at h
      rw [← h]; exact hy
    · simp only [hy, if_true, List.getElem?_cons_succ] at h
      exact countSeps_stop c ys x h

theorem SepFlags.skip_noskip_iff (f : SepFlags) : f.skip = .noskip ↔ f.any = false := by
  obtain ⟨i, l, t, cc⟩ := f
  cases i <;> cases l <;> cases t <;> cases cc <;> simp [SepFlags.skip, SepFlags.any]

theorem format_of_sep {c : Cfg} (h : c.bytesContiguous = false) : c.feats.format = true := by
  cases hf : c.feats.format
  · simp [Cfg.bytesContiguous, Cfg.digitSeparator, hf] at h
  · rfl

theorem format_of_notContig {c : Cfg} {k : Comp} (h : c.iterContiguous k = false) : c.feats.format = true := by
  cases hf : c.feats.format
  · cases k <;> simp [Cfg.iterContiguous, Cfg.sepFlags, Cfg.flag, Cfg.specialSep, hf, SepFlags.any] at h
  · rfl

theorem skip_noskip_iff (c : Cfg) (k : Comp) : c.skip k = .noskip ↔ c.iterContiguous k = true := by
  cases k with
  | special => cases h : c.specialSep <;> simp [Cfg.skip, Cfg.iterContiguous, h]
  | integer | fraction | exponent =>
    all_goals simp only [Cfg.skip, Cfg.iterContiguous, SepFlags.skip_noskip_iff, Bool.not_eq_true']

theorem peekIdx_iltc {c : Cfg} {k : Comp} (hk : c.skip k = .pred .iltc) (s : List Nat) (f : Bool) (i : Nat) :
    peekIdx c k s f i = i + countSeps c (s.drop i) := by
  unfold peekIdx
  simp only [hk, Pred.holds, Pred.consecutive, Bool.and_true, if_true]
  cases hx : s[i]? with
  | none => simp [List.drop_eq_nil_of_le (List.getElem?_eq_none_iff.mp hx), countSeps]
  | some v =>
    simp only [drop_eq_cons hx, countSeps]
    split <;> omega

theorem peekIdx_iltc_skips {c : Cfg} {k : Comp} (hk : c.skip k = .pred .iltc) (s : List Nat) (f : Bool) (i x : Nat)
    (hx : s[i]? = some x) (hs : c.isSep x = true) : i < peekIdx c k s f i := by
  unfold peekIdx
  simp only [hk, hx, hs, Pred.holds, Pred.consecutive, Bool.and_true, if_true]
  omega

theorem peekIdx_iltc_rest {c : Cfg} {k : Comp} (hk : c.skip k = .pred .iltc) (s : List Nat) (f : Bool) (i x : Nat)
    (h : s[peekIdx c k s f i]? = some x) : c.isSep x = false := by
  rw [peekIdx_iltc hk, ← List.getElem?_drop] at h
  exact countSeps_stop c _ x h

theorem peekIdx_le_seps (c : Cfg) (k : Comp) (s : List Nat) (f : Bool) (i : Nat) :
    peekIdx c k s f i ≤ i + countSeps c (s.drop i) := by
  unfold peekIdx
  split
  · split
    · next v hv =>
      split
      · next hc =>
        have hsv : c.isSep v = true := by
          cases h : c.isSep v
          · simp [h] at hc
          · rfl
        simp only [drop_eq_cons hv, countSeps, hsv, if_true]
        split <;> omega
      · omega
    · omega
  · omega

/-- after a skipped separator `v` with a separator `x` behind it, a non-consecutive predicate does not skip `x`: it would
have `v` in front -/
theorem holds_next_sep (c : Cfg) (p : Pred) (hnc : p.consecutive = false) (n n2 : Nbr) (first : Bool) (x v : Nat)
    (hn : n.next = some x) (hsx : c.isSep x = true) (hdx : c.isDigit x = false) (hvs : c.isSep v = true)
    (hvd : c.isDigit v = false) (hp2 : n2.prev = some v) (h : p.holds c n first = true) :
    p.holds c n2 first = false := by
  obtain ⟨p1, x1, pc1, xc1⟩ := n
  obtain ⟨p2, x2, pc2, xc2⟩ := n2
  simp only at hn hp2
  subst hn hp2
  cases p <;> cases first <;>
    simp only [Pred.consecutive, Pred.holds, Bool.false_eq_true, if_false, if_true, reduceCtorEq] at hnc h ⊢
  all_goals (cases p1 <;> simp_all)

theorem peekIdx_idem (c : Cfg) (k : Comp) (hnd : ∀ y, c.isSep y = true → c.isDigit y = false)
    (s : List Nat) (f : Bool) (i x : Nat) (hx : s[peekIdx c k s f i]? = some x) (hs : c.isSep x = true) :
    peekIdx c k s f (peekIdx c k s f i) = peekIdx c k s f i := by
  cases hk : c.skip k with
  | noskip => simp only [peekIdx_noskip hk]
  | unreachable => simp only [peekIdx, hk]
  | pred p =>
    cases hv : s[i]? with
    | none => simp only [peekIdx, hk, hv]
    | some v =>
      have stay : peekIdx c k s f i = i → peekIdx c k s f (peekIdx c k s f i) = peekIdx c k s f i := fun e => by
        rw [e, e]
      by_cases hskip : (c.isSep v && p.holds c (nbr c s i) f) = true
      · have hsv : c.isSep v = true := by
          cases h : c.isSep v
          · simp [h] at hskip
          · rfl
        have hh : p.holds c (nbr c s i) f = true := by simpa [hsv] using hskip
        cases hpc : p.consecutive
        · -- `peek` moved one byte, onto `x`; from there the predicate sees `v` in front
          rw [peekIdx_skip hk hv hsv hh, hpc, if_neg Bool.false_ne_true] at hx ⊢
          have key := holds_next_sep c p hpc (nbr c s i) (nbr c s (i + 1)) f x v (by simpa [nbr] using hx) hs
            (hnd x hs) hsv (hnd v hsv) (by simp [nbr, getPrev, hv]) hh
          simp [peekIdx, hk, hx, hs, key]
        · -- `peek` skipped the whole run: it does not rest on a separator
          exfalso
          rw [peekIdx_skip hk hv hsv hh, hpc, if_pos rfl] at hx
          rw [countSeps_stop c (s.drop (i + 1)) x (by rw [List.getElem?_drop]; exact hx)] at hs; cases hs
      · exact stay (by simp [peekIdx, hk, hv, hskip])

/-- the special iterator has two variants only: no flags, or skip everything -/
theorem skip_special_reach (c : Cfg) : c.skip .special ≠ .unreachable := by
  cases h : c.specialSep <;> simp [Cfg.skip, h]

theorem peekIdx_special (c : Cfg) (s : List Nat) (f f' : Bool) (i : Nat) :
    peekIdx c .special s f i = peekIdx c .special s f' i := by
  unfold peekIdx
  cases h : c.specialSep <;> simp [Cfg.skip, h, Pred.holds]

theorem contig_of_pred {c : Cfg} {k : Comp} {p : Pred} (h : c.skip k = .pred p) : c.iterContiguous k = false := by
  cases k with
  | special => cases hs : c.specialSep <;> simp [Cfg.skip, Cfg.iterContiguous, hs] at h ⊢
  | integer | fraction | exponent =>
    all_goals
      simp only [Cfg.skip] at h
      simp only [Cfg.iterContiguous]
      generalize c.sepFlags _ = fl at h ⊢
      obtain ⟨a, b, d, e⟩ := fl
      cases a <;> cases b <;> cases d <;> cases e <;> simp [SepFlags.skip, SepFlags.any] at h ⊢

/-- the bytes a loop over `peek` consumes while `p` accepts them (at most `lim`), and where the cursor rests -/
def scan (c : Cfg) (k : Comp) (s : List Nat) (p : Nat → Bool) : Nat → Bool → Nat → List Nat × Nat
  | 0, first, i => ([], peekIdx c k s first i)
  | lim + 1, first, i =>
    match s[peekIdx c k s first i]? with
    | some x =>
      if p x then (x :: (scan c k s p lim false (peekIdx c k s first i + 1)).1,
        (scan c k s p lim false (peekIdx c k s first i + 1)).2)
      else ([], peekIdx c k s first i)
    | none => ([], peekIdx c k s first i)

variable {c : Cfg} {k : Comp}

theorem scan_first (s : List Nat) (p : Nat → Bool) (lim : Nat) {f f' : Bool} {i : Nat}
    (h : peekIdx c k s f i = peekIdx c k s f' i) : scan c k s p lim f i = scan c k s p lim f' i := by
  cases lim <;> simp only [scan, h]

theorem scan_ge (s : List Nat) (p : Nat → Bool) : ∀ (lim : Nat) (f : Bool) (i : Nat), i ≤ (scan c k s p lim f i).2
  | 0, f, i => peekIdx_ge c k s f i
  | lim + 1, f, i => by
    have := peekIdx_ge c k s f i
    unfold scan
    split
    · split
      · have := scan_ge s p lim false (peekIdx c k s f i + 1); simp only; omega
      · exact this
    · exact this

theorem scan_le (s : List Nat) (p : Nat → Bool) : ∀ (lim : Nat) (f : Bool) (i : Nat), i ≤ s.length →
    (scan c k s p lim f i).2 ≤ s.length ∧ (scan c k s p lim f i).1.length + i ≤ (scan c k s p lim f i).2
  | 0, f, i, h => ⟨peekIdx_le c k s f i h, by simpa [scan] using peekIdx_ge c k s f i⟩
  | lim + 1, f, i, h => by
    have h1 := peekIdx_le c k s f i h
    have h2 := peekIdx_ge c k s f i
    unfold scan
    split
    · next x hx =>
      have hlt : peekIdx c k s f i < s.length := (List.getElem?_eq_some_iff.mp hx).1
      split
      · have := scan_le s p lim false (peekIdx c k s f i + 1) hlt
        simp only [List.length_cons]; omega
      · simp only [List.length_nil]; omega
    · simp only [List.length_nil]; omega

theorem scan_all (s : List Nat) (p : Nat → Bool) : ∀ (lim : Nat) (f : Bool) (i : Nat),
    ∀ x ∈ (scan c k s p lim f i).1, p x = true
  | 0, f, i => by simp [scan]
  | lim + 1, f, i => by
    unfold scan
    split
    · split
      · next hp =>
        intro x hx
        rcases List.mem_cons.mp hx with rfl | hx
        · exact hp
        · exact scan_all s p lim false _ x hx
      · simp
    · simp

theorem scan_stop (s : List Nat) (p : Nat → Bool) : ∀ (lim : Nat) (f : Bool) (i : Nat),
    (scan c k s p lim f i).1.length < lim → ∀ x, s[(scan c k s p lim f i).2]? = some x → p x = false
  | 0, f, i => by simp
  | lim + 1, f, i => by
    unfold scan
    split
    · next x hx =>
      split
      · intro h; exact scan_stop s p lim false _ (by simpa using h)
      · next hp => intro _ y hy; rw [hx] at hy; cases hy; simpa using hp
    · next hx => intro _ y hy; rw [hx] at hy; cases hy

theorem scan_len_le (s : List Nat) (p : Nat → Bool) : ∀ (lim : Nat) (f : Bool) (i : Nat),
    (scan c k s p lim f i).1.length ≤ lim
  | 0, _, _ => Nat.le_refl _
  | lim + 1, f, i => by
    unfold scan
    split
    · split
      · have := scan_len_le s p lim false (peekIdx c k s f i + 1); simp only [List.length_cons]; omega
      · simp
    · simp

theorem scan_fuel (s : List Nat) (p : Nat → Bool) (f : Bool) {i fuel : Nat}
    (hf : s.length - i < fuel) : (scan c k s p fuel f i).1.length < fuel := by
  by_cases hv : i ≤ s.length
  · have := scan_le (c := c) (k := k) s p fuel f i hv; omega
  · -- a cursor past the end: `peek` finds nothing and the loop takes nothing
    cases fuel with
    | zero => omega
    | succ n =>
      have : s[peekIdx c k s f i]? = none :=
        List.getElem?_eq_none_iff.mpr (by have := peekIdx_ge c k s f i; omega)
      simp [scan, this]

/-- What lies between the cursors of a loop is what the loop took and what `peek` skipped (`Q t x`: byte `x` at `t`). -/
theorem scan_between {Q : Nat → Nat → Prop} (s : List Nat) (p : Nat → Bool) (hp : ∀ t x, p x = true → Q t x)
    (hq : ∀ f i t, i ≤ t → t < peekIdx c k s f i → ∃ x, s[t]? = some x ∧ Q t x) :
    ∀ (lim : Nat) (f : Bool) (i t : Nat), i ≤ t → t < (scan c k s p lim f i).2 → ∃ x, s[t]? = some x ∧ Q t x
  | 0, f, i, t, h1, h2 => hq f i t h1 h2
  | lim + 1, f, i, t, h1, h2 => by
    by_cases ht : t < peekIdx c k s f i
    · exact hq f i t h1 ht
    · unfold scan at h2
      split at h2
      · next x hx =>
        split at h2
        · next hpx =>
          by_cases he : t = peekIdx c k s f i
          · exact ⟨x, he ▸ hx, hp t x hpx⟩
          · exact scan_between s p hp hq lim false _ t (by omega) h2
        · omega
      · omega

theorem scan_plain_eq (s : List Nat) (p : Nat → Bool) (h : ∀ i, peekIdx c k s false (i + 1) = i + 1) :
    ∀ (lim : Nat) (f : Bool) (i : Nat), peekIdx c k s f i = i →
    scan c k s p lim f i =
      (((s.drop i).takeWhile p).take lim, i + (((s.drop i).takeWhile p).take lim).length)
  | 0, f, i => by intro h0; simp [scan, h0]
  | lim + 1, f, i => by
    intro h0
    unfold scan
    rw [h0]
    cases hx : s[i]? with
    | none => simp [List.drop_eq_nil_of_le (List.getElem?_eq_none_iff.mp hx)]
    | some x =>
      simp only [drop_eq_cons hx]
      cases hp : p x
      · simp [List.takeWhile, hp]
      · rw [scan_plain_eq s p h lim false (i + 1) (h i)]
        simp only [if_true, List.takeWhile, hp, List.take_succ_cons, List.length_cons, Prod.mk.injEq, true_and]
        omega

theorem scan_plain (s : List Nat) (p : Nat → Bool) (h : ∀ i, peekIdx c k s false (i + 1) = i + 1)
    (lim : Nat) (f : Bool) (i : Nat) (h0 : peekIdx c k s f i = i) (hl : s.length - i < lim) :
    (scan c k s p lim f i).1 = (s.drop i).takeWhile p ∧
    (scan c k s p lim f i).2 = i + ((s.drop i).takeWhile p).length := by
  have hle : ((s.drop i).takeWhile p).length ≤ lim := by
    have := (List.takeWhile_prefix (l := s.drop i) p).length_le
    simp only [List.length_drop] at this; omega
  rw [scan_plain_eq s p h lim f i h0, List.take_of_length_le hle]
  exact ⟨rfl, rfl⟩

theorem scan_noskip (h : c.skip k = .noskip) (s : List Nat) (p : Nat → Bool) (lim : Nat) (f : Bool) (i : Nat)
    (hl : s.length - i < lim) :
    (scan c k s p lim f i).1 = (s.drop i).takeWhile p ∧
    (scan c k s p lim f i).2 = i + ((s.drop i).takeWhile p).length :=
  scan_plain s p (fun _ => peekIdx_noskip h _ _ _) lim f i (peekIdx_noskip h _ _ _) hl

theorem scan_plain_idx (s : List Nat) (p : Nat → Bool) (h : ∀ f i, peekIdx c k s f i = i) (lim : Nat) (f : Bool) (i : Nat) :
    (scan c k s p lim f i).2 = i + (scan c k s p lim f i).1.length := by
  rw [scan_plain_eq s p (fun _ => h _ _) lim f i (h f i)]

theorem scan_plain_le (s : List Nat) (h : ∀ f i, peekIdx c k s f i = i) (p : Nat → Bool) :
    ∀ (lim : Nat) (f : Bool) (i j : Nat), i ≤ j → (∀ x, s[j]? = some x → p x = false) → (scan c k s p lim f i).2 ≤ j
  | 0, f, i, j, hij, _ => by simpa [scan, h] using hij
  | lim + 1, f, i, j, hij, hj => by
    unfold scan
    rw [h]
    split
    · next x hx =>
      split
      · next hp =>
        have : i ≠ j := fun e => by subst e; rw [hj x hx] at hp; cases hp
        exact scan_plain_le s h p lim false (i + 1) j (by omega) hj
      · exact hij
    · exact hij

theorem scan_lim (s : List Nat) (p : Nat → Bool) : ∀ (lim lim2 : Nat) (f : Bool) (i : Nat),
    (scan c k s p lim f i).1.length < lim → (scan c k s p lim f i).1.length < lim2 →
    scan c k s p lim2 f i = scan c k s p lim f i
  | 0, _, _, _ => by simp
  | lim + 1, 0, f, i => by simp
  | lim + 1, lim2 + 1, f, i => by
    unfold scan
    split
    · split
      · intro h1 h2
        rw [scan_lim s p lim lim2 false _ (by simpa using h1) (by simpa using h2)]
      · simp
    · simp

/-- the loop from a cursor `peek` has already been called on -/
def scanAt (c : Cfg) (k : Comp) (s : List Nat) (p : Nat → Bool) (lim j : Nat) : List Nat × Nat :=
  match lim, s[j]? with
  | lim + 1, some x =>
    if p x then (x :: (scan c k s p lim false (j + 1)).1, (scan c k s p lim false (j + 1)).2) else ([], j)
  | _, _ => ([], j)

theorem scan_eq_scanAt (s : List Nat) (p : Nat → Bool) (lim : Nat) (f : Bool) (i : Nat) :
    scan c k s p lim f i = scanAt c k s p lim (peekIdx c k s f i) := by
  cases lim with
  | zero => simp [scan, scanAt]
  | succ lim => simp only [scan, scanAt]; split <;> simp_all

theorem scanAt_cases (s : List Nat) (p : Nat → Bool) (lim j : Nat) :
    scanAt c k s p lim j = ([], j) ∨ ∃ x, s[j]? = some x ∧ p x = true ∧ j < (scanAt c k s p lim j).2 := by
  unfold scanAt
  split
  · next lim x hx =>
    cases hp : p x
    · simp
    · have := scan_ge (c := c) (k := k) s p lim false (j + 1)
      exact Or.inr ⟨x, hx, hp, by simp only [if_true]; omega⟩
  · exact Or.inl rfl

theorem scanAt_lim (s : List Nat) (p : Nat → Bool) (l l' j : Nat) (h1 : (scanAt c k s p l j).1.length < l)
    (h2 : (scanAt c k s p l j).1.length < l') : scanAt c k s p l' j = scanAt c k s p l j := by
  cases l with
  | zero => omega
  | succ a =>
    cases l' with
    | zero => omega
    | succ a' =>
      unfold scanAt at h1 h2 ⊢
      cases hx : s[j]? with
      | none => rfl
      | some x =>
        simp only [hx] at h1 h2 ⊢
        split
        · next hp =>
          simp only [hp, if_true, List.length_cons] at h1 h2
          rw [scan_lim s p a a' false (j + 1) (by omega) (by omega)]
        · rfl

theorem peekIdx_rest (hnd : ∀ y, c.isSep y = true → c.isDigit y = false) (s : List Nat) (f : Bool) (i : Nat) :
    peekIdx c k s f (peekIdx c k s f i) = peekIdx c k s f i := by
  cases hx : s[peekIdx c k s f i]? with
  | none => generalize peekIdx c k s f i = j at hx ⊢; unfold peekIdx; split <;> simp [hx]
  | some x =>
    cases hs : c.isSep x
    · exact peekIdx_nonsep c k s f _ fun y hy => by rw [hx] at hy; cases hy; exact hs
    · exact peekIdx_idem c k hnd s f i x hx hs

/-- the cursor a loop rests at has been peeked: with the flag of the loop's last `peek`, `peek` stays there -/
theorem scan_rest (hnd : ∀ y, c.isSep y = true → c.isDigit y = false) (s : List Nat) (p : Nat → Bool) : ∀ (lim : Nat) (f : Bool) (i : Nat),
    peekIdx c k s (f && ((scan c k s p lim f i).1.length == 0)) (scan c k s p lim f i).2 = (scan c k s p lim f i).2
  | 0, f, i => by simpa [scan] using peekIdx_rest hnd s f i
  | lim + 1, f, i => by
    unfold scan
    split
    · split
      · simpa using scan_rest hnd s p lim false (peekIdx c k s f i + 1)
      · simpa using peekIdx_rest hnd s f i
    · simpa using peekIdx_rest hnd s f i

/-- One loop inside another. A loop with a weaker test and a larger limit does what the loop with the stronger test does, and
goes on from the cursor that one rests at (already peeked). `skip_zeros` runs along `parse_digits` (`p = (· == '0')`); the
one-digit loop of `parse_u64_digits` takes the first `step` bytes of a digit run (`p = q`, `lim = step`). -/
theorem scan_mono (s : List Nat) {p q : Nat → Bool} (hpq : ∀ x, p x = true → q x = true) :
    ∀ (lim lim' : Nat) (f : Bool) (i : Nat), lim ≤ lim' →
      scan c k s q lim' f i =
        ((scan c k s p lim f i).1 ++ (scanAt c k s q (lim' - (scan c k s p lim f i).1.length) (scan c k s p lim f i).2).1,
         (scanAt c k s q (lim' - (scan c k s p lim f i).1.length) (scan c k s p lim f i).2).2)
  | 0, lim', f, i, _ => by simp [scan, scan_eq_scanAt]
  | lim + 1, 0, f, i, h => by omega
  | lim + 1, lim' + 1, f, i, h => by
    cases hx : s[peekIdx c k s f i]? with
    | none => simp [scan, scanAt, hx]
    | some x =>
      cases hp : p x
      · simp [scan, scanAt, hx, hp]
      · have ih := scan_mono s hpq lim lim' false (peekIdx c k s f i + 1) (by omega)
        simp only [scan, hx, hp, hpq x hp, if_true, List.length_cons, Nat.add_sub_add_right, List.cons_append]
        rw [ih]

/-- Truncation. `A j`: the buffer may be cut at `n` when the cursor rests at `j`. If `peek` commutes with admitted
cuts, and a cursor `peek` came to and the loop steps over admits the cut, the loop commutes with every cut its resting
cursor admits. -/
theorem scan_truncAt (s : List Nat) (p : Nat → Bool) (n : Nat) (A : Nat → Prop) (hle : ∀ j, A j → j ≤ n)
    (hpk : ∀ f i, i ≤ s.length → A (peekIdx c k s f i) → peekIdx c k (s.take n) f i = peekIdx c k s f i)
    (hstep : ∀ f i x, peekIdx c k s f i < n → s[peekIdx c k s f i]? = some x → p x = true → A (peekIdx c k s f i)) :
    ∀ (lim : Nat) (f : Bool) (i : Nat), i ≤ s.length → A (scan c k s p lim f i).2 →
      scan c k (s.take n) p lim f i = scan c k s p lim f i
  | 0, f, i => by
    intro hv h; simp only [scan] at h ⊢; rw [hpk f i hv h]
  | lim + 1, f, i => by
    intro hv h
    unfold scan at h ⊢
    cases hx : s[peekIdx c k s f i]? with
    | none =>
      simp only [hx] at h ⊢
      rw [hpk f i hv h, List.getElem?_take, hx]; simp
    | some x =>
      simp only [hx] at h ⊢
      cases hp : p x
      · simp only [hp, Bool.false_eq_true, if_false] at h ⊢
        rw [hpk f i hv h, List.getElem?_take, hx]
        by_cases hj : peekIdx c k s f i < n <;> simp [hj, hp]
      · simp only [hp, if_true] at h ⊢
        have h1 := scan_ge (c := c) (k := k) s p lim false (peekIdx c k s f i + 1)
        have h2 := hle _ h
        have hj : peekIdx c k s f i < n := by omega
        have hlt := (List.getElem?_eq_some_iff.mp hx).1
        rw [hpk f i hv (hstep f i x hj hx hp), List.getElem?_take, if_pos hj, hx]
        simp only [hp, if_true, scan_truncAt s p n A hle hpk hstep lim false _ hlt h]

theorem scan_trunc (s : List Nat) (p : Nat → Bool) (n : Nat) (A : Nat → Prop) (hle : ∀ j, A j → j ≤ n)
    (hpk : ∀ f i, i ≤ s.length → A (peekIdx c k s f i) → peekIdx c k (s.take n) f i = peekIdx c k s f i)
    (hstep : ∀ j x, j < n → s[j]? = some x → p x = true → A j) :
    ∀ (lim : Nat) (f : Bool) (i : Nat), i ≤ s.length → A (scan c k s p lim f i).2 →
      scan c k (s.take n) p lim f i = scan c k s p lim f i :=
  scan_truncAt s p n A hle hpk fun _ _ x => hstep _ x

abbrev isDig (r : Nat) (x : Nat) : Bool := (charToDigit x r).isSome

theorem isDig_of_range {r x : Nat} (hr : r ≤ 10) (h1 : 48 ≤ x) (h2 : x < 48 + r) : isDig r x = true := by
  simp [isDig, charToDigit, charToValidDigit, hr]
  omega

theorem takeWhile_prefix (p : Nat → Bool) : ∀ (m : Nat) (l : List Nat), (∀ t, t < m → ∃ x, l[t]? = some x ∧ p x = true) →
    l.takeWhile p = l.take m ++ (l.drop m).takeWhile p
  | 0, l, _ => by simp
  | m + 1, [], h => by obtain ⟨x, hx, _⟩ := h 0 (by omega); simp at hx
  | m + 1, y :: ys, h => by
    obtain ⟨x, hx, hp⟩ := h 0 (by omega)
    simp only [List.getElem?_cons_zero, Option.some.injEq] at hx
    subst hx
    simp only [List.takeWhile, hp, List.take_succ_cons, List.drop_succ_cons, List.cons_append]
    rw [takeWhile_prefix p m ys fun t ht => by simpa using h (t + 1) (by omega)]

/-! ## `Cfg.debug` is not looked at -/

section
variable (c : Cfg) (d : Bool)

theorem prevcByte_debug (s : List Nat) (i : Nat) : prevcByte { c with debug := d } s i = prevcByte c s i := by
  induction i with
  | zero => rfl
  | succ n ih => simp only [prevcByte]; rw [ih]; rfl

theorem firstNonSep_debug (s : List Nat) : firstNonSep { c with debug := d } s = firstNonSep c s := by
  induction s with
  | nil => rfl
  | cons x xs ih => simp only [firstNonSep]; rw [ih]; rfl

theorem countSeps_debug (s : List Nat) : countSeps { c with debug := d } s = countSeps c s := by
  induction s with
  | nil => rfl
  | cons x xs ih => simp only [countSeps]; rw [ih]; rfl

theorem holds_debug (p : Pred) (n : Nbr) (f : Bool) : p.holds { c with debug := d } n f = p.holds c n f := by
  cases p <;> rfl

theorem nbr_debug (s : List Nat) (i : Nat) : nbr { c with debug := d } s i = nbr c s i := by
  simp only [nbr, nextcByte, prevcByte_debug, firstNonSep_debug]

theorem peekIdx_debug (k : Comp) (s : List Nat) (f : Bool) (i : Nat) :
    peekIdx { c with debug := d } k s f i = peekIdx c k s f i := by
  simp only [peekIdx, nbr_debug, holds_debug, countSeps_debug]
  rfl

theorem scan_debug (k : Comp) (s : List Nat) (p : Nat → Bool) : ∀ (lim : Nat) (f : Bool) (i : Nat),
    scan { c with debug := d } k s p lim f i = scan c k s p lim f i
  | 0, f, i => by simp only [scan, peekIdx_debug]
  | lim + 1, f, i => by simp only [scan, peekIdx_debug, scan_debug k s p lim]

end

theorem scan_cfg {c c' : Cfg} (hf : c'.feats = c.feats) (hm : c'.fmt = c.fmt) (k : Comp) (s : List Nat) (p : Nat → Bool)
    (lim : Nat) (f : Bool) (i : Nat) : scan c' k s p lim f i = scan c k s p lim f i := by
  obtain ⟨ft, fm, d⟩ := c
  obtain ⟨ft', fm', d'⟩ := c'
  simp only at hf hm
  subst hf hm
  exact scan_debug ⟨ft', fm', d⟩ d' k s p lim f i

/-! ## the 8-digit fast paths (contiguous iterators: no `peek`) -/

/-- the 8 bytes `peek_u64` reads at `i` -/
def at8 (s : List Nat) (i : Nat) : List Nat := (s.drop i).take 8

/-- how many times in a row (at most `lim`) `try_parse_8digits` succeeds from cursor `i` -/
def blocks8 (r : Nat) (s : List Nat) : Nat → Nat → Nat
  | 0, _ => 0
  | lim + 1, i => if i + 8 ≤ s.length ∧ is8Digits r (at8 s i) = true then blocks8 r s lim (i + 8) + 1 else 0

/-- `radix8()` is the 8th power where `try_parse_8digits` is used (the wrapping `u32` products do not wrap) -/
theorem radix8_eq : ∀ r : Fin 11, radix8 r.val = r.val ^ 8 := by decide

/-- the mantissa after `j` such blocks -/
def acc8 (r : Nat) (s : List Nat) : Nat → Nat → Nat → Nat
  | 0, _, m => m
  | j + 1, i, m => acc8 r s j (i + 8) ((m * radix8 r + val8Digits r (at8 s i)) % pow2_64)

theorem blocks8_le_lim (r : Nat) (s : List Nat) : ∀ (lim i : Nat), blocks8 r s lim i ≤ lim
  | 0, _ => Nat.le_refl _
  | lim + 1, i => by
    unfold blocks8; split
    · have := blocks8_le_lim r s lim (i + 8); omega
    · omega

theorem blocks8_le (r : Nat) (s : List Nat) : ∀ (lim i : Nat), i ≤ s.length → i + 8 * blocks8 r s lim i ≤ s.length
  | 0, i, h => by simpa [blocks8] using h
  | lim + 1, i, h => by
    unfold blocks8; split
    · next hc => have := blocks8_le r s lim (i + 8) hc.1; omega
    · simpa using h

theorem blocks8_lt (r : Nat) (s : List Nat) (lim i : Nat) : blocks8 r s lim i < s.length + 1 := by
  by_cases hi : i ≤ s.length
  · have := blocks8_le r s lim i hi; omega
  · cases lim with
    | zero => simp [blocks8]
    | succ l => unfold blocks8; rw [if_neg (by omega)]; omega

theorem blocks8_stuck (r : Nat) (s : List Nat) (lim i x : Nat) (hx : s[i]? = some x) (h : ¬ (48 ≤ x ∧ x < 48 + r)) :
    blocks8 r s lim i = 0 := by
  cases lim with
  | zero => rfl
  | succ l =>
    unfold blocks8
    refine if_neg fun hc => h ?_
    have hd : at8 s i = x :: (s.drop (i + 1)).take 7 := by
      rw [at8, drop_eq_cons hx, List.take_succ_cons]
    have := hc.2
    rw [hd] at this
    simpa [is8Digits] using (List.all_eq_true.mp this) x (List.mem_cons_self ..)

theorem blocks8_lim (r : Nat) (s : List Nat) : ∀ (lim lim2 i : Nat), blocks8 r s lim i < lim → blocks8 r s lim i < lim2 →
    blocks8 r s lim2 i = blocks8 r s lim i
  | 0, _, _, h, _ => by omega
  | lim + 1, 0, _, _, h => by omega
  | lim + 1, lim2 + 1, i, h1, h2 => by
    unfold blocks8 at h1 h2 ⊢
    split
    · next hc =>
      rw [if_pos hc] at h1 h2
      rw [blocks8_lim r s lim lim2 (i + 8) (by omega) (by omega)]
    · rfl

theorem blocks8_digits (r : Nat) (s : List Nat) : ∀ (lim i t : Nat), i ≤ t → t < i + 8 * blocks8 r s lim i →
    ∃ x, s[t]? = some x ∧ 48 ≤ x ∧ x < 48 + r
  | 0, i, t, h1, h2 => by simp [blocks8] at h2; omega
  | lim + 1, i, t, h1, h2 => by
    unfold blocks8 at h2
    split at h2
    · next hc =>
      by_cases ht : t < i + 8
      · have hmem : s[t] ∈ at8 s i := by
          have : (at8 s i)[t - i]? = some s[t] := by
            simp only [at8, List.getElem?_take, List.getElem?_drop]
            rw [if_pos (by omega), show i + (t - i) = t by omega, List.getElem?_eq_getElem (by omega)]
          exact List.mem_of_getElem? this
        have := List.all_eq_true.mp hc.2 _ hmem
        simp only [Bool.and_eq_true, decide_eq_true_eq] at this
        exact ⟨s[t], List.getElem?_eq_getElem (by omega), this.1, this.2⟩
      · exact blocks8_digits r s lim (i + 8) t (by omega) (by omega)
    · omega

/-- The 8-digit fast path is invisible to the digit loop that follows it (on an iterator that never skips). -/
theorem scan_blocks8 {c : Cfg} {k : Comp} (hk : c.skip k = .noskip) {r : Nat} (hr : r ≤ 10) (s : List Nat)
    (lim8 lim i : Nat) (f f' : Bool) (hl : s.length - i < lim) :
    (scan c k s (isDig r) lim f i).2 = (scan c k s (isDig r) lim f' (i + 8 * blocks8 r s lim8 i)).2 ∧
    (scan c k s (isDig r) lim f i).1.length =
      8 * blocks8 r s lim8 i + (scan c k s (isDig r) lim f' (i + 8 * blocks8 r s lim8 i)).1.length := by
  obtain ⟨a1, a2⟩ := scan_noskip hk s (isDig r) lim f i hl
  obtain ⟨b1, b2⟩ := scan_noskip hk s (isDig r) lim f' (i + 8 * blocks8 r s lim8 i) (by omega)
  have hpre := takeWhile_prefix (isDig r) (8 * blocks8 r s lim8 i) (s.drop i) fun t ht => by
    obtain ⟨x, hx, h1, h2⟩ := blocks8_digits r s lim8 i (i + t) (by omega) (by omega)
    exact ⟨x, by rw [List.getElem?_drop]; exact hx, isDig_of_range hr h1 h2⟩
  have hlen : ((s.drop i).take (8 * blocks8 r s lim8 i)).length = 8 * blocks8 r s lim8 i := by
    by_cases hi : i ≤ s.length
    · have := blocks8_le r s lim8 i hi
      simp only [List.length_take, List.length_drop]; omega
    · have : blocks8 r s lim8 i = 0 := by
        cases lim8 with
        | zero => rfl
        | succ l => unfold blocks8; rw [if_neg (by omega)]
      simp [this]
  rw [a1, a2, b1, b2, hpre, List.drop_drop, List.length_append, hlen]
  omega

theorem at8_take (s : List Nat) (n i : Nat) (h : i + 8 ≤ n) : at8 (s.take n) i = at8 s i := by
  simp only [at8, List.drop_take, List.take_take]
  congr 1; omega

theorem blocks8_take (r : Nat) (s : List Nat) (n : Nat) : ∀ (lim i : Nat), i + 8 * blocks8 r s lim i ≤ n →
    blocks8 r (s.take n) lim i = blocks8 r s lim i ∧
    ∀ m, acc8 r (s.take n) (blocks8 r s lim i) i m = acc8 r s (blocks8 r s lim i) i m
  | 0, i, _ => by simp [blocks8, acc8]
  | lim + 1, i, h => by
    unfold blocks8 at h ⊢
    by_cases hc : i + 8 ≤ s.length ∧ is8Digits r (at8 s i) = true
    · rw [if_pos hc] at h ⊢
      obtain ⟨ih1, ih2⟩ := blocks8_take r s n lim (i + 8) (by omega)
      have h8 : i + 8 ≤ n := by omega
      rw [if_pos ⟨by simp only [List.length_take]; omega, by rw [at8_take s n i h8]; exact hc.2⟩, ih1]
      exact ⟨rfl, fun m => by simp only [acc8, at8_take s n i h8, ih2]⟩
    · rw [if_neg hc]
      refine ⟨if_neg fun hc' => hc ?_, fun m => rfl⟩
      have h8 : i + 8 ≤ n := by have := hc'.1; simp only [List.length_take] at this; omega
      rw [at8_take s n i h8] at hc'
      exact ⟨by have := hc'.1; simp only [List.length_take] at this; omega, hc'.2⟩

end LexVerif.Proof.IterSpec
