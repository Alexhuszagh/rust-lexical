import LexVerif.Proof.ParseNumberC11SepCfg
/-!
# Proof.ParseNumberC11SepSpecial — `partial_prefix`, special-value results, formats with a digit-separator byte

The special-value parser commutes with the cut right after its match for every format (`ParseNumberC11Special.lean`).
Here: on that cut buffer `parse_number` still fails — it meets separators and then the head of the special string,
which is neither a digit nor the decimal point — and the front end, whose integer iterator may skip leading separators,
makes the same first move as long as the first non-separator byte is not cut off.
-/
namespace LexVerif.Proof.C11
open LexVerif.Proof.IterSpec (spEq)
open LexVerif LexVerif.Model LexVerif.Spec

theorem countSeps_eq_of (c : Cfg) (l : List Nat) : ∀ k x, (∀ j, j < k → ∃ y, l[j]? = some y ∧ c.isSep y = true) →
    l[k]? = some x → c.isSep x = false → countSeps c l = k := by
  induction l with
  | nil => intro k x _ h; simp at h
  | cons y ys ih =>
    intro k x hall hx hsx
    cases k with
    | zero =>
      simp only [List.getElem?_cons_zero, Option.some.injEq] at hx
      subst hx
      simp [countSeps, hsx]
    | succ k2 =>
      obtain ⟨y0, hy0, hsy⟩ := hall 0 (by omega)
      simp only [List.getElem?_cons_zero, Option.some.injEq] at hy0
      subst hy0
      simp only [countSeps, hsy, if_true]
      rw [ih k2 x (fun j hj => by simpa using hall (j + 1) (by omega)) (by simpa using hx) hsx]

section
variable {c : Cfg} {o : POpts} (H : SepCfg c o)
include H

theorem parseNumber_not_ok_of_head (p : Bool) (B : Bytes) (neg fv : Bool) (x : Nat)
    (hx : B.slc[B.index + countSeps c (B.slc.drop B.index)]? = some x)
    (hxd : charToDigit x c.mantissaRadix = none) (hxdp : x ≠ o.dp) (hm : c.requiredMantissaDigits = true)
    (r : Number × Nat) : parseNumber c p o B neg fv ≠ .ok r := by
  have hle : IterSpec.pk c .integer B ≤ B.index + countSeps c (B.slc.drop B.index) := IterSpec.peekIdx_le_seps ..
  have hge : B.index ≤ IterSpec.pk c .integer B := IterSpec.peekIdx_ge ..
  -- `peek` rests on a separator of the leading run, or on `x`
  obtain ⟨w, hw, hwd, hwdp⟩ : ∃ w, B.slc[IterSpec.pk c .integer B]? = some w ∧
      charToDigit w c.mantissaRadix = none ∧ w ≠ o.dp := by
    by_cases hj : IterSpec.pk c .integer B = B.index + countSeps c (B.slc.drop B.index)
    · rw [hj]; exact ⟨x, hx, hxd, hxdp⟩
    · obtain ⟨w, hw, hsw⟩ := IterSpec.countSeps_get c (B.slc.drop B.index) (IterSpec.pk c .integer B - B.index) (by omega)
      rw [List.getElem?_drop, show B.index + (IterSpec.pk c .integer B - B.index) = IterSpec.pk c .integer B by omega] at hw
      exact ⟨w, hw, H.sepM w hsw, fun e => by subst e; rw [H.dpSep] at hsw; cases hsw⟩
  exact parseNumber_stuck p o B neg fv w hw hwd hwdp (IterSpec.pk_rest c .integer (isDigit_sep H) B) H.rad H.radix hm r

end

/-- every special string of the options is non-empty and no byte that matches its head (in either case) is the separator -/
def SpecialHeadsNoSep (c : Cfg) (o : POpts) : Prop :=
  ∀ str, (o.nan = some str ∨ o.inf = some str ∨ o.infinity = some str) →
    ∀ y ys, str = y :: ys → ∀ x, (Nat.xor x y = 0 ∨ Nat.xor x y = 32) → c.isSep x = false

section
variable {c : Cfg} {o : POpts} (H : SepCfg c o)
include H

theorem partial_prefix_sep_special_g (s : List Nat) (fv : Bool) (sp : Special) (ng : Bool) (cnt : Nat)
    (hm : c.requiredMantissaDigits = true) (hh : SpecialHeadsOK c o) (hhs : SpecialHeadsNoSep c o)
    (h : parseFloatSyntax c o true s fv = .ok (.special sp ng cnt)) :
    parseFloatSyntax c o false (s.take cnt) fv = .ok (.special sp ng cnt) := by
  refine partial_prefix_special_of H.rel o s fv sp ng cnt h (fun b ha hv hps => ?_)
  obtain ⟨str, hstr, rfl, hn0⟩ := parsePositiveSpecial_some o b sp cnt hps
  obtain ⟨y, ys, rfl, hnd⟩ := hh str hstr
  obtain ⟨x, hx, hcmp, hlt⟩ := IterSpec.spEq_head c b y ys hn0
  have hxy := spCmp_match c x y hcmp
  obtain ⟨hxd, hxdp⟩ := hnd x hxy
  have hxs := hhs _ hstr y ys rfl x hxy
  -- the first non-separator byte after the cursor is that byte
  have hq : b.index + countSeps c (b.slc.drop b.index) = IterSpec.peekIdx c .special b.slc false b.index := by
    cases hss : c.specialSep with
    | true => rw [IterSpec.peekIdx_iltc (by simp [Cfg.skip, hss])]
    | false =>
      rw [IterSpec.peekIdx_noskip (by simp [Cfg.skip, hss])] at hx ⊢
      rw [IterSpec.drop_eq_cons hx]
      simp [countSeps, hxs]
  have hidx := IterSpec.peekIdx_ge c .special b.slc false b.index
  have hxt : (trunc (spEq c b (y :: ys)) b).slc[(trunc (spEq c b (y :: ys)) b).index +
      countSeps c ((trunc (spEq c b (y :: ys)) b).slc.drop (trunc (spEq c b (y :: ys)) b).index)]? = some x := by
    simp only [trunc_slc, trunc_index]
    rw [List.drop_take, Sep.countSeps_take, show min (countSeps c (List.drop b.index b.slc))
      (spEq c b (y :: ys) - b.index) = countSeps c (List.drop b.index b.slc) by omega, hq,
      take_get_lt _ _ _ (by omega)]
    exact hx
  exact ⟨by omega, afterSign_cut H.rel s ng b ha _ (Cut.of_far (by omega)) (by omega),
    parseNumber_not_ok_of_head H false _ ng fv x hxt hxd hxdp hm⟩

end

theorem specialHeadsNoSep_of_valid (c : Cfg) (o : POpts) (hopt : optionsError o = none)
    (hs : c.digitSeparator ≠ 73 ∧ c.digitSeparator ≠ 105 ∧ c.digitSeparator ≠ 78 ∧ c.digitSeparator ≠ 110) :
    SpecialHeadsNoSep c o := by
  intro str hstr y ys hy x hx
  obtain ⟨y2, ys2, e, hy2⟩ := special_head_cases o hopt str hstr
  rw [hy] at e
  simp only [List.cons.injEq] at e
  obtain ⟨rfl, _⟩ := e
  have hxc := xor_head_cases x y hy2 hx
  cases hsx : c.isSep x with
  | false => rfl
  | true =>
    have := isSep_eq c x hsx
    omega

end LexVerif.Proof.C11
