import LexVerif.Spec.Shortest
import LexVerif.Model.Dragonbox
/-!
# Proof.DragonboxSpec — what "Dragonbox is correct" means, as an executable check per input

`dragonboxOk t bits`: the model's `to_decimal` does not FAULT and its result, after removing trailing decimal zeros
of the significand, is one of the pairs of the oracle `Spec.shortest` (round-trips, fewest digits, closest —
proved about the oracle in `Props/RoundNE.lean`).
-/
namespace LexVerif.Proof.DragonboxSpec
open LexVerif.Spec LexVerif.Model LexVerif.Model.Dragonbox

def fmtOf : FTy → Fmt | .f32 => f32 | .f64 => f64

/-- strip trailing decimal zeros: `(D·10^j, E) ↦ (D, E + j)` -/
def normDec : Nat → Nat → Int → Nat × Int
  | 0, d, e => (d, e)
  | fuel + 1, d, e => if d ≠ 0 ∧ d % 10 = 0 then normDec fuel (d / 10) (e + 1) else (d, e)

def dragonboxOk (t : FTy) (bits : Nat) : Bool :=
  match toDecimal t bits with
  | some (m, e) => (shortest (fmtOf t) bits).contains (normDec 20 m e)
  | none => false

def expChunk (t : FTy) (lo hi : Nat) : List Nat :=
  ((List.range hi).filter (fun e => lo ≤ e ∧ 0 < e)).map (· * 2 ^ t.ms)

/-- the shorter-interval inputs: zero mantissa field, every finite non-zero exponent field -/
def shorterInputs (t : FTy) : List Nat :=
  ((List.range (2 ^ t.exponentSize.toNat - 1)).filter (0 < ·)).map (· * 2 ^ t.ms)

end LexVerif.Proof.DragonboxSpec
