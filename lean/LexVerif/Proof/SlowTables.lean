import LexVerif.Proof.SlowBigint
import LexVerif.Proof.SlowMantissa
/-!
# Proof.SlowTables — the table facts `Bigint::pow` needs (`BigPowOk`), checked by evaluation

`bigPowOkB E base` is a Boolean check of: `split_radix(base) = (odd, shift)` with `odd·2^shift = base`; for `odd`:
the large power (when the build has one) denotes `odd^step`, fits the big integer and `step > 0`; `u64_power_limit(odd) > 0`
with `odd^limit < 2^64`; every entry of the small integer power table below the limit is the power.
`bigPowOk_of_check` turns it into the `BigPowOk` the theorems use. With the `parse_mantissa` tables (`mantOkB`,
`mantFitB`) and the two facts behind `max_digits` (`halfwayB`) it is evaluated by the kernel once per build
(`slowCheckB`: `default`, `compact`, `power-of-two`, `radix`, `compact+radix`), for every radix with a digit limit and
every base the slow path raises to a power (`radix`, `radix/2`, `2`); `envRadix_checks` hands the facts out.
-/
namespace LexVerif.Proof.Slow
open LexVerif.Spec LexVerif.Spec.PowerTables LexVerif.Proof.Tables LexVerif.Model LexVerif.Model.Slow

def largeEntryB (cap : Nat) (Y : Array Nat) (V : Nat) : Bool :=
  decide (limbsVal 64 Y.toList = V) && decide (Y.size ≤ cap) && (decide (Y.size ≠ 1) || decide (Y[0]! = V))

theorem largeEntry_of_check {cap : Nat} {Y : Array Nat} {V : Nat} (h : largeEntryB cap Y V = true) :
    LargeEntry cap Y V := by
  unfold largeEntryB at h
  simp only [Bool.and_eq_true, Bool.or_eq_true, decide_eq_true_eq] at h
  exact ⟨h.1.1, h.1.2, fun h1 => by rcases h.2 with h2 | h2; exact absurd h1 h2; exact h2⟩

def powOkB (E : Env) (cap base : Nat) : Bool :=
  decide (0 < base) &&
  (!E.L.hasLarge || (decide (0 < E.L.largeStep base) &&
    largeEntryB cap (E.L.largeLimbs base) (base ^ E.L.largeStep base))) &&
  decide (0 < E.S.u64PowerLimit base) && decide (base ^ E.S.u64PowerLimit base < 2 ^ 64) &&
  (List.range (E.S.u64PowerLimit base)).all fun e => decide (intPowFastPath E e base = some (base ^ e))

theorem powOk_of_check {E : Env} {cap base : Nat} (h : powOkB E cap base = true) : PowOk E cap base := by
  unfold powOkB at h
  simp only [Bool.and_eq_true, Bool.or_eq_true, decide_eq_true_eq, Bool.not_eq_true', List.all_eq_true,
    List.mem_range] at h
  obtain ⟨⟨⟨⟨h1, h2⟩, h3⟩, h4⟩, h5⟩ := h
  refine ⟨h1, ?_, h3, h4, h5⟩
  intro hl
  rcases h2 with h2 | h2
  · rw [hl] at h2; exact absurd h2 (by decide)
  · exact ⟨h2.1, largeEntry_of_check h2.2⟩

def bigPowOkB (E : Env) (base : Nat) : Bool :=
  decide ((if (E.L.splitRadix base).1 = 0 then 1 else (E.L.splitRadix base).1) * 2 ^ (E.L.splitRadix base).2 = base) &&
  (decide ((E.L.splitRadix base).1 = 0) || powOkB E E.L.bigintLimbs (E.L.splitRadix base).1) &&
  decide ((E.L.splitRadix base).2 ≤ 5)

theorem bigPowOk_of_check {E : Env} {base : Nat} (h : bigPowOkB E base = true) : BigPowOk E base := by
  unfold bigPowOkB at h
  simp only [Bool.and_eq_true, Bool.or_eq_true, decide_eq_true_eq] at h
  obtain ⟨⟨h1, h2⟩, h3⟩ := h
  refine ⟨h1, ?_, h3⟩
  intro ho
  rcases h2 with h2 | h2
  · exact absurd h2 ho
  · exact powOk_of_check h2

def envDefault : Env := envOf {}
def envCompact : Env := envOf { compact := true }
/-- `power-of-two` without `radix`: the small tables of the radix build, the decimal big-integer sizes -/
def envPow2 : Env := envOf { powerOfTwo := true }
def envRadix : Env := envOf { radix := true, powerOfTwo := true }
def envCompactRadix : Env := envOf { compact := true, radix := true, powerOfTwo := true }

/-- the radices `slow_radix` sends to `digit_comp` (those with a digit limit) -/
def digitRadices : List Nat := [6, 10, 12, 14, 18, 20, 22, 24, 26, 28, 30, 34, 36]

def powBases (r : Nat) : List Nat := [r, r / 2, 2]

def EnvRadix (E : Env) (r : Nat) : Prop :=
  ((E = envDefault ∨ E = envCompact ∨ E = envPow2) ∧ r = 10) ∨ ((E = envRadix ∨ E = envCompactRadix) ∧ r ∈ digitRadices)

def mantOkB (E : Env) (radix : Nat) : Bool :=
  decide (0 < radix) && decide (0 < E.S.u64PowerLimit radix) && decide (radix ^ E.S.u64PowerLimit radix < 2 ^ 64) &&
  (List.range (E.S.u64PowerLimit radix + 1)).all fun e => decide (intPowFastPath E e radix = some (radix ^ e))

theorem mantOk_of_check {E : Env} {radix : Nat} (h : mantOkB E radix = true) : MantOk E radix := by
  unfold mantOkB at h
  simp only [Bool.and_eq_true, decide_eq_true_eq, List.all_eq_true, List.mem_range] at h
  obtain ⟨⟨⟨h1, h2⟩, h3⟩, h4⟩ := h
  refine ⟨h1, h2, h3, fun e he => h4 e (by omega), ?_⟩
  intro hm
  unfold multidigit at hm
  simp only [Bool.and_eq_true, decide_eq_true_eq] at hm
  exact hm.2

/-- `max_digits + 1` digits fit the big integer (so that no capacity check of `parse_mantissa` can fail), for both
float types -/
def mantFitB (E : Env) (radix : Nat) : Bool :=
  [f32, f64].all fun f => match E.S.maxDigits f radix with
    | some d => decide (0 < d) && decide (radix ^ (d + 1) ≤ 2 ^ (64 * E.L.bigintLimbs))
    | none => false

theorem mantFit_spec {E : Env} {radix : Nat} (h : mantFitB E radix = true) {f : Fmt} (hf : f ∈ [f32, f64]) {d : Nat}
    (hd : E.S.maxDigits f radix = some d) : 0 < d ∧ radix ^ (d + 1) ≤ 2 ^ (64 * E.L.bigintLimbs) := by
  have := List.all_eq_true.mp h f hf
  rw [hd] at this
  simpa using this

/-- the two facts that make `d = max_digits` a digit limit (`Proof.SlowTruncation`): the largest half-way point between
two floats is below `radix^d`, and so is the numerator `(2q+1)·(radix/2)^(L+1)` of the finest one; for both float types -/
def halfwayB (E : Env) (radix : Nat) : Bool :=
  [f32, f64].all fun f => match E.S.maxDigits f radix with
    | some d => decide (1 ≤ d) &&
        decide (2 ^ (f.p + 1) * 2 ^ (f.maxExpField - 2 - (LexVerif.Proof.RoundNE.L f + 1)) ≤ radix ^ d) &&
        decide (2 ^ (f.p + 1) * (radix / 2) ^ (LexVerif.Proof.RoundNE.L f + 1) ≤ radix ^ d)
    | none => false

theorem halfway_spec {E : Env} {radix : Nat} (h : halfwayB E radix = true) {f : Fmt} (hf : f ∈ [f32, f64]) {d : Nat}
    (hd : E.S.maxDigits f radix = some d) :
    1 ≤ d ∧ 2 ^ (f.p + 1) * 2 ^ (f.maxExpField - 2 - (LexVerif.Proof.RoundNE.L f + 1)) ≤ radix ^ d ∧
      2 ^ (f.p + 1) * (radix / 2) ^ (LexVerif.Proof.RoundNE.L f + 1) ≤ radix ^ d := by
  have := List.all_eq_true.mp h f hf
  rw [hd] at this
  simpa [and_assoc] using this

def slowCheckB (E : Env) (rs : List Nat) : Bool :=
  -- 21 limbs: `10^400` fits (`positive_guard_decimal`)
  !E.debug && decide (21 ≤ E.L.bigintLimbs) && decide (E.L.bigintLimbs < 2 ^ 20) &&
  rs.all fun r => (powBases r).all (bigPowOkB E) && mantOkB E r && mantFitB E r && halfwayB E r

theorem slowCheck_default : slowCheckB envDefault [10] = true := by decide +kernel
theorem slowCheck_compact : slowCheckB envCompact [10] = true := by decide +kernel
theorem slowCheck_pow2 : slowCheckB envPow2 [10] = true := by decide +kernel
theorem slowCheck_radix : slowCheckB envRadix digitRadices = true := by decide +kernel
theorem slowCheck_compact_radix : slowCheckB envCompactRadix digitRadices = true := by decide +kernel

theorem slowCheck_of_envRadix {E : Env} {r : Nat} (h : EnvRadix E r) : ∃ rs, r ∈ rs ∧ slowCheckB E rs = true := by
  rcases h with ⟨hE | hE | hE, hr⟩ | ⟨hE | hE, hr⟩
  · exact ⟨[10], List.mem_singleton.mpr hr, hE ▸ slowCheck_default⟩
  · exact ⟨[10], List.mem_singleton.mpr hr, hE ▸ slowCheck_compact⟩
  · exact ⟨[10], List.mem_singleton.mpr hr, hE ▸ slowCheck_pow2⟩
  · exact ⟨_, hr, hE ▸ slowCheck_radix⟩
  · exact ⟨_, hr, hE ▸ slowCheck_compact_radix⟩

theorem envRadix_checks {E : Env} {r : Nat} (h : EnvRadix E r) :
    E.debug = false ∧ 21 ≤ E.L.bigintLimbs ∧ E.L.bigintLimbs < 2 ^ 20 ∧ (powBases r).all (bigPowOkB E) = true ∧
      mantOkB E r = true ∧ mantFitB E r = true ∧ halfwayB E r = true := by
  obtain ⟨rs, hr, hc⟩ := slowCheck_of_envRadix h
  unfold slowCheckB at hc
  simp only [Bool.and_eq_true, Bool.not_eq_true', decide_eq_true_eq, List.all_eq_true] at hc
  obtain ⟨⟨⟨t1, t2⟩, t3⟩, t4⟩ := hc.2 r hr
  exact ⟨hc.1.1.1, hc.1.1.2, hc.1.2, List.all_eq_true.mpr t1, t2, t3, t4⟩

theorem bigPowOk_of_envRadix {E : Env} {r : Nat} (h : EnvRadix E r) :
    BigPowOk E r ∧ BigPowOk E (r / 2) ∧ BigPowOk E 2 := by
  have hc := (envRadix_checks h).2.2.2.1
  unfold powBases at hc
  simp only [List.all_cons, List.all_nil, Bool.and_true, Bool.and_eq_true] at hc
  exact ⟨bigPowOk_of_check hc.1, bigPowOk_of_check hc.2.1, bigPowOk_of_check hc.2.2⟩

theorem mant_of_envRadix {E : Env} {r : Nat} (h : EnvRadix E r) : mantOkB E r = true ∧ mantFitB E r = true :=
  ⟨(envRadix_checks h).2.2.2.2.1, (envRadix_checks h).2.2.2.2.2.1⟩

theorem halfway_of_envRadix {E : Env} {r : Nat} (h : EnvRadix E r) : halfwayB E r = true :=
  (envRadix_checks h).2.2.2.2.2.2

theorem envRadix_decimal (feats : Features) : EnvRadix (envOf feats) 10 := by
  obtain ⟨c, p2, r, f, sd⟩ := feats
  have h10 : 10 ∈ digitRadices := by decide
  cases c <;> cases p2 <;> cases r
  · exact Or.inl ⟨Or.inl rfl, rfl⟩
  · exact Or.inr ⟨Or.inl rfl, h10⟩
  · exact Or.inl ⟨Or.inr (Or.inr rfl), rfl⟩
  · exact Or.inr ⟨Or.inl rfl, h10⟩
  · exact Or.inl ⟨Or.inr (Or.inl rfl), rfl⟩
  · exact Or.inr ⟨Or.inr rfl, h10⟩
  · exact Or.inl ⟨Or.inr (Or.inl rfl), rfl⟩
  · exact Or.inr ⟨Or.inr rfl, h10⟩

end LexVerif.Proof.Slow
