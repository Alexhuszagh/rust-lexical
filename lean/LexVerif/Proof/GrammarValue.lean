import LexVerif.Proof.GrammarMain
import LexVerif.Proof.GrammarComplete
import LexVerif.Model.ParseFloatAlgo
/-!
# Proof.GrammarValue — the VALUE clause of C12: the digit content of an accepted `Number` is the grammar's literal

`Verdict` (`Proof.GrammarMain`) says an accepted `Number` stores the byte slices of the grammar's integer and
fraction digits and the implementation's (saturating) explicit exponent; `numberBits` reads the digit values of a
stored separator-free slice back as those of its longest digit prefix (`sliceDigits_sepfree`, `Proof.GrammarComplete`;
any format whose iterators are reachable — separator flags allowed). Here:
* `numberLit_of_verdict`: `numberLit c n` (what `numberBits` rounds for a truncated mantissa, and what `NumberExactAt`
  compares the `mantissa`/`exponent` words with) is the grammar's literal with the saturated exponent (`Parts.litSat`);
* `foldExponent_sat`, `litBits_exp_far`: the saturation of the exponent accumulator at `0x10000000` does not change
  `litBits` as long as the literal has fewer than `(0x10000000 − 1200) / 6` digits.
-/
namespace LexVerif.Proof.Grammar
open LexVerif LexVerif.Spec LexVerif.Model LexVerif.Model.ParseFloatAlgo

theorem splitFraction_cases (y : Syn) (o : POpts) (l : List Nat) :
    ((splitFraction y o l).1 = false ∧ (splitFraction y o l).2.1 = []) ∨
    (∃ cs, l = o.dp :: cs ∧ (splitFraction y o l).1 = true ∧ (splitFraction y o l).2.1 = (takeDigits y.radix cs).1) := by
  cases l with
  | nil => exact Or.inl ⟨rfl, rfl⟩
  | cons x xs =>
    unfold splitFraction
    by_cases h : x = o.dp
    · subst h; simp
    · simp [h]

theorem splitExponent_noexp (y : Syn) (o : POpts) (l : List Nat) (h : (splitExponent y o l).1 = false) :
    (splitExponent y o l).2.2.1 = [] ∧ (splitExponent y o l).2.1 = none := by
  cases l with
  | nil => exact ⟨rfl, rfl⟩
  | cons x xs =>
    simp only [splitExponent] at h ⊢
    split <;> simp_all

theorem splitNumber_value (y : Syn) (hp : y.pre = 0) (o : POpts) (sign : Option Bool) (l : List Nat) :
    let P := splitNumber y o sign l
    P.sign = sign ∧ P.ints = (takeDigits y.radix l).1 ∧
    ((P.point = false ∧ P.fracs = []) ∨
      (P.point = true ∧ P.fracs = (takeDigits y.radix ((l.drop P.ints.length).drop 1)).1)) ∧
    (P.hasExp = false → P.exps = [] ∧ P.expSign = none) ∧
    P.ints.length + P.fracs.length ≤ l.length := by
  intro P
  have hP : P = _ := splitNumber_stages y hp o sign l
  have hrest := takeDigits_rest y.radix l
  have hlen := takeDigits_length y.radix l
  have e1 : P.sign = sign := by rw [hP]
  have e2 : P.ints = (takeDigits y.radix l).1 := by rw [hP]
  have e3 : P.point = (splitFraction y o (takeDigits y.radix l).2).1 := by rw [hP]
  have e4 : P.fracs = (splitFraction y o (takeDigits y.radix l).2).2.1 := by rw [hP]
  have e5 : P.hasExp = (splitExponent y o (splitFraction y o (takeDigits y.radix l).2).2.2).1 := by rw [hP]
  have e6 : P.exps = (splitExponent y o (splitFraction y o (takeDigits y.radix l).2).2.2).2.2.1 := by rw [hP]
  have e7 : P.expSign = (splitExponent y o (splitFraction y o (takeDigits y.radix l).2).2.2).2.1 := by rw [hP]
  refine ⟨e1, e2, ?_, ?_, ?_⟩
  · rcases splitFraction_cases y o (takeDigits y.radix l).2 with ⟨h1, h2⟩ | ⟨cs, h0, h1, h2⟩
    · exact Or.inl ⟨by rw [e3, h1], by rw [e4, h2]⟩
    · refine Or.inr ⟨by rw [e3, h1], ?_⟩
      rw [e4, h2, e2, ← hrest, h0]
      rfl
  · intro h
    rw [e5] at h
    rw [e6, e7]
    exact splitExponent_noexp y o _ h
  · rcases splitFraction_cases y o (takeDigits y.radix l).2 with ⟨_, h2⟩ | ⟨cs, h0, _, h2⟩
    · rw [e4, h2, e2]; simp only [List.length_nil]; omega
    · rw [e4, h2, e2]
      have := takeDigits_le y.radix cs
      rw [h0] at hlen
      simp only [List.length_cons] at hlen
      omega

/-- **the digit content of an accepted `Number` is the grammar's literal** (with the exponent as the implementation
accumulates it): every format without base prefix whose iterators are reachable, separator-free input. -/
theorem numberLit_of_verdict (c : Cfg) (hk : ∀ k, c.skip k ≠ .unreachable) (hpre : c.basePrefix = 0)
    (hr : c.mantissaRadix ≤ 255) (o : POpts) (s : List Nat) (hb : ∀ x ∈ s, x < 256) (hn : Sep.NoSep c s)
    (n : Number) (cnt : Nat) (h : Verdict c o s (.number n cnt)) :
    ∃ P, P = splitNumber (cfgSyn c) o (splitSign s).1 (splitSign s).2 ∧ numberOk (cfgSyn c) P = true ∧
      cnt = s.length ∧ numberLit c n = Parts.litSat (cfgSyn c) P ∧ P.ints.length + P.fracs.length ≤ s.length := by
  cases h with
  | number n P hP hok hni =>
    refine ⟨P, hP, hok, rfl, ?_, ?_⟩
    · have hpre2 : (cfgSyn c).pre = 0 := by rw [syn_pre]; exact hpre
      obtain ⟨v1, v2, v3, _, _⟩ := splitNumber_value (cfgSyn c) hpre2 o (splitSign s).1 (splitSign s).2
      rw [← hP] at v1 v2 v3
      rw [syn_radix] at v2 v3
      have hbody : (splitSign s).2 = s.drop (s.length - (splitSign s).2.length) := splitSign_rest s
      have hbb : ∀ x ∈ (splitSign s).2, x < 256 := by
        intro x hx; rw [hbody] at hx; exact hb x (List.mem_of_mem_drop hx)
      have hnb : Sep.NoSep c (splitSign s).2 := by rw [hbody]; exact hn.drop _
      unfold numberLit Parts.litSat
      rw [hni.neg, hni.int, hni.frac, hni.exp, v1, syn_expRadix]
      have hint : sliceDigits c .integer ((splitSign s).2.take P.ints.length) = P.ints := by
        rw [v2]
        exact sliceDigits_run c .integer (hk _) hr _ hbb hnb
      rw [hint]
      rcases v3 with ⟨p1, p2⟩ | ⟨p1, p2⟩
      · simp only [p1, p2, Bool.false_eq_true, if_false]
      · simp only [p1, if_true]
        have hfr : sliceDigits c .fraction ((((splitSign s).2.drop P.ints.length).drop 1).take P.fracs.length) =
            P.fracs := by
          rw [p2]
          exact sliceDigits_run c .fraction (hk _) hr _
            (fun x hx => hbb x (List.mem_of_mem_drop (List.mem_of_mem_drop hx))) ((hnb.drop _).drop _)
        rw [hfr]
    · have hpre2 : (cfgSyn c).pre = 0 := by rw [syn_pre]; exact hpre
      obtain ⟨_, _, _, _, v5⟩ := splitNumber_value (cfgSyn c) hpre2 o (splitSign s).1 (splitSign s).2
      rw [← hP] at v5
      have := splitSign_length_le s
      omega

/-- `explicit_exponent` is the exact value of the exponent digits below `0x10000000`; above, both are large -/
theorem foldExponent_sat (r : Nat) (hr : 0 < r) (ds : List Nat) :
    foldExponent r 0 ds = ofDigits r ds ∨ (0x10000000 ≤ foldExponent r 0 ds ∧ foldExponent r 0 ds ≤ ofDigits r ds) := by
  unfold foldExponent ofDigits
  suffices h : ∀ (ds : List Nat) (a b : Nat), (a = b ∨ (0x10000000 ≤ a ∧ a ≤ b)) →
      (ds.foldl (fun acc d => if acc < 0x10000000 then acc * r + d else acc) a =
          ds.foldl (fun acc d => acc * r + d) b) ∨
        (0x10000000 ≤ ds.foldl (fun acc d => if acc < 0x10000000 then acc * r + d else acc) a ∧
          ds.foldl (fun acc d => if acc < 0x10000000 then acc * r + d else acc) a ≤
            ds.foldl (fun acc d => acc * r + d) b) from h ds 0 0 (Or.inl rfl)
  intro ds
  induction ds with
  | nil => intro a b h; simpa using h
  | cons d ds ih =>
    intro a b h
    simp only [List.foldl_cons]
    apply ih
    rcases h with rfl | ⟨h1, h2⟩
    · by_cases hlt : a < 0x10000000
      · left; rw [if_pos hlt]
      · right
        rw [if_neg hlt]
        have : a * 1 ≤ a * r := Nat.mul_le_mul_left a hr
        omega
    · right
      rw [if_neg (by omega)]
      have : b * 1 ≤ b * r := Nat.mul_le_mul_left b hr
      omega

/-- `litBits` does not see the exponent beyond its short-circuit thresholds -/
theorem litBits_exp_far (f : Fmt) (r b : Nat) (neg : Bool) (I Fr : List Nat) (e1 e2 : Int)
    (h : e1 = e2 ∨
      ((((1200 + 6 * (I ++ Fr).length : Nat) : Int) ≤ e1 ∧ ((1200 + 6 * (I ++ Fr).length : Nat) : Int) ≤ e2) ∨
       (e1 ≤ -((1200 + 6 * (I ++ Fr).length : Nat) : Int) ∧ e2 ≤ -((1200 + 6 * (I ++ Fr).length : Nat) : Int)))) :
    litBits f r b ⟨neg, I, Fr, e1⟩ = litBits f r b ⟨neg, I, Fr, e2⟩ := by
  rcases h with rfl | h
  · rfl
  · unfold litBits
    simp only []
    split
    · rfl
    · have hl : Fr.length ≤ (I ++ Fr).length := by simp
      have hUT : ((1100 + 6 * Fr.length : Nat) : Int) ≤ ((1200 + 6 * (I ++ Fr).length : Nat) : Int) :=
        Int.ofNat_le.mpr (by omega)
      have hU0 : (0 : Int) ≤ ((1100 + 6 * Fr.length : Nat) : Int) := Int.natCast_nonneg _
      have hT0 : (0 : Int) < ((1200 + 6 * (I ++ Fr).length : Nat) : Int) := Int.natCast_pos.mpr (by omega)
      generalize ((1100 + 6 * Fr.length : Nat) : Int) = U at *
      generalize ((1200 + 6 * (I ++ Fr).length : Nat) : Int) = T at *
      rcases h with ⟨h1, h2⟩ | ⟨h1, h2⟩
      · rw [if_pos (show e1 ≥ U by omega), if_pos (show e2 ≥ U by omega)]
      · rw [if_neg (show ¬ e1 ≥ U by omega), if_neg (show ¬ e2 ≥ U by omega), if_pos h1, if_pos h2]

theorem litBits_litSat (f : Fmt) (r b : Nat) (y : Syn) (hy : 0 < y.expRadix) (P : Parts)
    (hne : P.hasExp = false → P.exps = [] ∧ P.expSign = none)
    (hlen : 1200 + 6 * (P.ints.length + P.fracs.length) ≤ 0x10000000) :
    litBits f r b (Parts.litSat y P) = litBits f r b (P.lit y) := by
  unfold Parts.litSat Parts.lit
  apply litBits_exp_far
  cases hh : P.hasExp with
  | false =>
    left
    obtain ⟨h1, h2⟩ := hne hh
    simp [h1, h2, ofDigits]
  | true =>
    simp only [if_true, expValue]
    have hl : (P.ints ++ P.fracs).length = P.ints.length + P.fracs.length := by simp
    rw [hl]
    rcases foldExponent_sat y.expRadix hy P.exps with h | ⟨h1, h2⟩
    · left; rw [h]
    · right
      cases hs : (P.expSign == some true)
      · left
        simp only [Bool.false_eq_true, if_false]
        omega
      · right
        simp only [if_true]
        omega

/-- non-vacuity of the saturation: eleven 9s saturate, the exact value is larger -/
example : foldExponent 10 0 [9, 9, 9, 9, 9, 9, 9, 9, 9, 9, 9] = 999999999 ∧
    ofDigits 10 [9, 9, 9, 9, 9, 9, 9, 9, 9, 9, 9] = 99999999999 := by decide

end LexVerif.Proof.Grammar
