import LexVerif.Spec.ParseInt
/-!
# Proof.ParseIntPartial — `Spec.parseInt` with the sign as functions of the input; complete vs. partial scan

Everything here is about `Spec.parseInt` / `Spec.scanDigits`. `signLen`, `isNeg` and `parseInt_eq` are what
`Proof/ParseIntMain.lean` compares the model's `parse_sign` with (C04). The complete and the partial scan differ at
the first non-digit only: `Both` lists the pairs of results they can return on the same input, `scan_both` /
`spec_both` is the one induction over `scanDigits` behind it, and what C11 says about the two parsers on the same
input is a case analysis of `Both`. `spec_take_consumed` is the complete parser on the bytes the partial one consumed.
Both are transferred to the model of `algorithm.rs` in `Props/C11Int.lean`.
-/
namespace LexVerif.Proof.ParseIntPartial
open LexVerif.Spec

def signLen (t : IntTy) (s : List Nat) : Nat :=
  if s.head? = some 43 then 1 else if s.head? = some 45 ∧ t.signed = true then 1 else 0

def isNeg (t : IntTy) (s : List Nat) : Bool := decide (s.head? = some 45 ∧ t.signed = true)

theorem signLen_le_one (t : IntTy) (s : List Nat) : signLen t s ≤ 1 := by
  unfold signLen; split
  · exact Nat.le_refl _
  · split <;> omega

theorem signLen_le_length (t : IntTy) (s : List Nat) : signLen t s ≤ s.length := by
  cases s with
  | nil => simp [signLen]
  | cons c cs => have := signLen_le_one t (c :: cs); simp only [List.length_cons]; omega

theorem signLen_eq_one_iff (t : IntTy) (s : List Nat) :
    signLen t s = 1 ↔ (s.head? = some 43 ∨ (s.head? = some 45 ∧ t.signed = true)) := by
  unfold signLen
  by_cases h1 : s.head? = some 43
  · simp [h1]
  · by_cases h2 : s.head? = some 45 ∧ t.signed = true
    · simp [h2]
    · simp [h1, h2]

theorem signLen_eq_zero_iff (t : IntTy) (s : List Nat) :
    signLen t s = 0 ↔ ¬ (s.head? = some 43 ∨ (s.head? = some 45 ∧ t.signed = true)) := by
  have h1 := signLen_eq_one_iff t s
  have h2 := signLen_le_one t s
  constructor
  · intro h hc; have := h1.2 hc; omega
  · intro h
    have : signLen t s ≠ 1 := fun hc => h (h1.1 hc)
    omega

theorem signLen_lt_iff (t : IntTy) (s : List Nat) (n : Nat) (hn : 0 < n) :
    signLen t s < n ↔ (2 ≤ n ∨ ¬ (s.head? = some 43 ∨ (s.head? = some 45 ∧ t.signed = true))) := by
  have h0 := signLen_eq_zero_iff t s
  have h1 := signLen_le_one t s
  constructor
  · intro h
    by_cases h2 : 2 ≤ n
    · exact .inl h2
    · exact .inr (h0.1 (by omega))
  · rintro (h | h)
    · omega
    · have := h0.2 h; omega

theorem take_bytes (s : List Nat) (hs : ∀ b ∈ s, b < 256) (n : Nat) : ∀ b ∈ s.take n, b < 256 :=
  fun b hb => hs b (List.mem_of_mem_take hb)

theorem parseInt_eq (t : IntTy) (r : Nat) (p : Bool) (s : List Nat) :
    parseInt t r p s =
      if s.drop (signLen t s) = [] then .empty (signLen t s)
      else scanDigits r (t.maxMag (isNeg t s)) (isNeg t s) p (s.drop (signLen t s)) 0 (signLen t s) := by
  cases s with
  | nil => simp [parseInt, signLen]
  | cons c cs =>
    by_cases h43 : c = 43
    · subst h43
      cases cs <;> simp [parseInt, signLen, isNeg]
    · by_cases h45 : c = 45
      · subst h45
        cases hs : t.signed
        · simp [parseInt, signLen, isNeg, hs]
        · cases cs <;> simp [parseInt, signLen, isNeg, hs]
      · have : parseInt t r p (c :: cs) = scanDigits r (t.maxMag false) false p (c :: cs) 0 0 := by
          unfold parseInt
          split
          next neg rest i heq =>
            split at heq
            · rename_i heq2; cases heq2; exact absurd rfl h43
            · rename_i heq2; cases heq2; exact absurd rfl h45
            · cases heq; rfl
        simp [this, signLen, isNeg, h43, h45]

/-- `x` is what the complete parser and `y` what the partial parser returns on an input of length `n` whose digits
start at `lo`: the two differ at the first non-digit only -/
inductive Both (lo n : Nat) : PRes → PRes → Prop
  | done (v : Int) (h : lo ≤ n) : Both lo n (.ok v n) (.ok v n)
  | stop (v : Int) (k : Nat) (h1 : lo ≤ k) (h2 : k < n) : Both lo n (.invalidDigit k) (.ok v k)
  | over (k : Nat) (h1 : lo ≤ k) (h2 : k < n) : Both lo n (.overflow k) (.overflow k)
  | under (k : Nat) (h1 : lo ≤ k) (h2 : k < n) : Both lo n (.underflow k) (.underflow k)
  | empty : Both lo n (.empty n) (.empty n)

theorem Both.lower {lo lo' n : Nat} (h : lo' ≤ lo) {x y : PRes} (hb : Both lo n x y) : Both lo' n x y := by
  cases hb with
  | done v h0 => exact .done v (by omega)
  | stop v k h1 h2 => exact .stop v k (by omega) h2
  | over k h1 h2 => exact .over k (by omega) h2
  | under k h1 h2 => exact .under k (by omega) h2
  | empty => exact .empty

theorem scan_both (r mx : Nat) (neg : Bool) (cs : List Nat) (acc i : Nat) :
    Both i (i + cs.length) (scanDigits r mx neg false cs acc i) (scanDigits r mx neg true cs acc i) := by
  induction cs generalizing acc i with
  | nil => exact .done _ (Nat.le_refl _)
  | cons c cs ih =>
    have hlen : i + (c :: cs).length = (i + 1) + cs.length := by simp only [List.length_cons]; omega
    have hlt : i < i + (c :: cs).length := by simp only [List.length_cons]; omega
    simp only [scanDigits]
    cases digitVal r c with
    | none => exact .stop _ i (Nat.le_refl _) hlt
    | some d =>
      simp only
      split
      · cases neg
        · exact .over i (Nat.le_refl _) hlt
        · exact .under i (Nat.le_refl _) hlt
      · rw [hlen]; exact (ih _ _).lower (Nat.le_succ _)

theorem drop_length_add (t : IntTy) (s : List Nat) : signLen t s + (s.drop (signLen t s)).length = s.length := by
  have := signLen_le_length t s
  simp only [List.length_drop]; omega

theorem spec_both (t : IntTy) (r : Nat) (s : List Nat) :
    Both (signLen t s) s.length (parseInt t r false s) (parseInt t r true s) := by
  rw [parseInt_eq, parseInt_eq]
  have e := drop_length_add t s
  split
  · next h =>
    rw [h, List.length_nil, Nat.add_zero] at e
    rw [e]; exact .empty
  · rw [← e]; exact scan_both _ _ _ _ _ _

theorem Both.complete_ok {lo n : Nat} {y : PRes} {v : Int} {k : Nat} (h : Both lo n (.ok v k) y) :
    k = n ∧ y = .ok v k := by
  cases h; exact ⟨rfl, rfl⟩

theorem Both.partial_full {lo n : Nat} {x : PRes} {v : Int} (h : Both lo n x (.ok v n)) : x = .ok v n := by
  cases h with
  | done => rfl
  | stop _ _ _ h2 => omega

theorem Both.bounds {lo n : Nat} {x : PRes} {v : Int} {k : Nat} (h : Both lo n x (.ok v k)) : lo ≤ k ∧ k ≤ n := by
  cases h with
  | done _ h0 => exact ⟨h0, Nat.le_refl _⟩
  | stop _ _ h1 h2 => omega

theorem Both.ne_invalidDigit {lo n : Nat} {x y : PRes} (h : Both lo n x y) (k : Nat) : y ≠ .invalidDigit k := by
  cases h <;> exact fun h => nomatch h

theorem Both.eq_of_not_invalidDigit {lo n : Nat} {x y : PRes} (h : Both lo n x y) (hx : ∀ k, x ≠ .invalidDigit k) :
    y = x := by
  cases h with
  | stop v k => exact absurd rfl (hx k)
  | _ => rfl

theorem Both.invalidDigit {lo n : Nat} {y : PRes} {k : Nat} (h : Both lo n (.invalidDigit k) y) :
    k < n ∧ ∃ v, y = .ok v k := by
  cases h with
  | stop v _ _ h2 => exact ⟨h2, v, rfl⟩

theorem scan_partial_prefix (r mx : Nat) (neg : Bool) (cs : List Nat) (acc i : Nat) (v : Int) (n : Nat) :
    scanDigits r mx neg true cs acc i = .ok v n →
      scanDigits r mx neg false (cs.take (n - i)) acc i = .ok v n := by
  induction cs generalizing acc i with
  | nil => simp [scanDigits]
  | cons c cs ih =>
    intro h
    have hb := (h ▸ scan_both r mx neg (c :: cs) acc i).bounds
    revert h
    simp only [scanDigits]
    cases hd : digitVal r c with
    | none =>
      simp only [if_true]
      intro h; cases h
      simp [scanDigits]
    | some d =>
      simp only
      split
      · cases neg <;> simp
      · rename_i hov
        intro h
        have hb2 := (h ▸ scan_both r mx neg cs (acc * r + d) (i + 1)).bounds
        have e : n - i = (n - (i + 1)) + 1 := by omega
        rw [e, List.take_succ_cons]
        simp only [scanDigits, hd, if_neg hov]
        exact ih _ _ h

theorem signLen_take (t : IntTy) (s : List Nat) (n : Nat) (hn : 0 < n) : signLen t (s.take n) = signLen t s := by
  cases s with
  | nil => simp
  | cons c cs =>
    obtain ⟨m, rfl⟩ : ∃ m, n = m + 1 := ⟨n - 1, by omega⟩
    simp [signLen]

theorem isNeg_take (t : IntTy) (s : List Nat) (n : Nat) (hn : 0 < n) : isNeg t (s.take n) = isNeg t s := by
  cases s with
  | nil => simp
  | cons c cs =>
    obtain ⟨m, rfl⟩ : ∃ m, n = m + 1 := ⟨n - 1, by omega⟩
    simp [isNeg]

theorem spec_partial_prefix (t : IntTy) (r : Nat) (s : List Nat) (v : Int) (n : Nat) :
    parseInt t r true s = .ok v n → signLen t s < n → parseInt t r false (s.take n) = .ok v n := by
  intro h hn
  have hb := (h ▸ spec_both t r s).bounds
  revert h
  have hn0 : 0 < n := by omega
  rw [parseInt_eq, parseInt_eq, signLen_take t s n hn0, isNeg_take t s n hn0]
  split
  · simp
  · intro h
    have e : (s.take n).drop (signLen t s) = (s.drop (signLen t s)).take (n - signLen t s) := by
      rw [List.drop_take]
    rw [e, if_neg]
    · exact scan_partial_prefix _ _ _ _ _ _ _ _ h
    · intro hc
      have := congrArg List.length hc
      simp only [List.length_take, List.length_drop, List.length_nil] at this
      omega

theorem spec_sign_only_empty (t : IntTy) (r : Nat) (p : Bool) (s : List Nat) (h : signLen t s = 1) :
    parseInt t r p (s.take 1) = .empty 1 := by
  rw [parseInt_eq, signLen_take t s 1 (by omega), h]
  simp

theorem spec_partial_sign_nondigit (t : IntTy) (r : Nat) (s : List Nat) (c : Nat)
    (h : signLen t s = 1) (hc : s[1]? = some c) (hd : digitVal r c = none) :
    parseInt t r true s = .ok 0 1 := by
  rw [parseInt_eq, h]
  match s, hc with
  | a :: b :: cs, hc =>
    simp only [List.getElem?_cons_succ, List.getElem?_cons_zero, Option.some.injEq] at hc
    subst hc
    simp [scanDigits, hd]

theorem spec_partial_sign_only (t : IntTy) (r : Nat) (s : List Nat) (v : Int)
    (h : signLen t s = 1) : parseInt t r true s = .ok v 1 → v = 0 ∧ ∃ c, s[1]? = some c ∧ digitVal r c = none := by
  rw [parseInt_eq, h]
  split
  · simp
  · rename_i hne
    match s, hne with
    | [a], hne => simp at hne
    | a :: b :: cs, _ =>
      simp only [List.drop_succ_cons, List.drop_zero, scanDigits]
      cases hd : digitVal r b with
      | none =>
        simp only [if_true]
        intro h; cases h
        refine ⟨?_, b, by simp, hd⟩
        cases isNeg t (a :: b :: cs) <;> simp
      | some d =>
        simp only
        split
        · cases isNeg t (a :: b :: cs) <;> simp
        · intro h
          have := (h ▸ scan_both _ _ _ _ _ _).bounds
          omega

theorem spec_take_consumed (t : IntTy) (r : Nat) (s : List Nat) (v : Int) (n : Nat)
    (h : parseInt t r true s = .ok v n) :
    parseInt t r false (s.take n) = if signLen t s < n then .ok v n else .empty n := by
  split
  · next hlt => exact spec_partial_prefix t r s v n h hlt
  · next hlt =>
    have h1 := signLen_le_one t s
    have hb := (h ▸ spec_both t r s).bounds.1
    have hn : n = signLen t s := by omega
    rcases Nat.lt_or_ge (signLen t s) 1 with h0 | h0
    · have : n = 0 := by omega
      subst this; rfl
    · have hs1 : signLen t s = 1 := by omega
      rw [hn, hs1]; exact spec_sign_only_empty t r false s hs1

end LexVerif.Proof.ParseIntPartial
