import LexVerif.Proof.BinaryCorrect
import LexVerif.Model.Lemire
/-!
# Proof.LemireBasics — cut-offs, the invalid marker and the two-pass wrapper of the Eisel–Lemire path

Outside `[SMALLEST_POWER_OF_TEN, LARGEST_POWER_OF_TEN]` the early exits of `compute_float` (0, ∞) are also what
`roundNE (w·10^q)` is, for every `w < 2^64` (`cutoff_zero`, `cutoff_inf`). A `compute_error` result always carries a
negative exponent (`computeError_invalid`), so a valid answer of `lemire` for a truncated mantissa means that `w` and `w+1`
gave the same valid answer: right for every value in `[w, w+1]·10^q`, `roundNE` being monotone (`lemire_wrapper`).
Mathlib-free.
-/
namespace LexVerif.Proof.Lemire
open LexVerif.Spec LexVerif.Model LexVerif.Model.Lemire
open LexVerif.Proof.RoundNE LexVerif.Proof.ExtRound LexVerif.Proof.BinaryCorrect

/-- the `LemireFloat` constants of `F` (instances by evaluation of `Gen.FloatConsts`) -/
structure LemLayout (F : FTy) (p eb : Nat) (sm lg rlo rhi : Nat) : Prop where
  lay : Layout F p eb
  smallest : F.C.smallestPowerOfTen = -(sm : Int)
  largest : F.C.largestPowerOfTen = (lg : Int)
  minRTE : F.C.minExponentRoundToEven = -(rlo : Int)
  maxRTE : F.C.maxExponentRoundToEven = (rhi : Int)
  minimum : F.C.minimumExponent = -((2 ^ (eb - 1) - 1 : Nat) : Int)
  /-- below the cut-off every `w < 2^64` is under half the least subnormal -/
  small_ok : (2 ^ 64 - 1) * 2 ^ (2 ^ (eb - 1) - 1 + (p - 1)) < 10 ^ (sm + 1)
  /-- above the cut-off every `w ≥ 1` is at least `2^(emax+1)` -/
  large_ok : 2 ^ (2 ^ (eb - 1) - 1 + 1) ≤ 10 ^ (lg + 1)
  /-- beyond the round-to-even window a power of five exceeds every odd `p+1`-bit number -/
  rte_ok : 2 ^ (p + 1) < 5 ^ (rhi + 1)
  sm342 : sm ≤ 342
  lg308 : lg ≤ 308
  bias_small : 2 ^ (eb - 1) - 1 + (p - 1) ≤ 2000

theorem lemLayout_f64 : LemLayout FTy.f64 53 11 342 308 4 23 := by
  constructor
  · exact layout_f64
  all_goals decide +kernel

theorem lemLayout_f32 : LemLayout FTy.f32 24 8 65 38 17 10 := by
  constructor
  · exact layout_f32
  all_goals decide +kernel

theorem cutoff_zero {F p eb sm lg a b} (LL : LemLayout F p eb sm lg a b) (q : Int) (w : Nat) (lossy : Bool)
    (hw : w < 2 ^ 64) (hq : q < F.C.smallestPowerOfTen) :
    computeFloat F q w lossy = .ok ⟨0, 0⟩ ∧
    roundNE F.fmt (powFrac 10 q w).1 (powFrac 10 q w).2 = 0 := by
  have hf := LL.lay.wf
  constructor
  · unfold computeFloat; rw [if_pos (Or.inr hq)]; rfl
  · rw [LL.smallest] at hq
    unfold powFrac
    rw [if_neg (by omega)]
    apply roundNE_tiny hf (Nat.ne_of_gt (Nat.pow_pos (by decide)))
    have hL : L F.fmt + 1 = 2 ^ (eb - 1) - 1 + (p - 1) := by
      rw [L_eq LL.lay]; have := LL.lay.hL; omega
    have h1 : 10 ^ (sm + 1) ≤ 10 ^ (-q).toNat := Nat.pow_le_pow_right (by decide) (by omega)
    have h2 : 2 * (w * 2 ^ L F.fmt) = w * 2 ^ (L F.fmt + 1) := by rw [Nat.pow_succ]; ac_rfl
    have h3 : w * 2 ^ (L F.fmt + 1) ≤ (2 ^ 64 - 1) * 2 ^ (L F.fmt + 1) :=
      Nat.mul_le_mul_right _ (by omega)
    have := LL.small_ok
    rw [← hL] at this
    simp only []
    omega

theorem cutoff_inf {F p eb sm lg a b} (LL : LemLayout F p eb sm lg a b) (q : Int) (w : Nat) (lossy : Bool)
    (hw0 : w ≠ 0) (hq : q > F.C.largestPowerOfTen) :
    computeFloat F q w lossy = .ok ⟨0, F.C.infinitePower⟩ ∧
    roundNE F.fmt (powFrac 10 q w).1 (powFrac 10 q w).2 = F.fmt.infBits := by
  have hf := LL.lay.wf
  have hs := LL.smallest
  have hl := LL.largest
  constructor
  · unfold computeFloat
    rw [if_neg (by intro h; rcases h with h | h; exact hw0 h; omega), if_pos hq]; rfl
  · rw [hl] at hq
    unfold powFrac
    rw [if_pos (by omega)]
    apply roundNE_huge hf Nat.one_pos
    have hbias : F.fmt.bias = 2 ^ (eb - 1) - 1 := by unfold Fmt.bias; rw [LL.lay.fmt]
    rw [hbias, Nat.one_mul]
    have h1 : 10 ^ (lg + 1) ≤ 10 ^ q.toNat := Nat.pow_le_pow_right (by decide) (by omega)
    have h2 : 1 * 10 ^ q.toNat ≤ w * 10 ^ q.toNat := Nat.mul_le_mul_right _ (by omega)
    have := LL.large_ok
    simp only []
    omega

/-- any range in which `q·217706` does not wrap an `i32` would do; `±5000` covers the table -/
theorem power_eq (q : Int) (h1 : -5000 ≤ q) (h2 : q ≤ 5000) :
    power (wrapI32 q) = q * 217706 / 65536 + 63 := by
  unfold power wrapI32 wrapI sar litPowerMulA litPowerMulB litPowerShift litPowerAdd
  have h32 : (2 : Int) ^ 32 = 4294967296 := by decide
  have h31 : (2 : Int) ^ (32 - 1) = 2147483648 := by decide
  have h16 : (2 : Int) ^ 16 = 65536 := by decide
  simp only [h32, h31, h16]
  omega

theorem table_size : Gen.Lemire.powerOfFive128.size = 651 := by decide +kernel

theorem table_index (q : Int) (h1 : -342 ≤ q) (h2 : q ≤ 308) :
    asU64 (wrapI64 (q - Gen.Lemire.smallestPowerOfFive)) = (q + 342).toNat := by
  have hsm : Gen.Lemire.smallestPowerOfFive = -342 := rfl
  rw [hsm]
  unfold asU64 wrapI64 wrapI
  have h64 : (2 : Int) ^ 64 = 18446744073709551616 := by decide
  have h63 : (2 : Int) ^ (64 - 1) = 9223372036854775808 := by decide
  simp only [h64, h63]
  omega

theorem cpa_some {q : Int} {w prec : Nat} {r : Nat × Nat} (hq1 : -(2 ^ 63 : Int) ≤ q) (hq2 : q < (2 ^ 63 : Int))
    (h : computeProductApprox q w prec = some r) : -342 ≤ q ∧ q ≤ 308 := by
  unfold computeProductApprox at h
  simp only [] at h
  have hsm : Gen.Lemire.smallestPowerOfFive = -342 := rfl
  rw [hsm] at h
  split at h
  · exact absurd h (by simp)
  · rename_i lo5 hi5 hget
    obtain ⟨hlt, _⟩ := Array.getElem?_eq_some_iff.mp hget
    rw [table_size] at hlt
    unfold asU64 wrapI64 wrapI at hlt
    have h64 : (2 : Int) ^ 64 = 18446744073709551616 := by decide
    have h63 : (2 : Int) ^ (64 - 1) = 9223372036854775808 := by decide
    have h63' : (2 : Int) ^ 63 = 9223372036854775808 := by decide
    simp only [h64, h63] at hlt
    rw [h63'] at hq1 hq2
    omega

theorem computeErrorScaled_neg {F p eb} (lay : Layout F p eb) (q : Int) (hi lz : Nat) (hq1 : -342 ≤ q)
    (hq2 : q ≤ 308) : (computeErrorScaled F q hi lz).exp < 0 := by
  unfold computeErrorScaled
  simp only []
  rw [power_eq q (by omega) (by omega), lay.bias, show invalidFp = -32768 from rfl, show litErrorBias = 62 from rfl]
  have hb1024 := lay.hb1024
  have hp64 := lay.hp64
  split <;> omega

theorem computeError_invalid {F p eb sm lg a b} (LL : LemLayout F p eb sm lg a b) (q : Int) (w : Nat)
    (hq1 : -(2 ^ 63 : Int) ≤ q) (hq2 : q < (2 ^ 63 : Int)) {fp : ExtendedFloat80}
    (h : computeError F q w = .ok fp) : fp.exp < 0 := by
  unfold computeError at h
  simp only [] at h
  split at h
  · exact absurd h (by simp)
  · rename_i lo hi hc
    obtain ⟨r1, r2⟩ := cpa_some hq1 hq2 hc
    injection h with h; subst h
    exact computeErrorScaled_neg LL.lay q hi _ r1 r2

theorem cpa_isSome (q : Int) (w prec : Nat) (h1 : -342 ≤ q) (h2 : q ≤ 308) :
    ∃ r, computeProductApprox q w prec = some r := by
  have hidx := table_index q h1 h2
  have hlt : (q + 342).toNat < Gen.Lemire.powerOfFive128.size := by rw [table_size]; omega
  unfold computeProductApprox
  simp only [hidx, Array.getElem?_eq_getElem hlt]
  split <;> (split <;> exact ⟨_, rfl⟩)

theorem ok_ite_ne (c : Prop) [Decidable c] (a b : ExtendedFloat80) :
    (if c then AlgoRes.ok a else .ok b) ≠ .panic := by split <;> simp

theorem cfRound_no_panic (F : FTy) (q : Int) (lo hi lz : Nat) : cfRound F q lo hi lz ≠ .panic := by
  unfold cfRound
  simp only []
  split
  · exact ok_ite_ne _ _ _
  · exact ok_ite_ne _ _ _

/-- the checked table index is always in range -/
theorem computeFloat_no_panic {F p eb sm lg a b} (LL : LemLayout F p eb sm lg a b) (q : Int) (w : Nat)
    (lossy : Bool) : computeFloat F q w lossy ≠ .panic := by
  unfold computeFloat
  split
  · simp
  · split
    · simp
    · rename_i h1 h2
      have hq1 : -342 ≤ q := by
        have := LL.smallest; have := LL.sm342
        have : ¬ q < F.C.smallestPowerOfTen := fun h => h1 (Or.inr h)
        omega
      have hq2 : q ≤ 308 := by have := LL.largest; have := LL.lg308; omega
      obtain ⟨r, hr⟩ := cpa_isSome q (shl64m w (clz64 w)) (F.ms + litPrecisionExtra) hq1 hq2
      simp only [hr]
      split
      · simp
      · exact cfRound_no_panic _ _ _ _ _

/-- `compute_float` is right on `(q, w)`: a valid answer is `roundNE (w·10^q)` -/
def CFSound (F : FTy) (q : Int) (w : Nat) : Prop :=
  ∀ fp, computeFloat F q w false = .ok fp → 0 ≤ fp.exp →
    extendedToFloat F fp = roundNE F.fmt (powFrac 10 q w).1 (powFrac 10 q w).2

/-- **wrapper lemma**: a valid answer of `lemire` for a truncated mantissa `w` is correct for every value
in `[w·10^q, (w+1)·10^q]`. -/
theorem lemire_wrapper {F p eb sm lg a b} (LL : LemLayout F p eb sm lg a b) (q : Int) (w : Nat) (neg : Bool)
    (hq1 : -(2 ^ 63 : Int) ≤ q) (hq2 : q < (2 ^ 63 : Int)) (hw : w + 1 < 2 ^ 64)
    (S0 : CFSound F q w) (S1 : CFSound F q (w + 1)) {fp : ExtendedFloat80}
    (h : lemire F ⟨w, q, neg, true⟩ false = .ok fp) (hv : 0 ≤ fp.exp)
    (num den : Nat) (hd : 0 < den)
    (hlo : (powFrac 10 q w).1 * den ≤ num * (powFrac 10 q w).2)
    (hhi : num * (powFrac 10 q (w + 1)).2 ≤ (powFrac 10 q (w + 1)).1 * den) :
    extendedToFloat F fp = roundNE F.fmt num den := by
  have hf := LL.lay.wf
  have hden := powFrac_pos (base := 10) (by decide) q
  unfold lemire at h
  simp only [] at h
  split at h
  · exact absurd h (by simp)
  · rename_i fp0 h0
    by_cases hv0 : fp0.exp ≥ 0
    · have hc : (!false && true && decide (fp0.exp ≥ 0)) = true := by simp [hv0]
      rw [if_pos hc] at h
      have hwrap : wrap64 (w + 1) = w + 1 := Nat.mod_eq_of_lt hw
      rw [hwrap] at h
      split at h
      · exact absurd h (by simp)
      · rename_i fp1 h1
        by_cases hne : fp0 ≠ fp1
        · rw [if_pos hne] at h
          have := computeError_invalid LL q w hq1 hq2 h
          omega
        · rw [if_neg hne] at h
          injection h with h; subst h
          have heq : fp0 = fp1 := Classical.not_not.mp hne
          have e0 := S0 fp0 h0 hv0
          have e1 := S1 fp1 h1 (by rw [← heq]; exact hv0)
          rw [← heq] at e1
          apply Nat.le_antisymm
          · rw [e0]; exact roundNE_mono' hf (hden w) hd hlo
          · rw [e1]; exact roundNE_mono' hf hd (hden (w + 1)) hhi
    · have hc : ¬ (!false && true && decide (fp0.exp ≥ 0)) = true := by simp [hv0]
      rw [if_neg hc] at h
      injection h with h; subst h
      omega

end LexVerif.Proof.Lemire
