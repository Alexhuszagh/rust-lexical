import LexVerif.Proof.SepFree8
import LexVerif.Proof.PrefixRepair
import LexVerif.Proof.ParsePhases
import LexVerif.Proof.IterBasic
/-!
# Proof.SepFreePhases — `parse_number` phase by phase on separator-free input

On an input without the separator byte every phase of a release build has a closed form: `intClosed`, `fracClosed`,
`signClosed`, `expClosed`, `sufClosed`; the resulting iterator is `adv`, which counts the digits whenever the `format`
feature is on, whatever the separator flags. `Props.C01Number.tailOf` is `parse_number` after its integer and fraction
phases; `parseNumber_closed` is `parse_number` up to there, `Proof/SepFreeNumber.lean` closes the rest. Two uses: a format
with separators against a format without separators whose other parameters agree (`Counterpart`), and the phases against
the documented grammar (`Proof/GrammarPhases.lean`).
-/
namespace LexVerif.Proof.Sep
open LexVerif LexVerif.Model LexVerif.Spec
open LexVerif.Props.C12

export LexVerif.Proof.PrefixRepair (prefixPhase_none)

/-- separator formats whose integer and fraction component both carry separator flags (what `SkipAll` gives) -/
structure SepClass (c : Cfg) : Prop where
  debug : c.debug = false
  sep : c.digitSeparator ≠ 0
  int : c.iterContiguous .integer = false
  frac : c.iterContiguous .fraction = false
  reach : ∀ k, c.skip k ≠ .unreachable

structure PlainClass (c : Cfg) : Prop where
  debug : c.debug = false
  sep : c.digitSeparator = 0
  contig : ∀ k, c.iterContiguous k = true
  radix : c.feats.powerOfTwo = false → c.mantissaRadix ≤ 10

theorem SepClass.format {c : Cfg} (h : SepClass c) : c.feats.format = true := by
  have := h.sep
  unfold Cfg.digitSeparator at this
  cases hf : c.feats.format
  · simp [hf] at this
  · rfl

theorem PlainClass.noSep {c : Cfg} (h : PlainClass c) (s : List Nat) : NoSep c s := noSep_of_sep_zero c h.sep s

theorem PlainClass.reach {c : Cfg} (h : PlainClass c) (k : Comp) : c.skip k ≠ .unreachable := by
  rw [skip_of_contig c k (h.contig k)]
  exact Skip.noConfusion

/-- release build of a format whose separator flags are not "consecutive alone" (what `format.is_valid()` gives) and
whose multi-digit fast paths run for radix ≤ 10 only: every valid format, with or without digit separators, on any
component. The closed forms below hold for this whole class because `try_parse_8digits` counts the digits it steps
over and a contiguous iterator counts by cursor. -/
structure RelClass (c : Cfg) : Prop where
  debug : c.debug = false
  reach : ∀ k, c.skip k ≠ .unreachable
  radix : c.feats.powerOfTwo = false → c.mantissaRadix ≤ 10

theorem PlainClass.rel {c : Cfg} (h : PlainClass c) : RelClass c := ⟨h.debug, h.reach, h.radix⟩

theorem RelClass.multi {c : Cfg} (h : RelClass c) (k : Comp) (hm : canMultidigit c k = true) : c.mantissaRadix ≤ 10 := by
  simp only [canMultidigit, Bool.and_eq_true, Bool.or_eq_true, Bool.not_eq_true', decide_eq_true_eq] at hm
  rcases hm.2 with h' | h'
  · exact h.radix h'
  · exact h'

theorem multi_of_not_contig {c : Cfg} {k : Comp} (h : c.iterContiguous k = false) (hm : canMultidigit c k = true) :
    c.mantissaRadix ≤ 10 := by
  simp [canMultidigit, h] at hm

theorem currentCount_adv (c : Cfg) (k : Comp) (n : Nat) (b : Bytes) (hk : k ≠ .special) :
    Bytes.currentCount c (adv c k n b) = Bytes.currentCount c b + n := by
  unfold Bytes.currentCount
  cases hb : c.bytesContiguous
  · have hf := IterSpec.format_of_sep hb
    cases k <;> simp [adv, hf] at hk ⊢ <;> omega
  · simp

theorem currentCount_step (c : Cfg) (b : Bytes) :
    b.currentCount c ≤ Bytes.currentCount c { b with index := b.index + 1 } := by
  simp only [Bytes.currentCount]; split <;> simp

theorem currentCount_adv_sub (c : Cfg) (k : Comp) (n : Nat) (b : Bytes) (hk : k ≠ .special) :
    Bytes.currentCount c (adv c k n b) - Bytes.currentCount c b = n := by
  rw [currentCount_adv c k n b hk]; omega

theorem parse8Digits_rel (c : Cfg) (k : Comp) (hd : c.debug = false)
    (hr : canMultidigit c k = true → c.mantissaRadix ≤ 10) (b : Bytes) (m : Nat) :
    ∃ j m1, parse8Digits c k b m = .ok (m1, adv c k (8 * j) b) ∧
      (digitsPrefix c.mantissaRadix (b.slc.drop b.index)).length
        = 8 * j + (digitsPrefix c.mantissaRadix (b.slc.drop (b.index + 8 * j))).length ∧
      foldMantissa c.mantissaRadix m1 (digitsPrefix c.mantissaRadix (b.slc.drop (b.index + 8 * j)))
        = foldMantissa c.mantissaRadix m (digitsPrefix c.mantissaRadix (b.slc.drop b.index)) := by
  unfold parse8Digits
  by_cases hc : c.feats.compact = true
  · exact ⟨0, m, by simp [hc, pure, Except.pure, adv_zero], by simp, by simp⟩
  · by_cases hm : canMultidigit c k = true
    · obtain ⟨j, m1, h1, h2, h3⟩ := parse8Loop_spec c k hd (hr hm) (b.slc.length + 1) b m (by omega)
      refine ⟨j, m1, ?_, h2, h3⟩
      simp only [hc, hm, hd, Bool.false_and, Bool.false_eq_true, if_false, if_true, h1]
    · exact ⟨0, m, by simp [hc, hm, pure, Except.pure, adv_zero], by simp, by simp⟩

theorem digitsRun_pk (c : Cfg) (k : Comp) (hd : c.debug = false) (hr : canMultidigit c k = true → c.mantissaRadix ≤ 10)
    (b : Bytes) (m : Nat) (hp : PlainPeek c k b.slc) :
    ∃ m1 b1 ds1, parse8Digits c k b m = .ok (m1, b1) ∧
      parseDigits c k c.mantissaRadix b1 =
        .ok (ds1, adv c k (digitsPrefix c.mantissaRadix (b.slc.drop b.index)).length b) ∧
      foldMantissa c.mantissaRadix m1 ds1
        = foldMantissa c.mantissaRadix m (digitsPrefix c.mantissaRadix (b.slc.drop b.index)) := by
  obtain ⟨j, m1, h1, h2, h3⟩ := parse8Digits_rel c k hd hr b m
  refine ⟨m1, _, _, h1, ?_, h3⟩
  rw [parseDigits_pk c k _ hd _ (by simpa using hp)]
  simp only [adv_slc, adv_index, adv_add, h2]

theorem parse8Digits_sep (c : Cfg) (k : Comp) (hk : c.iterContiguous k = false) (b : Bytes) (m : Nat) :
    parse8Digits c k b m = .ok (m, b) := by
  unfold parse8Digits
  by_cases hc : c.feats.compact = true
  · simp [hc, pure, Except.pure]
  · simp [hc, canMultidigit, hk, pure, Except.pure]

/-- the remainder of `integerPhase` after the base prefix, in closed form (`e` = the iterator after the digits) -/
def intClosed (g : Cfg) (isPrefix : Bool) (start e : Bytes) : Except Err IntPart :=
  let ds := digitsPrefix g.mantissaRadix (start.slc.drop start.index)
  if g.feats.format && g.requiredIntegerDigits && ds.length = 0 then .error (.err "EmptyInteger" e.index)
  else
    let digits := (start.slc.drop start.index).take ds.length
    if g.feats.format && !isPrefix && g.noFloatLeadingZeros && digits.length > 1 && digits.head? = some 48 then
      .error (.err "InvalidLeadingZeros" start.index)
    else .ok ⟨isPrefix, start, e, foldMantissa g.mantissaRadix 0 ds, ds.length, digits⟩

theorem intClosed_eq_intTail (c : Cfg) (isPrefix : Bool) (start : Bytes) :
    intClosed c isPrefix start
        (adv c .integer (digitsPrefix c.mantissaRadix (start.slc.drop start.index)).length start) =
      Phase.intTail c isPrefix start
        (adv c .integer (digitsPrefix c.mantissaRadix (start.slc.drop start.index)).length start)
        (foldMantissa c.mantissaRadix 0 (digitsPrefix c.mantissaRadix (start.slc.drop start.index))) := by
  have hlen := List.length_drop ▸ digitsPrefix_length_le c.mantissaRadix (start.slc.drop start.index)
  simp only [Phase.intTail, Phase.storedLen, intClosed, currentCount_adv_sub c .integer _ _ (by decide), adv_index,
    Nat.add_sub_cancel_left, ite_self, IterSpec.sliceTo_ok start _ _ hlen, bind, Except.bind, pure, Except.pure]

theorem integerPhase_nosep (c : Cfg) (hd : c.debug = false) (hk : c.skip .integer ≠ .unreachable)
    (hr : canMultidigit c .integer = true → c.mantissaRadix ≤ 10) (b start : Bytes) (isPrefix : Bool)
    (hn : NoSep c start.slc) (hp : prefixPhase c b = .ok (isPrefix, start)) :
    integerPhase c b = intClosed c isPrefix start
      (adv c .integer (digitsPrefix c.mantissaRadix (start.slc.drop start.index)).length start) := by
  obtain ⟨m1, b1, ds1, h1, h2, h3⟩ := digitsRun_pk c .integer hd hr start 0 (plainPeek_nosep c _ _ hn hk)
  rw [Phase.integerPhase_eq, hp, intClosed_eq_intTail]
  simp only [bind, Except.bind, Phase.digitPass_ok h1 h2, h3]

theorem integerPhase_rel (c : Cfg) (hS : RelClass c) (b start : Bytes) (isPrefix : Bool) (hn : NoSep c start.slc)
    (hp : prefixPhase c b = .ok (isPrefix, start)) :
    integerPhase c b = intClosed c isPrefix start
      (adv c .integer (digitsPrefix c.mantissaRadix (start.slc.drop start.index)).length start) :=
  integerPhase_nosep c hS.debug (hS.reach _) (hS.multi _) b start isPrefix hn hp

/-- `c'` is `c` with the separators removed: every parameter that is not a separator flag / the separator byte agrees -/
structure Counterpart (c c' : Cfg) : Prop where
  feats : c'.feats = c.feats
  requiredIntegerDigits : c'.requiredIntegerDigits = c.requiredIntegerDigits
  requiredFractionDigits : c'.requiredFractionDigits = c.requiredFractionDigits
  requiredExponentDigits : c'.requiredExponentDigits = c.requiredExponentDigits
  requiredMantissaDigits : c'.requiredMantissaDigits = c.requiredMantissaDigits
  noPositiveMantissaSign : c'.noPositiveMantissaSign = c.noPositiveMantissaSign
  requiredMantissaSign : c'.requiredMantissaSign = c.requiredMantissaSign
  noExponentNotation : c'.noExponentNotation = c.noExponentNotation
  noPositiveExponentSign : c'.noPositiveExponentSign = c.noPositiveExponentSign
  requiredExponentSign : c'.requiredExponentSign = c.requiredExponentSign
  noExponentWithoutFraction : c'.noExponentWithoutFraction = c.noExponentWithoutFraction
  noSpecial : c'.noSpecial = c.noSpecial
  caseSensitiveSpecial : c'.caseSensitiveSpecial = c.caseSensitiveSpecial
  noFloatLeadingZeros : c'.noFloatLeadingZeros = c.noFloatLeadingZeros
  requiredExponentNotation : c'.requiredExponentNotation = c.requiredExponentNotation
  caseSensitiveExponent : c'.caseSensitiveExponent = c.caseSensitiveExponent
  caseSensitiveBasePrefix : c'.caseSensitiveBasePrefix = c.caseSensitiveBasePrefix
  caseSensitiveBaseSuffix : c'.caseSensitiveBaseSuffix = c.caseSensitiveBaseSuffix
  basePrefix : c'.basePrefix = c.basePrefix
  baseSuffix : c'.baseSuffix = c.baseSuffix
  mantissaRadix : c'.mantissaRadix = c.mantissaRadix
  exponentBase : c'.exponentBase = c.exponentBase
  exponentRadix : c'.exponentRadix = c.exponentRadix

def RelE {α β : Type} (R : α → β → Prop) : Except Err α → Except Err β → Prop
  | .ok a, .ok b => R a b
  | .error e, .error e' => e = e'
  | _, _ => False

theorem RelE.refl_ok {α β : Type} {R : α → β → Prop} {a : α} {b : β} (h : R a b) :
    RelE R (Except.ok a) (Except.ok b) := h

theorem prefixPhase_same (c c' : Cfg) (hS : RelClass c) (hP : PlainClass c') (hC : Counterpart c c') (b : Bytes)
    (hn : NoSep c b.slc) : prefixPhase c' b = prefixPhase c b := by
  -- both are `prefixClosed`, where no `peek` moves; the flags read are those `Counterpart` equates
  have e : ∀ b1 : Bytes, b1.slc = b.slc → IterSpec.pk c .integer b1 = b1.index ∧ IterSpec.pk c' .integer b1 = b1.index := fun b1 h1 =>
    ⟨(plainPeek_nosep c .integer b1.slc (h1 ▸ hn) (hS.reach _)).pk, (plainPeek_nosep c' .integer b1.slc (hP.noSep _) (hP.reach _)).pk⟩
  rw [PrefixRepair.prefixPhase_closed (hS.reach _) (IterSpec.StepOK.release hS.debug _ _) (fun _ y _ => IterSpec.StepOK.release hS.debug _ y),
    PrefixRepair.prefixPhase_closed (hP.reach _) (IterSpec.StepOK.release hP.debug _ _) (fun _ y _ => IterSpec.StepOK.release hP.debug _ y)]
  unfold PrefixRepair.prefixClosed
  simp only [(e b rfl).1, (e b rfl).2, (e (IterSpec.cur b (b.index + 1)) rfl).1, (e (IterSpec.cur b (b.index + 1)) rfl).2, hC.feats,
    hC.basePrefix, hC.caseSensitiveBasePrefix, hC.requiredIntegerDigits]

theorem prefixPhase_slc (c : Cfg) (hd : c.debug = false) (hk : c.skip .integer ≠ .unreachable) (b start : Bytes)
    (p : Bool) (h : prefixPhase c b = .ok (p, start)) : start.slc = b.slc ∧ b.index ≤ start.index := by
  rw [PrefixRepair.prefixPhase_closed hk (IterSpec.StepOK.release hd _ _) (fun _ y _ => IterSpec.StepOK.release hd _ y)] at h
  obtain ⟨j, rfl, hj⟩ := PrefixRepair.prefixClosed_cur h
  exact ⟨rfl, hj⟩

theorem integerPhase_prefix_error (c : Cfg) (b : Bytes) (e : Err) (h : prefixPhase c b = .error e) :
    integerPhase c b = .error e := by
  unfold integerPhase
  simp [h, bind, Except.bind]

def scaleVal (c : Cfg) (implicit : Int) : Int :=
  if c.mantissaRadix = c.exponentBase then implicit
  else Int.tdiv (implicit * log2Radix c.mantissaRadix) (log2Radix c.exponentBase)

theorem scaleExponent_release (c : Cfg) (hd : c.debug = false) (x : Int) : scaleExponent c x = .ok (scaleVal c x) := by
  unfold scaleExponent scaleVal
  split
  · rfl
  · simp [hd, pure, Except.pure]

theorem scaleVal_same (c c' : Cfg) (hC : Counterpart c c') (x : Int) : scaleVal c' x = scaleVal c x := by
  simp [scaleVal, hC.mantissaRadix, hC.exponentBase]

theorem step_release (c : Cfg) (hd : c.debug = false) (b : Bytes) : b.step c = .ok { b with index := b.index + 1 } := by
  simp [Bytes.step, stepUnchecked_release c _ b hd]

/-- the optional step over the decimal point, with its continuation `K` (do-notation duplicates it under the `if`) -/
theorem stepIf_release {α : Type} (c : Cfg) (hd : c.debug = false) (p : Prop) [Decidable p] (b : Bytes)
    (K : Bytes → Except Err α) :
    (if p then b.step c >>= K else pure b >>= K) = K { b with index := if p then b.index + 1 else b.index } := by
  split
  · rw [step_release c hd b]
    rfl
  · rfl

def fracClosed (g : Cfg) (o : POpts) (b : Bytes) (m : Nat) : Except Err FracPart :=
  if b.firstIsCased o.dp then
    let ds := digitsPrefix g.mantissaRadix (b.slc.drop (b.index + 1))
    if g.feats.format && g.requiredFractionDigits && ds.length = 0 then
      .error (.err "EmptyFraction" (b.index + 1 + ds.length))
    else .ok ⟨adv g .fraction ds.length { b with index := b.index + 1 }, foldMantissa g.mantissaRadix m ds, ds.length,
      scaleVal g (-(ds.length : Int)), some ((b.slc.drop (b.index + 1)).take ds.length), true⟩
  else .ok ⟨b, m, 0, 0, none, false⟩

theorem fracTail_adv (c : Cfg) (hd : c.debug = false) (st : Bytes) (m : Nat) :
    Phase.fracTail c st (adv c .fraction (digitsPrefix c.mantissaRadix (st.slc.drop st.index)).length st) m =
      (if c.feats.format && c.requiredFractionDigits &&
          (digitsPrefix c.mantissaRadix (st.slc.drop st.index)).length = 0 then
        .error (.err "EmptyFraction" (st.index + (digitsPrefix c.mantissaRadix (st.slc.drop st.index)).length))
      else .ok ⟨adv c .fraction (digitsPrefix c.mantissaRadix (st.slc.drop st.index)).length st, m,
        (digitsPrefix c.mantissaRadix (st.slc.drop st.index)).length,
        scaleVal c (-((digitsPrefix c.mantissaRadix (st.slc.drop st.index)).length : Int)),
        some ((st.slc.drop st.index).take (digitsPrefix c.mantissaRadix (st.slc.drop st.index)).length), true⟩) := by
  have hlen := List.length_drop ▸ digitsPrefix_length_le c.mantissaRadix (st.slc.drop st.index)
  simp only [Phase.fracTail, Phase.storedLen, currentCount_adv_sub c .fraction _ _ (by decide), adv_index,
    Nat.add_sub_cancel_left, ite_self, IterSpec.sliceTo_ok st _ _ hlen, scaleExponent_release c hd, bind, Except.bind, pure,
    Except.pure]

theorem fractionPhase_nosep (c : Cfg) (hd : c.debug = false) (hk : c.skip .fraction ≠ .unreachable)
    (hr : canMultidigit c .fraction = true → c.mantissaRadix ≤ 10) (o : POpts) (b : Bytes) (m : Nat)
    (hn : NoSep c b.slc) : fractionPhase c o b m = fracClosed c o b m := by
  rw [Phase.fractionPhase_eq]
  unfold fracClosed
  split
  · obtain ⟨m1, b1, ds1, h1, h2, h3⟩ := digitsRun_pk c .fraction hd hr { b with index := b.index + 1 } m
      (plainPeek_nosep c _ _ hn hk)
    simp only [step_release c hd, bind, Except.bind, Phase.digitPass_ok h1 h2, h3, fracTail_adv c hd]
  · rfl

theorem fractionPhase_rel (c : Cfg) (hS : RelClass c) (o : POpts) (b : Bytes) (m : Nat) (hn : NoSep c b.slc) :
    fractionPhase c o b m = fracClosed c o b m :=
  fractionPhase_nosep c hS.debug (hS.reach _) (hS.multi _) o b m hn

/-- `parse_sign!` of a release build: the configuration plays no part -/
def signClosed (np rq : Bool) (ip ms : String) (b : Bytes) : Except Err (Bool × Bytes) :=
  match b.first with
  | some 43 => if !np then .ok (false, { b with index := b.index + 1 }) else .error (.err ip b.index)
  | some 45 => .ok (true, { b with index := b.index + 1 })
  | _ => if rq then .error (.err ms b.index) else .ok (false, b)

theorem parseSign_release (c : Cfg) (hd : c.debug = false) (np rq : Bool) (ip ms : String) (b : Bytes) :
    parseSign c np rq ip ms b = signClosed np rq ip ms b := by
  unfold parseSign signClosed
  cases b.first with
  | none => rfl
  | some x =>
    by_cases h43 : x = 43
    · subst h43; simp [step_release c hd, bind, Except.bind, pure, Except.pure]
    · by_cases h45 : x = 45
      · subst h45; simp [step_release c hd, bind, Except.bind, pure, Except.pure]
      · simp [h43, h45, pure, Except.pure]

theorem signClosed_ok {np rq : Bool} {ip ms : String} {b b' : Bytes} {neg : Bool}
    (h : signClosed np rq ip ms b = .ok (neg, b')) :
    b' = b ∨ b' = { b with index := b.index + 1 } := by
  unfold signClosed at h
  split at h
  · split at h
    · cases h; exact Or.inr rfl
    · cases h
  · cases h; exact Or.inr rfl
  · split at h
    · cases h
    · cases h; exact Or.inl rfl

theorem signClosed_slc {np rq : Bool} {ip ms : String} {b b' : Bytes} {neg : Bool}
    (h : signClosed np rq ip ms b = .ok (neg, b')) : b'.slc = b.slc := by
  rcases signClosed_ok h with rfl | rfl <;> rfl

def expClosed (g : Cfg) (hasExp : Bool) (b : Bytes) (fr : Option (List Nat)) (ex : Int) : Except Err ExpPart :=
  if hasExp then
    if g.feats.format && g.noExponentNotation then .error (.err "InvalidExponent" b.index)
    else if g.feats.format && g.noExponentWithoutFraction && fr.isNone then
      .error (.err "ExponentWithoutFraction" b.index)
    else
      signClosed g.noPositiveExponentSign g.requiredExponentSign "InvalidPositiveExponentSign" "MissingExponentSign"
        { b with index := b.index + 1 } >>= fun r =>
      let ds := digitsPrefix g.exponentRadix (r.2.slc.drop r.2.index)
      if g.requiredExponentDigits && ds.length = 0 then .error (.err "EmptyExponent" (r.2.index + ds.length))
      else
        let mag := foldExponent g.exponentRadix 0 ds
        let explicit : Int := if r.1 then -(mag : Int) else (mag : Int)
        .ok ⟨adv g .exponent ds.length r.2, explicit, ex + explicit⟩
  else if g.feats.format && g.requiredExponentNotation then .error (.err "MissingExponent" b.index)
  else .ok ⟨b, 0, ex⟩

theorem exponentPhase_rel (c : Cfg) (hS : RelClass c) (hasExp : Bool) (b : Bytes) (fr : Option (List Nat)) (ex : Int)
    (hn : NoSep c b.slc) : exponentPhase c hasExp b fr ex = expClosed c hasExp b fr ex := by
  unfold exponentPhase expClosed
  cases hasExp with
  | false => rfl
  | true =>
    simp only [if_true, step_release c hS.debug, bind, Except.bind, Nat.add_sub_cancel]
    split
    · rfl
    · split
      · rfl
      · unfold parseExponentSign
        rw [parseSign_release c hS.debug]
        cases hsg : signClosed c.noPositiveExponentSign c.requiredExponentSign "InvalidPositiveExponentSign"
            "MissingExponentSign" { b with index := b.index + 1 } with
        | error e => rfl
        | ok r =>
          have hs2 : r.2.slc = b.slc := signClosed_slc (b := { b with index := b.index + 1 }) hsg
          simp only [parseDigits_nosep c .exponent c.exponentRadix hS.debug (hS.reach _) r.2 (by rw [hs2]; exact hn),
            currentCount_adv_sub c .exponent _ _ (by decide), adv_index, pure, Except.pure]

def sufClosed (g : Cfg) (b : Bytes) : Bytes :=
  if g.feats.format && g.baseSuffix ≠ 0 && b.firstIs g.baseSuffix g.caseSensitiveBaseSuffix then
    { b with index := b.index + 1 }
  else b

theorem suffixPhase_release (c : Cfg) (hd : c.debug = false) (b : Bytes) : suffixPhase c b = .ok (sufClosed c b) := by
  unfold suffixPhase sufClosed
  split
  · exact step_release c hd b
  · rfl

/-- `parse_number::<FORMAT, IS_PARTIAL>` after the integer and fraction components (verbatim copy of the model's code);
the grammar proofs and `Props/C01Number` share it -/
def _root_.LexVerif.Props.C01Number.tailOf (c : Cfg) (isPartial : Bool) (o : POpts) (neg : Bool) (ip : IntPart) (fp : FracPart) :
    Except Err (Number × Nat) :=
  let byte := fp.byte
  let hasExponent := byte.firstIs o.exp (c.caseSensitiveExponent && c.feats.format)
  let nDigits := ip.nDigits + fp.nAfterDot
  if c.requiredMantissaDigits && (nDigits = 0 || (c.feats.format && byte.currentCount c = 0)) then
    peek c .integer ip.start >>= fun x =>
    if fp.hasDecimal || hasExponent || x.1.isNone || isPartial then .error (.err "EmptyMantissa" byte.index)
    else .error (.err "InvalidDigit" ip.start.index)
  else
    exponentPhase c hasExponent byte fp.fraction fp.exponent >>= fun ep =>
    suffixPhase c ep.byte >>= fun byte =>
    let endIdx := byte.index
    let step := u64Step c.feats c.mantissaRadix
    let exponent : Int := if c.feats.format && !c.requiredMantissaDigits && nDigits = 0 then 0 else ep.exponent
    if nDigits ≤ step then
      pure (⟨fp.mantissa, exponent, neg, false, ip.integerDigits, fp.fraction, ep.explicit⟩, endIdx)
    else manyDigitsPhase c o neg ip fp ep nDigits step exponent endIdx

theorem parseNumber_stages (c : Cfg) (hd : c.debug = false) (isPartial : Bool) (o : POpts) (b : Bytes) (neg fv : Bool) :
    parseNumber c isPartial o b neg fv =
      (integerPhase c b >>= fun ip => fractionPhase c o ip.byte ip.mantissa >>= fun fp =>
        Props.C01Number.tailOf c isPartial o neg ip fp) := by
  unfold parseNumber
  simp only [hd, Bool.false_and, Bool.false_eq_true, if_false]
  rfl

theorem intClosed_byte {g : Cfg} {isPrefix : Bool} {start e : Bytes} {ip : IntPart}
    (h : intClosed g isPrefix start e = .ok ip) : ip.byte = e := by
  unfold intClosed at h
  dsimp only at h
  split at h
  · cases h
  · split at h
    · cases h
    · cases h; rfl

theorem parseNumber_closed (c : Cfg) (hS : RelClass c) (isPartial : Bool) (o : POpts) (b : Bytes) (neg fv : Bool)
    (hn : NoSep c b.slc) :
    parseNumber c isPartial o b neg fv =
      (prefixPhase c b >>= fun r =>
        intClosed c r.1 r.2 (adv c .integer (digitsPrefix c.mantissaRadix (r.2.slc.drop r.2.index)).length r.2) >>= fun ip =>
        fracClosed c o ip.byte ip.mantissa >>= fun fp =>
        Props.C01Number.tailOf c isPartial o neg ip fp) := by
  rw [parseNumber_stages c hS.debug]
  cases hp : prefixPhase c b with
  | error e => rw [integerPhase_prefix_error c b e hp]; rfl
  | ok r =>
    obtain ⟨p, st⟩ := r
    have hns : NoSep c st.slc := by
      rw [(prefixPhase_slc c hS.debug (hS.reach _) b st p hp).1]; exact hn
    rw [integerPhase_rel c hS b st p hns hp]
    show _ = (intClosed c p st _ >>= _)
    cases hi : intClosed c p st (adv c .integer (digitsPrefix c.mantissaRadix (st.slc.drop st.index)).length st) with
    | error e => rfl
    | ok ip =>
      show (fractionPhase c o ip.byte ip.mantissa >>= _) = (fracClosed c o ip.byte ip.mantissa >>= _)
      rw [fractionPhase_rel c hS o ip.byte ip.mantissa (by rw [intClosed_byte hi, adv_slc]; exact hns)]

end LexVerif.Proof.Sep
