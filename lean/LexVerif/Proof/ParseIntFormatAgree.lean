import LexVerif.Proof.ParseIntFormatTotal
/-!
# Proof.ParseIntFormatAgree — C11 clause 1 for the integer parser of `format` builds, read off `Out`

`Out` (`Proof/ParseIntFormatTotal.lean`, `parseIntFormat_out`) lists what `algorithm_complete` and `algorithm_partial`
return on the same input: the same error, `Ok((v, length))` in both, or `Err(InvalidDigit(i))` against `Ok((v, i))` /
`Err(Empty(i))` with `i < length`. Hence (`Agree.iff`)

  complete = Ok(v)  ⇔  partial = Ok((v, length))

for EVERY format accepted by `format.is_valid()` (separators, prefix, suffix, leading-zero flag), release build.
-/
namespace LexVerif.Proof.PIF
open LexVerif LexVerif.Spec LexVerif.Model LexVerif.Model.ParseIntFormat LexVerif.Proof.PNTotal

/-- early returns out of a digit loop (complete run `rc`, partial run `rp`): the complete parser does not return `Ok`,
and an `Ok` of the partial parser carries an index strictly inside the buffer -/
def AgreeL (n : Nat) (rc rp : Res) : Prop := (∀ v k, rc ≠ .ok (v, k)) ∧ (∀ v k, rp = .ok (v, k) → k < n)

/-- results that satisfy clause 1 for a buffer of length `n`: a loop-style early return, or the same result in both
runs whose `Ok` index is the buffer length (`$into_ok!`) -/
def Agree (n : Nat) (rc rp : Res) : Prop := AgreeL n rc rp ∨ (rc = rp ∧ ∀ v k, rc = .ok (v, k) → k = n)

theorem Agree.iff {n : Nat} {rc rp : Res} (h : Agree n rc rp) (v : Int) : (∃ k, rc = .ok (v, k)) ↔ rp = .ok (v, n) := by
  rcases h with h | ⟨h1, h2⟩
  · constructor
    · rintro ⟨k, hk⟩; exact absurd hk (h.1 v k)
    · intro hp; exact absurd (h.2 v n hp) (Nat.lt_irrefl _)
  · subst h1
    constructor
    · rintro ⟨k, hk⟩; rw [hk, h2 v k hk]
    · intro hp; exact ⟨n, hp⟩

theorem Out.agree {n : Nat} {f : Bool} {rc rp : Res} (h : Out n f rc rp) : Agree n rc rp := by
  cases h with
  | err k i h => exact Or.inr ⟨rfl, fun _ _ hj => (nomatch hj)⟩
  | done v => exact Or.inr ⟨rfl, fun _ _ hj => (by cases hj; rfl)⟩
  | invOk v i h => exact Or.inl ⟨fun _ _ hj => (nomatch hj), fun _ _ hj => (by cases hj; exact h)⟩
  | invEmpty i h => exact Or.inl ⟨fun _ _ hj => (nomatch hj), fun _ _ hj => (nomatch hj)⟩

variable {c : Cfg} {t : IntTy} {nm : Bool}

/-- **C11 clause 1 on the model, release build, every format without an `unreachable!()` separator dispatch** -/
theorem parseIntFormat_agree (hc : Rel c) (s : List Nat) :
    Agree s.length (parseIntFormat ⟨c, t, false, nm⟩ s) (parseIntFormat ⟨c, t, true, nm⟩ s) :=
  (parseIntFormat_out hc s).agree

end LexVerif.Proof.PIF
