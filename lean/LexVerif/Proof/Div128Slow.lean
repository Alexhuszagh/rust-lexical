import LexVerif.Proof.Div128
import LexVerif.Proof.WriteIntBasic
/-!
# Proof.Div128Slow — `slow_u128_divrem` (bit-serial restoring division) computes quotient and remainder
-/
namespace LexVerif.Model.WriteInt
open LexVerif.Spec

theorem lor_even (a b : Nat) (hb : b < 2) : Nat.lor (2 * a) b = 2 * a + b := by
  have := Nat.two_pow_add_eq_or_of_lt (i := 1) (b := b) (by simpa using hb) a
  simp only [Nat.pow_one] at this
  exact this.symm

theorem slowLoop_succ (d k q r c : Nat) : slowLoop d (k + 1) q r c =
    slowLoop d k (slowQ1 q c) (slowR2 d (slowR1 q r)) (slowS d (slowR1 q r)) := rfl

theorem div_mod_lt_two (d r1 : Nat) (hr1 : r1 < 2 * d) :
    r1 / d = (if d ≤ r1 then 1 else 0) ∧ r1 % d = if d ≤ r1 then r1 - d else r1 := by
  by_cases h : d ≤ r1
  · rw [if_pos h, if_pos h, Nat.mod_eq_sub_mod h, Nat.mod_eq_of_lt (by omega)]
    exact ⟨Nat.div_eq_of_lt_le (by omega) (by omega), rfl⟩
  · rw [if_neg h, if_neg h]
    exact ⟨Nat.div_eq_of_lt (by omega), Nat.mod_eq_of_lt (by omega)⟩

/-- the sign of the wrapping `d - r1 - 1`, as bit 127, tells whether `d ≤ r1` -/
theorem slowS_spec (d r1 : Nat) (hd64 : d < 2 ^ 64) (hr1 : r1 < 2 * d) : slowS d r1 = if d ≤ r1 then 1 else 0 := by
  unfold slowS w128
  by_cases h : d ≤ r1
  · rw [if_pos h]; omega
  · rw [if_neg h]; omega

theorem slowR2_spec (d r1 : Nat) (hd64 : d < 2 ^ 64) (hr1 : r1 < 2 * d) :
    slowR2 d r1 = if d ≤ r1 then r1 - d else r1 := by
  unfold slowR2
  rw [slowS_spec d r1 hd64 hr1]
  by_cases h : d ≤ r1
  · rw [if_pos h, if_pos rfl, if_pos h]
    unfold w128; omega
  · rw [if_neg h, if_neg (by omega), if_neg h]

theorem slow_step (d q r c : Nat) (hd64 : d < 2 ^ 64) (hr : r < d) (hb : q / 2 ^ 127 < 2) (hc : c < 2) :
    slowQ1 q c = q % 2 ^ 127 * 2 + c ∧
    slowS d (slowR1 q r) = (2 * r + q / 2 ^ 127) / d ∧
    slowR2 d (slowR1 q r) = (2 * r + q / 2 ^ 127) % d := by
  have e1 : w128 (r * 2) = 2 * r := by rw [Nat.mul_comm]; exact Nat.mod_eq_of_lt (by omega)
  have e2 : slowR1 q r = 2 * r + q / 2 ^ 127 := by unfold slowR1; rw [e1]; exact lor_even r _ hb
  have e3 : w128 (q * 2) = 2 * (q % 2 ^ 127) := by
    rw [Nat.mul_comm (2 : Nat)]; exact Nat.mul_mod_mul_right 2 q (2 ^ 127)
  have hr1 : 2 * r + q / 2 ^ 127 < 2 * d := by omega
  obtain ⟨hdiv, hmod⟩ := div_mod_lt_two d _ hr1
  refine ⟨?_, ?_, ?_⟩
  · unfold slowQ1; rw [e3, lor_even _ c hc, Nat.mul_comm]
  · rw [e2, hdiv, slowS_spec d _ hd64 hr1]
  · rw [e2, hmod, slowR2_spec d _ hd64 hr1]

theorem div_mod_carry (a d m l : Nat) (hd : 0 < d) :
    (a * m + l) / d = a / d * m + (a % d * m + l) / d ∧ (a * m + l) % d = (a % d * m + l) % d := by
  have h : a * m + l = d * (a / d * m) + (a % d * m + l) := by
    calc a * m + l = (d * (a / d) + a % d) * m + l := by rw [Nat.div_add_mod]
      _ = _ := by ring
  rw [h, Nat.mul_add_div hd, Nat.mul_add_mod]
  exact ⟨rfl, rfl⟩

theorem split_top (low Qh P K : Nat) (hQ : Qh < P) :
    (low * P + Qh) / (P * K) = low / K ∧ (low * P + Qh) % (P * K) = low % K * P + Qh := by
  obtain ⟨hd, hm⟩ := div_mod_of_eq (low * P + Qh) P low Qh rfl hQ
  rw [← Nat.div_div_eq_div_mul, Nat.mod_mul, hd, hm]
  exact ⟨rfl, by rw [Nat.mul_comm P, Nat.add_comm]⟩

/-- The loop in closed form. With `k` iterations to go the register `q` holds the `k` dividend bits `low` still to be
shifted in (at the top, above `P = 2^(128-k)`) and the quotient bits `Qh` found so far (below `P`), the last of them
still in `carry`; `r < d` is the partial remainder. The `k` iterations divide `r·2^k + low` by `d` and append the
quotient to the bits `2·Qh + c`. -/
theorem slowLoop_spec (d : Nat) (hd : 0 < d) (hd64 : d < 2 ^ 64) : ∀ (k q r c low Qh P : Nat),
    P * 2 ^ k = 2 ^ 128 → q = low * P + Qh → low < 2 ^ k → Qh < P → r < d → c < 2 →
    slowLoop d k q r c =
      (((2 * Qh + c) * 2 ^ k + (r * 2 ^ k + low) / d) / 2, (r * 2 ^ k + low) % d,
        ((2 * Qh + c) * 2 ^ k + (r * 2 ^ k + low) / d) % 2) := by
  intro k
  induction k with
  | zero =>
    intro q r c low Qh P _ hq hlow _ hr hc
    have hl0 : low = 0 := by omega
    subst hl0
    rw [Nat.zero_mul, Nat.zero_add] at hq
    subst hq
    simp only [slowLoop, Nat.pow_zero, Nat.mul_one, Nat.add_zero, Nat.mod_eq_of_lt hr, Nat.div_eq_of_lt hr]
    rw [show (2 * q + c) / 2 = q by omega, show (2 * q + c) % 2 = c by omega]
  | succ k ih =>
    intro q r c low Qh P hP hq hlow hQ hr hc
    have hP' : P * 2 ^ k = 2 ^ 127 := by rw [Nat.pow_succ, ← Nat.mul_assoc] at hP; omega
    -- the top bit `b` of `low` is the top bit of `q`
    obtain ⟨hqb, hqm⟩ := split_top low Qh P (2 ^ k) hQ
    rw [← hq, hP'] at hqb hqm
    have hlowe := Nat.div_add_mod low (2 ^ k)
    have hb : low / 2 ^ k < 2 := Nat.div_lt_of_lt_mul (by rw [Nat.pow_succ] at hlow; omega)
    have hlow' : low % 2 ^ k < 2 ^ k := Nat.mod_lt _ (Nat.pow_pos (by omega))
    generalize low / 2 ^ k = b at *
    generalize low % 2 ^ k = low' at *
    obtain ⟨s1, s2, s3⟩ := slow_step d q r c hd64 hr (by rw [hqb]; exact hb) hc
    rw [hqb] at s2 s3
    rw [hqm] at s1
    have hq1 : (low' * P + Qh) * 2 + c = low' * (P * 2) + (2 * Qh + c) := by ring
    rw [slowLoop_succ, s1, s2, s3, ih _ ((2 * r + b) % d) ((2 * r + b) / d) low' (2 * Qh + c) (P * 2)
      (by rw [Nat.mul_right_comm]; omega) hq1 hlow' (by omega) (Nat.mod_lt _ hd) (Nat.div_lt_of_lt_mul (by omega))]
    -- `r·2^(k+1) + low = (2r+b)·2^k + low'`, and `2r+b` is divided first
    have hN : r * 2 ^ (k + 1) + low = (2 * r + b) * 2 ^ k + low' := by rw [Nat.pow_succ, ← hlowe]; ring
    obtain ⟨hdiv, hmod⟩ := div_mod_carry (2 * r + b) d (2 ^ k) low' hd
    have hT : ∀ X, (2 * Qh + c) * (2 ^ k * 2) + ((2 * r + b) / d * 2 ^ k + X)
        = (2 * (2 * Qh + c) + (2 * r + b) / d) * 2 ^ k + X := by intro X; ring
    rw [hN, hdiv, hmod, Nat.pow_succ, hT]

theorem clz_add_log2 (bits x : Nat) (hx : x ≠ 0) (hlt : x < 2 ^ bits) : clz bits x + (Nat.log2 x + 1) = bits := by
  have := (Nat.log2_lt hx).2 hlt
  unfold clz; rw [if_neg hx]; omega

/-- the shift count `sr` of `slow_u128_divrem` from the leading-zero counts `ch`, `c` of the high word and of the
divisor, `bh` and `bd` their bit lengths less one: `sr = 65 + bh - bd`, and it passes the range checks -/
theorem shift_count (c ch bh bd : Nat) (hch : ch + (bh + 1) = 64) (hcd : c + (bd + 1) = 64) (hbd32 : 32 ≤ bd) :
    ∃ sr, (65 + c + (2 ^ 32 - ch)) % 2 ^ 32 = sr ∧ sr + bd = 65 + bh ∧ ¬ (sr = 0 ∨ sr > 128) ∧ ¬ sr = 128 :=
  ⟨65 + bh - bd, by omega, by omega, by omega, by omega⟩

theorem slow_spec (n d c : Nat) (hn : n < 2 ^ 128) (hd32 : 2 ^ 32 ≤ d) (hd64 : d < 2 ^ 64) (hc : c = clz 64 d) :
    slowU128Divrem n d c = .ok (n / d, n % d) := by
  have hd : 0 < d := by omega
  have hd0 : d ≠ 0 := by omega
  unfold slowU128Divrem
  have hh64 : n / 2 ^ 64 < 2 ^ 64 := Nat.div_lt_of_lt_mul hn
  simp only [Nat.mod_eq_of_lt hh64]
  by_cases h0 : n / 2 ^ 64 = 0
  · rw [if_pos h0]
    have : n % 2 ^ 64 = n := by omega
    simp only [this]
    rw [if_neg hd0]
  · rw [if_neg h0]
    have hnh : n < (n / 2 ^ 64 + 1) * 2 ^ 64 := by omega
    generalize n / 2 ^ 64 = high at h0 hnh hh64 ⊢
    have hch := clz_add_log2 64 high h0 hh64
    have hcd := clz_add_log2 64 d hd0 hd64
    rw [← hc] at hcd
    have hbd32 : 32 ≤ Nat.log2 d := (Nat.le_log2 hd0).2 hd32
    have hbh : high + 1 ≤ 2 ^ (Nat.log2 high + 1) := Nat.lt_log2_self
    have hbd : 2 ^ Nat.log2 d ≤ d := Nat.log2_self_le hd0
    generalize Nat.log2 high = bh at *
    generalize Nat.log2 d = bd at *
    obtain ⟨sr, hsr, hsr', hsr0, hsr128⟩ := shift_count c _ _ _ hch hcd hbd32
    simp only [hsr]
    rw [if_neg hsr0, if_neg hsr128]
    -- the initial state: `n % 2^sr` at the top of `q`, `n / 2^sr < d` in `r`
    have hpow : 2 ^ (128 - sr) * 2 ^ sr = 2 ^ 128 := by rw [← Nat.pow_add]; congr 1; omega
    have hq0 : w128 (n * 2 ^ (128 - sr)) = n % 2 ^ sr * 2 ^ (128 - sr) + 0 := by
      unfold w128; rw [← hpow, Nat.mul_comm (2 ^ (128 - sr)), Nat.mul_mod_mul_right, Nat.add_zero]
    have hr0 : n / 2 ^ sr < d := by
      have h1 : 2 ^ (bh + 1) * 2 ^ 64 = 2 ^ sr * 2 ^ bd := by rw [← Nat.pow_add, ← Nat.pow_add]; congr 1; omega
      have h2 : (high + 1) * 2 ^ 64 ≤ 2 ^ (bh + 1) * 2 ^ 64 := Nat.mul_le_mul_right _ hbh
      have : n / 2 ^ sr < 2 ^ bd := Nat.div_lt_of_lt_mul (Nat.lt_of_lt_of_le hnh (by rw [← h1]; exact h2))
      exact Nat.lt_of_lt_of_le this hbd
    rw [slowLoop_spec d hd hd64 sr _ (n / 2 ^ sr) 0 (n % 2 ^ sr) 0 _ hpow hq0 (Nat.mod_lt _ (Nat.pow_pos (by omega)))
      (Nat.pow_pos (by omega)) hr0 (by omega)]
    have hn' : n / 2 ^ sr * 2 ^ sr + n % 2 ^ sr = n := by rw [Nat.mul_comm]; exact Nat.div_add_mod n (2 ^ sr)
    simp only [hn', Nat.mul_zero, Nat.add_zero, Nat.zero_mul, Nat.zero_add]
    -- `n / d` is reassembled from its upper bits and the carry
    have hq : n / d < 2 ^ 128 := Nat.lt_of_le_of_lt (Nat.div_le_self _ _) hn
    have hrd : n % d < d := Nat.mod_lt n hd
    have hw : w128 (n / d / 2 * 2) = 2 * (n / d / 2) := by
      rw [Nat.mul_comm]; exact Nat.mod_eq_of_lt (Nat.lt_of_le_of_lt (Nat.mul_div_le _ 2) hq)
    rw [hw, lor_even _ _ (Nat.mod_lt _ (by decide)), Nat.div_add_mod, Nat.mod_eq_of_lt (Nat.lt_trans hrd hd64)]

/-- the per-radix constants of `u128_divrem_<r>` are fit for purpose (cf. `Props.TablesWrite.div128_all`, which states
the same about the regenerated constants; `Props.C03Tie.divremKind_table` equates the two) -/
def DivOK (r : Nat) : Prop :=
  match divremKind r with
  | some (.pow2 mask shr) => shr ≤ 64 ∧ mask = 2 ^ shr - 1 ∧ 2 ^ shr = r ^ u64StepTable r
  | some (.slow d c) => d = r ^ u64StepTable r ∧ 2 ^ 32 ≤ d ∧ d < 2 ^ 64 ∧ c = clz 64 d
  | some (.moderate d f s) => d = r ^ u64StepTable r ∧ d < 2 ^ 64 ∧ s < 128 ∧ MulHiPre128 d f s
  | some (.fast d fa fs f s) => d = r ^ u64StepTable r ∧ d < 2 ^ 64 ∧ s < 128 ∧ fs < 128 ∧ fa = 2 ^ (64 + fs) ∧
      d % 2 ^ fs = 0 ∧ 0 < d / 2 ^ fs ∧ MulHiPre128 d f s
  | none => False

instance (r : Nat) : Decidable (DivOK r) := by
  unfold DivOK
  split <;> infer_instance

theorem divOK_all : ∀ r, 2 ≤ r → r ≤ 36 → DivOK r := by decide +kernel

theorem runDivRem_spec (n r : Nat) (hn : n < 2 ^ 128) (hr : 2 ≤ r) (hr36 : r ≤ 36) :
    ∃ k, divremKind r = some k ∧
      runDivRem n k = .ok (n / r ^ u64StepTable r, n % r ^ u64StepTable r) := by
  have h := divOK_all r hr hr36
  unfold DivOK at h
  split at h
  · rename_i mask shr heq
    obtain ⟨h1, h2, h3⟩ := h
    exact ⟨_, heq, by rw [← h3]; exact pow2_spec n mask shr h1 h2⟩
  · rename_i d c heq
    obtain ⟨h1, h2, h3, h4⟩ := h
    exact ⟨_, heq, by rw [← h1]; exact slow_spec n d c hn h2 h3 h4⟩
  · rename_i d f s heq
    obtain ⟨h1, h2, h3, h4⟩ := h
    exact ⟨_, heq, by rw [← h1]; exact moderate_spec n d f s hn h2 h3 h4⟩
  · rename_i d fa fs f s heq
    obtain ⟨h1, h2, h3, h4, h5, h6, h7, h8⟩ := h
    exact ⟨_, heq, by rw [← h1]; exact fast_spec n d fa fs f s hn h2 h3 h4 h5 h6 h7 h8⟩
  · exact absurd h (by simp)

end LexVerif.Model.WriteInt
