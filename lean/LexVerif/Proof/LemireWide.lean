import LexVerif.Proof.LemireError
import LexVerif.Proof.SlowNegative
import LexVerif.Proof.EstCell
/-!
# Proof.LemireWide — estimates of a truncated mantissa

`lemire` hands the slow path an estimate computed from the first 19 digits `w`; the value `V` of all the digits lies in
`[w, w + 1)·10^q`. `EstW … c` is `EstOK` with the slack `4` replaced by `c`; an estimate of `w·10^q` is a `40`-estimate of
every such `V` when `w ≥ 2^59` (`estW_widen`). An `EstW` is a two-sided estimate (`Bell.Est2`, `est2_of_estW`), and such an
estimate with `4·cl, 2·ch ≤ 2^(64−p)` still rounds down to a pattern `b` with `b ≤ roundNE V ≤ b + 1`
(`Est2.round_down_bracket`; `bracket_of_estW`, and `bracket_of_estOK` for `c = 4`).
-/
namespace LexVerif.Proof.Lemire
open LexVerif.Spec LexVerif.Model LexVerif.Model.Bellerophon
open LexVerif.Proof.RoundNE LexVerif.Proof.ExtRound LexVerif.Proof.BinaryCorrect

/-- `EstOK` with slack `c`: `mant·2^K ≤ (num/den)·2^L·2^S < (mant + c)·2^K` -/
def EstW (F : FTy) (p : Nat) (fp : ExtendedFloat80) (c : Nat) (num den : Nat) : Prop :=
  2 ^ 63 ≤ fp.mant ∧ fp.mant < 2 ^ 64 ∧ -(4096 : Int) ≤ fp.exp - invalidFp ∧ fp.exp - invalidFp ≤ 4096 ∧
  fp.mant * 2 ^ ((fp.exp - invalidFp) + 64 - p - 1).toNat * den ≤
    num * 2 ^ L F.fmt * 2 ^ shiftOf p (fp.exp - invalidFp) ∧
  num * 2 ^ L F.fmt * 2 ^ shiftOf p (fp.exp - invalidFp) <
    (fp.mant + c) * 2 ^ ((fp.exp - invalidFp) + 64 - p - 1).toNat * den

theorem estW_of_estOK {F p fp num den} (h : EstOK F p fp num den) : EstW F p fp 4 num den := h

/-- an `EstW` (of the biased answer) is a two-sided estimate of the un-biased one, with `cl = 1` -/
theorem _root_.LexVerif.Proof.Bell.est2_of_estW {F : FTy} {p : Nat} {fp : ExtendedFloat80} {c num den : Nat}
    (hd : 0 < den) (h : EstW F p fp c num den) :
    Bell.Est2 F p { fp with exp := fp.exp - invalidFp } 1 c num den := by
  obtain ⟨h1, h2, _, _, lo, hi⟩ := h
  exact Bell.Est2.of_le h1 h2 hd lo hi

/-- **widening**: an estimate of `wn/wd` is a `40`-estimate of every `vn/vd ∈ [wn/wd, (wn/wd)·(w+1)/w)` when
`mant + 4 ≤ 36·w` (e.g. `w ≥ 2^59`) -/
theorem estW_widen {F : FTy} {p : Nat} {fp : ExtendedFloat80} (wn wd vn vd w : Nat) (h : EstOK F p fp wn wd)
    (hw : fp.mant + 4 ≤ 36 * w) (hw0 : 0 < w) (hwd : 0 < wd) (hlo : wn * vd ≤ vn * wd)
    (hhi : vn * wd * w < wn * vd * (w + 1)) : EstW F p fp 40 vn vd := by
  obtain ⟨h1, h2, h3, h4, h5, h6⟩ := h
  refine ⟨h1, h2, h3, h4, ?_, ?_⟩
  all_goals
    rw [Nat.mul_assoc wn] at h5 h6
    rw [Nat.mul_assoc vn]
    generalize 2 ^ ((fp.exp - invalidFp) + 64 - p - 1).toNat = KK at *
    have hLSpos : 0 < 2 ^ L F.fmt * 2 ^ shiftOf p (fp.exp - invalidFp) :=
      Nat.mul_pos (Nat.two_pow_pos _) (Nat.two_pow_pos _)
    generalize 2 ^ L F.fmt * 2 ^ shiftOf p (fp.exp - invalidFp) = LS at *
  · apply Nat.le_of_mul_le_mul_right _ hwd
    calc fp.mant * KK * vd * wd = (fp.mant * KK * wd) * vd := by ring
      _ ≤ (wn * LS) * vd := Nat.mul_le_mul_right _ h5
      _ = (wn * vd) * LS := by ring
      _ ≤ (vn * wd) * LS := Nat.mul_le_mul_right _ hlo
      _ = vn * LS * wd := by ring
  · apply Nat.lt_of_mul_lt_mul_right (a := wd * w)
    have e1 : (fp.mant + 4) * (w + 1) ≤ (fp.mant + 40) * w := by
      have : (fp.mant + 4) * (w + 1) = (fp.mant + 4) * w + (fp.mant + 4) := by ring
      have : (fp.mant + 40) * w = (fp.mant + 4) * w + 36 * w := by ring
      omega
    calc vn * LS * (wd * w) = (vn * wd * w) * LS := by ring
      _ < (wn * vd * (w + 1)) * LS := Nat.mul_lt_mul_of_pos_right hhi hLSpos
      _ = (wn * LS) * (vd * (w + 1)) := by ring
      _ ≤ ((fp.mant + 4) * KK * wd) * (vd * (w + 1)) := Nat.mul_le_mul_right _ (Nat.le_of_lt h6)
      _ = ((fp.mant + 4) * (w + 1)) * (KK * wd * vd) := by ring
      _ ≤ ((fp.mant + 40) * w) * (KK * wd * vd) := Nat.mul_le_mul_right _ e1
      _ = (fp.mant + 40) * KK * vd * (wd * w) := by ring

/-- below the subnormal range the estimate rounds down to `+0`, and the value is less than one unit -/
theorem bracket_deep_c {F p eb} (lay : Layout F p eb) (c : Nat) (hc : 2 * c ≤ 2 ^ (64 - p)) (est : ExtendedFloat80) (hm2 : est.mant < 2 ^ 64)
    (hp2 : ¬ -est.exp + 1 ≤ 64) (num den : Nat) (hd : 0 < den)
    (hhi : num * 2 ^ L F.fmt * 2 ^ shiftOf p est.exp < (est.mant + c) * 2 ^ (est.exp + 64 - p - 1).toNat * den) :
    extendedToFloat F (round F est roundDown) = 0 ∧ roundNE F.fmt num den ≤ 1 := by
  have hf := lay.wf
  have hp := lay.hp; have hp64 := lay.hp64
  constructor
  · rw [LexVerif.Proof.Slow.round_roundDown F est hm2,
      LexVerif.Proof.Slow.round_tiny lay est.mant est.exp _ hm2 (by omega), LexVerif.Proof.Slow.upOf_false]
    exact ext_zero lay
  · have hK : (est.exp + 64 - p - 1).toNat = 0 := by omega
    have hS : 65 ≤ shiftOf p est.exp := by
      unfold shiftOf; rw [if_pos (by omega)]; omega
    rw [hK, Nat.pow_zero, Nat.mul_one] at hhi
    have h65 : est.mant + c ≤ 2 ^ 65 := by
      have : (2 : Nat) ^ 65 = 2 * 2 ^ 64 := by rw [← Nat.pow_succ']
      have : (2 : Nat) ^ (64 - p) ≤ 2 ^ 64 := Nat.pow_le_pow_right (by decide) (by omega)
      omega
    have hS2 : 2 ^ 65 ≤ 2 ^ shiftOf p est.exp := Nat.pow_le_pow_right (by decide) hS
    have hlt : num * 2 ^ L F.fmt < den := by
      apply Nat.lt_of_mul_lt_mul_right (a := 2 ^ shiftOf p est.exp)
      calc num * 2 ^ L F.fmt * 2 ^ shiftOf p est.exp < (est.mant + c) * den := hhi
        _ ≤ 2 ^ shiftOf p est.exp * den := Nat.mul_le_mul_right _ (Nat.le_trans h65 hS2)
        _ = den * 2 ^ shiftOf p est.exp := Nat.mul_comm _ _
    have hinf : 0 ≤ F.fmt.infBits := Nat.zero_le _
    have := (weak_bracket_of_bounds hf num den 0 hd hinf (by rw [ival_zero]; omega) (by
      have i1 : ival F.fmt 1 = 1 := by
        have := ival_kq F.fmt 0 1 (by omega) (by have := Nat.two_pow_pos (F.fmt.p - 1); omega)
        simpa using this
      have i2 : 2 ≤ ival F.fmt 2 := by
        have := ival_strictMono F.fmt (show 1 < 2 by decide); omega
      have : den * 3 ≤ den * (ival F.fmt (0 + 1) + ival F.fmt (0 + 2)) := Nat.mul_le_mul_left _ (by
        rw [Nat.zero_add, Nat.zero_add, i1]; omega)
      omega)).2
    simpa using this

/-- **an estimate, rounded down, brackets the value** (`Props.C01.Bracket` / `Props.C01Slow.WeakBracket` for the
invalid-marked answer): every case — deep underflow (`b = 0`), subnormal and normal, overflow (`b = +∞`). -/
theorem _root_.LexVerif.Proof.Bell.Est2.round_down_bracket {F p eb} (lay : Layout F p eb) {est : ExtendedFloat80}
    {cl ch num den : Nat} (h : Bell.Est2 F p est cl ch num den) (hd : 0 < den) (hcl : 4 * cl ≤ 2 ^ (64 - p))
    (hch : 2 * ch ≤ 2 ^ (64 - p)) :
    extendedToFloat F (round F est roundDown) ≤ roundNE F.fmt num den ∧
      roundNE F.fmt num den ≤ extendedToFloat F (round F est roundDown) + 1 := by
  have ⟨hm1, hm2, _, hhi⟩ := h
  by_cases hp2 : -est.exp + 1 ≤ 64
  · obtain ⟨lo, hi⟩ := h.bracket lay hd hp2 hcl hch
    rw [LexVerif.Proof.Slow.round_down_bits lay est hm1 hm2 hp2]
    exact ⟨lo, Nat.le_trans hi (encode_succ F.fmt _ _).2⟩
  · obtain ⟨e1, e2⟩ := bracket_deep_c lay ch hch est hm2 hp2 num den hd hhi
    rw [e1]
    exact ⟨Nat.zero_le _, e2⟩

theorem bracket_of_estimate_c {F p eb} (lay : Layout F p eb) (c : Nat) (hc : 2 * c ≤ 2 ^ (64 - p)) (est : ExtendedFloat80) (hm1 : 2 ^ 63 ≤ est.mant)
    (hm2 : est.mant < 2 ^ 64) (hp2 : -est.exp + 1 ≤ 64) (num den : Nat) (hd : 0 < den)
    (hlo : est.mant * 2 ^ (est.exp + 64 - p - 1).toNat * den ≤ num * 2 ^ L F.fmt * 2 ^ shiftOf p est.exp)
    (hhi : num * 2 ^ L F.fmt * 2 ^ shiftOf p est.exp < (est.mant + c) * 2 ^ (est.exp + 64 - p - 1).toNat * den) :
    extendedToFloat F (round F est roundDown) ≤ roundNE F.fmt num den ∧
      roundNE F.fmt num den ≤ extendedToFloat F (round F est roundDown) + 1 :=
  (Bell.Est2.of_le hm1 hm2 hd hlo hhi).round_down_bracket lay hd
    (Nat.pow_le_pow_right (n := 2) (by decide) (show 2 ≤ 64 - p by have := p_le_61 lay; omega)) hc

theorem bracket_of_estW {F p eb} (lay : Layout F p eb) (c : Nat) (hc : 2 * c ≤ 2 ^ (64 - p)) (fp : ExtendedFloat80)
    (num den : Nat) (hd : 0 < den) (h : EstW F p fp c num den) :
    extendedToFloat F (round F { fp with exp := fp.exp - invalidFp } roundDown) ≤ roundNE F.fmt num den ∧
      roundNE F.fmt num den ≤ extendedToFloat F (round F { fp with exp := fp.exp - invalidFp } roundDown) + 1 :=
  (Bell.est2_of_estW hd h).round_down_bracket lay hd
    (Nat.pow_le_pow_right (n := 2) (by decide) (show 2 ≤ 64 - p by have := p_le_61 lay; omega)) hc

theorem bracket_of_estOK {F p eb} (lay : Layout F p eb) (fp : ExtendedFloat80) (num den : Nat) (hd : 0 < den)
    (h : EstOK F p fp num den) :
    extendedToFloat F (round F { fp with exp := fp.exp - invalidFp } roundDown) ≤ roundNE F.fmt num den ∧
      roundNE F.fmt num den ≤ extendedToFloat F (round F { fp with exp := fp.exp - invalidFp } roundDown) + 1 :=
  bracket_of_estW lay 4
    (Nat.pow_le_pow_right (n := 2) (by decide) (show 3 ≤ 64 - p by have := p_le_61 lay; omega)) fp num den hd h

end LexVerif.Proof.Lemire
