import LexVerif.Proof.ParseIntFormatSimple
import LexVerif.Proof.PrefixRepair
import LexVerif.Proof.SepFree
/-!
# Proof.ParseIntFormatPrefix — base prefix and `no_integer_leading_zeros` on formats with a contiguous integer iterator

`Simple c` (release, no integer separator flags, no base suffix), base prefix and leading-zero flag ARBITRARY:
`skip_zeros`, the prefix test and the leading-zero block are computed explicitly on the byte list (`skip_zeros` and
`read_if_value` are the equations of `Proof/IterSpec.lean` where `peek` does not move), and the digit phase is the digit
phase of `Model.ParseInt` started behind the skipped zeros / the prefix (`afterSign`).
-/
namespace LexVerif.Proof.PIF
open LexVerif LexVerif.Spec LexVerif.Model LexVerif.Model.ParseIntFormat
open LexVerif.Proof.PNDebug (matchesB)
open LexVerif.Proof.Sep (zerosPrefix zerosPrefix_le)

variable {c : Cfg}

theorem Simple.pk (h : Simple c) (b : Bytes) : IterSpec.pk c .integer b = b.index :=
  IterSpec.peekIdx_noskip h.skip _ _ _

theorem Simple.reach (h : Simple c) : c.skip .integer ≠ .unreachable := by
  rw [h.skip]; exact fun h => nomatch h

/-- the no-skip case of `IterSpec.skipZeros_eq`: the scan is `takeWhile` (`scan_noskip`), the count is the cursor -/
theorem skipZeros_simple (hs : Simple c) (b : Bytes) :
    skipZeros c .integer b =
      .ok (zerosPrefix b.asSlice, { b with index := b.index + zerosPrefix b.asSlice, ic := b.ic + zerosPrefix b.asSlice }) := by
  obtain ⟨h1, h2⟩ := IterSpec.scan_noskip hs.skip b.slc (· == 48) (b.slc.length + 1) (b.iterCount c .integer == 0)
    b.index (by omega)
  rw [IterSpec.skipZeros_eq hs.reach b (IterSpec.StepOK.release hs.hd _ _), h1, h2, Sep.zerosPrefix_takeWhile]
  simp [IterSpec.mv, hs.hf, hs.count, Bytes.asSlice]

theorem readIfValue_simple (hs : Simple c) (v : Nat) (cased : Bool) (b : Bytes) :
    readIfValue c .integer v cased b =
      .ok (match b.slc[b.index]? with
           | some x => if matchesB x v cased then (true, { b with index := b.index + 1 }) else (false, b)
           | none => (false, b)) := by
  rw [PrefixRepair.readIfValue_eq hs.reach v cased b fun _ _ => IterSpec.StepOK.release hs.hd _ _, hs.pk]
  cases b.slc[b.index]? <;> simp [IterSpec.cur]

theorem readPrefix_simple (e : Env) (hs : Simple e.c) (s : List Nat) (k x z start : Nat) :
    readPrefix e ⟨s, k, x, 0, 0⟩ z start =
      if (e.c.fmt.basePrefix != 0 && z == 1 &&
          (s[k]?).any (matchesB · e.c.fmt.basePrefix e.c.caseSensitiveBasePrefix)) = true then
        (if k + 1 ≥ s.length then .error (err "Empty" (k + 1)) else .ok (true, ⟨s, k + 1, x, 0, 0⟩, start + 1))
      else .ok (false, ⟨s, k, x, 0, 0⟩, start) := by
  have hbp : e.c.basePrefix = e.c.fmt.basePrefix := by simp [Cfg.basePrefix, hs.hf]
  unfold readPrefix
  rw [readIfValue_simple hs, hbp]
  by_cases hp : e.c.fmt.basePrefix = 0
  · simp [hp]
  · by_cases hz : z = 1
    · subst hz
      cases hg : s[k]? with
      | none => simp [hp]
      | some y =>
        cases hm : matchesB y e.c.fmt.basePrefix e.c.caseSensitiveBasePrefix with
        | true =>
          by_cases hemp : k + 1 ≥ s.length
          · simp [hp, hm, Bytes.isBufferEmpty, Bytes.cursor, hemp]
          · simp [hp, hm, Bytes.isBufferEmpty, Bytes.cursor, hemp]
        | false => simp [hp, hm]
    · simp [hp, hz]

/-- outcome of the leading-zero block when it applies (`cursor = k`, `zeros = z ≤ k`, `z ≠ 0`) -/
def lzOutcome (e : Env) (s : List Nat) (k z : Nat) : Res :=
  if z > 1 then err "InvalidLeadingZeros" (k - z)
  else
    match s[k]? with
    | some ch =>
      match ParseInt.charToDigit ch e.radix with
      | some _ => err "InvalidLeadingZeros" (k - z)
      | none => if e.partial_ then .ok (0, k) else err "InvalidDigit" k
    | none => .ok (0, k)

theorem leadingZeroCheck_simple (e : Env) (hs : Simple e.c) (isPrefix : Bool) (s : List Nat) (k x z start : Nat)
    (hz : z ≤ k) :
    leadingZeroCheck e isPrefix ⟨s, k, x, 0, 0⟩ z start =
      if (!isPrefix && e.c.fmt.noIntegerLeadingZeros && z != 0) = true then .error (lzOutcome e s k z)
      else .ok (⟨s, k, x, 0, 0⟩, start) := by
  have hlz : e.c.flag Format.noIntegerLeadingZeros false = e.c.fmt.noIntegerLeadingZeros := by simp [Cfg.flag, hs.hf]
  unfold leadingZeroCheck
  rw [hlz]
  by_cases hcond : (!isPrefix && e.c.fmt.noIntegerLeadingZeros && z != 0) = true
  · have hz0 : z ≠ 0 := by simp only [Bool.and_eq_true, bne_iff_ne, ne_eq] at hcond; exact hcond.2
    have hs1 : usizeSub e.c.debug k z = .ok (k - z) := by simp only [usizeSub]; exact if_pos hz
    simp only [hcond, if_true, Bytes.cursor, hs1, hs.peek, lzOutcome]
    by_cases hz1 : z > 1
    · simp [hz1]
    · simp only [hz1, if_false]
      cases hg : s[k]? with
      | none => simp [intoOk, hs.count, toInt_zero]; omega
      | some ch =>
        simp only
        cases hd : ParseInt.charToDigit ch e.radix with
        | some d => simp
        | none =>
          have hs2 : usizeSub e.c.debug (k + 1) 1 = .ok k := by simp [usizeSub]
          simp only [invalidDigit, hs2, hs.count]
          cases e.partial_
          · simp
          · simp [intoOk, toInt_zero]; omega
  · simp [hcond]

def digitsAt (e : Env) (neg : Bool) (s : List Nat) (k : Nat) : Res :=
  ofM (LexVerif.Proof.ParseInt.body e.c.feats e.t e.radix e.partial_ e.noMulti neg (s.drop k) k s.length)

def isPre (cased : Bool) (pre : Nat) (body : List Nat) : Bool :=
  pre != 0 && zerosPrefix body == 1 && (body[1]?).any (matchesB · pre cased)

/-- what `algorithm!` computes behind the sign (`i0` = bytes of sign consumed, `s.drop i0` non-empty) -/
def afterSign (e : Env) (neg : Bool) (s : List Nat) (i0 : Nat) : Res :=
  let z := zerosPrefix (s.drop i0)
  if e.c.fmt.basePrefix = 0 ∧ e.c.fmt.noIntegerLeadingZeros = false then digitsAt e neg s i0
  else if isPre e.c.caseSensitiveBasePrefix e.c.fmt.basePrefix (s.drop i0) = true then
    (if i0 + 2 ≥ s.length then err "Empty" (i0 + 2) else digitsAt e neg s (i0 + 2))
  else if (e.c.fmt.noIntegerLeadingZeros && z != 0) = true then lzOutcome e s (i0 + z) z
  else digitsAt e neg s (i0 + z)

/-- `prefixZeros` evaluated with the closed forms of `skip_zeros`, the prefix test and the leading-zero block; `z` zeros
are skipped, the prefix is looked for only when `z = 1` -/
theorem afterSign_eq (e : Env) (hs : Simple e.c) (neg : Bool) (s : List Nat) (i0 : Nat) (hi : i0 < s.length) :
    (match (match prefixZeros e ⟨s, i0, 0, 0, 0⟩ i0 with
            | .error r => .error r
            | .ok (b, startIndex) => digitsPhase e neg b startIndex : Flow Res) with
     | .ok r => r | .error r => r) = afterSign e neg s i0 := by
  have hbp : e.c.basePrefix = e.c.fmt.basePrefix := by simp [Cfg.basePrefix, hs.hf]
  have hlz : e.c.flag Format.noIntegerLeadingZeros false = e.c.fmt.noIntegerLeadingZeros := by simp [Cfg.flag, hs.hf]
  have hzle : zerosPrefix (s.drop i0) ≤ s.length - i0 := by have := zerosPrefix_le (s.drop i0); simpa using this
  unfold afterSign
  by_cases h0 : e.c.fmt.basePrefix = 0 ∧ e.c.fmt.noIntegerLeadingZeros = false
  · simp only [h0, and_self, if_true]
    rw [prefixZeros_none e hs h0.1 h0.2]
    exact digitsPhase_simple e hs neg ⟨s, i0, 0, 0, 0⟩ i0 (by show i0 ≤ s.length; omega) (by show 0 < s.length; omega)
  · simp only [h0, if_false]
    have hcond : (decide (e.c.basePrefix ≠ 0) || e.c.flag Format.noIntegerLeadingZeros false) = true := by
      rw [hbp, hlz]
      by_cases hp : e.c.fmt.basePrefix = 0
      · have : e.c.fmt.noIntegerLeadingZeros = true := by
          cases hl : e.c.fmt.noIntegerLeadingZeros with
          | true => rfl
          | false => exact absurd ⟨hp, hl⟩ h0
        simp [this]
      · simp [hp]
    unfold prefixZeros
    simp only [hcond, if_true, skipZeros_simple hs, Bytes.asSlice]
    generalize hz : zerosPrefix (s.drop i0) = z at hzle ⊢
    rw [readPrefix_simple e hs]
    have hpa : isPre e.c.caseSensitiveBasePrefix e.c.fmt.basePrefix (s.drop i0) =
        (e.c.fmt.basePrefix != 0 && z == 1 && (s[i0 + z]?).any (matchesB · e.c.fmt.basePrefix e.c.caseSensitiveBasePrefix)) := by
      unfold isPre; rw [hz, List.getElem?_drop]
      by_cases hz1 : z = 1
      · subst hz1; rfl
      · have hb : (z == 1) = false := beq_eq_false_iff_ne.mpr hz1
        simp only [hb, Bool.and_false, Bool.false_and]
    rw [hpa]
    by_cases hp1 : (e.c.fmt.basePrefix != 0 && z == 1 &&
        (s[i0 + z]?).any (matchesB · e.c.fmt.basePrefix e.c.caseSensitiveBasePrefix)) = true
    · have hz1 : z = 1 := by
        simp only [Bool.and_eq_true, beq_iff_eq] at hp1; exact hp1.1.2
      subst hz1
      simp only [hp1, if_true]
      by_cases hemp : i0 + 1 + 1 ≥ s.length
      · have : i0 + 2 ≥ s.length := by omega
        simp [hemp, this]
      · have : ¬ (i0 + 2 ≥ s.length) := by omega
        simp only [hemp, if_false, this]
        rw [leadingZeroCheck_simple e hs true s _ _ _ _ (by omega)]
        simp only [Bool.not_true, Bool.false_and, Bool.false_eq_true, if_false]
        exact digitsPhase_simple e hs neg ⟨s, i0 + 1 + 1, _, 0, 0⟩ _ (by show i0 + 1 + 1 ≤ s.length; omega)
          (by show 0 < s.length; omega)
    · simp only [hp1, Bool.false_eq_true, if_false]
      rw [leadingZeroCheck_simple e hs false s _ _ _ _ (by omega)]
      simp only [Bool.not_false, Bool.true_and]
      by_cases hl : (e.c.fmt.noIntegerLeadingZeros && z != 0) = true
      · simp [hl]
      · simp only [hl, Bool.false_eq_true, if_false]
        exact digitsPhase_simple e hs neg ⟨s, i0 + z, _, 0, 0⟩ _ (by show i0 + z ≤ s.length; omega)
          (by show 0 < s.length; omega)

/-- **characterisation for a contiguous integer iterator without base suffix** (release build; base prefix,
`no_integer_leading_zeros`, sign and digit flags arbitrary): the two sign flags, the empty test, then `afterSign`. -/
theorem parseIntFormat_prefix_eq (e : Env) (hs : Simple e.c) (s : List Nat) :
    parseIntFormat e s =
      signGate e s
        (if signLen e.t s = s.length then (if e.requiredDigits = true then err "Empty" s.length else .ok (0, s.length))
         else afterSign e (decide (s.head? = some 45 ∧ e.t.signed = true)) s (signLen e.t s)) := by
  have hsl := signLen_le e.t s
  simp only [parseIntFormat, algorithm, parseSign_simple e hs, signGate]
  by_cases h1 : s.head? = some 43 ∧ e.c.fmt.noPositiveMantissaSign = true
  · simp [h1, err]
  · simp only [h1, if_false]
    by_cases h2 : e.c.fmt.requiredMantissaSign = true ∧ hasSign e.t s = false
    · simp [h2, err]
    · simp only [h2, if_false, Bytes.isBufferEmpty, Bytes.cursor, ge_iff_le]
      by_cases hemp : s.length ≤ signLen e.t s
      · have heq : signLen e.t s = s.length := by omega
        simp only [hemp, decide_true, if_true, heq]
        cases hr : e.requiredDigits with
        | true => simp
        | false => simp [intoOk, hr, toInt_zero]
      · have hne : signLen e.t s ≠ s.length := by omega
        simp only [hemp, decide_false, Bool.false_eq_true, if_false, hne]
        exact afterSign_eq e hs _ s (signLen e.t s) (by omega)

theorem plainSign_eq (t : IntTy) (s : List Nat) :
    ParseInt.parseSign t.signed s 0 =
      .ok (decide (s.head? = some 45 ∧ t.signed = true), s.drop (signLen t s), signLen t s) :=
  signLen_eq t s ▸ LexVerif.Proof.ParseInt.parseSign_eq t s

/-- **characterisation on simple formats** (release build; no separator, prefix, suffix, leading-zero flag): the
format-feature model is the format-free model behind the two sign flags, except that an input without any digit
byte is accepted as zero when the format requires no digits. -/
theorem parseIntFormat_simple_eq (e : Env) (hs : Simple e.c) (hp : e.c.fmt.basePrefix = 0)
    (hz : e.c.fmt.noIntegerLeadingZeros = false) (s : List Nat) :
    parseIntFormat e s =
      signGate e s
        (if e.requiredDigits = false ∧ signLen e.t s = s.length then .ok (0, s.length)
         else ofM (ParseInt.parseInt e.c.feats e.t e.radix e.partial_ e.noMulti s)) := by
  rw [parseIntFormat_prefix_eq e hs, LexVerif.Proof.ParseInt.parseInt_unfold, plainSign_eq]
  congr 1
  by_cases hl : signLen e.t s = s.length
  · cases hr : e.requiredDigits <;> simp [hl, ofM, err]
  · have hlt : ¬ signLen e.t s ≥ s.length := by
      have := signLen_le e.t s
      omega
    simp only [hl, and_false, if_false, afterSign, hp, hz, and_self, if_true, digitsAt, hlt]

end LexVerif.Proof.PIF
