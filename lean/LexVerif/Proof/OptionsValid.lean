import LexVerif.Model.OptionsValid
import LexVerif.Spec.OptionsValid
import LexVerif.Proof.CheckChain
/-!
# Proof.OptionsValid — `OptionsBuilder::build` as a table of documented checks

The lemmas under `Props/C18Options`, in its namespace. `parseChecks o` / `writeChecks o` list, in the order of the
source, what `build` of `lexical-parse-float` / `lexical-write-float` tests, each entry an `Error` kind and the
documented condition (`Spec.OptionsValid`) it stands for; `build_chain` / `write_build_chain` say that `build`
returns the first entry that fails. The float parser's and writer's own transcriptions of `build`
(`Proof/Validity`) read the same tables.
-/
namespace LexVerif.Props.C18
open LexVerif.Spec LexVerif.Model LexVerif.Model.OptionsValid LexVerif.Proof.CheckChain

theorem isValidAscii_eq (c : Nat) : FormatError.isValidAscii c = decide (ValidAscii c) := by
  rw [Bool.eq_iff_iff, decide_eq_true_eq]; simp [FormatError.isValidAscii, ValidAscii]

theorem isValidLetter_eq (c : Nat) : isValidLetter c = decide (Letter c) := by
  rw [Bool.eq_iff_iff, decide_eq_true_eq]; simp [isValidLetter, Letter]

theorem isValidLetterSlice_eq (s : List Nat) : isValidLetterSlice s = decide (∀ c ∈ s, Letter c) := by
  induction s with
  | nil => simp [isValidLetterSlice]
  | cons c cs ih => cases h : isValidLetter c <;> simp_all [isValidLetterSlice, isValidLetter_eq]

theorem firstIs_eq (s : List Nat) (a b : Nat) : firstIs s a b = decide (s.head? = some a ∨ s.head? = some b) := by
  rw [Bool.eq_iff_iff]; cases s <;> simp [firstIs]

/-- the first test of a string block, `str.is_empty() || !matches!(str[0], a | b)` -/
theorem head_test (x : List Nat) (a b : Nat) :
    (x.isEmpty || !firstIs x a b) = !decide (x ≠ [] ∧ (x.head? = some a ∨ x.head? = some b)) := by
  rw [firstIs_eq]; cases x <;> simp

section
variable {a b c : Nat} {s t : List Nat} {o : POpts}

theorem _root_.LexVerif.Spec.ValidAscii.lt (h : ValidAscii c) : c < 128 := by unfold ValidAscii at h; omega
theorem _root_.LexVerif.Spec.Letter.lt (h : Letter c) : c < 128 := by unfold Letter at h; omega

theorem _root_.LexVerif.Spec.SpecialString.ne_nil (h : SpecialString a b s) : s ≠ [] := h.1
theorem _root_.LexVerif.Spec.SpecialString.head (h : SpecialString a b s) : s.head? = some a ∨ s.head? = some b := h.2.2.1
theorem _root_.LexVerif.Spec.SpecialString.letters (h : SpecialString a b s) : ∀ c ∈ s, Letter c := h.2.2.2

theorem _root_.LexVerif.Spec.ParseOptionsValid.nan (h : ParseOptionsValid o) (ht : o.nan = some t) :
    SpecialString 78 110 t := h.2.2.1 t ht
theorem _root_.LexVerif.Spec.ParseOptionsValid.inf (h : ParseOptionsValid o) (ht : o.inf = some t) :
    SpecialString 73 105 t := h.2.2.2.1 t ht
theorem _root_.LexVerif.Spec.ParseOptionsValid.infinity (h : ParseOptionsValid o) (ht : o.infinity = some t) :
    SpecialString 73 105 t := h.2.2.2.2.1 t ht

theorem _root_.LexVerif.Spec.ParseOptionsValid.inf_le (h : ParseOptionsValid o) (hs : o.inf = some s)
    (ht : o.infinity = some t) : s.length ≤ t.length := by
  obtain ⟨t', ht', hle⟩ := h.2.2.2.2.2 s hs
  rw [ht] at ht'; cases ht'; exact hle

theorem _root_.LexVerif.Spec.ParseOptionsValid.special (h : ParseOptionsValid o)
    (ht : o.nan = some t ∨ o.inf = some t ∨ o.infinity = some t) : SpecialString 78 110 t ∨ SpecialString 73 105 t := by
  rcases ht with e | e | e
  · exact .inl (h.nan e)
  · exact .inr (h.inf e)
  · exact .inr (h.infinity e)

theorem _root_.LexVerif.Spec.ParseOptionsValid.letters (h : ParseOptionsValid o)
    (ht : o.nan = some t ∨ o.inf = some t ∨ o.infinity = some t) : ∀ c ∈ t, Letter c := by
  rcases h.special ht with hs | hs <;> exact hs.letters

end

/-- one `if self.X_string.is_some() { … }` block of `build`: nothing for `None`, else first letter, letters, length -/
def strChecks (s : Option (List Nat)) (a b : Nat) (invalid tooLong : String) : List (String × Bool) :=
  match s with
  | none => []
  | some x => [(invalid, decide (x ≠ [] ∧ (x.head? = some a ∨ x.head? = some b))), (invalid, decide (∀ c ∈ x, Letter c)),
      (tooLong, decide (x.length ≤ 50))]

theorem strChecks_pass_iff (s : Option (List Nat)) (a b : Nat) (i t : String) :
    (∀ c ∈ strChecks s a b i t, c.2 = true) ↔ OptSpecial a b s := by
  unfold OptSpecial SpecialString
  cases s with
  | none => simp [strChecks]
  | some x =>
    simp only [strChecks, List.mem_cons, List.not_mem_nil, or_false, forall_eq_or_imp, forall_eq, decide_eq_true_eq,
      Option.some.injEq, forall_eq']
    exact ⟨fun ⟨⟨h1, h2⟩, h3, h4⟩ => ⟨h1, h4, h2, h3⟩, fun ⟨h1, h4, h2, h3⟩ => ⟨⟨h1, h2⟩, h3, h4⟩⟩

theorem strTests_chain (x : List Nat) (a b : Nat) (i t : String) {rest : Option String} {ds : List (String × Bool)}
    (h : rest = firstFailed some none ds) :
    (if x.isEmpty || !firstIs x a b then some i
      else if !isValidLetterSlice x then some i
      else if x.length > maxSpecialStringLength then some t
      else rest) = firstFailed some none (strChecks (some x) a b i t ++ ds) := by
  simp only [strChecks, List.cons_append, List.nil_append]
  refine chain_step_bad (head_test x a b) fun _ => ?_
  refine chain_step (isValidLetterSlice_eq x) fun _ => ?_
  exact chain_step_not (by unfold maxSpecialStringLength; omega) fun _ => h

theorem stringBlock_chain (s : Option (List Nat)) (a b : Nat) (i t : String) :
    ParseFloat.stringBlock s a b i t = firstFailed some none (strChecks s a b i t) := by
  cases s with
  | none => rfl
  | some x =>
    rw [← List.append_nil (strChecks _ _ _ _ _)]
    exact strTests_chain x a b i t rfl

/-- `build` of `lexical-parse-float`, in source order; the infinity string is tested against the short one last -/
def parseChecks (o : POpts) : List (String × Bool) :=
  ("InvalidExponentSymbol", decide (ValidAscii o.exp)) :: ("InvalidDecimalPoint", decide (ValidAscii o.dp)) ::
  (strChecks o.nan 78 110 "InvalidNanString" "NanStringTooLong" ++
  (("InfinityStringTooShort", decide (o.inf ≠ none → o.infinity ≠ none)) ::
  (strChecks o.inf 73 105 "InvalidInfString" "InfStringTooLong" ++
  (strChecks o.infinity 73 105 "InvalidInfinityString" "InfinityStringTooLong" ++
  [("InfinityStringTooShort", decide (o.infinity = none ∨ (o.inf.getD []).length ≤ (o.infinity.getD []).length))]))))

theorem parseChecks_pass_iff (o : POpts) : (∀ c ∈ parseChecks o, c.2 = true) ↔ ParseOptionsValid o := by
  unfold parseChecks ParseOptionsValid
  simp only [List.mem_append, List.mem_cons, List.not_mem_nil, or_false, or_imp, forall_and, forall_eq,
    strChecks_pass_iff, decide_eq_true_eq]
  cases o.inf <;> cases o.infinity <;> simp [and_assoc]

theorem infinityBlock_chain (o : POpts) :
    ParseFloat.infinityBlock o =
      firstFailed some none (strChecks o.infinity 73 105 "InvalidInfinityString" "InfinityStringTooLong" ++
        [("InfinityStringTooShort", decide (o.infinity = none ∨ (o.inf.getD []).length ≤ (o.infinity.getD []).length))]) := by
  cases hy : o.infinity with
  | none => simp [ParseFloat.infinityBlock, hy, strChecks, firstFailed]
  | some y =>
    simp only [ParseFloat.infinityBlock, hy, Option.isSome_some, if_true, show unwrapStr (some y) = y from rfl]
    refine strTests_chain y 73 105 _ _ ?_
    refine chain_step_not ?_ fun _ => rfl
    cases o.inf <;> simp [unwrapStr]

theorem build_chain (o : POpts) : ParseFloat.build o = firstFailed .error (.ok ()) (parseChecks o) := by
  unfold ParseFloat.build parseChecks
  refine chain_step (isValidAscii_eq _) fun _ => ?_
  refine chain_step (isValidAscii_eq _) fun _ => ?_
  refine chain_block (stringBlock_chain ..) ?_
  refine chain_step_bad (by cases o.inf <;> cases o.infinity <;> simp) fun _ => ?_
  refine chain_block (stringBlock_chain ..) ?_
  rw [← List.append_nil (_ ++ _)]
  exact chain_block (infinityBlock_chain o) rfl

/-- `build` of `lexical-write-float`, in source order. The three numeric entries are what the code tests on the
unwrapped values; with the `NonZero` invariant of the field types they are the documented conditions -/
def writeChecks (o : WOpts) : List (String × Bool) :=
  strChecks o.nan 78 110 "InvalidNanString" "NanStringTooLong" ++
  (strChecks o.inf 73 105 "InvalidInfString" "InfStringTooLong" ++
  [("InvalidFloatPrecision", decide (o.maxDigits = none ∨ o.minDigits.getD 0 ≤ o.maxDigits.getD 0)),
   ("InvalidNegativeExponentBreak", decide (o.negBreak.getD 0 ≤ 0)),
   ("InvalidPositiveExponentBreak", decide (0 ≤ o.posBreak.getD 0)),
   ("InvalidExponentSymbol", decide (ValidAscii o.exp)), ("InvalidDecimalPoint", decide (ValidAscii o.dp))])

theorem writeChecks_strings (o : WOpts) (h : ∀ c ∈ writeChecks o, c.2 = true) : WriteOptionsStringsValid o := by
  unfold writeChecks at h
  simp only [List.mem_append, List.mem_cons, List.not_mem_nil, or_false, or_imp, forall_and, forall_eq,
    strChecks_pass_iff, decide_eq_true_eq] at h
  exact ⟨h.2.2.2.2.2.1, h.2.2.2.2.2.2, h.1, h.2.1⟩

theorem writeChecks_pass_iff (o : WOpts) (hz : WriteFloat.NonZero o) :
    (∀ c ∈ writeChecks o, c.2 = true) ↔ WriteOptionsValid o := by
  obtain ⟨-, -, z3, z4⟩ := hz
  have digits : (o.maxDigits = none ∨ o.minDigits.getD 0 ≤ o.maxDigits.getD 0) ↔
      ∀ mx mn, o.maxDigits = some mx → o.minDigits = some mn → mn ≤ mx := by
    cases o.maxDigits <;> cases o.minDigits <;> simp
  have neg : o.negBreak.getD 0 ≤ 0 ↔ ∀ n, o.negBreak = some n → n < 0 := by
    cases h : o.negBreak <;> simp
    rw [h] at z4; simp only [ne_eq, Option.some.injEq] at z4; omega
  have pos : 0 ≤ o.posBreak.getD 0 ↔ ∀ p, o.posBreak = some p → 0 < p := by
    cases h : o.posBreak <;> simp
    rw [h] at z3; simp only [ne_eq, Option.some.injEq] at z3; omega
  unfold writeChecks WriteOptionsValid
  simp only [List.mem_append, List.mem_cons, List.not_mem_nil, or_false, or_imp, forall_and, forall_eq,
    strChecks_pass_iff, decide_eq_true_eq, digits, neg, pos]
  exact ⟨fun ⟨a, b, c, d, e, f, g⟩ => ⟨f, g, a, b, c, e, d⟩, fun ⟨f, g, a, b, c, e, d⟩ => ⟨a, b, c, d, e, f, g⟩⟩

/-- `usize::MAX` stands for an absent maximum: the precision test is the documented one for `min < 2^64` -/
theorem write_build_chain (o : WOpts) (hm : ∀ m, o.minDigits = some m → m < 2 ^ 64) :
    WriteFloat.build o = firstFailed .error (.ok ()) (writeChecks o) := by
  unfold WriteFloat.build writeChecks
  refine chain_block (stringBlock_chain ..) ?_
  refine chain_block (stringBlock_chain ..) ?_
  simp only
  refine chain_step_not ?_ fun _ => ?_
  · cases o.maxDigits <;> cases h : o.minDigits <;> simp [WriteFloat.unwrapOrMaxUsize, WriteFloat.unwrapOrZeroUsize]
    have := hm _ h; omega
  refine chain_step_not (by cases o.negBreak <;> simp [WriteFloat.unwrapOrZeroI32]) fun _ => ?_
  refine chain_step_not (by cases o.posBreak <;> simp [WriteFloat.unwrapOrZeroI32]) fun _ => ?_
  refine chain_step (isValidAscii_eq _) fun _ => ?_
  exact chain_step (isValidAscii_eq _) fun _ => rfl

end LexVerif.Props.C18
