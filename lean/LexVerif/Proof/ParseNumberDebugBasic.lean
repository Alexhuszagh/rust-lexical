import LexVerif.Proof.IterBasic
import LexVerif.Proof.ExceptPost
import LexVerif.Proof.CharDigitParser
/-!
# Proof.ParseNumberDebugBasic — vocabulary for "no panic, no fault" proofs about the float syntax model
-/
namespace LexVerif.Proof.PNDebug
open LexVerif LexVerif.Model

def Safe {α : Type} (r : Except Err α) (P : α → Prop) : Prop :=
  match r with
  | .ok a => P a
  | .error (.err _ _) => True
  | .error _ => False

theorem Safe.iff_wp {α : Type} {r : Except Err α} {P : α → Prop} : Safe r P ↔ Wp P IsKind r := by
  cases r with
  | ok a => exact Iff.rfl
  | error e => cases e <;> exact Iff.rfl

theorem Safe.ok {α : Type} {P : α → Prop} {a : α} (h : P a) : Safe (.ok a) P := h

theorem Safe.of_eq_ok {α : Type} {x : Except Err α} {P : α → Prop} {a : α} (hx : Safe x P) (h : x = .ok a) : P a :=
  (Safe.iff_wp.1 hx).of_eq_ok h

theorem get_lt {s : List Nat} {i x : Nat} (h : s[i]? = some x) : i < s.length := by
  rcases List.getElem?_eq_some_iff.mp h with ⟨hl, _⟩; exact hl

/-- a debug build asserts that the cursor is inside the buffer and that a skipping iterator is not on the separator -/
theorem stepUnchecked_ok {c : Cfg} (contig : Bool) (b : Bytes) (hlt : b.index < b.slc.length)
    (hns : contig = true ∨ b.slc[b.index]? ≠ some c.fmt.digitSeparator) :
    b.stepUnchecked c contig = .ok { b with index := b.index + 1 } := by
  unfold Bytes.stepUnchecked Bytes.stepBy
  have h1 : decide (b.index ≥ b.slc.length) = false := by simp; omega
  have h2 : decide (b.index > b.slc.length) = false := by simp; omega
  have h3 : decide (b.slc.length - b.index < 1) = false := by simp; omega
  simp only [h1, h2, h3, Bool.and_false, Bool.false_eq_true, if_false]
  rcases hns with h | h
  · simp [h]
  · simp [h]

theorem stepUnchecked_eq {c : Cfg} (contig : Bool) (b : Bytes) (hlt : b.index < b.slc.length)
    (hns : c.debug = true → contig = true ∨ b.slc[b.index]? ≠ some c.fmt.digitSeparator) :
    b.stepUnchecked c contig = .ok { b with index := b.index + 1 } := by
  cases hd : c.debug with
  | false => exact Props.C12.stepUnchecked_release c contig b hd
  | true => exact stepUnchecked_ok contig b hlt (hns hd)

/-- `ch` is a digit of radix `r` (`char_to_digit_const` returns `Some`). The loops' Boolean test is `IterSpec.isDig`
(`isDig_of_IsDig`, `charToDigit_some`); `Cfg.isDigit`, the test of the separator predicates, agrees for the mantissa radix on
bytes (`isDig_iff`, `isDigit_of_stop` in `Proof/ParseNumberDebugCtx.lean`). -/
def IsDig (r ch : Nat) : Prop := charToValidDigit ch r < r

theorem charToDigit_some {ch r d : Nat} (h : charToDigit ch r = some d) : IsDig r ch := by
  unfold charToDigit at h
  unfold IsDig
  by_cases hc : charToValidDigit ch r < r
  · exact hc
  · simp [hc] at h

theorem isDig_of_IsDig {r x : Nat} (h : IsDig r x) : IterSpec.isDig r x = true := by
  simp only [IterSpec.isDig, charToDigit]; rw [if_pos (show charToValidDigit x r < r from h)]; rfl

theorem charToDigit_none_of_not_isDig {r x : Nat} (h : ¬ IsDig r x) : charToDigit x r = none := by
  unfold charToDigit
  unfold IsDig at h
  simp [h]

theorem new_valid (s : List Nat) : LexVerif.Props.C12.Bytes.Valid (Bytes.new s) := Nat.zero_le _

def DigRange (r : Nat) (s : List Nat) (i j : Nat) : Prop :=
  ∀ n, i ≤ n → n < j → ∃ x, s[n]? = some x ∧ IsDig r x

/-! ## the table fact behind `parse_u64_digits`' overflow check -/

theorem pow_step_radix : ∀ r : Fin 37, 2 ≤ r.val → r.val ^ (u64StepTable.getD (r.val - 2) 1) ≤ pow2_64 := by
  decide +kernel

theorem pow_u64Step (feats : Features) (r : Nat) (hv : isValidRadix feats r = true) :
    r ^ u64Step feats r ≤ pow2_64 := by
  unfold isValidRadix at hv
  unfold u64Step
  by_cases hrad : feats.radix = true
  · simp only [hrad, if_true] at hv ⊢
    simp only [Bool.and_eq_true, decide_eq_true_eq] at hv
    rw [if_pos hv]
    exact pow_step_radix ⟨r, by omega⟩ hv.1
  · simp only [hrad] at hv ⊢
    by_cases hp : feats.powerOfTwo = true
    · simp only [hp, if_true, Bool.false_eq_true, if_false] at hv ⊢
      simp only [Bool.or_eq_true, decide_eq_true_eq] at hv
      rcases hv with ((((h | h) | h) | h) | h) | h <;> subst h <;> decide
    · simp only [hp, Bool.false_eq_true, if_false, decide_eq_true_eq] at hv ⊢
      subst hv; decide

end LexVerif.Proof.PNDebug
