import LexVerif.Proof.ParseNumberDebugRescan
import LexVerif.Proof.ParseNumberTotalMain
import LexVerif.Proof.ParseNumberDebugPhases
/-!
# Proof.ParseNumberDebugMain — `parse_number` and the entry points under `Ctx`

A debug build owes `parse_number` (`PNTotal.parseNumber_env`) that the slices stored by the integer and the fraction
phase can be re-parsed by `parse_u64_digits` (`U64Ok`), given what the two phases did (`IntRun`, `FracRun`); `parseNumber_safe_of` and
`parseFloatSyntax_safe_of` carry any pair of phase lemmas that establish it up to the entry points. The classes of separator configurations (`Good` iterators
here, the rest in `Proof/ParseNumberDebugRescanMain.lean`) differ in those two phase lemmas only.
-/
namespace LexVerif.Proof.PNDebug
open LexVerif LexVerif.Model LexVerif.Spec
open LexVerif.Props.C12 (Bytes.Valid)
open LexVerif.Proof.PNTotal (NumOK IntRun FracRun parseNumber_env parseFloatSyntax_env)

variable {c : Cfg}

theorem u64ok_of_allDS {k : Comp} {s : List Nat} (hg : Good c k) (h : ∀ x ∈ s, DSk c k x) : U64Ok c k (Bytes.new s) :=
  Or.inl ⟨hg, allDS_range h 0⟩

def ManyOk (c : Cfg) (ip : IntPart) (fp : FracPart) : Prop :=
  U64Ok c .integer (Bytes.new ip.integerDigits) ∧ ∀ fd, fp.fraction = some fd → U64Ok c .fraction (Bytes.new fd)

theorem parseNumber_safe_of (cx : Ctx c) (isPartial : Bool) (o : POpts) (ox : OCtx c o) (b : Bytes) (neg : Bool)
    (hb : b.index < b.slc.length)
    (h : ∀ ip fp, IntRun c b ip → FracRun c o ip.byte ip.mantissa fp → ManyOk c ip fp) :
    NumOK c b (parseNumber c isPartial o b neg) :=
  parseNumber_env cx.env isPartial o b neg true (Nat.le_of_lt hb) fun _ => ⟨rfl, hb, ox, fun ip fp hip hfp =>
    ⟨Nat.le_refl _, (h ip fp hip hfp).1.runsOut cx (new_valid _),
      fun fd hfd => ((h ip fp hip hfp).2 fd hfd).runsOut cx (new_valid _)⟩⟩

theorem parseFloatSyntax_safe_of (cx : Ctx c) (o : POpts) (isPartial : Bool) (input : List Nat)
    (hnum : ∀ (part neg : Bool) (b1 b2 : Bytes) (consumed : Bool),
      parseSign c c.noPositiveMantissaSign c.requiredMantissaSign "InvalidPositiveSign" "MissingSign" (Bytes.new input)
        = .ok (neg, b1) → Bytes.Valid b1 → isConsumed c .integer b1 = .ok (consumed, b2) →
      b2.index < b2.slc.length → NumOK c b2 (parseNumber c part o b2 neg)) :
    Safe (parseFloatSyntax c o isPartial input) (fun _ => True) :=
  (parseFloatSyntax_env cx.env o isPartial input true hnum).safe

theorem parseNumber_safe (cx : Ctx c) (hi : Good c .integer) (hf : Good c .fraction) (isPartial : Bool)
    (o : POpts) (ox : OCtx c o) (b : Bytes) (neg : Bool) (hb : b.index < b.slc.length) :
    NumOK c b (parseNumber c isPartial o b neg) :=
  parseNumber_safe_of cx isPartial o ox b neg hb fun _ _ hip hfp =>
    ⟨u64ok_of_allDS hi (IntOk.of_run cx hi hip).allDS,
      fun fd hfd => u64ok_of_allDS hf ((FracOk.of_run cx hf hfp (hip.advStart.trans hip.pass.adv).valid').digits fd hfd)⟩

theorem parseFloatSyntax_safe (cx : Ctx c) (hi : Good c .integer) (hf : Good c .fraction) (o : POpts)
    (ox : OCtx c o) (isPartial : Bool) (input : List Nat) :
    Safe (parseFloatSyntax c o isPartial input) (fun _ => True) :=
  parseFloatSyntax_safe_of cx o isPartial input
    (fun part neg _ b2 _ _ _ _ hlt => parseNumber_safe cx hi hf part o ox b2 neg hlt)

end LexVerif.Proof.PNDebug
