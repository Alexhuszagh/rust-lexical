import LexVerif.Proof.WriteIntBasic
/-!
# Proof.WriteIntSplice — buffer writes as list splices; `Toward`, the invariant of the writers that put digits below a
cursor
-/
namespace LexVerif.Model.WriteInt
open LexVerif.Spec

def splice (buf : Buf) (i : Nat) (cs : List Nat) : Buf := buf.take i ++ cs ++ buf.drop (i + cs.length)

theorem splice_eq (p x s cs : List Nat) (i : Nat) (hi : i = p.length) (h : x.length = cs.length) :
    splice (p ++ (x ++ s)) i cs = p ++ (cs ++ s) := by
  subst hi
  unfold splice
  rw [List.take_left, ← h, ← List.length_append, ← List.append_assoc, List.drop_left, List.append_assoc]

theorem cut2 (l : List Nat) (i : Nat) (h : i ≤ l.length) : ∃ p s, l = p ++ s ∧ p.length = i :=
  ⟨l.take i, l.drop i, (List.take_append_drop i l).symm, by rw [List.length_take]; omega⟩

theorem cut3 (buf : Buf) (i n : Nat) (h : i + n ≤ buf.length) :
    ∃ p x s, buf = p ++ x ++ s ∧ p.length = i ∧ x.length = n := by
  obtain ⟨p, r, rfl, hp⟩ := cut2 buf i (by omega)
  obtain ⟨x, s, rfl, hx⟩ := cut2 r n (by rw [List.length_append] at h; omega)
  exact ⟨p, x, s, (List.append_assoc _ _ _).symm, hp, hx⟩

theorem cut4 (buf : Buf) (i m n : Nat) (h : i + m + n ≤ buf.length) :
    ∃ p x y s, buf = p ++ (x ++ (y ++ s)) ∧ p.length = i ∧ x.length = m ∧ y.length = n := by
  obtain ⟨p, r, rfl, hp⟩ := cut2 buf i (by omega)
  obtain ⟨x, r, rfl, hx⟩ := cut2 r m (by rw [List.length_append] at h; omega)
  obtain ⟨y, s, rfl, hy⟩ := cut2 r n (by rw [List.length_append, List.length_append] at h; omega)
  exact ⟨p, x, y, s, rfl, hp, hx, hy⟩

theorem splice_length (buf : Buf) (i : Nat) (cs : List Nat) (h : i + cs.length ≤ buf.length) :
    (splice buf i cs).length = buf.length := by
  obtain ⟨p, x, s, rfl, rfl, hx⟩ := cut3 buf i cs.length h
  rw [List.append_assoc, splice_eq p x s cs _ rfl hx]
  simp only [List.length_append, hx]

theorem splice_both (p x y s a b : List Nat) (hx : x.length = a.length) (hy : y.length = b.length) :
    splice (p ++ (x ++ (y ++ s))) p.length (a ++ b) = p ++ (a ++ (b ++ s)) := by
  rw [← List.append_assoc x y s, splice_eq p (x ++ y) s (a ++ b) _ rfl (by rw [List.length_append, List.length_append, hx, hy]),
    List.append_assoc]

theorem splice_append (buf : Buf) (i : Nat) (a b : List Nat) (h : i + a.length + b.length ≤ buf.length) :
    splice (splice buf i a) (i + a.length) b = splice buf i (a ++ b) := by
  obtain ⟨p, x, y, s, rfl, rfl, hx, hy⟩ := cut4 buf i a.length b.length h
  rw [splice_both p x y s a b hx hy, splice_eq p x (y ++ s) a _ rfl hx, ← List.append_assoc p a,
    splice_eq (p ++ a) y s b _ List.length_append.symm hy, List.append_assoc]

theorem splice_prepend (buf : Buf) (i : Nat) (a b : List Nat) (h : i + a.length + b.length ≤ buf.length) :
    splice (splice buf (i + a.length) b) i a = splice buf i (a ++ b) := by
  obtain ⟨p, x, y, s, rfl, rfl, hx, hy⟩ := cut4 buf i a.length b.length h
  rw [splice_both p x y s a b hx hy, ← List.append_assoc p x,
    splice_eq (p ++ x) y s b _ (by rw [List.length_append, hx]) hy, List.append_assoc,
    splice_eq p x (b ++ s) a _ rfl hx]

theorem splice_prepend_len (buf : Buf) (i : Nat) (a b : List Nat) (k j : Nat) (hk : a.length = k) (hj : b.length = j)
    (h : i + k + j ≤ buf.length) : splice (splice buf (i + k) b) i a = splice buf i (a ++ b) := by
  subst hk hj; exact splice_prepend buf i a b h

theorem splice_zero (buf : Buf) (cs : List Nat) : splice buf 0 cs = cs ++ buf.drop cs.length := by
  simp [splice]

theorem splice_drop (buf : Buf) (i : Nat) (cs : List Nat) (h : i + cs.length = buf.length) :
    (splice buf i cs).drop i = cs := by
  obtain ⟨p, x, s, rfl, rfl, hx⟩ := cut3 buf i cs.length (by omega)
  have hs : s = [] := List.eq_nil_of_length_eq_zero (by simp only [List.length_append] at h; omega)
  rw [List.append_assoc, splice_eq p x s cs _ rfl hx, List.drop_left, hs, List.append_nil]

theorem setC_splice (buf : Buf) (i c : Nat) (h : i < buf.length) : setC buf i c = .ok (splice buf i [c]) := by
  obtain ⟨p, x, s, rfl, rfl, hx⟩ := cut3 buf i 1 (by omega)
  match x, hx with
  | [y], _ => rw [List.append_assoc, splice_eq p [y] s [c] _ rfl rfl]; exact setC_mid p y c s

theorem setU_splice (buf : Buf) (i c : Nat) (h : i < buf.length) : setU buf i c = .ok (splice buf i [c]) := by
  have := setC_splice buf i c h
  unfold setC at this; unfold setU
  rw [if_pos h] at this ⊢; exact this

/-- The invariant of a writer that puts digits below a cursor, least significant first, and divides them off its
value. The state `(v, buf, i)` is on its way to `out`, the numeral's left end being `i0`, when the cursor stands
where the digits still in `v` end and putting them there gives `out`. What has been written, and of which value, is
not in it: the state alone fixes the result, and a step keeps it because the numeral of `v` is that of `v / r^k`
followed by the `k` digits put (`Toward.chunk`). -/
structure Toward (r i0 : Nat) (out : Buf) (v : Nat) (buf : Buf) (i : Nat) : Prop where
  cursor : i = i0 + (numeral r v).length
  room : i ≤ buf.length
  idx : i < 2 ^ 64
  goal : splice buf i0 (numeral r v) = out

theorem Toward.start (r i0 v : Nat) (buf : Buf) (h : i0 + (numeral r v).length ≤ buf.length)
    (h64 : i0 + (numeral r v).length < 2 ^ 64) :
    Toward r i0 (splice buf i0 (numeral r v)) v buf (i0 + (numeral r v).length) := ⟨rfl, h, h64, rfl⟩

/-- the slice `&mut buffer[..count]` that `algorithm` and `algorithm_u128` fill from its end -/
theorem Toward.slice (r v : Nat) (buffer : Buf) (h : (numeral r v).length ≤ buffer.length)
    (h64 : (numeral r v).length < 2 ^ 64) :
    Toward r 0 (numeral r v) v (buffer.take (numeral r v).length) (numeral r v).length :=
  have hl : (buffer.take (numeral r v).length).length = (numeral r v).length := List.length_take_of_le h
  ⟨(Nat.zero_add _).symm, Nat.le_of_eq hl.symm, h64,
    by rw [splice_zero, List.drop_eq_nil_of_le (Nat.le_of_eq hl), List.append_nil]⟩

theorem Toward.chunk {r i0 v i : Nat} {out buf : Buf} (hr : 2 ≤ r) {k : Nat} (hk : r ^ k ≤ v)
    (h : Toward r i0 out v buf i) :
    ∃ j, i = j + k ∧ Toward r i0 out (v / r ^ k) (splice buf j ((padDigits r k (v % r ^ k)).map digitChar)) j := by
  obtain ⟨hi, hle, h64, ho⟩ := h
  have hn := numeral_split r v k hr hk
  have hp : ((padDigits r k (v % r ^ k)).map digitChar).length = k := by rw [List.length_map, padDigits_length]
  have hl : (numeral r v).length = (numeral r (v / r ^ k)).length + k := by rw [hn, List.length_append, hp]
  refine ⟨i0 + (numeral r (v / r ^ k)).length, by omega, rfl, ?_, by omega, ?_⟩
  · rw [splice_length _ _ _ (by omega)]; omega
  · rw [splice_prepend buf i0 _ _ (by omega), ← hn, ho]

/-- A loop `L fuel v buf i` that stops once `v < d = r ^ k`, and otherwise puts the `k` low digits of `v` below `i`
and goes on with `v / d`, keeps the invariant. -/
theorem Toward.loop (r k d B i0 : Nat) (out : Buf) (hr : 2 ≤ r) (hk : 1 ≤ k) (hd : d = r ^ k)
    (L : Nat → Nat → Buf → Nat → Res (Nat × Buf × Nat))
    (hstop : ∀ f v buf i, v < d → L (f + 1) v buf i = .ok (v, buf, i))
    (hgo : ∀ f v buf i, d ≤ v → v < B → i + k ≤ buf.length → i + k < 2 ^ 64 →
      L (f + 1) v buf (i + k) = L f (v / d) (splice buf i ((padDigits r k (v % d)).map digitChar)) i) :
    ∀ (v fuel : Nat), v < 2 ^ fuel → 1 ≤ fuel → ∀ (buf : Buf) (i : Nat), v < B → Toward r i0 out v buf i →
      ∃ v' buf' i', L fuel v buf i = .ok (v', buf', i') ∧ Toward r i0 out v' buf' i' ∧ v' < d ∧ v' ≤ v := by
  subst hd
  refine radix_fuel_induction (r ^ k) (two_le_pow r k hr hk) ?_ ?_
  · intro n f h buf i _ ht
    exact ⟨n, buf, i, hstop f n buf i h, ht, h, Nat.le_refl _⟩
  · intro n f h ih buf i hB ht
    obtain ⟨j, rfl, ht'⟩ := ht.chunk hr h
    obtain ⟨v', buf', i', hrun, ht'', hv', hle⟩ := ih _ j (Nat.lt_of_le_of_lt (Nat.div_le_self _ _) hB) ht'
    exact ⟨v', buf', i', by rw [hgo f n buf j h hB ht.room ht.idx, hrun], ht'', hv',
      Nat.le_trans hle (Nat.div_le_self _ _)⟩

/-- a loop that is skipped when `c` fails -/
theorem Toward.stage {r i0 v i : Nat} {out buf : Buf} (d : Nat) (c : Prop) [Decidable c] (x : Res (Nat × Buf × Nat))
    (ht : Toward r i0 out v buf i)
    (hx : c → ∃ v' buf' i', x = .ok (v', buf', i') ∧ Toward r i0 out v' buf' i' ∧ v' < d ∧ v' ≤ v) :
    ∃ v' buf' i', (if c then x else .ok (v, buf, i)) = .ok (v', buf', i') ∧ Toward r i0 out v' buf' i' ∧
      (c → v' < d) ∧ v' ≤ v := by
  by_cases h : c
  · obtain ⟨v', buf', i', hrun, ht', hv', hle⟩ := hx h
    exact ⟨v', buf', i', by rw [if_pos h, hrun], ht', fun _ => hv', hle⟩
  · exact ⟨v, buf, i, if_neg h, ht, fun hc => absurd hc h, Nat.le_refl _⟩

theorem Toward.lead {r i0 v i : Nat} {out buf : Buf} (hv : v < r) (ht : Toward r i0 out v buf i) :
    i = i0 + 1 ∧ i0 < buf.length ∧ splice buf i0 [digitChar v] = out := by
  obtain ⟨hi, hle, -, ho⟩ := ht
  rw [numeral_lt r v hv] at hi ho
  exact ⟨hi, by rw [hi] at hle; exact hle, ho⟩

end LexVerif.Model.WriteInt
