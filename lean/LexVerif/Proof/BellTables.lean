import LexVerif.Model.Bellerophon
import LexVerif.Proof.Tables.BellRadix
import LexVerif.Proof.Tables.BellCompact
import LexVerif.Proof.Wrap
/-!
# Proof.BellTables — what the error analysis of Bellerophon needs from `bellerophon_powers(radix)`

The facts on the **model's accessors** (`getSmallInt`, `getSmall`, `getLarge`, i.e. the tables *and* the `log2`-multiplier
exponent formula), for every index: small powers exact (`small[i]·2^(−ns) = r^i`, normalised), large powers normalised and
truncated (`b·2^eb ≤ r^K < (b+1)·2^eb`, `K = i·step − bias`), the index range covers every finite float.
They follow from what `Proof/Tables` evaluates — the tables are `extTrunc` of the powers (`bellRadixOk`) and the multiplier
computes their floor logarithms (`bellLog2Ok`) — once no intermediate wraps (`bellCheap`: a few small numbers per radix).
-/
namespace LexVerif.Proof.Bell
open LexVerif.Model LexVerif.Model.Bellerophon
open LexVerif.Gen.Bellerophon (Powers)

def smallOk (r : Nat) (P : Powers) (i : Nat) : Bool :=
  (getSmallInt P i == some (r ^ i)) && decide (r ^ i < 2 ^ 64) &&
  match getSmall P i with
  | some ⟨sm, es⟩ => decide (es ≤ 0) && decide (-64 ≤ es) && (sm == r ^ i * 2 ^ (-es).toNat) &&
      decide (2 ^ 63 ≤ sm) && decide (sm < 2 ^ 64)
  | none => false

/-- index `j` of the large table: `b·2^eb ≤ r^K < (b+1)·2^eb`, cross-multiplied -/
def largeOk (r : Nat) (P : Powers) (j : Nat) : Bool :=
  match getLarge P j with
  | some ⟨b, eb⟩ =>
    let K : Int := (j : Int) * P.step - P.bias
    let kn := r ^ K.toNat
    let kd := r ^ (-K).toNat
    let g := eb.toNat
    let d := (-eb).toNat
    decide (2 ^ 63 ≤ b) && decide (b < 2 ^ 64) && decide (-2000 ≤ eb) && decide (eb ≤ 2000) &&
    decide (b * 2 ^ g * kd ≤ kn * 2 ^ d) && decide (kn * 2 ^ d < (b + 1) * 2 ^ g * kd)
  | none => false

/-- `2^1140`: below the table `w·r^e < 2^64 / 2^1140 = 2^(−1076)`, under half the least binary64 subnormal; `2^1024`: above
it the value overflows binary64; `bias ≤ 2000` keeps `exponent + bias` from wrapping in `i32` (`step ≤ 64`: `BellFacts.step_le` has no user in the
error analysis; `largeOk_of_tables` uses the bound) -/
def bellCheck (r : Nat) (P : Powers) : Bool :=
  decide (0 < P.step) && decide (0 ≤ P.bias) && decide (P.bias ≤ 2000) && decide (P.step ≤ 64) &&
  decide (2 ≤ r) &&
  (List.range P.step.toNat).all (smallOk r P) &&
  (List.range P.large.size).all (largeOk r P) &&
  decide (2 ^ 1140 ≤ r ^ (P.bias.toNat + 1)) &&
  decide (2 ^ 1024 ≤ r ^ (P.large.size * P.step.toNat - P.bias.toNat)) &&
  decide (P.bias.toNat ≤ P.large.size * P.step.toNat)

open LexVerif.Spec.PowerTables LexVerif.Proof.Tables

theorem mul_bound {a k : Int} (ha0 : 0 ≤ a) (ha : a < 2 ^ 40) (hk0 : -2 ^ 22 ≤ k) (hk : k ≤ 2 ^ 22) :
    -2 ^ 63 ≤ a * k ∧ a * k < 2 ^ 63 := by
  have h1 : a * k ≤ a * 2 ^ 22 := Int.mul_le_mul_of_nonneg_left hk ha0
  have h2 : a * (-2 ^ 22) ≤ a * k := Int.mul_le_mul_of_nonneg_left hk0 ha0
  omega

/-- `(log2·k) >> shift` is monotone in `k`, so its size is bounded at the two ends of the exponent range. -/
theorem largeOk_of_tables {r : Nat} {P : Powers} (hr : 0 < r) {j : Nat} (hj : j < P.large.size)
    (hrow : P.large[j] = (extTrunc (powQ r (j * P.step - P.bias)).1 (powQ r (j * P.step - P.bias)).2).1)
    (hlog : isFloorLog2Q (powQ r (j * P.step - P.bias)).1 (powQ r (j * P.step - P.bias)).2
              ((P.log2 * ((j : Int) * P.step - P.bias)) / (2 ^ P.log2Shift.toNat : Int)) = true)
    (hstep0 : 0 ≤ P.step) (hstep : P.step ≤ 64) (hbias0 : 0 ≤ P.bias) (hbias : P.bias ≤ 2000)
    (hlog0 : 0 ≤ P.log2) (hlog2 : P.log2 < 2 ^ 40) (hsz : P.large.size < 2 ^ 16)
    (hlo : -1937 ≤ (P.log2 * (-P.bias)) / (2 ^ P.log2Shift.toNat : Int))
    (hhi : (P.log2 * ((P.large.size : Int) * P.step - P.bias)) / (2 ^ P.log2Shift.toNat : Int) ≤ 2063) :
    largeOk r P j = true := by
  have hpos : (0 : Int) < 2 ^ P.log2Shift.toNat := Int.pow_pos (by decide)
  have hjs0 : 0 ≤ (j : Int) * P.step := Int.mul_nonneg (by omega) hstep0
  have hjs1 : (j : Int) * P.step ≤ (P.large.size : Int) * P.step :=
    Int.mul_le_mul_of_nonneg_right (by omega) hstep0
  have hjs : (j : Int) * P.step ≤ (2 ^ 16 : Int) * 64 :=
    Int.mul_le_mul (by omega) hstep hstep0 (by omega)
  obtain ⟨K, hK⟩ : ∃ K : Int, (j : Int) * P.step - P.bias = K := ⟨_, rfl⟩
  obtain ⟨m1, m2⟩ := mul_bound (k := K) hlog0 hlog2 (by omega) (by omega)
  obtain ⟨e, hE⟩ : ∃ e : Int, (P.log2 * K) / (2 ^ P.log2Shift.toNat : Int) = e := ⟨_, rfl⟩
  have he : -1937 ≤ e ∧ e ≤ 2063 := by
    rw [← hE]
    exact ⟨Int.le_trans hlo (Int.ediv_le_ediv hpos (Int.mul_le_mul_of_nonneg_left (by omega) hlog0)),
      Int.le_trans (Int.ediv_le_ediv hpos (Int.mul_le_mul_of_nonneg_left (by omega) hlog0)) hhi⟩
  rw [hK] at hrow hlog
  rw [hE] at hlog
  obtain ⟨hn, hd⟩ := powQ_ne_zero hr K
  obtain ⟨-, b1, b2, b3, b4⟩ := extTrunc_bracket hn hd hlog
  rw [← hrow] at b1 b2 b3 b4
  have hget : getLarge P j = some ⟨P.large[j], e - 63⟩ := by
    have w1 : wrapI64 K = K := Wrap.wrapI64_eq (by omega) (by omega)
    have w2 : wrapI64 (P.log2 * K) = P.log2 * K := Wrap.wrapI64_eq m1 m2
    have w3 : wrapI32 (1 - 64 + e) = e - 63 := by rw [Wrap.wrapI32_eq (by omega) (by omega)]; omega
    simp only [getLarge, Array.getElem?_eq_getElem hj, Option.map_some, hK, w1, w2, sar, hE, w3]
  unfold largeOk
  rw [hget]
  have hd' : (-(e - 63)).toNat = (63 - e).toNat := by omega
  rw [(powQ_eq r K).1, (powQ_eq r K).2] at b3 b4
  simp only [hK, hd', Bool.and_eq_true, decide_eq_true_eq]
  exact ⟨⟨⟨⟨⟨b1, b2⟩, by omega⟩, by omega⟩, b3⟩, b4⟩

theorem smallOk_of_tables {r : Nat} {P : Powers} (hr : 0 < r) {i : Nat}
    (hi : i < P.small.size) (hi' : i < P.smallInt.size)
    (hrow : P.small[i] = (extTrunc (r ^ i) 1).1) (hint : P.smallInt[i] = r ^ i) (hlt : r ^ i < 2 ^ 64)
    (hlog : isFloorLog2Q (r ^ i) 1 ((P.log2 * (i : Int)) / (2 ^ P.log2Shift.toNat : Int)) = true)
    (hlog0 : 0 ≤ P.log2) (hlog2 : P.log2 < 2 ^ 40) (hi16 : i < 2 ^ 16) :
    smallOk r P i = true := by
  obtain ⟨m1, m2⟩ := mul_bound (k := (i : Int)) hlog0 hlog2 (by omega) (by omega)
  obtain ⟨e, hE⟩ : ∃ e : Int, (P.log2 * (i : Int)) / (2 ^ P.log2Shift.toNat : Int) = e := ⟨_, rfl⟩
  rw [hE] at hlog
  have hn : r ^ i ≠ 0 := Nat.pos_iff_ne_zero.mp (Nat.pow_pos hr)
  have hpos : 1 ≤ r ^ i := Nat.pow_pos hr
  obtain ⟨-, b1, b2, b3, b4⟩ := extTrunc_bracket hn Nat.one_ne_zero hlog
  rw [← hrow] at b1 b2 b3 b4
  -- `0 ≤ e ≤ 63` from `1 ≤ r^i < 2^64`
  have he : 0 ≤ e ∧ e ≤ 63 := by
    unfold isFloorLog2Q at hlog
    split at hlog
    · next h0 =>
      simp only [Bool.and_eq_true, decide_eq_true_eq] at hlog
      refine ⟨h0, Int.not_lt.mp fun h64 => ?_⟩
      have : 2 ^ 64 ≤ 2 ^ e.toNat := Nat.pow_le_pow_right (by decide) (by omega)
      omega
    · next h0 =>
      simp only [Bool.and_eq_true, decide_eq_true_eq] at hlog
      have h2 : 2 ^ 1 ≤ 2 ^ (-e).toNat := Nat.pow_le_pow_right (by decide) (by omega)
      have := Nat.mul_le_mul hpos h2
      omega
  have e0 : (e - 63).toNat = 0 := by omega
  rw [e0, Nat.pow_zero, Nat.mul_one, Nat.mul_one] at b3 b4
  have hsm : P.small[i] = r ^ i * 2 ^ (63 - e).toNat := by omega
  have hget : getSmall P i = some ⟨P.small[i], e - 63⟩ := by
    have w2 : wrapI64 (P.log2 * (i : Int)) = P.log2 * (i : Int) := Wrap.wrapI64_eq m1 m2
    have w3 : wrapI32 (1 - 64 + e) = e - 63 := by rw [Wrap.wrapI32_eq (by omega) (by omega)]; omega
    simp only [getSmall, Array.getElem?_eq_getElem hi, Option.map_some, w2, sar, hE, w3]
  have hgi : getSmallInt P i = some (r ^ i) := by
    simp only [getSmallInt, Array.getElem?_eq_getElem hi', hint]
  unfold smallOk
  rw [hget, hgi]
  have hd' : (-(e - 63)).toNat = (63 - e).toNat := by omega
  simp only [hd', Bool.and_eq_true, decide_eq_true_eq, beq_iff_eq]
  exact ⟨⟨trivial, hlt⟩, ⟨⟨⟨by omega, by omega⟩, hsm⟩, b1⟩, b2⟩

/-- what `bellCheck` needs beyond the two table evaluations: small numbers, and one comparison of a power
(`bellShapeOk` has `(2^64 − 1)·2^1075 < r^(bias+1)`, which is a little less than `2^1140`) -/
def bellCheap (r : Nat) (P : Powers) : Bool :=
  decide (2 ≤ r) && decide (P.bias ≤ 2000) && decide (P.step ≤ 64) &&
  decide (0 ≤ P.log2) && decide (P.log2 < 2 ^ 40) && decide (P.large.size < 2 ^ 16) &&
  decide (P.bias.toNat + P.step.toNat ≤ P.large.size * P.step.toNat) &&
  decide (-1937 ≤ (P.log2 * (-P.bias)) / (2 ^ P.log2Shift.toNat : Int)) &&
  decide ((P.log2 * ((P.large.size : Int) * P.step - P.bias)) / (2 ^ P.log2Shift.toNat : Int) ≤ 2063) &&
  decide (2 ^ 1140 ≤ r ^ (P.bias.toNat + 1))

/-- `bellLog2Ok` covers the exponents `−bias … len·step − bias`: a small row reads it at index `i + bias`, a large row at `j·step` -/
theorem bellCheck_of_tables {compact : Bool} {powers : Nat → Powers} {r : Nat}
    (ht : bellHasTable compact r = true) (h1 : bellRadixOk compact powers r = true)
    (h2 : bellLog2Ok (powers r) r = true) (h3 : bellCheap r (powers r) = true) :
    bellCheck r (powers r) = true := by
  simp only [bellRadixOk, ht, if_true] at h1
  generalize powers r = P at *
  simp only [Bool.and_eq_true] at h1
  obtain ⟨⟨⟨⟨⟨hshape, hsm⟩, -⟩, hint⟩, hlg⟩, -⟩ := h1
  simp only [bellShapeOk, Bool.and_eq_true, decide_eq_true_eq, beq_iff_eq] at hshape
  simp only [bellCheap, Bool.and_eq_true, decide_eq_true_eq] at h3
  obtain ⟨⟨⟨⟨⟨⟨⟨⟨⟨⟨⟨s1, s2⟩, -⟩, s4⟩, s5⟩, -⟩, -⟩, -⟩, -⟩, -⟩, -⟩, s12⟩ := hshape
  obtain ⟨⟨⟨⟨⟨⟨⟨⟨⟨c1, c2⟩, c3⟩, c4⟩, c5⟩, c6⟩, c7⟩, c8⟩, c9⟩, c10⟩ := h3
  have hr : 0 < r := by omega
  have hL : ∀ j, j < P.large.size * P.step.toNat →
      isFloorLog2Q (powQ r ((j : Int) - P.bias)).1 (powQ r ((j : Int) - P.bias)).2
        ((P.log2 * ((j : Int) - P.bias)) / (2 ^ P.log2Shift.toNat : Int)) = true :=
    fun j hj => all_range h2 j hj
  have hsmall : ∀ i, i < P.step.toNat → smallOk r P i = true := by
    intro i hi
    have hk : ((i + P.bias.toNat : Nat) : Int) - P.bias = (i : Int) := by omega
    have q1 : (powQ r (i : Int)).1 = r ^ i := by rw [(powQ_eq r i).1, Int.toNat_natCast]
    have q2 : (powQ r (i : Int)).2 = 1 := by
      have : (-(i : Int)).toNat = 0 := by omega
      rw [(powQ_eq r i).2, this, Nat.pow_zero]
    have hl := hL (i + P.bias.toNat) (by omega)
    rw [hk, q1, q2] at hl
    have hi1 : i < P.small.size := by omega
    have hi2 : i < P.smallInt.size := by omega
    have r1 := of_tableAll hsm i hi1
    have r2 := of_tableAll hint i hi2
    simp only [bellSmallOk, beq_iff_eq] at r1
    simp only [Bool.and_eq_true, beq_iff_eq, decide_eq_true_eq] at r2
    exact smallOk_of_tables hr hi1 hi2 r1 r2.1 (r2.1 ▸ r2.2) hl c4 c5 (by omega)
  have hlarge : ∀ j, j < P.large.size → largeOk r P j = true := by
    intro j hj
    have hk : ((j * P.step.toNat : Nat) : Int) = (j : Int) * P.step := by
      rw [Int.natCast_mul, Int.toNat_of_nonneg (by omega)]
    have hl := hL (j * P.step.toNat) ((Nat.mul_lt_mul_right (by omega)).mpr hj)
    rw [hk] at hl
    have r1 := of_tableAll hlg j hj
    simp only [bellLargeOk, beq_iff_eq] at r1
    exact largeOk_of_tables hr hj r1 hl (by omega) c3 s2 c2 c4 c5 c6 c8 c9
  simp only [bellCheck, Bool.and_eq_true, decide_eq_true_eq, List.all_eq_true, List.mem_range]
  exact ⟨⟨⟨⟨⟨⟨⟨⟨⟨s1, s2⟩, c2⟩, c3⟩, c1⟩, hsmall⟩, hlarge⟩, c10⟩, s12⟩, by omega⟩

def bellRadicesRadix : List Nat :=
  [3, 5, 6, 7, 9, 11, 12, 13, 14, 15, 17, 18, 19, 20, 21, 22, 23, 24, 25, 26, 27, 28, 29, 30, 31, 33, 34, 35, 36]

theorem bellCheap_radix : ∀ r ∈ bellRadicesRadix,
    (decide (2 ≤ r ∧ r ≤ 36) && bellHasTable false r && bellCheap r (Gen.Bellerophon.Radix.powers r)) = true :=
  List.all_eq_true.mp (by decide +kernel)

theorem bellCheck_radix : ∀ r ∈ bellRadicesRadix, bellCheck r (Gen.Bellerophon.Radix.powers r) = true := by
  intro r hr
  have h := bellCheap_radix r hr
  simp only [Bool.and_eq_true, decide_eq_true_eq] at h
  obtain ⟨⟨⟨h2, h36⟩, ht⟩, hc⟩ := h
  have e2 := of_radixAll bell_log2_radix r h2 h36
  simp only [bellRadixLog2Ok, ht, Bool.not_true, Bool.false_or] at e2
  exact bellCheck_of_tables ht (bellRadixOk_radix h2 h36) e2 hc

def bellRadicesCompact : List Nat := 10 :: bellRadicesRadix

/-- table_bellerophon_radix.rs is shared by both builds: only the decimal table is new in `compact` -/
theorem bellCheck_compact : ∀ r ∈ bellRadicesCompact, bellCheck r (Gen.Bellerophon.CompactRadix.powers r) = true := by
  intro r hr
  rcases List.mem_cons.mp hr with rfl | hr
  · have ht : bellHasTable true 10 = true := by decide
    have e2 := bell_log2_compact_decimal
    simp only [bellRadixLog2Ok, ht, Bool.not_true, Bool.false_or] at e2
    exact bellCheck_of_tables ht bellRadixOk_compact_decimal e2 (by decide +kernel)
  · have h := bellCheap_radix r hr
    simp only [Bool.and_eq_true, decide_eq_true_eq] at h
    have h10 : r ≠ 10 := by rintro rfl; exact absurd h.1.2 (by decide)
    rw [powers_compact_eq h.1.1.1 h.1.1.2 h10]
    exact bellCheck_radix r hr

end LexVerif.Proof.Bell
