import LexVerif.Proof.IterSpec
/-!
# Proof.ParsePhases — the integer, fraction and exponent phases of `parse_number`, each read once

A phase is: get to the first digit (base prefix / decimal point / exponent character and sign), the digit pass, then a
few tests on where the pass came to rest and one `get_unchecked(..n)`. Only the digit pass depends on the separator
configuration and on the build. `integerPhase_eq`, `fractionPhase_eq`, `exponentPhase_eq` split a phase into these three
parts for every `Cfg`; `intTail_cases`, `fracTail_cases`, `expTail_cases` read the third part once: which index an error
carries, what is stored. They ask of the pass only that it left a later state of the same buffer (`Adv`).

`Adv b b'`: same slice, cursor moved forward and still inside the buffer, and the three digit counts grew by at most the
distance the cursor moved (so `counts ≤ index` is preserved, and every `get_unchecked(..n_digits)` slice stays inside what
is left of the buffer). Every state `mv c k j n b` of `Proof/IterSpec.lean` with `b.index + n ≤ j ≤ length` is one.
-/
namespace LexVerif.Proof.PNTotal
open LexVerif LexVerif.Model LexVerif.Proof.IterSpec

/-- `integer_count + fraction_count + exponent_count`: what `Bytes::current_count` returns with a separator byte -/
def csum (b : Bytes) : Nat := b.ic + b.fc + b.ec

structure Adv (b b' : Bytes) : Prop where
  slc : b'.slc = b.slc
  valid : b'.index ≤ b.slc.length
  mono : b.index ≤ b'.index
  cnt : csum b' + b.index ≤ csum b + b'.index

theorem Adv.refl (b : Bytes) (h : b.index ≤ b.slc.length) : Adv b b :=
  ⟨rfl, h, Nat.le_refl _, Nat.le_refl _⟩

theorem Adv.trans {a b c : Bytes} (h1 : Adv a b) (h2 : Adv b c) : Adv a c := by
  refine ⟨h2.slc.trans h1.slc, ?_, Nat.le_trans h1.mono h2.mono, ?_⟩
  · have := h2.valid; rw [h1.slc] at this; exact this
  · have := h1.cnt; have := h2.cnt; omega

theorem Adv.valid' {a b : Bytes} (h : Adv a b) : b.index ≤ b.slc.length := by
  rw [h.slc]; exact h.valid

theorem Adv.len {a b : Bytes} (h : Adv a b) : b.slc.length = a.slc.length := by rw [h.slc]

variable {c : Cfg}

theorem Adv.mv (k : Comp) {b : Bytes} {j n : Nat} (h1 : b.index + n ≤ j) (h2 : j ≤ b.slc.length) : Adv b (mv c k j n b) :=
  ⟨mv_slc .., by rw [mv_index]; exact h2, by rw [mv_index]; omega, by
    have := mv_counts c k j n b; rw [mv_index]; simp only [csum]; omega⟩

theorem Adv.cur {b : Bytes} {j : Nat} (h1 : b.index ≤ j) (h2 : j ≤ b.slc.length) : Adv b (IterSpec.cur b j) :=
  ⟨rfl, h2, h1, by simp only [csum, IterSpec.cur]; omega⟩

theorem step_adv (b : Bytes) (n : Nat) (h : b.index + n ≤ b.slc.length) : Adv b { b with index := b.index + n } :=
  Adv.cur (Nat.le_add_right _ _) h

theorem count_diff_le {s e : Bytes} (h : Adv s e) : e.currentCount c - s.currentCount c ≤ e.index - s.index := by
  unfold Bytes.currentCount
  have h1 := h.cnt
  have h2 := h.mono
  simp only [csum] at h1
  split <;> omega

end LexVerif.Proof.PNTotal

namespace LexVerif.Proof.Phase
open LexVerif LexVerif.Model LexVerif.Spec LexVerif.Proof.IterSpec
open LexVerif.Proof.PNTotal (Adv count_diff_le)

variable {c : Cfg}

/-- `parse_8digits`, then `parse_digits` with the mantissa callback: the digit pass of the integer and of the fraction -/
def digitPass (c : Cfg) (k : Comp) (b : Bytes) (m : Nat) : Except Err (Nat × Bytes) := do
  let (m8, b8) ← parse8Digits c k b m
  let (ds, e) ← parseDigits c k c.mantissaRadix b8
  pure (foldMantissa c.mantissaRadix m8 ds, e)

theorem digitPass_ok {k : Comp} {b b8 e : Bytes} {m m8 : Nat} {ds : List Nat}
    (h8 : parse8Digits c k b m = .ok (m8, b8)) (hd : parseDigits c k c.mantissaRadix b8 = .ok (ds, e)) :
    digitPass c k b m = .ok (foldMantissa c.mantissaRadix m8 ds, e) := by
  simp [digitPass, h8, hd, bind, Except.bind, pure, Except.pure]

/-- length of the slice a phase stores for the re-scan: the bytes passed for a skipping iterator, else the digits counted -/
def storedLen (c : Cfg) (k : Comp) (st e : Bytes) : Nat :=
  if c.feats.format && !c.iterContiguous k then e.index - st.index else e.currentCount c - st.currentCount c

theorem storedLen_le {k : Comp} {st e : Bytes} (ha : Adv st e) : storedLen c k st e ≤ e.index - st.index := by
  have := count_diff_le (c := c) ha
  unfold storedLen; split <;> omega

theorem storedLen_bc (hbc : c.bytesContiguous = true) (k : Comp) (st e : Bytes) :
    storedLen c k st e = e.index - st.index := by
  simp [storedLen, Bytes.currentCount, hbc]

theorem storedLen_skip (hf : c.feats.format = true) {k : Comp} (hk : c.iterContiguous k = false) (st e : Bytes) :
    storedLen c k st e = e.index - st.index := by
  simp [storedLen, hf, hk]

theorem sliceTo_stored {k : Comp} {st e : Bytes} (ha : Adv st e) (tag : String) :
    sliceTo c st (storedLen c k st e) tag = .ok ((st.slc.drop st.index).take (storedLen c k st e)) :=
  sliceTo_ok st _ _ (by have := storedLen_le (c := c) (k := k) ha; have := ha.valid; omega)

/-- what `integerPhase` does once its digit pass from `st` has ended in `e` with mantissa `m` -/
def intTail (c : Cfg) (isPrefix : Bool) (st e : Bytes) (m : Nat) : Except Err IntPart := do
  let nDigits := e.currentCount c - st.currentCount c
  if c.feats.format && c.requiredIntegerDigits && nDigits = 0 then .error (.err "EmptyInteger" e.index)
  else
    let integerDigits ← sliceTo c st (storedLen c .integer st e) "integer get_unchecked(..b_digits)"
    if c.feats.format && !isPrefix && c.noFloatLeadingZeros
        && integerDigits.length > 1 && integerDigits.head? = some 48 then
      .error (.err "InvalidLeadingZeros" st.index)
    else pure ⟨isPrefix, st, e, m, nDigits, integerDigits⟩

theorem integerPhase_eq (c : Cfg) (b : Bytes) :
    integerPhase c b = (do
      let (isPrefix, st) ← prefixPhase c b
      let (m, e) ← digitPass c .integer st 0
      intTail c isPrefix st e m) := by
  unfold integerPhase digitPass
  simp only [bind, Except.bind, pure, Except.pure]
  cases prefixPhase c b with
  | error _ => rfl
  | ok r =>
    simp only
    cases parse8Digits c .integer r.2 0 with
    | error _ => rfl
    | ok r8 =>
      simp only
      cases parseDigits c .integer c.mantissaRadix r8.2 with
      | error _ => rfl
      | ok _ => rfl

theorem intTail_cases (isP : Bool) {st e : Bytes} (ha : Adv st e) (m : Nat) :
    (∃ t i, (i = e.index ∨ i = st.index) ∧ intTail c isP st e m = .error (.err t i)) ∨
    intTail c isP st e m = .ok ⟨isP, st, e, m, e.currentCount c - st.currentCount c,
      (st.slc.drop st.index).take (storedLen c .integer st e)⟩ := by
  unfold intTail
  simp only [sliceTo_stored ha, bind, Except.bind, pure, Except.pure]
  split
  · exact .inl ⟨_, _, .inl rfl, rfl⟩
  · split
    · exact .inl ⟨_, _, .inr rfl, rfl⟩
    · exact .inr rfl

/-- what `fractionPhase` does once its digit pass from `st` (behind the decimal point) has ended in `e` -/
def fracTail (c : Cfg) (st e : Bytes) (m : Nat) : Except Err FracPart := do
  let nAfterDot := e.currentCount c - st.currentCount c
  let fractionDigits ← sliceTo c st (storedLen c .fraction st e) "fraction get_unchecked(..b_after_dot)"
  let exponent ← scaleExponent c (-(nAfterDot : Int))
  if c.feats.format && c.requiredFractionDigits && nAfterDot = 0 then .error (.err "EmptyFraction" e.index)
  else pure ⟨e, m, nAfterDot, exponent, some fractionDigits, true⟩

theorem fractionPhase_eq (c : Cfg) (o : POpts) (byte : Bytes) (m : Nat) :
    fractionPhase c o byte m =
      if byte.firstIsCased o.dp then do
        let st ← byte.step c
        let (m, e) ← digitPass c .fraction st m
        fracTail c st e m
      else pure ⟨byte, m, 0, 0, none, false⟩ := by
  unfold fractionPhase digitPass
  split
  · simp only [bind, Except.bind, pure, Except.pure]
    cases byte.step c with
    | error _ => rfl
    | ok st =>
      simp only
      cases parse8Digits c .fraction st m with
      | error _ => rfl
      | ok r8 =>
        simp only
        cases parseDigits c .fraction c.mantissaRadix r8.2 with
        | error _ => rfl
        | ok _ => rfl
  · rfl

theorem log2Radix_bound (r : Nat) : 1 ≤ log2Radix r ∧ log2Radix r ≤ 5 := by
  unfold log2Radix
  repeat' split
  all_goals omega

/-- the mixed-base scaling succeeds (a debug build asserts that the radix is a power of the base, which `checkRadix`
gives) and multiplies the magnitude by at most 5 (= log2 32) -/
theorem scaleExponent_ok
    (hsc : c.debug = true → c.mantissaRadix = c.exponentBase ∨ log2Radix c.mantissaRadix % log2Radix c.exponentBase = 0)
    (i : Int) : ∃ x, scaleExponent c i = .ok x ∧ x.natAbs ≤ 5 * i.natAbs := by
  unfold scaleExponent
  split
  · exact ⟨_, rfl, by omega⟩
  · next hne =>
    have hassert : (c.debug && decide (log2Radix c.mantissaRadix % log2Radix c.exponentBase ≠ 0)) = false := by
      cases hd : c.debug with
      | false => rfl
      | true =>
        rcases hsc hd with h | h
        · exact absurd h hne
        · simp [h]
    simp only [hassert, Bool.false_eq_true, ↓reduceIte]
    refine ⟨_, rfl, ?_⟩
    have h1 := log2Radix_bound c.mantissaRadix
    have h2 := log2Radix_bound c.exponentBase
    rw [Int.natAbs_tdiv, Int.natAbs_mul]
    calc i.natAbs * (log2Radix c.mantissaRadix).natAbs / (log2Radix c.exponentBase).natAbs
        ≤ i.natAbs * (log2Radix c.mantissaRadix).natAbs := Nat.div_le_self _ _
      _ ≤ i.natAbs * 5 := Nat.mul_le_mul_left _ (by omega)
      _ = 5 * i.natAbs := Nat.mul_comm _ _

theorem fracTail_cases {st e : Bytes} (ha : Adv st e) (m : Nat)
    (hsc : c.debug = true → c.mantissaRadix = c.exponentBase ∨ log2Radix c.mantissaRadix % log2Radix c.exponentBase = 0) :
    (∃ t, fracTail c st e m = .error (.err t e.index)) ∨
    ∃ x : Int, x.natAbs ≤ 5 * (e.currentCount c - st.currentCount c) ∧
      fracTail c st e m = .ok ⟨e, m, e.currentCount c - st.currentCount c, x,
        some ((st.slc.drop st.index).take (storedLen c .fraction st e)), true⟩ := by
  obtain ⟨x, hx, hb⟩ := scaleExponent_ok hsc (-((e.currentCount c - st.currentCount c : Nat) : Int))
  unfold fracTail
  simp only [sliceTo_stored ha, hx, bind, Except.bind, pure, Except.pure]
  split
  · exact .inl ⟨_, rfl⟩
  · exact .inr ⟨x, by simpa using hb, rfl⟩

/-- what `exponentPhase` does once the sign is read (`negExp`, leaving `st`) and the digits `ds` are parsed up to `e` -/
def expTail (c : Cfg) (negExp : Bool) (st e : Bytes) (ds : List Nat) (exponent : Int) : Except Err ExpPart :=
  if c.requiredExponentDigits && e.currentCount c - st.currentCount c = 0 then .error (.err "EmptyExponent" e.index)
  else
    let explicit : Int :=
      if negExp then -(foldExponent c.exponentRadix 0 ds : Int) else (foldExponent c.exponentRadix 0 ds : Int)
    pure ⟨e, explicit, exponent + explicit⟩

theorem exponentPhase_eq (c : Cfg) (hasExponent : Bool) (byte : Bytes) (fraction : Option (List Nat)) (exponent : Int) :
    exponentPhase c hasExponent byte fraction exponent =
      if hasExponent then do
        let b1 ← byte.step c
        if c.feats.format && c.noExponentNotation then .error (.err "InvalidExponent" (b1.index - 1))
        else if c.feats.format && c.noExponentWithoutFraction && fraction.isNone then
          .error (.err "ExponentWithoutFraction" (b1.index - 1))
        else
          let (negExp, st) ← parseExponentSign c b1
          let (ds, e) ← parseDigits c .exponent c.exponentRadix st
          expTail c negExp st e ds exponent
      else if c.feats.format && c.requiredExponentNotation then .error (.err "MissingExponent" byte.index)
      else pure ⟨byte, 0, exponent⟩ := rfl

theorem expTail_cases (negExp : Bool) (st e : Bytes) (ds : List Nat) (exponent : Int) :
    (∃ t, expTail c negExp st e ds exponent = .error (.err t e.index)) ∨
    ∃ x : Int, x.natAbs = foldExponent c.exponentRadix 0 ds ∧
      expTail c negExp st e ds exponent = .ok ⟨e, x, exponent + x⟩ := by
  unfold expTail
  split
  · exact .inl ⟨_, rfl⟩
  · exact .inr ⟨_, by split <;> simp, rfl⟩

end LexVerif.Proof.Phase
