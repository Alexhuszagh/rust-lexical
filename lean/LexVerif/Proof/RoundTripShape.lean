import LexVerif.Proof.Layouts
import LexVerif.Proof.WriteFloatDragon
/-!
# Proof.RoundTripShape — the decimal float writer's layouts as shapes (C08)

Each layout function of `Model.FormatDecimal` (`writeScientific`, `writeNegative`, `writePositive`) and the two
notation dispatchers of `Model.WriteFloat` (`writeDigitsN` = `algorithm.rs`, `writeDigitsC` = `compact.rs`) emit the
rendering of a `Shape` computed from the rounded digits; the shape's digits are `zeros ++ rounded digits ++ zeros`
and its exponent accounts for the carry.  The model's functions are opened in `WriteFloatDragon` (`writeNegative_flat`
and its like); here the flat texts `negFlat`, `posFlat`, `sciMantissa` are shown to render `negOf`, `posOf`, `sciOf`.
-/
namespace LexVerif.Proof.RoundTrip
open LexVerif.Spec LexVerif.Model LexVerif.Model.WriteFloat LexVerif.Proof.WriteFloatBuf LexVerif.Proof.WriteFloatBound
open LexVerif.Proof.WriteFloatDragon

/-- significant digits as the digit generators return them -/
structure DigitsOk (ds : List Nat) : Prop where
  ne : ds ≠ []
  lt : ∀ d ∈ ds, d < 10
  head : ds.head? = some 0 → ds = [0]

theorem roundUp_head_ne (r : Nat) (l : List Nat) (hhead : ∀ x, l.head? = some x → x ≠ 0) :
    ∀ x, (roundUp r l).1.head? = some x → x ≠ 0 := by
  rcases roundUp_cases r l with ⟨p, d, s, rfl, _, _, h⟩ | ⟨_, h⟩ <;> rw [h] <;> intro x hx
  · cases p with
    | nil => simp at hx; omega
    | cons a t => exact hhead x (by simpa using hx)
  · simp at hx; omega

theorem roundUp_ok (l : List Nat) (hlt : ∀ d ∈ l, d < 10) (hhead : ∀ x, l.head? = some x → x ≠ 0) :
    DigitsOk (roundUp 10 l).1 :=
  ⟨fun h => by have := (roundUp_length 10 l).1; rw [h] at this; simp at this,
   LexVerif.Proof.WriteFloatAscii.roundUp_digs 10 (by omega) l hlt,
   fun h0 => absurd rfl (roundUp_head_ne 10 l hhead 0 h0)⟩

theorem take_ok (ds : List Nat) (mx : Nat) (h : DigitsOk ds) (hmx : 1 ≤ mx) : DigitsOk (ds.take mx) := by
  obtain ⟨d, t, rfl⟩ : ∃ d t, ds = d :: t := by
    cases ds with
    | nil => exact absurd rfl h.ne
    | cons d t => exact ⟨d, t, rfl⟩
  obtain ⟨m, rfl⟩ : ∃ m, mx = m + 1 := ⟨mx - 1, by omega⟩
  refine ⟨by simp, fun x hx => h.lt x (List.mem_of_mem_take hx), ?_⟩
  intro h0
  have := h.head (by simpa using h0)
  simp at this
  simp [this]

theorem take_head_ne (ds : List Nat) (mx : Nat) (h : DigitsOk ds) (hmx : 1 ≤ mx) (hlen : mx < ds.length) :
    ∀ x, (ds.take mx).head? = some x → x ≠ 0 := by
  intro x hx h0
  subst h0
  have h1 := (take_ok ds mx h hmx).head hx
  have : ds.head? = some 0 := by
    cases ds with
    | nil => simp at hx
    | cons d t =>
      obtain ⟨m, rfl⟩ : ∃ m, mx = m + 1 := ⟨mx - 1, by omega⟩
      simpa using hx
  have := h.head this
  subst this
  simp at hlen
  omega

theorem truncateAndRound_ok (ds : List Nat) (o : WOpts) (h : DigitsOk ds) (hmx : o.maxDigits ≠ some 0) :
    DigitsOk (truncateAndRound ds o).1 := by
  rcases truncateAndRound_cases ds o with ⟨_, e⟩ | ⟨mx, hm, hlen, e⟩
  · rw [e]; exact h
  · have h1 : 1 ≤ mx := Nat.pos_of_ne_zero (fun h0 => hmx (by rw [hm, h0]))
    rcases e with e | e
    · rw [e]; exact take_ok ds mx h h1
    · rw [e]; exact roundUp_ok _ (take_ok ds mx h h1).lt (take_head_ne ds mx h h1 hlen)

theorem truncateAndRound_zero (o : WOpts) (hmx : o.maxDigits ≠ some 0) : truncateAndRound [0] o = ([0], false) := by
  rcases truncateAndRound_cases [0] o with ⟨_, e⟩ | ⟨mx, hm, hlen, _⟩
  · exact e
  · have : mx = 0 := by simpa using hlen
    exact absurd (by rw [hm, this]) hmx

theorem truncateAndRound_none (ds : List Nat) (o : WOpts) (h : o.maxDigits = none) :
    truncateAndRound ds o = (ds, false) := by
  unfold truncateAndRound; rw [h]

/-- `write_float_scientific` -/
def sciShape (noEWF : Bool) (ds : List Nat) (sci : Int) (o : WOpts) : Shape :=
  sciOf noEWF (roundSci ds o).1 (sci + (if (roundSci ds o).2 then 1 else 0)) o

/-- `write_float_negative_exponent`; a carry out of `0.9…` is laid out as the integer `1` -/
def negShape (ds : List Nat) (sci : Int) (o : WOpts) : Shape :=
  if (truncateAndRound ds o).2 = true ∧ sci.natAbs = 1 then posOf 1 2 [1] o
  else negOf (if (truncateAndRound ds o).2 then sci.natAbs - 2 else sci.natAbs - 1) (truncateAndRound ds o).1 o

/-- `write_float_positive_exponent` -/
def posShape (ds : List Nat) (sci : Int) (o : WOpts) : Shape :=
  posOf (sci.toNat + 1 + (if (roundPos ds sci o).2 then 1 else 0))
    (sci.toNat + 1 + (if (roundPos ds sci o).2 then 1 else 0) + 1) (roundPos ds sci o).1 o

theorem chars_padZ (count exact : Nat) :
    chars (padZ count exact) = (if count < exact then zeros (exact - count) else []) := by
  unfold padZ
  by_cases h : count < exact
  · simp [h, zeros_eq_chars]
  · have : exact - count = 0 := by omega
    simp [h, this, chars]

theorem chars_tail_headD (l : List Nat) (h : l ≠ []) : digitChar (l.headD 0) :: chars l.tail = chars l := by
  cases l with
  | nil => exact absurd rfl h
  | cons d t => rfl

theorem pad_eq_chars (count : Nat) (o : WOpts) : pad count o = chars (padZ count (minExactDigits count o)) :=
  (chars_padZ _ _).symm

theorem negFlat_render (lead : Nat) (T : List Nat) (o : WOpts) (expc er : Nat) (plusReq : Bool) :
    negFlat lead T o = (negOf lead T o).render o.dp expc er plusReq := by
  simp only [negFlat, negOf, Shape.render, fracText, expPart, pad_eq_chars, zeros_eq_chars, chars_append, chars_cons,
    chars_nil, digitChar_zero, List.append_nil, List.cons_append, List.nil_append, List.append_assoc]

theorem posFlat_render (leading : Nat) (K : List Nat) (o : WOpts) (expc er : Nat) (plusReq : Bool) :
    posFlat leading K o = (posOf leading (leading + 1) K o).render o.dp expc er plusReq := by
  unfold posFlat posOf
  by_cases c1 : leading ≥ K.length
  · rw [if_pos c1, if_pos c1]
    by_cases c2 : o.trim = true
    · rw [if_pos c2, if_pos c2]
      simp only [Shape.render, fracText, expPart, zeros_eq_chars, chars_append, List.append_nil]
    · rw [if_neg c2, if_neg c2]
      simp only [Shape.render, fracText, expPart, pad_eq_chars, zeros_eq_chars, chars_append, chars_cons, digitChar_zero,
        List.append_nil, List.cons_append, List.nil_append, List.append_assoc]
  · rw [if_neg c1, if_neg c1]
    simp only [Shape.render, fracText, expPart, pad_eq_chars, chars_append, List.append_nil, List.cons_append,
      List.nil_append, List.append_assoc]

theorem sciMantissa_render (fmt : Format) (R : List Nat) (e : Int) (o : WOpts) (expc er : Nat) (plusReq : Bool) :
    sciMantissa fmt R.length (digitChar (R.headD 0)) (chars R.tail) o ++ expText plusReq er expc e =
      (sciOf fmt.noExponentWithoutFraction R e o).render o.dp expc er plusReq := by
  unfold sciMantissa sciOf Shape.render
  dsimp only [expPart]
  by_cases c1 : ¬ fmt.noExponentWithoutFraction = true ∧ R.length = 1 ∧ o.trim = true
  · rw [if_pos c1, if_pos c1]
    rfl
  · rw [if_neg c1, if_neg c1]
    by_cases c2 : R.length < minExactDigits R.length o
    · rw [if_pos c2, if_pos c2]
      simp only [fracText, chars_append, chars_padZ, if_pos c2, chars_cons, chars_nil, List.append_assoc, List.cons_append,
        List.nil_append]
    · rw [if_neg c2, if_neg c2]
      by_cases c3 : R.length = 1
      · rw [if_pos c3, if_pos c3]
        rfl
      · rw [if_neg c3, if_neg c3]
        simp only [fracText, chars_cons, chars_nil, List.cons_append, List.nil_append]

theorem writeScientific_shape (fmt : Format) (feats : Features) (ds : List Nat) (sci : Int) (o : WOpts) (er : Nat) :
    writeScientific fmt feats ds sci o er =
      (sciShape fmt.noExponentWithoutFraction ds sci o).render o.dp o.exp er (plusReqOf fmt feats) := by
  rw [writeScientific_flat, writeExponent_expText]
  exact sciMantissa_render _ _ _ _ _ _ _

theorem writeNegative_shape (ds : List Nat) (sci : Int) (o : WOpts) (expc er : Nat) (plusReq : Bool) :
    writeNegative ds sci o = (negShape ds sci o).render o.dp expc er plusReq := by
  rw [writeNegative_flat]
  unfold negShape
  split
  · exact posFlat_render _ _ _ _ _ _
  · exact negFlat_render _ _ _ _ _ _

theorem writePositive_shape (ds : List Nat) (sci : Int) (o : WOpts) (expc er : Nat) (plusReq : Bool) :
    writePositive ds sci o = (posShape ds sci o).render o.dp expc er plusReq := by
  rw [writePositive_flat]
  exact posFlat_render _ _ _ _ _ _

/-- `algorithm::write_float` (notation chosen on the un-carried exponent, rounding inside the layout) -/
def shapeN (fmt : Format) (ds : List Nat) (sci : Int) (o : WOpts) : Shape :=
  let outside := sci < o.negBreak.getD (-5) ∨ sci > o.posBreak.getD 9
  if ¬ fmt.noExponentNotation = true ∧ (fmt.requiredExponentNotation = true ∨ outside) then
    sciShape fmt.noExponentWithoutFraction ds sci o
  else if sci < 0 then negShape ds sci o
  else posShape ds sci o

/-- `compact::write_float` (round first, notation chosen on the carried exponent) -/
def shapeC (fmt : Format) (ds : List Nat) (sci : Int) (o : WOpts) : Shape :=
  let tr := truncateAndRound ds o
  shapeN fmt tr.1 (sci + (if tr.2 then 1 else 0)) { o with maxDigits := none }

theorem writeDigitsN_shape (fmt : Format) (feats : Features) (ds : List Nat) (sci : Int) (o : WOpts) :
    writeDigitsN fmt feats ds sci o =
      (shapeN fmt ds sci o).render o.dp o.exp fmt.exponentRadix (plusReqOf fmt feats) := by
  unfold writeDigitsN shapeN
  simp only []
  split
  · exact writeScientific_shape fmt feats ds sci o _
  · split
    · exact writeNegative_shape ds sci o _ _ _
    · exact writePositive_shape ds sci o _ _ _

theorem writeDigitsC_shape (fmt : Format) (feats : Features) (ds : List Nat) (sci : Int) (o : WOpts) :
    writeDigitsC fmt feats ds sci o =
      (shapeC fmt ds sci o).render o.dp o.exp fmt.exponentRadix (plusReqOf fmt feats) := by
  have h := writeDigitsN_shape fmt feats (truncateAndRound ds o).1
    (sci + (if (truncateAndRound ds o).2 then 1 else 0)) { o with maxDigits := none }
  unfold shapeC
  simp only [] at h ⊢
  rw [← h]
  rfl

def keptN (fmt : Format) (ds : List Nat) (sci : Int) (o : WOpts) : List Nat :=
  let outside := sci < o.negBreak.getD (-5) ∨ sci > o.posBreak.getD 9
  if ¬ fmt.noExponentNotation = true ∧ (fmt.requiredExponentNotation = true ∨ outside) then (roundSci ds o).1
  else if sci < 0 then (truncateAndRound ds o).1
  else (roundPos ds sci o).1

def keptC (fmt : Format) (ds : List Nat) (sci : Int) (o : WOpts) : List Nat :=
  let tr := truncateAndRound ds o
  keptN fmt tr.1 (sci + (if tr.2 then 1 else 0)) { o with maxDigits := none }

/-- digits laid out by the back-end selected by the feature set: the rounded digits, minus the zeros that
`trim_floats` drops after rounding (`kept_spec`) -/
def keptOf (fmt : Format) (feats : Features) (ds : List Nat) (sci : Int) (o : WOpts) : List Nat :=
  if feats.compact then keptC (effFmt feats fmt) ds sci o else keptN (effFmt feats fmt) ds sci o

theorem all_zero_replicate (l : List Nat) (h : l.all (· = 0) = true) : l = List.replicate l.length 0 := by
  induction l with
  | nil => rfl
  | cons d t ih =>
    simp only [List.all_cons, Bool.and_eq_true, decide_eq_true_eq] at h
    rw [List.length_cons, List.replicate_succ, ← ih h.2, h.1]

theorem trimPos_zeros (o : WOpts) (l : Nat) (ds : List Nat) : ∃ m, ds = trimPos o l ds ++ List.replicate m 0 := by
  unfold trimPos
  split
  · rename_i h
    refine ⟨(ds.drop l).length, ?_⟩
    rw [← all_zero_replicate (ds.drop l) h.2.2, List.take_append_drop]
  · exact ⟨0, by simp⟩

theorem trimSci_zeros (o : WOpts) (ds : List Nat) : ∃ m, ds = trimSci o ds ++ List.replicate m 0 :=
  trimSci_eq_trimPos o ds ▸ trimPos_zeros o 1 ds

theorem keptN_spec (fmt : Format) (ds : List Nat) (sci : Int) (o : WOpts) :
    ∃ m, (truncateAndRound ds o).1 = keptN fmt ds sci o ++ List.replicate m 0 := by
  unfold keptN roundSci roundPos
  simp only []
  split
  · exact trimSci_zeros o _
  · split
    · exact ⟨0, by simp⟩
    · exact trimPos_zeros o _ _

theorem kept_spec (fmt : Format) (feats : Features) (ds : List Nat) (sci : Int) (o : WOpts) :
    ∃ m, (truncateAndRound ds o).1 = keptOf fmt feats ds sci o ++ List.replicate m 0 := by
  unfold keptOf keptC
  split
  · have := keptN_spec (effFmt feats fmt) (truncateAndRound ds o).1
      (sci + (if (truncateAndRound ds o).2 then 1 else 0)) { o with maxDigits := none }
    rw [truncateAndRound_none _ _ rfl] at this
    exact this
  · exact keptN_spec _ ds sci o

theorem kept_noTrim (fmt : Format) (feats : Features) (ds : List Nat) (sci : Int) (o : WOpts) (h : o.trim = false) :
    keptOf fmt feats ds sci o = (truncateAndRound ds o).1 := by
  have hs : ∀ l, trimSci o l = l := by intro l; unfold trimSci; simp [h]
  have hp : ∀ n l, trimPos o n l = l := by intro n l; unfold trimPos; simp [h]
  have hs' : ∀ l, trimSci { o with maxDigits := none } l = l := hs
  have hp' : ∀ n l, trimPos { o with maxDigits := none } n l = l := hp
  unfold keptOf keptC keptN roundSci roundPos
  simp only [hs, hp, hs', hp', truncateAndRound_none _ { o with maxDigits := none } rfl]
  repeat' split
  all_goals rfl

def shapeOf (fmt : Format) (feats : Features) (ds : List Nat) (sci : Int) (o : WOpts) : Shape :=
  if feats.compact then shapeC (effFmt feats fmt) ds sci o else shapeN (effFmt feats fmt) ds sci o

theorem writeDecimal_shape (fmt : Format) (feats : Features) (ds : List Nat) (sci : Int) (o : WOpts) :
    writeDecimal fmt feats ds sci o =
      (shapeOf fmt feats ds sci o).render o.dp o.exp (effFmt feats fmt).exponentRadix
        (plusReqOf (effFmt feats fmt) feats) := by
  unfold writeDecimal shapeOf
  split
  · exact writeDigitsC_shape _ feats ds sci o
  · exact writeDigitsN_shape _ feats ds sci o

/-! ## every byte of a rendered shape

A property of all bytes of the text (7-bit ASCII, "digit or point", "not the separator") is checked once on `render`:
of the digit characters, of the point where there is a fraction, of the exponent text where there is an exponent. -/
section bytes
open LexVerif.Proof.WriteFloatAscii

theorem allP_expText {P : Nat → Prop} (plusReq : Bool) (er expc : Nat) (e : Int) (hc : P expc) (h45 : P 45) (h43 : P 43)
    (hnum : AllP P (numeral er e.natAbs)) : AllP P (expText plusReq er expc e) := by
  unfold expText expSignBytes
  simp only [allP_append_iff, allP_cons_iff, allP_nil_iff, and_true]
  refine ⟨⟨hc, ?_⟩, hnum⟩
  split
  · simpa using h45
  · split
    · simpa using h43
    · simp

theorem allP_render {P : Nat → Prop} {r : Nat} (hdig : ∀ d, d < r → P (digitChar d)) (dp expc er : Nat) (plusReq : Bool)
    (s : Shape) (hs : s.Below r) (hdp : s.frac ≠ none → P dp)
    (hexp : ∀ e, s.exp = some e → AllP P (expText plusReq er expc e)) :
    AllP P (s.render dp expc er plusReq) := by
  obtain ⟨ints, frac, exp⟩ := s
  unfold Shape.render
  simp only [allP_append_iff]
  refine ⟨allP_chars hdig hs.1, ?_, ?_⟩
  · cases frac with
    | none => exact allP_nil_iff.mpr trivial
    | some fs => exact (allP_cons_iff _ _).mpr ⟨hdp (by simp), allP_chars hdig (hs.2 fs rfl)⟩
  · cases exp with
    | none => exact allP_nil_iff.mpr trivial
    | some e => exact hexp e rfl

theorem sciShape_below (noEWF : Bool) (ds : List Nat) (sci : Int) (o : WOpts) (hR : Digs 10 (roundSci ds o).1) :
    (sciShape noEWF ds sci o).Below 10 := sciOf_below (by omega) _ hR _ _

theorem negShape_below (ds : List Nat) (sci : Int) (o : WOpts) (hR : Digs 10 (truncateAndRound ds o).1) :
    (negShape ds sci o).Below 10 := by
  unfold negShape
  split
  · exact posOf_below (by omega) _ _ (by simp) _
  · exact negOf_below (by omega) _ hR _

theorem posShape_below (ds : List Nat) (sci : Int) (o : WOpts) (hR : Digs 10 (roundPos ds sci o).1) :
    (posShape ds sci o).Below 10 := posOf_below (by omega) _ _ hR _

theorem shapeN_below (fmt : Format) (ds : List Nat) (sci : Int) (o : WOpts) (hd : Digs 10 ds) :
    (shapeN fmt ds sci o).Below 10 := by
  unfold shapeN
  dsimp only
  split
  · exact sciShape_below _ ds sci o (roundSci_digs ds o hd)
  · split
    · exact negShape_below ds sci o (truncateAndRound_digs ds o hd)
    · exact posShape_below ds sci o (roundPos_digs ds sci o hd)

theorem negShape_exp (ds : List Nat) (sci : Int) (o : WOpts) : (negShape ds sci o).exp = none := by
  unfold negShape; split
  · exact posOf_exp _ _ _ _
  · rfl

theorem posShape_exp (ds : List Nat) (sci : Int) (o : WOpts) : (posShape ds sci o).exp = none := posOf_exp _ _ _ _

theorem allP_writeNegative {P : Nat → Prop} (hdig : ∀ d, d < 10 → P (digitChar d)) (ds : List Nat) (e : Int) (o : WOpts)
    (hd : Digs 10 ds) (hdp : P o.dp) : AllP P (writeNegative ds e o) := by
  rw [writeNegative_shape ds e o 0 10 false]
  exact allP_render hdig _ _ _ _ _ (negShape_below ds e o (truncateAndRound_digs ds o hd)) (fun _ => hdp)
    (fun e' he => by rw [negShape_exp] at he; cases he)

theorem allP_writePositive {P : Nat → Prop} (hdig : ∀ d, d < 10 → P (digitChar d)) (ds : List Nat) (e : Int) (o : WOpts)
    (hd : Digs 10 ds) (hdp : P o.dp) : AllP P (writePositive ds e o) := by
  rw [writePositive_shape ds e o 0 10 false]
  exact allP_render hdig _ _ _ _ _ (posShape_below ds e o (roundPos_digs ds e o hd)) (fun _ => hdp)
    (fun e' he => by rw [posShape_exp] at he; cases he)

theorem shapeOf_below (fmt : Format) (feats : Features) (ds : List Nat) (sci : Int) (o : WOpts) (hd : Digs 10 ds) :
    (shapeOf fmt feats ds sci o).Below 10 := by
  unfold shapeOf shapeC
  split
  · exact shapeN_below _ _ _ _ (truncateAndRound_digs ds o hd)
  · exact shapeN_below _ ds sci o hd

end bytes

end LexVerif.Proof.RoundTrip
