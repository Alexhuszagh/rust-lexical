import LexVerif.Spec.Tables
import LexVerif.Spec.PowerTables
import LexVerif.Proof.DragonboxArith
/-!
# Proof.FloorLogCert — `(c·q) >> s = ⌊q·log_B A⌋` on `|q| ≤ N` from one pair of Farey neighbours

The sources compute floor logarithms by a multiplication and a shift (`floor_log10_pow2`, `fast_binary_power`, the `log2`
multiplier of `bellerophon_powers(radix)` …). Let `p1/q1 < log_B A < p2/q2` (that is `B^p1 < A^q1`, `A^q2 < B^p2`) with
`p2·q1 − p1·q2 = 1` and `q1 + q2 > N`. No fraction with denominator `≤ N` lies strictly between such neighbours, so if `c/d`
lies between them too, then `⌊n·c/d⌋ = ⌊n·log_B A⌋` for `1 ≤ n ≤ N`, and `n·c/d` is never an integer, which settles `−n`.
`logCertOk` finds the pair by Stern–Brocot descent and checks these conditions: two comparisons of powers per formula,
where a sweep over the range needs two per exponent.
-/
namespace LexVerif.Proof.FloorLog
open LexVerif.Spec.Tables LexVerif.Spec.PowerTables

/-- `n = α·q1 + β·q2` with `α = n·p2 − m·q2 ≥ 1`, `β = m·q1 − n·p1 ≥ 1` -/
theorem lattice_big {p1 q1 p2 q2 n m : Int} (hq1 : 0 ≤ q1) (hq2 : 0 ≤ q2) (det : p2 * q1 = p1 * q2 + 1)
    (hα : 1 ≤ n * p2 - m * q2) (hβ : 1 ≤ m * q1 - n * p1) : q1 + q2 ≤ n := by
  have key : n = (n * p2 - m * q2) * q1 + (m * q1 - n * p1) * q2 := by grind
  have h1 : 1 * q1 ≤ (n * p2 - m * q2) * q1 := Int.mul_le_mul_of_nonneg_right hα hq1
  have h2 : 1 * q2 ≤ (m * q1 - n * p1) * q2 := Int.mul_le_mul_of_nonneg_right hβ hq2
  omega

theorem lattice_nat {p1 q1 p2 q2 n m : Nat} (det : p2 * q1 = p1 * q2 + 1) (hα : m * q2 < n * p2)
    (hβ : n * p1 < m * q1) : q1 + q2 ≤ n := by
  have hα' : ((m * q2 : Nat) : Int) < (n * p2 : Nat) := by exact_mod_cast hα
  have hβ' : ((n * p1 : Nat) : Int) < (m * q1 : Nat) := by exact_mod_cast hβ
  simp only [Int.natCast_mul] at hα' hβ'
  have := lattice_big (p1 := p1) (q1 := q1) (p2 := p2) (q2 := q2) (n := n) (m := m) (by omega) (by omega)
    (by exact_mod_cast det) (by omega) (by omega)
  omega

theorem floor_between {p1 q1 p2 q2 c d n : Nat} (det : p2 * q1 = p1 * q2 + 1) (hn : n < q1 + q2) (h1 : 1 ≤ n)
    (hd : 0 < d) (hge : p1 * d ≤ c * q1) (hlt : c * q2 < p2 * d) :
    n * c / d * q1 ≤ n * p1 ∧ n * p2 ≤ (n * c / d + 1) * q2 := by
  have hv : n * c / d * d ≤ n * c := Nat.div_mul_le_self _ _
  have hv' : n * c < (n * c / d + 1) * d := by
    rw [Nat.mul_comm]; exact Nat.lt_mul_of_div_lt (Nat.lt_succ_self _) hd
  constructor
  · refine Nat.le_of_not_lt fun hcon => ?_
    -- `v/n ≤ c/d < p2/q2` and, were the claim false, `p1/q1 < v/n`
    have hα : n * c / d * q2 < n * p2 := by
      have s : n * c / d * q2 * d < n * p2 * d := by
        calc n * c / d * q2 * d = n * c / d * d * q2 := by grind
          _ ≤ n * c * q2 := Nat.mul_le_mul_right _ hv
          _ = n * (c * q2) := by grind
          _ < n * (p2 * d) := Nat.mul_lt_mul_of_pos_left hlt (by omega)
          _ = n * p2 * d := by grind
      exact Nat.lt_of_mul_lt_mul_right s
    have := lattice_nat det hα hcon
    omega
  · refine Nat.le_of_not_lt fun hcon => ?_
    -- `p1/q1 ≤ c/d < (v+1)/n` and, were the claim false, `(v+1)/n < p2/q2`
    have hβ : n * p1 < (n * c / d + 1) * q1 := by
      have hq1 : 0 < q1 := Nat.pos_of_ne_zero fun h0 => by subst h0; omega
      have s : n * p1 * d < (n * c / d + 1) * q1 * d := by
        calc n * p1 * d = n * (p1 * d) := by grind
          _ ≤ n * (c * q1) := Nat.mul_le_mul_left _ hge
          _ = n * c * q1 := by grind
          _ < (n * c / d + 1) * d * q1 := Nat.mul_lt_mul_of_pos_right hv' hq1
          _ = (n * c / d + 1) * q1 * d := by grind
      exact Nat.lt_of_mul_lt_mul_right s
    have := lattice_nat det hcon hβ
    omega

theorem floorLog_of_neighbours {A B N p1 q1 p2 q2 c d : Nat} (hB : 1 < B) (hq1 : 0 < q1) (hq2 : 0 < q2)
    (det : p2 * q1 = p1 * q2 + 1) (big : N < q1 + q2)
    (hlo : B ^ p1 < A ^ q1) (hhi : A ^ q2 < B ^ p2) (hd : 0 < d) (hgt : p1 * d < c * q1) (hlt : c * q2 < p2 * d)
    {n : Nat} (h1 : 1 ≤ n) (hn : n ≤ N) :
    B ^ (n * c / d) < A ^ n ∧ A ^ n < B ^ (n * c / d + 1) ∧ ¬ d ∣ n * c := by
  obtain ⟨lo, hi⟩ := floor_between det (by omega) h1 hd (Nat.le_of_lt hgt) hlt
  have hB0 : 0 < B := by omega
  refine ⟨?_, ?_, ?_⟩
  · refine (Nat.pow_lt_pow_iff_left (Nat.pos_iff_ne_zero.mp hq1)).mp ?_
    calc (B ^ (n * c / d)) ^ q1 = B ^ (n * c / d * q1) := (Nat.pow_mul ..).symm
      _ ≤ B ^ (n * p1) := Nat.pow_le_pow_right hB0 lo
      _ = (B ^ p1) ^ n := by rw [Nat.mul_comm, Nat.pow_mul]
      _ < (A ^ q1) ^ n := Nat.pow_lt_pow_left hlo (by omega)
      _ = (A ^ n) ^ q1 := by rw [← Nat.pow_mul, ← Nat.pow_mul, Nat.mul_comm]
  · refine (Nat.pow_lt_pow_iff_left (Nat.pos_iff_ne_zero.mp hq2)).mp ?_
    calc (A ^ n) ^ q2 = (A ^ q2) ^ n := by rw [← Nat.pow_mul, ← Nat.pow_mul, Nat.mul_comm]
      _ < (B ^ p2) ^ n := Nat.pow_lt_pow_left hhi (by omega)
      _ = B ^ (n * p2) := by rw [← Nat.pow_mul, Nat.mul_comm]
      _ ≤ B ^ ((n * c / d + 1) * q2) := Nat.pow_le_pow_right hB0 hi
      _ = (B ^ (n * c / d + 1)) ^ q2 := Nat.pow_mul ..
  · -- an integral `n·c/d = m` would give `n·p1 < m·q1`, against `floor_between`
    rintro ⟨m, hm⟩
    have hv : n * c / d = m := by rw [hm, Nat.mul_div_cancel_left _ hd]
    rw [hv] at lo
    have s : n * p1 * d < m * q1 * d := by
      calc n * p1 * d = n * (p1 * d) := by grind
        _ < n * (c * q1) := Nat.mul_lt_mul_of_pos_left hgt (by omega)
        _ = m * q1 * d := by grind
    have := Nat.lt_of_mul_lt_mul_right s
    omega

theorem neg_ediv_of_not_dvd {x d : Nat} (hd : 0 < d) (h : ¬ d ∣ x) :
    (-(x : Int)) / (d : Int) = -((x / d : Nat) : Int) - 1 := by
  have hs : 0 < x % d := Nat.pos_of_ne_zero fun h0 => h (Nat.dvd_of_mod_eq_zero h0)
  have hlt : x % d < d := Nat.mod_lt _ hd
  have hx : (x : Int) = d * (x / d : Nat) + (x % d : Nat) := by exact_mod_cast (Nat.div_add_mod x d).symm
  have hd' : (0 : Int) < d := by exact_mod_cast hd
  have hs' : (0 : Int) < (x % d : Nat) := by exact_mod_cast hs
  have hlt' : ((x % d : Nat) : Int) < d := by exact_mod_cast hlt
  exact ((Int.ediv_emod_unique (r := (d : Int) - (x % d : Nat)) hd').mpr
    ⟨by rw [hx]; grind, by omega, by omega⟩).1

/-- Stern–Brocot descent towards `log_B A` (`p/q ≤ log_B A` iff `B^p ≤ A^q`) until `q1 + q2 > N`; only its output is checked -/
def sbGo (A B N : Nat) : Nat → Nat → Nat → Nat → Nat → Nat × Nat × Nat × Nat
  | 0, p1, q1, p2, q2 => (p1, q1, p2, q2)
  | f + 1, p1, q1, p2, q2 =>
    if N < q1 + q2 then (p1, q1, p2, q2)
    else if B ^ (p1 + p2) ≤ A ^ (q1 + q2) then sbGo A B N f (p1 + p2) (q1 + q2) p2 q2
    else sbGo A B N f p1 q1 (p1 + p2) (q1 + q2)

/-- The fuel only has to exceed the length of the descent (the partial quotients of `log_B A` up to denominator `N` sum to a
few dozen); too little fuel makes the check fail. -/
def logCertOk (A B N c d : Nat) : Bool :=
  let f := sbGo A B N 4000 0 1 1 0
  let p1 := f.1; let q1 := f.2.1; let p2 := f.2.2.1; let q2 := f.2.2.2
  decide (0 < q1 ∧ 0 < q2 ∧ p2 * q1 = p1 * q2 + 1 ∧ N < q1 + q2 ∧ B ^ p1 < A ^ q1 ∧ A ^ q2 < B ^ p2 ∧
    0 < d ∧ p1 * d < c * q1 ∧ c * q2 < p2 * d)

theorem logCertOk_spec {A B N c d : Nat} (hB : 1 < B) (h : logCertOk A B N c d = true) {n : Nat} (h1 : 1 ≤ n)
    (hn : n ≤ N) : 0 < d ∧ B ^ (n * c / d) < A ^ n ∧ A ^ n < B ^ (n * c / d + 1) ∧ ¬ d ∣ n * c := by
  simp only [logCertOk, decide_eq_true_eq] at h
  obtain ⟨a1, a2, a3, a4, a5, a6, a7, a8, a9⟩ := h
  exact ⟨a7, floorLog_of_neighbours hB a1 a2 a3 a4 a5 a6 a7 a8 a9 h1 hn⟩

theorem logCertOk_cases {A B N c d : Nat} (hB : 1 < B) (h : logCertOk A B N c d = true) {q : Int}
    (h1 : -(N : Int) ≤ q) (h2 : q ≤ N) :
    (q = 0 ∧ (c : Int) * q / d = 0) ∨
    ∃ n w : Nat, 1 ≤ n ∧ B ^ w < A ^ n ∧ A ^ n < B ^ (w + 1) ∧
      ((q = n ∧ (c : Int) * q / d = w) ∨ (q = -(n : Int) ∧ (c : Int) * q / d = -(w : Int) - 1)) := by
  rcases Int.lt_trichotomy q 0 with hq | rfl | hq
  · obtain ⟨n, rfl⟩ : ∃ n : Nat, q = -(n : Int) := ⟨(-q).toNat, by omega⟩
    obtain ⟨hd, l, u, nd⟩ := logCertOk_spec hB h (n := n) (by omega) (by omega)
    refine .inr ⟨n, n * c / d, by omega, l, u, .inr ⟨rfl, ?_⟩⟩
    rw [← neg_ediv_of_not_dvd hd nd]; congr 1; push_cast; grind
  · exact .inl ⟨rfl, by simp⟩
  · obtain ⟨n, rfl⟩ : ∃ n : Nat, q = (n : Int) := ⟨q.toNat, by omega⟩
    obtain ⟨-, l, u, -⟩ := logCertOk_spec hB h (n := n) (by omega) (by omega)
    exact .inr ⟨n, n * c / d, by omega, l, u, .inl ⟨rfl, by push_cast; rw [Int.mul_comm]⟩⟩

theorem isFloorLog_of_cert {A B N c d : Nat} (hB : 1 < B) (h : logCertOk A B N c d = true) {q : Int}
    (h1 : -(N : Int) ≤ q) (h2 : q ≤ N) : IsFloorLog B (powNum A q) (powDen A q) ((c : Int) * q / d) := by
  have pn : ∀ (X : Nat) (v : Nat), powNum X (v : Int) = X ^ v ∧ powDen X (v : Int) = 1 := fun X v => by
    simp [powNum, powDen]
  have pd : ∀ (X : Nat) (v : Nat), powNum X (-(v : Int) - 1) = 1 ∧ powDen X (-(v : Int) - 1) = X ^ (v + 1) :=
    fun X v => by
      have e : (-(-(v : Int) - 1)).toNat = v + 1 := by omega
      simp only [powNum, powDen, e, show ¬ (0 : Int) ≤ -(v : Int) - 1 by omega, if_false, and_self]
  unfold IsFloorLog PowLeRat
  rcases logCertOk_cases hB h h1 h2 with ⟨rfl, e⟩ | ⟨n, w, hn, l, u, ⟨rfl, e⟩ | ⟨rfl, e⟩⟩
  · rw [e]; simp [powNum, powDen]; omega
  · have e2 : (w : Int) + 1 = ((w + 1 : Nat) : Int) := by omega
    rw [e, e2, (pn A n).1, (pn A n).2, (pn B w).1, (pn B w).2, (pn B (w + 1)).1, (pn B (w + 1)).2]
    omega
  · obtain ⟨m, rfl⟩ : ∃ m, n = m + 1 := ⟨n - 1, by omega⟩
    have en : -((m + 1 : Nat) : Int) = -(m : Int) - 1 := by omega
    rw [e, en, (pd A m).1, (pd A m).2, (pd B w).1, (pd B w).2]
    refine ⟨by omega, ?_⟩
    cases w with
    | zero =>
      have : (-((0 : Nat) : Int) - 1 + 1) = ((0 : Nat) : Int) := by omega
      rw [this, (pn B 0).1, (pn B 0).2]; rw [Nat.pow_zero] at l ⊢; omega
    | succ w =>
      have : (-((w + 1 : Nat) : Int) - 1 + 1) = -(w : Int) - 1 := by omega
      rw [this, (pd B w).1, (pd B w).2]; omega

/-- the form of the sources: `((q * c) as i32) >> s` is `⌊log_B A^q⌋` while `c / 2^s` lies between the neighbours of
`log_B A` and `q·c` does not wrap -/
theorem mulShift_exact {A B N c s : Nat} (hB : 1 < B) (h : logCertOk A B N c (2 ^ s) = true)
    (hN : N * c < 2 ^ 31) {q : Int} (h1 : -(N : Int) ≤ q) (h2 : q ≤ N) :
    IsFloorLog B (powNum A q) (powDen A q) (Model.Dragonbox.i32 (q * c) / 2 ^ s) := by
  have hc : (0 : Int) ≤ c := Int.natCast_nonneg c
  have hN' : (N : Int) * c < 2 ^ 31 := by exact_mod_cast hN
  have l : -((N : Int) * c) ≤ q * c := Int.neg_mul .. ▸ Int.mul_le_mul_of_nonneg_right h1 hc
  have u : q * c ≤ N * c := Int.mul_le_mul_of_nonneg_right h2 hc
  rw [DragonboxArith.i32_id (by omega) (by omega), Int.mul_comm]
  have := isFloorLog_of_cert hB h h1 h2
  push_cast at this
  exact this

theorem isFloorLog2Q_of_cert {A N c d : Nat} (h : logCertOk A 2 N c d = true) {q : Int}
    (h1 : -(N : Int) ≤ q) (h2 : q ≤ N) : isFloorLog2Q (powQ A q).1 (powQ A q).2 ((c : Int) * q / d) = true := by
  rcases logCertOk_cases (by decide) h h1 h2 with ⟨rfl, e⟩ | ⟨n, w, hn, l, u, ⟨rfl, e⟩ | ⟨rfl, e⟩⟩
  · rw [e]; simp [powQ, isFloorLog2Q]
  · rw [e]
    simp only [powQ, isFloorLog2Q, Int.natCast_nonneg, ge_iff_le, if_true, Int.toNat_natCast, Nat.one_mul,
      Bool.and_eq_true, decide_eq_true_eq]
    exact ⟨Nat.le_of_lt l, u⟩
  · rw [e]
    have hq : ¬ (-(n : Int) ≥ 0) := by omega
    have hw : ¬ (-(w : Int) - 1 ≥ 0) := by omega
    have e1 : (-(-(n : Int))).toNat = n := by omega
    have e2 : (-(-(w : Int) - 1)).toNat = w + 1 := by omega
    simp only [powQ, isFloorLog2Q, hq, hw, if_false, e1, e2, Nat.one_mul, Bool.and_eq_true, decide_eq_true_eq]
    rw [Nat.pow_succ] at u ⊢
    omega

end LexVerif.Proof.FloorLog
