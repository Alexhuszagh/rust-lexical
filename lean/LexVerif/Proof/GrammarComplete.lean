import LexVerif.Proof.GrammarNumber
/-!
# Proof.GrammarComplete — `parse_complete_number` against `splitNumber` / `numberOk`

Also what `numberBits` reads back from a stored digit slice: `sliceDigits_sepfree`, `sliceDigits_run`, `sliceDigits_take`.
-/
namespace LexVerif.Proof.Grammar
open LexVerif LexVerif.Spec LexVerif.Model

/-- the literal the implementation's exponent accumulation denotes (`foldExponent` saturates at `0x10000000`) -/
def Parts.litSat (y : Syn) (p : Parts) : FloatLit :=
  ⟨p.sign == some true, p.ints, p.fracs, if p.hasExp then expValue y.expRadix p.expSign p.exps else 0⟩

theorem parseCompleteNumber_sound {c : Cfg} (o : POpts) (b : Bytes) (neg fv : Bool) (sign : Option Bool)
    (hs : StdIn c b.slc) (hv : b.index ≤ b.slc.length) :
    Wp (fun n =>
        ((splitNumber (cfgSyn c) o sign (tl b)).rest.isEmpty &&
          bodyOk (cfgSyn c) (splitNumber (cfgSyn c) o sign (tl b))) = true ∧
        NumberIs n neg ((tl b).take (splitNumber (cfgSyn c) o sign (tl b)).ints.length)
          (if (splitNumber (cfgSyn c) o sign (tl b)).point = true then
            some ((((tl b).drop (splitNumber (cfgSyn c) o sign (tl b)).ints.length).drop 1).take
              (splitNumber (cfgSyn c) o sign (tl b)).fracs.length) else none)
          (if (splitNumber (cfgSyn c) o sign (tl b)).hasExp = true then
            expValue c.exponentRadix (splitNumber (cfgSyn c) o sign (tl b)).expSign
              (splitNumber (cfgSyn c) o sign (tl b)).exps else 0))
      (Rej ((splitNumber (cfgSyn c) o sign (tl b)).rest.isEmpty &&
        bodyOk (cfgSyn c) (splitNumber (cfgSyn c) o sign (tl b))))
      (parseCompleteNumber c o b neg fv) := by
  unfold parseCompleteNumber
  refine Wp.bind (Wp.mono (parseNumber_spec false o b neg fv sign hs hv) (fun _ _ h => h)
    (fun e he hk => by simp [he hk])) ?_
  rintro ⟨n, cnt⟩ - ⟨hok, hnum, hcnt⟩
  simp only [Bytes.bufferLength] at hcnt ⊢
  refine Wp.ite (fun h => Wp.pure ⟨?_, hnum⟩) (fun h => Wp.error (fun _ => ?_))
  · have : (splitNumber (cfgSyn c) o sign (tl b)).rest = [] := List.eq_nil_of_length_eq_zero (by omega)
    simp [this, hok]
  · cases hr : (splitNumber (cfgSyn c) o sign (tl b)).rest with
    | nil => rw [hr] at hcnt; simp at hcnt; exact absurd hcnt h
    | cons _ _ => rfl

theorem takeDigits_take (r : Nat) : ∀ l : List Nat,
    (takeDigits r (l.take (takeDigits r l).1.length)).1 = (takeDigits r l).1 := by
  intro l
  induction l with
  | nil => simp [takeDigits]
  | cons x xs ih =>
    cases hd : digitVal r x with
    | none => simp [takeDigits, hd]
    | some d => simp [takeDigits, hd, ih]

/-- release or debug configuration: `sliceDigits` runs the release iterator -/
theorem sliceDigits_sepfree (c : Cfg) (k : Comp) (hk : c.skip k ≠ .unreachable) (s : List Nat)
    (hn : Sep.NoSep c s) : sliceDigits c k s = Sep.digitsPrefix c.mantissaRadix s := by
  unfold sliceDigits
  have h := Sep.parseDigits_nosep { c with debug := false } k c.mantissaRadix rfl hk (Bytes.new s) hn
  rw [h]
  simp [Bytes.new]

theorem sliceDigits_run (c : Cfg) (k : Comp) (hk : c.skip k ≠ .unreachable) (hr : c.mantissaRadix ≤ 255)
    (l : List Nat) (hl : ∀ x ∈ l, x < 256) (hn : Sep.NoSep c l) :
    sliceDigits c k (l.take (takeDigits c.mantissaRadix l).1.length) = (takeDigits c.mantissaRadix l).1 := by
  rw [sliceDigits_sepfree c k hk _ (hn.take _),
    digitsPrefix_eq_takeDigits _ hr _ (fun x hx => hl x (List.mem_of_mem_take hx)), takeDigits_take]

theorem sliceDigits_take {c : Cfg} (hs : Std c) (k : Comp) (l : List Nat) (hl : ∀ x ∈ l, x < 256) :
    sliceDigits c k (l.take (takeDigits c.mantissaRadix l).1.length) = (takeDigits c.mantissaRadix l).1 :=
  sliceDigits_run c k (by rw [hs.nosep.skip]; exact Skip.noConfusion) hs.radix l hl
    (Sep.noSep_of_sep_zero c hs.nosep.sep0 l)
end LexVerif.Proof.Grammar
