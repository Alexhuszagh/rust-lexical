import LexVerif.Proof.Tables.Logs
/-!
# Proof.DragonboxLogs — the `floor_log*` formulas of the model (the literals of algorithm.rs) equal the tables
dumped from the compiled crate (`Gen.Logs`) on the whole dumped domain. Composed with `Props.TablesWrite`
(`Gen.Logs` tables = true floor logarithms) in `Props/C02.lean`.
-/
namespace LexVerif.Proof.DragonboxLogs
open LexVerif.Proof.Tables LexVerif.Gen.Logs
open LexVerif.Model

theorem floorLog5Pow2_eq (q : Int) (h1 : floorLog5Pow2Lo ≤ q) (h2 : q ≤ floorLog5Pow2Hi) :
    Dragonbox.floorLog5Pow2 q = Gen.Logs.floorLog5Pow2 q := (Logs.log5Pow2_spec q h1 h2).2

theorem floorLog10Pow2_eq (q : Int) (h1 : floorLog10Pow2Lo ≤ q) (h2 : q ≤ floorLog10Pow2Hi) :
    Dragonbox.floorLog10Pow2 q = Gen.Logs.floorLog10Pow2 q := (Logs.log10Pow2_spec q h1 h2).2

theorem floorLog2Pow10_eq (q : Int) (h1 : floorLog2Pow10Lo ≤ q) (h2 : q ≤ floorLog2Pow10Hi) :
    Dragonbox.floorLog2Pow10 q = Gen.Logs.floorLog2Pow10 q := (Logs.log2Pow10_spec q h1 h2).2

theorem floorLog5Pow2MinusLog5_3_eq (q : Int) (h1 : floorLog5Pow2MinusLog5_3Lo ≤ q)
    (h2 : q ≤ floorLog5Pow2MinusLog5_3Hi) :
    Dragonbox.floorLog5Pow2MinusLog5_3 q = Gen.Logs.floorLog5Pow2MinusLog5_3 q :=
  (Logs.log5Pow2MinusLog5_3_spec q h1 h2).2

theorem floorLog10Pow2MinusLog10_4Over3_eq (q : Int) (h1 : floorLog10Pow2MinusLog10_4Over3Lo ≤ q)
    (h2 : q ≤ floorLog10Pow2MinusLog10_4Over3Hi) :
    Dragonbox.floorLog10Pow2MinusLog10_4Over3 q = Gen.Logs.floorLog10Pow2MinusLog10_4Over3 q :=
  (Logs.log10Pow2MinusLog10_4Over3_spec q h1 h2).2

end LexVerif.Proof.DragonboxLogs
