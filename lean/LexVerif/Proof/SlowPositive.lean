import LexVerif.Proof.SlowBigint
import LexVerif.Proof.BinaryCorrect
import LexVerif.Proof.Wrap
/-!
# Proof.SlowPositive — `positive_digit_comp` returns `roundNE (M · radix^e)`

`bigmant.pow(radix, e)` is the exact integer `X = M·radix^e` (`bigintPow_eq`, under the capacity guard);
`hi64` gives its 64 leading bits and the sticky flag; `shared::round` + `round_nearest_tie_even` with the
callback `is_above || (is_halfway && is_truncated) || (is_odd && is_halfway)` is round-half-even of the
**whole** integer, hence `roundNE X` (`round_sticky`; overflow to infinity included: `round_bits` clamps, `roundNE_norm_trunc` agrees).
-/

namespace LexVerif.Proof.Slow

open LexVerif.Spec LexVerif.Proof.Tables LexVerif.Model LexVerif.Model.Slow LexVerif.Model.Bellerophon

open LexVerif.Proof.RoundNE LexVerif.Proof.ExtRound LexVerif.Proof.BinaryCorrect

open LexVerif.Proof.Wrap

theorem asU32_ofNat {e : Int} (h0 : 0 ≤ e) (h : e < (2 ^ 32 : Int)) : asU32 e = e.toNat := by
  unfold asU32
  rw [Int.emod_eq_of_lt h0 h]

theorem upOf_positive (mant s : Nat) (t : Bool) :
    upOf mant s (fun isOdd isHalfway isAbove => isAbove || (isHalfway && t) || (isOdd && isHalfway)) =
      if mant % 2 ^ s > 2 ^ (s - 1) ∨ (mant % 2 ^ s = 2 ^ (s - 1) ∧ (t = true ∨ mant / 2 ^ s % 2 = 1))
      then 1 else 0 := by
  unfold upOf
  by_cases ha : mant % 2 ^ s > 2 ^ (s - 1)
  · have hne : ¬ mant % 2 ^ s = 2 ^ (s - 1) := by omega
    simp [ha, hne]
  · by_cases hh : mant % 2 ^ s = 2 ^ (s - 1)
    · cases t <;> by_cases ho : mant / 2 ^ s % 2 = 1 <;> simp [hh, ho]
    · simp [ha, hh]

/-- the 64 leading bits of `X` with the sticky flag round like the whole integer (`round_sticky`): `X` itself shifted up when it has at most
64 bits; else `X = mant·2^k + r`, `r < 2^k`, the truncated quotient with `c = 2^k`. The callback's increment is `upOf_positive`. -/
theorem round_hi64 {F p eb} (lay : Layout F p eb) {X : Nat} (hX : X ≠ 0) :
    0 ≤ (round F ⟨(hi64 X).1, (bitlen X : Int) - 64 + F.C.exponentBias⟩ fun f s =>
        roundNearestTieEven f s fun isOdd isHalfway isAbove =>
          isAbove || (isHalfway && (hi64 X).2) || (isOdd && isHalfway)).exp ∧
    extendedToFloat F (round F ⟨(hi64 X).1, (bitlen X : Int) - 64 + F.C.exponentBias⟩ fun f s =>
        roundNearestTieEven f s fun isOdd isHalfway isAbove =>
          isAbove || (isHalfway && (hi64 X).2) || (isOdd && isHalfway)) = roundNE F.fmt X 1 := by
  obtain ⟨hm1, hm2, hsmall, hbig⟩ := hi64_spec hX
  have hbp := bitlen_pos hX
  have hB := lay.bias
  have hL := lay.hL
  have hp := lay.hp; have hp64 := lay.hp64; have heb := lay.heb
  have hp2 : -((bitlen X : Int) - 64 + F.C.exponentBias) + 1 ≤ 64 := by rw [hB]; omega
  -- the flag `is_truncated` in the callback is the `r ≠ 0` of `round_sticky`
  have hcb : ∀ (mant s r : Nat), ((hi64 X).2 = true ↔ r ≠ 0) →
      upOf mant s (fun isOdd isHalfway isAbove => isAbove || (isHalfway && (hi64 X).2) || (isOdd && isHalfway)) =
        if mant % 2 ^ s > 2 ^ (s - 1) ∨ (mant % 2 ^ s = 2 ^ (s - 1) ∧ (mant / 2 ^ s % 2 = 1 ∨ r ≠ 0)) then 1 else 0 := by
    intro mant s r ht
    rw [upOf_positive]
    exact if_congr (or_congr Iff.rfl (and_congr Iff.rfl (or_comm.trans (or_congr Iff.rfl ht)))) rfl rfl
  by_cases hb : bitlen X ≤ 64
  · -- nothing truncated: `M = X`, `cz = 64 − bitlen X`, `c = 1`, `r = 0`
    obtain ⟨e1, e2⟩ := hsmall hb
    rw [e1] at hm1 hm2 ⊢
    have := round_sticky lay 1 X (64 - bitlen X) 1 0 0 hm1 hm2 (by omega) Nat.one_pos _ (by omega) hp2
      (fun h => absurd rfl h) _ (hcb _ _ 0 (by rw [e2]; simp))
    simpa [powFrac] using this
  · -- `X = mant·2^k + r`: `M = mant`, `cz = 0`, `c = 2^k`
    obtain ⟨e1, e2⟩ := hbig (by omega)
    have hs0 : 0 < shiftOf p ((bitlen X : Int) - 64 + F.C.exponentBias) := by unfold shiftOf; split <;> omega
    have := round_sticky lay 1 (hi64 X).1 0 (2 ^ (bitlen X - 64)) (X % 2 ^ (bitlen X - 64)) ((bitlen X - 64 : Nat) : Int)
      (by simpa using hm1) (by simpa using hm2) (by omega) (Nat.mod_lt _ (Nat.two_pow_pos _)) _ (by omega)
      hp2 (fun _ => hs0) _ (by simpa using hcb _ _ _ e2)
    rw [← e1, powFrac_natCast] at this
    simp only [Nat.pow_zero, Nat.mul_one, Nat.pow_one, Nat.one_mul] at this
    have hsc := roundNE_scale' lay.wf (Nat.two_pow_pos (bitlen X - 64)) X Nat.one_pos
    rw [Nat.mul_one] at hsc
    rwa [Nat.mul_comm X, hsc] at this

/-- `e < 2^29`: the `u32` product `exp * shift` does not wrap; `hfit` is exactly "no capacity check fails" -/
theorem positiveDigitComp_correct {F p eb} (lay : Layout F p eb) {E : Env} {radix : Nat} (T : BigPowOk E radix)
    (hcap : E.L.bigintLimbs < 2 ^ 20) {M : Nat} (hM : M ≠ 0) {e : Int} (he0 : 0 ≤ e) (he : e < 2 ^ 29)
    (hfit : M * radix ^ e.toNat < 2 ^ (64 * E.L.bigintLimbs)) :
    ∃ r, positiveDigitComp E F radix M e = some r ∧ 0 ≤ r.exp ∧
      extendedToFloat F r = roundNE F.fmt (M * radix ^ e.toNat) 1 := by
  have hrad : 0 < radix := T.pos
  unfold positiveDigitComp
  rw [asU32_ofNat he0 (by omega), bigintPow_eq T hM e.toNat (by omega) hfit]
  simp only [Option.map_some]
  have hX : M * radix ^ e.toNat ≠ 0 := Nat.mul_ne_zero hM (Nat.ne_of_gt (Nat.pow_pos hrad))
  generalize M * radix ^ e.toNat = X at *
  have hbl : bitlen X ≤ 64 * E.L.bigintLimbs := (bitlen_le_iff _ _).mpr hfit
  have hB := lay.bias
  have heb := lay.heb15
  have hpp := lay.hp64
  have hbias : F.C.exponentBias < 2 ^ 16 := by
    rw [hB]
    have : 2 ^ (eb - 1) ≤ 2 ^ 14 := Nat.pow_le_pow_right (by decide) (by omega)
    have h14 : (2 : Nat) ^ 14 = 16384 := by norm_num
    have h16 : (2 : Int) ^ 16 = 65536 := by norm_num
    omega
  have hbias0 : 0 ≤ F.C.exponentBias := by rw [hB]; omega
  have h20 : (2 : Nat) ^ 20 = 1048576 := by norm_num
  have h16 : (2 : Int) ^ 16 = 65536 := by norm_num
  have h31 : (2 : Int) ^ 31 = 2147483648 := by norm_num
  have e1 : wrapI32 ((bitLength X : Int) - 64) = (bitlen X : Int) - 64 := by
    unfold bitLength; apply wrapI32_eq <;> omega
  have e2 : wrapI32 ((bitlen X : Int) - 64 + F.C.exponentBias) = (bitlen X : Int) - 64 + F.C.exponentBias := by
    apply wrapI32_eq <;> omega
  rw [e1, e2]
  obtain ⟨a, b⟩ := round_hi64 lay hX
  exact ⟨_, rfl, a, b⟩

end LexVerif.Proof.Slow
