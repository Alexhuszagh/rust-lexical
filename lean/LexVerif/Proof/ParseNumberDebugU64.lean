import LexVerif.Proof.ParseNumberTotal
import LexVerif.Proof.IterSlice
/-!
# Proof.ParseNumberDebugU64 — `parse_u64_digits` in either build

The overflow check of `parse_u64_digits` never fires (obligation (d) of the list in `Props/C10Debug.lean`, Part 2):
invariant `m < radix ^ (S - step)`, `S = u64_step(radix)`, and `radix ^ S ≤ 2^64`. What a debug build needs of the
state the loops start in is `RunsOut`: `peek` hands out digits only, to the end of the buffer; `skip_zeros` keeps it.
-/
namespace LexVerif.Proof.PNDebug
open LexVerif LexVerif.Model
open LexVerif.Props.C12 (Bytes.Valid)
open LexVerif.Proof.PNTotal (Adv Env adv_scan canMultidigit_contig)
open LexVerif.Proof.IterSpec

variable {c : Cfg}

theorem horner_lt {acc d r n : Nat} (ha : acc < r ^ n) (hd : d < r) : acc * r + d < r ^ (n + 1) := by
  have h : (acc + 1) * r ≤ r ^ n * r := Nat.mul_le_mul_right r ha
  rw [Nat.succ_mul] at h
  rw [Nat.pow_succ]
  omega

theorem val8_fold_lt (r : Nat) : ∀ (bs : List Nat) (acc n : Nat), acc < r ^ n →
    (∀ x ∈ bs, 48 ≤ x ∧ x < 48 + r) →
    bs.foldl (fun a x => a * r + (x - 48)) acc < r ^ (n + bs.length) := by
  intro bs
  induction bs with
  | nil => intro acc n h _; simpa using h
  | cons x xs ih =>
    intro acc n h hall
    simp only [List.foldl_cons, List.length_cons]
    have hx := hall x (by simp)
    have := ih (acc * r + (x - 48)) (n + 1) (horner_lt h (by omega)) (fun y hy => hall y (by simp [hy]))
    have e : n + (xs.length + 1) = n + 1 + xs.length := by omega
    rw [e]; exact this

theorem is8Digits_mem {r : Nat} {bs : List Nat} (h : is8Digits r bs = true) : ∀ x ∈ bs, 48 ≤ x ∧ x < 48 + r := by
  intro x hx
  unfold is8Digits at h
  have := List.all_eq_true.mp h x hx
  simpa using this

theorem val8Digits_lt {r : Nat} {bs : List Nat} (h : is8Digits r bs = true) : val8Digits r bs < r ^ bs.length := by
  have := val8_fold_lt r bs 0 0 (by simp) (is8Digits_mem h)
  simpa [val8Digits] using this

def MInv (c : Cfg) (m step : Nat) : Prop :=
  step ≤ u64Step c.feats c.mantissaRadix ∧ m < c.mantissaRadix ^ (u64Step c.feats c.mantissaRadix - step)

theorem MInv.lt_pow2 (cx : Ctx c) {m step : Nat} (h : MInv c m step) : m < pow2_64 := by
  have h1 : c.mantissaRadix ^ (u64Step c.feats c.mantissaRadix - step) ≤ c.mantissaRadix ^ u64Step c.feats c.mantissaRadix :=
    Nat.pow_le_pow_right (by have := cx.r2; omega) (by omega)
  have := cx.pow
  exact Nat.lt_of_lt_of_le h.2 (Nat.le_trans h1 this)

theorem MInv.step (cx : Ctx c) {m step ch : Nat} (hinv : MInv c m step) (hs : step > 0)
    (hd : IsDig c.mantissaRadix ch) :
    MInv c (m * c.mantissaRadix + charToValidDigit ch c.mantissaRadix) (step - 1) ∧
      decide (m * c.mantissaRadix + charToValidDigit ch c.mantissaRadix ≥ pow2_64) = false := by
  have hinv2 : MInv c (m * c.mantissaRadix + charToValidDigit ch c.mantissaRadix) (step - 1) := by
    refine ⟨by have := hinv.1; omega, ?_⟩
    have e : u64Step c.feats c.mantissaRadix - (step - 1) = (u64Step c.feats c.mantissaRadix - step) + 1 := by
      have := hinv.1; omega
    rw [e]; exact horner_lt hinv.2 hd
  have := hinv2.lt_pow2 cx
  exact ⟨hinv2, by simp; omega⟩

theorem MInv.foldl (cx : Ctx c) : ∀ (l : List Nat) {m step : Nat}, MInv c m step → l.length ≤ step →
    (∀ x ∈ l, IsDig c.mantissaRadix x) →
    MInv c (l.foldl (fun m x => m * c.mantissaRadix + charToValidDigit x c.mantissaRadix) m) (step - l.length)
  | [], _, _, h, _, _ => h
  | x :: xs, m, step, h, hl, hd => by
    simp only [List.length_cons] at hl
    have := MInv.foldl cx xs (h.step cx (by omega) (hd x List.mem_cons_self)).1 (by omega)
      (fun y hy => hd y (List.mem_cons_of_mem _ hy))
    rw [List.foldl_cons, List.length_cons, show step - (xs.length + 1) = step - 1 - xs.length by omega]
    exact this

/-- `h10`: `radix8` is the 8th power for radix ≤ 10 only (`radix8_eq`) -/
theorem MInv.acc8 (cx : Ctx c) (h10 : c.mantissaRadix ≤ 10) (s : List Nat) : ∀ (lim i m step : Nat),
    lim ≤ (step - 1) / 8 → MInv c m step →
    MInv c (acc8 c.mantissaRadix s (blocks8 c.mantissaRadix s lim i) i m) (step - 8 * blocks8 c.mantissaRadix s lim i)
  | 0, i, m, step, _, h => by simpa [blocks8, IterSpec.acc8] using h
  | lim + 1, i, m, step, hl, hinv => by
    unfold blocks8
    split
    · next hc =>
      have hx := val8Digits_lt hc.2
      rw [show (at8 s i).length = 8 by simp only [at8, List.length_take, List.length_drop]; omega] at hx
      have hlt : m * c.mantissaRadix ^ 8 + val8Digits c.mantissaRadix (at8 s i)
          < c.mantissaRadix ^ (u64Step c.feats c.mantissaRadix - (step - 8)) := by
        have e : u64Step c.feats c.mantissaRadix - (step - 8) = (u64Step c.feats c.mantissaRadix - step) + 8 := by
          have := hinv.1; omega
        rw [e, Nat.pow_add]
        have h' := Nat.mul_le_mul_right (c.mantissaRadix ^ 8) hinv.2
        rw [Nat.succ_mul] at h'
        omega
      have hinv2 : MInv c (m * c.mantissaRadix ^ 8 + val8Digits c.mantissaRadix (at8 s i)) (step - 8) :=
        ⟨by have := hinv.1; omega, hlt⟩
      have := MInv.acc8 cx h10 s lim (i + 8) _ _ (by omega) hinv2
      rw [IterSpec.acc8, radix8_eq ⟨c.mantissaRadix, by omega⟩, Nat.mod_eq_of_lt (hinv2.lt_pow2 cx),
        show step - 8 * (blocks8 c.mantissaRadix s lim (i + 8) + 1) = step - 8 - 8 * blocks8 c.mantissaRadix s lim (i + 8) by
          omega]
      exact this
    · simpa [IterSpec.acc8] using hinv

/-! ## `parse_u64_digits`, one statement for both builds

A debug build asserts on every byte the loops take; what it needs is that they take digits only: `RunsOut`. -/

/-- every byte `peek` hands out from `b` to the end of the buffer is a mantissa digit: `parse_digits` restarted in `b`
runs out of the buffer -/
def RunsOut (c : Cfg) (k : Comp) (b : Bytes) : Prop := b.slc[(run c k (isDig c.mantissaRadix) b).2]? = none

/-- the scan cannot stop before the end on a digit, nor — skipping every separator — on a separator -/
theorem runsOut_of_ahead {k : Comp} {b : Bytes}
    (h : ∀ t, b.index ≤ t → t < b.slc.length → ∃ x, b.slc[t]? = some x ∧
      (IsDig c.mantissaRadix x ∨ c.skip k = .pred .iltc ∧ c.isSep x = true)) : RunsOut c k b := by
  unfold RunsOut
  rw [List.getElem?_eq_none_iff]
  apply Nat.le_of_not_lt
  intro hlt
  obtain ⟨x, hx, hd | ⟨hk, hs⟩⟩ := h _ (scan_ge ..) hlt
  · have := scan_stop (c := c) (k := k) b.slc _ _ _ _ (scan_fuel _ _ _ (by omega)) x hx
    rw [isDig_of_IsDig hd] at this; cases this
  · rw [scan_rest_iltc hk b.slc _ _ _ _ x hx] at hs; cases hs

theorem RunsOut.later {k : Comp} {b b' : Bytes} (h : RunsOut c k b) (hk : c.iterContiguous k = true)
    (ha : Adv b b') : RunsOut c k b' := by
  refine runsOut_of_ahead fun t h1 h2 => ?_
  have hns := (skip_noskip_iff c k).mpr hk
  rw [ha.slc] at h2 ⊢
  obtain ⟨x, hx, hq⟩ := scan_between (Q := fun _ x => isDig c.mantissaRadix x = true) b.slc (isDig c.mantissaRadix)
    (fun _ _ hp => hp) (fun f i t h1 h2 => by rw [peekIdx_noskip hns] at h2; omega)
    (b.slc.length + 1) (b.iterCount c k == 0) b.index t (by have := ha.mono; omega)
    (by have := List.getElem?_eq_none_iff.mp h; simp only [run] at this; omega)
  obtain ⟨d, hd⟩ := Option.isSome_iff_exists.mp hq
  exact ⟨x, hx, .inl (charToDigit_some hd)⟩

theorem RunsOut.scan_eq {k : Comp} {b : Bytes} (h : RunsOut c k b) (hv : Bytes.Valid b) (lim : Nat) :
    scan c k b.slc (fun _ => true) lim (b.iterCount c k == 0) b.index =
      scan c k b.slc (isDig c.mantissaRadix) lim (b.iterCount c k == 0) b.index := by
  have hL := scan_fuel (c := c) (k := k) b.slc (isDig c.mantissaRadix) (b.iterCount c k == 0) (i := b.index) (Nat.lt_succ_self _)
  have hle := scan_le (c := c) (k := k) b.slc (isDig c.mantissaRadix) lim (b.iterCount c k == 0) b.index hv
  rw [scan_mono b.slc (p := isDig c.mantissaRadix) (q := fun _ => true) (fun _ _ => rfl) lim lim _ _ (Nat.le_refl _)]
  -- the digit loop under the limit `lim` either used it up, or stopped by itself, and then where the unlimited one stops
  have key : (scan c k b.slc (isDig c.mantissaRadix) lim (b.iterCount c k == 0) b.index).1.length < lim →
      b.slc[(scan c k b.slc (isDig c.mantissaRadix) lim (b.iterCount c k == 0) b.index).2]? = none := by
    intro hlt
    rw [← scan_lim b.slc _ lim (b.slc.length + 1) _ _ hlt (by omega)]
    exact h
  unfold scanAt
  split
  · next l x hl hx =>
    rw [key (by omega)] at hx; cases hx
  · simp

theorem RunsOut.guards (cx : Ctx c) {k : Comp} {b : Bytes} (h : RunsOut c k b) (hv : Bytes.Valid b) {m step : Nat}
    (hinv : MInv c m step) :
    (∀ x ∈ (scan c k b.slc (fun _ => true) step (b.iterCount c k == 0) b.index).1, IsDig c.mantissaRadix x) ∧
    NoOv c.mantissaRadix m (scan c k b.slc (fun _ => true) step (b.iterCount c k == 0) b.index).1 := by
  have hd : ∀ x ∈ (scan c k b.slc (fun _ => true) step (b.iterCount c k == 0) b.index).1, IsDig c.mantissaRadix x := by
    rw [h.scan_eq hv]
    intro x hx
    obtain ⟨d, hd⟩ := Option.isSome_iff_exists.mp (scan_all _ _ _ _ _ x hx)
    exact charToDigit_some hd
  exact ⟨hd, NoOv.of_last (by have := cx.r2; omega) _ _ ((hinv.foldl cx _ (scan_len_le ..) hd).lt_pow2 cx)⟩

theorem parseU64Digits_env (cx : Env c) (k : Comp) (b : Bytes) (m step : Nat) (hv : Bytes.Valid b)
    (hdbg : c.debug = true → MInv c m step ∧ RunsOut c k b) :
    ∃ b' m' step', parseU64Digits c k b m step = .ok (b', m', step') ∧ Adv b b' ∧
      (step' = 0 ∨ b'.index = b.slc.length) ∧ (c.bytesContiguous = true → step' + b'.index = step + b.index) ∧
      (c.debug = true → MInv c m' step') := by
  -- the one-digit loop, from any later state `b1` of the buffer
  have one : ∀ (b1 : Bytes) (m1 step1 : Nat), Adv b b1 → (c.bytesContiguous = true → step1 + b1.index = step + b.index) →
      (c.debug = true → MInv c m1 step1 ∧ RunsOut c k b1) →
      ∃ b' m' step', u64Loop1 c k (b1.slc.length + 1) b1 m1 step1 = .ok (b', m', step') ∧ Adv b b' ∧
        (step' = 0 ∨ b'.index = b.slc.length) ∧ (c.bytesContiguous = true → step' + b'.index = step + b.index) ∧
        (c.debug = true → MInv c m' step') := by
    intro b1 m1 step1 ha hcnt hd1
    have hv1 := ha.valid'
    have hle := scan_le (c := c) (k := k) b1.slc (fun _ => true) step1 (b1.iterCount c k == 0) b1.index hv1
    rw [u64Loop1_eq (cx.hs k) _ b1 m1 step1
        (fun x hx hd => Or.inr fun he => (cx.dbg hd).sepNotDigM (he ▸ ((hd1 hd).2.guards (cx.dbg hd) hv1 (hd1 hd).1).1 x hx))
        (fun hd => ((hd1 hd).2.guards (cx.dbg hd) hv1 (hd1 hd).1).2),
      if_pos (by omega)]
    refine ⟨_, _, _, rfl, ha.trans (adv_scan k _ _ _ b1 hv1), ?_, fun hbc => ?_, fun hd => ?_⟩
    · rw [mv_index, ← ha.len]
      by_cases hl : (scan c k b1.slc (fun _ => true) step1 (b1.iterCount c k == 0) b1.index).1.length < step1
      · right
        have : b1.slc[(scan c k b1.slc (fun _ => true) step1 (b1.iterCount c k == 0) b1.index).2]? = none := by
          cases hx : b1.slc[(scan c k b1.slc (fun _ => true) step1 (b1.iterCount c k == 0) b1.index).2]? with
          | none => rfl
          | some x => cases scan_stop _ _ _ _ _ hl x hx
        have := List.getElem?_eq_none_iff.mp this
        omega
      · left; omega
    · have := scan_plain_idx (c := c) (k := k) b1.slc (fun _ => true)
        (peekIdx_bc hbc k _) step1 (b1.iterCount c k == 0) b1.index
      have := scan_len_le (c := c) (k := k) b1.slc (fun _ => true) step1 (b1.iterCount c k == 0) b1.index
      have := hcnt hbc
      rw [mv_index]; omega
    · obtain ⟨hdig, hov⟩ := (hd1 hd).2.guards (cx.dbg hd) hv1 (hd1 hd).1
      rw [NoOv.foldl_eq _ _ hov]
      exact (hd1 hd).1.foldl (cx.dbg hd) _ (scan_len_le ..) hdig
  rw [parseU64Digits_eq (fun hcm hd => (cx.dbg hd).multi k hcm)]
  unfold nblocksU
  split
  · next hcond =>
    simp only [Bool.and_eq_true, Bool.not_eq_true'] at hcond
    have hct := canMultidigit_contig hcond.2
    have hb8 := blocks8_le c.mantissaRadix b.slc ((step - 1) / 8) b.index hv
    have hl8 := blocks8_le_lim c.mantissaRadix b.slc ((step - 1) / 8) b.index
    have hacc := fun hd => MInv.acc8 (cx.dbg hd) ((cx.dbg hd).multi k hcond.2) b.slc _ b.index _ _ (Nat.le_refl _) (hdbg hd).1
    generalize blocks8 c.mantissaRadix b.slc ((step - 1) / 8) b.index = n at hb8 hl8 hacc ⊢
    have ha : Adv b (mv c k (b.index + 8 * n) (8 * n) b) := Adv.mv k (Nat.le_refl _) hb8
    simpa only [mv_slc] using one (mv c k (b.index + 8 * n) (8 * n) b) _ (step - 8 * n) ha
      (fun _ => by rw [mv_index]; omega) fun hd => ⟨hacc hd, (hdbg hd).2.later hct ha⟩
  · simpa [acc8, cur_self] using one b m step (Adv.refl b hv) (fun _ => rfl) hdbg

/-! ## `skip_zeros` in front of `parse_u64_digits` keeps `RunsOut` (a second loop along the digit loop) -/

theorem sep_not_isDigit (cx : Ctx c) (y : Nat) (hy : c.isSep y = true) : c.isDigit y = false := by
  have hs := isSep_eq hy
  have hlt : y < 256 := hs ▸ (Props.C18.unpack_bytes_lt c.fmt.raw).1
  cases h : c.isDigit y
  · rfl
  · exact absurd ((isDig_iff hlt (by have := cx.r36; omega)).mpr h) (hs ▸ cx.sepNotDigM)

theorem RunsOut.skipZeros (cx : Ctx c) {k : Comp} {b b' : Bytes} {z : Nat} (h : RunsOut c k b)
    (he : skipZeros c k b = .ok (z, b')) : RunsOut c k b' := by
  rw [skipZeros_eq (cx.skipOk k) b (fun _ => Or.inr (zero_ne_sep cx))] at he
  simp only [run, Except.ok.injEq, Prod.mk.injEq] at he
  obtain ⟨-, rfl⟩ := he
  have h48 : ∀ x, (x == 48) = true → isDig c.mantissaRadix x = true := fun x hx => by
    rw [beq_iff_eq.mp hx]; simp [isDig, CharDigit.charToDigit_48 _ (Nat.le_of_succ_le cx.r2)]
  unfold RunsOut run at h ⊢
  -- the digit loop from `b` is the zero loop followed by the digit loop from the cursor that one rests at
  rw [scan_mono b.slc h48 _ _ _ _ (Nat.le_refl _)] at h
  have hD := scan_fuel (c := c) (k := k) b.slc (isDig c.mantissaRadix) (b.iterCount c k == 0)
    (show b.slc.length - b.index < b.slc.length + 1 by omega)
  rw [scan_mono b.slc h48 _ _ _ _ (Nat.le_refl _)] at hD
  simp only [List.length_append] at hD
  simp only [mv_slc, mv_index]
  rw [scan_first _ _ _ (first_after c k b.slc _ _ _ b), scan_eq_scanAt, scan_rest (sep_not_isDigit cx),
    scanAt_lim b.slc _ (b.slc.length + 1 - (scan c k b.slc (· == 48) (b.slc.length + 1) (b.iterCount c k == 0)
      b.index).1.length) _ _ (by omega) (by omega)]
  exact h

theorem minv_init (cx : Ctx c) {step : Nat} (h : step ≤ u64Step c.feats c.mantissaRadix) : MInv c 0 step :=
  ⟨h, Nat.pow_pos (by have := cx.r2; omega)⟩

end LexVerif.Proof.PNDebug
