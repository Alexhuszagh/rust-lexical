import LexVerif.Proof.ParseNumberC11SepPeek
import LexVerif.Proof.PrefixRepair
/-!
# Proof.ParseNumberC11SepPhases — digit separators: integer, fraction and exponent phase under truncation

`parse_digits` for an arbitrary component iterator (no-skip or any of the 14 separator predicates) commutes with a cut admitted
for the state it returns: the separator is no digit, so a cursor on a digit is admitted by `Adm.of_lt` (`Cut.step_adm`).
What does not go through `peek` (8-digit blocks of contiguous iterators, slices, `parse_sign!`, base suffix) is in
`ParseNumberC11Trunc.lean`.

`SepCfg c o` collects what the argument needs: release build with the `format` feature, the separator
byte is not a digit and matches neither the decimal point, the exponent character nor the base prefix / suffix (all implied by
a valid format with valid options, up to ASCII case folding of the exponent / prefix / suffix character).
`ExpRadixOK c` is the EXACT condition for the open defect "the exponent iterator tests look-ahead bytes with the
mantissa radix": if the exponent predicate can ask for a digit after the separator (i, il, ic, ilc), every
mantissa-radix digit is an exponent-radix digit. It is needed for number results only.
-/
namespace LexVerif.Proof.C11
open LexVerif LexVerif.Model LexVerif.Spec
open LexVerif.Props.C12 (Bytes.Valid)
open LexVerif.Proof.PNTotal (Rel)

theorem notSep_of_digit {c : Cfg} {r : Nat} (hsd : ∀ x, c.isSep x = true → charToDigit x r = none) {x : Nat}
    (hd : charToDigit x r ≠ none) : c.isSep x = false :=
  Bool.eq_false_iff.2 fun hs => hd (hsd x hs)

section
variable {c : Cfg} (hc : Rel c)
include hc

theorem parseDigits_truncS (k : Comp) (r : Nat) (hsd : ∀ x, c.isSep x = true → charToDigit x r = none) :
    DigitsOK c k r :=
  parseDigits_cut hc (Cut.step_adm k _ fun _ => notSep_of_digit hsd)

omit hc in
theorem adm_of_stop (k : Comp) (r : Nat) (b' : Bytes) (n : Nat)
    (hstop : ∀ ch, b'.slc[b'.index]? = some ch → charToDigit ch r = none)
    (hdl : DigitLook c k → ∀ x, c.isDigit x = true → charToDigit x r ≠ none)
    (hn : b'.index ≤ n) (hsep : ∀ x, b'.slc[b'.index]? = some x → c.isSep x = true → n = b'.index) : Adm c k n b' := by
  refine ⟨hn, fun x hx => ⟨hsep x hx, fun hd hdx => ?_⟩⟩
  exact absurd (hstop x hx) (hdl hd x hdx)

end

structure SepCfg (c : Cfg) (o : POpts) : Prop where
  rel : Rel c
  fmt : c.feats.format = true
  /-- there is a digit-separator byte (otherwise `partial_prefix_number` applies) -/
  bytes : c.bytesContiguous = false
  /-- builds without `power-of-two` only have radix 10 (what `is_valid_radix` enforces) -/
  rad : c.feats.powerOfTwo = false → c.mantissaRadix ≤ 10
  radix : 1 ≤ c.mantissaRadix
  sepM : ∀ x, c.isSep x = true → charToDigit x c.mantissaRadix = none
  sepE : ∀ x, c.isSep x = true → charToDigit x c.exponentRadix = none
  /-- `is_digit` of the skip iterators (always the mantissa radix) agrees with the digit test of the mantissa loops -/
  digM : ∀ x, c.isDigit x = true → charToDigit x c.mantissaRadix ≠ none
  /-- the separator is no other punctuation -/
  dpSep : c.isSep o.dp = false
  expSep : ∀ x, c.isSep x = true → matchByte o.exp (c.caseSensitiveExponent && c.feats.format) (some x) = false
  sufSep : ∀ x, c.isSep x = true → matchByte c.baseSuffix c.caseSensitiveBaseSuffix (some x) = false
  preSep : ∀ x, c.isSep x = true → matchByte c.basePrefix c.caseSensitiveBasePrefix (some x) = false
  dpDig : charToDigit o.dp c.mantissaRadix = none
  /-- with the repaired base-prefix phase (`Model.prefixRepair`) the truncation argument is carried out for formats
  without base prefix only (`set_cursor(prefix_start)` may return to a state that is not a rest state of the skip iterator) -/
  preRep : prefixRepair = true → c.basePrefix = 0

/-- exact exclusion of the open defect: an exponent predicate that looks for a digit after the separator needs
mantissa digits ⊆ exponent digits -/
def ExpRadixOK (c : Cfg) : Prop :=
  DigitLook c .exponent → ∀ x, c.isDigit x = true → charToDigit x c.exponentRadix ≠ none

section
variable {c : Cfg} {o : POpts} (H : SepCfg c o)
include H

theorem isDigit_sep (y : Nat) (hs : c.isSep y = true) : c.isDigit y = false := by
  cases hd : c.isDigit y with
  | false => rfl
  | true => exact absurd (H.sepM y hs) (H.digM y hd)

theorem prefixPhase_offS (b : Bytes) : prefixPhase c b = .ok (false, b) :=
  PrefixRepair.prefixPhase_off c b (by simp [H.preRep rfl])

theorem prefixPhase_truncS : PrefixOK c := by
  intro b b' isP hv h
  rw [prefixPhase_offS H] at h
  simp only [Except.ok.injEq, Prod.mk.injEq] at h
  obtain ⟨rfl, rfl⟩ := h
  exact ⟨rfl, Nat.le_refl _, hv, fun n _ _ => prefixPhase_offS H (trunc n b)⟩

theorem integerPhase_truncS (b : Bytes) (ip : IntPart) (hv : Bytes.Valid b) (h : integerPhase c b = .ok ip) :
    IntPhaseOK c b ip :=
  integerPhase_cut H.rel (parseDigits_truncS H.rel .integer _ H.sepM) (prefixPhase_truncS H) b ip hv h

theorem fractionPhase_truncS (b : Bytes) (m0 : Nat) (fp : FracPart) (hv : Bytes.Valid b)
    (h : fractionPhase c o b m0 = .ok fp) : FracPhaseOK c o b m0 fp :=
  fractionPhase_cut H.rel (parseDigits_truncS H.rel .fraction _ H.sepM) o b m0 fp hv h

theorem exponentPhase_truncS (he : Bool) (b : Bytes) (fr : Option (List Nat)) (ex : Int) (ep : ExpPart)
    (hv : Bytes.Valid b) (hlt : he = true → b.index < b.slc.length) (h : exponentPhase c he b fr ex = .ok ep) :
    ExpPhaseOK c he b fr ex ep :=
  exponentPhase_cut H.rel (parseDigits_truncS H.rel .exponent _ H.sepE) he b fr ex ep hv hlt h

end
end LexVerif.Proof.C11
