import LexVerif.Proof.ParseNumberC11
import LexVerif.Proof.PrefixRepair
import LexVerif.Proof.ParseNumberTotalPhases
/-!
# Proof.ParseNumberC11Trunc — truncation of the input commutes with every loop and phase of `parse_number` (release build)

`trunc n b` cuts the buffer of `b` after `n` bytes. Every phase of `parse_number` that returns with the cursor at `i ≤ n`
returns the same result on the truncated buffer: bytes at positions `≥ i` are only inspected to decide to stop, and the end
of the buffer leads to the same decision.
A cut is admitted for an iterator at rest (`Cut`) when every `peek` that comes to rest there does so on the cut buffer too.
The integer, fraction and exponent phase are proved once, over any digit loop that commutes with admitted cuts (`DigitsOK`),
which it does as soon as a cursor on a byte the loop takes admits every cut behind it (`Cut.Step`, `parseDigits_cut`).
The loops over `peek` commute with a cut because `scan` does (`scan_cut`, an instance of `IterSpec.scan_trunc`); the 8-digit
blocks because `blocks8` does (`blocks8_take`).
A phase is prefix, digit pass and tail (`Phase.integerPhase_eq`, `Phase.fractionPhase_eq`): the digit pass commutes with the
cut (`digitPass_cut`), the tail looks at counts, cursors and the stored slice only (`intTail_trunc`, `fracTail_trunc`).
The last section is the class `NumContig c` (no separator inside numbers): the digit iterators never skip, so every cut at or
behind the cursor is admitted (`Cut.of_num`). When a separator byte exists the buffer is not contiguous and
`Bytes::current_count` is the sum of the per-component digit counts: the proofs use only that a count never grows faster than
the cursor (`PNTotal.Adv`).
Suffixes: `_g` — a model function as an equation (`NumContig` where `peek` is involved); `_cut` — under an admitted cut,
every format; `_trunc` — under every cut at or behind the cursor (`NumContig`, or what does not go through `peek`);
`_truncS` — formats with separator flags (`SepCfg`, `ParseNumberC11SepPhases.lean`).
-/
namespace LexVerif.Proof.C11
open LexVerif LexVerif.Model LexVerif.Spec
open LexVerif.Props.C12 (Bytes.Valid incCount_spec)
open LexVerif.Proof.PNTotal (Rel bstep_rel)
open LexVerif.Proof.IterSpec

/-- `IterSpec.cur` -/
def Bytes.at (b : Bytes) (i : Nat) : Bytes := { b with index := i }
def trunc (n : Nat) (b : Bytes) : Bytes := { b with slc := b.slc.take n }

@[simp] theorem at_at (b : Bytes) (i j : Nat) : Bytes.at (Bytes.at b i) j = Bytes.at b j := rfl
theorem at_self (b : Bytes) : Bytes.at b b.index = b := rfl

@[simp] theorem trunc_index (n : Nat) (b : Bytes) : (trunc n b).index = b.index := by cases b; rfl
@[simp] theorem trunc_slc (n : Nat) (b : Bytes) : (trunc n b).slc = b.slc.take n := by cases b; rfl
theorem trunc_cur (n : Nat) (b : Bytes) (i : Nat) : trunc n (cur b i) = cur (trunc n b) i := rfl
theorem trunc_mv (c : Cfg) (k : Comp) (n j m : Nat) (b : Bytes) : trunc n (mv c k j m b) = mv c k j m (trunc n b) := by
  cases k <;> rfl
@[simp] theorem trunc_iterCount (c : Cfg) (k : Comp) (n : Nat) (b : Bytes) :
    (trunc n b).iterCount c k = b.iterCount c k := by
  cases b; rfl

@[simp] theorem incCount_slc (c : Cfg) (k : Comp) (b : Bytes) : (b.incCount c k).slc = b.slc := (incCount_spec c k b).1
@[simp] theorem incCount_index (c : Cfg) (k : Comp) (b : Bytes) : (b.incCount c k).index = b.index :=
  (incCount_spec c k b).2

theorem take_get_lt (l : List Nat) (n i : Nat) (h : i < n) : (l.take n)[i]? = l[i]? := by
  rw [List.getElem?_take]; simp [h]
theorem take_get_ge (l : List Nat) (n i : Nat) (h : n ≤ i) : (l.take n)[i]? = none := by
  rw [List.getElem?_take]; simp; omega

theorem takeDrop_trunc (l : List Nat) (n i j : Nat) (h : i + j ≤ n) :
    ((l.take n).drop i).take j = (l.drop i).take j := by
  rw [List.drop_take, List.take_take]
  congr 1
  omega

theorem first_trunc (b : Bytes) (n : Nat) :
    (trunc n b).first = if b.index < n then b.first else none := by
  unfold Bytes.first
  simp only [trunc_slc, trunc_index]
  split
  · next h => exact take_get_lt _ _ _ h
  · next h => exact take_get_ge _ _ _ (by omega)

theorem get_trunc (b : Bytes) (n : Nat) :
    (trunc n b).slc[(trunc n b).index]? = if b.index < n then b.slc[b.index]? else none := first_trunc b n

theorem trunc_valid (n : Nat) (b : Bytes) (hv : Bytes.Valid b) (hn : b.index ≤ n) : Bytes.Valid (trunc n b) := by
  unfold Bytes.Valid at *
  simp only [trunc_slc, trunc_index, List.length_take]; omega

/-- the integer, fraction and exponent iterators never skip: there is no digit-separator byte, or none of the three
components has a separator flag (the special-value iterator may have one) -/
def NumContig (c : Cfg) : Prop :=
  c.bytesContiguous = true ∨ ∀ k, k ≠ Comp.special → c.iterContiguous k = true

theorem NumContig.of_bytes {c : Cfg} (hb : c.bytesContiguous = true) : NumContig c := Or.inl hb

@[simp] theorem trunc_currentCount (c : Cfg) (n : Nat) (b : Bytes) : (trunc n b).currentCount c = b.currentCount c := by
  cases b; rfl

def TruncOK {α : Type} (f : Bytes → Except Err (α × Bytes)) : Prop :=
  ∀ (b b' : Bytes) (r : α), Bytes.Valid b → f b = .ok (r, b') →
    b'.slc = b.slc ∧ b.index ≤ b'.index ∧ Bytes.Valid b' ∧
    ∀ n, b'.index ≤ n → f (trunc n b) = .ok (r, trunc n b')

/-- `first_is` / `read_if_value`: the byte test -/
def matchByte (v : Nat) (cased : Bool) (x : Option Nat) : Bool :=
  if cased then x == some v
  else match x with
    | some y => eqIgnoreCase y v
    | none => false

theorem firstIs_eq (b : Bytes) (v : Nat) (cased : Bool) : b.firstIs v cased = matchByte v cased b.first := by
  unfold Bytes.firstIs Bytes.firstIsCased Bytes.firstIsUncased matchByte
  rfl

theorem matchByte_some (v : Nat) (cased : Bool) (x : Option Nat) (h : matchByte v cased x = true) : ∃ y, x = some y := by
  cases x with
  | some y => exact ⟨y, rfl⟩
  | none => cases cased <;> simp [matchByte] at h

theorem matchByte_none (v : Nat) (cased : Bool) : matchByte v cased none = false := by
  cases cased <;> simp [matchByte]

theorem requiredIntegerDigits_format {c : Cfg} (h : c.requiredIntegerDigits = true) : c.feats.format = true := by
  unfold Cfg.requiredIntegerDigits Cfg.flag at h
  split at h
  · assumption
  · cases h

section
variable {c : Cfg} (hc : Rel c)
include hc

theorem step_g (b : Bytes) : b.step c = .ok (cur b (b.index + 1)) := bstep_rel hc b

theorem parse8Digits_trunc (k : Comp) (m : Nat) : TruncOK (fun b => parse8Digits c k b m) := by
  intro b b' r hv h
  have h : parse8Digits c k b m = .ok (r, b') := h
  by_cases hcm : c.feats.compact = false ∧ canMultidigit c k = true
  · have hct : c.iterContiguous k = true := by
      have := hcm.2; simp only [canMultidigit, Bool.and_eq_true] at this; exact this.1
    have hr : c.debug = true → c.mantissaRadix ≤ 10 := fun hd => by rw [hc.hd] at hd; cases hd
    have e : ∀ b : Bytes, parse8Digits c k b m = parse8Loop c k (b.slc.length + 1) b m := fun b => by
      simp [parse8Digits, hcm.1, hcm.2, hc.hd]
    have hlim := blocks8_le_lim c.mantissaRadix b.slc (b.slc.length + 1) b.index
    have hle := blocks8_le c.mantissaRadix b.slc (b.slc.length + 1) b.index hv
    rw [e, parse8Loop_eq hct hr, if_pos (by omega)] at h
    simp only [Except.ok.injEq, Prod.mk.injEq] at h
    obtain ⟨rfl, rfl⟩ := h
    refine ⟨mv_slc .., by rw [mv_index]; omega, by simpa [Bytes.Valid] using hle, fun n hn => ?_⟩
    rw [mv_index] at hn
    show parse8Digits c k (trunc n b) m = _
    obtain ⟨t1, t2⟩ := blocks8_take c.mantissaRadix b.slc n (b.slc.length + 1) b.index hn
    have t3 := blocks8_lim c.mantissaRadix (b.slc.take n) (b.slc.length + 1) ((b.slc.take n).length + 1) b.index
      (by rw [t1]; omega) (by rw [t1]; simp only [List.length_take]; omega)
    rw [e, parse8Loop_eq hct hr]
    simp only [trunc_slc, trunc_index, t3, t1, t2, trunc_mv]
    rw [if_pos (by simp only [List.length_take]; omega)]
  · have e : ∀ b : Bytes, parse8Digits c k b m = .ok (m, b) := fun b => by
      unfold parse8Digits
      cases h1 : c.feats.compact <;> cases h2 : canMultidigit c k <;> simp_all [pure, Except.pure]
    rw [e] at h
    simp only [Except.ok.injEq, Prod.mk.injEq] at h
    obtain ⟨rfl, rfl⟩ := h
    exact ⟨rfl, Nat.le_refl _, hv, fun n _ => e _⟩

theorem sliceTo_trunc (b : Bytes) (j n : Nat) (tag : String) (r : List Nat) (h : sliceTo c b j tag = .ok r)
    (hn : b.index + j ≤ n) : sliceTo c (trunc n b) j tag = .ok r := by
  unfold sliceTo at h ⊢
  by_cases hle : j ≤ b.asSlice.length
  · rw [if_pos hle] at h
    have hle2 : j ≤ b.slc.length - b.index := by simpa [Bytes.asSlice] using hle
    have h2 : j ≤ (trunc n b).asSlice.length := by
      simp only [Bytes.asSlice, trunc_slc, trunc_index, List.length_drop, List.length_take]; omega
    rw [if_pos h2]
    have : (trunc n b).asSlice.take j = b.asSlice.take j := takeDrop_trunc _ _ _ _ hn
    rw [this]; exact h
  · rw [if_neg hle] at h
    simp only [hc.hd, Bool.false_eq_true, if_false] at h
    cases h

theorem parseSign_trunc (np rq : Bool) (ip ms : String) : TruncOK (parseSign c np rq ip ms) := by
  intro b b' neg hv h
  unfold parseSign at h
  split at h
  · next hfst =>
    have hlt := first_some_lt b _ hfst
    split at h
    · next hnp =>
      simp only [step_g hc, bind, Except.bind, pure, Except.pure, Except.ok.injEq, Prod.mk.injEq] at h
      obtain ⟨rfl, rfl⟩ := h
      refine ⟨rfl, by simp, by simp only [Bytes.Valid, cur_index, cur_slc]; omega, ?_⟩
      intro n hn
      simp only [cur_index] at hn
      unfold parseSign
      rw [first_trunc, if_pos (by omega), hfst]
      simp only [hnp, if_true, step_g hc, bind, Except.bind, pure, Except.pure, trunc_index]
      rfl
    · cases h
  · next hfst =>
    have hlt := first_some_lt b _ hfst
    simp only [step_g hc, bind, Except.bind, pure, Except.pure, Except.ok.injEq, Prod.mk.injEq] at h
    obtain ⟨rfl, rfl⟩ := h
    refine ⟨rfl, by simp, by simp only [Bytes.Valid, cur_index, cur_slc]; omega, ?_⟩
    intro n hn
    simp only [cur_index] at hn
    unfold parseSign
    rw [first_trunc, if_pos (by omega), hfst]
    simp only [step_g hc, bind, Except.bind, pure, Except.pure, trunc_index]
    rfl
  · next h43 h45 =>
    split at h
    · cases h
    · next hrq =>
      simp only [pure, Except.pure, Except.ok.injEq, Prod.mk.injEq] at h
      obtain ⟨rfl, rfl⟩ := h
      refine ⟨rfl, Nat.le_refl _, hv, ?_⟩
      intro n hn
      unfold parseSign
      rw [first_trunc]
      split
      · next hcnd => split at hcnd <;> simp_all
      · next hcnd => split at hcnd <;> simp_all
      · simp only [hrq]; rfl

theorem suffixPhase_trunc (b b' : Bytes) (hv : Bytes.Valid b) (h : suffixPhase c b = .ok b') :
    b'.slc = b.slc ∧ b.index ≤ b'.index ∧ Bytes.Valid b' ∧
    ∀ n, b'.index ≤ n → suffixPhase c (trunc n b) = .ok (trunc n b') := by
  unfold suffixPhase at h
  split at h
  · next hcnd =>
    simp only [Bool.and_eq_true] at hcnd
    have hlt : b.index < b.slc.length := PNTotal.firstIs_lt hcnd.2
    rw [step_g hc] at h
    cases h
    refine ⟨by simp, by simp, by simp only [Bytes.Valid, cur_index, cur_slc]; omega, ?_⟩
    intro n hn
    simp only [cur_index] at hn
    unfold suffixPhase
    have hfi : (trunc n b).firstIs c.baseSuffix c.caseSensitiveBaseSuffix = true := by
      rw [firstIs_eq, first_trunc, if_pos (by omega), ← firstIs_eq]; exact hcnd.2
    rw [hfi]
    simp only [hcnd.1, Bool.and_self, if_true, step_g hc]
    rfl
  · next hcnd =>
    simp only [pure, Except.pure, Except.ok.injEq] at h
    subst h
    refine ⟨rfl, Nat.le_refl _, hv, ?_⟩
    intro n _
    unfold suffixPhase
    have hfi : (c.feats.format && decide (c.baseSuffix ≠ 0) &&
        (trunc n b).firstIs c.baseSuffix c.caseSensitiveBaseSuffix) = false := by
      rw [firstIs_eq, first_trunc]
      split
      · rw [← firstIs_eq]; simpa using hcnd
      · rw [matchByte_none]; simp
    rw [hfi]
    rfl

omit hc in
/-- What a skip iterator looks at behind its cursor — the byte after a separator, the first byte after a run of separators —
only decides whether it skips; `Cut` says the decision stands. Three sufficient conditions: no skipping at all (`Cut.of_num`),
`Adm` (`Cut.of_adm`), a cut behind the first non-separator byte (`Cut.of_far`). -/
def Cut (c : Cfg) (k : Comp) (n : Nat) (b' : Bytes) : Prop :=
  b'.index ≤ n ∧ ∀ b : Bytes, Bytes.Valid b → b.slc = b'.slc → pk c k b = b'.index → pk c k (trunc n b) = b'.index

omit hc in
theorem Cut.congr {k : Comp} {n : Nat} {b1 b2 : Bytes} (h : Cut c k n b1) (hs : b2.slc = b1.slc)
    (hi : b2.index = b1.index) : Cut c k n b2 :=
  ⟨by rw [hi]; exact h.1, fun b hv hb hp => by rw [hi] at hp ⊢; exact h.2 b hv (by rw [hb, hs]) hp⟩

omit hc in
def Cut.Step (c : Cfg) (k : Comp) (D : Nat → Prop) : Prop :=
  ∀ n (b : Bytes) x, b.index < n → b.slc[b.index]? = some x → D x → Cut c k n b

omit hc in
def DigitsOK (c : Cfg) (k : Comp) (r : Nat) : Prop :=
  ∀ (b b' : Bytes) (ds : List Nat), Bytes.Valid b → parseDigits c k r b = .ok (ds, b') →
    b'.slc = b.slc ∧ b.index ≤ b'.index ∧ Bytes.Valid b' ∧
    (∀ ch, b.slc[b'.index]? = some ch → charToDigit ch r = none) ∧
    ∀ n, Cut c k n b' → parseDigits c k r (trunc n b) = .ok (ds, trunc n b')

omit hc in
theorem peek_at {c : Cfg} {k : Comp} {b b' : Bytes} {v : Option Nat} (hp : peek c k b = .ok (v, b')) :
    c.skip k ≠ .unreachable ∧ v = b.slc[pk c k b]? ∧ b' = cur b (pk c k b) := by
  have hs : c.skip k ≠ .unreachable := fun hu => by simp [peek, hu] at hp
  obtain ⟨rfl, rfl⟩ := (peek_ok_iff hs).1 hp
  exact ⟨hs, rfl, rfl⟩

omit hc in
theorem scan_cut {k : Comp} {D : Nat → Prop} (S : Cut.Step c k D) {p : Nat → Bool}
    (hp : ∀ x, p x = true → D x) (b : Bytes) (hv : Bytes.Valid b) (n lim : Nat) (f : Bool)
    (ha : Cut c k n (cur b (scan c k b.slc p lim f b.index).2)) :
    scan c k (b.slc.take n) p lim f b.index = scan c k b.slc p lim f b.index := by
  refine scan_trunc b.slc p n (fun j => Cut c k n (cur b j)) (fun j h => h.1) (fun f' i hi h => ?_)
    (fun j x hj hx hpx => S n (cur b j) x hj hx (hp x hpx)) lim f b.index hv ha
  have := h.2 (st b.slc f' i) hi rfl (pk_st ..)
  rwa [show trunc n (st b.slc f' i) = st (b.slc.take n) f' i from rfl, pk_st] at this

theorem parseDigits_cut {k : Comp} {r : Nat} (S : Cut.Step c k (fun x => charToDigit x r ≠ none)) : DigitsOK c k r := by
  intro b b' ds hv h
  have hg : ∀ x, isDig r x → StepOK c k x := fun _ _ => StepOK.release hc.hd _ _
  rw [parseDigits_eq (hc.hs k) r b hg] at h
  simp only [Except.ok.injEq, Prod.mk.injEq, run] at h
  obtain ⟨rfl, rfl⟩ := h
  obtain ⟨h1, h2⟩ := scan_le (c := c) (k := k) b.slc (isDig r) (b.slc.length + 1) (b.iterCount c k == 0) b.index hv
  have hlt : (scan c k b.slc (isDig r) (b.slc.length + 1) (b.iterCount c k == 0) b.index).1.length < b.slc.length + 1 :=
    run_fuel _ b
  refine ⟨mv_slc .., by rw [mv_index]; omega, by simpa [Bytes.Valid] using h1, fun ch hch => ?_, fun n ha => ?_⟩
  · simpa [isDig] using scan_stop b.slc (isDig r) _ _ _ hlt ch (by simpa using hch)
  · have hn : (scan c k b.slc (isDig r) (b.slc.length + 1) (b.iterCount c k == 0) b.index).2 ≤ n := by
      simpa using ha.1
    -- the cut buffer's fuel is smaller: the loop stops by itself under either
    have e := scan_lim (c := c) (k := k) b.slc (isDig r) (b.slc.length + 1) ((b.slc.take n).length + 1) _ _ hlt
      (by simp only [List.length_take]; omega)
    have et := scan_cut S (p := isDig r) (fun x hx => by simpa [isDig, Option.isSome_iff_ne_none] using hx) b hv n
      ((b.slc.take n).length + 1) (b.iterCount c k == 0) (by rw [e]; exact ha.congr (by simp) (by simp))
    rw [parseDigits_eq (hc.hs k) r _ hg]
    simp only [run, trunc_slc, trunc_index, trunc_iterCount, et, e, trunc_mv]

theorem skipZeros_cut {k : Comp} {D : Nat → Prop} (S : Cut.Step c k D) (h48 : D 48) (b zb : Bytes) (z : Nat)
    (hv : Bytes.Valid b) (h : skipZeros c k b = .ok (z, zb)) (n : Nat) (ha : Cut c k n zb) :
    skipZeros c k (trunc n b) = .ok (z, trunc n zb) := by
  have hg : StepOK c k 48 := StepOK.release hc.hd _ _
  rw [skipZeros_eq (hc.hs k) b hg] at h
  simp only [Except.ok.injEq, Prod.mk.injEq] at h
  obtain ⟨rfl, rfl⟩ := h
  -- the cut buffer's fuel is smaller: the loop stops by itself under either
  have e := scan_lim (c := c) (k := k) b.slc (· == 48) (b.slc.length + 1) ((b.slc.take n).length + 1) _ _ (run_fuel _ b)
    (by have := scan_le (c := c) (k := k) b.slc (· == 48) (b.slc.length + 1) (b.iterCount c k == 0) b.index hv
        have := ha.1; simp only [run, mv_index, List.length_take] at *; omega)
  have et := scan_cut S (p := (· == 48)) (fun x hx => by rw [beq_iff_eq.mp hx]; exact h48)
    b hv n ((b.slc.take n).length + 1) (b.iterCount c k == 0) (by rw [e]; exact ha.congr (by simp) (by simp))
  rw [skipZeros_eq (hc.hs k) _ hg]
  simp only [run, trunc_slc, trunc_index, trunc_iterCount, et, e, trunc_mv]
  rw [← trunc_mv, trunc_iterCount]

theorem isConsumed_cut (k : Comp) (b b' : Bytes) (hv : Bytes.Valid b)
    (h : isConsumed c k b = .ok (false, b')) (n : Nat) (hcut : Cut c k n b') (hlt : b'.index < n) :
    isConsumed c k (trunc n b) = .ok (false, trunc n b') := by
  rw [isConsumed_eq (hc.hs k)] at h ⊢
  split at h
  · next hf =>
    simp only [Except.ok.injEq, Prod.mk.injEq] at h
    obtain ⟨hb, rfl⟩ := h
    have e : pk c k (trunc n b) = pk c k b := hcut.2 b hv rfl rfl
    rw [if_pos hf, e, trunc_slc, take_get_lt _ _ _ (by simpa using hlt), hb]; rfl
  · next hf =>
    simp only [Except.ok.injEq, Prod.mk.injEq] at h
    obtain ⟨hb, rfl⟩ := h
    rw [if_neg hf]
    simp only [Bytes.isBufferEmpty, trunc_slc, trunc_index, List.length_take, decide_eq_false_iff_not, ge_iff_le,
      Nat.not_le, Except.ok.injEq, Prod.mk.injEq, and_true] at hb ⊢
    omega

omit hc in
theorem digitPass_inv {k : Comp} {b e : Bytes} {m0 m : Nat} (h : Phase.digitPass c k b m0 = .ok (m, e)) :
    ∃ m8 b8 ds, parse8Digits c k b m0 = .ok (m8, b8) ∧ parseDigits c k c.mantissaRadix b8 = .ok (ds, e) := by
  unfold Phase.digitPass at h
  cases h8 : parse8Digits c k b m0 with
  | error err => simp [h8, bind, Except.bind] at h
  | ok p8 =>
    cases hdg : parseDigits c k c.mantissaRadix p8.2 with
    | error err => simp [h8, hdg, bind, Except.bind] at h
    | ok pd =>
      simp only [h8, hdg, bind, Except.bind, pure, Except.pure, Except.ok.injEq, Prod.mk.injEq] at h
      exact ⟨p8.1, p8.2, pd.1, rfl, by rw [hdg, ← h.2]⟩

theorem digitPass_cut {k : Comp} (D : DigitsOK c k c.mantissaRadix) (b0 b2 : Bytes) (m0 m : Nat)
    (hv : Bytes.Valid b0) (h : Phase.digitPass c k b0 m0 = .ok (m, b2)) :
    PNTotal.Adv b0 b2 ∧ (∀ ch, b0.slc[b2.index]? = some ch → charToDigit ch c.mantissaRadix = none) ∧
    ∀ n, Cut c k n b2 → Phase.digitPass c k (trunc n b0) m0 = .ok (m, trunc n b2) := by
  unfold Phase.digitPass at h
  cases h8 : parse8Digits c k b0 m0 with
  | error e => simp [h8, bind, Except.bind] at h
  | ok p8 =>
    obtain ⟨m8, b1⟩ := p8
    obtain ⟨a1, a2, a3, a4⟩ := parse8Digits_trunc hc k m0 b0 b1 m8 hv h8
    obtain ⟨_, _, h8', adv1⟩ := PNTotal.parse8Digits_tot hc k b0 m0 hv
    rw [h8] at h8'; cases h8'
    cases hdg : parseDigits c k c.mantissaRadix b1 with
    | error e => simp [h8, hdg, bind, Except.bind] at h
    | ok pd =>
      obtain ⟨ds, b2'⟩ := pd
      obtain ⟨d1, d2, d3, d4, d5⟩ := D b1 b2' ds a3 hdg
      obtain ⟨_, _, hdg', adv2⟩ := PNTotal.parseDigits_tot hc k c.mantissaRadix b1 a3
      rw [hdg] at hdg'; cases hdg'
      simp only [h8, hdg, bind, Except.bind, pure, Except.pure, Except.ok.injEq, Prod.mk.injEq] at h
      obtain ⟨rfl, rfl⟩ := h
      refine ⟨adv1.trans adv2, by rw [← a1]; exact d4, fun n ha => ?_⟩
      have hn := ha.1
      exact Phase.digitPass_ok (a4 n (by omega)) (d5 n ha)

omit hc in
def FracPhaseOK (c : Cfg) (o : POpts) (b : Bytes) (m0 : Nat) (fp : FracPart) : Prop :=
    fp.byte.slc = b.slc ∧ b.index ≤ fp.byte.index ∧ Bytes.Valid fp.byte ∧
    fp.nAfterDot ≤ fp.byte.index - b.index ∧
    (b.firstIsCased o.dp = true →
      b.index + 1 ≤ fp.byte.index ∧ fp.hasDecimal = true ∧
      fp.nAfterDot = fp.byte.currentCount c - (cur b (b.index + 1)).currentCount c ∧
      Phase.digitPass c .fraction (cur b (b.index + 1)) m0 = .ok (fp.mantissa, fp.byte) ∧
      ∀ ch, b.slc[fp.byte.index]? = some ch → charToDigit ch c.mantissaRadix = none) ∧
    (¬ b.firstIsCased o.dp = true → fp.byte = b ∧ fp.nAfterDot = 0 ∧ fp.fraction = none) ∧
    ∀ n, fp.byte.index ≤ n → (b.firstIsCased o.dp = true → Cut c .fraction n fp.byte) →
      fractionPhase c o (trunc n b) m0 = .ok { fp with byte := trunc n fp.byte }

theorem sliceTo_stored_trunc {k : Comp} {st e : Bytes} (ha : PNTotal.Adv st e) (tag : String) (n : Nat)
    (hn : e.index ≤ n) :
    sliceTo c (trunc n st) (Phase.storedLen c k st e) tag = sliceTo c st (Phase.storedLen c k st e) tag := by
  rw [Phase.sliceTo_stored ha]
  exact sliceTo_trunc hc st _ n _ _ (Phase.sliceTo_stored ha tag)
    (by have := Phase.storedLen_le (c := c) (k := k) ha; have := ha.mono; omega)

theorem fracTail_trunc {st e : Bytes} (ha : PNTotal.Adv st e) (m : Nat) (fp : FracPart)
    (h : Phase.fracTail c st e m = .ok fp) (n : Nat) (hn : e.index ≤ n) :
    Phase.fracTail c (trunc n st) (trunc n e) m = .ok { fp with byte := trunc n fp.byte } := by
  unfold Phase.fracTail at h ⊢
  have hl : Phase.storedLen c .fraction (trunc n st) (trunc n e) = Phase.storedLen c .fraction st e := by
    simp [Phase.storedLen]
  simp only [hl, sliceTo_stored_trunc hc ha _ n hn, trunc_currentCount, trunc_index] at h ⊢
  simp only [Phase.sliceTo_stored ha, bind, Except.bind, pure, Except.pure] at h ⊢
  cases hsc : scaleExponent c (-((e.currentCount c - st.currentCount c : Nat) : Int)) with
  | error err => simp [hsc] at h
  | ok ex =>
    simp only [hsc] at h ⊢
    split at h
    · cases h
    · next hreq => rw [if_neg hreq]; cases h; rfl

theorem fractionPhase_cut (D : DigitsOK c .fraction c.mantissaRadix) (o : POpts) (b : Bytes) (m0 : Nat)
    (fp : FracPart) (hv : Bytes.Valid b)
    (h : fractionPhase c o b m0 = .ok fp) : FracPhaseOK c o b m0 fp := by
  unfold FracPhaseOK
  rw [Phase.fractionPhase_eq] at h
  by_cases hdp : b.firstIsCased o.dp = true
  · rw [if_pos hdp] at h
    have hfirst : b.first = some o.dp := by simpa [Bytes.firstIsCased] using hdp
    have hlt := first_some_lt b _ hfirst
    simp only [step_g hc, bind, Except.bind] at h
    have hv0 : Bytes.Valid (cur b (b.index + 1)) := by simp only [Bytes.Valid, cur_index, cur_slc]; omega
    cases hpass : Phase.digitPass c .fraction (cur b (b.index + 1)) m0 with
    | error e => simp [hpass] at h
    | ok pr =>
      obtain ⟨m, e⟩ := pr
      obtain ⟨ha, q5, q6⟩ := digitPass_cut hc D _ e m0 m hv0 hpass
      simp only [hpass] at h
      have hfp : fp.byte = e ∧ fp.mantissa = m ∧ fp.hasDecimal = true ∧
          fp.nAfterDot = e.currentCount c - (cur b (b.index + 1)).currentCount c := by
        unfold Phase.fracTail at h
        simp only [Phase.sliceTo_stored ha, bind, Except.bind, pure, Except.pure] at h
        cases hsc : scaleExponent c (-((e.currentCount c - (cur b (b.index + 1)).currentCount c : Nat) : Int)) with
        | error err => simp [hsc] at h
        | ok ex =>
          simp only [hsc] at h
          split at h
          · cases h
          · cases h; exact ⟨rfl, rfl, rfl, rfl⟩
      obtain ⟨rfl, rfl, hdec, hnad⟩ := hfp
      have hcc := PNTotal.count_diff_le (c := c) ha
      have hm := ha.mono
      simp only [cur_index, cur_slc] at hm q5
      refine ⟨ha.slc, by omega, ha.valid', by rw [hnad]; simp only [cur_index] at hcc; omega,
        fun _ => ⟨hm, hdec, hnad, rfl, q5⟩, fun hne => absurd hdp hne, fun n hn haA => ?_⟩
      have hf2 : (trunc n b).firstIsCased o.dp = true := by
        simp only [Bytes.firstIsCased, first_trunc, show b.index < n by omega, if_true, hfirst, beq_self_eq_true]
      rw [Phase.fractionPhase_eq, if_pos hf2]
      simp only [step_g hc, bind, Except.bind, trunc_index]
      rw [← trunc_cur, q6 n (haA hdp)]
      exact fracTail_trunc hc ha _ _ h n hn
  · rw [if_neg hdp] at h
    simp only [pure, Except.pure, Except.ok.injEq] at h
    subst h
    refine ⟨rfl, Nat.le_refl _, hv, by simp, fun hh => absurd hh hdp, fun _ => ⟨rfl, rfl, rfl⟩, ?_⟩
    intro n hn _
    have hf2 : ¬ (trunc n b).firstIsCased o.dp = true := by
      simp only [Bytes.firstIsCased, first_trunc] at hdp ⊢
      split
      · exact hdp
      · simp
    rw [Phase.fractionPhase_eq, if_neg hf2]
    rfl

omit hc in
/-- `he`: the exponent character is under the cursor -/
def ExpPhaseOK (c : Cfg) (he : Bool) (b : Bytes) (fr : Option (List Nat)) (ex : Int)
    (ep : ExpPart) : Prop :=
    ep.byte.slc = b.slc ∧ b.index ≤ ep.byte.index ∧ Bytes.Valid ep.byte ∧
    (he = true → b.index + 1 ≤ ep.byte.index ∧
      ∀ ch, b.slc[ep.byte.index]? = some ch → charToDigit ch c.exponentRadix = none) ∧
    (he = false → ep.byte = b) ∧
    ∀ n, ep.byte.index ≤ n → (he = true → Cut c .exponent n ep.byte) →
      exponentPhase c he (trunc n b) fr ex = .ok { ep with byte := trunc n ep.byte }

theorem exponentPhase_cut (D : DigitsOK c .exponent c.exponentRadix) (he : Bool) (b : Bytes)
    (fr : Option (List Nat)) (ex : Int) (ep : ExpPart)
    (hv : Bytes.Valid b) (hlt : he = true → b.index < b.slc.length)
    (h : exponentPhase c he b fr ex = .ok ep) : ExpPhaseOK c he b fr ex ep := by
  unfold ExpPhaseOK
  unfold exponentPhase at h
  cases he with
  | false =>
    simp only [Bool.false_eq_true, if_false] at h
    split at h
    · cases h
    · next hren =>
      simp only [pure, Except.pure, Except.ok.injEq] at h
      subst h
      refine ⟨rfl, Nat.le_refl _, hv, by simp, fun _ => rfl, ?_⟩
      intro n _ _
      unfold exponentPhase
      simp only [Bool.false_eq_true, if_false]
      rw [if_neg hren]
      rfl
  | true =>
    have hlt := hlt rfl
    simp only [if_true, step_g hc, bind, Except.bind, pure, Except.pure] at h
    have hv0 : Bytes.Valid (cur b (b.index + 1)) := by simp only [Bytes.Valid, cur_index, cur_slc]; omega
    split at h
    · cases h
    · next hnen =>
      split at h
      · cases h
      · next hnewf =>
        cases hs : parseExponentSign c (cur b (b.index + 1)) with
        | error e => simp [hs] at h
        | ok ps =>
          obtain ⟨ng, b1⟩ := ps
          obtain ⟨a1, a2, a3, a4⟩ := parseSign_trunc hc _ _ _ _ _ b1 ng hv0 hs
          simp only [hs] at h
          cases hdg : parseDigits c .exponent c.exponentRadix b1 with
          | error e => simp [hdg] at h
          | ok pd =>
            obtain ⟨ds, b2⟩ := pd
            obtain ⟨d1, d2, d3, d4, d5⟩ := D b1 b2 ds a3 hdg
            simp only [hdg] at h
            split at h
            · cases h
            · next hreq =>
              simp only [Except.ok.injEq] at h
              subst h
              simp only [cur_index, cur_slc] at a1 a2
              refine ⟨by rw [d1, a1], by simp only; omega, d3,
                fun _ => ⟨by simp only; omega, by rw [← a1]; exact d4⟩, fun hh => Bool.noConfusion hh, ?_⟩
              intro n hn ha
              have ha := ha rfl
              simp only at hn ha
              unfold exponentPhase
              simp only [if_true, step_g hc, bind, Except.bind, pure, Except.pure, trunc_index, cur_index]
              rw [if_neg hnen, if_neg hnewf]
              have t1 := a4 n (by omega)
              rw [← trunc_cur]
              unfold parseExponentSign at hs ⊢
              rw [t1]
              simp only
              rw [d5 n ha]
              simp only [trunc_index, trunc_currentCount]
              rw [if_neg hreq]

omit hc in
/-- the cut is strictly behind the cursor when integer digits are required: the `EmptyInteger` test looks at "end of buffer" -/
def PrefixOK (c : Cfg) : Prop :=
  ∀ (b b' : Bytes) (isP : Bool), Bytes.Valid b → prefixPhase c b = .ok (isP, b') →
    b'.slc = b.slc ∧ b.index ≤ b'.index ∧ Bytes.Valid b' ∧
    ∀ n, b'.index ≤ n → (c.requiredIntegerDigits = true → b'.index < n) →
      prefixPhase c (trunc n b) = .ok (isP, trunc n b')

omit hc in
def IntPhaseOK (c : Cfg) (b : Bytes) (ip : IntPart) : Prop :=
    (ip.start.slc = b.slc ∧ b.index ≤ ip.start.index ∧ Bytes.Valid ip.start ∧
      prefixPhase c b = .ok (ip.isPrefix, ip.start)) ∧
    Phase.digitPass c .integer ip.start 0 = .ok (ip.mantissa, ip.byte) ∧
    ip.byte.slc = b.slc ∧ ip.start.index ≤ ip.byte.index ∧ Bytes.Valid ip.byte ∧
    ip.nDigits = ip.byte.currentCount c - ip.start.currentCount c ∧ ip.nDigits ≤ ip.byte.index - ip.start.index ∧
    (∀ ch, b.slc[ip.byte.index]? = some ch → charToDigit ch c.mantissaRadix = none) ∧
    ∀ n, Cut c .integer n ip.byte →
      integerPhase c (trunc n b) = .ok { ip with start := trunc n ip.start, byte := trunc n ip.byte }

theorem intTail_trunc (isP : Bool) {st e : Bytes} (ha : PNTotal.Adv st e) (m : Nat) (ip : IntPart)
    (h : Phase.intTail c isP st e m = .ok ip) (n : Nat) (hn : e.index ≤ n) :
    Phase.intTail c isP (trunc n st) (trunc n e) m =
      .ok { ip with start := trunc n ip.start, byte := trunc n ip.byte } := by
  unfold Phase.intTail at h ⊢
  have hl : Phase.storedLen c .integer (trunc n st) (trunc n e) = Phase.storedLen c .integer st e := by
    simp [Phase.storedLen]
  simp only [hl, sliceTo_stored_trunc hc ha _ n hn, trunc_currentCount, trunc_index] at h ⊢
  split at h
  · cases h
  · next hreq =>
    rw [if_neg hreq]
    simp only [Phase.sliceTo_stored ha, bind, Except.bind, pure, Except.pure] at h ⊢
    split at h
    · cases h
    · next hlz => rw [if_neg hlz]; cases h; rfl

theorem integerPhase_cut (D : DigitsOK c .integer c.mantissaRadix) (P : PrefixOK c)
    (b : Bytes) (ip : IntPart) (hv : Bytes.Valid b) (h : integerPhase c b = .ok ip) : IntPhaseOK c b ip := by
  unfold IntPhaseOK
  rw [Phase.integerPhase_eq] at h
  simp only [bind, Except.bind] at h
  cases hpp : prefixPhase c b with
  | error e => simp [hpp] at h
  | ok pp =>
    obtain ⟨isP, b0⟩ := pp
    obtain ⟨p1, p2, p3, p5⟩ := P b b0 isP hv hpp
    simp only [hpp] at h
    cases hpass : Phase.digitPass c .integer b0 0 with
    | error e => simp [hpass] at h
    | ok pr =>
      obtain ⟨m, e⟩ := pr
      obtain ⟨ha, q5, q6⟩ := digitPass_cut hc D b0 e 0 m p3 hpass
      simp only [hpass] at h
      -- what the tail returns, and that integer digits were found when required
      have hip : ip.isPrefix = isP ∧ ip.start = b0 ∧ ip.byte = e ∧ ip.mantissa = m ∧
          ip.nDigits = e.currentCount c - b0.currentCount c ∧
          ¬ (c.feats.format && c.requiredIntegerDigits && decide (e.currentCount c - b0.currentCount c = 0)) = true := by
        unfold Phase.intTail at h
        simp only at h
        split at h
        · cases h
        · next hreq =>
          simp only [Phase.sliceTo_stored ha, bind, Except.bind, pure, Except.pure] at h
          split at h
          · cases h
          · cases h; exact ⟨rfl, rfl, rfl, rfl, rfl, hreq⟩
      obtain ⟨rfl, rfl, rfl, rfl, hnd, hreq⟩ := hip
      have hcc := PNTotal.count_diff_le (c := c) ha
      refine ⟨⟨p1, p2, p3, rfl⟩, hpass, by rw [ha.slc, p1], ha.mono, ha.valid', hnd, by rw [hnd]; exact hcc,
        by rw [← p1]; exact q5, fun n haA => ?_⟩
      have hn := haA.1
      have hpre : c.requiredIntegerDigits = true → ip.start.index < n := by
        intro hri
        have hfm := requiredIntegerDigits_format hri
        simp only [hfm, hri, Bool.and_self, Bool.true_and, decide_eq_true_eq] at hreq
        have := ha.mono
        omega
      rw [Phase.integerPhase_eq]
      simp only [p5 n (by have := ha.mono; omega) hpre, q6 n haA, bind, Except.bind]
      exact intTail_trunc hc _ ha _ _ h n hn

end

section
variable {c : Cfg} (hc : Rel c) (hb : NumContig c)
include hc hb

omit hc in
theorem peekIdx_num (k : Comp) (hk : k ≠ .special) (s : List Nat) (f : Bool) (i : Nat) : peekIdx c k s f i = i := by
  rcases hb with hb | hi
  · exact peekIdx_bc hb ..
  · exact peekIdx_noskip ((skip_noskip_iff c k).mpr (hi k hk)) ..

omit hc in
theorem pk_num (k : Comp) (hk : k ≠ .special) (b : Bytes) : pk c k b = b.index := peekIdx_num hb k hk ..

theorem peek_num (k : Comp) (hk : k ≠ .special) (b : Bytes) : peek c k b = .ok (b.slc[b.index]?, b) := by
  rw [peek_eq (hc.hs k), pk_num hb k hk]; rfl

omit hc in
theorem Cut.of_num (k : Comp) (hk : k ≠ .special) {n : Nat} {b' : Bytes} (h : b'.index ≤ n) : Cut c k n b' :=
  ⟨h, fun b _ _ hp => by rw [pk_num hb k hk] at hp ⊢; exact hp⟩

omit hc in
theorem Cut.step_num (k : Comp) (hk : k ≠ .special) {D : Nat → Prop} : Cut.Step c k D :=
  fun _ _ _ h _ _ => Cut.of_num hb k hk (Nat.le_of_lt h)

theorem parseDigits_trunc (k : Comp) (hk : k ≠ .special) (r : Nat) : DigitsOK c k r :=
  parseDigits_cut hc (Cut.step_num hb k hk)

theorem readIfValueCased_g (k : Comp) (hk : k ≠ .special) (v : Nat) (b : Bytes) :
    readIfValueCased c k v b =
      .ok (if (b.slc[b.index]? == some v) = true then (true, cur b (b.index + 1)) else (false, b)) := by
  rw [readIfValueCased_eq (hc.hs k) v b (StepOK.release hc.hd _ _), pk_num hb k hk]
  by_cases h : b.slc[b.index]? = some v <;> simp [h, cur_self]

theorem readIfValue_g (k : Comp) (hk : k ≠ .special) (v : Nat) (cased : Bool) (b : Bytes) :
    readIfValue c k v cased b =
      .ok (if matchByte v cased b.slc[b.index]? = true then (true, cur b (b.index + 1)) else (false, b)) := by
  unfold readIfValue
  cases cased with
  | true => simp only [if_true, readIfValueCased_g hc hb k hk, matchByte]
  | false =>
    rw [if_neg (by simp), readIfValueUncased_eq (hc.hs k) v b (fun _ _ => StepOK.release hc.hd _ _), pk_num hb k hk]
    cases b.slc[b.index]? <;> simp [matchByte, cur_self]

theorem prefixPhase_g (b : Bytes) :
    prefixPhase c b =
      if (c.feats.format && c.basePrefix ≠ 0) = true then
        (if (b.slc[b.index]? == some 48) = true then
          (if matchByte c.basePrefix c.caseSensitiveBasePrefix b.slc[b.index + 1]? = true then
            (if ((cur b (b.index + 2)).isBufferEmpty && c.requiredIntegerDigits) = true then
              .error (.err "EmptyInteger" (b.index + 2))
             else .ok (true, cur b (b.index + 2)))
           else .ok (false, b))
         else .ok (false, b))
      else .ok (false, b) := by
  have hr2 : readIfValue c .integer c.basePrefix c.caseSensitiveBasePrefix (cur b (b.index + 1)) =
      .ok (if matchByte c.basePrefix c.caseSensitiveBasePrefix b.slc[b.index + 1]? = true then
        (true, cur b (b.index + 2)) else (false, cur b (b.index + 1))) :=
    readIfValue_g hc hb .integer (by decide) _ _ (cur b (b.index + 1))
  rw [PrefixRepair.prefixPhase_eq_repaired c b rfl]
  unfold prefixPhaseRepaired
  by_cases hfmt : (c.feats.format && c.basePrefix ≠ 0) = true
  · rw [if_pos hfmt, if_pos hfmt]
    simp only [readIfValueCased_g hc hb .integer (by decide), bind, Except.bind]
    by_cases h48 : (b.slc[b.index]? == some 48) = true
    · rw [if_pos h48, if_pos h48]
      have hlt : b.index < b.slc.length := by
        have : b.slc[b.index]? = some 48 := by simpa using h48
        exact (List.getElem?_eq_some_iff.mp this).1
      simp only [if_true, hr2]
      by_cases hm : matchByte c.basePrefix c.caseSensitiveBasePrefix b.slc[b.index + 1]? = true
      · rw [if_pos hm, if_pos hm]
        simp only [if_true, pure, Except.pure, cur_index]
      · rw [if_neg hm, if_neg hm]
        have hle : b.index ≤ (cur b (b.index + 1)).slc.length := by simp only [cur_slc]; omega
        simp only [Bool.false_eq_true, if_false, hle, if_true, pure, Except.pure]
        rfl
    · rw [if_neg h48, if_neg h48]
      simp only [Bool.false_eq_true, if_false, pure, Except.pure]
  · rw [if_neg hfmt, if_neg hfmt]
    rfl

theorem prefixPhase_trunc (b b' : Bytes) (isP : Bool) (hv : Bytes.Valid b) (h : prefixPhase c b = .ok (isP, b')) :
    b'.slc = b.slc ∧ b.index ≤ b'.index ∧ Bytes.Valid b' ∧
    ∀ n, b'.index ≤ n → (c.requiredIntegerDigits = true → b'.index < n) →
      prefixPhase c (trunc n b) = .ok (isP, trunc n b') := by
  rw [prefixPhase_g hc hb] at h
  split at h
  · next hfmt =>
    split at h
    · next h48 =>
      have hlt : b.index < b.slc.length := by
        have : b.slc[b.index]? = some 48 := by simpa using h48
        exact (List.getElem?_eq_some_iff.mp this).1
      split at h
      · next hm =>
        obtain ⟨y, hy⟩ := matchByte_some _ _ _ hm
        have hlt2 : b.index + 1 < b.slc.length := (List.getElem?_eq_some_iff.mp hy).1
        split at h
        · cases h
        · next hemp =>
          simp only [Except.ok.injEq, Prod.mk.injEq] at h
          obtain ⟨rfl, rfl⟩ := h
          refine ⟨rfl, by simp, by simp only [Bytes.Valid, cur_index, cur_slc]; omega, ?_⟩
          intro n hn hreq
          simp only [cur_index] at hn hreq
          rw [prefixPhase_g hc hb, if_pos hfmt]
          rw [show (trunc n b).slc[(trunc n b).index]? = b.slc[b.index]? from
              take_get_lt _ _ _ (by simp only [trunc_index]; omega), if_pos h48,
            show (trunc n b).slc[(trunc n b).index + 1]? = b.slc[b.index + 1]? from
              take_get_lt _ _ _ (by simp only [trunc_index]; omega), if_pos hm]
          have hX : ¬ ((cur (trunc n b) ((trunc n b).index + 2)).isBufferEmpty && c.requiredIntegerDigits) = true := by
            cases hri : c.requiredIntegerDigits with
            | false => simp
            | true =>
              have := hreq hri
              simp only [hri, Bool.and_true, Bytes.isBufferEmpty, cur_index, cur_slc, trunc_slc, trunc_index,
                List.length_take, decide_eq_true_eq, ge_iff_le, Nat.not_le] at hemp ⊢
              omega
          rw [if_neg hX]
          rfl
      · next hm =>
        have hmt : ∀ n, matchByte c.basePrefix c.caseSensitiveBasePrefix (trunc n b).slc[(trunc n b).index + 1]? = false := by
          intro n
          by_cases hlt3 : b.index + 1 < n
          · rw [show (trunc n b).slc[(trunc n b).index + 1]? = b.slc[b.index + 1]? from take_get_lt _ _ _ hlt3]
            simpa using hm
          · rw [show (trunc n b).slc[(trunc n b).index + 1]? = none from take_get_ge _ _ _ (by simp only [trunc_index]; omega)]
            exact matchByte_none _ _
        -- the iterator is given back, `is_prefix = false`
        simp only [Except.ok.injEq, Prod.mk.injEq] at h
        obtain ⟨rfl, rfl⟩ := h
        refine ⟨rfl, Nat.le_refl _, hv, ?_⟩
        intro n hn _
        rw [prefixPhase_g hc hb, if_pos hfmt, get_trunc]
        by_cases hlt3 : b.index < n
        · rw [if_pos hlt3, if_pos h48, hmt n]
          simp
        · have : ((if b.index < n then b.slc[b.index]? else none) == some 48) = false := by
            rw [if_neg hlt3]; rfl
          rw [this]
          rfl
    · next h48 =>
      simp only [Except.ok.injEq, Prod.mk.injEq] at h
      obtain ⟨rfl, rfl⟩ := h
      refine ⟨rfl, Nat.le_refl _, hv, ?_⟩
      intro n hn _
      rw [prefixPhase_g hc hb, if_pos hfmt, get_trunc]
      have : ((if b.index < n then b.slc[b.index]? else none) == some 48) = false := by
        split
        · simpa using h48
        · rfl
      rw [this]
      rfl
  · next hfmt =>
    simp only [Except.ok.injEq, Prod.mk.injEq] at h
    obtain ⟨rfl, rfl⟩ := h
    refine ⟨rfl, Nat.le_refl _, hv, ?_⟩
    intro n _ _
    rw [prefixPhase_g hc hb, if_neg hfmt]

theorem integerPhase_trunc (b : Bytes) (ip : IntPart) (hv : Bytes.Valid b) (h : integerPhase c b = .ok ip) :
    IntPhaseOK c b ip :=
  integerPhase_cut hc (parseDigits_trunc hc hb .integer (by decide) _) (prefixPhase_trunc hc hb) b ip hv h

theorem fractionPhase_trunc (o : POpts) (b : Bytes) (m0 : Nat) (fp : FracPart) (hv : Bytes.Valid b)
    (h : fractionPhase c o b m0 = .ok fp) : FracPhaseOK c o b m0 fp :=
  fractionPhase_cut hc (parseDigits_trunc hc hb .fraction (by decide) _) o b m0 fp hv h

theorem exponentPhase_trunc (he : Bool) (b : Bytes) (fr : Option (List Nat)) (ex : Int) (ep : ExpPart)
    (hv : Bytes.Valid b) (hlt : he = true → b.index < b.slc.length) (h : exponentPhase c he b fr ex = .ok ep) :
    ExpPhaseOK c he b fr ex ep :=
  exponentPhase_cut hc (parseDigits_trunc hc hb .exponent (by decide) _) he b fr ex ep hv hlt h

end
end LexVerif.Proof.C11
