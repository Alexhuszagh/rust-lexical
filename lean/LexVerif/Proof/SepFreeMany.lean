import LexVerif.Proof.SepFreePhases
/-!
# Proof.SepFreeMany — `skip_zeros` and `parse_u64_digits` on separator-free input: `u64Spec` reads digit by digit what the 8-digit blocks and the loop read
-/
namespace LexVerif.Proof.Sep
open LexVerif LexVerif.Model LexVerif.Spec
open LexVerif.Props.C12 LexVerif.Proof.IterSpec

theorem skipZeros_nosep (c : Cfg) (k : Comp) (hd : c.debug = false) (hk : c.skip k ≠ .unreachable) (b : Bytes)
    (hn : NoSep c b.slc) :
    skipZeros c k b = .ok (Bytes.iterCount c k (adv c k (zerosPrefix (b.slc.drop b.index)) b) - Bytes.iterCount c k b,
      adv c k (zerosPrefix (b.slc.drop b.index)) b) :=
  skipZeros_pk c k hd b (plainPeek_nosep c k _ hn hk)

theorem format_of_iter {c : Cfg} {k : Comp} (h : c.iterContiguous k = false) : c.feats.format = true := by
  cases hf : c.feats.format
  · cases k <;> simp [Cfg.iterContiguous, Cfg.sepFlags, Cfg.specialSep, Cfg.flag, hf, SepFlags.any] at h
  · rfl

theorem iterCount_rel (c : Cfg) (k : Comp) (hk : k = .integer ∨ k = .fraction) (n : Nat) (b : Bytes) :
    Bytes.iterCount c k (adv c k n b) - Bytes.iterCount c k b = n := by
  cases hc : c.iterContiguous k
  · have hf := format_of_iter hc
    rcases hk with rfl | rfl <;> simp [Bytes.iterCount, hc, adv, hf]
  · simp [Bytes.iterCount, hc]

theorem iterCount_plain (c : Cfg) (hP : PlainClass c) (k : Comp) (n : Nat) (b : Bytes) :
    Bytes.iterCount c k (adv c k n b) - Bytes.iterCount c k b = n := by
  simp [Bytes.iterCount, hP.contig k]

/-- `parse_u64_digits`, digit by digit: (bytes consumed, mantissa, remaining step) -/
def u64Spec (radix : Nat) : List Nat → Nat → Nat → Nat × Nat × Nat
  | [], m, st => (0, m, st)
  | x :: xs, m, st =>
    if st > 0 then
      let r := u64Spec radix xs ((m * radix + charToValidDigit x radix) % pow2_64) (st - 1)
      (r.1 + 1, r.2.1, r.2.2)
    else (0, m, st)

theorem u64Spec_eq (radix : Nat) : ∀ (l : List Nat) (m st : Nat),
    u64Spec radix l m st = (min st l.length,
      (l.take st).foldl (fun m x => (m * radix + charToValidDigit x radix) % pow2_64) m, st - min st l.length)
  | [], m, st => by simp [u64Spec]
  | x :: xs, m, st => by
    cases st with
    | zero => simp [u64Spec]
    | succ n =>
      simp only [u64Spec, Nat.succ_pos, if_true, Nat.add_sub_cancel, u64Spec_eq radix xs, List.take_succ_cons,
        List.foldl_cons, List.length_cons]
      refine Prod.ext ?_ (Prod.ext rfl ?_) <;> simp only <;> omega

theorem u64Loop1_pk (c : Cfg) (k : Comp) (hd : c.debug = false) (slc : List Nat) (hp : PlainPeek c k slc) :
    ∀ (fuel : Nat) (b : Bytes) (m st : Nat), b.slc = slc → b.slc.length - b.index < fuel →
      u64Loop1 c k fuel b m st =
        .ok (adv c k (u64Spec c.mantissaRadix (b.slc.drop b.index) m st).1 b,
             (u64Spec c.mantissaRadix (b.slc.drop b.index) m st).2.1,
             (u64Spec c.mantissaRadix (b.slc.drop b.index) m st).2.2) := by
  intro fuel b m st hb hf
  subst hb
  rw [u64Loop1_eq hp.reach fuel b m st (fun x _ => StepOK.release hd k x) (fun h => by rw [hd] at h; cases h),
    hp.scan_true, u64Spec_eq, adv_eq_mv, if_pos]
  · simp only [List.length_take, List.length_drop]
  · simp only [List.length_take, List.length_drop]; omega

theorem u64Spec_step (radix : Nat) (l : List Nat) (m st : Nat) :
    (u64Spec radix l m st).2.2 = st - (u64Spec radix l m st).1 ∧ (u64Spec radix l m st).1 = min st l.length := by
  rw [u64Spec_eq]; exact ⟨rfl, rfl⟩

theorem u64Spec_digits (r : Nat) (hr : r ≤ 10) : ∀ (bs rest : List Nat) (m st : Nat), is8Digits r bs = true →
    bs.length ≤ st →
    u64Spec r (bs ++ rest) m st =
      ((u64Spec r rest (foldMantissa r m (bs.map (· - 48))) (st - bs.length)).1 + bs.length,
       (u64Spec r rest (foldMantissa r m (bs.map (· - 48))) (st - bs.length)).2.1,
       (u64Spec r rest (foldMantissa r m (bs.map (· - 48))) (st - bs.length)).2.2) := by
  intro bs
  induction bs with
  | nil => intro rest m st _ _; simp [foldMantissa]
  | cons x xs ih =>
    intro rest m st h8 hl
    simp only [is8Digits, List.all_cons, Bool.and_eq_true] at h8
    have hx := (digit_of_is8 r x hr (by simpa using h8.1)).2
    simp only [List.length_cons] at hl
    have hst : st > 0 := by omega
    simp only [List.cons_append, u64Spec, hst, if_true, hx]
    rw [ih rest _ (st - 1) (by simpa [is8Digits] using h8.2) (by omega)]
    simp only [List.map_cons, foldMantissa, List.foldl_cons, List.length_cons]
    have : st - 1 - xs.length = st - (xs.length + 1) := by omega
    rw [this]
    refine Prod.ext ?_ rfl
    simp only; omega

theorem blocks8_u64Spec (r : Nat) (hr : r ≤ 10) (s : List Nat) : ∀ (lim i m st : Nat), 8 * lim ≤ st →
    u64Spec r (s.drop i) m st =
      ((u64Spec r (s.drop (i + 8 * blocks8 r s lim i)) (acc8 r s (blocks8 r s lim i) i m)
          (st - 8 * blocks8 r s lim i)).1 + 8 * blocks8 r s lim i,
       (u64Spec r (s.drop (i + 8 * blocks8 r s lim i)) (acc8 r s (blocks8 r s lim i) i m)
          (st - 8 * blocks8 r s lim i)).2.1,
       (u64Spec r (s.drop (i + 8 * blocks8 r s lim i)) (acc8 r s (blocks8 r s lim i) i m)
          (st - 8 * blocks8 r s lim i)).2.2)
  | 0, i, m, st, _ => by simp [blocks8, acc8]
  | lim + 1, i, m, st, hst => by
    unfold blocks8
    split
    · next h =>
      have hl : (at8 s i).length = 8 := by simp only [at8, List.length_take, List.length_drop]; omega
      have hdrop : s.drop i = at8 s i ++ s.drop (i + 8) := by
        rw [at8, ← List.drop_drop, List.take_append_drop]
      have ih := blocks8_u64Spec r hr s lim (i + 8) ((m * radix8 r + val8Digits r (at8 s i)) % pow2_64) (st - 8)
        (by omega)
      have e1 : i + 8 * (blocks8 r s lim (i + 8) + 1) = i + 8 + 8 * blocks8 r s lim (i + 8) := by omega
      have e2 : st - 8 * (blocks8 r s lim (i + 8) + 1) = st - 8 - 8 * blocks8 r s lim (i + 8) := by omega
      rw [e1, e2, acc8]
      conv => lhs; rw [hdrop, u64Spec_digits _ hr _ _ m st h.2 (by omega), hl, ← val8_step _ _ _ hr hl, ih]
      refine Prod.ext ?_ rfl
      simp only; omega
    · simp [acc8]

theorem parseU64_pk (c : Cfg) (k : Comp) (hd : c.debug = false) (hr : canMultidigit c k = true → c.mantissaRadix ≤ 10)
    (b : Bytes) (m st : Nat) (hp : PlainPeek c k b.slc) :
    parseU64Digits c k b m st =
      .ok (adv c k (u64Spec c.mantissaRadix (b.slc.drop b.index) m st).1 b,
           (u64Spec c.mantissaRadix (b.slc.drop b.index) m st).2.1,
           (u64Spec c.mantissaRadix (b.slc.drop b.index) m st).2.2) := by
  rw [parseU64Digits_eq (fun _ h => by rw [hd] at h; cases h),
    u64Loop1_pk c k hd _ hp _ _ _ _ (by simp) (by simp only [mv_slc, mv_index]; omega)]
  unfold nblocksU
  split
  · next hm =>
    -- the blocks are digits (radix ≤ 10), so the specification reads them one by one
    have hr10 : c.mantissaRadix ≤ 10 := hr (by simp only [Bool.and_eq_true] at hm; exact hm.2)
    rw [blocks8_u64Spec c.mantissaRadix hr10 b.slc ((st - 1) / 8) b.index m st (by omega)]
    simp only [mv_slc, mv_index, adv_eq_mv, mv_mv]
    congr 3 <;> omega
  · simp [acc8, adv_eq_mv, cur_self]

theorem parseU64_rel (c : Cfg) (k : Comp) (hS : RelClass c) (b : Bytes) (m st : Nat) (hn : NoSep c b.slc) :
    parseU64Digits c k b m st =
      .ok (adv c k (u64Spec c.mantissaRadix (b.slc.drop b.index) m st).1 b,
           (u64Spec c.mantissaRadix (b.slc.drop b.index) m st).2.1,
           (u64Spec c.mantissaRadix (b.slc.drop b.index) m st).2.2) :=
  parseU64_pk c k hS.debug (hS.multi k) b m st (plainPeek_nosep c k _ hn (hS.reach k))

theorem parseU64_plain (c : Cfg) (k : Comp) (hP : PlainClass c) (b : Bytes) (m st : Nat) :
    ∃ e, e.slc = b.slc ∧ e.index = b.index + (u64Spec c.mantissaRadix (b.slc.drop b.index) m st).1 ∧
      parseU64Digits c k b m st =
        .ok (e, (u64Spec c.mantissaRadix (b.slc.drop b.index) m st).2.1,
             (u64Spec c.mantissaRadix (b.slc.drop b.index) m st).2.2) :=
  ⟨_, by simp, by simp, parseU64_rel c k hP.rel b m st (hP.noSep _)⟩

end LexVerif.Proof.Sep
