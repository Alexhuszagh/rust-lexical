import LexVerif.Proof.SepDigits
import LexVerif.Proof.SepFree
/-!
# Proof.SepSkipAllLoops — the cursor over the stripped input

`StripRel`: the cursor over `s` and the cursor over the stripped `s` at corresponding positions.
-/
namespace LexVerif.Proof.Sep
open LexVerif LexVerif.Model LexVerif.Spec
open LexVerif.Props.C12

theorem countSeps_le_length (c : Cfg) (l : List Nat) : countSeps c l ≤ l.length := countSeps_le c l

theorem nonSep_cons_non (c : Cfg) (x : Nat) (xs : List Nat) (h : c.isSep x = false) :
    nonSep c (x :: xs) = x :: nonSep c xs := by simp [nonSep, h]

theorem nonSep_noSep (c : Cfg) (l : List Nat) : NoSep c (nonSep c l) := by
  intro x hx
  simp only [nonSep, List.mem_filter, Bool.not_eq_true'] at hx
  exact hx.2

def StripRel (c : Cfg) (s : List Nat) (b b' : Bytes) : Prop :=
  b.slc = s ∧ b'.slc = nonSep c s ∧ b'.index = (nonSep c (s.take b.index)).length ∧
  b'.ic = b.ic ∧ b'.fc = b.fc ∧ b'.ec = b.ec

theorem nonSep_take_drop (c : Cfg) (s : List Nat) (i : Nat) :
    (nonSep c s).drop (nonSep c (s.take i)).length = nonSep c (s.drop i) := by
  have h : nonSep c s = nonSep c (s.take i) ++ nonSep c (s.drop i) := by
    rw [← nonSep_append, List.take_append_drop]
  rw [h, List.drop_left]

theorem StripRel.drop {c : Cfg} {s : List Nat} {b b' : Bytes} (h : StripRel c s b b') :
    b'.slc.drop b'.index = nonSep c (b.slc.drop b.index) := by
  rw [h.2.1, h.2.2.1, h.1, nonSep_take_drop]

theorem nonSep_take_add (c : Cfg) (s : List Nat) (i n : Nat) :
    (nonSep c (s.take (i + n))).length = (nonSep c (s.take i)).length + (nonSep c ((s.drop i).take n)).length := by
  rw [List.take_add, nonSep_append, List.length_append]

theorem StripRel.get {c : Cfg} {s : List Nat} {b b' : Bytes} (h : StripRel c s b b')
    (hx : ∀ x, b.slc[b.index]? = some x → c.isSep x = false) : b'.slc[b'.index]? = b.slc[b.index]? := by
  have hd := h.drop
  cases hv : b.slc[b.index]? with
  | none =>
    rw [IterSpec.drop_of_none hv] at hd
    simp only [nonSep, List.filter_nil] at hd
    have : b'.slc.length ≤ b'.index := by
      have := congrArg List.length hd
      simp only [List.length_drop, List.length_nil] at this
      omega
    exact List.getElem?_eq_none this
  | some x =>
    rw [IterSpec.drop_eq_cons hv, nonSep_cons_non c x _ (hx x hv)] at hd
    have := congrArg List.head? hd
    simp only [List.head?_drop, List.head?_cons] at this
    exact this

end LexVerif.Proof.Sep
