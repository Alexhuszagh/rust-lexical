import LexVerif.Proof.RoundNECell
/-!
# Proof.RoundNEDecode — `decode` of finite patterns vs `ival`; Nat-level corollaries (Mathlib-free)
-/
namespace LexVerif.Proof.RoundNE
open LexVerif.Spec

theorem infBits_lt_signBit {f : Fmt} (hf : WF f) : f.infBits < f.signBit := by
  have hp := hf.hp
  have he := hf.he
  unfold Fmt.infBits Fmt.signBit Fmt.totalBits
  rw [show f.p + f.ebits - 1 = f.ebits + (f.p - 1) by omega, Nat.pow_add]
  exact Nat.mul_lt_mul_of_pos_right (by have := Nat.two_pow_pos f.ebits; omega) (Nat.two_pow_pos _)

theorem expField_lt {f : Fmt} {b : Nat} (hb : b < f.infBits) :
    b / 2 ^ (f.p - 1) < f.maxExpField := by
  rw [Nat.div_lt_iff_lt_mul (Nat.two_pow_pos _)]; exact hb

theorem expField_eq {f : Fmt} {b : Nat} (hb : b < f.infBits) : f.expField b = b / 2 ^ (f.p - 1) := by
  have h1 := expField_lt hb
  unfold Fmt.expField
  apply Nat.mod_eq_of_lt
  unfold Fmt.maxExpField at h1
  generalize b / 2 ^ (f.p - 1) = x at *
  generalize 2 ^ f.ebits = y at *
  omega

theorem decode_finite {f : Fmt} (hf : WF f) {b : Nat} (hb : b < f.infBits) :
    f.decode b =
      if b / 2 ^ (f.p - 1) = 0 then ⟨false, b % 2 ^ (f.p - 1), f.eminLsb⟩
      else ⟨false, b % 2 ^ (f.p - 1) + 2 ^ (f.p - 1),
            ((b / 2 ^ (f.p - 1) : Nat) : Int) - (f.bias : Int) - ((f.p : Int) - 1)⟩ := by
  have h2 : b / f.signBit = 0 := Nat.div_eq_of_lt (Nat.lt_trans hb (infBits_lt_signBit hf))
  have h3 : f.isNeg b = false := by simp [Fmt.isNeg, h2]
  have h4 := expField_eq hb
  unfold Fmt.decode
  simp only [h3, h4, Fmt.manField]

/-- significand/exponent form of a finite pattern, matching both `decode` and `ival` -/
theorem decode_kq {f : Fmt} (hf : WF f) {b : Nat} (hb : b < f.infBits) :
    ∃ k q, b = k * 2 ^ (f.p - 1) + q ∧ (0 < k → 2 ^ (f.p - 1) ≤ q) ∧ q < 2 * 2 ^ (f.p - 1) ∧
      f.decode b = ⟨false, q, (k : Int) - (L f : Int)⟩ ∧ (f.expField b > 1 ↔ 0 < k) := by
  have hp := hf.hp
  have hbias := bias_pos hf
  have h4 := expField_eq hb
  rw [decode_finite hf hb, h4]
  have hTpos := Nat.two_pow_pos (f.p - 1)
  have d1 := Nat.div_add_mod b (2 ^ (f.p - 1))
  have d2 := Nat.mod_lt b hTpos
  generalize 2 ^ (f.p - 1) = T at *
  generalize b / T = ef at *
  generalize b % T = mf at *
  by_cases h0 : ef = 0
  · refine ⟨0, mf, ?_, by omega, by omega, ?_, by omega⟩
    · subst h0; omega
    · simp only [h0, if_true]; rw [eminLsb_eq hf]; simp
  · obtain ⟨j, rfl⟩ : ∃ j, ef = j + 1 := ⟨ef - 1, by omega⟩
    refine ⟨j, mf + T, ?_, by omega, by omega, ?_, by omega⟩
    · rw [← d1, Nat.mul_succ, Nat.mul_comm]; omega
    · simp only [h0, if_false]
      congr 1
      unfold L; omega

theorem toFrac_decode {f : Fmt} (hf : WF f) {b : Nat} (hb : b < f.infBits) :
    (f.decode b).toFrac.1 * 2 ^ (L f) = ival f b * (f.decode b).toFrac.2 ∧
    0 < (f.decode b).toFrac.2 := by
  obtain ⟨k, q, rfl, h1, h2, hdec, _⟩ := decode_kq hf hb
  rw [hdec, ival_kq f k q h1 (Nat.le_of_lt h2)]
  unfold Dec.toFrac
  dsimp only
  split
  · refine ⟨?_, Nat.one_pos⟩
    rw [Nat.mul_one, Nat.mul_assoc, ← Nat.pow_add]
    congr 2; omega
  · refine ⟨?_, Nat.two_pow_pos _⟩
    rw [Nat.mul_assoc, ← Nat.pow_add]
    congr 2; omega

theorem roundNE_of_ival {f : Fmt} (hf : WF f) {c : Nat} (hc : c < f.infBits) {n d : Nat} (hd : 0 < d)
    (h : n * 2 ^ L f = ival f c * d) : roundNE f n d = c := by
  apply roundNE_unique hf (Nat.ne_of_gt hd)
  rw [h]
  have s1 : c ≠ 0 → ival f (c - 1) < ival f c := fun h => ival_strictMono f (by omega)
  have s2 := ival_lt_succ f c
  have e : 2 * (ival f c * d) = d * (ival f c + ival f c) := by rw [← Nat.two_mul]; ac_rfl
  refine ⟨Nat.le_of_lt hc, ?_, ?_, ?_, ?_⟩ <;> rw [e]
  · intro h; exact Nat.mul_le_mul_left d (by have := s1 h; omega)
  · intro h heq; have := Nat.eq_of_mul_eq_mul_left hd heq; have := s1 h; omega
  · intro _; exact Nat.mul_le_mul_left d (by omega)
  · intro _ heq; have := Nat.eq_of_mul_eq_mul_left hd heq; omega

theorem roundNE_of_float' {f : Fmt} (hf : WF f) {b : Nat} (hb : b < f.infBits) :
    roundNE f (f.decode b).toFrac.1 (f.decode b).toFrac.2 = b :=
  have ⟨h1, h2⟩ := toFrac_decode hf hb
  roundNE_of_ival hf hb h2 h1

theorem roundNE_mono' {f : Fmt} (hf : WF f) {a b c d : Nat} (hb : 0 < b) (hd : 0 < d)
    (h : a * d ≤ c * b) : roundNE f a b ≤ roundNE f c d := by
  refine inCell_mono (inCell_roundNE hf a (Nat.ne_of_gt hb)) (inCell_roundNE hf c (Nat.ne_of_gt hd)) hb hd ?_
  have := Nat.mul_le_mul_right (2 ^ (L f)) h
  rw [show a * 2 ^ L f * d = a * d * 2 ^ L f by ac_rfl, show c * 2 ^ L f * b = c * b * 2 ^ L f by ac_rfl]
  exact this

theorem roundNE_congr' {f : Fmt} (hf : WF f) {a b c d : Nat} (hb : 0 < b) (hd : 0 < d)
    (h : a * d = c * b) : roundNE f a b = roundNE f c d :=
  Nat.le_antisymm (roundNE_mono' hf hb hd (Nat.le_of_eq h)) (roundNE_mono' hf hd hb (Nat.le_of_eq h.symm))

theorem roundNE_scale' {f : Fmt} (hf : WF f) {k : Nat} (hk : 0 < k) (num : Nat) {den : Nat}
    (hd : 0 < den) : roundNE f (k * num) (k * den) = roundNE f num den :=
  roundNE_congr' hf (Nat.mul_pos hk hd) hd (by ac_rfl)

end LexVerif.Proof.RoundNE
