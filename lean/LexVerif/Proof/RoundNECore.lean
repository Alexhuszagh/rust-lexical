import LexVerif.Spec.Float
/-!
# Proof.RoundNECore — Nat/Int-level analysis of `Spec.roundNE` (Mathlib-free)

Everything is scaled by `2^L`, `L = -eminLsb`, so that every finite float is a natural number (its value in units of
the smallest subnormal). `ilog2Q_spec`: `2^e ≤ num/den < 2^(e+1)` for `e = ilog2Q num den`; `roundNE_eq`:
`roundNE f num den = min infBits (k·2^(p-1) + rhe (num·2^L) (den·2^k))`, `k = kOf f e`.
-/
namespace LexVerif.Proof.RoundNE
open LexVerif.Spec

def le2 (a b : Nat) (e : Int) : Prop := a * 2 ^ e.toNat ≤ b * 2 ^ (-e).toNat

theorem le2_shift (a b : Nat) (e : Int) (s : Nat) (h : 0 ≤ e + s) :
    le2 a b e ↔ a * 2 ^ (e + s).toNat ≤ b * 2 ^ s := by
  unfold le2
  by_cases he : 0 ≤ e
  · have h1 : (-e).toNat = 0 := by omega
    have h2 : (e + s).toNat = e.toNat + s := by omega
    rw [h1, h2, Nat.pow_add, ← Nat.mul_assoc]
    simp only [Nat.pow_zero, Nat.mul_one]
    exact (Nat.mul_le_mul_right_iff (Nat.two_pow_pos s)).symm
  · have h1 : e.toNat = 0 := by omega
    obtain ⟨j, hj⟩ : ∃ j : Nat, (-e).toNat = j := ⟨_, rfl⟩
    have h2 : s = (e + s).toNat + j := by omega
    rw [h1, hj]
    generalize (e + s).toNat = t at h2
    subst h2
    rw [Nat.pow_add, Nat.pow_zero, Nat.mul_one, Nat.mul_comm (2 ^ t), ← Nat.mul_assoc]
    exact (Nat.mul_le_mul_right_iff (Nat.two_pow_pos t)).symm

theorem le2_anti {a b : Nat} {e e' : Int} (h : e ≤ e') (h' : le2 a b e') : le2 a b e := by
  have hs : 0 ≤ e + ((-e).toNat : Nat) := by omega
  have hs' : 0 ≤ e' + ((-e).toNat : Nat) := by omega
  rw [le2_shift a b e _ hs]
  rw [le2_shift a b e' _ hs'] at h'
  refine Nat.le_trans (Nat.mul_le_mul_left a (Nat.pow_le_pow_right (by decide) ?_)) h'
  omega

theorem bitlen_pos {n : Nat} (h : n ≠ 0) : 0 < bitlen n := by simp [bitlen, h]

theorem bitlen_lower {n : Nat} (h : n ≠ 0) : 2 ^ (bitlen n - 1) ≤ n := by
  simp only [bitlen, h, if_false, Nat.add_sub_cancel]
  exact Nat.log2_self_le h

theorem bitlen_upper (n : Nat) : n < 2 ^ bitlen n := by
  unfold bitlen
  split
  · subst_vars; decide
  · exact Nat.lt_log2_self

theorem bitlen_le_iff (n m : Nat) : bitlen n ≤ m ↔ n < 2 ^ m := by
  refine ⟨fun h => Nat.lt_of_lt_of_le (bitlen_upper n) (Nat.pow_le_pow_right (by decide) h), fun h => ?_⟩
  unfold bitlen
  split
  · omega
  · rename_i hn
    have := (Nat.log2_lt hn).mpr h
    omega

theorem ilog2Q_spec {num den : Nat} (hn : num ≠ 0) (hd : den ≠ 0) :
    le2 den num (ilog2Q num den) ∧ ¬ le2 den num (ilog2Q num den + 1) := by
  have hbn := bitlen_pos hn
  have hbd := bitlen_pos hd
  have hnl := bitlen_lower hn
  have hnu := bitlen_upper num
  have hdl := bitlen_lower hd
  have hdu := bitlen_upper den
  obtain ⟨bn, hbn'⟩ : ∃ bn, bitlen num = bn + 1 := ⟨bitlen num - 1, by omega⟩
  obtain ⟨bd, hbd'⟩ : ∃ bd, bitlen den = bd + 1 := ⟨bitlen den - 1, by omega⟩
  have key : ∀ e : Int, (if e ≥ 0 then den * 2 ^ e.toNat ≤ num else den ≤ num * 2 ^ (-e).toNat)
      ↔ le2 den num e := by
    intro e; unfold le2
    split
    · have : (-e).toNat = 0 := by omega
      simp [this]
    · have : e.toNat = 0 := by omega
      simp [this]
  simp only [ilog2Q, key]
  rw [hbn'] at hnl hnu
  rw [hbd'] at hdl hdu
  rw [hbn', hbd']
  simp only [Nat.add_sub_cancel] at hnl hdl
  generalize hE : ((bn + 1 : Nat) : Int) - ((bd + 1 : Nat) : Int) = e0
  -- the bit lengths give `2^(e0−1) < num/den < 2^(e0+1)`: the test at `e0` decides between `e0` and `e0 − 1`
  by_cases hok' : (if e0 ≥ 0 then den * 2 ^ e0.toNat ≤ num else den ≤ num * 2 ^ (-e0).toNat)
  · have hok := (key e0).mp hok'
    rw [if_pos hok']
    refine ⟨hok, ?_⟩
    rw [le2_shift den num (e0 + 1) (bd + 1) (by omega)]
    have : (e0 + 1 + ((bd + 1 : Nat) : Int)).toNat = bn + 2 := by omega
    rw [this]
    have h1 : 2 ^ bd * 2 ^ (bn + 2) ≤ den * 2 ^ (bn + 2) := Nat.mul_le_mul_right _ hdl
    have h2 : num * 2 ^ (bd + 1) < 2 ^ (bn + 1) * 2 ^ (bd + 1) :=
      Nat.mul_lt_mul_of_pos_right hnu (Nat.two_pow_pos _)
    have h3 : 2 ^ bd * 2 ^ (bn + 2) = 2 ^ (bn + 1) * 2 ^ (bd + 1) := by
      rw [← Nat.pow_add, ← Nat.pow_add]; congr 1; omega
    omega
  · have hok := fun h => hok' ((key e0).mpr h)
    rw [if_neg hok']
    refine ⟨?_, by simpa using hok⟩
    rw [le2_shift den num (e0 - 1) (bd + 1) (by omega)]
    have : (e0 - 1 + ((bd + 1 : Nat) : Int)).toNat = bn := by omega
    rw [this]
    rw [Nat.mul_comm num]
    exact Nat.mul_le_mul (Nat.le_of_lt hdu) hnl

/-- `n/d` rounded to the nearest integer, ties to even (the `q`/`rem` step of `roundNE`). -/
def rhe (n d : Nat) : Nat :=
  if 2 * (n % d) > d ∨ (2 * (n % d) = d ∧ (n / d) % 2 = 1) then n / d + 1 else n / d

theorem rhe_spec (n : Nat) {d : Nat} (hd : 0 < d) :
    2 * (d * rhe n d) ≤ 2 * n + d ∧ 2 * n ≤ 2 * (d * rhe n d) + d ∧
    (2 * (d * rhe n d) = 2 * n + d → rhe n d % 2 = 0) ∧
    (2 * n = 2 * (d * rhe n d) + d → rhe n d % 2 = 0) := by
  have h1 := Nat.div_add_mod n d
  have h2 := Nat.mod_lt n hd
  unfold rhe
  split
  · rw [Nat.mul_succ]; omega
  · omega

theorem rhe_scale (c n d : Nat) (hc : 0 < c) : rhe (c * n) (c * d) = rhe n d := by
  unfold rhe
  rw [Nat.mul_div_mul_left _ _ hc, Nat.mul_mod_mul_left]
  have e1 : (2 * (c * (n % d)) > c * d) ↔ (2 * (n % d) > d) := by
    rw [show 2 * (c * (n % d)) = c * (2 * (n % d)) by rw [Nat.mul_left_comm]]
    exact Nat.mul_lt_mul_left hc
  have e2 : (2 * (c * (n % d)) = c * d) ↔ (2 * (n % d) = d) := by
    rw [show 2 * (c * (n % d)) = c * (2 * (n % d)) by rw [Nat.mul_left_comm]]
    exact Nat.mul_right_inj (Nat.ne_of_gt hc)
  simp only [e1, e2]

theorem two_pow_pred {n : Nat} (h : 0 < n) : 2 ^ n = 2 * 2 ^ (n - 1) := by
  rw [← Nat.pow_succ']; congr 1; omega

theorem rhe_pow2 (m s : Nat) (hs : 0 < s) :
    rhe m (2 ^ s) =
      m / 2 ^ s + (if m % 2 ^ s > 2 ^ (s - 1) ∨ (m % 2 ^ s = 2 ^ (s - 1) ∧ m / 2 ^ s % 2 = 1) then 1 else 0) := by
  unfold rhe
  generalize m % 2 ^ s = r
  generalize m / 2 ^ s = a
  rw [two_pow_pred hs]
  generalize 2 ^ (s - 1) = h
  by_cases c : 2 * r > 2 * h ∨ 2 * r = 2 * h ∧ a % 2 = 1
  · rw [if_pos c, if_pos (by omega)]
  · rw [if_neg c, if_neg (by omega)]; rfl

theorem rhe_of_split (a ρ D : Nat) (hρ : ρ < D) :
    rhe (D * a + ρ) D = if 2 * ρ > D ∨ (2 * ρ = D ∧ a % 2 = 1) then a + 1 else a := by
  have hD : 0 < D := by omega
  unfold rhe
  rw [Nat.mul_add_div hD, Nat.div_eq_of_lt hρ, Nat.add_zero, Nat.mul_add_mod, Nat.mod_eq_of_lt hρ]

theorem rhe_congr {n d n' d' : Nat} (hd : 0 < d) (hd' : 0 < d') (h : n * d' = n' * d) : rhe n d = rhe n' d' := by
  rw [← rhe_scale d' n d hd', ← rhe_scale d n' d' hd, Nat.mul_comm d' n, h, Nat.mul_comm n' d, Nat.mul_comm d' d]

def scaled (num den : Nat) (lsb : Int) : Nat × Nat :=
  if lsb ≥ 0 then (num, den * 2 ^ lsb.toNat) else (num * 2 ^ (-lsb).toNat, den)
def lsbOf (f : Fmt) (e : Int) : Int :=
  if e - ((f.p : Int) - 1) < f.eminLsb then f.eminLsb else e - ((f.p : Int) - 1)
def renorm (f : Fmt) (q : Nat) (lsb : Int) : Nat × Int :=
  if q = 2 ^ f.p then (2 ^ (f.p - 1), lsb + 1) else (q, lsb)
def pack (f : Fmt) (q : Nat) (lsb : Int) : Nat :=
  if q < 2 ^ (f.p - 1) then q
  else if lsb + ((f.p : Int) - 1) + (f.bias : Int) ≥ (f.maxExpField : Int) then f.infBits
  else (lsb + ((f.p : Int) - 1) + (f.bias : Int)).toNat * 2 ^ (f.p - 1) + (q - 2 ^ (f.p - 1))

theorem roundNE_unfold (f : Fmt) (num den : Nat) : roundNE f num den =
    if num = 0 then 0 else
      let lsb := lsbOf f (ilog2Q num den)
      let s := scaled num den lsb
      let r := renorm f (rhe s.1 s.2) lsb
      pack f r.1 r.2 := by rfl

structure WF (f : Fmt) : Prop where
  hp : 2 ≤ f.p
  he : 2 ≤ f.ebits

theorem wf_f64 : WF f64 := ⟨by decide, by decide⟩
theorem wf_f32 : WF f32 := ⟨by decide, by decide⟩

/-- `L = -eminLsb`: every finite float is an integer multiple of `2^-L`. -/
def L (f : Fmt) : Nat := f.bias + (f.p - 1) - 1

theorem bias_pos {f : Fmt} (hf : WF f) : 1 ≤ f.bias := by
  unfold Fmt.bias
  have : 2 ^ 1 ≤ 2 ^ (f.ebits - 1) := Nat.pow_le_pow_right (by decide) (by have := hf.he; omega)
  omega

theorem eminLsb_eq {f : Fmt} (hf : WF f) : f.eminLsb = -((L f : Nat) : Int) := by
  have := bias_pos hf
  have := hf.hp
  unfold Fmt.eminLsb L
  omega

/-- exponent (relative to `-L`) of the last kept bit -/
def kOf (f : Fmt) (e : Int) : Nat := (e + (L f : Int) - ((f.p - 1 : Nat) : Int)).toNat

theorem lsbOf_eq {f : Fmt} (hf : WF f) (e : Int) : lsbOf f e = (kOf f e : Int) - (L f : Int) := by
  have := hf.hp
  unfold lsbOf kOf
  rw [eminLsb_eq hf]
  split <;> omega

theorem scaled_rhe (num den : Nat) (lsb : Int) (l : Nat) (h : 0 ≤ lsb + l) :
    rhe (scaled num den lsb).1 (scaled num den lsb).2 = rhe (num * 2 ^ l) (den * 2 ^ (lsb + l).toNat) := by
  unfold scaled
  split
  · have : (lsb + l).toNat = lsb.toNat + l := by omega
    rw [this, Nat.pow_add, ← Nat.mul_assoc, Nat.mul_comm num, Nat.mul_comm (den * _)]
    exact (rhe_scale _ _ _ (Nat.two_pow_pos l)).symm
  · obtain ⟨j, hj⟩ : ∃ j : Nat, (-lsb).toNat = j := ⟨_, rfl⟩
    have h2 : l = j + (lsb + l).toNat := by omega
    rw [hj]
    generalize (lsb + l).toNat = t at h2
    subst h2
    show rhe (num * 2 ^ j) den = _
    rw [Nat.pow_add, ← Nat.mul_assoc, Nat.mul_comm (num * 2 ^ j), Nat.mul_comm den]
    exact (rhe_scale _ _ _ (Nat.two_pow_pos t)).symm

theorem pow_bounds {f : Fmt} (hf : WF f) {num den : Nat} (hn : num ≠ 0) (hd : den ≠ 0) :
    (0 < kOf f (ilog2Q num den) →
        den * 2 ^ (f.p - 1 + kOf f (ilog2Q num den)) ≤ num * 2 ^ (L f)) ∧
    num * 2 ^ (L f) < den * 2 ^ (f.p + kOf f (ilog2Q num den)) := by
  obtain ⟨hlo, hhi⟩ := ilog2Q_spec hn hd
  have hp := hf.hp
  generalize ilog2Q num den = e at *
  generalize hk : kOf f e = k
  unfold kOf at hk
  constructor
  · intro hk0
    have h := le2_anti (e := ((f.p - 1 + k : Nat) : Int) - (L f : Int)) (by omega) hlo
    rw [le2_shift _ _ _ (L f) (by omega)] at h
    have e1 : (((f.p - 1 + k : Nat) : Int) - (L f : Int) + (L f : Int)).toNat = f.p - 1 + k := by omega
    rwa [e1] at h
  · apply Nat.lt_of_not_le
    intro hc
    apply hhi
    have h : le2 den num (((f.p + k : Nat) : Int) - (L f : Int)) := by
      rw [le2_shift _ _ _ (L f) (by omega)]
      have e1 : (((f.p + k : Nat) : Int) - (L f : Int) + (L f : Int)).toNat = f.p + k := by omega
      rwa [e1]
    exact le2_anti (by omega) h

theorem rhe_ge (n d : Nat) : n / d ≤ rhe n d ∧ rhe n d ≤ n / d + 1 := by
  unfold rhe; split <;> omega

theorem q0_bounds {f : Fmt} (hf : WF f) {num den : Nat} (hn : num ≠ 0) (hd : den ≠ 0) :
    (0 < kOf f (ilog2Q num den) →
      2 ^ (f.p - 1) ≤ rhe (num * 2 ^ (L f)) (den * 2 ^ kOf f (ilog2Q num den))) ∧
    rhe (num * 2 ^ (L f)) (den * 2 ^ kOf f (ilog2Q num den)) ≤ 2 ^ f.p := by
  obtain ⟨h1, h2⟩ := pow_bounds hf hn hd
  generalize kOf f (ilog2Q num den) = k at *
  have hD : 0 < den * 2 ^ k := Nat.mul_pos (Nat.pos_of_ne_zero hd) (Nat.two_pow_pos k)
  obtain ⟨g1, g2⟩ := rhe_ge (num * 2 ^ (L f)) (den * 2 ^ k)
  constructor
  · intro hk
    refine Nat.le_trans ?_ g1
    rw [Nat.le_div_iff_mul_le hD]
    have := h1 hk
    rwa [show den * 2 ^ (f.p - 1 + k) = 2 ^ (f.p - 1) * (den * 2 ^ k) by
      rw [Nat.pow_add]; ac_rfl] at this
  · have : num * 2 ^ (L f) / (den * 2 ^ k) < 2 ^ f.p := by
      rw [Nat.div_lt_iff_lt_mul hD]
      rwa [show den * 2 ^ (f.p + k) = 2 ^ f.p * (den * 2 ^ k) by rw [Nat.pow_add]; ac_rfl] at h2
    omega

theorem two_pow_P {f : Fmt} (hf : WF f) : 2 ^ f.p = 2 * 2 ^ (f.p - 1) :=
  two_pow_pred (by have := hf.hp; omega)

theorem T_even {f : Fmt} (hf : WF f) : ∃ t, 2 ^ (f.p - 1) = 2 * t ∧ 0 < t := by
  have := hf.hp
  refine ⟨2 ^ (f.p - 2), ?_, Nat.two_pow_pos _⟩
  rw [show f.p - 1 = (f.p - 2) + 1 by omega, Nat.pow_succ, Nat.mul_comm]

theorem M_ge {f : Fmt} (hf : WF f) : 3 ≤ f.maxExpField := by
  unfold Fmt.maxExpField
  have : 2 ^ 2 ≤ 2 ^ f.ebits := Nat.pow_le_pow_right (by decide) hf.he
  omega

theorem M_eq {f : Fmt} (hf : WF f) : f.maxExpField = 2 * f.bias + 1 := by
  unfold Fmt.maxExpField Fmt.bias
  have := hf.he
  have : 2 ^ f.ebits = 2 * 2 ^ (f.ebits - 1) := two_pow_pred (by omega)
  have := Nat.two_pow_pos (f.ebits - 1)
  omega

theorem infBits_eq (f : Fmt) : f.infBits = f.maxExpField * 2 ^ (f.p - 1) := rfl

theorem pack_renorm {f : Fmt} (hf : WF f) (k q0 : Nat) (h1 : 0 < k → 2 ^ (f.p - 1) ≤ q0)
    (h2 : q0 ≤ 2 ^ f.p) :
    pack f (renorm f q0 ((k : Int) - (L f : Int))).1 (renorm f q0 ((k : Int) - (L f : Int))).2 =
      if f.infBits ≤ k * 2 ^ (f.p - 1) + q0 then f.infBits else k * 2 ^ (f.p - 1) + q0 := by
  have hp := hf.hp
  have hb := bias_pos hf
  have hM := M_ge hf
  have hTT := two_pow_P hf
  have hinf := infBits_eq f
  generalize hT : 2 ^ (f.p - 1) = T at *
  generalize hMM : f.maxExpField = M at *
  have hTpos : 0 < T := by rw [← hT]; exact Nat.two_pow_pos _
  have hL : (L f : Int) = (f.bias : Int) + ((f.p : Int) - 1) - 1 := by unfold L; omega
  have cmp1 : ∀ j : Nat, M ≤ j → M * T ≤ j * T := fun j h => Nat.mul_le_mul_right T h
  have cmp2 : ∀ j : Nat, j ≤ M → j * T ≤ M * T := fun j h => Nat.mul_le_mul_right T h
  have e1 : (k + 1) * T = k * T + T := Nat.succ_mul k T
  have e2 : (k + 2) * T = k * T + 2 * T := by rw [Nat.add_mul]
  unfold renorm pack
  by_cases hq : q0 = 2 ^ f.p
  · simp only [hq, if_true, hT, Nat.lt_irrefl, if_false, Nat.sub_self, Nat.add_zero]
    have hb2 : ((k : Int) - (L f : Int) + 1 + ((f.p : Int) - 1) + (f.bias : Int)) = ((k + 2 : Nat) : Int) := by
      omega
    rw [hb2, hTT]
    by_cases hc : M ≤ k + 2
    · have := cmp1 _ hc
      rw [if_pos (by omega), if_pos (by omega)]
    · have := cmp2 (k + 3) (by omega)
      have e3 : (k + 3) * T = k * T + 3 * T := by rw [Nat.add_mul]
      rw [if_neg (by omega), if_neg (by omega)]
      simp only [Int.toNat_natCast]; omega
  · simp only [hq, if_false, hT]
    have hb1 : ((k : Int) - (L f : Int) + ((f.p : Int) - 1) + (f.bias : Int)) = ((k + 1 : Nat) : Int) := by
      omega
    rw [hb1]
    -- the exponent field of a normal result is `k + 1` and the hidden bit of `q0` is dropped: `(k+1)·T + (q0 − T) = k·T + q0`
    by_cases hlt : q0 < T
    · have hk0 : k = 0 := by
        apply Classical.byContradiction; intro hk; have := h1 (by omega); omega
      subst hk0
      have := cmp2 1 (by omega)
      rw [if_pos hlt, if_neg (by omega)]; omega
    · rw [if_neg hlt]
      have hq2 : q0 < 2 * T := by omega
      by_cases hc : M ≤ k + 1
      · have := cmp1 _ hc
        rw [if_pos (by omega), if_pos (by omega)]
      · have := cmp2 (k + 2) (by omega)
        rw [if_neg (by omega), if_neg (by omega)]
        simp only [Int.toNat_natCast]; omega

theorem roundNE_eq {f : Fmt} (hf : WF f) {num den : Nat} (hn : num ≠ 0) (hd : den ≠ 0) :
    roundNE f num den =
      if f.infBits ≤ kOf f (ilog2Q num den) * 2 ^ (f.p - 1) +
            rhe (num * 2 ^ (L f)) (den * 2 ^ kOf f (ilog2Q num den))
      then f.infBits
      else kOf f (ilog2Q num den) * 2 ^ (f.p - 1) +
            rhe (num * 2 ^ (L f)) (den * 2 ^ kOf f (ilog2Q num den)) := by
  obtain ⟨h1, h2⟩ := q0_bounds hf hn hd
  rw [roundNE_unfold, if_neg hn]
  simp only []
  rw [scaled_rhe num den _ (L f) (by rw [lsbOf_eq hf]; omega), lsbOf_eq hf]
  have : ((kOf f (ilog2Q num den) : Int) - (L f : Int) + (L f : Int)).toNat = kOf f (ilog2Q num den) := by
    omega
  rw [this]
  exact pack_renorm hf _ _ h1 h2

end LexVerif.Proof.RoundNE
