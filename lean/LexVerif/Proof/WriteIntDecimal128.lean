import LexVerif.Proof.WriteIntDecimal
import LexVerif.Proof.Div128
/-!
# Proof.WriteIntDecimal128 — `from_u128` and the `Decimal::decimal(_signed)` dispatch
-/
namespace LexVerif.Model.WriteInt
open LexVerif.Spec

theorem bind_assoc' {α β γ : Type} (x : Res α) (f : α → Res β) (g : β → Res γ) :
    ((x >>= f) >>= g) = (x >>= fun a => f a >>= g) := by
  cases x <;> rfl

theorem fromU128_spec (n : Nat) (hn : n < 2 ^ 128) : MantSpec (fromU128 n) (numeral 10 n) 39 := by
  refine onSlice_arm 39 n _ (dec_len_le n 39 (by omega) (Nat.lt_trans hn (by decide))) fun buf hl hbl => ?_
  have h64 : buf.length < 2 ^ 64 := by omega
  have hle : ∀ m, m ≤ n → (numeral 10 m).length ≤ buf.length := fun m hm => by
    rw [hl]; exact dec_len_le m 39 (by omega) (Nat.lt_trans (Nat.lt_of_le_of_lt hm hn) (by decide))
  show ArmOK (if n < 10000 then _ else if n < 10000000000 then _ else
    if n ≥ 1000000000000000000000000000000 then _ else if n ≥ 100000000000000000000 then _ else _) buf n
  by_cases h4 : n < 10000
  · rw [if_pos h4]; exact small4_spec 128 buf n (by omega) h4 hbl
  rw [if_neg h4]
  by_cases h10 : n < 10000000000
  · rw [if_pos h10]; exact mid10_spec buf n (by omega) h10 hbl
  rw [if_neg h10]
  -- the successive quotients by `10^10`, as variables
  have hd1 := div128Rem1e10_spec n hn
  generalize hm1 : n / 10000000000 = m1 at hd1
  have hd2 := div128Rem1e10_spec m1 (by omega)
  generalize hm2 : m1 / 10000000000 = m2 at hd2
  have hd3 := div128Rem1e10_spec m2 (by omega)
  generalize hm3 : m2 / 10000000000 = m3 at hd3
  simp only [hd1, bind_ok]
  by_cases h30 : n ≥ 1000000000000000000000000000000
  · rw [if_pos h30, hd2, bind_ok, hd3, bind_ok, Nat.mod_eq_of_lt (show m3 < 2 ^ 32 by omega), ← bind_assoc',
      ← bind_assoc']
    exact alex_step buf n m1 _ hm1
      (alex_step buf m1 m2 _ hm2
        (alex_step buf m2 m3 _ hm3 (armOK_of_mant (fromU32 m3) m3 10 (fromU32_spec m3 (by omega)) buf (by omega))
          (by omega) (hle m2 (by omega)) h64)
        (by omega) (hle m1 (by omega)) h64)
      (by omega) hbl h64
  rw [if_neg h30]
  by_cases h20 : n ≥ 100000000000000000000
  · rw [if_pos h20, hd2, bind_ok, Nat.mod_eq_of_lt (show m2 < 2 ^ 64 by omega), ← bind_assoc']
    exact alex_step buf n m1 _ hm1
      (alex_step buf m1 m2 _ hm2 (armOK_of_mant (fromU64 m2) m2 20 (fromU64_spec m2 (by omega)) buf (by omega))
        (by omega) (hle m1 (by omega)) h64)
      (by omega) hbl h64
  · rw [if_neg h20, Nat.mod_eq_of_lt (show m1 < 2 ^ 64 by omega)]
    exact alex_step buf n m1 _ hm1 (armOK_of_mant (fromU64 m1) m1 20 (fromU64_spec m1 (by omega)) buf (by omega))
      (by omega) hbl h64

/-- the `&mut buffer[..N]` re-slice of the decimal writer for a type -/
def needDec (bits : Nat) (sg : Bool) : Nat :=
  if bits = 8 then 3 else if bits = 16 then 5 else if bits = 32 then 10
  else if bits = 64 then (if sg then 19 else 20) else 39

theorem decimal_spec (bits value : Nat) (signedCall : Bool) (hb : ValidBits bits) (hv : value < 2 ^ bits)
    (hs : signedCall = true → value ≤ 2 ^ (bits - 1)) :
    MantSpec (decimal bits value signedCall) (numeral 10 value) (needDec bits signedCall) := by
  unfold decimal needDec
  rcases hb with h | h | h | h | h <;> subst h
  · simp only [if_true]; exact fromU8_spec value (by omega)
  · simp only [if_true, show ¬ (16 = 8) by omega, if_false]; exact fromU16_spec value (by omega)
  · simp only [if_true, show ¬ (32 = 8) by omega, show ¬ (32 = 16) by omega, if_false]
    exact fromU32_spec value (by omega)
  · simp only [if_true, show ¬ (64 = 8) by omega, show ¬ (64 = 16) by omega, show ¬ (64 = 32) by omega, if_false]
    cases signedCall with
    | true => simp only [if_true]; exact fromI64_spec value (by have := hs rfl; omega)
    | false => simp only [Bool.false_eq_true, if_false]; exact fromU64_spec value hv
  · simp only [if_true, show ¬ (128 = 8) by omega, show ¬ (128 = 16) by omega, show ¬ (128 = 32) by omega,
      show ¬ (128 = 64) by omega, if_false]
    exact fromU128_spec value hv

/-- sign byte + decimal slice fit `FORMATTED_SIZE_DECIMAL` (+1 for `+` on an unsigned type): the constant of a signed
type has one byte more than its slice, and an unsigned value has a sign byte only where `requiredSize` adds one -/
theorem dec_room (feats : Features) (t : IntTy) (reqSign : Bool) (v : Int) (hbits : ValidBits t.bits)
    (hv : t.inRange v) :
    needDec t.bits t.signed + (signBytes feats reqSign v).length ≤ requiredSize feats t 10 reqSign := by
  obtain ⟨bits, sg⟩ := t
  simp only at hbits
  have htab : needDec bits sg + (if sg = true then 1 else 0) ≤ formattedSizeDecimal ⟨bits, sg⟩ := by
    rcases hbits with h | h | h | h | h <;> subst h <;> cases sg <;> decide
  have hsign : (signBytes feats reqSign v).length ≤
      (if sg = true then 1 else 0) + (if ¬ sg = true ∧ feats.format = true ∧ reqSign = true then 1 else 0) := by
    cases sg with
    | true => exact Nat.le_trans (signBytes_length_le feats reqSign v) (Nat.le_add_right _ _)
    | false =>
      have hneg : ¬ v < 0 := by
        have := hv.1
        simp [IntTy.minVal, IntTy.maxMag] at this
        omega
      unfold signBytes
      rw [if_neg hneg]
      by_cases hs : feats.format = true ∧ reqSign = true
      · simp [hs]
      · simp [hs]
  unfold requiredSize bufferSizeConst
  rw [if_pos rfl]
  simp only at hsign ⊢
  omega

end LexVerif.Model.WriteInt
