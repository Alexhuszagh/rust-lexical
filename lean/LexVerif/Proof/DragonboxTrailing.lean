import LexVerif.Model.Dragonbox
import LexVerif.Proof.Bits
import LexVerif.Proof.DragonboxArith
/-!
# Proof.DragonboxTrailing — `remove_trailing_zeros` returns `(n / 10^s, s)` with `s` maximal

The code divides by 100 (then once by 10) with the modular-inverse trick: `q = rotr(n · 25⁻¹ mod 2^w, 2)` is `n / 100`
when `100 ∣ n` and is larger than `MAX / 100` otherwise (`quo_spec`, for any width, odd divisor and rotation).
-/
namespace LexVerif.Proof.DragonboxTrailing
open LexVerif.Model.Dragonbox LexVerif.Proof.Bits

theorem modInv25U32_val : modInv25U32 = 3264175145 := by decide
theorem modInv25U64_val : modInv25U64 = 10330176681277348905 := by decide

theorem rot_eq {w r m : Nat} (hr : r ≤ w) (hm : m < 2 ^ w) :
    m >>> r ||| (m <<< (w - r)) % 2 ^ w = m / 2 ^ r + m % 2 ^ r * 2 ^ (w - r) := by
  have hW : 2 ^ w = 2 ^ r * 2 ^ (w - r) := by rw [← Nat.pow_add, Nat.add_sub_cancel' hr]
  rw [Nat.shiftRight_eq_div_pow, Nat.shiftLeft_eq, hW, Nat.mul_mod_mul_right]
  exact or_mul_two_pow _ _ _ (Nat.div_lt_of_lt_mul (hW ▸ hm))

theorem modinv_mul {W inv d c x : Nat} (hinv : inv * d = W * c + 1) (hx : x < W) : x * d * inv % W = x := by
  rw [Nat.mul_assoc, Nat.mul_comm d, hinv, Nat.mul_add, Nat.mul_one, Nat.mul_left_comm,
    Nat.mul_add_mod_self_left, Nat.mod_eq_of_lt hx]

theorem modinv_cancel {W inv d c n : Nat} (hinv : inv * d = W * c + 1) (hn : n < W)
    (hm : n * inv % W * d < W) : n * inv % W * d = n := by
  have h := modinv_mul (x := n) (inv := d) (d := inv) (c := c) (by rw [Nat.mul_comm]; exact hinv) hn
  rwa [← Nat.mod_mul_mod, Nat.mod_eq_of_lt hm] at h

theorem quo_spec {w r d inv c n : Nat} (hinv : inv * d = 2 ^ w * c + 1) (hr : r ≤ w) (hn : n < 2 ^ w) :
    (n % (d * 2 ^ r) = 0 →
      (n * inv % 2 ^ w) >>> r ||| ((n * inv % 2 ^ w) <<< (w - r)) % 2 ^ w = n / (d * 2 ^ r))
    ∧ (n % (d * 2 ^ r) ≠ 0 →
      (2 ^ w - 1) / (d * 2 ^ r) < (n * inv % 2 ^ w) >>> r ||| ((n * inv % 2 ^ w) <<< (w - r)) % 2 ^ w) := by
  have hW : 2 ^ w = 2 ^ r * 2 ^ (w - r) := by rw [← Nat.pow_add, Nat.add_sub_cancel' hr]
  have hR := Nat.two_pow_pos r
  have hV := Nat.two_pow_pos (w - r)
  have hd : 0 < d := Nat.pos_of_ne_zero fun h0 => by rw [h0] at hinv; omega
  rw [rot_eq hr (Nat.mod_lt _ (Nat.two_pow_pos w))]
  constructor
  · intro h
    obtain ⟨q, hq⟩ := Nat.dvd_of_mod_eq_zero h
    have hq' : n = 2 ^ r * q * d := by rw [hq]; ac_rfl
    have hx : 2 ^ r * q < 2 ^ w := Nat.lt_of_le_of_lt (hq' ▸ Nat.le_mul_of_pos_right _ hd) hn
    rw [hq', modinv_mul hinv hx, ← hq', Nat.mul_div_cancel_left _ hR, Nat.mul_mod_right, Nat.zero_mul, hq,
      Nat.mul_div_cancel_left _ (Nat.mul_pos hd hR)]
    rfl
  · intro h
    apply Nat.lt_of_not_le
    intro hq
    apply h
    have hcan := modinv_cancel hinv hn
    generalize n * inv % 2 ^ w = m at *
    -- the bound is below `2^(w-r)`, so the rotated-in bits `m % 2^r` are zero
    have hB : (2 ^ w - 1) / (d * 2 ^ r) < 2 ^ (w - r) := by
      apply Nat.div_lt_of_lt_mul
      have : 2 ^ w ≤ d * 2 ^ r * 2 ^ (w - r) := by rw [Nat.mul_assoc, ← hW]; exact Nat.le_mul_of_pos_left _ hd
      omega
    have h0 : m % 2 ^ r = 0 := Nat.eq_zero_of_not_pos fun hp => by
      have h1 := Nat.le_mul_of_pos_left (2 ^ (w - r)) hp
      have h2 := Nat.le_trans (Nat.le_add_left _ _) hq
      omega
    have hm : m / 2 ^ r * 2 ^ r = m := by have := Nat.div_add_mod m (2 ^ r); rw [Nat.mul_comm]; omega
    -- so `m·d = (m / 2^r)·(d·2^r) ≤ 2^w − 1`
    have hmd : m * d = m / 2 ^ r * (d * 2 ^ r) := by rw [Nat.mul_left_comm, hm, Nat.mul_comm]
    have hle : m / 2 ^ r * (d * 2 ^ r) ≤ 2 ^ w - 1 :=
      Nat.le_trans (Nat.mul_le_mul_right _ (by omega)) (Nat.div_mul_le_self _ _)
    rw [← hcan (by omega), hmd, Nat.mul_comm]
    exact Nat.mul_mod_right _ _

def quo100_32 (n : Nat) : Nat := rotr32 (u32 (n * modInv25U32)) 2
def quo10_32 (n : Nat) : Nat := rotr32 (u32 (n * modInv5U32)) 1
def quo100_64 (n : Nat) : Nat := rotr64 (u64 (n * modInv25U64)) 2
def quo10_64 (n : Nat) : Nat := rotr64 (u64 (n * modInv5U64)) 1

theorem quo100_32_spec {n : Nat} (hn : n < 2 ^ 32) :
    (n % 100 = 0 → quo100_32 n = n / 100) ∧ (n % 100 ≠ 0 → quo100_32 n > (2 ^ 32 - 1) / 100) :=
  quo_spec (w := 32) (r := 2) (d := 25) (inv := modInv25U32) (c := 19) (by decide) (by decide) hn

theorem quo10_32_spec {n : Nat} (hn : n < 2 ^ 32) :
    (n % 10 = 0 → quo10_32 n = n / 10) ∧ (n % 10 ≠ 0 → quo10_32 n > (2 ^ 32 - 1) / 10) :=
  quo_spec (w := 32) (r := 1) (d := 5) (inv := modInv5U32) (c := 4) (by decide) (by decide) hn

theorem quo100_64_spec {n : Nat} (hn : n < 2 ^ 64) :
    (n % 100 = 0 → quo100_64 n = n / 100) ∧ (n % 100 ≠ 0 → quo100_64 n > (2 ^ 64 - 1) / 100) :=
  quo_spec (w := 64) (r := 2) (d := 25) (inv := modInv25U64) (c := 14) (by decide) (by decide) hn

theorem quo10_64_spec {n : Nat} (hn : n < 2 ^ 64) :
    (n % 10 = 0 → quo10_64 n = n / 10) ∧ (n % 10 ≠ 0 → quo10_64 n > (2 ^ 64 - 1) / 10) :=
  quo_spec (w := 64) (r := 1) (d := 5) (inv := modInv5U64) (c := 4) (by decide) (by decide) hn

theorem even_or_one {a : Nat} (h : a % 2 = 0) : a ||| 1 = a + 1 := by
  have : a = a / 2 * 2 ^ 1 := by omega
  have e : a ||| 1 = 1 ||| a / 2 * 2 ^ 1 := by rw [← this, Nat.or_comm]
  rw [e, or_mul_two_pow 1 (a / 2) 1 (by decide)]; omega

/-! ## the loops: `loop` is `rtzLoop32` (`W = 2^32`) or `rtzLoop64` (`W = 2^64`), `frm` is `rtz32From` or `rtz64From` -/
section loops
variable {W : Nat} {quo100 quo10 : Nat → Nat} {loop : Nat → Nat → Nat → Nat × Nat} {frm : Nat → Nat → Nat × Nat}

theorem rtzLoop_spec (h0 : ∀ n s, loop 0 n s = (n, s))
    (hs : ∀ fuel n s, loop (fuel + 1) n s = if quo100 n ≤ (W - 1) / 100 then loop fuel (quo100 n) (s + 2) else (n, s))
    (hquo : ∀ {n}, n < W → (n % 100 = 0 → quo100 n = n / 100) ∧ (n % 100 ≠ 0 → quo100 n > (W - 1) / 100)) :
    ∀ (fuel n s : Nat), 0 < n → n < W → n < 100 ^ fuel →
      ∃ j m, loop fuel n s = (m, s + 2 * j) ∧ n = m * 100 ^ j ∧ m % 100 ≠ 0 ∧ 0 < m ∧ m < W
  | 0, n, s, h0', _, hf => by simp at hf; omega
  | fuel + 1, n, s, hpos, hn, hf => by
    rw [hs]
    by_cases h : n % 100 = 0
    · have hq := (hquo hn).1 h
      have hle : quo100 n ≤ (W - 1) / 100 := by rw [hq]; exact Nat.div_le_div_right (by omega)
      rw [if_pos hle, hq]
      have hf' : n / 100 < 100 ^ fuel := by
        apply Nat.div_lt_of_lt_mul; rw [Nat.mul_comm, ← Nat.pow_succ]; exact hf
      obtain ⟨j, m, he, hm, h100, hpos, hlt⟩ :=
        rtzLoop_spec h0 hs hquo fuel (n / 100) (s + 2) (by omega) (by omega) hf'
      refine ⟨j + 1, m, ?_, ?_, h100, hpos, hlt⟩
      · rw [he]; congr 1; omega
      · have : n = n / 100 * 100 := by omega
        rw [this, hm, Nat.pow_succ, Nat.mul_assoc]
    · have hq := (hquo hn).2 h
      rw [if_neg (by omega)]
      exact ⟨0, n, rfl, by simp, h, hpos, hn⟩

/-- the loop strips pairs of zeros, the last step at most one more -/
theorem rtzFrom_spec
    (hloop : ∀ n s, 0 < n → n < W → ∃ j m, loop 16 n s = (m, s + 2 * j) ∧ n = m * 100 ^ j ∧ m % 100 ≠ 0 ∧ 0 < m ∧ m < W)
    (hfrom : ∀ n s, frm n s =
      let p := loop 16 n s
      if quo10 p.1 ≤ (W - 1) / 10 then (quo10 p.1, p.2 ||| 1) else (p.1, p.2))
    (hquo : ∀ {n}, n < W → (n % 10 = 0 → quo10 n = n / 10) ∧ (n % 10 ≠ 0 → quo10 n > (W - 1) / 10))
    {n s0 : Nat} (h0 : 0 < n) (hn : n < W) (hs : s0 % 2 = 0) :
    ∃ k m, frm n s0 = (m, s0 + k) ∧ n = m * 10 ^ k ∧ m % 10 ≠ 0 := by
  obtain ⟨j, m, he, hm, h100, hpos, hlt⟩ := hloop n s0 h0 hn
  have hpow : (100 : Nat) ^ j = 10 ^ (2 * j) := by rw [Nat.pow_mul]
  rw [hfrom, he]
  dsimp only
  by_cases h : m % 10 = 0
  · have hq := (hquo hlt).1 h
    have hle : quo10 m ≤ (W - 1) / 10 := by rw [hq]; exact Nat.div_le_div_right (by omega)
    rw [if_pos hle, hq, even_or_one (by omega)]
    refine ⟨2 * j + 1, m / 10, by rw [Nat.add_assoc], ?_, by omega⟩
    have : m = m / 10 * 10 := by omega
    rw [hm, hpow, Nat.pow_succ, this, Nat.mul_div_cancel _ (by decide : 0 < 10)]
    rw [Nat.mul_assoc, Nat.mul_comm 10]
  · have hq := (hquo hlt).2 h
    rw [if_neg (by omega)]
    exact ⟨2 * j, m, rfl, by rw [hm, hpow], h⟩

end loops

theorem rtz32From_spec {n s0 : Nat} (h0 : 0 < n) (hn : n < 2 ^ 32) (hs : s0 % 2 = 0) :
    ∃ k m, rtz32From n s0 = (m, s0 + k) ∧ n = m * 10 ^ k ∧ m % 10 ≠ 0 :=
  rtzFrom_spec (W := 2 ^ 32) (quo10 := quo10_32) (loop := rtzLoop32)
    (fun n s h0 hn => rtzLoop_spec (quo100 := quo100_32) (fun _ _ => rfl) (fun _ _ _ => rfl) quo100_32_spec 16 n s h0 hn
      (Nat.lt_trans hn (by decide)))
    (fun _ _ => rfl) quo10_32_spec h0 hn hs

theorem rtz64From_spec {n s0 : Nat} (h0 : 0 < n) (hn : n < 2 ^ 64) (hs : s0 % 2 = 0) :
    ∃ k m, rtz64From n s0 = (m, s0 + k) ∧ n = m * 10 ^ k ∧ m % 10 ≠ 0 :=
  rtzFrom_spec (W := 2 ^ 64) (quo10 := quo10_64) (loop := rtzLoop64)
    (fun n s h0 hn => rtzLoop_spec (quo100 := quo100_64) (fun _ _ => rfl) (fun _ _ _ => rfl) quo100_64_spec 16 n s h0 hn
      (Nat.lt_trans hn (by decide)))
    (fun _ _ => rfl) quo10_64_spec h0 hn hs

theorem removeTrailingZeros_f32 {n : Nat} (h0 : 0 < n) (hn : n < 2 ^ 32) :
    ∃ k m, removeTrailingZeros .f32 n = (m, k) ∧ n = m * 10 ^ k ∧ m % 10 ≠ 0 := by
  obtain ⟨k, m, he, hm, h10⟩ := rtz32From_spec (s0 := 0) h0 hn rfl
  refine ⟨k, m, ?_, hm, h10⟩
  unfold removeTrailingZeros
  simp only [DragonboxArith.u32_id hn, he, Nat.zero_add]

/-- the divisibility-by-`10^8` pre-test of the f64 branch, as linear arithmetic (`12379400392853802749 = ⌈2^90 / 10^8⌉`) -/
theorem div1e8_aux (n q r : Nat) (hn : n < 18446744073709551616) (hq : n = 100000000 * q + r) (hr : r < 100000000) :
    n * 12379400392853802749 = 1237940039285380274899124224 * q + (875776 * q + r * 12379400392853802749)
    ∧ 875776 * q + r * 12379400392853802749 < 1237940039285380274899124224 := by
  constructor <;> omega

theorem removeTrailingZeros_f64_eq (n : Nat) :
    removeTrailingZeros .f64 n =
      if u64 (u128 (n * 12379400392853802749) >>> 64) &&& (2 ^ 26 - 1) = 0
          ∧ u64 (u128 (n * 12379400392853802749)) < 12379400392853802749
      then rtz32From (u32 (u64 (u128 (n * 12379400392853802749) >>> 64) >>> 26)) 8
      else rtz64From n 0 := rfl

theorem div1e8Test_imp {n : Nat} (hn : n < 2 ^ 64)
    (h : u64 (u128 (n * 12379400392853802749) >>> 64) &&& (2 ^ 26 - 1) = 0
          ∧ u64 (u128 (n * 12379400392853802749)) < 12379400392853802749) :
    n % 100000000 = 0
      ∧ u64 (u128 (n * 12379400392853802749) >>> 64) >>> 26 = n / 100000000 := by
  have hq := (Nat.div_add_mod n 100000000).symm
  have hr : n % 100000000 < 100000000 := Nat.mod_lt _ (by decide)
  obtain ⟨a1, a2⟩ := div1e8_aux n (n / 100000000) (n % 100000000) (by omega) hq hr
  have hnm : u128 (n * 12379400392853802749) = n * 12379400392853802749 := DragonboxArith.u128_id (by omega)
  have hhigh : u64 ((n * 12379400392853802749) >>> 64) = n * 12379400392853802749 / 2 ^ 64 := by
    rw [Nat.shiftRight_eq_div_pow]; exact DragonboxArith.u64_id (by omega)
  rw [hnm, hhigh, Nat.and_two_pow_sub_one_eq_mod] at h
  rw [hnm, hhigh, Nat.shiftRight_eq_div_pow]
  unfold u64 at h
  obtain ⟨h1, h2⟩ := h
  obtain ⟨H, hH⟩ := Nat.dvd_of_mod_eq_zero h1
  have hP : n * 12379400392853802749
      = 18446744073709551616 * (n * 12379400392853802749 / 2 ^ 64) + n * 12379400392853802749 % 2 ^ 64 := by omega
  have hHq : H = n / 100000000 := by omega
  constructor
  · omega
  · rw [hH]; omega

/-- above `2^32 · 10^8` the quotient by `10^8` would be truncated to 32 bits (Dragonbox significands are below `10^17`) -/
theorem removeTrailingZeros_f64 {n : Nat} (h0 : 0 < n) (hn : n < 2 ^ 32 * 10 ^ 8) :
    ∃ k m, removeTrailingZeros .f64 n = (m, k) ∧ n = m * 10 ^ k ∧ m % 10 ≠ 0 := by
  have hn64 : n < 2 ^ 64 := by
    have : (2 : Nat) ^ 32 * 10 ^ 8 < 2 ^ 64 := by decide
    omega
  rw [removeTrailingZeros_f64_eq]
  by_cases h : u64 (u128 (n * 12379400392853802749) >>> 64) &&& (2 ^ 26 - 1) = 0
          ∧ u64 (u128 (n * 12379400392853802749)) < 12379400392853802749
  · rw [if_pos h]
    obtain ⟨hr0, hquo⟩ := div1e8Test_imp hn64 h
    have hq32 : n / 100000000 < 2 ^ 32 := by
      apply Nat.div_lt_of_lt_mul
      have : (100000000 : Nat) * 2 ^ 32 = 2 ^ 32 * 10 ^ 8 := by decide
      omega
    rw [hquo]
    rw [DragonboxArith.u32_id hq32]
    obtain ⟨k, m, he, hm, h10⟩ := rtz32From_spec (n := n / 100000000) (s0 := 8) (by omega) hq32 rfl
    refine ⟨8 + k, m, he, ?_, h10⟩
    have : n = n / 100000000 * 10 ^ 8 := by omega
    rw [this, hm, Nat.mul_assoc, ← Nat.pow_add, Nat.add_comm]
  · rw [if_neg h]
    obtain ⟨k, m, he, hm, h10⟩ := rtz64From_spec (s0 := 0) h0 hn64 rfl
    refine ⟨k, m, ?_, hm, h10⟩
    rw [he, Nat.zero_add]

theorem processTrailingZeros_f32 {n : Nat} (e : Int) (h0 : 0 < n) (hn : n < 2 ^ 32) :
    ∃ k m, processTrailingZeros .f32 n e = (m, i32 (e + (k : Nat))) ∧ n = m * 10 ^ k ∧ m % 10 ≠ 0 := by
  obtain ⟨k, m, he, hm, h10⟩ := removeTrailingZeros_f32 h0 hn
  refine ⟨k, m, ?_, hm, h10⟩
  show ((removeTrailingZeros .f32 n).1, i32 (e + ((removeTrailingZeros .f32 n).2 : Nat))) = _
  rw [he]

theorem processTrailingZeros_f64 {n : Nat} (e : Int) (h0 : 0 < n) (hn : n < 2 ^ 32 * 10 ^ 8) :
    ∃ k m, processTrailingZeros .f64 n e = (m, i32 (e + (k : Nat))) ∧ n = m * 10 ^ k ∧ m % 10 ≠ 0 := by
  obtain ⟨k, m, he, hm, h10⟩ := removeTrailingZeros_f64 h0 hn
  refine ⟨k, m, ?_, hm, h10⟩
  show ((removeTrailingZeros .f64 n).1, i32 (e + ((removeTrailingZeros .f64 n).2 : Nat))) = _
  rw [he]

end LexVerif.Proof.DragonboxTrailing
