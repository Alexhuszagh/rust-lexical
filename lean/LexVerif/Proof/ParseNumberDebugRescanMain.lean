import LexVerif.Proof.ParseNumberDebugRescanFacts
import LexVerif.Proof.ParseNumberDebugMain
/-!
# Proof.ParseNumberDebugRescanMain — `parse_number` and the entry points, debug build, integer / fraction component with
ANY separator predicate (I+T+C: with the repair `Fix.itc`; without it not on the fraction, and on the integer only when
there is no base prefix)

What a digit pass stored can be re-parsed, for either component (`PassOk.u64Ok`); the integer and the fraction phase add
the state their pass starts in (`IntOkComp.of_run`: behind the base prefix; `FracOk2.of_run`: behind the decimal point), for
`parseNumber_safe_of` (`Proof/ParseNumberDebugMain.lean`); the per-component hypothesis is `CompOk`, the statement is about the entry points (digit counts 0, the cursor in a state `peek` left), and
`Bytes` is not contiguous (otherwise every iterator is `PeekTriv`, hence `Good`).
-/
namespace LexVerif.Proof.PNDebug
open LexVerif LexVerif.Model LexVerif.Spec
open LexVerif.Props.C12 (Bytes.Valid)
open LexVerif.Proof.PNTotal (Adv firstIsCased_get IntRun FracRun NumOK parseSign_moved)
open LexVerif.Proof.IterSpec (cur mv_index contig_of_pred isConsumed_eq peek_eq)

variable {c : Cfg}

/-- hypothesis on a digit component: no separator flags, or a predicate other than I+T+C — or I+T+C with the repair
`Fix.itc`, or if `allow` holds (then its digit run never starts directly behind a non-digit) -/
def CompOk (c : Cfg) (k : Comp) (allow : Prop) : Prop :=
  c.iterContiguous k = true ∨ ∃ p, c.skip k = .pred p ∧ (p ≠ .itc ∨ Fix.itc = true ∨ allow)

theorem notSep_of_ne {x : Nat} (h : x ≠ c.fmt.digitSeparator) : c.isSep x = false := by
  cases hs : c.isSep x with
  | false => rfl
  | true => exact absurd (isSep_eq hs) h

/-- **the slice a digit pass stored can be re-parsed** (`U64Ok`), whatever the separator predicate of its component
(`CompOk`): an iterator without separator flags stored digits; a skipping one started with its count at 0 in a state
`StartC`, the pass is its scan, and `firstPass_runsOut` applies -/
theorem _root_.LexVerif.Proof.PNTotal.PassOk.u64Ok (cx : Ctx c) (hbc : c.bytesContiguous = false) {k : Comp}
    {allow : Prop} (hC : CompOk c k allow) {st e : Bytes} (h : PNTotal.PassOk c k st e)
    (hcnt : c.iterContiguous k = false → Bytes.iterCount c k st = 0) (hstart : StartC c k st)
    (hal : allow → AtRest c k st) :
    U64Ok c k (Bytes.new ((st.slc.drop st.index).take (Phase.storedLen c k st e))) := by
  have ha := h.adv
  rcases hC with hcon | ⟨p, hk, hp⟩
  · have hg : Good c k := Or.inl (peek_triv c cx k (Or.inr hcon))
    exact u64ok_of_allDS hg (h.allDS cx hg)
  · have hnc := contig_of_pred hk
    rw [Phase.storedLen_skip (IterSpec.format_of_sep hbc) hnc, h.scan (cx.multi k), mv_index]
    exact Or.inr ⟨hnc, (sliceRun_iff_runsOut cx _ _).2 (firstPass_runsOut cx k p hk st (Nat.le_trans ha.mono ha.valid)
      (hcnt hnc) hstart (hp.imp id (Or.imp id hal)))⟩

/-- `fc`: the fraction phase starts counting at 0 -/
structure IntOkComp (c : Cfg) (b : Bytes) (ip : IntPart) : Prop where
  advByte : Adv ip.start ip.byte
  fc : ip.byte.fc = b.fc
  slice : U64Ok c .integer (Bytes.new ip.integerDigits)

theorem IntOkComp.of_run (cx : Ctx c) (hbc : c.bytesContiguous = false) (hI : CompOk c .integer (c.basePrefix = 0))
    (hpre : c.basePrefix ≠ 0 → ∀ y, matchesB y c.basePrefix c.caseSensitiveBasePrefix = true →
      c.isDigit y = false ∧ c.isSep y = false)
    {b : Bytes} (hb : Bytes.Valid b) (hic : b.ic = 0) (hpost : AtRest c .integer b) {ip : IntPart} (h : IntRun c b ip) :
    IntOkComp c b ip := by
  obtain ⟨hsic, hsfc, hstartC, hnopre⟩ := prefixPhase_facts cx b ip.start ip.isPrefix hb hpost hpre h.pre
  refine ⟨h.pass.adv, by rw [h.pass.fc, hsfc], ?_⟩
  rw [h.digits]
  exact h.pass.u64Ok cx hbc hI (fun hnc => by simp [Bytes.iterCount, hnc, hsic, hic]) hstartC hnopre

structure FracOk2 (c : Cfg) (byte : Bytes) (fp : FracPart) : Prop where
  adv : Adv byte fp.byte
  digits : ∀ fd, fp.fraction = some fd → U64Ok c .fraction (Bytes.new fd)

theorem FracOk2.of_run (cx : Ctx c) (hbc : c.bytesContiguous = false) (hF : CompOk c .fraction False) {o : POpts}
    (hdp : o.dp ≠ c.fmt.digitSeparator) (hdpd : c.isDigit o.dp = false) {byte : Bytes} {m : Nat}
    (hb : Bytes.Valid byte) (hfc : byte.fc = 0) {fp : FracPart} (h : FracRun c o byte m fp) : FracOk2 c byte fp := by
  refine ⟨h.adv hb, fun fd hfd => ?_⟩
  obtain ⟨hd, rfl⟩ := h.stored hfd
  -- the run starts behind the decimal point, which is neither digit nor separator
  refine (h.point hd).pass.u64Ok cx hbc hF (fun hnc => by simp [Bytes.iterCount, hnc, hfc, cur])
    (.inl fun x hxp => ?_) False.elim
  simp only [cur, getPrev, Nat.succ_ne_zero, if_false, Nat.add_sub_cancel, firstIsCased_get hd,
    Option.some.injEq] at hxp
  subst hxp
  exact ⟨hdpd, notSep_of_ne hdp⟩

theorem parseNumber_safe_comp (cx : Ctx c) (hbc : c.bytesContiguous = false) (hI : CompOk c .integer (c.basePrefix = 0))
    (hF : CompOk c .fraction False)
    (hpre : c.basePrefix ≠ 0 → ∀ y, matchesB y c.basePrefix c.caseSensitiveBasePrefix = true →
      c.isDigit y = false ∧ c.isSep y = false)
    (isPartial : Bool) (o : POpts) (ox : OCtx c o) (hdpd : c.isDigit o.dp = false) (b : Bytes) (neg : Bool)
    (hb : b.index < b.slc.length) (hic : b.ic = 0) (hfc : b.fc = 0)
    (hpost : AtRest c .integer b) :
    NumOK c b (parseNumber c isPartial o b neg) := by
  have hdp : o.dp ≠ c.fmt.digitSeparator := by
    rcases ox.dpOk with h | h
    · rw [hbc] at h; cases h
    · exact h
  refine parseNumber_safe_of cx isPartial o ox b neg hb fun ip fp hip hfp => ?_
  have hi := IntOkComp.of_run cx hbc hI hpre (Nat.le_of_lt hb) hic hpost hip
  exact ⟨hi.slice, (FracOk2.of_run cx hbc hF hdp hdpd hi.advByte.valid' (by rw [hi.fc]; exact hfc) hfp).digits⟩

theorem parseFloatSyntax_safe_comp (cx : Ctx c) (hbc : c.bytesContiguous = false)
    (hI : CompOk c .integer (c.basePrefix = 0)) (hF : CompOk c .fraction False)
    (hpre : c.basePrefix ≠ 0 → ∀ y, matchesB y c.basePrefix c.caseSensitiveBasePrefix = true →
      c.isDigit y = false ∧ c.isSep y = false)
    (o : POpts) (ox : OCtx c o) (hdpd : c.isDigit o.dp = false) (isPartial : Bool) (input : List Nat) :
    Safe (parseFloatSyntax c o isPartial input) (fun _ => True) := by
  refine parseFloatSyntax_safe_of cx o isPartial input ?_
  intro part neg b1 b2 consumed hseq hv1 hceq hlt
  -- the sign and `is_consumed` only move the cursor; `is_consumed` leaves it where its `peek` did
  obtain ⟨-, s1, s2⟩ := (Wp.of_eq_ok (parseSign_moved cx.env _ _ _ _ _ (new_valid input)) hseq).counts
  rw [isConsumed_eq (cx.skipOk _), IterSpec.format_of_sep hbc] at hceq
  cases hceq
  exact parseNumber_safe_comp cx hbc hI hF hpre part o ox hdpd _ neg hlt s1 s2
    (atRest_of_peek cx .integer b1 _ _ (peek_eq (cx.skipOk _) b1))

end LexVerif.Proof.PNDebug
