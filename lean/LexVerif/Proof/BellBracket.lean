import LexVerif.Proof.BellEstimate
/-!
# Proof.BellBracket — a two-sided estimate still brackets the value

`Est2 … cl ch`: the value lies within `(mant − cl, mant + ch)` units of the estimate. Rounding the estimate **down** to
the float format gives `b` with `b ≤ roundNE x ≤ b + 1` as long as `4·cl, 2·ch ≤ 2^(64−p)`: `Est2.round_down_bracket`
(`Proof.LemireWide`, where Eisel–Lemire's one-sided estimate is the case `cl = 1`).
-/
namespace LexVerif.Proof.Bell
open LexVerif.Spec LexVerif.Model LexVerif.Model.Bellerophon
open LexVerif.Proof.RoundNE LexVerif.Proof.ExtRound LexVerif.Proof.Lemire
open LexVerif.Proof.Slow

theorem bracket_of_est2 {F p eb} (lay : Layout F p eb) (cl ch : Nat) (hcl : 4 * cl ≤ 2 ^ (64 - p))
    (hch : 2 * ch ≤ 2 ^ (64 - p)) (hch0 : 0 < ch) (est : ExtendedFloat80) (num den : Nat) (hd : 0 < den)
    (h : Est2 F p est cl ch num den) :
    extendedToFloat F (round F est roundDown) ≤ roundNE F.fmt num den ∧
      roundNE F.fmt num den ≤ extendedToFloat F (round F est roundDown) + 1 :=
  h.round_down_bracket lay hd hcl hch

end LexVerif.Proof.Bell
