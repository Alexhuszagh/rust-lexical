import LexVerif.Model.ParseIntFormat
import LexVerif.Proof.ParseIntMain
import LexVerif.Proof.IterScan
/-!
# Proof.ParseIntFormatSimple — the format-feature integer model on formats without integer separators / suffix

For a release build and a format without integer separator flags and without base suffix (`Simple`; the digit-separator
byte and the fraction / exponent separator flags are arbitrary), every digit loop of `Model.ParseIntFormat` is the
corresponding loop of `Model.ParseInt` (the model of the build WITHOUT the `format` feature) run on `as_slice()`,
whatever the iterator's `integer_count` is (the multi-digit blocks change it, nothing reads it).
-/
namespace LexVerif.Proof.PIF
open LexVerif LexVerif.Spec LexVerif.Model LexVerif.Model.ParseIntFormat

def ofM : ParseInt.MRes → Res
  | .done (.ok v n) => .ok (v, n)
  | .done (.empty i) => err "Empty" i
  | .done (.invalidDigit i) => err "InvalidDigit" i
  | .done (.overflow i) => err "Overflow" i
  | .done (.underflow i) => err "Underflow" i
  | .done (.invalidNegativeSign i) => err "InvalidNegativeSign" i
  | .fault => .error (.fault "unchecked")

/-- release build; no integer separator flags (= contiguous integer iterator), no base suffix. The digit-separator
byte and the separator flags of the fraction / exponent are ARBITRARY: a contiguous component iterator counts by its
cursor also when the buffer is non-contiguous (repo commit 12a2453), so nothing in the integer parser looks at the
separator byte (a separator byte in the input is an ordinary non-digit). -/
structure Simple (c : Cfg) : Prop where
  hf : c.feats.format = true
  hd : c.debug = false
  flags : c.sepFlags .integer = SepFlags.none
  suf : c.fmt.baseSuffix = 0

variable {c : Cfg}

theorem Simple.contig (h : Simple c) : c.iterContiguous .integer = true := by
  simp [Cfg.iterContiguous, h.flags, SepFlags.none, SepFlags.any]

theorem Simple.skip (h : Simple c) : c.skip .integer = .noskip := by
  simp [Cfg.skip, h.flags, SepFlags.none, SepFlags.skip]

theorem Simple.baseSuffix (h : Simple c) : c.baseSuffix = 0 := by
  simp [Cfg.baseSuffix, h.hf, h.suf]

theorem Simple.peek (h : Simple c) (b : Bytes) : peek c .integer b = .ok (b.slc[b.index]?, b) := by
  simp [Model.peek, h.skip]

theorem Simple.count (h : Simple c) (b : Bytes) : b.iterCount c .integer = b.index := by
  simp [Bytes.iterCount, h.contig]

/-- `integer_count` is invisible to a contiguous integer iterator (repo commit 12a2453): see
`Model.ParseIntFormat.multiLoop` -/
theorem iterCount_ic_irrelevant (c : Cfg) (h : c.iterContiguous .integer = true) (b : Bytes) (x : Nat) :
    ({ b with ic := x } : Bytes).iterCount c .integer = b.iterCount c .integer := by
  simp [Bytes.iterCount, h]

theorem Simple.iterNext (h : Simple c) (b : Bytes) :
    iterNext c .integer b =
      .ok (match b.slc[b.index]? with
           | none => (none, b)
           | some x => (some x, { b with index := b.index + 1 })) := by
  simp only [Model.iterNext, h.peek, bind, Except.bind, h.contig]
  cases b.slc[b.index]? <;> simp [pure, Except.pure]

theorem Simple.iterStep (h : Simple c) (b : Bytes) : iterStep c .integer b = .ok { b with index := b.index + 1 } := by
  simp [Model.iterStep, Bytes.stepUnchecked, Bytes.stepBy, h.hd]

theorem Simple.bstep (h : Simple c) (b : Bytes) : b.step c = .ok { b with index := b.index + 1 } := by
  simp [Bytes.step, Bytes.stepUnchecked, Bytes.stepBy, h.hd]

/-- `Sim s x y`: a digit loop of the `format` model (`x`) and the same loop of the plain model (`y`) on the buffer `s`
either both return, with the same result, or both fall through with the same value and the cursor at the end of the
buffer. That a loop which falls through has consumed its input is what the induction sees at the end of the slice; the
`integer_count` a multi-digit block leaves behind is not mentioned (nothing reads it). -/
inductive Sim (s : List Nat) : Flow (Bytes × Nat) → ParseInt.Flow (Nat × Nat) → Prop
  | ok (b : Bytes) (v c : Nat) (hs : b.slc = s) (hi : b.index = s.length) (hc : c = s.length) :
      Sim s (.ok (b, v)) (.ok (v, c))
  | err (m : ParseInt.MRes) : Sim s (.error (ofM m)) (.error m)

theorem invalidDigit_simple (e : Env) (value idx cnt : Nat) (hi : 1 ≤ idx) (hc : cnt ≠ 0) :
    invalidDigit e value idx cnt = ofM (ParseInt.invalidDigit e.t e.partial_ value idx) := by
  have h1 : usizeSub e.c.debug idx 1 = .ok (idx - 1) := by simp [usizeSub, hi]
  simp only [invalidDigit, h1, ParseInt.invalidDigit]
  cases e.partial_ <;> simp [intoOk, ParseInt.intoOk, ofM, hc]

theorem fmtInvalidDigit_simple (e : Env) (hs : Simple e.c) (b : Bytes) (ch start value : Nat) (isEnd : Bool)
    (hi : 1 ≤ b.index) :
    fmtInvalidDigit e b ch start value isEnd =
      .ret (ofM (ParseInt.invalidDigit e.t e.partial_ value b.index)) := by
  simp only [fmtInvalidDigit, hs.hd, hs.baseSuffix, Bool.false_and, ne_eq, not_true_eq_false, if_false,
    Bytes.cursor, hs.count]
  rw [invalidDigit_simple e value b.index b.index hi (by omega)]
  simp

theorem parse1Unchecked_sim (e : Env) (hs : Simple e.c) (sub isEnd : Bool) (start : Nat) :
    ∀ (fuel : Nat) (b : Bytes) (value : Nat), b.slc.length - b.index < fuel → b.index ≤ b.slc.length →
      Sim b.slc (parse1Unchecked e sub isEnd start fuel b value)
        (ParseInt.parse1Unchecked e.t e.radix e.partial_ sub (b.slc.drop b.index) value b.index) := by
  intro fuel
  induction fuel with
  | zero => intro b v h; omega
  | succ n ih =>
    intro b value hf hv
    rw [parse1Unchecked, hs.iterNext]
    cases hg : b.slc[b.index]? with
    | none =>
      have hend : b.index = b.slc.length := by have := List.getElem?_eq_none_iff.mp hg; omega
      rw [IterSpec.drop_of_none hg, ParseInt.parse1Unchecked]
      exact .ok b value _ rfl hend hend
    | some x =>
      have hlt : b.index < b.slc.length := (List.getElem?_eq_some_iff.mp hg).1
      simp only [IterSpec.drop_eq_cons hg, ParseInt.parse1Unchecked]
      cases hd : ParseInt.charToDigit x e.radix with
      | none =>
        simp only
        rw [fmtInvalidDigit_simple e hs _ x start value isEnd (by simp)]
        exact .err _
      | some d => exact ih { b with index := b.index + 1 } _ (by simp only; omega) hlt

theorem parse1Checked_sim (e : Env) (hs : Simple e.c) (sub : Bool) (start : Nat) :
    ∀ (fuel : Nat) (b : Bytes) (value : Nat), b.slc.length - b.index < fuel → b.index ≤ b.slc.length →
      Sim b.slc (parse1Checked e sub start fuel b value)
        (ParseInt.parse1Checked e.t e.radix e.partial_ sub (b.slc.drop b.index) value b.index) := by
  intro fuel
  induction fuel with
  | zero => intro b v h; omega
  | succ n ih =>
    intro b value hf hv
    rw [parse1Checked, hs.iterNext]
    cases hg : b.slc[b.index]? with
    | none =>
      have hend : b.index = b.slc.length := by have := List.getElem?_eq_none_iff.mp hg; omega
      rw [IterSpec.drop_of_none hg, ParseInt.parse1Checked]
      exact .ok b value _ rfl hend hend
    | some x =>
      have hlt : b.index < b.slc.length := (List.getElem?_eq_some_iff.mp hg).1
      simp only [IterSpec.drop_eq_cons hg, ParseInt.parse1Checked]
      cases hd : ParseInt.charToDigit x e.radix with
      | none =>
        simp only
        rw [fmtInvalidDigit_simple e hs _ x start value true (by simp)]
        exact .err _
      | some d =>
        simp only [Env.radixT]
        cases hm : ParseInt.mulAddChecked e.t sub value (e.radix % 2 ^ e.t.bits) d with
        | some v => exact ih { b with index := b.index + 1 } _ (by simp only; omega) hlt
        | none =>
          simp only [Bytes.cursor, usizeSub]
          cases sub
          · exact .err (.done (.overflow _))
          · exact .err (.done (.underflow _))

theorem loop8_ok (t : IntTy) (r : Nat) (sub : Bool) (rest : List Nat) (v cur : Nat) :
    ∃ k v', k ≤ rest.length ∧ ParseInt.loop8 t r sub rest v cur = .ok (rest.drop k, v', cur + k) := by
  fun_induction ParseInt.loop8 t r sub rest v cur with
  | case1 b0 b1 b2 b3 b4 b5 b6 b7 tl value cursor bytes h8 hlen =>
    simp only [List.length_cons] at hlen
    omega
  | case2 b0 b1 b2 b3 b4 b5 b6 b7 tl value cursor bytes h8 hlen ih =>
    obtain ⟨k, v', hk, he⟩ := ih
    refine ⟨k + 8, v', by simp only [List.length_cons]; omega, ?_⟩
    rw [he, Nat.add_assoc, Nat.add_comm 8 k]
    rfl
  | case3 => exact ⟨0, _, Nat.zero_le _, rfl⟩
  | case4 => exact ⟨0, _, Nat.zero_le _, rfl⟩

theorem loop4_ok (t : IntTy) (r : Nat) (sub : Bool) (rest : List Nat) (v cur : Nat) :
    ∃ k v', k ≤ rest.length ∧ ParseInt.loop4 t r sub rest v cur = .ok (rest.drop k, v', cur + k) := by
  fun_induction ParseInt.loop4 t r sub rest v cur with
  | case1 b0 b1 b2 b3 tl value cursor bytes h4 hlen =>
    simp only [List.length_cons] at hlen
    omega
  | case2 b0 b1 b2 b3 tl value cursor bytes h4 hlen ih =>
    obtain ⟨k, v', hk, he⟩ := ih
    refine ⟨k + 4, v', by simp only [List.length_cons]; omega, ?_⟩
    rw [he, Nat.add_assoc, Nat.add_comm 4 k]
    rfl
  | case3 => exact ⟨0, _, Nat.zero_le _, rfl⟩
  | case4 => exact ⟨0, _, Nat.zero_le _, rfl⟩

theorem multiLoop_simple (e : Env) (hs : Simple e.c) (sub : Bool) (b : Bytes) (value : Nat) :
    multiLoop e sub b value =
      (let useMulti := ParseInt.canMulti e.c.feats e.radix && !e.noMulti
       let multi : ParseInt.Flow (List Nat × Nat × Nat) :=
         if useMulti && decide (e.t.bits ≥ 64) && decide (b.bufferLength ≥ 8) then
           ParseInt.loop8 e.t e.radix sub b.asSlice value b.index
         else if useMulti && decide (e.t.bits = 32) && decide (b.bufferLength ≥ 4) then
           ParseInt.loop4 e.t e.radix sub b.asSlice value b.index
         else .ok (b.asSlice, value, b.index)
       match multi with
       | .error m => .error (ofM m)
       | .ok (_, value, cursor) => .ok ({ b with index := cursor, ic := b.ic + (cursor - b.index) }, value)) := by
  simp only [multiLoop, Env.contig, hs.contig, hs.hd, hs.hf, Bool.true_and, Bool.false_and, if_false, if_true]
  by_cases h8 : (ParseInt.canMulti e.c.feats e.radix && !e.noMulti && decide (e.t.bits ≥ 64) && decide (b.bufferLength ≥ 8)) = true
  · simp only [h8, Bool.true_or, if_true]
    obtain ⟨k, v', -, hl⟩ := loop8_ok e.t e.radix sub b.asSlice value b.index
    rw [hl]
    rfl
  · simp only [h8, Bool.false_or, if_false]
    by_cases h4 : (ParseInt.canMulti e.c.feats e.radix && !e.noMulti && decide (e.t.bits = 32) && decide (b.bufferLength ≥ 4)) = true
    · simp only [h4, if_true]
      obtain ⟨k, v', -, hl⟩ := loop4_ok e.t e.radix sub b.asSlice value b.index
      rw [hl]
      rfl
    · simp [h4]

/-- the multi-digit blocks step over `k` bytes; the one-digit loop goes on behind them -/
theorem parseDigitsUnchecked_sim (e : Env) (hs : Simple e.c) (sub isEnd : Bool) (start : Nat) (b : Bytes)
    (value : Nat) (hv : b.index ≤ b.slc.length) :
    Sim b.slc (parseDigitsUnchecked e sub isEnd start b value)
      (ParseInt.parseDigitsUnchecked e.t e.radix e.c.feats e.partial_ e.noMulti sub b.asSlice b.index
        b.bufferLength value) := by
  have tail : ∀ (x k v' : Nat), k ≤ b.asSlice.length →
      Sim b.slc (parse1Unchecked e sub isEnd start (b.slc.length + 1) { b with index := b.index + k, ic := x } v')
        (ParseInt.parse1Unchecked e.t e.radix e.partial_ sub (b.asSlice.drop k) v' (b.index + k)) := by
    intro x k v' hk
    simp only [Bytes.asSlice, List.length_drop] at hk
    have := parse1Unchecked_sim e hs sub isEnd start (b.slc.length + 1) { b with index := b.index + k, ic := x } v'
      (by simp only; omega) (by simp only; omega)
    simpa only [Bytes.asSlice, List.drop_drop] using this
  simp only [parseDigitsUnchecked, multiLoop_simple e hs, ParseInt.parseDigitsUnchecked]
  by_cases h8 : (ParseInt.canMulti e.c.feats e.radix && !e.noMulti && decide (e.t.bits ≥ 64) && decide (b.bufferLength ≥ 8)) = true
  · simp only [h8, if_true]
    obtain ⟨k, v', hk, hl⟩ := loop8_ok e.t e.radix sub b.asSlice value b.index
    rw [hl]
    exact tail _ k v' hk
  · simp only [h8, if_false]
    by_cases h4 : (ParseInt.canMulti e.c.feats e.radix && !e.noMulti && decide (e.t.bits = 32) && decide (b.bufferLength ≥ 4)) = true
    · simp only [h4, if_true]
      obtain ⟨k, v', hk, hl⟩ := loop4_ok e.t e.radix sub b.asSlice value b.index
      rw [hl]
      exact tail _ k v' hk
    · simp only [h4, if_false]
      exact tail _ 0 value (Nat.zero_le _)

theorem parseDigitsChecked_sim (e : Env) (hs : Simple e.c) (sub : Bool) (start : Nat) (b : Bytes) (value od : Nat)
    (hv : b.index ≤ b.slc.length) :
    Sim b.slc (parseDigitsChecked e sub start b value od)
      (ParseInt.parseDigitsChecked e.t e.radix e.c.feats e.partial_ e.noMulti sub b.asSlice b.index
        b.bufferLength value od) := by
  simp only [parseDigitsChecked, Env.contig, hs.contig, if_true, ParseInt.parseDigitsChecked, Bytes.bufferLength]
  have hle : b.index ≤ min b.slc.length (od + b.index) := by omega
  have h2 : min b.slc.length (od + b.index) ≤ b.slc.length := by omega
  simp only [Nat.not_lt.mpr hle, Nat.not_lt.mpr h2, if_false]
  have h1 := parseDigitsUnchecked_sim e hs sub false start ⟨b.slc.take (min b.slc.length (od + b.index)), b.index, 0, 0, 0⟩
    value (by simp only [List.length_take]; omega)
  have hs1 : (⟨b.slc.take (min b.slc.length (od + b.index)), b.index, 0, 0, 0⟩ : Bytes).asSlice =
      b.asSlice.take (min b.slc.length (od + b.index) - b.index) := by
    simp only [Bytes.asSlice, List.drop_take]
  have hs2 : (⟨b.slc.take (min b.slc.length (od + b.index)), b.index, 0, 0, 0⟩ : Bytes).bufferLength =
      min b.slc.length (od + b.index) := by
    simp only [Bytes.bufferLength, List.length_take]; omega
  rw [hs1, hs2] at h1
  revert h1
  generalize parseDigitsUnchecked e sub false start ⟨b.slc.take (min b.slc.length (od + b.index)), b.index, 0, 0, 0⟩ value = X
  generalize ParseInt.parseDigitsUnchecked e.t e.radix e.c.feats e.partial_ e.noMulti sub
    (b.asSlice.take (min b.slc.length (od + b.index) - b.index)) b.index (min b.slc.length (od + b.index)) value = Y
  intro h1
  cases h1 with
  | err m => exact .err m
  | ok b1 v1 c1 _ _ _ =>
    have := parse1Checked_sim e hs sub start (b.slc.length + 1) { b with index := min b.slc.length (od + b.index) } v1
      (by simp only; omega) h2
    simpa only [Bytes.asSlice, List.drop_drop, Nat.add_sub_cancel' hle] using this

/-- the four branches `cannot_overflow × is_negative` of both bodies side by side; where both loops fall through the
cursor stands at the end of the buffer (`Sim.ok`), so the contiguous digit count of the final `$into_ok!` is not zero and
the second unchecked call of the negative branch sees an empty slice -/
theorem digitsPhase_simple (e : Env) (hs : Simple e.c) (isNeg : Bool) (b : Bytes) (start : Nat)
    (hle : b.index ≤ b.slc.length) (hpos : 0 < b.slc.length) :
    (match digitsPhase e isNeg b start with | .ok r => r | .error r => r) =
      ofM (LexVerif.Proof.ParseInt.body e.c.feats e.t e.radix e.partial_ e.noMulti isNeg b.asSlice b.index b.slc.length) := by
  simp only [digitsPhase, digitsBody, negBlock, mainBlock, hs.hd, Bool.false_and, Bool.false_eq_true, if_false,
    LexVerif.Proof.ParseInt.body]
  have fin : ∀ {x y}, Sim b.slc x y →
      (match (match x with
              | .error r => .error r
              | .ok (b', value) => .ok (intoOk e value b'.bufferLength (b'.iterCount e.c .integer)) : Flow Res) with
       | .ok r => r | .error r => r) =
      ofM (match y with | .error m => m | .ok (value, _) => ParseInt.intoOk e.t value b.slc.length) := by
    intro x y h
    cases h with
    | err m => rfl
    | ok b' v c h1 h2 _ =>
      have : (b'.index == 0) = false := by simp; omega
      simp [hs.count, intoOk, ParseInt.intoOk, ofM, Bytes.bufferLength, this, h1]
  cases hco : decide (b.asSlice.length ≤ ParseInt.overflowDigits e.t e.radix) with
  | true =>
    cases isNeg with
    | true =>
      simp only [Bool.and_self, if_true]
      have h1 := parseDigitsUnchecked_sim e hs true true start b 0 hle
      simp only [Bytes.bufferLength] at h1
      revert h1
      generalize parseDigitsUnchecked e true true start b 0 = X
      generalize ParseInt.parseDigitsUnchecked e.t e.radix e.c.feats e.partial_ e.noMulti true b.asSlice b.index
        b.slc.length 0 = Y
      intro h1
      cases h1 with
      | err m => rfl
      | ok b1 v1 c1 hs1 hi1 hc1 =>
        have hl1 : b1.slc.length = b.slc.length := by rw [hs1]
        have h2 := parseDigitsUnchecked_sim e hs false true start b1 v1 (by omega)
        have hnil : b1.asSlice = [] := by simp only [Bytes.asSlice]; exact List.drop_eq_nil_of_le (by omega)
        rw [hnil, hi1, ← hc1, Bytes.bufferLength, hs1] at h2
        exact fin h2
    | false =>
      simp only [Bool.and_false, Bool.false_eq_true, if_false, if_true]
      exact fin (parseDigitsUnchecked_sim e hs false true start b 0 hle)
  | false =>
    simp only [Bool.false_and, Bool.false_eq_true, if_false]
    cases isNeg with
    | true => simp only [if_true]; exact fin (parseDigitsChecked_sim e hs true start b 0 _ hle)
    | false => simp only [Bool.false_eq_true, if_false]; exact fin (parseDigitsChecked_sim e hs false start b 0 _ hle)

def hasSign (t : IntTy) (s : List Nat) : Bool := s.head? == some 43 || (s.head? == some 45 && t.signed)

def signLen (t : IntTy) (s : List Nat) : Nat := if hasSign t s then 1 else 0

theorem signLen_eq (t : IntTy) (s : List Nat) : signLen t s = ParseIntPartial.signLen t s := by
  unfold signLen hasSign ParseIntPartial.signLen
  by_cases h43 : s.head? = some 43
  · simp [h43]
  · by_cases h45 : s.head? = some 45 ∧ t.signed = true
    · simp [h45.1, h45.2]
    · have : (s.head? == some 45 && t.signed) = false := by simpa using h45
      simp [h43, h45, this]

theorem signLen_le (t : IntTy) (s : List Nat) : signLen t s ≤ s.length :=
  signLen_eq t s ▸ ParseIntPartial.signLen_le_length t s

/-- the two sign flags of the format (`no_positive_mantissa_sign`, `required_mantissa_sign`) in front of a result -/
def signGate (e : Env) (s : List Nat) (r : Res) : Res :=
  if s.head? = some 43 ∧ e.c.fmt.noPositiveMantissaSign = true then err "InvalidPositiveSign" 0
  else if e.c.fmt.requiredMantissaSign = true ∧ hasSign e.t s = false then err "MissingSign" 0
  else r

/-- `parse_sign` in a release build of ANY format: it reads `first()` and steps the `Bytes`, no separator is looked at -/
theorem parseSign_release (e : Env) (hd : e.c.debug = false) (s : List Nat) :
    parseSign e (Bytes.new s) =
      if s.head? = some 43 ∧ e.c.noPositiveMantissaSign = true then .error (.err "InvalidPositiveSign" 0)
      else if e.c.requiredMantissaSign = true ∧ hasSign e.t s = false then .error (.err "MissingSign" 0)
      else .ok (decide (s.head? = some 45 ∧ e.t.signed = true), { slc := s, index := signLen e.t s }) := by
  have hst : ∀ b : Bytes, b.step e.c = .ok { b with index := b.index + 1 } := fun b => by
    simp [Bytes.step, Bytes.stepUnchecked, Bytes.stepBy, hd]
  cases s with
  | nil =>
    simp [ParseIntFormat.parseSign, Bytes.new, Bytes.first, hasSign, signLen, Bytes.cursor]
  | cons x xs =>
    by_cases h43 : x = 43
    · subst h43
      simp only [ParseIntFormat.parseSign, Bytes.new, Bytes.first, hst, Bytes.cursor, hasSign, signLen,
        List.getElem?_cons_zero, List.head?_cons, List.length_cons]
      cases e.c.noPositiveMantissaSign <;> cases e.c.requiredMantissaSign <;> simp
    · by_cases h45 : x = 45
      · subst h45
        simp only [ParseIntFormat.parseSign, Bytes.new, Bytes.first, hst, Bytes.cursor, hasSign, signLen,
          List.getElem?_cons_zero, List.head?_cons, List.length_cons]
        by_cases hsg : e.t.signed = true <;> cases e.c.requiredMantissaSign <;> simp [hsg]
      · have hx : ∀ (α : Type) (a b c : α), (match (some x : Option Nat) with | some 43 => a | some 45 => b | _ => c) = c := by
          intro α a b c; split <;> simp_all
        simp only [ParseIntFormat.parseSign, Bytes.new, Bytes.first, List.getElem?_cons_zero, hx, Bytes.cursor, hasSign, signLen,
          List.head?_cons]
        cases e.c.requiredMantissaSign <;> simp [h43, h45]

theorem parseSign_simple (e : Env) (hs : Simple e.c) (s : List Nat) :
    parseSign e (Bytes.new s) =
      if s.head? = some 43 ∧ e.c.fmt.noPositiveMantissaSign = true then .error (.err "InvalidPositiveSign" 0)
      else if e.c.fmt.requiredMantissaSign = true ∧ hasSign e.t s = false then .error (.err "MissingSign" 0)
      else .ok (decide (s.head? = some 45 ∧ e.t.signed = true), { slc := s, index := signLen e.t s }) := by
  have hnp : e.c.noPositiveMantissaSign = e.c.fmt.noPositiveMantissaSign := by
    simp [Cfg.noPositiveMantissaSign, Cfg.flag, hs.hf]
  have hrs : e.c.requiredMantissaSign = e.c.fmt.requiredMantissaSign := by
    simp [Cfg.requiredMantissaSign, Cfg.flag, hs.hf]
  rw [parseSign_release e hs.hd, hnp, hrs]

theorem prefixZeros_none (e : Env) (hs : Simple e.c) (hp : e.c.fmt.basePrefix = 0)
    (hz : e.c.fmt.noIntegerLeadingZeros = false) (b : Bytes) (start : Nat) : prefixZeros e b start = .ok (b, start) := by
  simp [prefixZeros, Cfg.basePrefix, hs.hf, hp, Cfg.flag, hz]

theorem toInt_zero (t : IntTy) : ParseInt.toInt t 0 = 0 := by
  have : 0 < 2 ^ (t.bits - 1) := Nat.pow_pos (by omega)
  simp only [ParseInt.toInt]
  split
  · omega
  · rfl
