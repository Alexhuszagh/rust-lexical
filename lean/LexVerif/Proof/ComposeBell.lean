import LexVerif.Proof.Compose
import LexVerif.Proof.BellBracket
import LexVerif.Props.C05
/-!
# Proof.ComposeBell — what the slow-path model is handed; Bellerophon meets the moderate path's contract

`HandOff`: what an invalid-marked answer of a decimal moderate path tells `slow_radix` about the words it declined — they
come from inside the power table, and the answer, un-biased, is a two-sided estimate (`Proof.Bell.Est2`) of every value they
stand for, with error bounds below the rounding position. It brackets each such value (`HandOff.bracket`); the domain of the
slow-path model follows from it in `Props.C01Trunc.slowDomain_reads`.

For every build and radix that dispatches to `bellerophon` with one of the verified tables (`Props.C05.IsBellTable`: the
29 generic radices of `radix` builds, and radix 10 of `compact` builds), every mantissa word — exact or truncated — and
every value the words stand for (`Proof.Bell.TrueValue`), `Compose.ModerateOK` holds: a valid answer is the rounded
value (`bellerophon_radix_sound`), an invalid-marked one is a two-sided estimate (`bellerophon_invalid_est`) that brackets
it (`bracket_of_est2`). The estimate's upper error grows with the leading zeros of a truncated word, so such a word must
have 55 bits (`f64`) resp. 54 (`f32`) for the bracket to follow.
-/
namespace LexVerif.Proof.Compose
open LexVerif.Spec LexVerif.Model LexVerif.Model.ParseFloatAlgo
open LexVerif.Proof.RoundNE LexVerif.Proof.ExtRound LexVerif.Proof.Pipeline LexVerif.Proof.Bell
open LexVerif.Props.C01 (IsLemireFloat Bracket)
open LexVerif.Props.C05

/-- `cl`, `ch`: the estimate's error bounds, in units of its last place; `−350 … 309` contains the exponents of both decimal
tables (Eisel–Lemire `−342 … 308`, Bellerophon's compact table `−350 … 309`) -/
structure HandOff (F : FTy) (p : Nat) (nm : Num) (fp : ExtendedFloat80) : Prop where
  nonzero : nm.mantissa ≠ 0
  expLo : -350 ≤ nm.exponent
  expHi : nm.exponent ≤ 309
  exp : fp.exp - invalidFp < 2 ^ 20
  est : ∃ cl ch, 4 * cl ≤ 2 ^ (64 - p) ∧ cl ≤ 2 ^ 62 ∧ 2 * ch ≤ 2 ^ (64 - p) ∧ 0 < ch ∧
    ∀ num den, 0 < den → TrueValue 10 nm num den → Est2 F p { fp with exp := fp.exp - invalidFp } cl ch num den

theorem HandOff.bracket {F : FTy} {p eb : Nat} {nm : Num} {fp : ExtendedFloat80} (H : HandOff F p nm fp)
    (lay : Layout F p eb) {num den : Nat} (hd : 0 < den) (htv : TrueValue 10 nm num den) : Bracket F fp num den := by
  obtain ⟨cl, ch, hcl, _, hch, hch0, hest⟩ := H.est
  exact bracket_of_est2 lay cl ch hcl hch hch0 _ num den hd (hest num den hd htv)

theorem moderateOK_bellT {F : FTy} (hF : IsLemireFloat F) (c : Cfg)
    (hback : backend c.feats c.mantissaRadix = .bellerophon)
    (hT : IsBellTable (Bellerophon.powersOf c.feats c.mantissaRadix) c.mantissaRadix) (n : Number)
    (hw : n.mantissa < 2 ^ 64)
    (hlow : n.manyDigits = true → 2 ^ 54 ≤ n.mantissa ∧ (F = FTy.f64 → 2 ^ 55 ≤ n.mantissa))
    (num den : Nat) (hd : 0 < den) (htv : TrueValue c.mantissaRadix (numOf n) num den) :
    ModerateOK c F n num den (Bracket F · num den) := by
  have hmw : n.manyDigits = true → 2 ^ 44 ≤ n.mantissa := fun h =>
    Nat.le_trans (by decide : (2 : Nat) ^ 44 ≤ 2 ^ 54) (hlow h).1
  -- for one float layout, given that the estimate's error bounds fit below the rounding position
  have H : ∀ {p eb : Nat}, Layout F p eb → 4 * 4 ≤ 2 ^ (64 - p) →
      2 * (8 + if n.manyDigits then 2 * 2 ^ clz64 n.mantissa + 1 else 0) ≤ 2 ^ (64 - p) →
      ModerateOK c F n num den (Bracket F · num den) := by
    intro p eb lay hcl hch
    cases hbel : Bellerophon.bellerophon F (Bellerophon.powersOf c.feats c.mantissaRadix) (numOf n) false with
    | panic => exact absurd hbel (bellerophon_no_panic_radix F _ _ hT (numOf n) false)
    | ok fp =>
      refine ⟨fp, by rw [moderatePath_of_bellerophon hback, hbel], fun hv => ?_, fun hinv => ?_⟩
      · exact bellerophon_radix_sound F hF _ _ hT (numOf n) hw hmw _ _ hd htv hbel hv
      · obtain ⟨_, _, hE⟩ := bellerophon_invalid_est lay (bellFacts_of_isBellTable hT) (numOf n) hw hmw _ _ hd htv hbel hinv
        exact bracket_of_est2 lay 4 _ hcl hch (by omega) _ _ _ hd hE
  cases hmany : n.manyDigits with
  | false =>
    rcases hF with h | h <;> subst h
    · exact H layout_f64 (by decide) (by simp [hmany])
    · exact H layout_f32 (by decide) (by simp [hmany])
  | true =>
    rcases hF with h | h <;> subst h
    · have := LexVerif.Proof.BinaryCorrect.clz_pow_le (k := 55) (by decide) ((hlow hmany).2 rfl) hw
      exact H layout_f64 (by decide) (by rw [hmany, if_pos rfl]; omega)
    · have := LexVerif.Proof.BinaryCorrect.clz_pow_le (k := 54) (by decide) (hlow hmany).1 hw
      exact H layout_f32 (by decide) (by rw [hmany, if_pos rfl]; omega)

end LexVerif.Proof.Compose
