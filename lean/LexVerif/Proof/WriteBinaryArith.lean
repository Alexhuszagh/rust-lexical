import LexVerif.Model.WriteBinary
import LexVerif.Proof.DragonboxArith
/-!
# Proof.WriteBinaryArith — the integer helpers of binary.rs / hex.rs are floor division and modulus

`calculate_shl`, `inverse_remainder`, `fast_ceildiv`, `scale_sci_exp` (both files), on the whole range of exponents a
finite f32/f64 can have (the lemmas take `|e| ≤ 4000`, far more than needed), for `bits_per_digit ∈ 1..5`:
the Rust truncating `/`, `%` and the `wrapping_neg`s never see a negative operand or an overflow.
-/
namespace LexVerif.Proof.WriteBinaryArith
open LexVerif.Model.WriteBinary LexVerif.Model.Dragonbox

theorem i32_def (x : Int) : i32 x = (x + 2147483648) % 4294967296 - 2147483648 := rfl

theorem bpd_cases {bpd : Int} (h1 : 1 ≤ bpd) (h5 : bpd ≤ 5) : bpd = 1 ∨ bpd = 2 ∨ bpd = 3 ∨ bpd = 4 ∨ bpd = 5 := by
  omega

theorem fastCeildiv_eq {v bpd : Int} (hv0 : 0 ≤ v) (hv : v ≤ 4000) (h1 : 1 ≤ bpd) (h5 : bpd ≤ 5) :
    fastCeildiv v bpd = -((-v) / bpd) := by
  unfold fastCeildiv
  rw [DragonboxArith.i32_id (x := v + bpd) (by omega) (by omega), DragonboxArith.i32_id (x := v + bpd - 1) (by omega) (by omega),
    Int.tdiv_eq_ediv_of_nonneg (by omega)]
  rcases bpd_cases h1 h5 with h | h | h | h | h <;> subst h <;> omega

theorem calculateShl_eq {e bpd : Int} (he1 : -4000 ≤ e) (he2 : e ≤ 4000) (h1 : 1 ≤ bpd) (h5 : bpd ≤ 5) :
    calculateShl e bpd = e % bpd := by
  unfold calculateShl inverseRemainder
  by_cases hneg : e < 0
  · rw [if_pos hneg, DragonboxArith.i32_id (x := -e) (by omega) (by omega), Int.tmod_eq_emod_of_nonneg (by omega)]
    rcases bpd_cases h1 h5 with h | h | h | h | h <;> subst h <;> (split <;> (try rw [DragonboxArith.i32_id (by omega) (by omega)]) <;> omega)
  · rw [if_neg hneg, Int.tmod_eq_emod_of_nonneg (by omega)]

theorem scaleSciExp_eq {s bpd : Int} (hs1 : -4000 ≤ s) (hs2 : s ≤ 4000) (h1 : 1 ≤ bpd) (h5 : bpd ≤ 5) :
    scaleSciExp s bpd = s / bpd := by
  unfold scaleSciExp
  by_cases hneg : s < 0
  · rw [if_pos hneg, DragonboxArith.i32_id (x := -s) (by omega) (by omega), fastCeildiv_eq (by omega) (by omega) h1 h5, Int.neg_neg]
    have hq : -4000 ≤ s / bpd ∧ s / bpd ≤ 0 := by
      rcases bpd_cases h1 h5 with h | h | h | h | h <;> subst h <;> omega
    rw [Int.neg_neg, DragonboxArith.i32_id (by omega) (by omega)]
  · rw [if_neg hneg, Int.tdiv_eq_ediv_of_nonneg (by omega)]

theorem mul_bounds {q L : Int} (hq1 : -4000 ≤ q) (hq2 : q ≤ 4000) (h1 : 1 ≤ L) (h5 : L ≤ 5) :
    -20000 ≤ q * L ∧ q * L ≤ 20000 := by
  rcases bpd_cases h1 h5 with h | h | h | h | h <;> subst h <;> omega

theorem ediv_bounds {s L : Int} (hs1 : -4000 ≤ s) (hs2 : s ≤ 4000) (h1 : 1 ≤ L) (h5 : L ≤ 5) :
    -4000 ≤ s / L ∧ s / L ≤ 4000 ∧ (s < 0 → s / L < 0) ∧ (0 ≤ s → 0 ≤ s / L) := by
  rcases bpd_cases h1 h5 with h | h | h | h | h <;> subst h <;> omega

/-- `hb`: `bits_per_base` divides `bits_per_digit`, as for the documented pairs 4/2, 8/2, 16/2, 32/2, 16/4 of hex.rs
and for equal bases -/
theorem scaleSciExpHex_eq {s bpd bpb : Int} (hs1 : -4000 ≤ s) (hs2 : s ≤ 4000) (h1 : 1 ≤ bpd) (h5 : bpd ≤ 5)
    (hb : bpb = 1 ∨ (bpb = 2 ∧ bpd = 4) ∨ bpb = bpd) :
    scaleSciExpHex s bpd bpb * bpb = s / bpd * bpd := by
  obtain ⟨q1, q2, q3, q4⟩ := ediv_bounds hs1 hs2 h1 h5
  have hP := mul_bounds q1 q2 h1 h5
  -- the value `⌊s/bpd⌋·bpd / bpb` (exact division) and its bounds
  have hex : ∃ z : Int, z * bpb = s / bpd * bpd ∧ -20000 ≤ z ∧ z ≤ 20000 ∧ (s / bpd * bpd) / bpb = z
      ∧ (-(s / bpd * bpd)) / bpb = -z := by
    rcases hb with hb | ⟨hb, hd⟩ | hb
    · subst hb; exact ⟨s / bpd * bpd, by omega, hP.1, hP.2, by rw [Int.ediv_one], by rw [Int.ediv_one]⟩
    · subst hb; subst hd
      refine ⟨s / 4 * 2, by omega, by omega, by omega, by omega, by omega⟩
    · subst hb
      refine ⟨s / bpb, rfl, by omega, by omega, Int.mul_ediv_cancel _ (by omega), ?_⟩
      rw [← Int.neg_mul, Int.mul_ediv_cancel _ (by omega)]
  obtain ⟨z, hz, z1, z2, hd1, hd2⟩ := hex
  unfold scaleSciExpHex
  by_cases hneg : s < 0
  · rw [if_pos hneg]
    simp only []
    rw [DragonboxArith.i32_id (x := -s) (by omega) (by omega), fastCeildiv_eq (by omega) (by omega) h1 h5, Int.neg_neg,
      Int.neg_mul, DragonboxArith.i32_id (x := -(s / bpd * bpd)) (by omega) (by omega),
      Int.tdiv_eq_ediv_of_nonneg (by have := q3 hneg; have : s / bpd * bpd ≤ 0 := Int.mul_nonpos_of_nonpos_of_nonneg (by omega) (by omega); omega),
      hd2, Int.neg_neg, DragonboxArith.i32_id (by omega) (by omega), hz]
  · rw [if_neg hneg]
    simp only []
    rw [Int.tdiv_eq_ediv_of_nonneg (a := s) (by omega), DragonboxArith.i32_id (x := s / bpd * bpd) (by omega) (by omega),
      Int.tdiv_eq_ediv_of_nonneg (Int.mul_nonneg (q4 (by omega)) (by omega)), hd1, hz]

theorem fastLog2_pow {bpd : Nat} (h1 : 1 ≤ bpd) (h5 : bpd ≤ 5) : fastLog2 (2 ^ bpd) = (bpd : Int) := by
  have : bpd = 1 ∨ bpd = 2 ∨ bpd = 3 ∨ bpd = 4 ∨ bpd = 5 := by omega
  rcases this with h | h | h | h | h <;> subst h <;> decide

/-- the left side is the exponent `write_float` hands to the scientific layout for radix `2^bpd` and exponent base
`2^bpb`, whichever of the two `scale_sci_exp` computes it -/
theorem scaled_mul {S : Int} {bpd bpb : Nat} (hs1 : -4000 ≤ S) (hs2 : S ≤ 4000) (h1 : 1 ≤ bpd) (h5 : bpd ≤ 5)
    (hpair : bpb = 1 ∨ (bpb = 2 ∧ bpd = 4) ∨ bpb = bpd) :
    (if 2 ^ bpd ≠ 2 ^ bpb then scaleSciExpHex S (fastLog2 (2 ^ bpd)) (fastLog2 (2 ^ bpb))
      else scaleSciExp S (fastLog2 (2 ^ bpd))) * (bpb : Int) = S / (bpd : Int) * (bpd : Int) := by
  rw [fastLog2_pow h1 h5]
  split
  · rw [fastLog2_pow (by omega) (by omega)]
    exact scaleSciExpHex_eq hs1 hs2 (by omega) (by omega) (by omega)
  · rename_i heq
    have h2 : (2 : Nat) ^ bpd = 2 ^ bpb := Decidable.not_not.mp heq
    have hbb : bpd = bpb := Nat.le_antisymm
      ((Nat.pow_le_pow_iff_right (by decide)).mp (Nat.le_of_eq h2))
      ((Nat.pow_le_pow_iff_right (by decide)).mp (Nat.le_of_eq h2.symm))
    rw [scaleSciExp_eq hs1 hs2 (by omega) (by omega), hbb]

end LexVerif.Proof.WriteBinaryArith
