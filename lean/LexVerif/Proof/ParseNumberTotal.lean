import LexVerif.Proof.ParseNumberDebugCtx
import LexVerif.Proof.ParsePhases
/-!
# Proof.ParseNumberTotal — the iterator primitives and loops of the float syntax model in either build (C10)

`Env c`: what every function of the model is walked under, once for both build modes: `peek` never reaches
`unreachable!()`, and a debug build has `Ctx c`, from which every `step_unchecked` is shown to be off the separator. A
release build (`Rel`) is one instance, a debug build with `Ctx` the other; a hypothesis `c.debug = true → …` is what the
caller owes for a debug assertion only.

Every statement is read off an equation of `Proof/IterSpec.lean`: the state a primitive or loop leaves is `cur` / `mv` of
the state it was given, hence a later state of the buffer (`Adv.cur`, `Adv.mv`, `adv_scan`; `Moved` where nothing is
counted); `Env` discharges what the equation owes a debug build (`StepOK`). `digitPass_env` is the digit pass of the
integer and the fraction phase: `PassOk`, the bounds every build has and, where the 8-digit path is sound, the one
equation "the pass is the scan of `parse_digits`" (`IterSpec.digitsPass_end`), from which `PassOk.between` is read.

`TotP proj b r`: `r` is `ok a` with `Adv b (proj a)` or an `Error::Kind(i)` with `i ≤ length` — never `fault` or `panic`.
-/
namespace LexVerif.Proof.PNTotal
open LexVerif LexVerif.Model LexVerif.Props.C12 LexVerif.Proof.IterSpec
open LexVerif.Proof.PNDebug (Ctx IsDig matchesB get_lt zero_ne_sep matchesB_ne charToDigit_some)

def ErrOK (n : Nat) : Err → Prop
  | .err _ i => i ≤ n
  | _ => False

def TotP {α : Type} (proj : α → Bytes) (b : Bytes) (r : Except Err α) : Prop :=
  match r with
  | .ok a => Adv b (proj a)
  | .error e => ErrOK b.slc.length e

theorem TotP.iff_wp {α : Type} {p : α → Bytes} {b : Bytes} {r : Except Err α} :
    TotP p b r ↔ Wp (fun a => Adv b (p a)) (ErrOK b.slc.length) r := Iff.rfl

theorem ErrOK.isKind {n : Nat} {e : Err} (h : ErrOK n e) : IsKind e := by
  cases e <;> first | trivial | exact h

theorem TotP.lift {α : Type} {p : α → Bytes} {b b1 : Bytes} {r : Except Err α} (h : Adv b b1) (hr : TotP p b1 r) :
    TotP p b r :=
  Wp.mono hr (fun _ _ => h.trans) fun _ he => h.len ▸ he

theorem TotP.bind {α β : Type} {pa : α → Bytes} {pb : β → Bytes} {b : Bytes} {x : Except Err α}
    {f : α → Except Err β} (hx : TotP pa b x) (hf : ∀ a, x = .ok a → Adv b (pa a) → TotP pb (pa a) (f a)) :
    TotP pb b (x >>= f) :=
  Wp.bind hx fun a he ha => TotP.lift ha (hf a he ha)

theorem TotP.ok {α : Type} {p : α → Bytes} {b : Bytes} {a : α} (h : Adv b (p a)) : TotP p b (.ok a) := h
theorem TotP.pure {α : Type} {p : α → Bytes} {b : Bytes} {a : α} (h : Adv b (p a)) :
    TotP p b (pure a : Except Err α) := h
theorem TotP.err {α : Type} {p : α → Bytes} {b : Bytes} {k : String} {i : Nat} (h : i ≤ b.slc.length) :
    TotP p b (.error (.err k i) : Except Err α) := h

/-- release build of a format whose separator flags are not "consecutive alone" (what `format.is_valid()` gives); the
configuration with `debug` switched off is `PNDebug.rel c` -/
structure Rel (c : Cfg) : Prop where
  hd : c.debug = false
  hs : ∀ k, c.skip k ≠ .unreachable

structure Env (c : Cfg) : Prop where
  hs : ∀ k, c.skip k ≠ .unreachable
  dbg : c.debug = true → Ctx c

variable {c : Cfg}

theorem Rel.nodbg (hc : Rel c) {P : Prop} (h : c.debug = true) : P := by
  rw [hc.hd] at h; cases h

theorem Rel.env (hc : Rel c) : Env c := ⟨hc.hs, hc.nodbg⟩

theorem _root_.LexVerif.Proof.PNDebug.Ctx.env (cx : Ctx c) : Env c := ⟨cx.skipOk, fun _ => cx⟩

theorem Env.stepOK (cx : Env c) (k : Comp) {x : Nat} (h : Ctx c → x ≠ c.fmt.digitSeparator) : StepOK c k x :=
  fun hd => Or.inr (h (cx.dbg hd))

theorem stepOK_dig (k : Comp) {r : Nat} (hsd : c.debug = true → ¬ IsDig r c.fmt.digitSeparator) :
    ∀ x, isDig r x = true → StepOK c k x := by
  intro x hx hd
  obtain ⟨d, hdg⟩ := Option.isSome_iff_exists.mp hx
  exact Or.inr fun he => hsd hd (he ▸ charToDigit_some hdg)

/-- `b'` is `b` with the cursor moved forward inside the buffer and nothing counted: what `peek`, `read_if_value`, the
sign, `is_consumed`, the base prefix and the base suffix do to the state -/
def Moved (b b' : Bytes) : Prop := ∃ j, b' = cur b j ∧ b.index ≤ j ∧ j ≤ b.slc.length

theorem Moved.refl (b : Bytes) (hv : b.index ≤ b.slc.length) : Moved b b := ⟨b.index, rfl, Nat.le_refl _, hv⟩

theorem Moved.trans {a b d : Bytes} (h1 : Moved a b) (h2 : Moved b d) : Moved a d := by
  obtain ⟨i, rfl, hi1, hi2⟩ := h1
  obtain ⟨j, rfl, hj1, hj2⟩ := h2
  exact ⟨j, rfl, Nat.le_trans hi1 hj1, hj2⟩

theorem Moved.adv {b b' : Bytes} (h : Moved b b') : Adv b b' := by
  obtain ⟨j, rfl, h1, h2⟩ := h
  exact Adv.cur h1 h2

theorem Moved.counts {b b' : Bytes} (h : Moved b b') : b'.slc = b.slc ∧ b'.ic = b.ic ∧ b'.fc = b.fc := by
  obtain ⟨j, rfl, _⟩ := h
  exact ⟨rfl, rfl, rfl⟩

theorem moved_pk (k : Comp) (b : Bytes) (hv : b.index ≤ b.slc.length) : Moved b (cur b (pk c k b)) :=
  ⟨_, rfl, peekIdx_ge c k b.slc _ b.index, peekIdx_le c k b.slc _ b.index hv⟩

theorem moved_pk_succ (k : Comp) (b : Bytes) {x : Nat} (h : b.slc[pk c k b]? = some x) : Moved b (cur b (pk c k b + 1)) :=
  ⟨_, rfl, Nat.le_succ_of_le (peekIdx_ge c k b.slc _ b.index), get_lt h⟩

theorem peek_env (cx : Env c) (k : Comp) (b : Bytes) (hv : b.index ≤ b.slc.length) :
    ∃ v b', peek c k b = .ok (v, b') ∧ Adv b b' ∧ v = b'.slc[b'.index]? ∧ csum b' = csum b :=
  ⟨_, _, peek_eq (cx.hs k) b, (moved_pk k b hv).adv, rfl, rfl⟩

theorem peek_tot (hc : Rel c) (k : Comp) (b : Bytes) (hv : b.index ≤ b.slc.length) :
    ∃ v b', peek c k b = .ok (v, b') ∧ Adv b b' ∧ v = b'.slc[b'.index]? ∧ csum b' = csum b :=
  peek_env hc.env k b hv

theorem peek_TotP (hc : Rel c) (k : Comp) (b : Bytes) (hv : b.index ≤ b.slc.length) :
    TotP Prod.snd b (peek c k b) := by
  obtain ⟨v, b', h, ha, _⟩ := peek_tot hc k b hv
  rw [h]; exact ha

theorem some_lt {b : Bytes} {x : Nat} (h : some x = b.slc[b.index]?) : b.index < b.slc.length := get_lt h.symm

theorem iterStep_rel (hc : Rel c) (k : Comp) (b : Bytes) : iterStep c k b = .ok { b with index := b.index + 1 } :=
  stepUnchecked_release c _ b hc.hd

theorem bstep_rel (hc : Rel c) (b : Bytes) : b.step c = .ok { b with index := b.index + 1 } :=
  stepUnchecked_release c _ b hc.hd

theorem readIfValue_env (cx : Env c) (k : Comp) (v : Nat) (cased : Bool)
    (hns : c.debug = true → c.iterContiguous k = true ∨ matchesB c.fmt.digitSeparator v cased = false)
    (b : Bytes) (hv : b.index ≤ b.slc.length) :
    ∃ hit b', readIfValue c k v cased b = .ok (hit, b') ∧ Moved b b' := by
  rw [PrefixRepair.readIfValue_eq (cx.hs k) v cased b fun y hy hd => (hns hd).imp id (matchesB_ne hy)]
  split
  · next h =>
    cases hy : b.slc[pk c k b]? with
    | none => simp [hy] at h
    | some y => exact ⟨_, _, rfl, moved_pk_succ k b hy⟩
  · exact ⟨_, _, rfl, moved_pk k b hv⟩

theorem readIfValue_tot (hc : Rel c) (k : Comp) (v : Nat) (cased : Bool) (b : Bytes) (hv : b.index ≤ b.slc.length) :
    ∃ hit b', readIfValue c k v cased b = .ok (hit, b') ∧ Adv b b' := by
  obtain ⟨hit, b', h, hm⟩ := readIfValue_env hc.env k v cased hc.nodbg b hv
  exact ⟨hit, b', h, hm.adv⟩

theorem isConsumed_env (cx : Env c) (k : Comp) (b : Bytes) (hv : b.index ≤ b.slc.length) :
    ∃ r b', isConsumed c k b = .ok (r, b') ∧ Moved b b' ∧ (r = false → b'.index < b'.slc.length) := by
  rw [isConsumed_eq (cx.hs k)]
  split
  · refine ⟨_, _, rfl, moved_pk k b hv, fun h => ?_⟩
    cases hx : b.slc[pk c k b]? with
    | none => simp [hx] at h
    | some x => exact get_lt hx
  · refine ⟨_, _, rfl, Moved.refl b hv, fun h => ?_⟩
    simp only [Bytes.isBufferEmpty, decide_eq_false_iff_not] at h
    omega

theorem adv_scan (k : Comp) (p : Nat → Bool) (lim : Nat) (f : Bool) (b : Bytes) (hv : b.index ≤ b.slc.length) :
    Adv b (mv c k (scan c k b.slc p lim f b.index).2 (scan c k b.slc p lim f b.index).1.length b) := by
  have := scan_le (c := c) (k := k) b.slc p lim f b.index hv
  exact Adv.mv k (by omega) this.1

theorem skipZeros_env (cx : Env c) (k : Comp) (b : Bytes) (hv : b.index ≤ b.slc.length) :
    ∃ n b', skipZeros c k b = .ok (n, b') ∧ Adv b b' :=
  ⟨_, _, skipZeros_eq (cx.hs k) b (cx.stepOK k zero_ne_sep), adv_scan k _ _ _ b hv⟩

theorem skipZeros_tot (hc : Rel c) (k : Comp) (b : Bytes) (hv : b.index ≤ b.slc.length) :
    ∃ n b', skipZeros c k b = .ok (n, b') ∧ Adv b b' :=
  skipZeros_env hc.env k b hv

theorem parseDigits_env (cx : Env c) (k : Comp) (radix : Nat)
    (hsd : c.debug = true → ¬ IsDig radix c.fmt.digitSeparator)
    (b : Bytes) (hv : b.index ≤ b.slc.length) :
    ∃ ds b', parseDigits c k radix b = .ok (ds, b') ∧ Adv b b' ∧ ∀ d ∈ ds, d < radix := by
  refine ⟨_, _, parseDigits_eq (cx.hs k) radix b (stepOK_dig k hsd), adv_scan k _ _ _ b hv, fun d hd => ?_⟩
  obtain ⟨x, _, hx⟩ := List.mem_filterMap.mp hd
  unfold charToDigit at hx
  simp only at hx
  split at hx
  · cases hx; assumption
  · cases hx

theorem parseDigits_tot (hc : Rel c) (k : Comp) (radix : Nat) (b : Bytes) (hv : b.index ≤ b.slc.length) :
    ∃ ds b', parseDigits c k radix b = .ok (ds, b') ∧ Adv b b' := by
  obtain ⟨ds, b', h, ha, _⟩ := parseDigits_env hc.env k radix hc.nodbg b hv
  exact ⟨ds, b', h, ha⟩

theorem canMultidigit_contig {k : Comp} (h : canMultidigit c k = true) : c.iterContiguous k = true := by
  unfold canMultidigit at h
  simp only [Bool.and_eq_true] at h
  exact h.1

/-- `hm` is what the `debug_assert!`s of `try_parse_8digits` / `parse_8digits` ask; a release build of any feature record
owes nothing. -/
theorem parse8Digits_any (k : Comp) (b : Bytes) (m : Nat) (hv : b.index ≤ b.slc.length)
    (hm : c.debug = true → canMultidigit c k = true → c.mantissaRadix ≤ 10) :
    ∃ m' n, parse8Digits c k b m = .ok (m', mv c k (b.index + 8 * n) (8 * n) b) ∧ b.index + 8 * n ≤ b.slc.length := by
  refine ⟨_, _, parse8Digits_eq (fun h hd => hm hd h) b m, ?_⟩
  unfold nblocks
  split
  · exact blocks8_le _ _ _ _ hv
  · exact hv

theorem parse8Digits_tot (hc : Rel c) (k : Comp) (b : Bytes) (m : Nat) (hv : b.index ≤ b.slc.length) :
    ∃ m' b', parse8Digits c k b m = .ok (m', b') ∧ Adv b b' := by
  obtain ⟨m', n, h, hn⟩ := parse8Digits_any k b m hv hc.nodbg
  exact ⟨m', _, h, Adv.mv k (Nat.le_refl _) hn⟩

def Between (c : Cfg) (k : Comp) (s : List Nat) (i j : Nat) : Prop :=
  ∀ t, i ≤ t → t < j → ∃ x, s[t]? = some x ∧ (IsDig c.mantissaRadix x ∨ ∃ f i', i' ≤ t ∧ t < peekIdx c k s f i')

/-- What a digit phase knows of its pass from `st` to `e`: the cursor moved forward with the digits counted on the way
(`mv`: all that a release build of an arbitrary feature record has), and the pass is the scan of `parse_digits` alone
(`IterSpec.digitsPass_end`) wherever the 8-digit path reads digits only: the radix is ≤ 10 there, which every valid
format has, and a skipping iterator has no such path. -/
structure PassOk (c : Cfg) (k : Comp) (st e : Bytes) : Prop where
  mv : ∃ j n, e = IterSpec.mv c k j n st ∧ st.index + n ≤ j ∧ j ≤ st.slc.length
  scan : (canMultidigit c k = true → c.mantissaRadix ≤ 10) →
    e = IterSpec.mv c k (run c k (isDig c.mantissaRadix) st).2 (run c k (isDig c.mantissaRadix) st).1.length st

theorem PassOk.adv {k : Comp} {st e : Bytes} (h : PassOk c k st e) : Adv st e := by
  obtain ⟨j, n, rfl, h1, h2⟩ := h.mv
  exact Adv.mv k h1 h2

theorem PassOk.fc {st e : Bytes} (h : PassOk c .integer st e) : e.fc = st.fc := by
  obtain ⟨j, n, rfl, _⟩ := h.mv
  rfl

/-- what the pass went over is digits and skipped bytes -/
theorem PassOk.between {k : Comp} {st e : Bytes} (h : PassOk c k st e)
    (h10 : canMultidigit c k = true → c.mantissaRadix ≤ 10) : Between c k st.slc st.index e.index := by
  intro t h1 h2
  rw [h.scan h10, mv_index] at h2
  refine scan_between (Q := fun t x => IsDig c.mantissaRadix x ∨ ∃ f i', i' ≤ t ∧ t < peekIdx c k st.slc f i') st.slc _
    (fun _ x hx => .inl ?_) (fun f i t h1 h2 => ?_) _ _ _ t h1 h2
  · obtain ⟨d, hd⟩ := Option.isSome_iff_exists.mp hx
    exact charToDigit_some hd
  · obtain ⟨x, hx, _⟩ := peekIdx_seps c k st.slc f i t h1 h2
    exact ⟨x, hx, .inr ⟨f, i, h1, h2⟩⟩

theorem digitPass_env (cx : Env c) (k : Comp) (b : Bytes) (m : Nat) (hv : b.index ≤ b.slc.length) :
    ∃ m' e, Phase.digitPass c k b m = .ok (m', e) ∧ PassOk c k b e := by
  obtain ⟨m8, n8, h8, hn8⟩ := parse8Digits_any k b m hv fun hd => (cx.dbg hd).multi k
  have hsd : c.debug = true → ¬ IsDig c.mantissaRadix c.fmt.digitSeparator := fun hd => (cx.dbg hd).sepNotDigM
  have hs := parseDigits_eq (cx.hs k) c.mantissaRadix (mv c k (b.index + 8 * n8) (8 * n8) b) (stepOK_dig k hsd)
  have hle := scan_le (c := c) (k := k) b.slc (isDig c.mantissaRadix) (b.slc.length + 1)
    ((mv c k (b.index + 8 * n8) (8 * n8) b).iterCount c k == 0) (b.index + 8 * n8) hn8
  refine ⟨_, _, Phase.digitPass_ok h8 hs, ⟨_, _, mv_mv .., ?_, ?_⟩, fun h10 =>
    digitsPass_end (cx.hs k) (stepOK_dig k hsd) h10 b _ _ m _ _ h8 hs⟩
  · simp only [run, mv_slc, mv_index]; omega
  · simp only [run, mv_slc, mv_index]; exact hle.1

end LexVerif.Proof.PNTotal
