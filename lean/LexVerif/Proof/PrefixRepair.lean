import LexVerif.Proof.IterSpec
/-!
# Proof.PrefixRepair — `read_if_value` and the base-prefix phase in closed form, for both values of `Model.prefixRepair`

`prefixPhase` is `prefixPhaseRepaired` (parse.rs with `fixes/C12-base-prefix-swallows-leading-zero.diff`) or
`prefixPhaseCurrent`; a lemma about it has to hold for both. `read_if_value*` is `peek` and at most one step
(`readIfValue_eq`, with the byte test `matchesB`), so it changes nothing but the cursor and the repaired code's
`set_cursor(prefix_start)` restores the iterator: the phase is the function `prefixClosed` of the buffer
(`prefixPhase_closed`), which names the switch only where the prefix letter does not follow the `0`.
-/
namespace LexVerif.Proof.PNDebug
open LexVerif LexVerif.Model

def matchesB (x v : Nat) (cased : Bool) : Bool := if cased then x == v else eqIgnoreCase x v

theorem matchesB_ne {x v s : Nat} {cased : Bool} (hm : matchesB x v cased = true) (hs : matchesB s v cased = false) :
    x ≠ s := by
  intro h; subst h; rw [hm] at hs; cases hs

end LexVerif.Proof.PNDebug

namespace LexVerif.Proof.PrefixRepair
open LexVerif LexVerif.Model LexVerif.Proof.IterSpec
open LexVerif.Proof.PNDebug (matchesB)

theorem prefixPhase_eq_repaired (c : Cfg) (b : Bytes) (h : prefixRepair = true) :
    prefixPhase c b = prefixPhaseRepaired c b := by unfold prefixPhase; rw [if_pos h]

theorem prefixPhase_off (c : Cfg) (b : Bytes) (h : ¬ (c.feats.format && c.basePrefix ≠ 0) = true) :
    prefixPhase c b = .ok (false, b) := by
  unfold prefixPhase prefixPhaseRepaired prefixPhaseCurrent
  rw [if_neg h, if_neg h]
  split <;> rfl

theorem prefixPhase_none (c : Cfg) (h : c.basePrefix = 0) (b : Bytes) : prefixPhase c b = .ok (false, b) := by
  simp [prefixPhase, prefixPhaseCurrent, prefixPhaseRepaired, h, pure, Except.pure]

def OnlyIndex (b b' : Bytes) : Prop := b' = { b with index := b'.index }

theorem OnlyIndex.refl (b : Bytes) : OnlyIndex b b := rfl
theorem OnlyIndex.restore {a b : Bytes} (h : OnlyIndex a b) : ({ b with index := a.index } : Bytes) = a := by
  unfold OnlyIndex at h; rw [h]

variable {c : Cfg}

theorem readIfValue_eq {k : Comp} (hs : c.skip k ≠ .unreachable) (v : Nat) (cased : Bool) (b : Bytes)
    (hg : ∀ y, matchesB y v cased = true → StepOK c k y) :
    readIfValue c k v cased b =
      .ok (if (b.slc[pk c k b]?).any (matchesB · v cased) then (true, cur b (pk c k b + 1)) else (false, cur b (pk c k b))) := by
  unfold readIfValue
  cases cased with
  | true =>
    rw [if_pos rfl, readIfValueCased_eq hs v b (hg v (by simp [matchesB]))]
    cases b.slc[pk c k b]? <;> simp [matchesB]
  | false =>
    rw [if_neg (by simp), readIfValueUncased_eq hs v b fun y hy => hg y (by simpa [matchesB] using hy)]
    simp [matchesB]

/-- The base-prefix phase as a function of the buffer: a `0`, then the prefix letter. When the letter does not follow, the
repaired code restores the cursor (`set_cursor(prefix_start)`; `read_if_value` had moved nothing else), the code before the
repair keeps the `0` consumed and reports a prefix. -/
def prefixClosed (c : Cfg) (b : Bytes) : Except Err (Bool × Bytes) :=
  if (c.feats.format && c.basePrefix ≠ 0) = true then
    if b.slc[pk c .integer b]? = some 48 then
      if (b.slc[pk c .integer (cur b (pk c .integer b + 1))]?).any (matchesB · c.basePrefix c.caseSensitiveBasePrefix) then
        if ((cur b (pk c .integer (cur b (pk c .integer b + 1)) + 1)).isBufferEmpty && c.requiredIntegerDigits) = true then
          .error (.err "EmptyInteger" (pk c .integer (cur b (pk c .integer b + 1)) + 1))
        else .ok (true, cur b (pk c .integer (cur b (pk c .integer b + 1)) + 1))
      else .ok (if prefixRepair = true then (false, b) else (true, cur b (pk c .integer (cur b (pk c .integer b + 1)))))
    else .ok (false, cur b (pk c .integer b))
  else .ok (false, b)

/-- `g0`, `gp`: what a debug build owes for the steps over the `0` and over the prefix letter. (`set_cursor` is within the
buffer: the `0` was read behind `prefix_start`.) -/
theorem prefixPhase_closed (hs : c.skip .integer ≠ .unreachable) (g0 : StepOK c .integer 48)
    (gp : c.basePrefix ≠ 0 → ∀ y, matchesB y c.basePrefix c.caseSensitiveBasePrefix = true → StepOK c .integer y)
    (b : Bytes) : prefixPhase c b = prefixClosed c b := by
  unfold prefixPhase prefixPhaseRepaired prefixPhaseCurrent prefixClosed
  by_cases hcond : (c.feats.format && c.basePrefix ≠ 0) = true
  · have hne : c.basePrefix ≠ 0 := by
      have := hcond; simp only [Bool.and_eq_true, ne_eq, decide_eq_true_eq] at this; exact this.2
    simp only [hcond, if_true, readIfValueCased_eq hs 48 b g0, bind, Except.bind]
    by_cases h48 : b.slc[pk c .integer b]? = some 48
    · have hv : b.index ≤ b.slc.length := by
        have := (List.getElem?_eq_some_iff.mp h48).1
        have := peekIdx_ge c .integer b.slc (b.iterCount c .integer == 0) b.index
        unfold pk at *; omega
      simp only [h48, if_true, readIfValue_eq hs _ _ _ (gp hne), cur_slc, cur_cur]
      by_cases hm : (b.slc[pk c .integer (cur b (pk c .integer b + 1))]?).any
          (matchesB · c.basePrefix c.caseSensitiveBasePrefix) = true
      · simp only [hm, if_true, Bool.true_and, pure, Except.pure]
        split <;> split <;> simp_all
      · simp only [hm, Bool.false_eq_true, if_false, Bool.false_and, pure, Except.pure, cur_slc, hv, if_true]
        split <;> rfl
    · simp only [h48, if_false, Bool.false_eq_true, pure, Except.pure]
      split <;> rfl
  · simp only [hcond, if_false, Bool.false_eq_true, pure, Except.pure]
    split <;> rfl

theorem prefixClosed_cur {b st : Bytes} {p : Bool} (h : prefixClosed c b = .ok (p, st)) : ∃ j, st = cur b j ∧ b.index ≤ j := by
  have h1 : b.index ≤ pk c .integer b := peekIdx_ge ..
  have h2 : pk c .integer b + 1 ≤ pk c .integer (cur b (pk c .integer b + 1)) := peekIdx_ge ..
  unfold prefixClosed at h
  repeat' split at h
  all_goals cases h
  · exact ⟨_, rfl, by omega⟩
  · exact ⟨_, cur_self b |>.symm, Nat.le_refl _⟩
  · exact ⟨_, rfl, by omega⟩
  · exact ⟨_, rfl, h1⟩
  · exact ⟨_, cur_self b |>.symm, Nat.le_refl _⟩

end LexVerif.Proof.PrefixRepair
