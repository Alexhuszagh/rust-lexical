import LexVerif.Proof.BytesLimbs
import LexVerif.Proof.SlowCompose
/-!
# Proof.BytesCompare — `compare_bytes`: generating the digits of `b + h` and comparing them with the input

`compare_bytes(number, num, den)` produces the radix-`r` digits of `num/den` one at a time (`large_quorem`, then
`num = rem·r`) and compares each with the next significant digit of the input. On numbers (`stepsN`, `cmpDigits`):
for digits `ds` (values below `r`) and a current numerator `x`,

  `cmpDigits r Y ds x = compare (ofDigits r ds · Y · r) (x · r^|ds|)`,

i.e. the comparison of `0.d₁d₂…` (scaled) with `x/Y` (`cmpDigits_spec`). `compareBytes_spec`: the limb-level
`compare_bytes` on the significant bytes of a `Number` is `cmpDigits` of their values, and it does not panic when the
divisor's top limb is in the range the normalisation step of `byte_comp` establishes.
-/
namespace LexVerif.Proof.Slow
open LexVerif.Spec LexVerif.Model LexVerif.Model.Slow LexVerif.Proof.RoundNE

/-- the digit loop on numbers: `inl o` = decided, `inr x'` = all digits consumed, numerator left -/
def stepsN (r Y : Nat) : List Nat → Nat → Ordering ⊕ Nat
  | [], x => .inr x
  | d :: ds, x =>
    if x = 0 then (if (d :: ds).any (· ≠ 0) then .inl .gt else .inr 0)
    else if d < x / Y then .inl .lt
    else if d > x / Y then .inl .gt
    else stepsN r Y ds (x % Y * r)

/-- the whole comparison: at the end, a non-zero numerator means the input is a proper prefix of the expansion -/
def cmpDigits (r Y : Nat) (ds : List Nat) (x : Nat) : Ordering :=
  match stepsN r Y ds x with
  | .inl o => o
  | .inr x' => if x' = 0 then .eq else .lt

theorem stepsN_zero (r Y : Nat) (ds : List Nat) :
    stepsN r Y ds 0 = if ds.any (· ≠ 0) then .inl .gt else .inr 0 := by
  cases ds with
  | nil => simp [stepsN]
  | cons d ds => simp [stepsN]

theorem stepsN_append (r Y : Nat) : ∀ (a b : List Nat) (x : Nat),
    stepsN r Y (a ++ b) x = match stepsN r Y a x with
      | .inl o => .inl o
      | .inr x' => stepsN r Y b x'
  | [], b, x => by simp [stepsN]
  | d :: ds, b, x => by
    by_cases hx : x = 0
    · subst hx
      rw [stepsN_zero, stepsN_zero, List.any_append]
      cases (d :: ds).any (· ≠ 0) <;> simp [stepsN_zero]
    · simp only [List.cons_append, stepsN, if_neg hx]
      split
      · rfl
      · split
        · rfl
        · exact stepsN_append r Y ds b _

theorem ofDigits_zero_of_not_any {r : Nat} (ds : List Nat) (h : ds.any (· ≠ 0) = false) : ofDigits r ds = 0 :=
  ofDigits_zeros r ds fun d hd => by simpa using List.any_eq_false.1 h d hd

theorem cmpDigits_spec {r Y : Nat} (hr : 0 < r) (hY : 0 < Y) : ∀ (ds : List Nat) (x : Nat), (∀ d ∈ ds, d < r) →
    cmpDigits r Y ds x = compare (ofDigits r ds * Y * r) (x * r ^ ds.length)
  | [], x, _ => by
    unfold cmpDigits
    simp only [stepsN, ofDigits, List.foldl_nil, Nat.zero_mul, List.length_nil, Nat.pow_zero, Nat.mul_one]
    by_cases hx : x = 0
    · rw [if_pos hx, hx]; rfl
    · rw [if_neg hx]; exact (cmp_lt (Nat.pos_of_ne_zero hx)).symm
  | d :: ds, x, hds => by
    have hd : d < r := hds d (List.mem_cons_self ..)
    have hds' : ∀ e ∈ ds, e < r := fun e he => hds e (List.mem_cons_of_mem _ he)
    have hD := ofDigits_lt r ds hds'
    have hrk : 0 < r ^ ds.length := Nat.pow_pos hr
    by_cases hx : x = 0
    · subst hx
      unfold cmpDigits
      rw [stepsN_zero, Nat.zero_mul]
      by_cases ha : (d :: ds).any (· ≠ 0) = true
      · rw [if_pos ha]
        simp only []
        have := ofDigits_pos_of_any hr _ ha
        exact (cmp_gt (Nat.mul_pos (Nat.mul_pos this hY) hr)).symm
      · rw [if_neg ha]
        simp only [if_true]
        rw [ofDigits_zero_of_not_any _ (by simpa using ha)]
        simp
    · have ih := cmpDigits_spec hr hY ds (x % Y * r) hds'
      have hdm := Nat.div_add_mod x Y
      have hml := Nat.mod_lt x hY
      rw [ofDigits_cons, List.length_cons, Nat.pow_succ]
      generalize hq : x / Y = q at *
      generalize hrem : x % Y = rem at *
      generalize hDv : ofDigits r ds = D at *
      generalize hK : r ^ ds.length = K at *
      -- both sides split at the digit position `K·Y·r`: the leading digits `d`, `q` decide, the rest is the recursion
      have e1 : (d * K + D) * Y * r = D * Y * r + K * Y * r * d := by ring
      have e2 : x * (K * r) = rem * r * K + K * Y * r * q := by rw [← hdm]; ring
      have hDlt : D * Y * r < K * Y * r :=
        Nat.mul_lt_mul_of_pos_right (Nat.mul_lt_mul_of_pos_right hD hY) hr
      have hrlt : rem * r * K < K * Y * r := by
        rw [Nat.mul_comm K Y, Nat.mul_right_comm Y K r]
        exact Nat.mul_lt_mul_of_pos_right (Nat.mul_lt_mul_of_pos_right hml hr) hrk
      rw [e1, e2, cmp_top hDlt hrlt, ← ih]
      unfold cmpDigits
      simp only [stepsN, if_neg hx, hq, hrem]
      rcases Nat.lt_trichotomy d q with h | h | h
      · rw [if_pos h, cmp_lt h]; rfl
      · rw [if_neg (by omega), if_neg (by omega), cmp_eq h]; rfl
      · rw [if_neg (by omega), if_pos h, cmp_gt h]; rfl

/-- the divisor after the normalisation step of `byte_comp`: its top limb exceeds `radix + 1`, and
`(radix + 1)·(top + 1) ≤ 2^64`, so that every numerator below `(radix + 1)·den` has at most as many limbs -/
structure DenOk (cap radix : Nat) (den : Limbs) : Prop where
  norm : Normalized den
  top : ∃ ys yn1, den = ys ++ [yn1] ∧ radix + 2 ≤ yn1 ∧ (radix + 1) * (yn1 + 1) ≤ B64
  len : den.length ≤ cap
  r2 : 2 ≤ radix

def NumOk (radix : Nat) (den num : Limbs) : Prop := Normalized num ∧ valL num < (radix + 1) * valL den

theorem denOk_facts {cap radix : Nat} {den : Limbs} (D : DenOk cap radix den) :
    0 < valL den ∧ (radix + 1) * valL den ≤ B64 ^ den.length ∧ radix + 1 < 2 ^ 32 := by
  obtain ⟨ys, yn1, rfl, hy, hr⟩ := D.top
  have oys := (limbsOk_append.mp D.norm.1).1
  have hys := valL_lt oys
  have hpos : 0 < B64 ^ ys.length := Nat.pow_pos B64_pos
  rw [valL_append]
  simp only [List.length_append, List.length_singleton]
  refine ⟨?_, ?_, ?_⟩
  · have : 0 < B64 ^ ys.length * yn1 := Nat.mul_pos hpos (by omega)
    omega
  · rw [Nat.pow_succ]
    have h1 : (radix + 1) * (valL ys + B64 ^ ys.length * yn1) ≤ (radix + 1) * (B64 ^ ys.length * (yn1 + 1)) :=
      Nat.mul_le_mul_left _ (by rw [Nat.mul_add, Nat.mul_one]; omega)
    have h2 : (radix + 1) * (B64 ^ ys.length * (yn1 + 1)) = B64 ^ ys.length * ((radix + 1) * (yn1 + 1)) := by ring
    have h3 : B64 ^ ys.length * ((radix + 1) * (yn1 + 1)) ≤ B64 ^ ys.length * B64 := Nat.mul_le_mul_left _ hr
    omega
  · have h1 : (radix + 1) * (radix + 1) ≤ (radix + 1) * (yn1 + 1) := Nat.mul_le_mul_left _ (by omega)
    have hB : B64 = 2 ^ 32 * 2 ^ 32 := by unfold B64; norm_num
    apply Classical.byContradiction; intro hcon
    have : 2 ^ 32 * 2 ^ 32 ≤ (radix + 1) * (radix + 1) := Nat.mul_le_mul (by omega) (by omega)
    have : (radix + 1) * (radix + 1) < (radix + 1) * (yn1 + 1) := Nat.mul_lt_mul_of_pos_left (by omega) (by omega)
    omega

theorem numOk_length {cap radix : Nat} {den num : Limbs} (D : DenOk cap radix den) (h : NumOk radix den num) :
    num.length ≤ den.length := by
  obtain ⟨_, hrY, _⟩ := denOk_facts D
  by_cases hne : num = []
  · subst hne; simp
  · have h1 := valL_ge h.1 hne
    have h3 : B64 ^ (num.length - 1) < B64 ^ den.length := by have := h.2; omega
    have := (Nat.pow_lt_pow_iff_right (by unfold B64; norm_num : 1 < B64)).mp h3
    omega

theorem isEmpty_iff {num : Limbs} (h : Normalized num) : num.isEmpty = true ↔ valL num = 0 := by
  rw [valL_eq_zero h]
  cases num <;> simp

theorem stepDigit_spec {cap radix : Nat} {den num : Limbs} (D : DenOk cap radix den) (N : NumOk radix den num) (c : Nat) :
    (Binary.digitVal c radix < valL num / valL den → stepDigit cap radix c num den = .done .lt) ∧
    (Binary.digitVal c radix > valL num / valL den → stepDigit cap radix c num den = .done .gt) ∧
    (Binary.digitVal c radix = valL num / valL den →
      ∃ num', stepDigit cap radix c num den = .cont num' ∧ NumOk radix den num' ∧
        valL num' = valL num % valL den * radix) := by
  obtain ⟨hYpos, hrY, hr32⟩ := denOk_facts D
  have hr2 := D.r2
  have hnl := numOk_length D N
  obtain ⟨ys, yn1, hden, hyr, hr⟩ := D.top
  have hdl : den.length = ys.length + 1 := by rw [hden]; simp
  have hyB : yn1 + 1 < B64 := by
    have : 3 * (yn1 + 1) ≤ (radix + 1) * (yn1 + 1) := Nat.mul_le_mul_right _ (by omega)
    omega
  have hrB : radix < B64 := by
    have : (2 : Nat) ^ 32 < B64 := by unfold B64; norm_num
    omega
  obtain ⟨R, hq, nR, vR⟩ := largeQuoremL_spec (x := num) (ys := ys) (yn1 := yn1) N.1 (by rw [← hden]; exact D.norm)
    (by omega) (radix + 1) (by rw [← hden]; exact N.2) (by omega) hyB
  rw [← hden] at hq vR
  have hqs : valL num / valL den < 2 ^ 32 := by
    have : valL num / valL den < radix + 1 := by
      rw [Nat.div_lt_iff_lt_mul hYpos]; exact N.2
    omega
  have hml := Nat.mod_lt (valL num) hYpos
  have hRr : valL R * radix < radix * valL den := by
    rw [vR, Nat.mul_comm radix]
    exact Nat.mul_lt_mul_of_pos_right hml (by omega)
  have hRl : R.length ≤ cap := by
    have : NumOk radix den R := ⟨nR, by
      have : valL R * 1 ≤ valL R * radix := Nat.mul_le_mul_left _ (by omega)
      have : radix * valL den ≤ (radix + 1) * valL den := Nat.mul_le_mul_right _ (by omega)
      omega⟩
    have := numOk_length D this
    have := D.len
    omega
  have hle1 : radix * valL den ≤ (radix + 1) * valL den := Nat.mul_le_mul_right _ (by omega)
  obtain ⟨m1, m2⟩ := smallMulL_spec (cap := cap) nR hRl (y := radix) (by omega) hrB
  obtain ⟨z, hz⟩ := m2 (by
    have : B64 ^ den.length ≤ B64 ^ cap := Nat.pow_le_pow_right B64_pos D.len
    omega)
  obtain ⟨nz, vz⟩ := m1 z hz
  unfold stepDigit
  rw [hq]
  simp only [hz, Nat.mod_eq_of_lt hqs]
  refine ⟨fun h => by rw [if_pos h], fun h => ?_, fun h => ?_⟩
  · rw [if_neg (by omega), if_pos h]
  · rw [if_neg (by omega), if_neg (by omega)]
    exact ⟨z, rfl, ⟨nz, by rw [vz]; omega⟩, by rw [vz, vR]⟩

theorem integerCompare_spec {cap radix : Nat} {den : Limbs} (D : DenOk cap radix den) :
    ∀ (bs : List Nat) (num : Limbs), (∀ c ∈ bs, c < 256) → NumOk radix den num →
      match stepsN radix (valL den) (dv radix bs) (valL num) with
      | .inl o => integerCompare cap radix den bs num = .done o
      | .inr x' => ∃ num', integerCompare cap radix den bs num = .cont num' ∧ NumOk radix den num' ∧ valL num' = x'
  | [], num, _, N => by
    simp only [dv, List.map_nil, stepsN, integerCompare]
    exact ⟨num, rfl, N, rfl⟩
  | c :: cs, num, hb, N => by
    have hcs : ∀ x ∈ cs, x < 256 := fun x hx => hb x (List.mem_cons_of_mem _ hx)
    by_cases hx : valL num = 0
    · have hemp : num.isEmpty = true := (isEmpty_iff N.1).mpr hx
      rw [hx, stepsN_zero, ← anyNonzero_dv _ hb]
      unfold integerCompare
      rw [if_pos hemp]
      by_cases ha : anyNonzero (c :: cs) = true
      · rw [if_pos ha, if_pos ha]
      · rw [if_neg ha, if_neg ha]
        exact ⟨num, rfl, N, hx⟩
    · have hemp : ¬ num.isEmpty = true := fun h => hx ((isEmpty_iff N.1).mp h)
      obtain ⟨s1, s2, s3⟩ := stepDigit_spec D N c
      have hdv : dv radix (c :: cs) = Binary.digitVal c radix :: dv radix cs := rfl
      rw [hdv]
      simp only [stepsN, if_neg hx]
      unfold integerCompare
      rw [if_neg hemp]
      by_cases h1 : Binary.digitVal c radix < valL num / valL den
      · rw [if_pos h1, s1 h1]
      · rw [if_neg h1]
        by_cases h2 : Binary.digitVal c radix > valL num / valL den
        · rw [if_pos h2, s2 h2]
        · rw [if_neg h2]
          obtain ⟨num', e1, N', v'⟩ := s3 (by omega)
          rw [e1]
          simp only []
          rw [← v']
          exact integerCompare_spec D cs num' hcs N'

theorem fractionCompare_eq (cap radix : Nat) (den : Limbs) : ∀ (bs : List Nat) (num : Limbs),
    fractionCompare cap radix den bs num =
      match integerCompare cap radix den bs num with
      | .cont num' => if num'.isEmpty then .cont num' else .done .lt
      | r => r
  | [], num => rfl
  | c :: cs, num => by
    unfold fractionCompare integerCompare
    by_cases he : num.isEmpty = true
    · rw [if_pos he, if_pos he]
      split
      · rfl
      · simp only [he, if_true]
    · rw [if_neg he, if_neg he]
      cases stepDigit cap radix c num den with
      | cont n' => exact fractionCompare_eq cap radix den cs n'
      | done o => rfl
      | panic => rfl

theorem fractionCompare_fin {cap radix : Nat} {den : Limbs} (D : DenOk cap radix den) (bs : List Nat) (num : Limbs)
    (hb : ∀ c ∈ bs, c < 256) (N : NumOk radix den num) :
    (∃ o, fractionCompare cap radix den bs num = .done o ∧ cmpDigits radix (valL den) (dv radix bs) (valL num) = o) ∨
    (∃ n, fractionCompare cap radix den bs num = .cont n ∧
      cmpDigits radix (valL den) (dv radix bs) (valL num) = .eq) := by
  have h := integerCompare_spec D bs num hb N
  rw [fractionCompare_eq]
  unfold cmpDigits
  split at h
  · rw [h]
    exact Or.inl ⟨_, rfl, rfl⟩
  · obtain ⟨num', e1, N', v'⟩ := h
    rw [e1, ← v']
    dsimp only
    by_cases hx : valL num' = 0
    · rw [if_pos hx, if_pos ((isEmpty_iff N'.1).mpr hx)]
      exact Or.inr ⟨num', rfl, rfl⟩
    · rw [if_neg hx, if_neg fun h => hx ((isEmpty_iff N'.1).mp h)]
      exact Or.inl ⟨_, rfl, rfl⟩

theorem cmpDigits_append (r Y : Nat) (a b : List Nat) (x : Nat) :
    cmpDigits r Y (a ++ b) x = match stepsN r Y a x with
      | .inl o => o
      | .inr x' => cmpDigits r Y b x' := by
  unfold cmpDigits
  rw [stepsN_append]
  cases stepsN r Y a x <;> rfl

theorem skipZeros_lt {bs : List Nat} (h : ∀ c ∈ bs, c < 256) : ∀ c ∈ Binary.skipZeros bs, c < 256 := by
  intro c hc
  unfold Binary.skipZeros at hc
  exact h c ((List.dropWhile_suffix _).subset hc)

theorem compareBytes_spec {cap radix : Nat} {den num : Limbs} (D : DenOk cap radix den) (N : NumOk radix den num)
    (integer : List Nat) (fraction : Option (List Nat)) (hbi : ∀ c ∈ integer, c < 256)
    (hbf : ∀ fr, fraction = some fr → ∀ c ∈ fr, c < 256) (hne : sigBytes integer fraction ≠ []) :
    compareBytes cap radix integer fraction num den =
      some (cmpDigits radix (valL den) (dv radix (sigBytes integer fraction)) (valL num)) := by
  have hint := integerCompare_spec D (Binary.skipZeros integer) num (skipZeros_lt hbi) N
  unfold compareBytes
  dsimp only
  cases fraction with
  | none =>
    simp only [sigBytes] at hne ⊢
    rw [List.isEmpty_eq_false_iff.mpr hne]
    simp only [Bool.false_eq_true, if_false]
    unfold cmpDigits
    split at hint
    · rw [hint]
    · obtain ⟨num', e1, N', v'⟩ := hint
      rw [e1, ← v']
      dsimp only
      by_cases hx : valL num' = 0
      · simp [hx, (isEmpty_iff N'.1).mpr hx]
      · have : num'.isEmpty = false := by simpa using fun h => hx ((isEmpty_iff N'.1).mp h)
        simp [hx, this]
  | some fr =>
    have hfr := hbf fr rfl
    simp only [sigBytes] at hne ⊢
    by_cases hi0 : Binary.skipZeros integer = []
    · rw [if_pos hi0, hi0]
      simp only [List.isEmpty_nil, if_true]
      rcases fractionCompare_fin D (Binary.skipZeros fr) num (skipZeros_lt hfr) N with ⟨o, e, c⟩ | ⟨n, e, c⟩ <;> rw [e, c]
    · rw [if_neg hi0, List.isEmpty_eq_false_iff.mpr hi0, dv_append, cmpDigits_append]
      simp only [Bool.false_eq_true, if_false]
      split at hint
      · rw [hint]
      · obtain ⟨num', e1, N', v'⟩ := hint
        rw [e1, ← v']
        dsimp only
        rcases fractionCompare_fin D fr num' hfr N' with ⟨o, e, c⟩ | ⟨n, e, c⟩ <;> rw [e, c]

end LexVerif.Proof.Slow
