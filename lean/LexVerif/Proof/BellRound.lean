import LexVerif.Proof.BinaryCorrect
import LexVerif.Proof.MulHi
import Mathlib.Tactic.Ring
import Mathlib.Tactic.Linarith
import LexVerif.Proof.EstCell
/-!
# Proof.BellRound — the decision of Bellerophon is sound

`mul_mant`: the four-partial-product multiplication with its `1 << 31` rounding term is exactly the
128-bit product rounded half-up to its high 64 bits: `(x·y + 2^63) / 2^64`, no wrap-around (`MulHi.schoolbook_eq`: `mul` is
`MulHi.schoolbook` on the significands by unfolding).

`errorIsAccurate_iff`: what `error_is_accurate` tests, in arithmetic: the truncated bits are at least
`errors` away from the half-way point.
`accurate_round`: let the scaled, normalised significand `mant` be an estimate of the true value within
`(mant − cl, mant + errors)` units of its last place (`Est2`; `cl` small: the computed significand over-estimates by at
most a few units — round-half-up — while truncated tables and truncated digits make it under-estimate by up to `errors`).
If `error_is_accurate(errors, fp)` holds, then rounding `mant` (`shared::round`, nearest/tie-even) gives `roundNE` of the
**true** value: the test puts the whole error interval on one side of the half-way point, and `Est2.cell` reads that as
two thresholds of rounding. Note that `errors`, booked in eighths of a unit by `bellerophon`, is compared by
`error_is_accurate` with the truncated bits in whole units — this factor 8 is what makes the (otherwise under-booked)
accounting safe.
-/
namespace LexVerif.Proof.Bell
open LexVerif.Spec LexVerif.Model LexVerif.Model.Bellerophon

theorem mul_mant (x y : Nat) (hx : x < 2 ^ 64) (hy : y < 2 ^ 64) (ex ey : Int) :
    mul ⟨x, ex⟩ ⟨y, ey⟩ = ⟨(x * y + 2 ^ 63) / 2 ^ 64, ex + ey + 64⟩ := by
  rw [← MulHi.schoolbook_eq hx hy]
  rfl

theorem normalize_eq (m : Nat) (e : Int) (h0 : m ≠ 0) (hm : m < 2 ^ 64) :
    normalize ⟨m, e⟩ = (⟨m * 2 ^ clz64 m, e - clz64 m⟩, clz64 m) := by
  unfold normalize
  simp only [h0, ne_eq, not_false_eq_true, if_true]
  rw [(LexVerif.Proof.BinaryCorrect.clz_norm h0 hm).2.2.2]

open LexVerif.Proof.RoundNE LexVerif.Proof.ExtRound LexVerif.Proof.BinaryCorrect

/-- `error_is_accurate`, arithmetically (no denormal underflow: `−power2 + 1 ≤ 64`; `errors < 2^32`) -/
theorem errorIsAccurate_iff {F p eb} (lay : Layout F p eb) (mant errors : Nat) (power2 : Int)
    (he : errors < 2 ^ 32) (hp2 : -power2 + 1 ≤ 64) :
    errorIsAccurate F errors ⟨mant, power2⟩ = true ↔
      (mant % 2 ^ shiftOf p power2 + errors ≤ 2 ^ (shiftOf p power2 - 1) ∨
       2 ^ (shiftOf p power2 - 1) + errors ≤ mant % 2 ^ shiftOf p power2) := by
  have hp := lay.hp; have hp64 := lay.hp64; have heb := lay.heb
  unfold errorIsAccurate
  rw [lay.ms]
  have e : (64 : Int) - ((p - 1 : Nat) : Int) - 1 = 64 - (p : Int) := by omega
  simp only [e]
  have hex : (if power2 ≤ -(64 - (p : Int)) then 1 - power2 else 64 - (p : Int)) = (shiftOf p power2 : Int) := by
    unfold shiftOf
    by_cases h : -power2 ≥ 64 - (p : Int)
    · rw [if_pos (show power2 ≤ -(64 - (p : Int)) by omega), if_pos h]; omega
    · rw [if_neg (show ¬ power2 ≤ -(64 - (p : Int)) by omega), if_neg h]; omega
  rw [hex]
  have hs64 : shiftOf p power2 ≤ 64 := by unfold shiftOf; split <;> omega
  have hs0 : 0 < shiftOf p power2 := by unfold shiftOf; split <;> omega
  generalize shiftOf p power2 = s at *
  rw [if_neg (show ¬ ((s : Int) > 64) by omega), asU64_ofNat (show s < 2 ^ 64 by omega), lowerNMask_succ hs64,
    lowerNHalfway_eq hs0 hs64]
  have hext := Nat.mod_lt mant (Nat.two_pow_pos s)
  have hhalf : 2 ^ (s - 1) ≤ 2 ^ 63 := Nat.pow_le_pow_right (by decide) (by omega)
  have hpow : 2 ^ s ≤ 2 ^ 64 := Nat.pow_le_pow_right (by decide) hs64
  generalize mant % 2 ^ s = extra at *
  generalize 2 ^ (s - 1) = half at *
  simp only [Bool.not_eq_true', Bool.and_eq_false_iff, decide_eq_false_iff_not]
  have h32 : (2 : Nat) ^ 32 = 4294967296 := by decide
  have h63 : (2 : Nat) ^ 63 = 9223372036854775808 := by decide
  have h64 : (2 : Nat) ^ 64 = 18446744073709551616 := by decide
  rw [h32] at he; rw [h63] at hhalf; rw [h64] at hpow ⊢
  constructor
  · intro h; rcases h with h | h <;> omega
  · intro h; rcases h with h | h
    · left; omega
    · right; omega

/-- the nearest/tie-even callback of `bellerophon` (and of `slow::…`) -/
def tieEven : Bool → Bool → Bool → Bool := fun isOdd isHalfway isAbove => isAbove || (isOdd && isHalfway)

/-- the exits of the second half of `bellerophon` without `lossy`: zero below the subnormal range (at shift `65` only after
the accuracy test), the rounded significand, or the invalid-marked estimate itself -/
theorem bellFinish_cases {F : FTy} {est r : ExtendedFloat80} {errors : Nat} (h : bellFinish F est errors false = .ok r) :
    (r = ⟨0, 0⟩ ∧ 65 < -est.exp + 1) ∨
    (r = ⟨0, 0⟩ ∧ -est.exp + 1 = 65 ∧ errorIsAccurate F errors est = true) ∨
    (r = round F est (fun f s => roundNearestTieEven f s tieEven) ∧ -est.exp + 1 ≤ 64 ∧
      errorIsAccurate F errors est = true) ∨
    (r = { est with exp := est.exp + invalidFp } ∧ -est.exp + 1 ≤ 65 ∧ errorIsAccurate F errors est = false) := by
  unfold bellFinish litZeroShift at h
  simp only [Bool.not_false, Bool.true_and, Bool.not_eq_true'] at h
  by_cases h1 : -est.exp + 1 > 65
  · rw [if_pos h1] at h
    injection h with h; exact Or.inl ⟨h.symm, h1⟩
  · rw [if_neg h1] at h
    cases hacc : errorIsAccurate F errors est with
    | false =>
      rw [hacc, if_pos rfl] at h
      injection h with h; exact Or.inr (Or.inr (Or.inr ⟨h.symm, by omega, rfl⟩))
    | true =>
      rw [hacc, if_neg (by decide)] at h
      by_cases h2 : -est.exp + 1 = 65
      · rw [if_pos h2] at h
        injection h with h; exact Or.inr (Or.inl ⟨h.symm, h2, rfl⟩)
      · rw [if_neg h2] at h
        injection h with h; exact Or.inr (Or.inr (Or.inl ⟨h.symm, by omega, rfl⟩))

theorem accurate_round {F p eb} (lay : Layout F p eb) (est : ExtendedFloat80) (errors cl num den : Nat)
    (he : errors < 2 ^ 32) (hp2 : -est.exp + 1 ≤ 64) (hd : 0 < den) (hest : Est2 F p est cl errors num den)
    (hel : cl ≤ errors) (hel4 : 4 * cl ≤ 2 ^ (64 - p)) (he1 : 1 ≤ errors)
    (hacc : errorIsAccurate F errors est = true) :
    extendedToFloat F (round F est (fun f s => roundNearestTieEven f s tieEven)) = roundNE F.fmt num den := by
  obtain ⟨mant, power2⟩ := est
  obtain ⟨ca, cb, cc, cd⟩ := hest.cell lay hd hp2
  obtain ⟨hm1, hm2, _, _⟩ := hest
  simp only at ca cb cc cd hm1 hm2 hp2
  rw [(round_bits lay mant power2 tieEven hm1 hm2 hp2).2]
  have hacc' := (errorIsAccurate_iff lay mant errors power2 he hp2).mp hacc
  obtain ⟨_, _, qc, _, _⟩ := quot_bounds lay.hp lay.hp62 hm1 hm2 power2 hp2
  have hel4' : 4 * cl ≤ 2 ^ shiftOf p power2 :=
    Nat.le_trans hel4 (Nat.pow_le_pow_right (by decide) (by unfold shiftOf; split <;> omega))
  generalize shiftOf p power2 = s at *
  have h2s : 2 ^ s = 2 * 2 ^ (s - 1) := two_pow_pred qc
  have hext := Nat.mod_lt mant (Nat.two_pow_pos s)
  unfold upOf tieEven
  rcases hacc' with hdn | hup
  · have h1 : ¬ (mant % 2 ^ s > 2 ^ (s - 1)) := by omega
    have h2 : ¬ (mant % 2 ^ s = 2 ^ (s - 1)) := by omega
    simp only [h1, h2, decide_false, Bool.and_false, Bool.or_false, Bool.false_eq_true, if_false, Nat.add_zero]
    exact Nat.le_antisymm (ca hel4') (cc hdn)
  · have h1 : mant % 2 ^ s > 2 ^ (s - 1) := by omega
    simp only [h1, decide_true, Bool.true_or, if_true]
    exact Nat.le_antisymm (cb (by omega)) (cd (by omega))

theorem errorIsAccurate_deep {F p eb} (lay : Layout F p eb) (mant errors : Nat) (power2 : Int)
    (hp2 : -power2 + 1 > 64) :
    errorIsAccurate F errors ⟨mant, power2⟩ = decide (mant + errors < 2 ^ 64) := by
  have hp := lay.hp; have hp64 := lay.hp64; have heb := lay.heb
  unfold errorIsAccurate
  rw [lay.ms]
  have e : (64 : Int) - ((p - 1 : Nat) : Int) - 1 = 64 - (p : Int) := by omega
  simp only [e]
  rw [if_pos (show power2 ≤ -(64 - (p : Int)) by omega), if_pos (show (1 - power2 : Int) > 64 by omega)]

/-- a value below `2^g` units of an estimate that is shifted out by more than `g` bits is less than half the least
subnormal (used with `g = 65`, `64`) -/
theorem tiny_of_est {F : FTy} {p : Nat} (hf : WF F.fmt) {est : ExtendedFloat80} {cl ch num den : Nat} (hd : 0 < den)
    (hest : Est2 F p est cl ch num den) (g : Nat) (hB : est.mant + ch ≤ 2 ^ g) (hg : g + 1 ≤ shiftOf p est.exp)
    (hK : (est.exp + 64 - p - 1).toNat = 0) : roundNE F.fmt num den = 0 := by
  obtain ⟨_, _, _, hhi⟩ := hest
  rw [hK, Nat.pow_zero, Nat.mul_one] at hhi
  apply roundNE_tiny hf (Nat.ne_of_gt hd)
  apply Nat.lt_of_mul_lt_mul_right (a := 2 ^ g)
  calc 2 * (num * 2 ^ L F.fmt) * 2 ^ g = num * 2 ^ L F.fmt * 2 ^ (g + 1) := by rw [Nat.pow_succ]; ring
    _ ≤ num * 2 ^ L F.fmt * 2 ^ shiftOf p est.exp := Nat.mul_le_mul_left _ (Nat.pow_le_pow_right (by decide) hg)
    _ < (est.mant + ch) * den := hhi
    _ ≤ 2 ^ g * den := Nat.mul_le_mul_right _ hB
    _ = den * 2 ^ g := Nat.mul_comm _ _

theorem bellFinish_sound {F p eb} (lay : Layout F p eb) (est : ExtendedFloat80) (errors cl num den : Nat)
    (he : errors < 2 ^ 32) (hpu : est.exp < 32768) (hd : 0 < den) (hest : Est2 F p est cl errors num den)
    (hel : cl ≤ errors) (hel4 : 4 * cl ≤ 2 ^ (64 - p)) (he1 : 1 ≤ errors)
    {r : ExtendedFloat80} (h : bellFinish F est errors false = .ok r) (hv : 0 ≤ r.exp) :
    extendedToFloat F r = roundNE F.fmt num den := by
  have hf := lay.wf
  have hm2 := hest.2.1
  have hS : -est.exp + 1 ≥ 65 → shiftOf p est.exp = (-est.exp + 1).toNat := by
    intro _; unfold shiftOf; rw [if_pos (by omega)]
  rcases bellFinish_cases h with ⟨rfl, h1⟩ | ⟨rfl, h2, hacc⟩ | ⟨rfl, h3, hacc⟩ | ⟨rfl, _, _⟩
  · have hB65 : est.mant + errors ≤ 2 ^ 65 := by
      have : (2 : Nat) ^ 65 = 2 ^ 64 + 2 ^ 64 := by decide
      have : (2 : Nat) ^ 32 ≤ 2 ^ 64 := by decide
      omega
    rw [ext_zero lay]
    exact (tiny_of_est hf hd hest 65 hB65 (by rw [hS (by omega)]; omega) (by omega)).symm
  · rw [errorIsAccurate_deep lay est.mant errors est.exp (by omega)] at hacc
    have hB64 : est.mant + errors ≤ 2 ^ 64 := by
      have := of_decide_eq_true hacc; omega
    rw [ext_zero lay]
    exact (tiny_of_est hf hd hest 64 hB64 (by rw [hS (by omega)]; omega) (by omega)).symm
  · exact accurate_round lay est errors cl num den he h3 hd hest hel hel4 he1 hacc
  · exfalso
    have : invalidFp = -32768 := rfl
    simp only [] at hv
    omega

end LexVerif.Proof.Bell
