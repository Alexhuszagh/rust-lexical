/-!
# Proof.FastLog2 — a kernel-friendly `⌊log2 n⌋`

`Nat.log2` is defined by recursion on fuel `n` and is *not* one of the GMP-accelerated kernel
operations: `decide +kernel` is slow on it. `log2F` finds the same value with a 16-step binary search over `2^k ≤ n`
(accelerated `Nat.pow`, `Nat.ble`; `bif` on the `Bool`, not `if` on a `Decidable`), and `log2_eq_log2F` lets a proof
rewrite every `Nat.log2` into it before handing the goal to the kernel.
-/
namespace LexVerif.Proof

/-- binary search: under `2^lo ≤ n < 2^(lo + 2^j)` returns `⌊log2 n⌋` -/
def log2Search (n : Nat) : Nat → Nat → Nat
  | 0, lo => lo
  | j + 1, lo => bif Nat.ble (2 ^ (lo + 2 ^ j)) n then log2Search n j (lo + 2 ^ j) else log2Search n j lo

def log2F (n : Nat) : Nat :=
  if n = 0 then 0 else if n < 2 ^ (2 ^ 16) then log2Search n 16 0 else Nat.log2 n

theorem log2Search_spec (n : Nat) : ∀ j lo, 2 ^ lo ≤ n → n < 2 ^ (lo + 2 ^ j) →
    2 ^ (log2Search n j lo) ≤ n ∧ n < 2 ^ (log2Search n j lo + 1) := by
  intro j
  induction j with
  | zero =>
    intro lo h1 h2
    simp only [log2Search]
    exact ⟨h1, by simpa using h2⟩
  | succ j ih =>
    intro lo h1 h2
    simp only [log2Search]
    have e : lo + 2 ^ (j + 1) = lo + 2 ^ j + 2 ^ j := by rw [Nat.pow_succ]; omega
    cases h : Nat.ble (2 ^ (lo + 2 ^ j)) n
    · exact ih lo h1 (Nat.lt_of_not_le fun hle => by rw [Nat.ble_eq_true_of_le hle] at h; cases h)
    · exact ih (lo + 2 ^ j) (Nat.le_of_ble_eq_true h) (by rw [← e]; exact h2)

theorem log2_unique {n a b : Nat} (ha : 2 ^ a ≤ n) (ha' : n < 2 ^ (a + 1))
    (hb : 2 ^ b ≤ n) (hb' : n < 2 ^ (b + 1)) : a = b := by
  apply Nat.le_antisymm
  · apply Nat.le_of_lt_succ
    exact (Nat.pow_lt_pow_iff_right (by decide : 1 < 2)).mp (Nat.lt_of_le_of_lt ha hb')
  · apply Nat.le_of_lt_succ
    exact (Nat.pow_lt_pow_iff_right (by decide : 1 < 2)).mp (Nat.lt_of_le_of_lt hb ha')

theorem log2Search_eq (n B : Nat) (h : n ≠ 0) (h2 : n < 2 ^ (2 ^ B)) :
    Nat.log2 n = log2Search n B 0 := by
  have h0 : 2 ^ 0 ≤ n := Nat.pos_of_ne_zero h
  have h3 : n < 2 ^ (0 + 2 ^ B) := by rw [Nat.zero_add]; exact h2
  have s := log2Search_spec n B 0 h0 h3
  exact log2_unique (Nat.log2_self_le h) Nat.lt_log2_self s.1 s.2

theorem log2_eq_log2F : Nat.log2 = log2F := by
  funext n
  unfold log2F
  split
  · next h => subst h; rfl
  · next h =>
    split
    · next h2 => exact log2Search_eq n 16 h h2
    · rfl

end LexVerif.Proof
