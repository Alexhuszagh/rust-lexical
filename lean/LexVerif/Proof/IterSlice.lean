import LexVerif.Proof.IterScan
/-!
# Proof.IterSlice — a component iterator on a part of the buffer: a truncation, the stored slice, the stripped input

`slice s a e` is what `parse_number` stores of the integer and fraction digits and scans again; `nonSep c s` is the input
with the separator bytes taken out. The separator predicates look only at a small neighbourhood (`nbr`), and a part of the
buffer is a cut at the back followed by a cut at the front (`slice_take_drop`).

A cut at the back touches only the look-ahead (`next`/`nextc`), and when `peek` skips, that byte is the byte it comes to:
cut off, it becomes end of input, which every predicate accepts that did not ask for a digit (`C11.holds_weaken`). `Admits`
says which cuts the resting cursor admits; `peek` (`peekIdx_take`) and every loop that takes no separator (`scan_take`)
commute with them, and `peek` with any cut behind the first non-separator byte (`peekIdx_take_far`). This is the truncation
of C11 (`Proof/ParseNumberC11SepPeek.lean`).

A cut at the front touches only `prev`/`prevc`: replacing a neighbour that is neither digit nor separator by "no neighbour"
never turns a skip decision into a non-skip (`holds_weaker`, `nbr_slice_prev`; for I+T+C only with the repair `Fix.itc`, or
once a digit has been counted). So a loop that rested on no separator does behind the cut what it did on the buffer
(`peekIdx_drop`, `scan_drop`).

The stored slice is both (`scan_region`): the loop rested at the slice's end, which the cut at the back turns
into the end of the buffer. What a loop takes is what lies between its cursors, separators left out (`scan_nonSep`), i.e.
what the plain loop takes from the stripped input (`scan_strip`).
-/
namespace LexVerif.Proof.Sep
open LexVerif LexVerif.Model LexVerif.Spec

def slice (s : List Nat) (i j : Nat) : List Nat := (s.drop i).take (j - i)

theorem slice_self (s : List Nat) (i : Nat) : slice s i i = [] := by simp [slice]

theorem slice_append (s : List Nat) (i j k : Nat) (h1 : i ≤ j) (h2 : j ≤ k) :
    slice s i k = slice s i j ++ slice s j k := by
  unfold slice
  have e : k - i = (j - i) + (k - j) := by omega
  rw [e, List.take_add, List.drop_drop]
  have : i + (j - i) = j := by omega
  rw [this]

theorem slice_one (s : List Nat) (i x : Nat) (h : s[i]? = some x) : slice s i (i + 1) = [x] := by
  unfold slice
  have : i + 1 - i = 1 := by omega
  rw [this]
  rcases List.getElem?_eq_some_iff.mp h with ⟨hl, hx⟩
  rw [List.drop_eq_getElem_cons hl]
  simp [hx]

theorem slice_length (s : List Nat) (i j : Nat) (h : j ≤ s.length) : (slice s i j).length = j - i := by
  simp only [slice, List.length_take, List.length_drop]; omega

theorem slice_drop (s : List Nat) (i n : Nat) : slice s i (i + n) = (s.drop i).take n := by
  unfold slice
  have : i + n - i = n := by omega
  rw [this]

def nonSep (c : Cfg) (l : List Nat) : List Nat := l.filter (fun x => !c.isSep x)

theorem nonSep_append (c : Cfg) (a b : List Nat) : nonSep c (a ++ b) = nonSep c a ++ nonSep c b := by
  simp [nonSep]

theorem nonSep_of_all_sep (c : Cfg) (l : List Nat) (h : l.all c.isSep = true) : nonSep c l = [] := by
  simp only [nonSep, List.filter_eq_nil_iff]
  intro x hx
  have := List.all_eq_true.mp h x hx
  simp [this]

/-- `o'` is what the re-scan sees where the first pass saw `o`: the same, or nothing instead of a byte that is neither
digit nor separator -/
def Weaker (c : Cfg) (o' o : Option Nat) : Prop :=
  o' = o ∨ (o' = none ∧ ∀ y, o = some y → c.isDigit y = false ∧ c.isSep y = false)

theorem Weaker.any_eq {c : Cfg} {o' o : Option Nat} (h : Weaker c o' o) (f : Nat → Bool)
    (hf : ∀ y, c.isDigit y = false → c.isSep y = false → f y = false) : o'.any f = o.any f := by
  rcases h with rfl | ⟨rfl, h⟩
  · rfl
  · cases o with
    | none => rfl
    | some y => exact (hf y (h y rfl).1 (h y rfl).2).symm

theorem Weaker.all_eq {c : Cfg} {o' o : Option Nat} (h : Weaker c o' o) (f : Nat → Bool)
    (hf : ∀ y, c.isDigit y = false → c.isSep y = false → f y = true) : o'.all f = o.all f := by
  rcases h with rfl | ⟨rfl, h⟩
  · rfl
  · cases o with
    | none => rfl
    | some y => exact (hf y (h y rfl).1 (h y rfl).2).symm

theorem Weaker.all_mono {c : Cfg} {o' o : Option Nat} (h : Weaker c o' o) (f : Nat → Bool) (ho : o.all f = true) :
    o'.all f = true := by
  rcases h with rfl | ⟨rfl, _⟩
  · exact ho
  · rfl

theorem Weaker.anyDigit {c : Cfg} {o' o : Option Nat} (h : Weaker c o' o) : o'.any c.isDigit = o.any c.isDigit :=
  h.any_eq _ fun _ hd _ => hd

theorem Weaker.anySep {c : Cfg} {o' o : Option Nat} (h : Weaker c o' o) : o'.any c.isSep = o.any c.isSep :=
  h.any_eq _ fun _ _ hs => hs

theorem Weaker.allOther {c : Cfg} {o' o : Option Nat} (h : Weaker c o' o) :
    o'.all (fun x => !c.isDigit x && !c.isSep x) = o.all (fun x => !c.isDigit x && !c.isSep x) :=
  h.all_eq _ fun _ hd hs => by simp only [hd, hs, Bool.not_false, Bool.and_self]

theorem Weaker.allNoSep {c : Cfg} {o' o : Option Nat} (h : Weaker c o' o) :
    o'.all (fun x => !c.isSep x) = o.all (fun x => !c.isSep x) :=
  h.all_eq _ fun _ _ hs => by simp only [hs, Bool.not_false]

theorem Weaker.allNoDigit {c : Cfg} {o' o : Option Nat} (h : Weaker c o' o) :
    o'.all (fun x => !c.isDigit x) = o.all (fun x => !c.isDigit x) :=
  h.all_eq _ fun _ hd _ => by simp only [hd, Bool.not_false]

theorem holds_weaker (c : Cfg) (p : Pred) (hp : p ≠ .itc ∨ Fix.itc = true) (first : Bool) (n n' : Nbr)
    (h1 : Weaker c n'.prev n.prev) (h2 : Weaker c n'.next n.next) (h3 : Weaker c n'.prevc n.prevc)
    (h4 : Weaker c n'.nextc n.nextc) (h : p.holds c n first = true) : p.holds c n' first = true := by
  cases p
  case ilc =>
    -- without `Fix.ilc` the predicate asks `nextc.all isDigit`, which a missing neighbour only makes true
    simp only [Pred.holds, h3.allNoDigit, h4.anyDigit] at h ⊢
    cases first
    · simp only [Bool.false_eq_true, if_false] at h ⊢
      split
      · next hf => rwa [if_pos hf] at h
      · next hf => rw [if_neg hf] at h; exact h4.all_mono _ h
    · exact h
  case itc =>
    -- without `Fix.itc` the predicate asks `prevc.any (not a digit)`, which a missing neighbour makes false
    rcases hp with hp | hp
    · exact absurd rfl hp
    · simp only [Pred.holds, hp, if_true, h3.anyDigit, h4.allNoDigit] at h ⊢
      exact h
  all_goals
    rw [← h]
    simp only [Pred.holds, h1.anyDigit, h1.anySep, h1.allOther, h1.allNoSep, h2.anyDigit, h2.anySep, h2.allOther,
      h2.allNoSep, h3.anyDigit, h3.allNoDigit, h4.anyDigit, h4.allNoDigit]

theorem slice_get (s : List Nat) (a e j : Nat) (h : a + j < e) : (slice s a e)[j]? = s[a + j]? := by
  unfold slice
  rw [List.getElem?_take, if_pos (by omega), List.getElem?_drop]

theorem countSeps_take (c : Cfg) : ∀ (l : List Nat) (m : Nat), countSeps c (l.take m) = min (countSeps c l) m := by
  intro l
  induction l with
  | nil => intro m; simp [countSeps]
  | cons x xs ih =>
    intro m
    cases m with
    | zero => simp [countSeps]
    | succ k =>
      simp only [List.take_succ_cons, countSeps]
      cases hs : c.isSep x with
      | false => simp
      | true => simp only [if_true, ih k]; omega

theorem prevcByte_none (c : Cfg) (l : List Nat) : ∀ j, j ≤ l.length → prevcByte c l j = none →
    ∀ i, i < j → ∀ x, l[i]? = some x → c.isSep x = true := by
  intro j
  induction j with
  | zero => intro _ _ i hi; omega
  | succ k ih =>
    intro hl h i hi x hx
    rw [prevcByte, List.getElem?_eq_getElem (by omega)] at h
    simp only at h
    cases hs : c.isSep l[k] with
    | false => simp [hs] at h
    | true =>
      rw [hs, if_pos rfl] at h
      by_cases hik : i = k
      · subst hik
        rw [List.getElem?_eq_getElem (by omega)] at hx
        cases hx
        exact hs
      · exact ih (by omega) h i (by omega) x hx

theorem prevcByte_eq_getPrev (c : Cfg) (s : List Nat) (a : Nat) (h : ∀ x, getPrev s a = some x → c.isSep x = false) :
    prevcByte c s a = getPrev s a := by
  cases a with
  | zero => rfl
  | succ a0 =>
    simp only [getPrev, Nat.succ_ne_zero, if_false, Nat.add_sub_cancel] at h ⊢
    rw [prevcByte]
    cases hv : s[a0]? with
    | none => rfl
    | some x => simp [h x hv]

/-- `prevc` inside the slice: the one of the whole buffer, or none because everything before (inside the slice) is a
separator — then the buffer's `prevc` is the one seen from the slice start -/
theorem prevc_slice (c : Cfg) (s : List Nat) (a e : Nat) : ∀ j, a + j ≤ e →
    prevcByte c (slice s a e) j = prevcByte c s (a + j) ∨
    (prevcByte c (slice s a e) j = none ∧ prevcByte c s (a + j) = prevcByte c s a) := by
  intro j
  induction j with
  | zero => intro _; right; simp [prevcByte]
  | succ k ih =>
    intro h
    have hk : a + k < e := by omega
    have e1 : a + (k + 1) = (a + k) + 1 := by omega
    rw [e1]
    simp only [prevcByte, slice_get s a e k hk]
    cases hv : s[a + k]? with
    | none => left; rfl
    | some x =>
      simp only
      cases hs : c.isSep x with
      | false => left; simp
      | true =>
        simp only [if_true]
        exact ih (by omega)

theorem nbr_slice_prev (c : Cfg) (s : List Nat) (a e j : Nat) (hj : a + j < e) (he : e ≤ s.length)
    (hprev : (∀ x, getPrev s a = some x → c.isDigit x = false ∧ c.isSep x = false) ∨ 0 < j ∧
      (∀ x, s[a]? = some x → c.isSep x = false)) :
    Weaker c (nbr c (slice s a e) j).prev (nbr c s (a + j)).prev ∧
    Weaker c (nbr c (slice s a e) j).prevc (nbr c s (a + j)).prevc := by
  simp only [nbr]
  refine ⟨?_, ?_⟩
  · cases j with
    | zero =>
      right
      refine ⟨by simp [getPrev], ?_⟩
      rcases hprev with h | ⟨h, _⟩
      · simpa using h
      · omega
    | succ k =>
      left
      have : a + (k + 1) ≠ 0 := by omega
      simp only [getPrev, Nat.succ_ne_zero, if_false, Nat.add_sub_cancel, this]
      rw [slice_get s a e k (by omega)]
      congr 1
  · rcases prevc_slice c s a e j (by omega) with h | ⟨h1, h2⟩
    · exact Or.inl h
    · right
      refine ⟨h1, ?_⟩
      rw [h2]
      rcases hprev with h | ⟨h0, h⟩
      · -- seen from the slice start: the byte before it, which is no separator
        rw [prevcByte_eq_getPrev c s a (fun x hx => (h x hx).2)]
        exact h
      · -- the slice starts with a non-separator: the scan inside the slice finds it
        exfalso
        have hs := prevcByte_none c _ j (by rw [slice_length s a e he]; omega) h1 0 h0 s[a]
          (by rw [slice_get s a e 0 (by omega)]; exact List.getElem?_eq_getElem (by omega))
        rw [h s[a] (List.getElem?_eq_getElem (by omega))] at hs
        cases hs

end LexVerif.Proof.Sep

namespace LexVerif.Proof.C11
open LexVerif LexVerif.Model

/-- predicates whose skip decision can require a digit after the separator -/
def predNeedsDigit : Pred → Bool
  | .i | .il | .ic | .ilc => true
  | _ => false

/-- the iterator of component `k` may ask "is the byte after the separator a (mantissa-radix) digit?" -/
def DigitLook (c : Cfg) (k : Comp) : Prop := ∃ p, c.skip k = .pred p ∧ predNeedsDigit p = true

/-- the skip decision survives when the look-ahead byte (`next` for the non-consecutive predicates, `nextc` for the
consecutive ones) is replaced by end of input — provided that byte was not a digit the predicate asked for -/
theorem holds_weaken (c : Cfg) (p : Pred) (first : Bool) (n1 n2 : Nbr)
    (h : p.holds c n1 first = true) (hp : n2.prev = n1.prev) (hpc : n2.prevc = n1.prevc)
    (hn : p.consecutive = false → n2.next = n1.next ∨
      (n2.next = none ∧ (predNeedsDigit p = true → ∀ x, n1.next = some x → c.isDigit x = false)))
    (hnc : p.consecutive = true → n2.nextc = n1.nextc ∨
      (n2.nextc = none ∧ (predNeedsDigit p = true → ∀ x, n1.nextc = some x → c.isDigit x = false))) :
    p.holds c n2 first = true := by
  obtain ⟨pv1, nx1, pc1, nc1⟩ := n1
  obtain ⟨pv2, nx2, pc2, nc2⟩ := n2
  simp only at hp hpc hn hnc
  subst hp hpc
  -- 14 predicates × 2 positions. Each `holds` is a Boolean combination of "the neighbour is / is not a digit" tests;
  -- with `none` as look-ahead a test "is a digit" fails and a test "is not a digit" succeeds, so only a predicate that
  -- asked for a digit can change — and `hd` says the byte it saw was none
  cases p <;> cases first <;>
    simp only [Pred.consecutive, predNeedsDigit, Bool.false_eq_true, forall_const, false_implies,
      reduceCtorEq, Pred.holds, if_false, if_true] at hn hnc h ⊢
  all_goals (try (rcases hn with rfl | ⟨rfl, hd⟩))
  all_goals (try (rcases hnc with rfl | ⟨rfl, hd⟩))
  all_goals (try exact h)
  all_goals (cases nx1 <;> cases nc1 <;> cases pv2 <;> cases pc2 <;> simp_all)

end LexVerif.Proof.C11

namespace LexVerif.Proof.IterSpec
open LexVerif LexVerif.Model LexVerif.Proof.Sep

variable {c : Cfg} {k : Comp}

/-- A loop never takes a separator: either the iterator never hands one out (I+L+T+C), or the loop's test refuses it. -/
def Clean (c : Cfg) (k : Comp) (p : Nat → Bool) : Prop :=
  c.skip k = .pred .iltc ∨ ∀ x, c.isSep x = true → p x = false

theorem Clean.taken {p : Nat → Bool} (h : Clean c k p) {s : List Nat} {f : Bool} {i x : Nat}
    (hx : s[peekIdx c k s f i]? = some x) (hp : p x = true) : c.isSep x = false := by
  rcases h with hk | hs
  · exact peekIdx_iltc_rest hk s f i x hx
  · cases hc : c.isSep x
    · rfl
    · rw [hs x hc] at hp; cases hp

theorem nonSep_peek (s : List Nat) (f : Bool) (i : Nat) : nonSep c (slice s i (peekIdx c k s f i)) = [] := by
  apply nonSep_of_all_sep
  rw [List.all_eq_true]
  intro x hx
  obtain ⟨t, ht, rfl⟩ := List.getElem_of_mem hx
  simp only [slice, List.length_take, List.length_drop] at ht
  obtain ⟨y, hy, hys⟩ := peekIdx_seps c k s f i (i + t) (by omega) (by omega)
  simp only [slice, List.getElem_take, List.getElem_drop]
  rw [List.getElem?_eq_getElem (by omega)] at hy
  rw [Option.some.inj hy]; exact hys

theorem scan_nonSep (s : List Nat) {p : Nat → Bool} (hc : Clean c k p) :
    ∀ (lim : Nat) (f : Bool) (i : Nat), nonSep c (slice s i (scan c k s p lim f i).2) = (scan c k s p lim f i).1
  | 0, f, i => nonSep_peek s f i
  | lim + 1, f, i => by
    have hge := peekIdx_ge c k s f i
    unfold scan
    split
    · next x hx =>
      split
      · next hp =>
        have hns := hc.taken hx hp
        have h2 := scan_ge (c := c) (k := k) s p lim false (peekIdx c k s f i + 1)
        simp only
        rw [slice_append s i (peekIdx c k s f i) _ hge (by omega),
          slice_append s (peekIdx c k s f i) (peekIdx c k s f i + 1) _ (by omega) h2,
          slice_one _ _ _ hx, nonSep_append, nonSep_append, nonSep_peek, scan_nonSep s hc lim false _]
        simp [nonSep, hns]
      · exact nonSep_peek s f i
    · exact nonSep_peek s f i

/-- Stripping: a loop that did not come to rest on a separator took what the plain loop (`scan_plain`: `takeWhile p`) takes
from the stripped input. -/
theorem scan_strip (s : List Nat) {p : Nat → Bool} (hc : Clean c k p) (lim : Nat) (f : Bool) (i : Nat)
    (hlt : (scan c k s p lim f i).1.length < lim)
    (hrest : ∀ x, s[(scan c k s p lim f i).2]? = some x → c.isSep x = false) :
    (nonSep c (s.drop i)).takeWhile p = (scan c k s p lim f i).1 := by
  have hge := scan_ge (c := c) (k := k) s p lim f i
  have hdd : (s.drop i).drop ((scan c k s p lim f i).2 - i) = s.drop (scan c k s p lim f i).2 := by
    rw [List.drop_drop]; congr 1; omega
  have hsplit : s.drop i = slice s i (scan c k s p lim f i).2 ++ s.drop (scan c k s p lim f i).2 := by
    rw [slice, ← hdd, List.take_append_drop]
  rw [hsplit, nonSep_append, scan_nonSep s hc, List.takeWhile_append_of_pos (scan_all s p lim f i)]
  suffices h : (nonSep c (s.drop (scan c k s p lim f i).2)).takeWhile p = [] by rw [h, List.append_nil]
  cases hx : s[(scan c k s p lim f i).2]? with
  | none => simp [List.drop_eq_nil_of_le (List.getElem?_eq_none_iff.mp hx), nonSep]
  | some x =>
    have := scan_stop s p lim f i hlt x hx
    simp [drop_eq_cons hx, nonSep, hrest x hx, this]

theorem scan_rest_iltc (hk : c.skip k = .pred .iltc) (s : List Nat) (p : Nat → Bool) :
    ∀ (lim : Nat) (f : Bool) (i x : Nat), s[(scan c k s p lim f i).2]? = some x → c.isSep x = false
  | 0, f, i, x => peekIdx_iltc_rest hk s f i x
  | lim + 1, f, i, x => by
    unfold scan
    split
    · split
      · exact scan_rest_iltc hk s p lim false _ x
      · exact peekIdx_iltc_rest hk s f i x
    · exact peekIdx_iltc_rest hk s f i x

theorem getPrev_take (s : List Nat) (n i : Nat) (h : i ≤ n) : getPrev (s.take n) i = getPrev s i := by
  unfold getPrev
  split
  · rfl
  · rw [List.getElem?_take, if_pos (by omega)]

theorem prevcByte_take (c : Cfg) (s : List Nat) (n : Nat) : ∀ i, i ≤ n → prevcByte c (s.take n) i = prevcByte c s i
  | 0, _ => rfl
  | j + 1, hj => by
    simp only [prevcByte]
    rw [List.getElem?_take, if_pos (by omega), prevcByte_take c s n j (by omega)]

theorem nextcByte_eq (c : Cfg) (s : List Nat) (i : Nat) :
    nextcByte c s i = s[i + 1 + countSeps c (s.drop (i + 1))]? := by
  unfold nextcByte
  rw [firstNonSep_eq, List.getElem?_drop]

theorem nextc_take (c : Cfg) (s : List Nat) (i n : Nat)
    (h : i + 1 + countSeps c (s.drop (i + 1)) ≤ n) :
    countSeps c ((s.take n).drop (i + 1)) = countSeps c (s.drop (i + 1)) ∧
    nextcByte c (s.take n) i =
      if i + 1 + countSeps c (s.drop (i + 1)) < n then nextcByte c s i else none := by
  have e : (s.take n).drop (i + 1) = (s.drop (i + 1)).take (n - (i + 1)) := by rw [List.drop_take]
  have hc : countSeps c ((s.drop (i + 1)).take (n - (i + 1))) = countSeps c (s.drop (i + 1)) := by
    rw [countSeps_take]; omega
  refine ⟨by rw [e, hc], ?_⟩
  unfold nextcByte
  rw [firstNonSep_eq, firstNonSep_eq, e, hc, List.getElem?_take]
  by_cases hlt : i + 1 + countSeps c (s.drop (i + 1)) < n
  · rw [if_pos hlt, if_pos (by omega)]
  · rw [if_neg hlt, if_neg (by omega)]

/-- The buffer may be cut at `n` when the cursor rests at `j`: not before `j`; exactly at `j` when it rests on a separator
(a cut further right could make `peek` skip it); behind `j` when it rests on a digit and the predicate looks for digits. -/
def Admits (c : Cfg) (k : Comp) (s : List Nat) (n j : Nat) : Prop :=
  j ≤ n ∧ ∀ x, s[j]? = some x →
    (c.isSep x = true → n = j) ∧ (C11.DigitLook c k → c.isDigit x = true → j < n)

/-- One `peek` on the buffer cut at a point its resting cursor admits. When `peek` skips, the byte it looked ahead at is the
byte it comes to; a cut leaves it in place or, when it falls right there, turns it into end of input, which every
predicate accepts that did not ask for a digit (`C11.holds_weaken`). -/
theorem peekIdx_take (s : List Nat) (n : Nat) (f : Bool) (i : Nat) (h : Admits c k s n (peekIdx c k s f i)) :
    peekIdx c k (s.take n) f i = peekIdx c k s f i := by
  obtain ⟨hn, hx⟩ := h
  cases hk : c.skip k with
  | noskip => simp only [peekIdx, hk]
  | unreachable => simp only [peekIdx, hk]
  | pred p =>
    cases hv : s[i]? with
    | none =>
      have : (s.take n)[i]? = none := by rw [List.getElem?_take]; split <;> simp [hv]
      simp only [peekIdx, hk, hv, this]
    | some v =>
      by_cases hskip : (c.isSep v && p.holds c (nbr c s i) f) = true
      · have hsv : c.isSep v = true := by
          cases h : c.isSep v
          · simp [h] at hskip
          · rfl
        have hh : p.holds c (nbr c s i) f = true := by simpa [hsv] using hskip
        rw [peekIdx_skip hk hv hsv hh] at hn hx ⊢
        have hin : i < n := by split at hn <;> omega
        have hvt : (s.take n)[i]? = some v := by rw [List.getElem?_take, if_pos hin, hv]
        have hh2 : p.holds c (nbr c (s.take n) i) f = true := by
          apply C11.holds_weaken c p f (nbr c s i) _ hh
          · exact getPrev_take _ _ _ (by omega)
          · exact prevcByte_take c _ _ _ (by omega)
          · intro hpc
            simp only [hpc, Bool.false_eq_true, if_false] at hn hx
            simp only [nbr]
            by_cases hlt : i + 1 < n
            · left; rw [List.getElem?_take, if_pos hlt]
            · right
              refine ⟨by rw [List.getElem?_take, if_neg hlt], fun hnd x hx' => ?_⟩
              cases hd : c.isDigit x with
              | false => rfl
              | true => have := (hx x hx').2 ⟨p, hk, hnd⟩ hd; omega
          · intro hpc
            simp only [hpc, if_true] at hn hx
            simp only [nbr]
            obtain ⟨_, e2⟩ := nextc_take c s i n hn
            by_cases hlt : i + 1 + countSeps c (s.drop (i + 1)) < n
            · left; rw [e2, if_pos hlt]
            · right
              refine ⟨by rw [e2, if_neg hlt], fun hnd x hx' => ?_⟩
              rw [nextcByte_eq] at hx'
              cases hd : c.isDigit x with
              | false => rfl
              | true => have := (hx x hx').2 ⟨p, hk, hnd⟩ hd; omega
        rw [peekIdx_skip hk hvt hsv hh2]
        cases hpc : p.consecutive
        · rfl
        · simp only [hpc, if_true] at hn
          simp only [if_true, (nextc_take c s i n hn).1]
      · have e : peekIdx c k s f i = i := by simp [peekIdx, hk, hv, hskip]
        rw [e] at hn hx ⊢
        by_cases hin : i < n
        · have hvt : (s.take n)[i]? = some v := by rw [List.getElem?_take, if_pos hin, hv]
          have hsv : c.isSep v = false := by
            cases hs : c.isSep v
            · rfl
            · have := (hx v hv).1 hs; omega
          exact peekIdx_nonsep c k _ f i fun x hx' => by rw [hvt] at hx'; cases hx'; exact hsv
        · have : (s.take n)[i]? = none := by rw [List.getElem?_take, if_neg hin]
          simp only [peekIdx, hk, this]

/-- a cut behind the first non-separator byte after the cursor cuts off nothing `peek` looks at -/
theorem peekIdx_take_far (s : List Nat) (n : Nat) (f : Bool) (i : Nat) (h : i + countSeps c (s.drop i) < n) :
    peekIdx c k (s.take n) f i = peekIdx c k s f i := by
  cases hk : c.skip k with
  | noskip => simp only [peekIdx, hk]
  | unreachable => simp only [peekIdx, hk]
  | pred p =>
    have hget : (s.take n)[i]? = s[i]? := by rw [List.getElem?_take, if_pos (by omega)]
    cases hv : s[i]? with
    | none => simp only [peekIdx, hk, hget, hv]
    | some v =>
      cases hs : c.isSep v with
      | false =>
        rw [peekIdx_nonsep c k _ f _ (fun x hx => by rw [hget, hv] at hx; cases hx; exact hs),
          peekIdx_nonsep c k _ f _ (fun x hx => by rw [hv] at hx; cases hx; exact hs)]
      | true =>
        rw [drop_eq_cons hv] at h
        simp only [countSeps, hs, if_true] at h
        obtain ⟨e1, e2⟩ := nextc_take c s i n (by omega)
        have hn : nbr c (s.take n) i = nbr c s i := by
          simp only [nbr]
          rw [getPrev_take _ _ _ (by omega), List.getElem?_take, if_pos (by omega), prevcByte_take c _ _ _ (by omega), e2,
            if_pos (by omega)]
        unfold peekIdx
        simp only [hk, hget, hv, hn, e1]

theorem scan_take (s : List Nat) {p : Nat → Bool} (hc : Clean c k p) (n lim : Nat) (f : Bool) (i : Nat)
    (hi : i ≤ s.length) (h : Admits c k s n (scan c k s p lim f i).2) :
    scan c k (s.take n) p lim f i = scan c k s p lim f i :=
  scan_truncAt s p n (Admits c k s n) (fun _ h => h.1) (fun f i _ h => peekIdx_take s n f i h)
    (fun f i x hj hx hp => ⟨Nat.le_of_lt hj, fun y hy => by
      rw [hx] at hy; cases hy
      exact ⟨fun hs => (by rw [hc.taken hx hp] at hs; cases hs), fun _ _ => hj⟩⟩) lim f i hi h

/-- One `peek` behind a cut at the front, given what is in front of the cut: nothing, or a byte that is neither digit nor
separator; or the cut is in front of a non-separator. `prev`/`prevc` seen from behind the cut are `Weaker`
(`nbr_slice_prev`), so a separator that was skipped is skipped again (`holds_weaker`; not conversely, hence `hskip`). I+T+C
needs the repair `Fix.itc` or a component that has counted a digit (then it skips unconditionally). -/
theorem peekIdx_drop (pr : Pred) (hk : c.skip k = .pred pr) (s : List Nat) (a : Nat)
    (hprev : (∀ x, getPrev s a = some x → c.isDigit x = false ∧ c.isSep x = false) ∨
      (∀ x, s[a]? = some x → c.isSep x = false))
    (f : Bool) (i : Nat) (hai : a ≤ i)
    (hskip : ∀ x, s[i]? = some x → c.isSep x = true →
      i < peekIdx c k s f i ∧ (pr ≠ .itc ∨ Fix.itc = true ∨ f = false)) :
    peekIdx c k (s.drop a) f (i - a) = peekIdx c k s f i - a := by
  have hab : a + (i - a) = i := by omega
  have hget : (s.drop a)[i - a]? = s[i]? := by rw [List.getElem?_drop, hab]
  cases hv : s[i]? with
  | none => simp only [peekIdx, hk, hget, hv]
  | some v =>
    cases hs : c.isSep v with
    | false =>
      rw [peekIdx_nonsep c k _ f _ (fun x hx => by rw [hget, hv] at hx; cases hx; exact hs),
        peekIdx_nonsep c k _ f _ (fun x hx => by rw [hv] at hx; cases hx; exact hs)]
    | true =>
      obtain ⟨hsk, hp⟩ := hskip v hv hs
      have hlt : i < s.length := (List.getElem?_eq_some_iff.mp hv).1
      have hh : pr.holds c (nbr c s i) f = true := by
        cases h : pr.holds c (nbr c s i) f
        · simp [peekIdx, hk, hv, hs, h] at hsk
        · rfl
      have hdd : (s.drop a).drop (i - a + 1) = s.drop (i + 1) := by rw [List.drop_drop]; congr 1; omega
      have hh' : pr.holds c (nbr c (s.drop a) (i - a)) f = true := by
        by_cases hitc : pr = .itc ∧ f = false
        · rw [hitc.1, hitc.2]; rfl
        · have hwp := nbr_slice_prev c s a s.length (i - a) (by omega) (Nat.le_refl _)
            (hprev.imp id fun h2 => ⟨by
              by_cases h0 : i = a
              · subst h0; have := h2 _ hv; rw [hs] at this; cases this
              · omega, h2⟩)
          rw [hab, show slice s a s.length = s.drop a by rw [slice, List.take_of_length_le (by simp)]] at hwp
          refine holds_weaker c pr ?_ f (nbr c s i) _ hwp.1 (.inl ?_) hwp.2 (.inl ?_) hh
          · rcases hp with h | h | h
            · exact .inl h
            · exact .inr h
            · exact .inl fun h' => hitc ⟨h', h⟩
          · simp only [nbr]; rw [List.getElem?_drop]; congr 1; omega
          · simp only [nbr, nextcByte, hdd]
      rw [peekIdx_skip hk hv hs hh, peekIdx_skip hk (hget.trans hv) hs hh', hdd]
      split <;> omega

/-- A loop that takes no separator and does not come to rest on one does behind a cut at the front what it did on the
buffer. (A separator `peek` refused to skip would have stopped it.) For I+T+C without the repair `Fix.itc`: from a state that
has counted a digit, or from a non-separator — then no skip is decided before the first digit is counted. -/
theorem scan_drop (pr : Pred) (hk : c.skip k = .pred pr) (s : List Nat) (a : Nat)
    (hprev : (∀ x, getPrev s a = some x → c.isDigit x = false ∧ c.isSep x = false) ∨
      (∀ x, s[a]? = some x → c.isSep x = false))
    {p : Nat → Bool} (hc : Clean c k p) :
    ∀ (lim : Nat) (f : Bool) (i : Nat), a ≤ i →
      (∀ x, s[(scan c k s p lim f i).2]? = some x → c.isSep x = false) →
      (pr ≠ .itc ∨ Fix.itc = true ∨ f = false ∨ ∀ x, s[i]? = some x → c.isSep x = false) →
      scan c k (s.drop a) p lim f (i - a) = ((scan c k s p lim f i).1, (scan c k s p lim f i).2 - a) := by
  have hitc : ∀ (f : Bool) (i x : Nat), s[i]? = some x → c.isSep x = true →
      (pr ≠ .itc ∨ Fix.itc = true ∨ f = false ∨ ∀ x, s[i]? = some x → c.isSep x = false) →
      pr ≠ .itc ∨ Fix.itc = true ∨ f = false := by
    intro f i x hx hs hp
    rcases hp with h1 | h1 | h1 | h1
    · exact .inl h1
    · exact .inr (.inl h1)
    · exact .inr (.inr h1)
    · rw [h1 x hx] at hs; cases hs
  intro lim
  induction lim with
  | zero =>
    intro f i hai hr hp
    simp only [scan] at hr ⊢
    rw [peekIdx_drop pr hk s a hprev f i hai fun x hx hs => ⟨?_, hitc f i x hx hs hp⟩]
    rcases Nat.lt_or_ge i (peekIdx c k s f i) with h | h
    · exact h
    · have e : peekIdx c k s f i = i := Nat.le_antisymm h (peekIdx_ge ..)
      rw [e] at hr; rw [hr x hx] at hs; cases hs
  | succ lim ih =>
    intro f i hai hr hp
    have hge := peekIdx_ge c k s f i
    have hsk : ∀ x, s[i]? = some x → c.isSep x = true →
        i < peekIdx c k s f i ∧ (pr ≠ .itc ∨ Fix.itc = true ∨ f = false) := by
      intro x hx hs
      refine ⟨?_, hitc f i x hx hs hp⟩
      rcases hc with hk' | hsep
      · exact peekIdx_iltc_skips hk' s f i x hx hs
      · rcases Nat.lt_or_ge i (peekIdx c k s f i) with h | h
        · exact h
        · -- `peek` stayed on the separator, which the loop's test refuses: the loop rests on it
          have e : peekIdx c k s f i = i := Nat.le_antisymm h hge
          unfold scan at hr
          simp only [e, hx, hsep x hs, Bool.false_eq_true, if_false] at hr
          rw [hr x rfl] at hs; cases hs
    unfold scan at hr ⊢
    rw [peekIdx_drop pr hk s a hprev f i hai hsk, List.getElem?_drop,
      show a + (peekIdx c k s f i - a) = peekIdx c k s f i by omega]
    cases hx : s[peekIdx c k s f i]? with
    | none => rfl
    | some x =>
      simp only [hx] at hr ⊢
      cases hpx : p x
      · rfl
      · simp only [hpx, if_true] at hr ⊢
        rw [show peekIdx c k s f i - a + 1 = peekIdx c k s f i + 1 - a by omega,
          ih false (peekIdx c k s f i + 1) (by omega) hr (.inr (.inr (.inl rfl)))]

theorem slice_take_drop (s : List Nat) (a e : Nat) : slice s a e = (s.take e).drop a := by
  rw [slice, List.drop_take]

/-- A loop that ran from inside the region `s[a..e)` to its end, in front of a byte that is no digit (it may be a separator
`peek` refused to skip), takes on the stored slice the same bytes to the slice's end: the cut at `e` is admitted (`scan_take`),
and on the cut buffer the loop rests at the end, so not on a separator (`scan_drop`). -/
theorem scan_region (pr : Pred) (hk : c.skip k = .pred pr)
    (s : List Nat) (a e : Nat) (he : e ≤ s.length)
    (hprev : (∀ x, getPrev s a = some x → c.isDigit x = false ∧ c.isSep x = false) ∨
      (∀ x, s[a]? = some x → c.isSep x = false))
    (hnext : ∀ x, s[e]? = some x → c.isDigit x = false)
    {p : Nat → Bool} (hc : Clean c k p)
    (lim : Nat) (f : Bool) (i : Nat) (hai : a ≤ i) (h : (scan c k s p lim f i).2 = e)
    (hp : pr ≠ .itc ∨ Fix.itc = true ∨ f = false ∨ ∀ x, s[i]? = some x → c.isSep x = false) :
    scan c k (slice s a e) p lim f (i - a) = ((scan c k s p lim f i).1, e - a) := by
  have hie : i ≤ e := h ▸ scan_ge s p lim f i
  have ht := scan_take s hc e lim f i (by omega) (by
    rw [h]; exact ⟨Nat.le_refl _, fun x hx => ⟨fun _ => rfl, fun _ hd => by rw [hnext x hx] at hd; cases hd⟩⟩)
  have hget : ∀ j, j < e → (s.take e)[j]? = s[j]? := fun j hj => by rw [List.getElem?_take, if_pos hj]
  rw [slice_take_drop, scan_drop pr hk (s.take e) a ?_ hc lim f i hai ?_ ?_, ht, h]
  · refine hprev.imp (fun h1 x hx => h1 x ?_) fun h1 x hx => h1 x ?_
    · rwa [getPrev_take s e a (by omega)] at hx
    · by_cases hae : a < e
      · rwa [hget _ hae] at hx
      · rw [List.getElem?_take, if_neg hae] at hx; cases hx
  · rw [ht, h, List.getElem?_take, if_neg (Nat.lt_irrefl _)]
    intro x hx; cases hx
  · refine hp.imp id (Or.imp id (Or.imp id fun h1 x hx => h1 x ?_))
    by_cases hlt : i < e
    · rwa [hget _ hlt] at hx
    · rw [List.getElem?_take, if_neg hlt] at hx; cases hx

end LexVerif.Proof.IterSpec
