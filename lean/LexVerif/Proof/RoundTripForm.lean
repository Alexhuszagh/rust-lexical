import LexVerif.Proof.RoundTripShape
/-!
# Proof.RoundTripForm — what the shapes of the decimal writer contain (C08)

For each layout: the integer part is non-empty and free of superfluous leading zeros, a fraction part (if present)
is non-empty, every digit is decimal, and the digits are `zeros ++ rounded digits ++ zeros` with the exponent
accounting for the padding and the carry (`DigitsForm`).
-/
namespace LexVerif.Proof.RoundTrip
open LexVerif.Spec LexVerif.Model LexVerif.Model.WriteFloat LexVerif.Proof.WriteFloatBuf

/-- the literal `ints . frac e exp` consists of the digits `R` (between zeros) at scientific exponent `sci` -/
def DigitsForm (ints frac : List Nat) (exp : Int) (R : List Nat) (sci : Int) : Prop :=
  ∃ lz z : Nat, ints ++ frac = List.replicate lz 0 ++ R ++ List.replicate z 0 ∧
    exp - (frac.length : Int) + (z : Int) + (R.length : Int) = sci + 1

structure ShapeDigits (s : Shape) (R : List Nat) (sci : Int) : Prop where
  below : s.Below 10
  full : s.Full
  noLZ : leadingZeros s.ints = false
  form : DigitsForm s.ints (s.frac.getD []) (s.exp.getD 0) R sci

theorem Placed.form {s : Shape} {lz : Nat} {R : List Nat} {P sci : Int} (h : Placed s lz R P)
    (he : P + s.exp.getD 0 + (R.length : Int) = sci + 1) : DigitsForm s.ints (s.frac.getD []) (s.exp.getD 0) R sci := by
  obtain ⟨z, h1, h2⟩ := h
  exact ⟨lz, z, h1, by omega⟩

/-- digit range, non-emptiness and place come from `Proof.Layouts`; what is left per layout is the exponent -/
theorem ShapeDigits.of_placed {s : Shape} {lz : Nat} {R : List Nat} {P sci : Int} (hb : s.Below 10) (hf : s.Full)
    (hlz : leadingZeros s.ints = false) (h : Placed s lz R P) (he : P + s.exp.getD 0 + (R.length : Int) = sci + 1) :
    ShapeDigits s R sci :=
  ⟨hb, hf, hlz, h.form he⟩

theorem truncateAndRound_head_zero (ds : List Nat) (o : WOpts) (h : DigitsOk ds) (hmx : o.maxDigits ≠ some 0)
    (h0 : (truncateAndRound ds o).1.head? = some 0) : ds = [0] := by
  rcases truncateAndRound_cases ds o with ⟨_, e⟩ | ⟨mx, hm, hlen, e⟩
  · rw [e] at h0; exact h.head h0
  · have h1 : 1 ≤ mx := Nat.pos_of_ne_zero (fun hz => hmx (by rw [hm, hz]))
    have hT := take_head_ne ds mx h h1 hlen
    rcases e with e | e <;> rw [e] at h0
    · exact absurd rfl (hT 0 h0)
    · exact absurd rfl (roundUp_head_ne 10 _ hT 0 h0)

theorem sciShape_digits (noEWF : Bool) (ds : List Nat) (sci : Int) (o : WOpts)
    (hR : DigitsOk (roundSci ds o).1) :
    ShapeDigits (sciShape noEWF ds sci o) (roundSci ds o).1
      (sci + (if (roundSci ds o).2 then 1 else 0)) := by
  unfold sciShape
  exact .of_placed (sciOf_below (by omega) _ hR.lt _ _) (sciOf_full _ hR.ne _ _) (by simp [sciOf, leadingZeros])
    (sciOf_placed _ hR.ne _ _) (by simp [sciOf]; omega)

theorem negShape_digits (ds : List Nat) (sci : Int) (o : WOpts) (hneg : sci < 0)
    (hR : DigitsOk (truncateAndRound ds o).1) :
    ShapeDigits (negShape ds sci o) (truncateAndRound ds o).1
      (sci + (if (truncateAndRound ds o).2 then 1 else 0)) := by
  have hcarry := truncateAndRound_carry ds o
  unfold negShape
  split
  · rename_i c
    -- a carry out of `0.9…`: the digits are `[1]`
    rw [hcarry c.1, c.1]
    refine .of_placed (posOf_below (by omega) _ _ (by simp) _) (posOf_full (by omega) _ _ _)
      (posOf_noLZ (by omega) _ (by simp) (by simp) _) (posOf_placed _ _ _ _) ?_
    rw [posOf_exp, Option.getD_none]; simp; omega
  · rename_i c
    refine .of_placed (negOf_below (by omega) _ hR.lt _) (negOf_full _ hR.ne _) (by simp [negOf, leadingZeros])
      (negOf_placed _ _ _) ?_
    simp only [negOf, Option.getD_none]
    by_cases hc : (truncateAndRound ds o).2 = true
    · -- after a carry there are at least two places, or the first case applied
      have : 2 ≤ sci.natAbs := by
        rcases Nat.lt_or_ge sci.natAbs 2 with h | h
        · exact absurd ⟨hc, by omega⟩ c
        · exact h
      simp only [hc, if_true]; omega
    · simp only [hc, if_false, Bool.false_eq_true]; omega

theorem posShape_digits (ds : List Nat) (sci : Int) (o : WOpts) (hpos : 0 ≤ sci)
    (hR : DigitsOk (roundPos ds sci o).1)
    (hzero : (roundPos ds sci o).1.head? = some 0 → sci = 0 ∧ (roundPos ds sci o).2 = false) :
    ShapeDigits (posShape ds sci o) (roundPos ds sci o).1
      (sci + (if (roundPos ds sci o).2 then 1 else 0)) := by
  unfold posShape
  refine .of_placed (posOf_below (by omega) _ _ hR.lt _) (posOf_full (by omega) _ _ _)
    (posOf_noLZ (by omega) _ hR.ne ?_ _) (posOf_placed _ _ _ _) ?_
  · intro h0
    obtain ⟨hs, hc⟩ := hzero h0
    exact ⟨hR.head h0, by rw [hc]; simp [hs]⟩
  · rw [posOf_exp, Option.getD_none]; split <;> push_cast <;> omega

/-- input domain of the digit generators: canonical digits; zero is `([0], 0)` -/
structure WriterInput (ds : List Nat) (sci : Int) : Prop where
  ok : DigitsOk ds
  zero : ds = [0] → sci = 0

theorem trimPos_ok (o : WOpts) (l : Nat) (ds : List Nat) (h : DigitsOk ds) (hl : 1 ≤ l) : DigitsOk (trimPos o l ds) := by
  unfold trimPos
  split
  · rename_i hc
    cases ds with
    | nil => exact absurd rfl h.ne
    | cons d t =>
      obtain ⟨k, rfl⟩ : ∃ k, l = k + 1 := ⟨l - 1, by omega⟩
      refine ⟨by simp, fun x hx => h.lt x (List.mem_of_mem_take hx), fun h0 => ?_⟩
      simp only [List.take_succ_cons, List.head?_cons, Option.some.injEq] at h0
      have := h.head (by simp [h0])
      simp only [List.cons.injEq] at this
      simp [h0, this.2]
  · exact h

theorem trimSci_ok (o : WOpts) (ds : List Nat) (h : DigitsOk ds) : DigitsOk (trimSci o ds) :=
  trimSci_eq_trimPos o ds ▸ trimPos_ok o 1 ds h (Nat.le_refl _)

theorem trimPos_head (o : WOpts) (l : Nat) (ds : List Nat) (hl : 1 ≤ l) : (trimPos o l ds).head? = ds.head? := by
  unfold trimPos
  split
  · obtain ⟨k, rfl⟩ : ∃ k, l = k + 1 := ⟨l - 1, by omega⟩
    cases ds <;> simp
  · rfl

theorem shapeN_digits (fmt : Format) (ds : List Nat) (sci : Int) (o : WOpts) (hin : WriterInput ds sci)
    (hmx : o.maxDigits ≠ some 0) :
    ShapeDigits (shapeN fmt ds sci o) (keptN fmt ds sci o)
      (sci + (if (truncateAndRound ds o).2 then 1 else 0)) := by
  have hR := truncateAndRound_ok ds o hin.ok hmx
  unfold shapeN keptN
  simp only []
  split
  · exact sciShape_digits _ ds sci o (trimSci_ok o _ hR)
  · split
    · rename_i hneg; exact negShape_digits ds sci o hneg hR
    · rename_i hpos
      have hl : 1 ≤ sci.toNat + 1 + (if (truncateAndRound ds o).2 = true then 1 else 0) := by omega
      refine posShape_digits ds sci o (by omega) (trimPos_ok o _ _ hR hl) ?_
      intro h0
      have h0' : (truncateAndRound ds o).1.head? = some 0 := by
        rw [← trimPos_head o _ _ hl]; exact h0
      have hds := truncateAndRound_head_zero ds o hin.ok hmx h0'
      subst hds
      show sci = 0 ∧ (truncateAndRound [0] o).2 = false
      rw [truncateAndRound_zero o hmx]
      exact ⟨hin.zero rfl, rfl⟩

theorem shapeC_digits (fmt : Format) (ds : List Nat) (sci : Int) (o : WOpts) (hin : WriterInput ds sci)
    (hmx : o.maxDigits ≠ some 0) :
    ShapeDigits (shapeC fmt ds sci o) (keptC fmt ds sci o)
      (sci + (if (truncateAndRound ds o).2 then 1 else 0)) := by
  have hR := truncateAndRound_ok ds o hin.ok hmx
  have hin' : WriterInput (truncateAndRound ds o).1 (sci + (if (truncateAndRound ds o).2 then 1 else 0)) := by
    refine ⟨hR, ?_⟩
    intro h0
    have hds := truncateAndRound_head_zero ds o hin.ok hmx (by rw [h0]; rfl)
    subst hds
    rw [truncateAndRound_zero o hmx]
    simp [hin.zero rfl]
  have h := shapeN_digits fmt (truncateAndRound ds o).1 (sci + (if (truncateAndRound ds o).2 then 1 else 0))
    { o with maxDigits := none } hin' (by simp)
  rw [truncateAndRound_none (truncateAndRound ds o).1 { o with maxDigits := none } rfl] at h
  simpa [shapeC, keptC] using h

theorem shapeOf_digits (fmt : Format) (feats : Features) (ds : List Nat) (sci : Int) (o : WOpts)
    (hin : WriterInput ds sci) (hmx : o.maxDigits ≠ some 0) :
    ShapeDigits (shapeOf fmt feats ds sci o) (keptOf fmt feats ds sci o)
      (sci + (if (truncateAndRound ds o).2 then 1 else 0)) := by
  unfold shapeOf keptOf
  split
  · exact shapeC_digits _ ds sci o hin hmx
  · exact shapeN_digits _ ds sci o hin hmx

structure ShapeFlags (fmt : Format) (s : Shape) : Prop where
  noExp : fmt.noExponentNotation = true → s.exp = none
  reqExp : fmt.requiredExponentNotation = true → fmt.noExponentNotation = false → s.exp ≠ none
  expFrac : fmt.noExponentWithoutFraction = true → s.exp ≠ none → s.frac ≠ none

theorem sciShape_frac (ds : List Nat) (sci : Int) (o : WOpts) : (sciShape true ds sci o).frac ≠ none := by
  unfold sciShape sciOf
  simp only [not_true_eq_false, false_and, if_false]
  split
  · simp
  · split <;> simp

theorem shapeN_flags (fmt : Format) (ds : List Nat) (sci : Int) (o : WOpts) : ShapeFlags fmt (shapeN fmt ds sci o) := by
  unfold shapeN
  simp only []
  refine ⟨?_, ?_, ?_⟩
  · intro h
    simp only [h, not_true_eq_false, false_and, if_false]
    split
    · exact negShape_exp ds sci o
    · exact posShape_exp ds sci o
  · intro h1 h2
    simp only [h1, h2, true_or, and_true, Bool.false_eq_true, not_false_eq_true, if_true]
    simp [sciShape, sciOf]
  · intro h1 h2
    split
    · rw [h1]; exact sciShape_frac ds sci o
    · rename_i c
      simp only [c, if_false] at h2
      split at h2
      · exact absurd (negShape_exp ds sci o) h2
      · exact absurd (posShape_exp ds sci o) h2

theorem shapeOf_flags (fmt : Format) (feats : Features) (ds : List Nat) (sci : Int) (o : WOpts) :
    ShapeFlags (effFmt feats fmt) (shapeOf fmt feats ds sci o) := by
  unfold shapeOf
  split
  · exact shapeN_flags _ _ _ _
  · exact shapeN_flags _ _ _ _

end LexVerif.Proof.RoundTrip
