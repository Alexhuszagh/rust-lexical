import LexVerif.Proof.WriteIntBasic
/-!
# Proof.WriteIntJeaiiiArith — the 32.32 fixed-point digit extraction of `jeaiii.rs`

`write_digits!` multiplies `n` by about `2^(32+s) / 100^k` and shifts by `s`. The high word of the result `q` is
then the leading one or two digits of `n`, the low word is the fraction `(n % 100^k) / 100^k`, and each `next2`
multiplies the fraction by 100 and takes the integer part as the next pair. Everything an arm needs from its
multiplier is the one condition `q * 100^k / 2^32 = n`.
-/
namespace LexVerif.Model.WriteInt
open LexVerif.Spec

/-- `$n * 2` does not wrap in any integer type when `n` is a pair of digits -/
theorem dbl_no_wrap (x w : Nat) (hx : x < 100) (hw : 8 ≤ w) : x * 2 % 2 ^ w = 2 * x := by
  have h256 : (2 : Nat) ^ 8 ≤ 2 ^ w := Nat.pow_le_pow_right (by omega) hw
  rw [Nat.mod_eq_of_lt (by omega), Nat.mul_comm]

/-- if the fixed-point number `q / 2^32`, scaled by `T`, has integer part `n`, then its own integer part is `n / T`
and its fraction, scaled by `T`, has integer part `n % T` -/
theorem fixed_split (q T n : Nat) (hT : 0 < T) (h : q * T / 2 ^ 32 = n) :
    q / 2 ^ 32 = n / T ∧ q % 2 ^ 32 * T / 2 ^ 32 = n % T := by
  have hfrac : q % 2 ^ 32 * T / 2 ^ 32 < T :=
    Nat.div_lt_of_lt_mul (Nat.mul_lt_mul_of_pos_right (Nat.mod_lt q (by omega)) hT)
  have e : q * T / 2 ^ 32 = q / 2 ^ 32 * T + q % 2 ^ 32 * T / 2 ^ 32 := by
    conv => lhs; rw [← Nat.div_add_mod q (2 ^ 32)]
    rw [Nat.add_mul, Nat.mul_assoc, Nat.mul_add_div (by omega)]
  obtain ⟨hdiv, hmod⟩ := div_mod_of_eq n T _ _ (by rw [← h, e]) hfrac
  exact ⟨hdiv.symm, hmod.symm⟩

/-- The multiplier `M` exceeds `B * S / T` by `ε / T`. For `lo ≤ n < hi` the excess `n * ε` makes up for what the
shift by `S` drops (`h1`) and stays below a whole unit (`h2`), so `n * M / S`, read as a fixed-point number with `B`
steps to the unit and scaled by `T`, has integer part `n`; `hW` says that the product fits the word. -/
theorem fixed_quot (n M S T B ε lo hi W : Nat) (hS : 0 < S) (hB : 0 < B) (hM : M * T = B * S + ε)
    (hlo : lo ≤ n) (hhi : n < hi) (h1 : S * T ≤ lo * ε + T) (h2 : (hi - 1) * ε < B * S) (hW : (hi - 1) * M < W) :
    n % W * M % W / S * T / B = n := by
  have hMpos : 0 < M := Nat.pos_of_ne_zero fun h => by
    rw [h, Nat.zero_mul] at hM
    have := Nat.mul_pos hB hS
    omega
  have hnM : n * M < W := Nat.lt_of_le_of_lt (Nat.mul_le_mul_right M (by omega : n ≤ hi - 1)) hW
  have hn : n < W := Nat.lt_of_le_of_lt (Nat.le_mul_of_pos_right n hMpos) hnM
  rw [Nat.mod_eq_of_lt hn, Nat.mod_eq_of_lt hnM]
  generalize hq : n * M / S = q
  have hq1 : q * S ≤ n * M := by rw [← hq]; exact Nat.div_mul_le_self _ _
  have hq2 : n * M + 1 ≤ q * S + S := by rw [← hq]; exact Nat.lt_div_mul_add hS
  have e : n * M * T = n * B * S + n * ε := by rw [Nat.mul_assoc, hM, Nat.mul_add, Nat.mul_assoc]
  have g1 : q * S * T ≤ n * M * T := Nat.mul_le_mul_right T hq1
  have g2 : n * M * T + T ≤ q * S * T + S * T := by
    have := Nat.mul_le_mul_right T hq2
    rwa [Nat.add_mul, Nat.add_mul, Nat.one_mul] at this
  have l1 : lo * ε ≤ n * ε := Nat.mul_le_mul_right ε hlo
  have l2 : n * ε ≤ (hi - 1) * ε := Nat.mul_le_mul_right ε (by omega)
  have e2 : (n + 1) * B * S = n * B * S + B * S := by rw [Nat.succ_mul, Nat.add_mul]
  rw [Nat.mul_right_comm q S T] at g1 g2
  apply Nat.div_eq_of_lt_le
  · exact Nat.le_of_mul_le_mul_right (by omega) hS
  · exact Nat.lt_of_mul_lt_mul_right (a := S) (by omega)

end LexVerif.Model.WriteInt
