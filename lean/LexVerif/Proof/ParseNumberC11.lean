import LexVerif.Proof.IterBasic
/-!
# Proof.ParseNumberC11 — `is_partial` only selects an error kind

`parse_number::<FORMAT, IS_PARTIAL>` uses `IS_PARTIAL` only to choose between `EmptyMantissa` and
`InvalidDigit`; hence the partial and the complete entry point differ only in (1) the `count == length`
test of `parse_complete_number` / `parse_special` and (2) which fall-back runs after a *successful*
`parse_number` on a proper prefix (none in the partial parser, the special parser in the complete one).
-/
namespace LexVerif.Proof.C11
open LexVerif LexVerif.Model LexVerif.Spec
open LexVerif.Props.C12 (Bytes.Valid peek_spec)

deriving instance DecidableEq for Except

def SameModErr {α : Type} : Except Err α → Except Err α → Prop
  | .ok a, .ok b => a = b
  | .error (.err _ _), .error (.err _ _) => True
  | .error (.panic s), .error (.panic t) => s = t
  | .error (.fault s), .error (.fault t) => s = t
  | _, _ => False

theorem SameModErr.refl {α : Type} (x : Except Err α) : SameModErr x x := by
  cases x with
  | ok a => simp [SameModErr]
  | error e => cases e <;> simp [SameModErr]

theorem parseNumber_partial_rel (c : Cfg) (o : POpts) (b : Bytes) (neg fv : Bool) :
    SameModErr (parseNumber c true o b neg fv) (parseNumber c false o b neg fv) := by
  unfold parseNumber
  simp only [bind, Except.bind]
  split
  · exact SameModErr.refl _
  split
  · exact SameModErr.refl _
  cases integerPhase c b with
  | error e => exact SameModErr.refl _
  | ok ip =>
    simp only
    cases fractionPhase c o ip.byte ip.mantissa with
    | error e => exact SameModErr.refl _
    | ok fp =>
      simp only
      split
      · cases peek c .integer ip.start with
        | error e => exact SameModErr.refl _
        | ok r =>
          simp only
          split <;> split <;> simp [SameModErr]
      · exact SameModErr.refl _

theorem parseNumber_ok_iff (c : Cfg) (o : POpts) (b : Bytes) (neg fv : Bool) (r : Number × Nat) :
    parseNumber c true o b neg fv = .ok r ↔ parseNumber c false o b neg fv = .ok r := by
  have h := parseNumber_partial_rel c o b neg fv
  cases h1 : parseNumber c true o b neg fv with
  | ok a =>
    cases h2 : parseNumber c false o b neg fv with
    | ok a2 => rw [h1, h2] at h; simp only [SameModErr] at h; subst h; exact Iff.rfl
    | error e => rw [h1, h2] at h; simp [SameModErr] at h
  | error e =>
    cases h2 : parseNumber c false o b neg fv with
    | ok a2 => rw [h1, h2] at h; cases e <;> simp [SameModErr] at h
    | error e2 => simp

theorem parseNumber_err_iff (c : Cfg) (o : POpts) (b : Bytes) (neg fv : Bool) :
    (∃ k i, parseNumber c true o b neg fv = .error (.err k i)) ↔
      (∃ k i, parseNumber c false o b neg fv = .error (.err k i)) := by
  have h := parseNumber_partial_rel c o b neg fv
  cases h1 : parseNumber c true o b neg fv with
  | ok a =>
    cases h2 : parseNumber c false o b neg fv with
    | ok a2 => simp
    | error e => rw [h1, h2] at h; simp [SameModErr] at h
  | error e =>
    cases h2 : parseNumber c false o b neg fv with
    | ok a2 => rw [h1, h2] at h; cases e <;> simp [SameModErr] at h
    | error e2 => rw [h1, h2] at h; cases e <;> cases e2 <;> simp [SameModErr] at h ⊢

theorem parseNumber_panic_iff (c : Cfg) (o : POpts) (b : Bytes) (neg fv : Bool) (e : Err)
    (he : ∀ k i, e ≠ .err k i) :
    parseNumber c true o b neg fv = .error e ↔ parseNumber c false o b neg fv = .error e := by
  have h := parseNumber_partial_rel c o b neg fv
  cases h1 : parseNumber c true o b neg fv with
  | ok a =>
    cases h2 : parseNumber c false o b neg fv with
    | ok a2 => simp
    | error e => rw [h1, h2] at h; simp [SameModErr] at h
  | error e1 =>
    cases h2 : parseNumber c false o b neg fv with
    | ok a2 => rw [h1, h2] at h; cases e1 <;> simp [SameModErr] at h
    | error e2 =>
      rw [h1, h2] at h
      cases e1 <;> cases e2 <;> simp [SameModErr] at h ⊢ <;> try (subst h; exact Iff.rfl)
      · constructor <;> intro hh <;> exact absurd hh.symm (he _ _)

theorem stepBy_ok (c : Cfg) (contig : Bool) (n : Nat) (b b' : Bytes) (h : b.stepBy c contig n = .ok b') :
    b' = { b with index := b.index + n } := by
  unfold Bytes.stepBy at h
  repeat (split at h; · cases h)
  cases h; rfl

theorem stepUnchecked_ok (c : Cfg) (contig : Bool) (b b' : Bytes) (h : b.stepUnchecked c contig = .ok b') :
    b' = { b with index := b.index + 1 } := by
  unfold Bytes.stepUnchecked at h
  split at h
  · cases h
  · exact stepBy_ok c contig 1 b b' h

theorem first_some_lt (b : Bytes) (v : Nat) (h : b.first = some v) : b.index < b.slc.length := by
  unfold Bytes.first at h
  rcases List.getElem?_eq_some_iff.mp h with ⟨hl, _⟩; exact hl

theorem parseSign_ok (c : Cfg) (np rq : Bool) (ip ms : String) (b b' : Bytes) (neg : Bool) (hv : Bytes.Valid b)
    (h : parseSign c np rq ip ms b = .ok (neg, b')) :
    b'.slc = b.slc ∧ Bytes.Valid b' ∧ b.index ≤ b'.index := by
  unfold Bytes.Valid at *
  unfold parseSign at h
  split at h
  · next hf =>
    have := first_some_lt b _ hf
    split at h
    · simp only [Bytes.step, bind, Except.bind, pure, Except.pure] at h
      cases hs : b.stepUnchecked c c.bytesContiguous with
      | error e => simp [hs] at h
      | ok b1 =>
        have := stepUnchecked_ok c _ b b1 hs
        simp only [hs, Except.ok.injEq, Prod.mk.injEq] at h
        obtain ⟨_, rfl⟩ := h
        subst this; simp; omega
    · cases h
  · next hf =>
    have := first_some_lt b _ hf
    simp only [Bytes.step, bind, Except.bind, pure, Except.pure] at h
    cases hs : b.stepUnchecked c c.bytesContiguous with
    | error e => simp [hs] at h
    | ok b1 =>
      have := stepUnchecked_ok c _ b b1 hs
      simp only [hs, Except.ok.injEq, Prod.mk.injEq] at h
      obtain ⟨_, rfl⟩ := h
      subst this; simp; omega
  · split at h
    · cases h
    · simp only [pure, Except.pure, Except.ok.injEq, Prod.mk.injEq] at h
      obtain ⟨_, rfl⟩ := h
      exact ⟨rfl, hv, Nat.le_refl _⟩

theorem isConsumed_ok (c : Cfg) (k : Comp) (b b' : Bytes) (r : Bool) (hv : Bytes.Valid b)
    (h : isConsumed c k b = .ok (r, b')) :
    b'.slc = b.slc ∧ Bytes.Valid b' ∧ b.index ≤ b'.index ∧ (r = true ↔ b'.index = b'.slc.length) := by
  unfold isConsumed at h
  split at h
  · simp only [Except.ok.injEq, Prod.mk.injEq] at h
    obtain ⟨rfl, rfl⟩ := h
    refine ⟨rfl, hv, Nat.le_refl _, ?_⟩
    unfold Bytes.Valid at hv
    simp only [Bytes.isBufferEmpty, decide_eq_true_eq]
    omega
  · simp only [bind, Except.bind, pure, Except.pure] at h
    cases hp : peek c k b with
    | error e => simp [hp] at h
    | ok p =>
      obtain ⟨v, b1⟩ := p
      simp only [hp, Except.ok.injEq, Prod.mk.injEq] at h
      obtain ⟨rfl, rfl⟩ := h
      have hs := peek_spec c k b b1 v hv hp
      refine ⟨hs.1, hs.2.2.2.2.2.1, hs.2.2.2.2.1, ?_⟩
      have hv1 : b1.index ≤ b1.slc.length := hs.2.2.2.2.2.1
      rw [hs.2.2.2.2.2.2]
      cases hg : b1.slc[b1.index]? with
      | none =>
        have := List.getElem?_eq_none_iff.mp hg
        simp; omega
      | some x =>
        rcases List.getElem?_eq_some_iff.mp hg with ⟨hl, _⟩
        simp; omega

/-- the front end shared by `parse_complete` and `parse_partial` -/
def afterSign (c : Cfg) (input : List Nat) : Except Err (Bool × Bool × Bytes) := do
  let (neg, byte) ← parseMantissaSign c (Bytes.new input)
  let (consumed, byte) ← isConsumed c .integer byte
  pure (neg, consumed, byte)

theorem afterSign_ok (c : Cfg) (input : List Nat) (neg consumed : Bool) (b : Bytes)
    (h : afterSign c input = .ok (neg, consumed, b)) :
    b.slc = input ∧ Bytes.Valid b ∧ (consumed = true ↔ b.index = input.length) := by
  unfold afterSign at h
  simp only [bind, Except.bind, pure, Except.pure] at h
  cases hs : parseMantissaSign c (Bytes.new input) with
  | error e => simp [hs] at h
  | ok r =>
    obtain ⟨n0, b0⟩ := r
    simp only [hs] at h
    cases hc : isConsumed c .integer b0 with
    | error e => simp [hc] at h
    | ok r =>
      obtain ⟨c1, b1⟩ := r
      simp only [hc, Except.ok.injEq, Prod.mk.injEq] at h
      obtain ⟨rfl, rfl, rfl⟩ := h
      have hv0 : Bytes.Valid (Bytes.new input) := by simp [Bytes.Valid, Bytes.new]
      have h1 := parseSign_ok c _ _ _ _ _ _ _ hv0 hs
      have h2 := isConsumed_ok c .integer b0 b1 c1 h1.2.1 hc
      have hslc : b1.slc = input := by rw [h2.1, h1.1]; rfl
      refine ⟨hslc, h2.2.1, ?_⟩
      rw [h2.2.2.2, hslc]

/-- what the two entry points do after the front end -/
def tail (c : Cfg) (o : POpts) (isPartial : Bool) (input : List Nat) (fv : Bool) (neg : Bool) (byte : Bytes) :
    Except Err Parsed :=
  if isPartial then
    match parseNumber c true o byte neg fv with
    | .ok (n, count) => pure (.number n count)
    | .error (.err k i) =>
      match parsePositiveSpecial c o byte with
      | .ok (some (s, count)) => pure (.special s neg count)
      | .ok none => .error (.err k i)
      | .error e => .error e
    | .error e => .error e
  else
    match parseCompleteNumber c o byte neg fv with
    | .ok n => pure (.number n input.length)
    | .error (.err k i) =>
      match parseSpecialComplete c o byte with
      | .ok (some s) => pure (.special s neg input.length)
      | .ok none => .error (.err k i)
      | .error e => .error e
    | .error e => .error e

theorem parseFloatSyntax_eq (c : Cfg) (o : POpts) (isPartial : Bool) (input : List Nat) (fv : Bool) :
    parseFloatSyntax c o isPartial input fv =
      match afterSign c input with
      | .error e => .error e
      | .ok (neg, consumed, byte) =>
        if consumed then
          (if c.requiredIntegerDigits || c.requiredMantissaDigits then .error (.err "Empty" byte.index)
           else .ok (.zero byte.index))
        else tail c o isPartial input fv neg byte := by
  unfold parseFloatSyntax afterSign tail
  simp only [bind, Except.bind, pure, Except.pure]
  cases parseMantissaSign c (Bytes.new input) with
  | error e => rfl
  | ok r =>
    obtain ⟨n0, b0⟩ := r
    simp only
    cases isConsumed c .integer b0 with
    | error e => rfl
    | ok r =>
      obtain ⟨c1, b1⟩ := r
      simp only
      cases c1
      · simp only [Bool.false_eq_true, if_false]
        cases isPartial
        · simp only [Bool.false_eq_true, if_false]
          cases parseCompleteNumber c o b1 n0 fv with
          | ok n => rfl
          | error e =>
            cases e with
            | err k i =>
              simp only
              cases parseSpecialComplete c o b1 with
              | error e => rfl
              | ok r => cases r <;> rfl
            | panic t => rfl
            | fault t => rfl
        · simp only [if_true]
          cases parseNumber c true o b1 n0 fv with
          | ok n => rfl
          | error e =>
            cases e with
            | err k i =>
              simp only
              cases parsePositiveSpecial c o b1 with
              | error e => rfl
              | ok r =>
                cases r with
                | none => rfl
                | some p => rfl
            | panic t => rfl
            | fault t => rfl
      · simp only [if_true]

theorem parseFloatSyntax_ok (c : Cfg) (o : POpts) (isPartial : Bool) (s : List Nat) (fv : Bool) (q : Parsed)
    (h : parseFloatSyntax c o isPartial s fv = .ok q) :
    ∃ neg consumed b, afterSign c s = .ok (neg, consumed, b) ∧
      ((consumed = true ∧ (c.requiredIntegerDigits || c.requiredMantissaDigits) = false ∧ q = .zero b.index) ∨
       (consumed = false ∧ tail c o isPartial s fv neg b = .ok q)) := by
  rw [parseFloatSyntax_eq] at h
  cases ha : afterSign c s with
  | error e => rw [ha] at h; cases h
  | ok r =>
    obtain ⟨neg, consumed, b⟩ := r
    rw [ha] at h
    refine ⟨neg, consumed, b, rfl, ?_⟩
    cases consumed with
    | false => exact Or.inr ⟨rfl, by simpa using h⟩
    | true =>
      simp only [if_true] at h
      split at h
      · cases h
      · next hz => exact Or.inl ⟨rfl, by simpa using hz, by cases h; rfl⟩

def pcount : Parsed → Nat
  | .zero n => n
  | .number _ n => n
  | .special _ _ n => n

theorem parseCompleteNumber_eq (c : Cfg) (o : POpts) (b : Bytes) (neg fv : Bool) :
    parseCompleteNumber c o b neg fv =
      match parseNumber c false o b neg fv with
      | .ok (n, count) => if count = b.slc.length then .ok n else .error (.err "InvalidDigit" count)
      | .error e => .error e := by
  unfold parseCompleteNumber
  simp only [bind, Except.bind, pure, Except.pure, Bytes.bufferLength]
  cases parseNumber c false o b neg fv with
  | error e => rfl
  | ok r => rfl

theorem parseSpecialComplete_eq (c : Cfg) (o : POpts) (b : Bytes) :
    parseSpecialComplete c o b =
      match parsePositiveSpecial c o b with
      | .ok (some (s, n)) => if n = b.slc.length then .ok (some s) else .ok none
      | .ok none => .ok none
      | .error e => .error e := by
  unfold parseSpecialComplete
  simp only [bind, Except.bind, pure, Except.pure, Bytes.bufferLength]
  cases parsePositiveSpecial c o b with
  | error e => rfl
  | ok r =>
    cases r with
    | none => rfl
    | some p => rfl

theorem tail_complete_of_partial (c : Cfg) (o : POpts) (s : List Nat) (fv neg : Bool) (b : Bytes) (q : Parsed)
    (hslc : b.slc = s) (h : tail c o true s fv neg b = .ok q) (hc : pcount q = s.length) :
    tail c o false s fv neg b = .ok q := by
  unfold tail at h ⊢
  simp only [if_true] at h
  simp only [Bool.false_eq_true, if_false]
  rw [parseCompleteNumber_eq, parseSpecialComplete_eq]
  cases h1 : parseNumber c true o b neg fv with
  | ok r =>
    obtain ⟨n, count⟩ := r
    rw [h1] at h
    simp only [pure, Except.pure, Except.ok.injEq] at h
    subst h
    simp only [pcount] at hc
    rw [(parseNumber_ok_iff c o b neg fv (n, count)).mp h1]
    simp [hslc, hc, pure, Except.pure]
  | error e =>
    rw [h1] at h
    cases e with
    | err k i =>
      obtain ⟨k2, i2, h2⟩ := (parseNumber_err_iff c o b neg fv).mp ⟨k, i, h1⟩
      rw [h2]
      simp only at h ⊢
      cases h3 : parsePositiveSpecial c o b with
      | error e => rw [h3] at h; cases h
      | ok r =>
        rw [h3] at h
        cases r with
        | none => cases h
        | some p =>
          obtain ⟨sp, count⟩ := p
          simp only [pure, Except.pure, Except.ok.injEq] at h
          subst h
          simp only [pcount] at hc
          simp [hslc, hc, pure, Except.pure]
    | panic t => cases h
    | fault t => cases h

/-- the only way the two parsers can disagree on an accepted complete input: `parse_number` succeeds on a proper
prefix (so the partial parser returns that number) while the special parser matches the whole buffer -/
def ShadowAt (c : Cfg) (o : POpts) (s : List Nat) (fv neg : Bool) (b : Bytes) : Prop :=
  ∃ n count sp, parseNumber c true o b neg fv = .ok (n, count) ∧ count ≠ s.length ∧
    parseSpecialComplete c o b = .ok (some sp)

theorem tail_partial_of_complete (c : Cfg) (o : POpts) (s : List Nat) (fv neg : Bool) (b : Bytes) (p : Parsed)
    (hslc : b.slc = s) (hns : ¬ ShadowAt c o s fv neg b) (h : tail c o false s fv neg b = .ok p) :
    tail c o true s fv neg b = .ok p ∧ pcount p = s.length := by
  unfold tail at h ⊢
  simp only [Bool.false_eq_true, if_false] at h
  simp only [if_true]
  rw [parseCompleteNumber_eq] at h
  cases h1 : parseNumber c false o b neg fv with
  | ok r =>
    obtain ⟨n, count⟩ := r
    have h1t := (parseNumber_ok_iff c o b neg fv (n, count)).mpr h1
    rw [h1] at h
    simp only at h
    by_cases hcnt : count = b.slc.length
    · simp only [hcnt, if_true, pure, Except.pure, Except.ok.injEq] at h
      subst h
      rw [h1t]
      simp [pure, Except.pure, pcount, hcnt, hslc]
    · -- the number stops short of the end, so the complete parser's result is a special value: `ShadowAt`
      exfalso
      simp only [hcnt, if_false] at h
      cases h3 : parseSpecialComplete c o b with
      | error e => rw [h3] at h; cases h
      | ok r =>
        cases r with
        | none => rw [h3] at h; cases h
        | some sp => exact hns ⟨n, count, sp, h1t, by rw [← hslc]; exact hcnt, h3⟩
  | error e =>
    rw [h1] at h
    cases e with
    | err k i =>
      obtain ⟨k2, i2, h2⟩ := (parseNumber_err_iff c o b neg fv).mpr ⟨k, i, h1⟩
      rw [h2]
      simp only at h ⊢
      rw [parseSpecialComplete_eq] at h
      cases h3 : parsePositiveSpecial c o b with
      | error e => rw [h3] at h; cases h
      | ok r =>
        rw [h3] at h
        cases r with
        | none => cases h
        | some pr =>
          obtain ⟨sp, count⟩ := pr
          simp only at h
          by_cases hcnt : count = b.slc.length
          · simp only [hcnt, if_true, pure, Except.pure, Except.ok.injEq] at h
            subst h
            simp [pure, Except.pure, pcount, hcnt, hslc]
          · simp only [hcnt, if_false] at h
            cases h
    | panic t => cases h
    | fault t => cases h

theorem tail_shadow (c : Cfg) (o : POpts) (s : List Nat) (fv neg : Bool) (b : Bytes)
    (hslc : b.slc = s) (hs : ShadowAt c o s fv neg b) :
    ∃ sp n count, tail c o false s fv neg b = .ok (.special sp neg s.length) ∧
      tail c o true s fv neg b = .ok (.number n count) ∧ count ≠ s.length := by
  obtain ⟨n, count, sp, h1, h2, h3⟩ := hs
  refine ⟨sp, n, count, ?_, ?_, h2⟩
  · unfold tail
    simp only [Bool.false_eq_true, if_false]
    rw [parseCompleteNumber_eq, (parseNumber_ok_iff c o b neg fv (n, count)).mp h1, h3]
    simp [hslc, h2, pure, Except.pure]
  · unfold tail
    simp [h1, pure, Except.pure]

theorem tail_partial_number {c : Cfg} (o : POpts) (s : List Nat) (fv neg : Bool) (b : Bytes) (x : Number) (cnt : Nat)
    (h : tail c o true s fv neg b = .ok (.number x cnt)) : parseNumber c true o b neg fv = .ok (x, cnt) := by
  unfold tail at h
  simp only [if_true] at h
  cases h1 : parseNumber c true o b neg fv with
  | ok r => rw [h1] at h; cases h; rfl
  | error e =>
    rw [h1] at h
    cases e with
    | err k i =>
      simp only at h
      cases h3 : parsePositiveSpecial c o b with
      | error e => rw [h3] at h; cases h
      | ok r => cases r <;> rw [h3] at h <;> cases h
    | panic t => cases h
    | fault t => cases h

theorem tail_complete_number (c : Cfg) (o : POpts) (s : List Nat) (fv neg : Bool) (b : Bytes) (n : Number) (m : Nat)
    (hslc : b.slc = s) (h : tail c o false s fv neg b = .ok (.number n m)) :
    parseNumber c false o b neg fv = .ok (n, s.length) ∧ m = s.length := by
  unfold tail at h
  simp only [Bool.false_eq_true, if_false] at h
  rw [parseCompleteNumber_eq] at h
  cases h1 : parseNumber c false o b neg fv with
  | ok r =>
    obtain ⟨n1, count⟩ := r
    rw [h1] at h
    simp only at h
    by_cases hcnt : count = b.slc.length
    · simp only [hcnt, if_true, pure, Except.pure, Except.ok.injEq, Parsed.number.injEq] at h
      obtain ⟨rfl, rfl⟩ := h
      rw [hcnt, hslc]; exact ⟨rfl, rfl⟩
    · simp only [hcnt, if_false] at h
      cases h3 : parseSpecialComplete c o b with
      | error e => rw [h3] at h; cases h
      | ok r => cases r <;> rw [h3] at h <;> cases h
  | error e =>
    rw [h1] at h
    cases e with
    | err k i =>
      simp only at h
      cases h3 : parseSpecialComplete c o b with
      | error e => rw [h3] at h; cases h
      | ok r => cases r <;> rw [h3] at h <;> cases h
    | panic t => cases h
    | fault t => cases h

def NoShadow (c : Cfg) (o : POpts) (s : List Nat) (fv : Bool := true) : Prop :=
  ∀ neg b, afterSign c s = .ok (neg, false, b) → ¬ ShadowAt c o s fv neg b

end LexVerif.Proof.C11
