import Mathlib.Tactic.Ring
import LexVerif.Model.WriteInt
/-!
# Proof.Div128 — `mulhi::<u128,u64>` is the high word of the product; the Granlund–Montgomery identity;
`moderate_u128_divrem` / `fast_u128_divrem` compute quotient and remainder
-/
namespace LexVerif.Model.WriteInt
open LexVerif.Spec

theorem mulhi_core (A B C D : Nat) :
    (A * 2 ^ 128 + (B + C) * 2 ^ 64 + D) / 2 ^ 128
      = A + (C + D / 2 ^ 64) / 2 ^ 64 + (B + (C + D / 2 ^ 64) % 2 ^ 64) / 2 ^ 64 := by
  omega

theorem mul_lt_sq (a b : Nat) (ha : a < 2 ^ 64) (hb : b < 2 ^ 64) : a * b < 2 ^ 128 - 2 ^ 65 + 2 :=
  Nat.lt_succ_of_le (Nat.mul_le_mul (Nat.le_pred_of_lt ha) (Nat.le_pred_of_lt hb))

/-- `mulhi::<u128, u64>(x, y) = ⌊x·y / 2^128⌋`: with the four partial products `A B C D` of the 64-bit halves the
function computes the right side of `mulhi_core`, no intermediate sum wrapping since each product is at most
`(2^64-1)²` -/
theorem mulhi128_spec (x y : Nat) (hx : x < 2 ^ 128) (hy : y < 2 ^ 128) : mulhi128 x y = x * y / 2 ^ 128 := by
  have hq : x * y / 2 ^ 128 < 2 ^ 128 := Nat.div_lt_of_lt_mul (Nat.mul_lt_mul'' hx hy)
  have ex := (Nat.div_add_mod x (2 ^ 64)).symm
  have ey := (Nat.div_add_mod y (2 ^ 64)).symm
  have bx1 : x / 2 ^ 64 < 2 ^ 64 := Nat.div_lt_of_lt_mul hx
  have by1 : y / 2 ^ 64 < 2 ^ 64 := Nat.div_lt_of_lt_mul hy
  have bx0 : x % 2 ^ 64 < 2 ^ 64 := Nat.mod_lt _ (Nat.two_pow_pos 64)
  have by0 : y % 2 ^ 64 < 2 ^ 64 := Nat.mod_lt _ (Nat.two_pow_pos 64)
  unfold mulhi128 w128
  simp only []
  generalize x / 2 ^ 64 = x1 at *
  generalize x % 2 ^ 64 = x0 at *
  generalize y / 2 ^ 64 = y1 at *
  generalize y % 2 ^ 64 = y0 at *
  have hprod : x * y = (x1 * y1) * 2 ^ 128 + (x1 * y0 + x0 * y1) * 2 ^ 64 + x0 * y0 := by
    rw [ex, ey]; ring
  rw [hprod, mulhi_core] at hq
  rw [hprod, mulhi_core]
  have hA := mul_lt_sq x1 y1 bx1 by1
  have hB := mul_lt_sq x1 y0 bx1 by0
  have hC := mul_lt_sq x0 y1 bx0 by1
  have hD := mul_lt_sq x0 y0 bx0 by0
  clear hprod ex ey hx hy
  generalize x1 * y1 = A at *
  generalize x1 * y0 = B at *
  generalize x0 * y1 = C at *
  generalize x0 * y0 = D at *
  -- strip the reductions mod `2^128` from the inside out
  have hD' : D < 2 ^ 128 := by omega
  have he : D / 2 ^ 64 < 2 ^ 64 := Nat.div_lt_of_lt_mul hD'
  rw [Nat.mod_eq_of_lt (by omega : A < 2 ^ 128), Nat.mod_eq_of_lt (by omega : B < 2 ^ 128),
    Nat.mod_eq_of_lt (by omega : C < 2 ^ 128), Nat.mod_eq_of_lt hD']
  generalize D / 2 ^ 64 = e at *
  have hm : C + e < 2 ^ 128 := by omega
  have hm1 : (C + e) / 2 ^ 64 < 2 ^ 64 := Nat.div_lt_of_lt_mul hm
  have hm0 : (C + e) % 2 ^ 64 < 2 ^ 64 := Nat.mod_lt _ (Nat.two_pow_pos 64)
  rw [Nat.mod_eq_of_lt hm]
  generalize (C + e) / 2 ^ 64 = m1 at *
  generalize (C + e) % 2 ^ 64 = m0 at *
  rw [Nat.mod_eq_of_lt (by omega : A + m1 < 2 ^ 128), Nat.mod_eq_of_lt (by omega : B + m0 < 2 ^ 128)]
  exact Nat.mod_eq_of_lt hq

/-- Granlund–Montgomery -/
theorem mulhi_identity (N d m l n : Nat) (hd : 0 < d) (hlo : 2 ^ (N + l) ≤ m * d) (hhi : m * d ≤ 2 ^ (N + l) + 2 ^ l)
    (hn : n < 2 ^ N) : n * m / 2 ^ N / 2 ^ l = n / d := by
  rw [Nat.div_div_eq_div_mul, ← Nat.pow_add]
  obtain ⟨q, hq⟩ : ∃ q, q = n / d := ⟨_, rfl⟩
  rw [← hq]
  have hqd : q * d ≤ n := by rw [hq]; exact Nat.div_mul_le_self n d
  have hqd2 : n < (q + 1) * d := by
    rw [hq, Nat.mul_comm]; exact Nat.lt_mul_div_succ n hd
  have hP : 2 ^ (N + l) = 2 ^ N * 2 ^ l := Nat.pow_add 2 N l
  have hE : 0 < 2 ^ l := Nat.pow_pos (by omega)
  generalize 2 ^ (N + l) = P at *
  generalize 2 ^ l = E at *
  generalize 2 ^ N = T at *
  apply Nat.div_eq_of_lt_le
  · have h1 : q * P ≤ q * (m * d) := Nat.mul_le_mul_left q hlo
    have h2 : q * (m * d) = (q * d) * m := by ring
    have h3 : (q * d) * m ≤ n * m := Nat.mul_le_mul_right m hqd
    omega
  · -- multiply by `d` and cancel
    apply Nat.lt_of_mul_lt_mul_right (a := d)
    have h1 : n * m * d = n * (m * d) := by ring
    have h2 : n * (m * d) ≤ n * (P + E) := Nat.mul_le_mul_left n hhi
    have h3 : n * E < T * E := Nat.mul_lt_mul_of_pos_right hn hE
    have h4 : (n + 1) * P ≤ ((q + 1) * d) * P := Nat.mul_le_mul_right P (by omega)
    have h5 : (q + 1) * P * d = ((q + 1) * d) * P := by ring
    have h6 : n * (P + E) = n * P + n * E := by ring
    have h7 : (n + 1) * P = n * P + P := by ring
    omega

theorem remOf_spec (n d : Nat) (hd : 0 < d) (hd64 : d < 2 ^ 64) : remOf n (n / d) d = n % d := by
  have h1 : n / d * d ≤ n := Nat.div_mul_le_self n d
  have h2 : n / d * d + n % d = n := by rw [Nat.mul_comm]; exact Nat.div_add_mod n d
  have h3 : n % d < d := Nat.mod_lt n hd
  unfold remOf w128
  generalize n / d * d = p at *
  omega

def MulHiPre128 (d m l : Nat) : Prop := 0 < d ∧ m < 2 ^ 128 ∧ 2 ^ (128 + l) ≤ m * d ∧ m * d ≤ 2 ^ (128 + l) + 2 ^ l

instance (d m l : Nat) : Decidable (MulHiPre128 d m l) := by unfold MulHiPre128; infer_instance

/-- the quotient of `moderate_u128_divrem` and of the general branch of `fast_u128_divrem` -/
theorem mulhi_quot (n d f s : Nat) (hn : n < 2 ^ 128) (hpre : MulHiPre128 d f s) : mulhi128 n f / 2 ^ s = n / d := by
  obtain ⟨hd, hf, hlo, hhi⟩ := hpre
  rw [mulhi128_spec n f hn hf, mulhi_identity 128 d f s n hd hlo hhi hn]

theorem moderate_spec (n d f s : Nat) (hn : n < 2 ^ 128) (hd64 : d < 2 ^ 64) (hs : s < 128) (hpre : MulHiPre128 d f s) :
    moderateU128Divrem n d f s = .ok (n / d, n % d) := by
  unfold moderateU128Divrem
  rw [if_neg (by omega), mulhi_quot n d f s hn hpre]
  show Res.ok (n / d, remOf n (n / d) d) = _
  rw [remOf_spec n d hpre.1 hd64]

theorem fast_spec (n d fast fs f s : Nat) (hn : n < 2 ^ 128) (hd64 : d < 2 ^ 64) (hs : s < 128) (hfs : fs < 128)
    (hfast : fast = 2 ^ (64 + fs)) (hdiv : d % 2 ^ fs = 0) (hpos : 0 < d / 2 ^ fs) (hpre : MulHiPre128 d f s) :
    fastU128Divrem n d fast fs f s = .ok (n / d, n % d) := by
  unfold fastU128Divrem
  rw [if_neg (by omega)]
  by_cases hlt : n < fast
  · rw [if_pos hlt, if_neg (by omega)]
    have h64 : n / 2 ^ fs < 2 ^ 64 := by
      rw [hfast, Nat.pow_add] at hlt
      exact Nat.div_lt_of_lt_mul (by rw [Nat.mul_comm]; exact hlt)
    have hq : n / 2 ^ fs % 2 ^ 64 / (d / 2 ^ fs) = n / d := by
      rw [Nat.mod_eq_of_lt h64, Nat.div_div_eq_div_mul, Nat.mul_div_cancel' (Nat.dvd_of_mod_eq_zero hdiv)]
    show Res.ok (n / 2 ^ fs % 2 ^ 64 / (d / 2 ^ fs), remOf n (n / 2 ^ fs % 2 ^ 64 / (d / 2 ^ fs)) d) = _
    rw [hq, remOf_spec n d hpre.1 hd64]
  · rw [if_neg hlt, mulhi_quot n d f s hn hpre]
    show Res.ok (n / d, remOf n (n / d) d) = _
    rw [remOf_spec n d hpre.1 hd64]

theorem pow2_spec (n mask shr : Nat) (hs : shr ≤ 64) (hm : mask = 2 ^ shr - 1) :
    pow2U128Divrem n mask shr = .ok (n / 2 ^ shr, n % 2 ^ shr) := by
  unfold pow2U128Divrem
  rw [if_neg (by omega), hm]
  have : Nat.land (2 ^ shr - 1) (n % 2 ^ 64) = n % 2 ^ shr := by
    show (2 ^ shr - 1) &&& (n % 2 ^ 64) = _
    rw [Nat.and_comm, Nat.and_two_pow_sub_one_eq_mod, Nat.mod_mod_of_dvd _ (Nat.pow_dvd_pow 2 hs)]
  rw [this]

theorem div128Rem1e10_spec (n : Nat) (hn : n < 2 ^ 128) :
    div128Rem1e10 n = .ok (n / 10000000000, n % 10000000000) := by
  unfold div128Rem1e10
  exact fast_spec n Lit.e10D Lit.e10Fast Lit.e10FastShr Lit.e10Factor Lit.e10FactorShr hn (by decide) (by decide)
    (by decide) (by decide) (by decide) (by decide) (by decide)

end LexVerif.Model.WriteInt
