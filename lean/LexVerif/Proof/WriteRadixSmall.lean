import LexVerif.Proof.WriteRadixMid
import Mathlib.Tactic.Ring
/-!
# Proof.WriteRadixSmall — the ulp clause for floats `0 ≤ x < 1` (leading zeros)

The float is its own fraction; `round(fraction · base)` has a RELATIVE error `≤ 2^-p` (exact for subnormal results), so
after `N` digits the accumulated error is `≤ (N+1)` spacings of the input; `delta` grows by a factor `≥ 3·(1 − 2^-p)` per
step, which bounds `N` by `log₃ 2^(L+1)` (679 / 95 digits).
-/
namespace LexVerif.Proof.WriteRadixSmall
open LexVerif.Spec LexVerif.Proof.RoundNE LexVerif.Proof.WriteRadixF LexVerif.Proof.WriteRadixTerm
open LexVerif.Proof.WriteRadixError LexVerif.Proof.WriteRadixFrac LexVerif.Proof.WriteRadixMid
open LexVerif.Proof.WriteRadixSpacing LexVerif.Model.WriteRadix

/-- **the ulp clause for `0 ≤ x < 1`**: at most `2·(Ns + 4)` patterns (1364 for binary64, 196 for binary32): at most
`Ns + 1` digits, whose roundings are at most `N + 1` spacings (`traceErr_rel`); `delta` ends below 2 spacings. -/
theorem error_small {f : Fmt} {Ns Z : Nat} (m : RadixFmt f Ns Z) {r : Nat} (hr3 : 3 ≤ r) (hr36 : r ≤ 36)
    (hpo : PredOne f r) {v : Nat} (hv : v < one f) {g : Gen} (hg : generate true f r v = .ok g) :
    ulpDist (roundNE f (ofDigits r ((g.ints ++ g.fracs).map byteDigit)) (r ^ g.fracs.length)) v ≤ 2 * (Ns + 4) := by
  have h := m.fok
  obtain ⟨hrp, hT36⟩ := m.radix_lt hr36
  have hivU : RoundNE.ival f v < unit f := (lt_one_iff h).mp hv
  have hv2 : v < (f.bias + f.p) * 2 ^ (f.p - 1) := by
    rw [one_eq h] at hv
    exact Nat.lt_of_lt_of_le hv (Nat.mul_le_mul_right _ (Nat.le_add_right _ _))
  have hvfin := m.succ_finite hv2
  have hx : fsub f v (ffloor f v) = v :=
    ival_inj f (by rw [fsub_ffloor_exact h.wf (by omega), Nat.mod_eq_of_lt hivU])
  obtain ⟨hd1, hdK, _⟩ := deltaOf_ival h hvfin
  have hKlt := ival_lt_spacing f v
  obtain ⟨N, _, hNf, hdlt, _, _, _, _, k⟩ := generate_dist h hT36 (by have := m.fuel; omega)
    (by omega) hr36 hpo hv2 hg
  rw [hx] at k
  generalize spacing f v = K at *
  obtain ⟨hNN, hN2, hNT⟩ := m.rounds (Nat.le_add_right_of_le hNf)
  have hdle : ∀ i, i < N → deltaIter f r i (deltaOf f v) ≤ one f := fun i hi => Nat.le_of_lt (hdlt i hi)
  -- number of digits: `delta · r^(N-1)`, up to `N - 1` roundings, is still below 1
  have hNNs : N ≤ Ns + 1 := by
    apply Nat.le_of_not_lt; intro hlt
    have hA := ((deltaIter_close h hrp (deltaOf f v) (N - 1) (fun i hi => hdle i (by omega))).le_two_mul
      (by omega) (by omega)).2
    have hdPU := (lt_one_iff h).mp (hdlt (N - 1) (by omega))
    have hpow : r ^ (N - 1) < 2 ^ (L f + 1) := by
      have : r ^ (N - 1) ≤ RoundNE.ival f (deltaOf f v) * r ^ (N - 1) := Nat.le_mul_of_pos_left _ hd1
      rw [Nat.pow_succ, ← unit_eq]; omega
    have h5 : 3 ^ (Ns + 1) ≤ r ^ (N - 1) :=
      Nat.le_trans (Nat.pow_le_pow_left hr3 _) (Nat.pow_le_pow_right (by omega) (by omega))
    have := m.hNs
    omega
  have hE := traceErr_rel h hr36 hrp (Nat.le_of_lt hv) hKlt hNN hNT (by omega : 0 < r)
  have hdNb : RoundNE.ival f (deltaIter f r N (deltaOf f v)) ≤ 2 * (K * r ^ N) :=
    Nat.le_trans ((deltaIter_close h hrp (deltaOf f v) N hdle).le_two_mul (by omega) hN2).1
      (Nat.mul_le_mul_left 2 (Nat.mul_le_mul_right _ hdK))
  have hle : (N + 1 + 2) * (K * r ^ N) ≤ (Ns + 4) * (K * r ^ N) := Nat.mul_le_mul_right _ (by omega)
  rw [Nat.add_mul (N + 1) 2] at hle
  have hs := m.small
  have ht := m.tbig
  rw [show halfSize = 1100 from rfl] at hs ht
  exact k (Ns + 4) (by omega) (by omega)

end LexVerif.Proof.WriteRadixSmall
