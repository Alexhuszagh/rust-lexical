import LexVerif.Proof.RoundNECore
/-!
# Proof.RoundNECell — integer value of a bit pattern, rounding cells, and the order of `roundNE` (Mathlib-free)

`ival`: the value of a pattern in units of the least subnormal, strictly monotone. `InCell`: the value lies between the
midpoints to the neighbouring patterns; `roundNE x = r` iff `x` is in the cell of `r` (`roundNE_eq_iff`), and the pattern
`encode f k (rhe N (D·2^k))` has `N/D` in its cell for every valid `k` (`inCell_encode`). Every order fact goes through `le_roundNE_iff`:
`b ≤ roundNE x` iff `x` is above the midpoint below `b`, or at it with `b` even; its two ends are the underflow threshold
`roundNE_eq_zero_iff` and the overflow threshold `roundNE_eq_inf_iff`; next to a significand `q` of exponent field `k` it reads
`encode_le_roundNE`, `encode_succ_le_roundNE`, `roundNE_le_encode`.
-/
namespace LexVerif.Proof.RoundNE
open LexVerif.Spec

/-- value of the (non-negative) bit pattern `b` in units of `2^-L` (`= 2^eminLsb`). Also defined
(by the same formula) for `b ≥ infBits`, where it is the value the pattern *would* have if the exponent
range were unbounded; this makes `ival` strictly monotone on all of `Nat`. -/
def ival (f : Fmt) (b : Nat) : Nat :=
  if b / 2 ^ (f.p - 1) = 0 then b % 2 ^ (f.p - 1)
  else (b % 2 ^ (f.p - 1) + 2 ^ (f.p - 1)) * 2 ^ (b / 2 ^ (f.p - 1) - 1)

theorem ival_kq (f : Fmt) (k q : Nat) (h1 : 0 < k → 2 ^ (f.p - 1) ≤ q) (h2 : q ≤ 2 * 2 ^ (f.p - 1)) :
    ival f (k * 2 ^ (f.p - 1) + q) = q * 2 ^ k := by
  unfold ival
  generalize hT : 2 ^ (f.p - 1) = T at *
  have hTpos : 0 < T := by rw [← hT]; exact Nat.two_pow_pos _
  by_cases hlt : q < T
  · have hk0 : k = 0 := by
      apply Classical.byContradiction; intro hk; have := h1 (by omega); omega
    subst hk0
    simp [Nat.div_eq_of_lt hlt, Nat.mod_eq_of_lt hlt]
  · by_cases hq : q = 2 * T
    · subst hq
      have e : k * T + 2 * T = (k + 2) * T := by rw [Nat.add_mul]
      rw [e, Nat.mul_div_cancel _ hTpos, Nat.mul_mod_left, if_neg (by omega)]
      rw [show k + 2 - 1 = k + 1 by omega, Nat.pow_succ, Nat.zero_add]; ac_rfl
    · obtain ⟨m, hm⟩ : ∃ m, q = T + m := ⟨q - T, by omega⟩
      subst hm
      have e : k * T + (T + m) = m + T * (k + 1) := by rw [Nat.mul_add, Nat.mul_comm]; omega
      have hm : m < T := by omega
      rw [e, Nat.add_mul_div_left _ _ hTpos, Nat.add_mul_mod_self_left, Nat.div_eq_of_lt hm,
        Nat.mod_eq_of_lt hm, if_neg (by omega)]
      rw [show 0 + (k + 1) - 1 = k by omega, Nat.add_comm]

theorem decomp (f : Fmt) (b : Nat) : ∃ k q, b = k * 2 ^ (f.p - 1) + q ∧
    (0 < k → 2 ^ (f.p - 1) ≤ q) ∧ q < 2 * 2 ^ (f.p - 1) := by
  generalize hT : 2 ^ (f.p - 1) = T
  have hTpos : 0 < T := by rw [← hT]; exact Nat.two_pow_pos _
  have h1 := Nat.div_add_mod b T
  have h2 := Nat.mod_lt b hTpos
  generalize b / T = d at h1
  generalize b % T = m at h1 h2
  by_cases h0 : d = 0
  · refine ⟨0, m, ?_, by omega, by omega⟩
    rw [h0] at h1; omega
  · obtain ⟨j, hj⟩ : ∃ j, d = j + 1 := ⟨d - 1, by omega⟩
    refine ⟨j, m + T, ?_, by omega, by omega⟩
    rw [hj, Nat.mul_succ, Nat.mul_comm] at h1
    omega

theorem ival_kq_succ (f : Fmt) (k q : Nat) (h1 : 0 < k → 2 ^ (f.p - 1) ≤ q) (h2 : q < 2 * 2 ^ (f.p - 1)) :
    ival f (k * 2 ^ (f.p - 1) + q + 1) = (q + 1) * 2 ^ k := by
  rw [Nat.add_assoc]
  exact ival_kq f k (q + 1) (fun hk => Nat.le_succ_of_le (h1 hk)) h2

theorem ival_kq_succ_top (f : Fmt) (k : Nat) :
    ival f (k * 2 ^ (f.p - 1) + 2 * 2 ^ (f.p - 1) + 1) = (2 * 2 ^ (f.p - 1) + 2) * 2 ^ k := by
  have hT := Nat.two_pow_pos (f.p - 1)
  have e : k * 2 ^ (f.p - 1) + 2 * 2 ^ (f.p - 1) + 1 = (k + 1) * 2 ^ (f.p - 1) + (2 ^ (f.p - 1) + 1) := by
    rw [Nat.add_mul k 1, Nat.one_mul]; generalize 2 ^ (f.p - 1) = T; omega
  rw [e, ival_kq f (k + 1) _ (fun _ => Nat.le_succ _) (by omega), Nat.pow_succ, Nat.mul_comm (2 ^ k),
    ← Nat.mul_assoc]
  congr 1
  omega

theorem kq_pos {f : Fmt} {k q : Nat} (h1 : 0 < k → 2 ^ (f.p - 1) ≤ q) (h0 : k * 2 ^ (f.p - 1) + q ≠ 0) : 1 ≤ q := by
  apply Classical.byContradiction
  intro h
  have hT := Nat.two_pow_pos (f.p - 1)
  have hk : k = 0 := Classical.byContradiction fun hk => by have := h1 (by omega); omega
  rw [hk, Nat.zero_mul] at h0
  omega

theorem ival_kq_pred (f : Fmt) (k q : Nat) (h1 : 0 < k → 2 ^ (f.p - 1) ≤ q) (h2 : q ≤ 2 * 2 ^ (f.p - 1))
    (h0 : k * 2 ^ (f.p - 1) + q ≠ 0) (hc : 0 < k → q ≠ 2 ^ (f.p - 1)) :
    ival f (k * 2 ^ (f.p - 1) + q - 1) = (q - 1) * 2 ^ k := by
  have hq := kq_pos h1 h0
  rw [Nat.add_sub_assoc hq]
  exact ival_kq f k (q - 1) (fun hk => by have := h1 hk; have := hc hk; omega) (by omega)

theorem ival_lt_succ (f : Fmt) (b : Nat) : ival f b < ival f (b + 1) := by
  obtain ⟨k, q, rfl, h1, h2⟩ := decomp f b
  rw [ival_kq_succ f k q h1 h2, ival_kq f k q h1 (by omega)]
  exact Nat.mul_lt_mul_of_pos_right (by omega) (Nat.two_pow_pos k)

theorem ival_strictMono (f : Fmt) {a b : Nat} (h : a < b) : ival f a < ival f b := by
  induction b with
  | zero => omega
  | succ n ih =>
    by_cases h' : a = n
    · subst h'; exact ival_lt_succ f a
    · exact Nat.lt_trans (ih (by omega)) (ival_lt_succ f n)

theorem ival_mono (f : Fmt) {a b : Nat} (h : a ≤ b) : ival f a ≤ ival f b := by
  by_cases h' : a = b
  · subst h'; exact Nat.le_refl _
  · exact Nat.le_of_lt (ival_strictMono f (by omega))

theorem ival_zero (f : Fmt) : ival f 0 = 0 := by
  have := ival_kq f 0 0 (by omega) (by omega)
  simpa using this

theorem ival_one_pattern (f : Fmt) : ival f 1 = 1 := by
  have hT := Nat.two_pow_pos (f.p - 1)
  have := ival_kq f 0 1 (fun h => absurd h (Nat.lt_irrefl 0)) (by omega)
  rwa [Nat.zero_mul, Nat.zero_add, Nat.pow_zero, Nat.mul_one] at this

/-- `N/D` (in units of `2^-L`) lies in the rounding cell of pattern `r`: between the midpoints to the
neighbouring patterns, a midpoint being allowed only when `r` is even.  `infBits` plays the role of a
finite pattern of value `2^(emax+1)` whose cell is unbounded above. -/
structure InCell (f : Fmt) (N D r : Nat) : Prop where
  le_inf : r ≤ f.infBits
  lower : r ≠ 0 → D * (ival f (r - 1) + ival f r) ≤ 2 * N
  lower_tie : r ≠ 0 → D * (ival f (r - 1) + ival f r) = 2 * N → r % 2 = 0
  upper : r < f.infBits → 2 * N ≤ D * (ival f r + ival f (r + 1))
  upper_tie : r < f.infBits → 2 * N = D * (ival f r + ival f (r + 1)) → r % 2 = 0

/-- the two sides of a cell are this statement at `b = r` and at `b = r + 1` -/
theorem InCell.le_iff {f : Fmt} {N D r : Nat} (c : InCell f N D r) (hD : 0 < D) {b : Nat} (hb0 : 0 < b)
    (hb : b ≤ f.infBits) :
    b ≤ r ↔ D * (ival f (b - 1) + ival f b) < 2 * N ∨ (D * (ival f (b - 1) + ival f b) = 2 * N ∧ b % 2 = 0) := by
  constructor
  · intro hbr
    have lo := c.lower (by omega)
    rcases Nat.eq_or_lt_of_le hbr with rfl | hlt
    · rcases Nat.eq_or_lt_of_le lo with he | hl
      · exact Or.inr ⟨he, c.lower_tie (by omega) he⟩
      · exact Or.inl hl
    · have m1 := ival_strictMono f (show b - 1 < r - 1 by omega)
      have m2 := ival_mono f (show b ≤ r by omega)
      have := Nat.mul_lt_mul_of_pos_left (show ival f (b - 1) + ival f b < ival f (r - 1) + ival f r by omega) hD
      exact Or.inl (by omega)
  · intro h
    apply Classical.byContradiction; intro hcon
    have hr : r < f.infBits := by omega
    have up := c.upper hr
    have m1 := ival_mono f (show r ≤ b - 1 by omega)
    have m2 := ival_mono f (show r + 1 ≤ b by omega)
    have k := Nat.mul_le_mul_left D (Nat.add_le_add m1 m2)
    rcases h with h | ⟨he, hev⟩
    · omega
    · -- a tie at the midpoint below `b` that is also the midpoint above `r`: `r = b - 1`, and both would be even
      have e2 : ival f r + ival f (r + 1) = ival f (b - 1) + ival f b :=
        Nat.eq_of_mul_eq_mul_left hD (by omega)
      have t := c.upper_tie hr (by omega)
      have : r = b - 1 := by
        apply Classical.byContradiction; intro hne
        have := ival_strictMono f (show r < b - 1 by omega)
        omega
      omega

/-- the significand is the half-even quotient at the spacing `2^k` of the binade (`hA`: the value reaches the binade;
`h2`: the quotient has not outgrown it, `2·2^(p−1)` being the carry into the next): the unclamped pattern
`k·2^(p−1) + q0` has the value between its midpoints -/
theorem cell_r0 {f : Fmt} (hf : WF f) {N D : Nat} (hD : 0 < D) (k : Nat)
    (h2 : rhe N (D * 2 ^ k) ≤ 2 * 2 ^ (f.p - 1)) (hA : 0 < k → D * 2 ^ k * 2 ^ (f.p - 1) ≤ N) :
    let r0 := k * 2 ^ (f.p - 1) + rhe N (D * 2 ^ k)
    (2 * N ≤ D * (ival f r0 + ival f (r0 + 1))) ∧
    (2 * N = D * (ival f r0 + ival f (r0 + 1)) → r0 % 2 = 0) ∧
    (r0 ≠ 0 → D * (ival f (r0 - 1) + ival f r0) ≤ 2 * N) ∧
    (r0 ≠ 0 → D * (ival f (r0 - 1) + ival f r0) = 2 * N → r0 % 2 = 0) := by
  have hY : 0 < D * 2 ^ k := Nat.mul_pos hD (Nat.two_pow_pos k)
  obtain ⟨s1, s2, s3, s4⟩ := rhe_spec N hY
  have h1 : 0 < k → 2 ^ (f.p - 1) ≤ rhe N (D * 2 ^ k) := fun hk => by
    refine Nat.le_trans ?_ (rhe_ge N _).1
    rw [Nat.le_div_iff_mul_le hY, Nat.mul_comm]
    exact hA hk
  generalize rhe N (D * 2 ^ k) = q0 at *
  intro r0
  have hr : r0 = k * 2 ^ (f.p - 1) + q0 := rfl
  clear_value r0
  obtain ⟨t, ht, htpos⟩ := T_even hf
  have hpar : r0 % 2 = q0 % 2 := by
    rw [hr, ht, Nat.mul_left_comm]; omega
  have hv : ival f r0 = q0 * 2 ^ k := by rw [hr]; exact ival_kq f k q0 h1 h2
  -- in units of `Y = D·2^k`: `D·ival r0 = q0·Y`, and the neighbours are `(q0 ± 1)·Y`, or further away
  have hmul : ∀ c, D * (c * 2 ^ k) = c * (D * 2 ^ k) := fun c => Nat.mul_left_comm D c _
  rw [Nat.mul_comm (D * 2 ^ k)] at s1 s2 s3 s4 hA
  have hsucc : ival f (r0 + 1) = (q0 + 1) * 2 ^ k ∨ q0 = 2 * 2 ^ (f.p - 1) ∧ ival f (r0 + 1) = (q0 + 2) * 2 ^ k := by
    rw [hr]
    by_cases hq : q0 = 2 * 2 ^ (f.p - 1)
    · right; rw [hq]; exact ⟨rfl, ival_kq_succ_top f k⟩
    · left; exact ival_kq_succ f k q0 h1 (by omega)
  have hpred : r0 ≠ 0 → ival f (r0 - 1) = (q0 - 1) * 2 ^ k ∧ 1 ≤ q0 ∨ (0 < k ∧ q0 = 2 ^ (f.p - 1)) ∧ ival f (r0 - 1) ≤ ival f r0 := by
    intro hr0
    by_cases hc : 0 < k ∧ q0 = 2 ^ (f.p - 1)
    · right; exact ⟨hc, ival_mono f (by omega)⟩
    · rw [hr] at hr0 ⊢
      left; exact ⟨ival_kq_pred f k q0 h1 h2 hr0 (fun hk hq => hc ⟨hk, hq⟩), kq_pos h1 hr0⟩
  rw [hv, Nat.mul_add, Nat.mul_add, hmul]
  generalize D * 2 ^ k = Y at *
  generalize 2 ^ (f.p - 1) = T at *
  have hY : 1 ≤ q0 → Y ≤ q0 * Y := Nat.le_mul_of_pos_left Y
  refine ⟨?_, ?_, ?_, ?_⟩
  · rcases hsucc with e | ⟨_, e⟩ <;> rw [e, hmul, Nat.add_mul] <;> omega
  · intro heq
    rw [hpar]
    rcases hsucc with e | ⟨hq, _⟩
    · rw [e, hmul, Nat.add_mul] at heq
      exact s4 (by omega)
    · omega
  · intro hr0
    rcases hpred hr0 with ⟨e, hq1⟩ | ⟨hc, hm⟩
    · have := hY hq1
      rw [e, hmul, Nat.sub_mul]
      omega
    · have h3 := Nat.mul_le_mul_left D hm
      have h4 := hA hc.1
      rw [hv, hmul] at h3
      rw [← hc.2] at h4
      omega
  · intro hr0 heq
    rw [hpar]
    rcases hpred hr0 with ⟨e, hq1⟩ | ⟨hc, _⟩
    · have := hY hq1
      rw [e, hmul, Nat.sub_mul] at heq
      exact s3 (by omega)
    · omega

theorem infBits_even {f : Fmt} (hf : WF f) : f.infBits % 2 = 0 := by
  obtain ⟨t, ht, _⟩ := T_even hf
  rw [infBits_eq, ht, Nat.mul_left_comm]; omega

theorem roundNE_zero (f : Fmt) (den : Nat) : roundNE f 0 den = 0 := by
  rw [roundNE_unfold, if_pos rfl]

def encode (f : Fmt) (k q0 : Nat) : Nat :=
  if f.infBits ≤ k * 2 ^ (f.p - 1) + q0 then f.infBits else k * 2 ^ (f.p - 1) + q0

theorem encode_of_le_inf {f : Fmt} {k q : Nat} (h : k * 2 ^ (f.p - 1) + q ≤ f.infBits) :
    encode f k q = k * 2 ^ (f.p - 1) + q := by
  unfold encode; split <;> omega

theorem encode_of_inf_le {f : Fmt} {k q : Nat} (h : f.infBits ≤ k * 2 ^ (f.p - 1) + q) : encode f k q = f.infBits :=
  if_pos h

/-- `cell_r0`, clamped: a pattern at or beyond `infBits` has the value above the midpoint below `infBits` -/
theorem inCell_encode {f : Fmt} (hf : WF f) {N D : Nat} (hD : 0 < D) (k : Nat)
    (h2 : rhe N (D * 2 ^ k) ≤ 2 * 2 ^ (f.p - 1)) (hA : 0 < k → D * 2 ^ k * 2 ^ (f.p - 1) ≤ N) :
    InCell f N D (encode f k (rhe N (D * 2 ^ k))) := by
  obtain ⟨c1, c2, c3, c4⟩ := cell_r0 hf hD k h2 hA
  unfold encode
  generalize k * 2 ^ (f.p - 1) + rhe N (D * 2 ^ k) = r0 at *
  split
  · rename_i hinf
    refine ⟨Nat.le_refl _, ?_, fun _ _ => infBits_even hf, fun h => absurd h (Nat.lt_irrefl _),
      fun h => absurd h (Nat.lt_irrefl _)⟩
    intro h0
    have hM := M_ge hf
    have hr0 : r0 ≠ 0 := by omega
    refine Nat.le_trans (Nat.mul_le_mul_left D (Nat.add_le_add ?_ ?_)) (c3 hr0)
    · exact ival_mono f (by omega)
    · exact ival_mono f hinf
  · rename_i hinf
    exact ⟨by omega, c3, c4, fun _ => c1, fun _ => c2⟩

theorem inCell_roundNE {f : Fmt} (hf : WF f) (num : Nat) {den : Nat} (hd : den ≠ 0) :
    InCell f (num * 2 ^ (L f)) den (roundNE f num den) := by
  by_cases hn : num = 0
  · subst hn
    rw [roundNE_zero]
    exact ⟨Nat.zero_le _, fun h => absurd rfl h, fun h => absurd rfl h, fun _ => by simp, fun _ _ => rfl⟩
  · rw [roundNE_eq hf hn hd]
    refine inCell_encode hf (Nat.pos_of_ne_zero hd) _ (two_pow_P hf ▸ (q0_bounds hf hn hd).2) fun hk => ?_
    have := (pow_bounds hf hn hd).1 hk
    rwa [show den * 2 ^ (f.p - 1 + kOf f (ilog2Q num den)) = den * 2 ^ kOf f (ilog2Q num den) * 2 ^ (f.p - 1) by
      rw [Nat.pow_add]; ac_rfl] at this

theorem le_roundNE_iff {f : Fmt} (hf : WF f) (num : Nat) {den : Nat} (hd : 0 < den) {b : Nat} (hb0 : 0 < b)
    (hb : b ≤ f.infBits) :
    b ≤ roundNE f num den ↔ den * (ival f (b - 1) + ival f b) < 2 * (num * 2 ^ L f)
      ∨ (den * (ival f (b - 1) + ival f b) = 2 * (num * 2 ^ L f) ∧ b % 2 = 0) :=
  (inCell_roundNE hf num (Nat.ne_of_gt hd)).le_iff hd hb0 hb

theorem inCell_mono {f : Fmt} {N1 D1 r1 N2 D2 r2 : Nat} (c1 : InCell f N1 D1 r1)
    (c2 : InCell f N2 D2 r2) (hD1 : 0 < D1) (hD2 : 0 < D2) (hle : N1 * D2 ≤ N2 * D1) : r1 ≤ r2 := by
  rcases Nat.eq_zero_or_pos r1 with h0 | h0
  · omega
  · -- the threshold of `r1` is passed by `N1/D1`, hence by the larger `N2/D2`
    refine (c2.le_iff hD2 h0 c1.le_inf).mpr ?_
    have h1 := (c1.le_iff hD1 h0 c1.le_inf).mp (Nat.le_refl _)
    generalize ival f (r1 - 1) + ival f r1 = m at *
    have e1 : D1 * (D2 * m) = D2 * (D1 * m) := Nat.mul_left_comm _ _ _
    have e2 : D1 * (2 * N2) = 2 * (N2 * D1) := by rw [Nat.mul_left_comm, Nat.mul_comm D1]
    have e3 : D2 * (2 * N1) = 2 * (N1 * D2) := by rw [Nat.mul_left_comm, Nat.mul_comm D2]
    rcases h1 with h | ⟨he, hev⟩
    · left
      apply Nat.lt_of_mul_lt_mul_left (a := D1)
      have := Nat.mul_lt_mul_of_pos_left h hD2
      omega
    · have he' : D2 * (D1 * m) = D2 * (2 * N1) := congrArg (D2 * ·) he
      rcases Nat.eq_or_lt_of_le hle with heq | hlt
      · exact Or.inr ⟨Nat.eq_of_mul_eq_mul_left hD1 (by omega), hev⟩
      · exact Or.inl (Nat.lt_of_mul_lt_mul_left (a := D1) (by omega))

theorem roundNE_unique {f : Fmt} (hf : WF f) {num den r : Nat} (hd : den ≠ 0)
    (c : InCell f (num * 2 ^ (L f)) den r) : roundNE f num den = r := by
  have c' := inCell_roundNE hf num hd
  have hd' := Nat.pos_of_ne_zero hd
  exact Nat.le_antisymm (inCell_mono c' c hd' hd' (Nat.le_refl _))
    (inCell_mono c c' hd' hd' (Nat.le_refl _))

theorem roundNE_eq_iff {f : Fmt} (hf : WF f) {num den : Nat} (hd : den ≠ 0) (r : Nat) :
    roundNE f num den = r ↔ InCell f (num * 2 ^ (L f)) den r :=
  ⟨fun h => h ▸ inCell_roundNE hf num hd, roundNE_unique hf hd⟩

theorem le_roundNE_of_mid {f : Fmt} (hf : WF f) (num den b : Nat) (hd : 0 < den) (hb : b ≤ f.infBits) (hb0 : 0 < b)
    (h : den * (ival f (b - 1) + ival f b) < 2 * (num * 2 ^ L f)) : b ≤ roundNE f num den :=
  (le_roundNE_iff hf num hd hb0 hb).mpr (Or.inl h)

theorem le_roundNE_of_ival {f : Fmt} (hf : WF f) (num den b : Nat) (hd : 0 < den) (hb : b ≤ f.infBits)
    (hlo : den * ival f b ≤ num * 2 ^ L f) : b ≤ roundNE f num den := by
  rcases Nat.eq_zero_or_pos b with rfl | hb0
  · exact Nat.zero_le _
  apply le_roundNE_of_mid hf num den b hd hb hb0
  have m3 : ival f (b - 1) < ival f b := ival_strictMono f (by omega)
  have k2 : den * (ival f (b - 1) + ival f b) < den * (2 * ival f b) :=
    Nat.mul_lt_mul_of_pos_left (by omega) hd
  have k3 : den * (2 * ival f b) = 2 * (den * ival f b) := by rw [Nat.mul_left_comm]
  omega

theorem weak_bracket_of_bounds {f : Fmt} (hf : WF f) (num den b : Nat) (hd : 0 < den) (hb : b ≤ f.infBits)
    (hlo : den * ival f b ≤ num * 2 ^ L f)
    (hhi : 2 * (num * 2 ^ L f) < den * (ival f (b + 1) + ival f (b + 2))) :
    b ≤ roundNE f num den ∧ roundNE f num den ≤ b + 1 := by
  refine ⟨le_roundNE_of_ival hf num den b hd hb hlo, ?_⟩
  apply Classical.byContradiction; intro hcon
  have hinf := (inCell_roundNE hf num (Nat.ne_of_gt hd)).le_inf
  have e : b + 2 - 1 = b + 1 := rfl
  rcases (le_roundNE_iff hf num hd (b := b + 2) (by omega) (by omega)).mp (by omega) with h | ⟨h, _⟩ <;>
    rw [e] at h <;> omega

theorem roundNE_le_infBits {f : Fmt} (hf : WF f) (num : Nat) {den : Nat} (hd : 0 < den) :
    roundNE f num den ≤ f.infBits := (inCell_roundNE hf num (Nat.ne_of_gt hd)).le_inf

theorem infBits_pos {f : Fmt} (hf : WF f) : 0 < f.infBits := by
  rw [infBits_eq]; exact Nat.mul_pos (by have := M_ge hf; omega) (Nat.two_pow_pos _)

theorem roundNE_eq_zero_iff {f : Fmt} (hf : WF f) (num : Nat) {den : Nat} (hd : 0 < den) :
    roundNE f num den = 0 ↔ 2 * (num * 2 ^ L f) ≤ den := by
  have key := le_roundNE_iff hf num hd (b := 1) Nat.one_pos (infBits_pos hf)
  rw [Nat.sub_self, ival_zero, ival_one_pattern, Nat.zero_add, Nat.mul_one] at key
  omega

theorem roundNE_eq_inf_iff {f : Fmt} (hf : WF f) (num : Nat) {den : Nat} (hd : 0 < den) :
    roundNE f num den = f.infBits ↔
      den * (ival f (f.infBits - 1) + ival f f.infBits) ≤ 2 * (num * 2 ^ (L f)) := by
  have hle := roundNE_le_infBits hf num hd
  have hev := infBits_even hf
  have key := le_roundNE_iff hf num hd (infBits_pos hf) (Nat.le_refl f.infBits)
  constructor
  · intro h
    rcases key.mp (by omega) with h | ⟨h, _⟩ <;> omega
  · intro h
    -- at the midpoint itself the tie goes to `infBits`, which is even
    have := key.mpr ((Nat.eq_or_lt_of_le h).elim (fun he => Or.inr ⟨he, hev⟩) Or.inl)
    omega

theorem ival_infBits {f : Fmt} (hf : WF f) :
    ival f f.infBits = 2 * 2 ^ (f.p - 1) * 2 ^ (f.maxExpField - 2) ∧
    ival f (f.infBits - 1) + 2 ^ (f.maxExpField - 2) = 2 * 2 ^ (f.p - 1) * 2 ^ (f.maxExpField - 2) := by
  have hM := M_ge hf
  have hT := Nat.two_pow_pos (f.p - 1)
  have e1 : f.infBits = (f.maxExpField - 2) * 2 ^ (f.p - 1) + 2 * 2 ^ (f.p - 1) := by
    rw [infBits_eq, ← Nat.add_mul]; congr 1; omega
  have e2 : f.infBits - 1 = (f.maxExpField - 2) * 2 ^ (f.p - 1) + (2 * 2 ^ (f.p - 1) - 1) := by
    rw [e1]; omega
  constructor
  · rw [e1, ival_kq f _ _ (by omega) (by omega)]
  · rw [e2, ival_kq f _ _ (by omega) (by omega), Nat.sub_mul]
    have : 1 * 2 ^ (f.maxExpField - 2) ≤ 2 * 2 ^ (f.p - 1) * 2 ^ (f.maxExpField - 2) :=
      Nat.mul_le_mul_right _ (by omega)
    omega

theorem roundNE_tiny {f : Fmt} (hf : WF f) {num den : Nat} (hd : den ≠ 0)
    (h : 2 * (num * 2 ^ L f) < den) : roundNE f num den = 0 :=
  (roundNE_eq_zero_iff hf num (Nat.pos_of_ne_zero hd)).mpr (Nat.le_of_lt h)

/-- at or above `2^(emax+1)`, the value `infBits` would have (`le_roundNE_of_ival` there) -/
theorem roundNE_huge {f : Fmt} (hf : WF f) {num den : Nat} (hd : 0 < den)
    (h : den * 2 ^ (f.bias + 1) ≤ num) : roundNE f num den = f.infBits := by
  refine Nat.le_antisymm (roundNE_le_infBits hf num hd) (le_roundNE_of_ival hf num den _ hd (Nat.le_refl _) ?_)
  have hM := M_eq hf
  have hp := hf.hp
  have hb := bias_pos hf
  rw [(ival_infBits hf).1, show 2 * 2 ^ (f.p - 1) * 2 ^ (f.maxExpField - 2) = 2 ^ (f.bias + 1) * 2 ^ L f by
    rw [← Nat.pow_succ', ← Nat.pow_add, ← Nat.pow_add]; congr 1; unfold L; omega, ← Nat.mul_assoc]
  exact Nat.mul_le_mul_right _ h

/-! ### the thresholds next to the significand `q` of exponent field `k` (`le_roundNE_iff` in these coordinates) -/

/-- the midpoint above the significand `q` of exponent field `k`, times `den` -/
theorem mid_kq (den q k : Nat) : den * (q * 2 ^ k + (q + 1) * 2 ^ k) = (2 * q + 1) * (den * 2 ^ k) := by
  rw [← Nat.add_mul, Nat.mul_left_comm]
  congr 1
  omega

theorem clamp_le_roundNE {f : Fmt} (hf : WF f) (num den b : Nat) (hd : 0 < den) (hb0 : 0 < b)
    (h : den * (ival f (b - 1) + ival f b) < 2 * (num * 2 ^ L f)) :
    (if f.infBits ≤ b then f.infBits else b) ≤ roundNE f num den := by
  split
  · rename_i hinf
    apply le_roundNE_of_mid hf num den _ hd (Nat.le_refl _) (infBits_pos hf)
    have m1 := ival_mono f (show f.infBits - 1 ≤ b - 1 by omega)
    have m2 := ival_mono f hinf
    exact Nat.lt_of_le_of_lt (Nat.mul_le_mul_left den (Nat.add_le_add m1 m2)) h
  · exact le_roundNE_of_mid hf num den b hd (by omega) hb0 h

theorem encode_succ_le_roundNE {f : Fmt} (hf : WF f) {num den : Nat} (hd : 0 < den) (k q : Nat)
    (h1 : 0 < k → 2 ^ (f.p - 1) ≤ q) (h2 : q < 2 * 2 ^ (f.p - 1))
    (h : (2 * q + 1) * (den * 2 ^ k) < 2 * (num * 2 ^ L f)) : encode f k (q + 1) ≤ roundNE f num den := by
  unfold encode
  rw [← Nat.add_assoc]
  apply clamp_le_roundNE hf num den (k * 2 ^ (f.p - 1) + q + 1) hd (Nat.succ_pos _)
  rw [Nat.add_sub_cancel, ival_kq_succ f k q h1 h2, ival_kq f k q h1 (by omega)]
  rw [mid_kq]
  exact h

theorem roundNE_le_encode {f : Fmt} (hf : WF f) {num den : Nat} (hd : 0 < den) (k q : Nat)
    (h1 : 0 < k → 2 ^ (f.p - 1) ≤ q) (h2 : q ≤ 2 * 2 ^ (f.p - 1))
    (h : 2 * (num * 2 ^ L f) < (2 * q + 1) * (den * 2 ^ k)) : roundNE f num den ≤ encode f k q := by
  have hle := roundNE_le_infBits hf num hd
  unfold encode
  split
  · exact hle
  · apply Classical.byContradiction; intro hcon
    have key := (le_roundNE_iff hf num hd (b := k * 2 ^ (f.p - 1) + q + 1) (Nat.succ_pos _) (by omega)).mp (by omega)
    rw [Nat.add_sub_cancel, ival_kq f k q h1 h2] at key
    -- the next pattern is the next significand, or (from `q = 2^p`) the one after it
    have hs : (q + 1) * 2 ^ k ≤ ival f (k * 2 ^ (f.p - 1) + q + 1) := by
      by_cases hq : q = 2 * 2 ^ (f.p - 1)
      · rw [hq, ival_kq_succ_top]; exact Nat.mul_le_mul_right _ (by omega)
      · rw [ival_kq_succ f k q h1 (by omega)]; exact Nat.le_refl _
    have := Nat.mul_le_mul_left den (Nat.add_le_add_left hs (q * 2 ^ k))
    rw [mid_kq] at this
    rcases key with h' | ⟨h', _⟩ <;> omega

theorem gap_kq (f : Fmt) (k q : Nat) (h1 : 0 < k → 2 ^ (f.p - 1) ≤ q) (h2 : q ≤ 2 * 2 ^ (f.p - 1))
    (hb0 : 0 < k * 2 ^ (f.p - 1) + q) :
    ival f (k * 2 ^ (f.p - 1) + q - 1) + 2 ^ (k - 1) ≤ ival f (k * 2 ^ (f.p - 1) + q) := by
  have hT := Nat.two_pow_pos (f.p - 1)
  have hq0 : 0 < q := by
    apply Nat.pos_of_ne_zero; intro h0
    by_cases hk : 0 < k
    · have := h1 hk; omega
    · have : k = 0 := by omega
      subst this; omega
  rw [ival_kq f k q h1 h2]
  -- inside a binade the pattern below is one step `2^k` away; below the first pattern of binade `k ≥ 1` the spacing is `2^(k−1)`
  by_cases hc : k = 0 ∨ 2 ^ (f.p - 1) < q
  · have e : k * 2 ^ (f.p - 1) + q - 1 = k * 2 ^ (f.p - 1) + (q - 1) := by omega
    rw [e, ival_kq f k (q - 1) (fun hk => by have := h1 hk; rcases hc with h | h <;> omega) (by omega)]
    have : 2 ^ (k - 1) ≤ 2 ^ k := Nat.pow_le_pow_right (by decide) (by omega)
    have : q * 2 ^ k = (q - 1) * 2 ^ k + 2 ^ k := by
      rw [← Nat.succ_mul]; congr 1; omega
    omega
  · have hk1 : 1 ≤ k := by omega
    have hqT : q = 2 ^ (f.p - 1) := by have := h1 (by omega); omega
    have e : k * 2 ^ (f.p - 1) + q - 1 = (k - 1) * 2 ^ (f.p - 1) + (2 * 2 ^ (f.p - 1) - 1) := by
      have : k * 2 ^ (f.p - 1) = (k - 1) * 2 ^ (f.p - 1) + 2 ^ (f.p - 1) := by
        rw [← Nat.succ_mul]; congr 1; omega
      omega
    rw [e, ival_kq f (k - 1) (2 * 2 ^ (f.p - 1) - 1) (fun _ => by omega) (by omega), hqT]
    have e2 : 2 ^ k = 2 * 2 ^ (k - 1) := two_pow_pred (by omega)
    rw [e2]
    have : (2 * 2 ^ (f.p - 1) - 1) * 2 ^ (k - 1) + 2 ^ (k - 1) = 2 * 2 ^ (f.p - 1) * 2 ^ (k - 1) := by
      rw [← Nat.succ_mul]; congr 1; omega
    have : 2 ^ (f.p - 1) * (2 * 2 ^ (k - 1)) = 2 * 2 ^ (f.p - 1) * 2 ^ (k - 1) := by
      rw [Nat.mul_left_comm, Nat.mul_assoc]
    omega

/-- less than a quarter of a step below the significand `q`: still above the midpoint under the pattern, also at the
bottom of a binade, where the step below is half the step above (`gap_kq`) -/
theorem encode_le_roundNE {f : Fmt} (hf : WF f) {num den : Nat} (hd : 0 < den) (k q : Nat)
    (h1 : 0 < k → 2 ^ (f.p - 1) ≤ q) (h2 : q ≤ 2 * 2 ^ (f.p - 1))
    (h : 4 * q * (den * 2 ^ k) < 4 * (num * 2 ^ L f) + den * 2 ^ k) : encode f k q ≤ roundNE f num den := by
  unfold encode
  rcases Nat.eq_zero_or_pos (k * 2 ^ (f.p - 1) + q) with h0 | h0
  · rw [h0]; split <;> omega
  apply clamp_le_roundNE hf num den _ hd h0
  have hg := Nat.mul_le_mul_left den (gap_kq f k q h1 h2 h0)
  rw [ival_kq f k q h1 h2] at hg ⊢
  have e1 : den * (q * 2 ^ k) = q * (den * 2 ^ k) := Nat.mul_left_comm _ _ _
  have hk : 2 * (den * 2 ^ (k - 1)) ≥ den * 2 ^ k := by
    by_cases hk0 : k = 0
    · subst hk0; exact Nat.le_mul_of_pos_left _ (by decide)
    · rw [two_pow_pred (Nat.pos_of_ne_zero hk0)]; exact Nat.le_of_eq (Nat.mul_left_comm _ _ _)
  rw [Nat.mul_add, e1] at hg ⊢
  rw [Nat.mul_assoc] at h
  omega

end LexVerif.Proof.RoundNE
