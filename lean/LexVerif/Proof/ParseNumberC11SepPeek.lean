import LexVerif.Proof.IterBasic
import LexVerif.Proof.IterSlice
import LexVerif.Proof.ParseNumberC11Trunc
/-!
# Proof.ParseNumberC11SepPeek — digit separators: one `peek` under truncation of the buffer

A truncation is a cut at the back (`Proof/IterSlice.lean`): `peek` decides from the neighbourhood of a separator whether
to skip it, a cut behind the cursor touches only the look-ahead (`next` / `nextc`), and when `peek` skips, that byte IS the
byte `peek` returns. So a cut at `n ≥ ` the new cursor changes the look-ahead only when `n` = the new cursor, into end of
input, and every predicate accepts that (`holds_weaken`) unless it asks for a *digit* after the separator
(`predNeedsDigit`: i, il, ic, and ilc at the first position); there the returned byte is a mantissa-radix digit, which a
digit loop of the same radix consumes — so the cut lies behind it. `Adm` is `IterSpec.Admits` of the state `peek` returns, and
`peek_trunc` is `IterSpec.peekIdx_take` read on `Bytes`.

When `peek` does not skip (returns the separator itself) a cut right at the cursor turns the separator into end of
input — same answer for every caller (no digit, no match); a cut further right could flip the decision, which is why
`Adm` asks for the cut to be exactly at a cursor that rests on a separator. A cut behind the first non-separator byte
after the cursor flips nothing either (`peek_trunc_far`: `IterSpec.peekIdx_take_far`). Both are admitted cuts in the sense of
`Cut` (`Cut.of_adm`, `Cut.of_far`).
-/
namespace LexVerif.Proof.C11
open LexVerif LexVerif.Model LexVerif.Spec
open LexVerif.Props.C12 (Bytes.Valid)
open LexVerif.Proof.IterSpec

def Adm (c : Cfg) (k : Comp) (n : Nat) (b' : Bytes) : Prop :=
  b'.index ≤ n ∧ ∀ x, b'.slc[b'.index]? = some x →
    (c.isSep x = true → n = b'.index) ∧ (DigitLook c k → c.isDigit x = true → b'.index < n)

theorem pk_trunc (c : Cfg) (k : Comp) (n : Nat) (b : Bytes) :
    pk c k (trunc n b) = peekIdx c k (b.slc.take n) (b.iterCount c k == 0) b.index := by
  unfold pk
  rw [trunc_iterCount, trunc_slc, trunc_index]

set_option linter.unusedVariables false in
theorem peek_trunc (c : Cfg) (k : Comp) (b b' : Bytes) (v : Option Nat) (hv : Bytes.Valid b)
    (hp : peek c k b = .ok (v, b')) (n : Nat) (ha : Adm c k n b') :
    peek c k (trunc n b) = .ok (if b'.index < n then v else none, trunc n b') := by
  obtain ⟨hs, rfl, rfl⟩ := peek_at hp
  have e : pk c k (trunc n b) = pk c k b := (pk_trunc c k n b).trans (peekIdx_take _ _ _ _ ha)
  rw [peek_eq hs, e, trunc_slc, List.getElem?_take]
  rfl

theorem Adm.of_noskip {c : Cfg} {k : Comp} (hk : c.skip k = .noskip) : ¬ DigitLook c k := by
  rintro ⟨p, hp, _⟩
  rw [hk] at hp; cases hp

theorem Adm.congr {c : Cfg} {k : Comp} {n : Nat} {b1 b2 : Bytes} (h : Adm c k n b1) (hs : b2.slc = b1.slc)
    (hi : b2.index = b1.index) : Adm c k n b2 := by
  unfold Adm at *
  rw [hs, hi]; exact h

theorem Adm.of_lt {c : Cfg} {k : Comp} {n : Nat} {b : Bytes} (hlt : b.index < n)
    (hs : ∀ x, b.slc[b.index]? = some x → c.isSep x = false) : Adm c k n b := by
  refine ⟨by omega, fun x hx => ⟨fun h => ?_, fun _ _ => hlt⟩⟩
  rw [hs x hx] at h; cases h

theorem countSeps_drop (c : Cfg) (l : List Nat) : ∀ j, j ≤ countSeps c l → countSeps c (l.drop j) = countSeps c l - j := by
  induction l with
  | nil => intro j _; simp [countSeps]
  | cons y ys ih =>
    intro j hj
    cases j with
    | zero => simp
    | succ j2 =>
      simp only [countSeps] at hj ⊢
      split at hj
      · next hy =>
        simp only [hy, if_true, List.drop_succ_cons]
        rw [ih j2 (by omega)]; omega
      · omega

theorem peek_le_firstNonSep (c : Cfg) (k : Comp) (b b' : Bytes) (v : Option Nat)
    (hp : peek c k b = .ok (v, b')) : b'.index ≤ b.index + countSeps c (b.slc.drop b.index) := by
  rw [(peek_at hp).2.2]
  exact peekIdx_le_seps ..

theorem peek_trunc_far (c : Cfg) (k : Comp) (b b' : Bytes) (v : Option Nat) (hp : peek c k b = .ok (v, b')) (n : Nat)
    (hfar : b.index + countSeps c (b.slc.drop b.index) < n) : peek c k (trunc n b) = .ok (v, trunc n b') := by
  obtain ⟨hs, rfl, rfl⟩ := peek_at hp
  have e : pk c k (trunc n b) = pk c k b := (pk_trunc c k n b).trans (peekIdx_take_far _ _ _ _ hfar)
  have hle : pk c k b ≤ b.index + countSeps c (b.slc.drop b.index) := peekIdx_le_seps ..
  rw [peek_eq hs, e, trunc_slc, List.getElem?_take, if_pos (by omega)]
  rfl

theorem Cut.of_adm {c : Cfg} {k : Comp} {n : Nat} {b' : Bytes} (h : Adm c k n b') : Cut c k n b' :=
  ⟨h.1, fun b _ hs hp => by
    rw [← hp, pk_trunc]
    exact peekIdx_take _ _ _ _ (show Admits c k b.slc n (pk c k b) by rw [hs, hp]; exact h)⟩

theorem Cut.step_adm {c : Cfg} (k : Comp) (D : Nat → Prop) (hD : ∀ x, D x → c.isSep x = false) :
    Cut.Step c k D :=
  fun _ _ x hlt hx hd => Cut.of_adm (Adm.of_lt hlt fun y hy => by rw [hx] at hy; cases hy; exact hD x hd)

theorem Cut.of_far {c : Cfg} {k : Comp} {n : Nat} {b' : Bytes}
    (h : b'.index + countSeps c (b'.slc.drop b'.index) < n) : Cut c k n b' :=
  ⟨by omega, fun b _ hs hp => by
    have hge : b.index ≤ pk c k b := peekIdx_ge ..
    have hle : pk c k b ≤ b.index + countSeps c (b.slc.drop b.index) := peekIdx_le_seps ..
    have hcd := countSeps_drop c (b.slc.drop b.index) (pk c k b - b.index) (by omega)
    rw [List.drop_drop, show b.index + (pk c k b - b.index) = pk c k b by omega] at hcd
    rw [← hs, ← hp] at h
    rw [← hp, pk_trunc]
    exact peekIdx_take_far _ _ _ _ (by unfold pk at hcd hge hle h; omega)⟩

end LexVerif.Proof.C11
