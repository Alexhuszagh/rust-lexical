import LexVerif.Proof.RoundNECell
import LexVerif.Proof.RoundNEDecode
/-!
# Proof.AlgoRound — how an algorithm shows that its result is `roundNE`

The moderate-path algorithms all end the same way: a significand `q0` (hidden bit included) obtained by
rounding a scaled quotient half-to-even, placed at exponent field `k + 1` (`k = 0`: subnormal or the
first binade).  `roundNE_of_rhe` turns exactly that into `roundNE`; `roundNE_of_scaled` is the form in which the quotient is given up
to a common factor.  `powFrac` is the fraction `m·base^e` the parsers hand to `roundNE`; its value in ℚ (`powFrac_q`) is
in `Proof/RoundNE.lean`.
Mathlib-free.
-/
namespace LexVerif.Proof.RoundNE
open LexVerif.Spec

/-- `m · base^e` (`e : Int`) as a fraction `(num, den)` -/
def powFrac (base : Nat) (e : Int) (m : Nat) : Nat × Nat :=
  if e ≥ 0 then (m * base ^ e.toNat, 1) else (m, base ^ (-e).toNat)

theorem powFrac_pos {base : Nat} (hb : 0 < base) (e : Int) (m : Nat) : 0 < (powFrac base e m).2 := by
  unfold powFrac
  split
  · exact Nat.one_pos
  · exact Nat.pow_pos hb

theorem powFrac_toNat (b : Nat) (e : Int) (m : Nat) : powFrac b e m = (m * b ^ e.toNat, b ^ (-e).toNat) := by
  unfold powFrac
  split
  · rw [show (-e).toNat = 0 by omega, Nat.pow_zero]
  · rw [show e.toNat = 0 by omega, Nat.pow_zero, Nat.mul_one]

theorem powFrac_natCast (b m e : Nat) : powFrac b (e : Int) m = (m * b ^ e, 1) := by
  rw [powFrac_toNat, Int.toNat_natCast, show (-(e : Int)).toNat = 0 by omega, Nat.pow_zero]

theorem powFrac_zero (base : Nat) (e : Int) (f : Fmt) :
    roundNE f (powFrac base e 0).1 (powFrac base e 0).2 = 0 := by
  rw [powFrac_toNat, Nat.zero_mul, roundNE_zero]

theorem powFrac_succ_den (b : Nat) (q : Int) (w : Nat) : (powFrac b q (w + 1)).2 = (powFrac b q w).2 := by
  rw [powFrac_toNat, powFrac_toNat]

theorem powFrac_succ_num (b : Nat) (q : Int) (w : Nat) :
    (powFrac b q (w + 1)).1 * w = (powFrac b q w).1 * (w + 1) := by
  rw [powFrac_toNat, powFrac_toNat]
  show (w + 1) * b ^ q.toNat * w = w * b ^ q.toNat * (w + 1)
  rw [Nat.mul_right_comm, Nat.mul_comm (w + 1) w, Nat.mul_right_comm]

theorem encode_succ (f : Fmt) (k q : Nat) :
    encode f k q ≤ encode f k (q + 1) ∧ encode f k (q + 1) ≤ encode f k q + 1 := by
  unfold encode
  split <;> split <;> omega

/-- **the one way an algorithm shows that its result is `roundNE`**: its significand is the half-even quotient `rhe n0 d0` of
any fraction proportional to `num·2^L / (den·2^k)` (`hX`), `k` is not too large for the value (`hA`) and the quotient has
not outgrown the binade (`h2`; equality is the carry). `roundNE_eq` is the case of the exponent `roundNE` itself computes. -/
theorem roundNE_of_rhe {f : Fmt} (hf : WF f) {num den : Nat} (hd : 0 < den) (k n0 d0 : Nat) (hd0 : 0 < d0)
    (hX : num * 2 ^ L f * d0 = n0 * (den * 2 ^ k))
    (h2 : rhe n0 d0 ≤ 2 * 2 ^ (f.p - 1)) (hA : 0 < k → d0 * 2 ^ (f.p - 1) ≤ n0) :
    roundNE f num den = encode f k (rhe n0 d0) := by
  have hY : 0 < den * 2 ^ k := Nat.mul_pos hd (Nat.two_pow_pos k)
  rw [← rhe_congr hY hd0 hX] at h2 ⊢
  refine roundNE_unique hf (Nat.ne_of_gt hd) (inCell_encode hf hd k h2 fun hk => ?_)
  apply Nat.le_of_mul_le_mul_right _ hd0
  rw [hX, Nat.mul_right_comm, Nat.mul_comm n0, Nat.mul_assoc]
  exact Nat.mul_le_mul_left _ (hA hk)

/-- `roundNE_of_rhe` with the quotient given up to a common factor `C`:
`num·2^L = n0·C`, `den·2^k = d0·C`, `q0 = rhe n0 d0`. -/
theorem roundNE_of_scaled {f : Fmt} (hf : WF f) {num den : Nat} (hd : den ≠ 0) (k n0 d0 C : Nat)
    (hd0 : 0 < d0) (hN : num * 2 ^ L f = n0 * C) (hD : den * 2 ^ k = d0 * C)
    (h2 : rhe n0 d0 ≤ 2 * 2 ^ (f.p - 1))
    (hA : 0 < k → d0 * 2 ^ (f.p - 1) ≤ n0) :
    roundNE f num den = encode f k (rhe n0 d0) :=
  roundNE_of_rhe hf (Nat.pos_of_ne_zero hd) k n0 d0 hd0 (by rw [hN, hD]; ac_rfl) h2 hA

theorem two_pow_mul {s : Nat} (hs : 0 < s) (c : Nat) : 2 ^ s * c = 2 * (2 ^ (s - 1) * c) := by
  rw [two_pow_pred hs, Nat.mul_assoc]

theorem sticky_split (m s c r : Nat) :
    m * c + r = (2 ^ s * c) * (m / 2 ^ s) + (m % 2 ^ s * c + r) := by
  have hdm := Nat.div_add_mod m (2 ^ s)
  conv => lhs; rw [← hdm]
  rw [Nat.add_mul, Nat.mul_right_comm, Nat.add_assoc]

/-- a quotient `(m·c + r) / (2^s·c)` with a sticky part `r` on top of the truncated bits `x = m % 2^s`: the rounding
is decided by `x·c + r` against the half-way point `H = 2^(s−1)·c` -/
theorem rhe_sticky_split (m s c r : Nat) (hs : 0 < s) (hρ : m % 2 ^ s * c + r < 2 * (2 ^ (s - 1) * c)) :
    rhe (m * c + r) (2 ^ s * c) =
      if 2 * (m % 2 ^ s * c + r) > 2 * (2 ^ (s - 1) * c) ∨
          (2 * (m % 2 ^ s * c + r) = 2 * (2 ^ (s - 1) * c) ∧ m / 2 ^ s % 2 = 1)
      then m / 2 ^ s + 1 else m / 2 ^ s := by
  rw [sticky_split m s c r, two_pow_mul hs]
  exact rhe_of_split _ _ _ hρ

theorem rhe_sticky_half (m s c r : Nat) (hs : 0 < s) (hr0 : 0 < r) (hr : r < c)
    (hhalf : m % 2 ^ s = 2 ^ (s - 1)) : rhe (m * c + r) (2 ^ s * c) = m / 2 ^ s + 1 := by
  have hcH : c ≤ 2 ^ (s - 1) * c := Nat.le_mul_of_pos_left c (Nat.two_pow_pos _)
  rw [rhe_sticky_split m s c r hs (by rw [hhalf]; omega), if_pos (by rw [hhalf]; omega)]

theorem rhe_sticky_below (m s c r : Nat) (hs : 0 < s) (hr : r < c)
    (hlow : m % 2 ^ s < 2 ^ (s - 1)) : rhe (m * c + r) (2 ^ s * c) = m / 2 ^ s := by
  have h1 : (m % 2 ^ s + 1) * c ≤ 2 ^ (s - 1) * c := Nat.mul_le_mul_right c hlow
  rw [Nat.add_mul, Nat.one_mul] at h1
  rw [rhe_sticky_split m s c r hs (by omega), if_neg (by omega)]

theorem rhe_sticky_above (m s c r : Nat) (hs : 0 < s) (hr : r < c)
    (hhigh : m % 2 ^ s > 2 ^ (s - 1)) : rhe (m * c + r) (2 ^ s * c) = m / 2 ^ s + 1 := by
  have h1 : (2 ^ (s - 1) + 1) * c ≤ m % 2 ^ s * c := Nat.mul_le_mul_right c hhigh
  have h2 : (m % 2 ^ s + 1) * c ≤ 2 ^ s * c := Nat.mul_le_mul_right c (Nat.mod_lt m (Nat.two_pow_pos s))
  rw [two_pow_mul hs] at h2
  rw [Nat.add_mul, Nat.one_mul] at h1 h2
  rw [rhe_sticky_split m s c r hs (by omega), if_pos (by omega)]

end LexVerif.Proof.RoundNE
