import LexVerif.Proof.LemireBasics
/-!
# Proof.LemireRound — the rounding arithmetic of `compute_float`

`round_step`: clearing the last bit on a detected tie and rounding half-up is round-half-even of the exact quotient,
provided the tie test is equivalent to "odd multiple of the rounding unit above an even quotient";
`assemble`: carry, hidden bit and the infinity test produce `encode`. Mathlib-free.
-/
namespace LexVerif.Proof.Lemire
open LexVerif.Model LexVerif.Model.Lemire
open LexVerif.Proof.RoundNE LexVerif.Proof.ExtRound

/-- an exact tie forces `5^q` to divide the `(p+1)`-bit quotient -/
theorem five_pow_le_of_tie (q wn s m0 e : Nat) (hm0 : 0 < m0) (h : wn * (5 ^ q * 2 ^ s) = m0 * 2 ^ e) :
    5 ^ q ≤ m0 := by
  have hcop : Nat.Coprime (5 ^ q) (2 ^ e) := Nat.Coprime.pow q e (by decide)
  have hdvd : 5 ^ q ∣ m0 * 2 ^ e := by
    rw [← h]; exact ⟨wn * 2 ^ s, by ac_rfl⟩
  exact Nat.le_of_dvd hm0 (hcop.dvd_of_dvd_mul_right hdvd)

theorem round_step (P D m0 : Nat) (tie : Bool) (hD : 0 < D) (hm0 : m0 = P / D)
    (htie : tie = true ↔ (P % D = 0 ∧ m0 % 4 = 1)) :
    (let m1 := if tie then m0 - m0 % 2 else m0
     (m1 + m1 % 2) / 2) = rhe P (D * 2) := by
  have hmod : P % (D * 2) = P % D + D * (P / D % 2) := Nat.mod_mul
  have hdiv : P / (D * 2) = P / D / 2 := (Nat.div_div_eq_div_mul P D 2).symm
  have hρ := Nat.mod_lt P hD
  rw [← hm0] at hmod hdiv
  simp only []
  unfold rhe
  rw [hdiv, hmod]
  generalize P % D = ρ at *
  cases tie with
  | true =>
    obtain ⟨h1, h2⟩ := htie.mp rfl
    subst h1
    have hb : m0 % 2 = 1 := by omega
    simp only [if_true, hb, Nat.mul_one, Nat.zero_add]
    have : ¬ (2 * D > D * 2 ∨ 2 * D = D * 2 ∧ m0 / 2 % 2 = 1) := by omega
    rw [if_neg this]; omega
  | false =>
    have hnt : ¬ (ρ = 0 ∧ m0 % 4 = 1) := fun h => by have := htie.mpr h; exact absurd this (by decide)
    simp only [Bool.false_eq_true, if_false]
    rcases Nat.mod_two_eq_zero_or_one m0 with hb | hb
    · simp only [hb, Nat.mul_zero, Nat.add_zero]
      have : ¬ (2 * ρ > D * 2 ∨ 2 * ρ = D * 2 ∧ m0 / 2 % 2 = 1) := by omega
      rw [if_neg this]
    · simp only [hb, Nat.mul_one]
      have : (2 * (ρ + D) > D * 2 ∨ 2 * (ρ + D) = D * 2 ∧ m0 / 2 % 2 = 1) := by omega
      rw [if_pos this]; omega

theorem assemble {F p eb} (lay : Layout F p eb) (q0 En : Nat) (h1 : 2 ^ (p - 1) ≤ q0) (h2 : q0 ≤ 2 * 2 ^ (p - 1)) :
    let carry : Bool := decide (q0 ≥ shl64 2 F.ms)
    let m := if carry then shl64 1 F.ms else q0
    let e : Int := if carry then ((En + 1 : Nat) : Int) + 1 else ((En + 1 : Nat) : Int)
    let m3 := m - (m / 2 ^ F.ms % 2) * 2 ^ F.ms
    let r : AlgoRes := if e ≥ F.C.infinitePower then .ok (fpInf F) else .ok { mant := m3, exp := e }
    ∃ fp, r = .ok fp ∧ 0 ≤ fp.exp ∧ extendedToFloat F fp = encode F.fmt En q0 := by
  have hp := lay.hp; have hp64 := lay.hp64; have heb := lay.heb
  have hTT : 2 ^ p = 2 * 2 ^ (p - 1) := two_pow_pred (by omega)
  have hs1 : shl64 1 F.ms = 2 ^ (p - 1) := by
    unfold shl64; rw [lay.msNat, Nat.one_mul]
    exact Nat.mod_eq_of_lt (Nat.pow_lt_pow_right (by decide) (by omega))
  have hs2 : shl64 2 F.ms = 2 * 2 ^ (p - 1) := by
    unfold shl64; rw [lay.msNat, ← hTT]
    exact Nat.mod_eq_of_lt (Nat.pow_lt_pow_right (by decide) (by omega))
  intro carry m e m3 r
  have hT := Nat.two_pow_pos (p - 1)
  obtain ⟨h0, hx⟩ := ext_encode_normal lay q0 En h1 h2 m3 e
    (by
      show (if decide (q0 ≥ shl64 2 F.ms) then shl64 1 F.ms else q0) -
        ((if decide (q0 ≥ shl64 2 F.ms) then shl64 1 F.ms else q0) / 2 ^ F.ms % 2) * 2 ^ F.ms = _
      rw [hs1, hs2, lay.msNat]
      by_cases hc : q0 = 2 * 2 ^ (p - 1)
      · rw [if_pos hc, if_pos (by simpa using Nat.le_of_eq hc.symm), Nat.div_self hT]; omega
      · rw [if_neg hc, if_neg (by simp; omega),
          show q0 / 2 ^ (p - 1) = 1 from Nat.div_eq_of_lt_le (by omega) (by omega)]; omega)
    (by
      show (if decide (q0 ≥ shl64 2 F.ms) then ((En + 1 : Nat) : Int) + 1 else ((En + 1 : Nat) : Int)) = _
      rw [hs2]
      by_cases hc : q0 = 2 * 2 ^ (p - 1)
      · rw [if_pos hc, if_pos (by simpa using Nat.le_of_eq hc.symm)]; omega
      · rw [if_neg hc, if_neg (by simp; omega)])
  show ∃ fp, (if e ≥ F.C.infinitePower then AlgoRes.ok (fpInf F) else .ok { mant := m3, exp := e }) = .ok fp ∧ _
  by_cases hov : e ≥ F.C.infinitePower
  · rw [if_pos hov] at hx ⊢
    exact ⟨_, rfl, by show 0 ≤ F.C.infinitePower; rw [lay.infp]; omega, hx⟩
  · rw [if_neg hov] at hx ⊢
    exact ⟨_, rfl, h0, hx⟩

end LexVerif.Proof.Lemire
