import LexVerif.Proof.ParseNumberC11Special
import LexVerif.Proof.Validity
/-!
# Proof.ParseNumberC11Key — `parse_number` cannot succeed on a byte that is neither digit nor decimal point

Mantissa digits required. If `peek` of the integer iterator comes to rest on a byte that is no mantissa digit and not the
decimal point, `parse_number` consumes no digit, finds `n_digits = 0` and returns an error (`parseNumber_stuck`: every
format, debug or release — no byte is stepped over, so no assertion is met). Without a digit-separator byte that is the byte
under the cursor (`parseNumber_not_ok`); consequently a special-value string whose first byte (in either case) is such a
byte is never shadowed by a number.
-/
namespace LexVerif.Proof.C11
open LexVerif LexVerif.Model LexVerif.Spec
open LexVerif.Proof.IterSpec (pk cur cur_self cur_slc cur_index peek_eq)

section
variable {c : Cfg}

theorem parse8Digits_stuck (k : Comp) (b b' : Bytes) (m m' x : Nat) (hx : b.slc[b.index]? = some x)
    (hnd : charToDigit x c.mantissaRadix = none) (hrad : c.feats.powerOfTwo = false → c.mantissaRadix ≤ 10)
    (h : parse8Digits c k b m = .ok (m', b')) : b' = b := by
  have hr : canMultidigit c k = true → c.mantissaRadix ≤ 10 := IterSpec.canMultidigit_radix hrad
  have hj : IterSpec.nblocks c k b.slc b.index = 0 := by
    unfold IterSpec.nblocks
    split
    · next hcm =>
      simp only [Bool.and_eq_true] at hcm
      refine IterSpec.blocks8_stuck _ _ _ _ x hx fun hin => ?_
      have := IterSpec.isDig_of_range (hr hcm.2) hin.1 hin.2
      simp [IterSpec.isDig, hnd] at this
    · rfl
  rw [IterSpec.parse8Digits_eq (fun h _ => hr h), hj] at h
  simp only [Except.ok.injEq, Prod.mk.injEq] at h
  rw [← h.2]; simp [IterSpec.cur_self]

/-- a digit pass that returns has called `peek` -/
theorem digitPass_reach {k : Comp} {st : Bytes} {m : Nat} {q : Nat × Bytes} (h : Phase.digitPass c k st m = .ok q) :
    c.skip k ≠ .unreachable := by
  intro hs
  obtain ⟨_, b8, _, _, hdg⟩ := digitPass_inv (m := q.1) (e := q.2) h
  unfold parseDigits at hdg
  rw [parseDigitsLoop] at hdg
  simp [peek, hs, bind, Except.bind] at hdg

/-- `hid`: `peek` stays where it came to rest. The base-prefix phase leaves the cursor where it was or where its own `peek`
put it; the digit pass from either ends where `peek` rests. -/
theorem integerPhase_stuck (b : Bytes) (ip : IntPart) (x : Nat)
    (hx : b.slc[pk c .integer b]? = some x) (hnd : charToDigit x c.mantissaRadix = none)
    (hid : pk c .integer (cur b (pk c .integer b)) = pk c .integer b)
    (hrad : c.feats.powerOfTwo = false → c.mantissaRadix ≤ 10) (hr1 : 1 ≤ c.mantissaRadix)
    (h : integerPhase c b = .ok ip) : ip.byte = cur b (pk c .integer b) ∧ ip.nDigits = 0 := by
  have hx48 : x ≠ 48 := fun h48 => by rw [h48, CharDigit.charToDigit_48 _ hr1] at hnd; cases hnd
  rw [Phase.integerPhase_eq] at h
  simp only [bind, Except.bind] at h
  cases hpp : prefixPhase c b with
  | error e => simp [hpp] at h
  | ok pp =>
    obtain ⟨isP, st⟩ := pp
    simp only [hpp] at h
    cases hpass : Phase.digitPass c .integer st 0 with
    | error e => simp [hpass] at h
    | ok pr =>
      obtain ⟨m, e⟩ := pr
      have hs := digitPass_reach hpass
      have hst : st = b ∨ st = cur b (pk c .integer b) := by
        rw [PrefixRepair.prefixPhase_eq_repaired c b rfl] at hpp
        unfold prefixPhaseRepaired at hpp
        split at hpp
        · have hne : (b.slc[pk c .integer b]? == some 48) = false := by rw [hx]; simpa using hx48
          simp only [bind, Except.bind, readIfValueCased, peek_eq hs, hne, Bool.false_eq_true, if_false, pure,
            Except.pure, Except.ok.injEq, Prod.mk.injEq] at hpp
          exact .inr hpp.2.symm
        · cases hpp; exact .inl rfl
      have hpk : pk c .integer st = pk c .integer b ∧ cur st (pk c .integer b) = cur b (pk c .integer b) := by
        rcases hst with rfl | rfl
        · exact ⟨rfl, rfl⟩
        · exact ⟨hid, rfl⟩
      have hslc : st.slc = b.slc := by rcases hst with rfl | rfl <;> rfl
      have he : e = cur b (pk c .integer b) := by
        obtain ⟨m8, b8, ds, h8, hdg⟩ := digitPass_inv hpass
        have e8 : b8 = st := by
          by_cases hc8 : canMultidigit c .integer = true
          · -- a contiguous iterator: `peek` does not move, the byte under the cursor is `x`
            have hci : c.iterContiguous .integer = true := by
              simp only [canMultidigit, Bool.and_eq_true] at hc8; exact hc8.1
            have hi : st.index = pk c .integer b := by
              rcases hst with rfl | rfl
              · exact (IterSpec.peekIdx_noskip ((IterSpec.skip_noskip_iff c _).mpr hci) ..).symm
              · rfl
            exact parse8Digits_stuck .integer st b8 0 m8 x (by rw [hslc, hi]; exact hx) hnd hrad h8
          · unfold parse8Digits at h8
            simp only [hc8, Bool.false_eq_true, if_false] at h8
            split at h8 <;> (cases h8; rfl)
        subst e8
        rw [IterSpec.parseDigits_stop hs _ _ fun y hy => by rw [hpk.1, hslc, hx] at hy; cases hy; exact hnd] at hdg
        simp only [Except.ok.injEq, Prod.mk.injEq] at hdg
        rw [← hdg.2, hpk.1, hpk.2]
      simp only [hpass] at h
      unfold Phase.intTail at h
      simp only [bind, Except.bind, pure, Except.pure] at h
      split at h
      · cases h
      · cases hsl : sliceTo c st (Phase.storedLen c .integer st e) "integer get_unchecked(..b_digits)" with
        | error er => simp [hsl] at h
        | ok dg =>
          simp only [hsl] at h
          split at h
          · cases h
          · cases h
            refine ⟨he, ?_⟩
            show e.currentCount c - st.currentCount c = 0
            rw [he]
            rcases hst with rfl | rfl
            · simp only [Bytes.currentCount, cur_index]
              split
              · next hb =>
                have : pk c .integer st = st.index := IterSpec.peekIdx_bc hb ..
                omega
              · simp [cur]
            · simp

theorem parseNumber_stuck (p : Bool) (o : POpts) (b : Bytes) (neg fv : Bool) (x : Nat)
    (hx : b.slc[pk c .integer b]? = some x) (hnd : charToDigit x c.mantissaRadix = none) (hdp : x ≠ o.dp)
    (hid : pk c .integer (cur b (pk c .integer b)) = pk c .integer b)
    (hrad : c.feats.powerOfTwo = false → c.mantissaRadix ≤ 10) (hr1 : 1 ≤ c.mantissaRadix)
    (hm : c.requiredMantissaDigits = true) (r : Number × Nat) :
    parseNumber c p o b neg fv ≠ .ok r := by
  intro h
  unfold parseNumber at h
  simp only [bind, Except.bind] at h
  split at h
  · cases h
  split at h
  · cases h
  cases hi : integerPhase c b with
  | error e => rw [hi] at h; cases h
  | ok ip =>
    obtain ⟨s2, s3⟩ := integerPhase_stuck b ip x hx hnd hid hrad hr1 hi
    rw [hi] at h
    simp only at h
    have hfc : ip.byte.firstIsCased o.dp = false := by
      rw [s2]; simp only [Bytes.firstIsCased, Bytes.first, cur_slc, cur_index, hx]; simpa using hdp
    have hfr : fractionPhase c o ip.byte ip.mantissa = .ok ⟨ip.byte, ip.mantissa, 0, 0, none, false⟩ := by
      unfold fractionPhase; rw [hfc]; rfl
    rw [hfr] at h
    simp only [hm, s3, Nat.add_zero, decide_true, Bool.true_or, Bool.and_self, if_true] at h
    cases hp : peek c .integer ip.start with
    | error e => rw [hp] at h; cases h
    | ok pr =>
      rw [hp] at h
      simp only at h
      split at h <;> cases h

end

section
variable {c : Cfg} (hb : c.bytesContiguous = true)
include hb

theorem parseNumber_not_ok (p : Bool) (o : POpts) (b : Bytes) (neg fv : Bool) (x : Nat)
    (hx : b.slc[b.index]? = some x) (hnd : charToDigit x c.mantissaRadix = none) (hdp : x ≠ o.dp)
    (hrad : c.feats.powerOfTwo = false → c.mantissaRadix ≤ 10) (hr1 : 1 ≤ c.mantissaRadix)
    (hm : c.requiredMantissaDigits = true) (r : Number × Nat) :
    parseNumber c p o b neg fv ≠ .ok r := by
  have e : pk c .integer b = b.index := IterSpec.peekIdx_bc hb ..
  exact parseNumber_stuck p o b neg fv x (by rw [e]; exact hx) hnd hdp (by rw [e, cur_self]; exact e) hrad hr1 hm r

omit hb in
theorem parsePositiveSpecial_some (o : POpts) (b : Bytes) (sp : Special) (n : Nat)
    (h : parsePositiveSpecial c o b = .ok (some (sp, n))) :
    ∃ str, (o.nan = some str ∨ o.inf = some str ∨ o.infinity = some str) ∧ n = IterSpec.spEq c b str ∧ n ≠ 0 := by
  rw [IterSpec.parsePositiveSpecial_closed, Except.ok.injEq] at h
  exact IterSpec.specialVal_some h

/-- every special string is non-empty and its first byte, in either case, is neither a mantissa digit nor the decimal point -/
def SpecialHeadsOK (c : Cfg) (o : POpts) : Prop :=
  ∀ str, (o.nan = some str ∨ o.inf = some str ∨ o.infinity = some str) →
    ∃ y ys, str = y :: ys ∧
      ∀ x, (Nat.xor x y = 0 ∨ Nat.xor x y = 32) → charToDigit x c.mantissaRadix = none ∧ x ≠ o.dp

theorem parseNumber_not_ok_of_special (p : Bool) (o : POpts) (b : Bytes) (neg fv : Bool) (sp : Special) (n : Nat)
    (hh : SpecialHeadsOK c o) (hrad : c.feats.powerOfTwo = false → c.mantissaRadix ≤ 10) (hr1 : 1 ≤ c.mantissaRadix)
    (hm : c.requiredMantissaDigits = true) (hs : parsePositiveSpecial c o b = .ok (some (sp, n)))
    (r : Number × Nat) : parseNumber c p o b neg fv ≠ .ok r := by
  obtain ⟨str, hstr, rfl, hn0⟩ := parsePositiveSpecial_some o b sp n hs
  obtain ⟨y, ys, rfl, hy⟩ := hh str hstr
  obtain ⟨x, hx, hcmp, _⟩ := IterSpec.spEq_head c b y ys hn0
  rw [IterSpec.peekIdx_bc hb] at hx
  obtain ⟨hnd, hdp⟩ := hy x (spCmp_match c x y hcmp)
  exact parseNumber_not_ok hb p o b neg fv x hx hnd hdp hrad hr1 hm r

theorem noShadow_of_heads (o : POpts) (s : List Nat) (fv : Bool)
    (hh : SpecialHeadsOK c o) (hrad : c.feats.powerOfTwo = false → c.mantissaRadix ≤ 10) (hr1 : 1 ≤ c.mantissaRadix)
    (hm : c.requiredMantissaDigits = true) : NoShadow c o s fv := by
  intro neg b _ hsh
  obtain ⟨n, count, sp, h1, _, h3⟩ := hsh
  rw [parseSpecialComplete_eq] at h3
  cases hps : parsePositiveSpecial c o b with
  | error e => rw [hps] at h3; cases h3
  | ok r =>
    cases r with
    | none => rw [hps] at h3; cases h3
    | some pr =>
      obtain ⟨sp2, m⟩ := pr
      exact parseNumber_not_ok_of_special hb true o b neg fv sp2 m hh hrad hr1 hm hps _ h1

end

/-- `OptionsBuilder::build` only accepts special strings that start with `N`/`n` (NaN) resp. `I`/`i` (inf, infinity) -/
theorem special_head_cases (o : POpts) (hopt : optionsError o = none) (str : List Nat)
    (hstr : o.nan = some str ∨ o.inf = some str ∨ o.infinity = some str) :
    ∃ y ys, str = y :: ys ∧ (y = 73 ∨ y = 105 ∨ y = 78 ∨ y = 110) := by
  have hs := ((Validity.optionsError_none_iff o).mp hopt).special hstr
  cases str with
  | nil => rcases hs with h | h <;> exact absurd rfl h.ne_nil
  | cons y ys =>
    refine ⟨y, ys, rfl, ?_⟩
    rcases hs with h | h <;> have := h.head <;> simp at this <;> omega

theorem xor_head_cases (x y : Nat) (hy : y = 73 ∨ y = 105 ∨ y = 78 ∨ y = 110)
    (h : Nat.xor x y = 0 ∨ Nat.xor x y = 32) : x = 73 ∨ x = 105 ∨ x = 78 ∨ x = 110 := by
  have hc : Nat.xor (Nat.xor x y) y = x := by
    show (x ^^^ y) ^^^ y = x
    rw [Nat.xor_assoc, Nat.xor_self, Nat.xor_zero]
  rcases h with h | h <;> rw [h] at hc <;> rcases hy with rfl | rfl | rfl | rfl <;> subst hc <;> decide

theorem formatError_radix (feats : Features) (fmt : Format) (h : formatError feats fmt = none) :
    isValidRadix feats fmt.mantissaRadix = true := by
  rw [Validity.isValidRadix_spec]; exact decide_eq_true ((Validity.formatError_none_iff feats fmt).mp h).1

theorem validRadix_facts (feats : Features) (r : Nat) (h : isValidRadix feats r = true) :
    1 ≤ r ∧ ((feats.radix = true → feats.powerOfTwo = true) → feats.powerOfTwo = false → r ≤ 10) := by
  unfold isValidRadix at h
  split at h
  · next hrx =>
    simp only [Bool.and_eq_true, decide_eq_true_eq] at h
    exact ⟨by omega, fun hfeat hp => by rw [hfeat hrx] at hp; cases hp⟩
  · split at h
    · next hp =>
      simp only [Bool.or_eq_true, decide_eq_true_eq] at h
      exact ⟨by omega, fun _ hp2 => by rw [hp] at hp2; cases hp2⟩
    · simp only [decide_eq_true_eq] at h
      exact ⟨by omega, fun _ _ => by omega⟩

end LexVerif.Proof.C11
