import LexVerif.Proof.ParseNumberTotalMany
import LexVerif.Proof.IterSpecial
/-!
# Proof.ParseNumberTotalMain — `parse_number`, `parse_complete/partial` and the special-value parsers in either build

`parseNumber_env` / `parseFloatSyntax_env`: `NumOK` / `SynOK` (counts and error indices inside the buffer, exponent
bounds, no `fault`, no `panic`) under `Env`; a release build owes nothing more (`parseNumber_tot`, `parseFloatSyntax_tot`).
-/
namespace LexVerif.Proof.PNTotal
open LexVerif LexVerif.Model LexVerif.Spec
open LexVerif.Proof.PNDebug (Safe)

variable {c : Cfg}

/-- what `parse_number` guarantees: the count between the cursor and the end of the buffer, the exponent within
`5·length` of the explicit one, whose magnitude is the accumulator over digits of the exponent radix; errors as `ErrOK` -/
def NumOK (c : Cfg) (b : Bytes) (r : Except Err (Number × Nat)) : Prop :=
  Wp (fun r => b.index ≤ r.2 ∧ r.2 ≤ b.slc.length ∧
      r.1.exponent.natAbs ≤ 5 * b.slc.length + r.1.explicitExp.natAbs ∧
      ∃ ds : List Nat, (∀ d ∈ ds, d < c.exponentRadix) ∧ r.1.explicitExp.natAbs = foldExponent c.exponentRadix 0 ds)
    (ErrOK b.slc.length) r

theorem NumOK.safe {b : Bytes} {r : Except Err (Number × Nat)} (h : NumOK c b r) :
    Safe r (fun r => r.2 ≤ b.slc.length) :=
  Safe.iff_wp.2 (Wp.mono h (fun _ _ p => p.2.1) fun _ => ErrOK.isKind)

/-- **`parse_number`, either build.** A debug build asserts a valid format and a non-empty buffer, and needs the
punctuation off the separator (`OCtx`) and, for the re-scan, `ManyDbg` of what the integer and fraction phases stored,
given what they did (`IntRun`, `FracRun`). -/
theorem parseNumber_env (cx : Env c) (isPartial : Bool) (o : POpts) (b : Bytes) (neg fv : Bool)
    (hv : b.index ≤ b.slc.length)
    (hdbg : c.debug = true → fv = true ∧ b.index < b.slc.length ∧ PNDebug.OCtx c o ∧
      ∀ ip fp, IntRun c b ip → FracRun c o ip.byte ip.mantissa fp → ManyDbg c ip fp (u64Step c.feats c.mantissaRadix)) :
    NumOK c b (parseNumber c isPartial o b neg fv) := by
  unfold parseNumber
  have hg1 : (c.debug && !fv) = false := by
    cases hd : c.debug
    · rfl
    · simp [(hdbg hd).1]
  have hg2 : (c.debug && b.isBufferEmpty) = false := by
    cases hd : c.debug
    · rfl
    · have := (hdbg hd).2.1
      simp [Bytes.isBufferEmpty]; omega
  simp only [hg1, hg2, Bool.false_eq_true, ↓reduceIte, bind, Except.bind, pure, Except.pure]
  have hI := integerPhase_env cx b hv
  cases hip : integerPhase c b with
  | error e => rw [hip] at hI; exact hI
  | ok ip =>
    rw [hip] at hI
    have hI : IntRun c b ip := hI
    have ha0 := hI.advStart
    have ha1 := hI.pass.adv
    have hnI := hI.nle
    have hlI := hI.len_le
    simp only
    have hF := fractionPhase_env cx o ip.byte ip.mantissa fun hd => (hdbg hd).2.2.1.dpOk
    cases hfp : fractionPhase c o ip.byte ip.mantissa with
    | error e =>
      rw [hfp] at hF
      have : ErrOK ip.byte.slc.length e := hF
      rw [(ha0.trans ha1).len] at this
      exact this
    | ok fp =>
      rw [hfp] at hF
      have hF : FracRun c o ip.byte ip.mantissa fp := hF
      have ha2 := hF.adv ha1.valid'
      have hnF := hF.nle
      have heF := hF.exp_le
      have hlF := hF.len_le
      simp only
      -- each phase leaves an `Adv` of the state it was given; every bound of `NumOK` is read off the chain
      have ha02 := ha0.trans (ha1.trans ha2)
      split
      · obtain ⟨v, b', hp, _⟩ := peek_env cx .integer ip.start ha0.valid'
        simp only [hp]
        split
        · exact ha02.valid
        · exact ha0.valid
      · have hE := exponentPhase_env cx (fp.byte.firstIs o.exp (c.caseSensitiveExponent && c.feats.format)) fp.byte
          fp.fraction fp.exponent ha2.valid' (fun h => firstIs_lt h)
          (fun h hd => (hdbg hd).2.2.1.expOk.imp id (firstIs_ne_sep h))
        cases hep : exponentPhase c (fp.byte.firstIs o.exp (c.caseSensitiveExponent && c.feats.format)) fp.byte
            fp.fraction fp.exponent with
        | error e =>
          rw [hep] at hE
          have : ErrOK fp.byte.slc.length e := hE
          rw [ha02.len] at this
          exact this
        | ok ep =>
          rw [hep] at hE
          obtain ⟨ha3, hexp, ds, hds, hmag⟩ := hE
          simp only
          obtain ⟨byte4, hsf, ha4⟩ := suffixPhase_env cx ep.byte ha3.valid'
          simp only [hsf]
          have ha04 := ha02.trans (ha3.trans ha4)
          have hlen1 : ip.start.slc.length = b.slc.length := ha0.len
          have hlen2 : ip.byte.slc.length = b.slc.length := (ha0.trans ha1).len
          have hm1 := ha1.mono
          have hv1 := ha1.valid
          have hm2 := ha2.mono
          have hv2 := ha2.valid
          have hnA : fp.nAfterDot ≤ b.slc.length := by omega
          have hexpb : ep.exponent.natAbs ≤ 5 * b.slc.length + ep.explicit.natAbs := by
            rw [hexp]; omega
          split
          · refine ⟨ha04.mono, ha04.valid, ?_, ds, hds, hmag⟩
            simp only
            split
            · simp
            · exact hexpb
          · obtain ⟨num, hm, hbnd, hex⟩ := manyDigitsPhase_env cx o neg ip fp ep (ip.nDigits + fp.nAfterDot)
              (u64Step c.feats c.mantissaRadix)
              (if (c.feats.format && !c.requiredMantissaDigits && decide (ip.nDigits + fp.nAfterDot = 0)) = true then 0
                else ep.exponent) byte4.index b.slc.length (fun hd => (hdbg hd).2.2.1.dpOk) ha0.valid' rfl
              (by rw [hlen1]; omega) (fun hbc _ => hI.bc hbc) hF.noFrac
              (by omega) (by omega) (fun fd hfd => by have := hlF fd hfd; omega)
              (fun hd => (hdbg hd).2.2.2 ip fp hI hF)
            rw [hm]
            refine ⟨ha04.mono, ha04.valid, ?_, ds, hds, by rw [hex]; exact hmag⟩
            show num.exponent.natAbs ≤ 5 * b.slc.length + num.explicitExp.natAbs
            rw [hex]
            rcases hbnd with h0 | h5
            · rw [h0]
              split
              · simp
              · exact hexpb
            · omega

theorem parseNumber_tot (hc : Rel c) (isPartial : Bool) (o : POpts) (b : Bytes) (neg fv : Bool)
    (hv : b.index ≤ b.slc.length) : NumOK c b (parseNumber c isPartial o b neg fv) :=
  parseNumber_env hc.env isPartial o b neg fv hv hc.nodbg

theorem parseCompleteNumber_of {o : POpts} {b : Bytes} {neg fv : Bool}
    (h : NumOK c b (parseNumber c false o b neg fv)) :
    match parseCompleteNumber c o b neg fv with
    | .ok num => num.exponent.natAbs ≤ 5 * b.slc.length + num.explicitExp.natAbs ∧
        ∃ ds : List Nat, (∀ d ∈ ds, d < c.exponentRadix) ∧ num.explicitExp.natAbs = foldExponent c.exponentRadix 0 ds
    | .error e => ErrOK b.slc.length e := by
  unfold parseCompleteNumber
  cases hp : parseNumber c false o b neg fv with
  | error e => rw [hp] at h; simp only [bind, Except.bind]; exact h
  | ok r =>
    obtain ⟨n, count⟩ := r
    rw [hp] at h
    simp only [bind, Except.bind, pure, Except.pure]
    by_cases hcl : count = b.bufferLength
    · simp only [hcl, ↓reduceIte]
      exact h.2.2
    · simp only [hcl, ↓reduceIte]
      exact h.2.1

/-- the special-value parsers meet no assertion: they succeed in every build (`IterSpec.parsePositiveSpecial_closed`) -/
theorem parsePositiveSpecial_ok (c : Cfg) (o : POpts) (b : Bytes) (hv : b.index ≤ b.slc.length) :
    ∃ r, parsePositiveSpecial c o b = .ok r ∧ ∀ s n, r = some (s, n) → n ≤ b.slc.length :=
  ⟨_, IterSpec.parsePositiveSpecial_closed c o b, fun _ _ h => (IterSpec.specialVal_bounds hv h).2⟩

theorem parseSpecialComplete_ok (c : Cfg) (o : POpts) (b : Bytes) : ∃ r, parseSpecialComplete c o b = .ok r :=
  ⟨_, IterSpec.parseSpecialComplete_closed c o b⟩

def Parsed.count : Parsed → Nat
  | .zero n => n
  | .number _ n => n
  | .special _ _ n => n

/-- what the entry points guarantee: counts and error indices inside the input; for a number the exponent bounds of
`NumOK` -/
def SynOK (c : Cfg) (input : List Nat) (r : Except Err Parsed) : Prop :=
  Wp (fun p => Parsed.count p ≤ input.length ∧
      (∀ num n, p = .number num n →
        num.exponent.natAbs ≤ 5 * input.length + num.explicitExp.natAbs ∧
        ∃ ds : List Nat, (∀ d ∈ ds, d < c.exponentRadix) ∧ num.explicitExp.natAbs = foldExponent c.exponentRadix 0 ds))
    (ErrOK input.length) r

theorem SynOK.safe {input : List Nat} {r : Except Err Parsed} (h : SynOK c input r) : Safe r (fun _ => True) :=
  Safe.iff_wp.2 (Wp.mono h (fun _ _ _ => trivial) fun _ => ErrOK.isKind)

/-- **the entry points, either build**, from `parse_number` in the states they call it in -/
theorem parseFloatSyntax_env (cx : Env c) (o : POpts) (isPartial : Bool) (input : List Nat) (fv : Bool)
    (hnum : ∀ (part neg : Bool) (b1 b2 : Bytes) (consumed : Bool),
      parseSign c c.noPositiveMantissaSign c.requiredMantissaSign "InvalidPositiveSign" "MissingSign" (Bytes.new input)
        = .ok (neg, b1) → b1.index ≤ b1.slc.length → isConsumed c .integer b1 = .ok (consumed, b2) →
      b2.index < b2.slc.length → NumOK c b2 (parseNumber c part o b2 neg fv)) :
    SynOK c input (parseFloatSyntax c o isPartial input fv) := by
  unfold parseFloatSyntax
  simp only [bind, Except.bind, pure, Except.pure]
  have hs := parseSign_env cx c.noPositiveMantissaSign c.requiredMantissaSign "InvalidPositiveSign" "MissingSign"
    (Bytes.new input) (PNDebug.new_valid input)
  unfold parseMantissaSign
  cases hps : parseSign c c.noPositiveMantissaSign c.requiredMantissaSign "InvalidPositiveSign" "MissingSign"
      (Bytes.new input) with
  | error e => rw [hps] at hs; exact hs
  | ok r =>
    obtain ⟨neg, b1⟩ := r
    rw [hps] at hs
    have ha1 : Adv (Bytes.new input) b1 := hs
    have hlen1 : b1.slc.length = input.length := ha1.len
    simp only
    obtain ⟨consumed, b2, hic, hm2, hne⟩ := isConsumed_env cx .integer b1 ha1.valid'
    have ha2 := hm2.adv
    simp only [hic]
    have ha12 := ha1.trans ha2
    have hlen2 : b2.slc.length = input.length := ha12.len
    have hv2 : b2.index ≤ input.length := ha12.valid
    cases consumed with
    | true =>
      simp only [if_true]
      split
      · exact hv2
      · exact ⟨hv2, by intro num n h; cases h⟩
    | false =>
      simp only [Bool.false_eq_true, if_false]
      cases isPartial with
      | true =>
        simp only [if_true]
        have hN := hnum true neg b1 b2 false hps ha1.valid' hic (hne rfl)
        cases hpn : parseNumber c true o b2 neg fv with
        | ok r =>
          obtain ⟨num, count⟩ := r
          rw [hpn] at hN
          obtain ⟨_, hcl, hb1, hb2⟩ := hN
          rw [hlen2] at hcl hb1
          refine ⟨hcl, ?_⟩
          intro num' n' h
          simp only [Parsed.number.injEq] at h
          obtain ⟨rfl, rfl⟩ := h
          exact ⟨hb1, hb2⟩
        | error e =>
          rw [hpn] at hN
          cases e with
          | err k i =>
            simp only
            obtain ⟨r, hsp, hle⟩ := parsePositiveSpecial_ok c o b2 ha2.valid'
            simp only [hsp]
            cases r with
            | none => have : i ≤ b2.slc.length := hN; rw [hlen2] at this; exact this
            | some p =>
              obtain ⟨s, n⟩ := p
              have := hle s n rfl
              rw [hlen2] at this
              exact ⟨this, by intro num n h; cases h⟩
          | panic t => exact hN.elim
          | fault t => exact hN.elim
      | false =>
        simp only [Bool.false_eq_true, if_false]
        have hN := parseCompleteNumber_of (hnum false neg b1 b2 false hps ha1.valid' hic (hne rfl))
        cases hpn : parseCompleteNumber c o b2 neg fv with
        | ok num =>
          rw [hpn] at hN
          rw [hlen2] at hN
          refine ⟨Nat.le_refl _, ?_⟩
          intro num' n' h
          simp only [Parsed.number.injEq] at h
          obtain ⟨rfl, rfl⟩ := h
          exact hN
        | error e =>
          rw [hpn] at hN
          cases e with
          | err k i =>
            simp only
            obtain ⟨r, hsp⟩ := parseSpecialComplete_ok c o b2
            simp only [hsp]
            cases r with
            | none => have : i ≤ b2.slc.length := hN; rw [hlen2] at this; exact this
            | some s => exact ⟨Nat.le_refl _, by intro num n h; cases h⟩
          | panic t => exact hN.elim
          | fault t => exact hN.elim

theorem parseFloatSyntax_tot (hc : Rel c) (o : POpts) (isPartial : Bool) (input : List Nat) (fv : Bool) :
    SynOK c input (parseFloatSyntax c o isPartial input fv) :=
  parseFloatSyntax_env hc.env o isPartial input fv fun part neg _ b2 _ _ _ _ hlt =>
    parseNumber_tot hc part o b2 neg fv (Nat.le_of_lt hlt)

/-- `format.is_valid()` excludes the `unreachable!()` arm of every `peek` -/
theorem rel_of_valid (c : Cfg) (hd : c.debug = false) (h : (formatError c.feats c.fmt).isNone = true) : Rel c :=
  ⟨hd, PNDebug.skip_ne_unreachable c h⟩

end LexVerif.Proof.PNTotal
