import LexVerif.Proof.FormatValid
import LexVerif.Proof.CharDigitParser
import LexVerif.Proof.OptionsValid
import LexVerif.Model.ParseNumber
import LexVerif.Model.WriteFloat
/-!
# Proof.Validity — the validators the parser and the writer call are the documented predicates

The crates' validators are transcribed more than once: C18 is about `Model.FormatError.formatError` and the builders
of `Model.OptionsValid`, while the float parser's entry points call `Model.formatError` / `Model.optionsError`
(`Model/ParseNumber.lean`) and the float writer's `Model.WriteFloat.wOptsError`. Here each of those is shown to be
the same chain of checks (`formatError_eq`, `optionsError_chain`, `wOptsError_chain`). The parser's two succeed exactly
on `Spec.FormatValid` / `Spec.ParseOptionsValid` (`formatError_none_iff`, `optionsError_none_iff`); for the writer's
`wOptsError` there is the chain and the part of `Spec.WriteOptionsValid` that needs no `NonZero` invariant of the
field types (`wOptsError_strings`). The entry points' check of the option characters against the format is
`Spec.OptionsPunctuationValid` (`optionsPunctuation_iff`). A theorem about the parser or the writer that assumes "the
format / the options passed validation" takes the facts it needs from these predicates by name
(`FormatValid.mantissaRadix`, `ParseOptionsValid.nan` …, in `Proof/FormatValid`, `Proof/OptionsValid`), so that the
theorems of C18 about the validators are what those results rest on.
-/
namespace LexVerif.Proof.Validity
open LexVerif.Spec LexVerif.Model LexVerif.Props.C18 LexVerif.Proof.CheckChain

/-! ## the parser's `formatError`

The per-test lemmas below carry the names of their twins about `Model.FormatError` in `Props.C18`
(`Proof/FormatValid`); inside this namespace the unqualified names are the ones about the parser's functions. -/

theorem isValidRadix_spec (feats : Features) (r : Nat) : isValidRadix feats r = decide (RadixSupported feats r) := by
  unfold isValidRadix RadixSupported
  by_cases hr : feats.radix = true
  · simp [hr]
  · by_cases hp : feats.powerOfTwo = true <;> simp [hr, hp, Bool.or_assoc]

theorem control_spec (fmt : Format) (v : Nat) :
    isValidOptionalControl fmt v = decide (v = 0 ∨ ControlChar (unpack fmt.raw).digitRadix v) := by
  have e : (if fmt.mantissaRadix > fmt.exponentRadix then fmt.mantissaRadix else fmt.exponentRadix) =
      (unpack fmt.raw).digitRadix := by
    show _ = max fmt.mantissaRadix fmt.exponentRadix
    split <;> omega
  unfold isValidOptionalControl
  simp only [e]
  unfold ControlChar ValidAscii isValidAscii
  rw [Bool.eq_iff_iff]
  by_cases hv : v < 256
  case neg => simp; omega
  rw [CharDigit.charToDigit_eq v _ hv (digitRadix_le fmt.raw)]
  by_cases hz : v = 0
  · subst hz; simp [show digitVal (unpack fmt.raw).digitRadix 0 = none from rfl]
  · simp [hz]
    constructor
    · rintro ⟨⟨⟨a, b⟩, c⟩, d⟩; exact ⟨d, a, b, c⟩
    · rintro ⟨d, a, b, c⟩; exact ⟨⟨⟨a, b⟩, c⟩, d⟩

theorem optControl_spec (fmt : Format) (en : Bool) (v : Nat) :
    (if en then isValidOptionalControl fmt v else decide (v = 0)) =
      decide (OptionalControl en (unpack fmt.raw).digitRadix v) := by
  unfold OptionalControl
  cases en
  · simp
  · simp [control_spec fmt v]

theorem punctuation_spec (feats : Features) (fmt : Format)
    (hs : OptionalControl feats.format (unpack fmt.raw).digitRadix (unpack fmt.raw).digitSeparator) :
    isValidPunctuation feats fmt = decide (PunctuationDistinct (unpack fmt.raw)) := by
  have h0 : feats.format = false → fmt.digitSeparator = 0 := fun hf => (hf ▸ hs).absent
  unfold isValidPunctuation PunctuationDistinct
  show _ = decide ((fmt.digitSeparator ≠ 0 → fmt.basePrefix ≠ 0 → fmt.digitSeparator ≠ fmt.basePrefix) ∧
    (fmt.digitSeparator ≠ 0 → fmt.baseSuffix ≠ 0 → fmt.digitSeparator ≠ fmt.baseSuffix) ∧
    (fmt.basePrefix ≠ 0 → fmt.baseSuffix ≠ 0 → fmt.basePrefix ≠ fmt.baseSuffix))
  generalize fmt.digitSeparator = s at *
  generalize fmt.basePrefix = p
  generalize fmt.baseSuffix = q
  have : (!feats.format && decide (s ≠ 0)) = false := by cases hf : feats.format <;> simp [h0, hf]
  rw [this, if_neg Bool.false_ne_true, Bool.eq_iff_iff]
  simp only [Bool.if_true_left, Bool.or_eq_true, Bool.and_eq_true, decide_eq_true_eq]
  omega

theorem sepMask_spec (a b c d : Bool) : (!a && !b && !c && d) = !decide (d = true → a = true ∨ b = true ∨ c = true) := by
  cases a <;> cases b <;> cases c <;> cases d <;> rfl

theorem flags_spec (fmt : Format) : Nat.land fmt.raw flagMask ≠ 12 ↔ ¬ FlagsAreDefault (unpack fmt.raw) := by
  have := flagMask_spec fmt.raw
  rw [show G.FLAG_MASK = flagMask by decide, show (G.REQUIRED_EXPONENT_DIGITS ||| G.REQUIRED_MANTISSA_DIGITS) = 12 by decide,
    Bool.eq_iff_iff, bne_iff_ne, Bool.not_eq_true', decide_eq_false_iff_not] at this
  exact this

/-- **the parser's transcription of `format_error_impl` is the chain of the documented checks** -/
theorem formatError_eq (feats : Features) (fmt : Format) :
    formatError feats fmt = firstFailed some none (checks feats (unpack fmt.raw)) := by
  unfold formatError checks
  simp only
  refine chain_step (isValidRadix_spec ..) fun _ => ?_
  refine chain_step (isValidRadix_spec ..) fun _ => ?_
  refine chain_step (isValidRadix_spec ..) fun _ => ?_
  refine chain_step (optControl_spec fmt _ _) fun s1 => ?_
  refine chain_step (optControl_spec fmt _ _) fun _ => ?_
  refine chain_step (optControl_spec fmt _ _) fun _ => ?_
  refine chain_step (punctuation_spec feats fmt s1) fun _ => ?_
  cases hf : feats.format
  · simp only [Bool.not_false, if_true, Bool.false_eq_true, if_false]
    exact chain_step_not (flags_spec fmt) fun _ => rfl
  · simp only [Bool.not_true, Bool.false_eq_true, if_false, if_true]
    refine chain_step_bad (and_eq_not_decide _ _) fun _ => ?_
    refine chain_step_bad (and_eq_not_decide _ _) fun _ => ?_
    refine chain_step_bad (and_eq_not_decide _ _) fun _ => ?_
    rw [ite_twice]
    refine chain_step_bad (or_and_eq_not_decide _ _ _) fun _ => ?_
    refine chain_step_bad (sepMask_spec _ _ _ _) fun _ => ?_
    refine chain_step_bad (sepMask_spec _ _ _ _) fun _ => ?_
    exact chain_step_bad (sepMask_spec _ _ _ _) fun _ => rfl

theorem formatError_none_iff (feats : Features) (fmt : Format) :
    formatError feats fmt = none ↔ FormatValid feats (unpack fmt.raw) := by
  rw [formatError_eq, firstFailed_eq_ok_iff fun _ _ => Option.some_ne_none _]
  exact checks_pass_iff feats _

section consumers
variable {feats : Features} {fmt : Format}

theorem valid_of (h : (formatError feats fmt).isNone = true) : FormatValid feats (unpack fmt.raw) :=
  (formatError_none_iff feats fmt).mp (Option.isNone_iff_eq_none.mp h)

theorem digitRadix_lt (h : (formatError feats fmt).isNone = true) : (unpack fmt.raw).digitRadix < 37 :=
  (valid_of h).digitRadix_lt

end consumers

/-! ## `is_valid_options_punctuation` of the parser's entry points -/

theorem isValidControl_spec (fmt : Format) (v : Nat) :
    isValidControl fmt v = decide (ControlChar (unpack fmt.raw).digitRadix v) := by
  have h0 : ¬ ControlChar (unpack fmt.raw).digitRadix 0 := fun h => by have := h.1; unfold ValidAscii at this; omega
  unfold isValidControl
  rw [control_spec fmt v]
  by_cases hv : v = 0
  · subst hv; simp [h0]
  · simp [hv]

/-- **the entry points' check of the option characters is the documented constraint** (`Spec.OptionsPunctuationValid`) -/
theorem optionsPunctuation_iff (feats : Features) (fmt : Format) (e d : Nat) :
    isValidOptionsPunctuation feats fmt e d = true ↔ OptionsPunctuationValid feats (unpack fmt.raw) e d := by
  unfold isValidOptionsPunctuation OptionsPunctuationValid
  rw [isValidControl_spec fmt d, isValidControl_spec fmt e]
  show _ ↔ _ ∧ _ ∧ _ ∧ (feats.format = true → fmt.digitSeparator ≠ d ∧ fmt.digitSeparator ≠ e ∧ fmt.basePrefix ≠ d ∧
    fmt.basePrefix ≠ e ∧ fmt.baseSuffix ≠ d ∧ fmt.baseSuffix ≠ e)
  by_cases h1 : ControlChar (unpack fmt.raw).digitRadix d <;> by_cases h2 : ControlChar (unpack fmt.raw).digitRadix e <;>
    by_cases h3 : d = e <;> cases feats.format <;> simp [h1, h2, h3, and_assoc]

section
variable {feats : Features} {fmt : Format} {e d R v r : Nat}

theorem punctuation_of (h : isValidOptionsPunctuation feats fmt e d = true) :
    OptionsPunctuationValid feats (unpack fmt.raw) e d := (optionsPunctuation_iff feats fmt e d).mp h

theorem _root_.LexVerif.Spec.OptionsPunctuationValid.decimalPoint (h : OptionsPunctuationValid feats (unpack fmt.raw) e d) :
    ControlChar (unpack fmt.raw).digitRadix d := h.1

theorem _root_.LexVerif.Spec.OptionsPunctuationValid.separator_ne (h : OptionsPunctuationValid feats (unpack fmt.raw) e d)
    (hf : feats.format = true) : fmt.digitSeparator ≠ d := (h.2.2.2 hf).1

theorem _root_.LexVerif.Spec.ControlChar.charToDigit_none (h : ControlChar R v) (hr : r ≤ R) (hR : R ≤ 255) :
    charToDigit v r = none := by
  rw [CharDigit.charToDigit_eq v r (by have := h.1.lt; omega) (by omega)]
  exact CharDigit.digitVal_none_mono h.2.1 hr

end

/-! ## the parser's `optionsError` and the writer's `wOptsError` read the tables of `Proof/OptionsValid` -/

theorem all_isValidLetter_eq (x : List Nat) : x.all Model.isValidLetter = decide (∀ c ∈ x, Letter c) := by
  rw [Bool.eq_iff_iff, decide_eq_true_eq, List.all_eq_true]
  refine forall_congr' fun c => forall_congr' fun _ => ?_
  rw [show Model.isValidLetter c = OptionsValid.isValidLetter c from rfl, isValidLetter_eq, decide_eq_true_eq]

/-- the per-string block of both transcriptions: a local function of `optionsError`, `specialError` of the writer -/
theorem strErr_chain (s : Option (List Nat)) (a b : Nat) (i t : String) :
    (match s with
      | some s =>
        if s.isEmpty || !(decide (s.head? = some a) || decide (s.head? = some b)) then some i
        else if !s.all Model.isValidLetter then some i
        else if s.length > 50 then some t
        else none
      | none => none) = firstFailed some none (strChecks s a b i t) := by
  cases s with
  | none => rfl
  | some x =>
    simp only [strChecks]
    refine chain_step_bad (by cases x <;> simp) fun _ => ?_
    refine chain_step (all_isValidLetter_eq x) fun _ => ?_
    exact chain_step_not (by omega) fun _ => rfl

theorem optionsError_chain (o : POpts) : optionsError o = firstFailed some none (parseChecks o) := by
  unfold optionsError parseChecks
  simp only
  refine chain_step (isValidAscii_eq _) fun _ => ?_
  refine chain_step (isValidAscii_eq _) fun _ => ?_
  refine chain_block (strErr_chain ..) ?_
  refine chain_step_bad (by cases o.inf <;> cases o.infinity <;> simp) fun _ => ?_
  refine chain_block (strErr_chain ..) ?_
  cases hy : o.infinity with
  | none => simp [strChecks, firstFailed]
  | some y =>
    refine chain_block (strErr_chain (some y) ..) ?_
    exact chain_step_not (by simp) fun _ => rfl

theorem optionsError_none_iff (o : POpts) : optionsError o = none ↔ ParseOptionsValid o := by
  rw [optionsError_chain, firstFailed_eq_ok_iff fun _ _ => Option.some_ne_none _]
  exact parseChecks_pass_iff o

theorem specialError_chain (s : Option (List Nat)) (a b : Nat) (i t : String) :
    WriteFloat.specialError s a b i t = firstFailed some none (strChecks s a b i t) := by
  rw [← strErr_chain]; cases s <;> rfl

theorem wOptsError_chain (o : WOpts) : WriteFloat.wOptsError o = firstFailed some none (writeChecks o) := by
  unfold WriteFloat.wOptsError writeChecks
  refine chain_block (specialError_chain ..) ?_
  refine chain_block (specialError_chain ..) ?_
  simp only
  refine chain_step_bad (by cases o.maxDigits <;> simp [← Nat.not_le]) fun _ => ?_
  refine chain_step_not (by omega) fun _ => ?_
  refine chain_step_not (by omega) fun _ => ?_
  refine chain_step (isValidAscii_eq _) fun _ => ?_
  exact chain_step (isValidAscii_eq _) fun _ => rfl

theorem wOptsError_strings (o : WOpts) (h : WriteFloat.wOptsError o = none) : WriteOptionsStringsValid o := by
  rw [wOptsError_chain, firstFailed_eq_ok_iff fun _ _ => Option.some_ne_none _] at h
  exact writeChecks_strings o h

end LexVerif.Proof.Validity
