import LexVerif.Proof.WriteIntJeaiiiArms
import LexVerif.Proof.WriteIntApi
/-!
# Proof.WriteIntDecimal — `@10alex`, and the comparison trees `from_u8 … from_u64` of `jeaiii.rs`
-/
namespace LexVerif.Model.WriteInt
open LexVerif.Spec

theorem wr2sub_spec (buf : Buf) (i m : Nat) (hm : m < 100) (hi : i + 2 ≤ buf.length) (h64 : i + 2 < 2 ^ 64) :
    wr2sub buf (i + 2) (2 * m) = .ok (splice buf i (pair 10 m), i) := by
  unfold wr2sub
  rw [subIdx_eq (i + 2) 2 (by omega) h64, Nat.add_sub_cancel, wr2_spec buf i m hm hi, bind_ok]

theorem pairs_two (m : Nat) (h : m < 10000) : pairs (padDigits 100 2 m) = pair 10 (m / 100) ++ pair 10 (m % 100) := by
  have e : m / 100 % 100 = m / 100 := Nat.mod_eq_of_lt (Nat.div_lt_of_lt_mul h)
  simp only [padDigits, pairs, e, List.nil_append, List.flatMap_cons, List.flatMap_nil, List.append_nil,
    List.singleton_append]

theorem wr4sub_spec (buf : Buf) (i v : Nat) (hi : i + 4 ≤ buf.length) (h64 : i + 4 < 2 ^ 64) :
    wr4sub buf (i + 4) v = .ok (splice buf i (pairs (padDigits 100 2 (v % 10000))), i) := by
  unfold wr4sub
  simp only [Lit.alex4, Lit.alex2]
  generalize hv : v % 10000 = m
  have hm : m < 10000 := by omega
  have h1 : m % 100 < 100 := Nat.mod_lt m (by omega)
  have h2 : m / 100 < 100 := Nat.div_lt_of_lt_mul hm
  rw [Nat.mul_comm 2 (m % 100), Nat.mul_comm 2 (m / 100), dbl_no_wrap _ 64 h1 (by omega), dbl_no_wrap _ 64 h2 (by omega),
    show i + 4 = i + 2 + 2 from rfl, wr2sub_spec buf (i + 2) _ h1 hi h64, bind_ok,
    wr2sub_spec _ i _ h2 (by rw [splice_length _ _ _ hi]; omega) (by omega),
    splice_prepend_len buf i _ _ 2 2 rfl rfl hi, pairs_two m hm]

/-- `@10alex` writes the ten (zero padded) digits of `lo` at `offset`, back to front: four, four, two -/
theorem wd10alex_spec (buf : Buf) (lo off : Nat) (hlo : lo < 10000000000) (hb : off + 10 ≤ buf.length)
    (h64 : off + 10 < 2 ^ 64) :
    wd10alex buf lo off = .ok (splice buf off (pairs (padDigits 100 5 lo)), off + 10) := by
  have hu : (10 + off) % usz = off + 6 + 4 := by rw [mod_usz (by omega)]; omega
  have ha : lo / 10000 / 10000 < 100 :=
    Nat.div_lt_of_lt_mul (n := 10000) (k := 100) (Nat.div_lt_of_lt_mul (n := 10000) (k := 1000000) hlo)
  have hl1 := splice_length buf (off + 6) (pairs (padDigits 100 2 (lo % 10000))) hb
  have hsplit : padDigits 100 5 lo = padDigits 100 1 (lo / 10000 / 10000) ++ padDigits 100 2 (lo / 10000 % 10000)
      ++ padDigits 100 2 (lo % 10000) := by
    rw [show 5 = 3 + 2 from rfl, padDigits_split 100 2 3 lo,
      show 3 = 1 + 2 from rfl, padDigits_split 100 2 1 (lo / 100 ^ 2)]
  unfold wd10alex
  simp only [Lit.alex4, hu]
  rw [wr4sub_spec buf (off + 6) lo hb h64, bind_ok,
    wr4sub_spec _ (off + 2) (lo / 10000) (by rw [hl1]; omega) (by omega), bind_ok, dbl_no_wrap _ 64 ha (by omega),
    wr2sub_spec _ off _ ha (by rw [splice_length _ _ _ (show off + 2 + 4 ≤ _ by rw [hl1]; omega), hl1]; omega)
      (by omega), bind_ok,
    splice_prepend_len buf (off + 2) _ _ 4 4 rfl rfl hb, splice_prepend_len buf off _ _ 2 8 rfl rfl hb,
    hsplit, pairs_append, pairs_append]
  simp only [padDigits, pairs, Nat.mod_eq_of_lt ha, List.nil_append, List.flatMap_cons, List.flatMap_nil,
    List.append_nil, List.append_assoc]

/-- an arm that is correct on every slice of length `N` gives the mantissa writer's contract -/
theorem onSlice_arm (N n : Nat) (f : Buf → Res (Buf × Nat)) (hlen : (numeral 10 n).length ≤ N)
    (hf : ∀ buf : Buf, buf.length = N → (numeral 10 n).length ≤ buf.length → ArmOK (f buf) buf n) :
    MantSpec (fun buffer => onSlice buffer N f) (numeral 10 n) N := by
  intro buffer hN
  have hl : (buffer.take N).length = N := by rw [List.length_take]; omega
  show onSlice buffer N f = _
  unfold onSlice sliceTo
  rw [if_pos hN, bind_ok, hf _ hl (by rw [hl]; exact hlen), bind_ok, splice_zero, List.append_assoc]
  congr 3
  conv => rhs; rw [← List.take_append_drop N buffer]
  rw [List.drop_append_of_le_length (by rw [hl]; exact hlen)]

theorem dec_len_le (n k : Nat) (hk : 1 ≤ k) (h : n < 10 ^ k) : (numeral 10 n).length ≤ k := by
  rw [numeral_length]; exact toDigits_length_le 10 n k (by omega) hk h

theorem small4_spec (bits : Nat) (buf : Buf) (n : Nat) (hbits : 8 ≤ bits) (h : n < 10000)
    (hb : (numeral 10 n).length ≤ buf.length) : ArmOK (small4 bits buf n) buf n := by
  unfold small4
  simp only [Lit.t2, Lit.t1, ge_iff_le]
  by_cases h2 : 100 ≤ n
  · rw [if_pos h2]; exact wd34_spec buf n h2 h hb
  · rw [if_neg h2]
    by_cases h1 : 10 ≤ n
    · rw [if_pos h1]; exact wd2_spec bits buf n hbits h1 (by omega) hb
    · rw [if_neg h1]; exact wd1_spec buf n (by omega) hb

theorem mid10_spec (buf : Buf) (n : Nat) (h1 : 10000 ≤ n) (h2 : n < 10000000000)
    (hb : (numeral 10 n).length ≤ buf.length) : ArmOK (mid10 buf n) buf n := by
  unfold mid10
  simp only [Lit.t9, Lit.t8, Lit.t6, ge_iff_le]
  by_cases c9 : 1000000000 ≤ n
  · rw [if_pos c9]; exact wd10u64_spec buf n c9 h2 hb
  · rw [if_neg c9]
    by_cases c8 : 100000000 ≤ n
    · rw [if_pos c8]; exact wd9_spec buf n c8 (by omega) hb
    · rw [if_neg c8]
      by_cases c6 : 1000000 ≤ n
      · rw [if_pos c6]; exact wd78_spec buf n c6 (by omega) hb
      · rw [if_neg c6]; exact wd56_spec buf n h1 (by omega) hb

theorem fromU8_spec (n : Nat) (hn : n < 256) : MantSpec (fromU8 n) (numeral 10 n) 3 := by
  refine onSlice_arm 3 n _ (dec_len_le n 3 (by omega) (by omega)) fun buf _ hbl => ?_
  simp only [Lit.t2, Lit.t1, ge_iff_le]
  by_cases h2 : 100 ≤ n
  · rw [if_pos h2]; exact wd3_spec buf n h2 (by omega) hbl
  · rw [if_neg h2]
    by_cases h1 : 10 ≤ n
    · rw [if_pos h1]; exact wd2_spec 8 buf n (by omega) h1 (by omega) hbl
    · rw [if_neg h1]; exact wd1_spec buf n (by omega) hbl

theorem fromU16_spec (n : Nat) (hn : n < 65536) : MantSpec (fromU16 n) (numeral 10 n) 5 := by
  refine onSlice_arm 5 n _ (dec_len_le n 5 (by omega) (by omega)) fun buf _ hbl => ?_
  simp only [Lit.t4, ge_iff_le]
  by_cases h4 : 10000 ≤ n
  · rw [if_pos h4]; exact wd5_spec buf n h4 (by omega) hbl
  · rw [if_neg h4]; exact small4_spec 16 buf n (by omega) (by omega) hbl

theorem fromU32_spec (n : Nat) (hn : n < 4294967296) : MantSpec (fromU32 n) (numeral 10 n) 10 := by
  refine onSlice_arm 10 n _ (dec_len_le n 10 (by omega) (by omega)) fun buf _ hbl => ?_
  simp only [Lit.t4, Lit.t8, Lit.t6, Lit.t9, ge_iff_le]
  by_cases h4 : n < 10000
  · rw [if_pos h4]; exact small4_spec 32 buf n (by omega) h4 hbl
  · rw [if_neg h4]
    by_cases h8 : n < 100000000
    · rw [if_pos h8]
      by_cases h6 : 1000000 ≤ n
      · rw [if_pos h6]; exact wd78_spec buf n h6 h8 hbl
      · rw [if_neg h6]; exact wd56_spec buf n (by omega) (by omega) hbl
    · rw [if_neg h8]
      by_cases h9 : 1000000000 ≤ n
      · rw [if_pos h9]; exact wd10_spec buf n h9 hn hbl
      · rw [if_neg h9]; exact wd9_spec buf n (by omega) (by omega) hbl

theorem splice_after (a cs : List Nat) (buf : Buf) :
    splice (a ++ buf.drop a.length) a.length cs = splice buf 0 (a ++ cs) := by
  unfold splice
  have h1 : (a ++ buf.drop a.length).take a.length = a := by simp
  have h2 : (a ++ buf.drop a.length).drop (a.length + cs.length) = buf.drop (a.length + cs.length) := by
    rw [List.drop_append]; simp [List.drop_drop]
  rw [h1, h2]; simp

theorem armOK_of_mant (f : Buf → Res (Buf × Nat)) (n need : Nat) (h : MantSpec f (numeral 10 n) need) (buf : Buf)
    (hb : need ≤ buf.length) : ArmOK (f buf) buf n := by
  unfold ArmOK; rw [h buf hb, splice_zero]

/-- one `@10alex` step: if the high part `m = n / 10^10` has been written at offset 0, writing the ten digits of
`n % 10^10` after it yields the numeral of `n` -/
theorem alex_step (buf : Buf) (n m : Nat) (r : Res (Buf × Nat)) (hm : n / 10000000000 = m) (hr : ArmOK r buf m)
    (hn : 10000000000 ≤ n) (hb : (numeral 10 n).length ≤ buf.length) (h64 : buf.length < 2 ^ 64) :
    ArmOK (r >>= fun w => wd10alex w.1 (n % 10000000000) w.2) buf n := by
  subst hm
  have hsplit : numeral 10 n = _ := numeral_split100 5 n hn
  have hlen : (numeral 10 n).length = (numeral 10 (n / 10000000000)).length + 10 := by
    rw [hsplit, List.length_append, pairs_length, padDigits_length]
  unfold ArmOK at hr ⊢
  rw [hr, bind_ok]
  simp only [splice_zero]
  have hl : (numeral 10 (n / 10000000000) ++ buf.drop (numeral 10 (n / 10000000000)).length).length = buf.length := by
    simp; omega
  rw [wd10alex_spec _ (n % 10000000000) _ (Nat.mod_lt _ (by omega)) (by rw [hl]; omega) (by omega)]
  rw [splice_after, ← hsplit, splice_zero, hlen]

theorem fromU64Impl_spec (n : Nat) (isSigned : Bool) (hn : n < 2 ^ 64)
    (hs : isSigned = true → n < 10000000000000000000) :
    MantSpec (fun b => fromU64Impl n b isSigned) (numeral 10 n) (if isSigned then 19 else 20) := by
  have hlenN : (numeral 10 n).length ≤ (if isSigned = true then 19 else 20) := by
    cases isSigned with
    | true => exact dec_len_le n 19 (by omega) (hs rfl)
    | false => exact dec_len_le n 20 (by omega) (Nat.lt_trans hn (by decide))
  refine onSlice_arm _ n _ hlenN fun buf hl hbl => ?_
  have hl20 : 19 ≤ buf.length ∧ buf.length ≤ 20 := by rw [hl]; cases isSigned <;> decide
  show ArmOK (if n < 10000 then _ else if n < 10000000000 then _ else _) buf n
  by_cases h4 : n < 10000
  · rw [if_pos h4]; exact small4_spec 64 buf n (by omega) h4 hbl
  · rw [if_neg h4]
    by_cases h10 : n < 10000000000
    · rw [if_pos h10]; exact mid10_spec buf n (by omega) h10 hbl
    · have hhi : n / Lit.t10 < 2 ^ 32 := Nat.div_lt_of_lt_mul (Nat.lt_trans hn (by decide))
      rw [if_neg h10, Nat.mod_eq_of_lt hhi]
      exact alex_step buf n _ _ rfl (armOK_of_mant (fromU32 _) _ 10 (fromU32_spec _ hhi) buf (by omega))
        (by omega) hbl (by omega)

theorem fromU64_spec (n : Nat) (hn : n < 2 ^ 64) : MantSpec (fromU64 n) (numeral 10 n) 20 :=
  fromU64Impl_spec n false hn (by simp)

theorem fromI64_spec (n : Nat) (hn : n < 10000000000000000000) : MantSpec (fromI64 n) (numeral 10 n) 19 :=
  fromU64Impl_spec n true (by omega) (fun _ => hn)

end LexVerif.Model.WriteInt
