import LexVerif.Proof.WriteRadixF
/-!
# Proof.WriteRadixTerm — the fraction loop of radix.rs: one step is exact up to ONE rounding; it terminates (Mathlib-free)

With `fraction ≤ 1` one iteration rounds only in `P = round(fraction · base)`; `digit = ⌊P⌋ ≤ radix` and the new
`fraction = P - digit` are exact (`frac_step`). `delta` at least doubles per iteration (`fmul_double`: rounding is
monotone and doubling is exact), starts at `≥ 2^-L`, and the loop exits once `delta ≥ 1 ≥ fraction`: at most `L + 1`
(1075 / 150) fraction digits, within the 1100 free bytes of the scratch buffer (`fracLoop_total`).
-/
namespace LexVerif.Proof.WriteRadixTerm
open LexVerif.Spec LexVerif.Model LexVerif.Proof.RoundNE LexVerif.Proof.WriteRadixF
open LexVerif.Model.WriteRadix
open LexVerif.Model.WriteInt (Res)

theorem le_one_iff {f : Fmt} (h : FOK f) {a : Nat} : a ≤ one f ↔ RoundNE.ival f a ≤ unit f := by
  rw [← (one_ival h).1]
  exact ⟨ival_mono f, le_of_ival_le f⟩

theorem lt_one_iff {f : Fmt} (h : FOK f) {a : Nat} : a < one f ↔ RoundNE.ival f a < unit f := by
  rw [← (one_ival h).1]
  exact lt_iff_ival_lt f

theorem fmul_le_base {f : Fmt} (h : FOK f) {r : Nat} (hrp : r < 2 * 2 ^ (f.p - 1)) {x : Nat} (hx : x ≤ one f) :
    fmul f x (ofNat f r) ≤ ofNat f r := by
  obtain ⟨hrv, hrf⟩ := ofNat_ival h hrp
  have e : fmul f (one f) (ofNat f r) = ofNat f r := by
    rw [fmul_eq, (one_ival h).1, hrv]
    exact roundNE_of_ival h.wf hrf (Nat.mul_pos (unit_pos f) (unit_pos f)) (by rw [hrv, unit_eq]; ac_rfl)
  exact Nat.le_trans (fmul_mono h.wf hx (Nat.le_refl _)) (Nat.le_of_eq e)

theorem frac_step {f : Fmt} (h : FOK f) {r : Nat} (hr36 : r ≤ 36) (hrp : r < 2 * 2 ^ (f.p - 1)) {x : Nat}
    (hx : x ≤ one f) :
    let P := fmul f x (ofNat f r)
    let digit := asU32 f P
    digit = RoundNE.ival f P / unit f ∧ digit ≤ r ∧
      RoundNE.ival f (fsub f P (ofNat f digit)) = RoundNE.ival f P % unit f ∧
      fsub f P (ofNat f digit) < one f := by
  intro P digit
  obtain ⟨hrv, hrf⟩ := ofNat_ival h hrp
  have hP : P ≤ ofNat f r := fmul_le_base h hrp hx
  have hPf : P < f.infBits := Nat.lt_of_le_of_lt hP hrf
  have hPv : RoundNE.ival f P ≤ r * unit f := by rw [← hrv]; exact ival_mono f hP
  have hq : RoundNE.ival f P / unit f ≤ r := by
    apply Nat.le_of_lt_succ
    rw [Nat.div_lt_iff_lt_mul (unit_pos f)]
    calc RoundNE.ival f P ≤ r * unit f := hPv
      _ < (r + 1) * unit f := Nat.mul_lt_mul_of_pos_right (Nat.lt_succ_self r) (unit_pos f)
  have hd : digit = RoundNE.ival f P / unit f := by
    show asU32 f P = _
    unfold asU32; rw [ival_eq]; omega
  have hdl : digit < 2 * 2 ^ (f.p - 1) := by omega
  obtain ⟨hdv, _⟩ := ofNat_ival h hdl
  obtain ⟨k, q, hqk, hq2⟩ := ival_decomp f P
  have hdvd : 2 ^ k ∣ RoundNE.ival f (ofNat f digit) := by
    rw [hdv, hd]; exact dvd_floor_part f hqk
  have hs := (fsub_exact h.wf hPf hqk hq2 hdvd).1
  have hmod : RoundNE.ival f (fsub f P (ofNat f digit)) = RoundNE.ival f P % unit f := by
    rw [hs, hdv, hd]
    have := Nat.div_add_mod (RoundNE.ival f P) (unit f)
    rw [Nat.mul_comm] at this
    omega
  refine ⟨hd, by omega, hmod, ?_⟩
  rw [lt_one_iff h, hmod]
  exact Nat.mod_lt _ (unit_pos f)

theorem frac_split {f : Fmt} (h : FOK f) {r : Nat} (hr36 : r ≤ 36) (hrp : r < 2 * 2 ^ (f.p - 1)) {x : Nat}
    (hx : x ≤ one f) :
    asU32 f (fmul f x (ofNat f r)) * unit f
      + RoundNE.ival f (fsub f (fmul f x (ofNat f r)) (ofNat f (asU32 f (fmul f x (ofNat f r)))))
      = RoundNE.ival f (fmul f x (ofNat f r)) := by
  obtain ⟨hd, _, hmod, _⟩ := frac_step h hr36 hrp hx
  rw [hmod, hd, Nat.mul_comm]
  exact Nat.div_add_mod _ _

theorem base_ge {f : Fmt} (h : FOK f) {r : Nat} (hr : 2 ≤ r) (hrp : r < 2 * 2 ^ (f.p - 1)) :
    2 * unit f ≤ RoundNE.ival f (ofNat f r) := by
  rw [(ofNat_ival h hrp).1]; exact Nat.mul_le_mul_right _ hr

theorem fmul_double {f : Fmt} (h : FOK f) {r : Nat} (hr : 2 ≤ r) (hrp : r < 2 * 2 ^ (f.p - 1)) {d : Nat}
    (hd : d < one f) : 2 * RoundNE.ival f d ≤ RoundNE.ival f (fmul f d (ofNat f r)) := by
  obtain ⟨k, q, hqk, hq2⟩ := ival_decomp f d
  obtain ⟨c, hc⟩ := exists_pattern f (k + 1) q hq2
  have hcv : RoundNE.ival f c = 2 * RoundNE.ival f d := by rw [hc, hqk, Nat.pow_succ]; ac_rfl
  have hT2 : 2 < 2 * 2 ^ (f.p - 1) := by have := two_le_two_pow h.wf; omega
  have h2 := ofNat_ival h (n := 2) hT2
  have hcf : c < f.infBits := by
    apply Nat.lt_trans _ h2.2
    apply lt_of_ival_lt f
    rw [hcv, h2.1]
    have := (lt_one_iff h).mp hd
    omega
  have := ival_mono f (fmul_ge_double h.wf hcf hcv (base_ge h hr hrp))
  omega

theorem fracLoop_total (cf : Bool) {f : Fmt} (h : FOK f) {r : Nat} (hr : 2 ≤ r) (hr36 : r ≤ 36) (hrp : r < 2 * 2 ^ (f.p - 1)) :
    ∀ (fuel fraction delta : Nat) (acc : List Nat), fraction ≤ one f → delta < one f →
      unit f ≤ RoundNE.ival f delta * 2 ^ fuel → ∃ x, fracLoop cf f r (ofNat f r) fuel fraction delta acc = .ok x
  | 0, _, delta, _, _, hd, hu => by
    have := (lt_one_iff h).mp hd
    simp at hu; omega
  | fuel + 1, fraction, delta, acc, hfr, hd, hu => by
    obtain ⟨_, _, _, hlt⟩ := frac_step h hr36 hrp hfr
    have hdbl := fmul_double h hr hrp hd
    unfold fracLoop
    dsimp only
    split
    · exact ⟨_, rfl⟩
    · split
      · exact ⟨_, rfl⟩
      · rename_i hnge
        refine fracLoop_total cf h hr hr36 hrp fuel _ _ _ (Nat.le_of_lt hlt) (Nat.lt_trans (Nat.lt_of_not_le hnge) hlt) ?_
        calc unit f ≤ RoundNE.ival f delta * 2 ^ (fuel + 1) := hu
          _ = 2 * RoundNE.ival f delta * 2 ^ fuel := by rw [Nat.pow_succ]; ac_rfl
          _ ≤ _ := Nat.mul_le_mul_right _ hdbl

theorem deltaOf_pos (f : Fmt) (bits : Nat) : 1 ≤ deltaOf f bits := by
  unfold deltaOf
  dsimp only
  generalize (if bits = maxFinite f then fmul f (half f) (fsub f bits (bits - 1))
    else fmul f (half f) (fsub f (bits + 1) bits)) = d
  split <;> omega

theorem genFraction_total (cf : Bool) {f : Fmt} (h : FOK f) (hL : L f ≤ halfSize) {r : Nat} (hr : 2 ≤ r) (hr36 : r ≤ 36)
    (hrp : r < 2 * 2 ^ (f.p - 1)) {bits : Nat} (hb : bits < f.infBits) : ∃ x, genFraction cf f r bits = .ok x := by
  unfold genFraction
  dsimp only
  split
  · rename_i hgt
    have hfr : fsub f bits (ffloor f bits) < one f := by
      rw [lt_one_iff h, fsub_ffloor_exact h.wf hb]; exact Nat.mod_lt _ (unit_pos f)
    have hd1 : 1 ≤ RoundNE.ival f (deltaOf f bits) := by
      rw [← RoundNE.ival_one_pattern f]; exact ival_mono f (deltaOf_pos f bits)
    obtain ⟨x, hx⟩ := fracLoop_total cf h hr hr36 hrp halfSize _ _ [] (Nat.le_of_lt hfr) (Nat.lt_trans hgt hfr) (by
      calc unit f = 2 ^ L f := unit_eq f
        _ ≤ 2 ^ halfSize := Nat.pow_le_pow_right (by decide) hL
        _ ≤ RoundNE.ival f (deltaOf f bits) * 2 ^ halfSize := Nat.le_mul_of_pos_left _ hd1)
    rw [hx]
    exact ⟨_, rfl⟩
  · exact ⟨_, rfl⟩

end LexVerif.Proof.WriteRadixTerm
