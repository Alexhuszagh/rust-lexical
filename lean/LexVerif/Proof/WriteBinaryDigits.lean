import LexVerif.Proof.Numeral
import LexVerif.Model.WriteBinary
/-!
# Proof.WriteBinaryDigits — list facts under `writeBinary_exact_holds`: trailing-zero trimming, the digit count of a
number of known bit length in radix `2^bpd`, non-zero leading digit.
-/
namespace LexVerif.Proof.WriteBinaryDigits
open LexVerif.Spec LexVerif.Model.WriteBinary

theorem takeWhile_all {p : Nat → Bool} : ∀ (l : List Nat) (x : Nat), x ∈ l.takeWhile p → p x = true
  | [], _, h => by simp at h
  | a :: l, x, h => by
    simp only [List.takeWhile] at h
    split at h
    · rcases List.mem_cons.mp h with h | h
      · subst h; assumption
      · exact takeWhile_all l x h
    · simp at h

theorem rtrim_append {α : Type} (p : α → Bool) (l : List α) :
    l = (l.reverse.dropWhile p).reverse ++ (l.reverse.takeWhile p).reverse := by
  rw [← List.reverse_append, List.takeWhile_append_dropWhile, List.reverse_reverse]

theorem rtrimZeros_spec (ds : List Nat) :
    ∃ k, ds = rtrimZeros ds ++ List.replicate k 0 ∧ k + (rtrimZeros ds).length = ds.length := by
  unfold rtrimZeros
  have h := rtrim_append (· = 0) ds
  have hz : ∀ x ∈ ds.reverse.takeWhile (· = 0), x = 0 := by
    intro x hx
    have := takeWhile_all _ _ hx
    simpa using this
  have hrep : ds.reverse.takeWhile (· = 0) = List.replicate (ds.reverse.takeWhile (· = 0)).length 0 :=
    List.eq_replicate_iff.mpr ⟨rfl, hz⟩
  refine ⟨(ds.reverse.takeWhile (· = 0)).length, ?_, ?_⟩
  · rw [hrep, List.reverse_replicate] at h
    exact h
  · have := congrArg List.length h
    simp only [List.length_append, List.length_reverse] at this ⊢
    omega

theorem rtrimZeros_cons_ne_zero (d : Nat) (t : List Nat) (hd : d ≠ 0) : rtrimZeros (d :: t) = d :: rtrimZeros t := by
  unfold rtrimZeros
  rw [List.reverse_cons, List.dropWhile_append]
  by_cases h : (t.reverse.dropWhile (· = 0)).isEmpty = true
  · rw [if_pos h]
    have : t.reverse.dropWhile (· = 0) = [] := List.isEmpty_iff.mp h
    rw [this]
    simp [List.dropWhile, hd]
  · rw [if_neg h, List.reverse_append]; simp

theorem rtrimZeros_replicate_zero (k : Nat) : rtrimZeros (List.replicate k 0) = [] := by
  unfold rtrimZeros
  rw [List.reverse_replicate, List.dropWhile_replicate]
  rfl

theorem toDigits_length_pow2 (bpd v L : Nat) (hb : 1 ≤ bpd) (hL : 1 ≤ L) (h1 : 2 ^ (L - 1) ≤ v) (h2 : v < 2 ^ L) :
    (toDigits (2 ^ bpd) v).length = (L - 1) / bpd + 1 :=
  toDigits_length_two_pow bpd v (L - 1) hb (by rw [Nat.sub_add_cancel hL]; exact h2) (Or.inr h1)

theorem toDigits_head_pos (r v : Nat) (hr : 2 ≤ r) (hv : 0 < v) :
    ∃ d t, toDigits r v = d :: t ∧ d ≠ 0 := by
  have hne := toDigits_ne_nil r v hr
  have hh := toDigits_head_ne_zero r v hr (by omega)
  cases hds : toDigits r v with
  | nil => exact absurd hds hne
  | cons d t =>
    refine ⟨d, t, rfl, ?_⟩
    rw [hds] at hh
    simpa using hh

end LexVerif.Proof.WriteBinaryDigits
