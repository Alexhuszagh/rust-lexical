import LexVerif.Proof.Numeral
import LexVerif.Model.WriteInt
/-!
# Proof.WriteIntBasic — monad / buffer lemmas for `Model.WriteInt`; the induction for its loops with fuel
-/
namespace LexVerif.Model.WriteInt
open LexVerif.Spec

@[simp] theorem bind_ok {α β : Type} (a : α) (f : α → Res β) : (Res.ok a >>= f) = f a := rfl
@[simp] theorem bind_fault {α β : Type} (f : α → Res β) : ((Res.fault : Res α) >>= f) = Res.fault := rfl
@[simp] theorem bind_panic {α β : Type} (f : α → Res β) : ((Res.panic : Res α) >>= f) = Res.panic := rfl
@[simp] theorem pure_eq {α : Type} (a : α) : (pure a : Res α) = Res.ok a := rfl

theorem set_mid (p : List Nat) (x v : Nat) (s : List Nat) : (p ++ x :: s).set p.length v = p ++ v :: s := by
  induction p with
  | nil => rfl
  | cons a p ih => simp only [List.cons_append, List.length_cons, List.set_cons_succ, ih]

theorem mid_lt_length (p : List Nat) (x : Nat) (s : List Nat) : p.length < (p ++ x :: s).length := by
  rw [List.length_append, List.length_cons]; omega

theorem setC_mid (p : List Nat) (x v : Nat) (s : List Nat) : setC (p ++ x :: s) p.length v = .ok (p ++ v :: s) := by
  rw [setC, if_pos (mid_lt_length p x s), set_mid]

theorem div_mod_of_eq (x K a L : Nat) (h : x = a * K + L) (hL : L < K) : x / K = a ∧ x % K = L := by
  subst h
  have hK : 0 < K := by omega
  constructor
  · rw [Nat.mul_comm, Nat.mul_add_div hK, Nat.div_eq_of_lt hL]; simp
  · rw [Nat.mul_comm, Nat.mul_add_mod, Nat.mod_eq_of_lt hL]

theorem tableLen_eq (r : Nat) : tableLen r = 2 * (r * r) := Nat.mul_assoc 2 r r

theorem mod_usz {i : Nat} (h : i < 2 ^ 64) : i % usz = i := Nat.mod_eq_of_lt h

theorem subIdx_eq (i k : Nat) (h1 : k ≤ i) (h2 : i < 2 ^ 64) : subIdx i k = i - k := by
  unfold subIdx usz; omega

theorem digitToChar_ok (d : Nat) (h : d < 36) : digitToChar d = .ok (digitChar d) := by
  simp [digitToChar, h]

theorem two_le_pow (r k : Nat) (hr : 2 ≤ r) (hk : 1 ≤ k) : 2 ≤ r ^ k :=
  calc 2 ≤ r := hr
    _ = r ^ 1 := (Nat.pow_one r).symm
    _ ≤ r ^ k := Nat.pow_le_pow_right (by omega) hk

/-- Induction for a loop `while n ≥ d { …; n /= d }` run with fuel `f`, started with `n < 2 ^ f`: every
iteration at least halves `n`, so the loop is never entered with the fuel used up. -/
theorem radix_fuel_induction {P : Nat → Nat → Prop} (d : Nat) (hd : 2 ≤ d)
    (base : ∀ n f, n < d → P n (f + 1))
    (step : ∀ n f, d ≤ n → P (n / d) f → P n (f + 1)) :
    ∀ n f, n < 2 ^ f → 1 ≤ f → P n f := by
  intro n
  induction n using radix_induction d hd with
  | base n h =>
    intro f _ hf1
    obtain ⟨f, rfl⟩ : ∃ g, f = g + 1 := ⟨f - 1, by omega⟩
    exact base n f h
  | step n h ih =>
    intro f hf hf1
    obtain ⟨f, rfl⟩ : ∃ g, f = g + 1 := ⟨f - 1, by omega⟩
    have hdiv : n / d < 2 ^ f := by
      rw [Nat.pow_succ] at hf
      exact Nat.div_lt_of_lt_mul (Nat.lt_of_lt_of_le hf (by rw [Nat.mul_comm]; exact Nat.mul_le_mul_right _ hd))
    have hpos : 1 ≤ f := by
      rcases Nat.eq_zero_or_pos f with rfl | h0
      · omega
      · exact h0
    exact step n f h (ih f hdiv hpos)

theorem numeral_length (r n : Nat) : (numeral r n).length = (toDigits r n).length := by simp [numeral]

theorem numeral_lt (r v : Nat) (h : v < r) : numeral r v = [digitChar v] := by
  rw [numeral, toDigits_lt r v h]; rfl

theorem toDigits_length_le_bits (r n k : Nat) (hr : 2 ≤ r) (hk : 1 ≤ k) (h : n < 2 ^ k) :
    (toDigits r n).length ≤ k :=
  toDigits_length_le r n k hr hk (Nat.lt_of_lt_of_le h (Nat.pow_le_pow_left hr k))

theorem numeral_split (r n S : Nat) (hr : 2 ≤ r) (h : r ^ S ≤ n) :
    numeral r n = numeral r (n / r ^ S) ++ (padDigits r S (n % r ^ S)).map digitChar := by
  unfold numeral; rw [toDigits_split r hr S n h, List.map_append]

theorem len_split (r n S : Nat) (hr : 2 ≤ r) (h : r ^ S ≤ n) :
    (toDigits r n).length = (toDigits r (n / r ^ S)).length + S := by
  rw [toDigits_split r hr S n h, List.length_append, padDigits_length]

theorem lt_loopFuel {v bits : Nat} (hv : v < 2 ^ bits) (hb : bits ≤ 128) : v < 2 ^ loopFuel :=
  Nat.lt_of_lt_of_le hv (Nat.pow_le_pow_right (by omega) (by unfold loopFuel; omega))

theorem loopFuel_pos : 1 ≤ loopFuel := by unfold loopFuel; omega

/-- `T::from_u32(radix)` keeps a radix, whatever the width -/
theorem radix_mod_bits {r bits : Nat} (hr36 : r ≤ 36) (hb8 : 8 ≤ bits) : r % 2 ^ bits = r := by
  have : (2:Nat) ^ 8 ≤ 2 ^ bits := Nat.pow_le_pow_right (by omega) hb8
  exact Nat.mod_eq_of_lt (by omega)

theorem copyToDst_ok (dst src : Buf) (h : src.length ≤ dst.length) :
    copyToDst dst src = .ok (src ++ dst.drop src.length, src.length) := by
  simp [copyToDst, h]

end LexVerif.Model.WriteInt
