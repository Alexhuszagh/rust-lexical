import LexVerif.Proof.LemireTrunc
/-!
# Proof.LemireStable — the stability argument and the fall-back answers, for any row

`quot_stable`: if the exact value `N` lies in `[z, z + c)·Dz` for the computed `z = hi·2^64 + lo` and the bits of
`z` below `2^(64+sh)` leave room for `c`, the upper bits `hi >> sh` are the quotient `N / (2^(64+sh)·Dz)`
(`upper_bits_lower`: the rows truncated down, unless `lo` is all ones on a truncated row, where the code falls back).
On the fall-back the answer is an estimate of the value (`EstOK`, `estOK_of_bounds`: the value lies in `[hi, hi + 2)`
units of the upper word) and the lossy answer is `roundNE` of the computed product read as exact, which is within `2^−61`
of the value (`LossyOK`, `cfRound_computed_normal/_sub`, `lossy_bounds`).
-/
namespace LexVerif.Proof.Lemire
open LexVerif.Spec LexVerif.Model LexVerif.Model.Lemire
open LexVerif.Proof.RoundNE LexVerif.Proof.ExtRound

theorem quot_stable (hi lo sh N Dz c B : Nat)
    (hlow : (hi * B + lo) * Dz ≤ N) (hup : N < (hi * B + lo + c) * Dz)
    (hc : hi % 2 ^ sh * B + lo + c ≤ 2 ^ sh * B) :
    N / (2 ^ sh * B * Dz) = hi / 2 ^ sh := by
  have hdm := Nat.div_add_mod hi (2 ^ sh)
  generalize 2 ^ sh = A at *
  generalize hi / A = m0 at *
  generalize hi % A = r at *
  have e1 : hi * B = A * m0 * B + r * B := by rw [← hdm]; ring
  apply Nat.div_eq_of_lt_le
  · calc m0 * (A * B * Dz) = (A * m0 * B) * Dz := by ring
      _ ≤ (hi * B + lo) * Dz := Nat.mul_le_mul_right _ (by rw [e1]; omega)
      _ ≤ N := hlow
  · calc N < (hi * B + lo + c) * Dz := hup
      _ ≤ (A * m0 * B + A * B) * Dz := Nat.mul_le_mul_right _ (by rw [e1]; omega)
      _ = (m0 + 1) * (A * B * Dz) := by ring

theorem room_of_lt {r A lo c B : Nat} (hr : r + 1 ≤ A) (hlo : lo + c ≤ B) : r * B + lo + c ≤ A * B := by
  have := Nat.mul_le_mul_right B hr
  rw [Nat.add_mul, Nat.one_mul] at this
  omega

theorem room_of_lt2 {r A lo c B : Nat} (hr : r + 2 ≤ A) (hlo : lo + c ≤ 2 * B) : r * B + lo + c ≤ A * B := by
  have := Nat.mul_le_mul_right B hr
  rw [Nat.add_mul] at this
  omega

theorem mod_not_allOnes {hi mb sh : Nat} (h : mb ≤ sh) (hm : hi % 2 ^ mb ≠ 2 ^ mb - 1) :
    hi % 2 ^ sh + 2 ≤ 2 ^ sh := by
  have hlt := Nat.mod_lt hi (Nat.two_pow_pos sh)
  apply Classical.byContradiction; intro hc
  have heq : hi % 2 ^ sh = 2 ^ sh - 1 := by omega
  apply hm
  have hdvd : 2 ^ mb ∣ 2 ^ sh := Nat.pow_dvd_pow 2 h
  rw [← Nat.mod_mod_of_dvd hi hdvd, heq]
  obtain ⟨d, hd⟩ : ∃ d, sh = mb + d := ⟨sh - mb, by omega⟩
  rw [hd, Nat.pow_add]
  have hA := Nat.two_pow_pos mb
  have hDp := Nat.two_pow_pos d
  generalize 2 ^ mb = A at *
  generalize 2 ^ d = D at *
  obtain ⟨D', rfl⟩ : ∃ D', D = D' + 1 := ⟨D - 1, by omega⟩
  have : A * (D' + 1) - 1 = A * D' + (A - 1) := by rw [Nat.mul_add, Nat.mul_one]; omega
  rw [this, Nat.mul_add_mod]
  exact Nat.mod_eq_of_lt (by omega)

theorem scale_row_down {wn T Dn A : Nat} (hwn0 : 0 < wn) (hlo : T * Dn ≤ A) (hhi : A < (T + 1) * Dn) :
    wn * T * Dn ≤ wn * A ∧ wn * A < (wn * T + wn) * Dn := by
  constructor
  · rw [Nat.mul_assoc]; exact Nat.mul_le_mul_left _ hlo
  · calc wn * A < wn * ((T + 1) * Dn) := Nat.mul_lt_mul_of_pos_left hhi hwn0
      _ = (wn * T + wn) * Dn := by ring

/-- **upper bits, rows truncated down** (generic in the scale `Dn`: `2^k` for `q ≥ 0`, `5^e` for `q ≤ −28`): with
`X = wn·T`, the exact value `N ∈ [X, X + wn)·Dn` and `lo` not all ones (or `N = X·Dn`), `hi >> sh` is the quotient of
`N` by `2^(64+sh)·2^64·Dn`. -/
theorem upper_bits_lower {p wn hi5 lo5 lo hi : Nat} (hp61 : p ≤ 61) (P : Product p wn hi5 lo5 lo hi) {N Dn : Nat}
    (hDn : 0 < Dn) (hNlo : wn * (hi5 * 2 ^ 64 + lo5) * Dn ≤ N)
    (hNhi : N < (wn * (hi5 * 2 ^ 64 + lo5) + wn) * Dn)
    (hsafe : lo + 2 ≤ 2 ^ 64 ∨ N = wn * (hi5 * 2 ^ 64 + lo5) * Dn)
    {u sh : Nat} (hu : hi / 2 ^ 63 = u) (hshv : u + 62 - p = sh) :
    N / (2 ^ sh * 2 ^ 64 * (2 ^ 64 * Dn)) = hi / 2 ^ sh := by
  obtain ⟨hwn1, hwn2, hlo, hhi, hhi62, hzlow, hzup⟩ := P
  obtain ⟨hu01, _, _⟩ := upper_word hp61 hhi hhi62 hu hshv
  generalize wn * (hi5 * 2 ^ 64 + lo5) = X at *
  have hB := Nat.two_pow_pos 64
  have hlowN : (hi * 2 ^ 64 + lo) * (2 ^ 64 * Dn) ≤ N := by
    calc (hi * 2 ^ 64 + lo) * (2 ^ 64 * Dn) = ((hi * 2 ^ 64 + lo) * 2 ^ 64) * Dn := by ring
      _ ≤ X * Dn := Nat.mul_le_mul_right _ hzlow
      _ ≤ N := hNlo
  have hmodlt := Nat.mod_lt hi (Nat.two_pow_pos sh)
  rcases hzup with h | ⟨hm, _, h⟩
  · rcases hsafe with hlo2 | hNX
    · apply quot_stable hi lo sh N _ 2 (2 ^ 64) hlowN ?_ ?_
      · calc N < (X + wn) * Dn := hNhi
          _ ≤ ((hi * 2 ^ 64 + lo + 2) * 2 ^ 64) * Dn := Nat.mul_le_mul_right _ (by
              have : (hi * 2 ^ 64 + lo + 2) * 2 ^ 64 = (hi * 2 ^ 64 + lo + 1) * 2 ^ 64 + 2 ^ 64 := by ring
              omega)
          _ = (hi * 2 ^ 64 + lo + 2) * (2 ^ 64 * Dn) := by ring
      · exact room_of_lt (by omega) (by omega)
    · apply quot_stable hi lo sh N _ 1 (2 ^ 64) hlowN ?_ ?_
      · rw [hNX]
        calc X * Dn < ((hi * 2 ^ 64 + lo + 1) * 2 ^ 64) * Dn := Nat.mul_lt_mul_of_pos_right h hDn
          _ = (hi * 2 ^ 64 + lo + 1) * (2 ^ 64 * Dn) := by ring
      · exact room_of_lt (by omega) (by omega)
  · have hm2 := mod_not_allOnes (show 62 - p ≤ sh by omega) hm
    apply quot_stable hi lo sh N _ (2 ^ 64 + 1) (2 ^ 64) hlowN ?_ ?_
    · calc N < (X + wn) * Dn := hNhi
        _ ≤ ((hi * 2 ^ 64 + lo + (2 ^ 64 + 1)) * 2 ^ 64) * Dn := Nat.mul_le_mul_right _ (by
            have : (hi * 2 ^ 64 + lo + (2 ^ 64 + 1)) * 2 ^ 64 =
                (hi * 2 ^ 64 + lo + 2 ^ 64) * 2 ^ 64 + 2 ^ 64 := by ring
            omega)
        _ = (hi * 2 ^ 64 + lo + (2 ^ 64 + 1)) * (2 ^ 64 * Dn) := by ring
    · exact room_of_lt2 hm2 (by omega)

/-- an exact tie shows as `lo = 0` with zero dropped bits -/
theorem tie_pattern_of_exact (hi lo sh N Dz : Nat)
    (hquot : N / (2 ^ sh * 2 ^ 64 * Dz) = hi / 2 ^ sh) (hgt : (hi * 2 ^ 64 + lo) * Dz < N + Dz)
    (hmod : N % (2 ^ sh * 2 ^ 64 * Dz) = 0) : lo = 0 ∧ hi % 2 ^ sh = 0 := by
  have hdmN := Nat.div_add_mod N (2 ^ sh * 2 ^ 64 * Dz)
  rw [hmod, Nat.add_zero, hquot] at hdmN
  have hdm := Nat.div_add_mod hi (2 ^ sh)
  have hB := Nat.two_pow_pos 64
  generalize 2 ^ sh = A at *
  generalize hi / A = m0 at *
  generalize hi % A = r at *
  generalize 2 ^ 64 = B at *
  have e1 : (hi * B + lo) * Dz = A * B * Dz * m0 + (r * B + lo) * Dz := by rw [← hdm]; ring
  have h1 : (r * B + lo) * Dz < 1 * Dz := by
    rw [Nat.one_mul]
    rw [e1, hdmN] at hgt
    generalize (r * B + lo) * Dz = V at *
    omega
  have h2 : r * B + lo < 1 := Nat.lt_of_mul_lt_mul_right h1
  have h3 : r * B = 0 := by omega
  refine ⟨by omega, ?_⟩
  rcases Nat.mul_eq_zero.mp h3 with h | h
  · exact h
  · omega

/-- what an invalid-marked answer `fp` of `compute_float` knows about the exact value `num/den`: its mantissa is
normalised, its un-biased exponent is small, and with `K`, `S` the exponent field and shift that rounding the un-biased estimate to the float format
uses, `mant·2^K ≤ (num/den)·2^L·2^S < (mant + 4)·2^K` (see `bracket_of_estW`). -/
def EstOK (F : FTy) (p : Nat) (fp : ExtendedFloat80) (num den : Nat) : Prop :=
  2 ^ 63 ≤ fp.mant ∧ fp.mant < 2 ^ 64 ∧ -(4096 : Int) ≤ fp.exp - invalidFp ∧ fp.exp - invalidFp ≤ 4096 ∧
  fp.mant * 2 ^ ((fp.exp - invalidFp) + 64 - p - 1).toNat * den ≤
    num * 2 ^ L F.fmt * 2 ^ shiftOf p (fp.exp - invalidFp) ∧
  num * 2 ^ L F.fmt * 2 ^ shiftOf p (fp.exp - invalidFp) <
    (fp.mant + 4) * 2 ^ ((fp.exp - invalidFp) + 64 - p - 1).toNat * den

theorem shift_rel (p : Nat) (hp : p ≤ 64) (P : Int) :
    (shiftOf p P : Int) + (P - 1) = ((P + 64 - p - 1).toNat : Int) := by
  unfold shiftOf
  split <;> omega

theorem hi_bounds_down {p wn hi5 lo5 lo hi : Nat} (P : Product p wn hi5 lo5 lo hi) {N Dn : Nat}
    (hNlo : wn * (hi5 * 2 ^ 64 + lo5) * Dn ≤ N) (hNhi : N < (wn * (hi5 * 2 ^ 64 + lo5) + wn) * Dn) :
    hi * (2 ^ 64 * (2 ^ 64 * Dn)) ≤ N ∧ N < (hi + 2) * (2 ^ 64 * (2 ^ 64 * Dn)) := by
  obtain ⟨_, hwn2, hlo, _, _, hzlow, hzup⟩ := P
  generalize wn * (hi5 * 2 ^ 64 + lo5) = X at *
  constructor
  · calc hi * (2 ^ 64 * (2 ^ 64 * Dn)) = (hi * 2 ^ 64 * 2 ^ 64) * Dn := by ring
      _ ≤ ((hi * 2 ^ 64 + lo) * 2 ^ 64) * Dn :=
        Nat.mul_le_mul_right _ (Nat.mul_le_mul_right _ (Nat.le_add_right _ _))
      _ ≤ X * Dn := Nat.mul_le_mul_right _ hzlow
      _ ≤ N := hNlo
  · have hXw : X + wn ≤ (hi + 2) * 2 ^ 64 * 2 ^ 64 := by
      generalize 2 ^ 64 = B at hzup hwn2 hlo ⊢
      have hX : X < (hi * B + lo + B) * B := by
        rcases hzup with h | ⟨_, _, h⟩
        · exact Nat.lt_of_lt_of_le h (Nat.mul_le_mul_right _ (by omega))
        · exact h
      have e1 : (hi * B + lo + B + 1) * B ≤ (hi * B + 2 * B) * B := Nat.mul_le_mul_right _ (by omega)
      rw [show (hi * B + lo + B + 1) * B = (hi * B + lo + B) * B + B by ring,
        show (hi * B + 2 * B) * B = (hi + 2) * B * B by ring] at e1
      omega
    calc N < (X + wn) * Dn := hNhi
      _ ≤ ((hi + 2) * 2 ^ 64 * 2 ^ 64) * Dn := Nat.mul_le_mul_right _ hXw
      _ = (hi + 2) * (2 ^ 64 * (2 ^ 64 * Dn)) := by ring

theorem ces_fields (F : FTy) (q : Int) (hi lz : Nat) (hhi : hi < 2 ^ 64) (hhi62 : 2 ^ 62 ≤ hi) :
    ∃ hilz : Nat, hilz ≤ 1 ∧ (computeErrorScaled F q hi lz).mant = hi * 2 ^ hilz ∧ 2 ^ 63 ≤ hi * 2 ^ hilz ∧
      hi * 2 ^ hilz < 2 ^ 64 ∧
      (computeErrorScaled F q hi lz).exp =
        power (wrapI32 q) + F.C.exponentBias - hilz - lz - 62 + invalidFp := by
  unfold computeErrorScaled shr shl64
  simp only []
  have hlit : litErrorBias = 62 := rfl
  rw [hlit]
  by_cases h63 : 2 ^ 63 ≤ hi
  · have hd : hi / 2 ^ 63 = 1 := by
      apply Nat.div_eq_of_lt_le <;> omega
    refine ⟨0, by omega, ?_, by omega, by omega, ?_⟩
    · rw [hd]; simp only [Nat.one_mod, if_true, Nat.pow_zero, Nat.mul_one]
      exact Nat.mod_eq_of_lt hhi
    · rw [hd]; simp
  · have hd : hi / 2 ^ 63 = 0 := Nat.div_eq_of_lt (by omega)
    refine ⟨1, by omega, ?_, by omega, by omega, ?_⟩
    · rw [hd]; simp only [Nat.zero_mod, Nat.zero_ne_one, if_false]
      exact Nat.mod_eq_of_lt (by omega)
    · rw [hd]; simp

/-- with `lossy`, `compute_float` answers on `(q, w)` with a valid float which is `roundNE` of a value `n'/d'` that is at
most the exact `num/den` and within a factor `1 + 2^−61` of it (the computed 128-bit product, read as exact) -/
def LossyOK (F : FTy) (q : Int) (w num den : Nat) : Prop :=
  ∃ fp n' d', computeFloat F q w true = .ok fp ∧ 0 ≤ fp.exp ∧ 0 < d' ∧
    extendedToFloat F fp = roundNE F.fmt n' d' ∧ n' * den ≤ num * d' ∧
    num * d' * 2 ^ 61 ≤ n' * den * (2 ^ 61 + 1)

theorem computed_word {hi lo : Nat} (sh : Nat) (hlo2 : 2 ≤ lo) (hlo : lo < 2 ^ 64) :
    hi / 2 ^ sh = (hi * 2 ^ 64 + lo) / (2 ^ sh * 2 ^ 64) ∧ ∀ D, 2 ^ 64 ∣ D → (hi * 2 ^ 64 + lo) % D ≠ 0 := by
  have hB := Nat.two_pow_pos 64
  constructor
  · rw [Nat.mul_comm (2 ^ sh), ← Nat.div_div_eq_div_mul, Nat.mul_comm hi, Nat.mul_add_div hB, Nat.div_eq_of_lt hlo,
      Nat.add_zero]
  · intro D hD h
    have h1 : 2 ^ 64 ∣ hi * 2 ^ 64 + lo := Nat.dvd_trans hD (Nat.dvd_of_mod_eq_zero h)
    have h2 : 2 ^ 64 ∣ lo := (Nat.dvd_add_right ⟨hi, Nat.mul_comm _ _⟩).mp h1
    have := Nat.le_of_dvd (by omega) h2
    omega

/-- **`cfRound` on a product with `lo ≥ 2`** (normal range): no tie is detected and the computed `z = hi·2^64 + lo` is not
a multiple of the rounding unit, so the answer is `roundNE` of `z` itself, scaled -/
theorem cfRound_computed_normal {F p eb sm lg rlo rhi} (LL : LemLayout F p eb sm lg rlo rhi) (q : Int) (lo hi lz : Nat)
    (hlo2 : 2 ≤ lo) (hlo : lo < 2 ^ 64) (hhi_lt : hi < 2 ^ 64) (hhi_ge : 2 ^ 62 ≤ hi) (u sh : Nat)
    (hu : hi / 2 ^ 63 = u) (hshv : u + 62 - p = sh) (En : Nat)
    (hpw2 : power (wrapI32 q) + (u : Int) - (lz : Int) - F.C.minimumExponent = (((En + 1 : Nat)) : Int))
    {num den : Nat} (hden : 0 < den)
    (hX : num * 2 ^ L F.fmt * (2 ^ sh * 2 ^ 64 * 2) = (hi * 2 ^ 64 + lo) * (den * 2 ^ En)) :
    ∃ fp, cfRound F q lo hi lz = .ok fp ∧ 0 ≤ fp.exp ∧ extendedToFloat F fp = roundNE F.fmt num den := by
  obtain ⟨hquot, hmodne⟩ := computed_word (hi := hi) sh hlo2 hlo
  apply cfRound_of_quot LL q lo hi lz hhi_lt hhi_ge u sh hu hshv (hi * 2 ^ 64 + lo) (2 ^ sh * 2 ^ 64) En
    (Nat.mul_pos (Nat.two_pow_pos _) (Nat.two_pow_pos 64)) hquot ?_ hpw2 hden hX
  have hL : decide (lo ≤ litTieLo) = false := by
    unfold litTieLo; simp only [decide_eq_false_iff_not]; omega
  unfold tieTest
  rw [hL]
  simp only [Bool.false_and, Bool.false_eq_true, false_iff, not_and]
  intro h _
  exact hmodne _ ⟨2 ^ sh, Nat.mul_comm _ _⟩ h

theorem cfRound_computed_sub {F p eb sm lg rlo rhi} (LL : LemLayout F p eb sm lg rlo rhi) (q : Int) (lo hi lz : Nat)
    (hlo2 : 2 ≤ lo) (hlo : lo < 2 ^ 64) (hhi_lt : hi < 2 ^ 64) (hhi_ge : 2 ^ 62 ≤ hi) (u sh : Nat)
    (hu : hi / 2 ^ 63 = u) (hshv : u + 62 - p = sh) (t : Nat) (ht : 1 ≤ t)
    (hpw2 : power (wrapI32 q) + (u : Int) - (lz : Int) - F.C.minimumExponent = 1 - (t : Int))
    {num den : Nat} (hden : 0 < den)
    (hX : num * 2 ^ L F.fmt * (2 ^ sh * 2 ^ 64 * 2 ^ t * 2) = (hi * 2 ^ 64 + lo) * (den * 2 ^ 0)) :
    ∃ fp, cfRound F q lo hi lz = .ok fp ∧ 0 ≤ fp.exp ∧ extendedToFloat F fp = roundNE F.fmt num den := by
  obtain ⟨hquot, hmodne⟩ := computed_word (hi := hi) sh hlo2 hlo
  exact cfRound_sub LL q lo hi lz hhi_lt hhi_ge u sh hu hshv (hi * 2 ^ 64 + lo) (2 ^ sh * 2 ^ 64) t
    (Nat.mul_pos (Nat.two_pow_pos _) (Nat.two_pow_pos 64)) hquot ht
    (fun h => hmodne _ ⟨2 ^ sh * 2 ^ t, by ring⟩ h.1) hpw2 hden hX

theorem rel61 (z Dz N c : Nat) (hc : c * 2 ^ 61 ≤ z) (h : N ≤ (z + c) * Dz) :
    N * 2 ^ 61 ≤ z * Dz * (2 ^ 61 + 1) := by
  calc N * 2 ^ 61 ≤ (z + c) * Dz * 2 ^ 61 := Nat.mul_le_mul_right _ h
    _ = (z * 2 ^ 61 + c * 2 ^ 61) * Dz := by ring
    _ ≤ (z * 2 ^ 61 + z) * Dz := Nat.mul_le_mul_right _ (Nat.add_le_add_left hc _)
    _ = z * Dz * (2 ^ 61 + 1) := by ring

/-- the two bounds of `LossyOK` pass through a proportion `n'/d' : num/den = z·Dz : N` -/
theorem lossy_of_prop {z Dz N n' d' num den : Nat} (hz : 0 < z * Dz) (hzl : z * Dz ≤ N)
    (hzu : N * 2 ^ 61 ≤ z * Dz * (2 ^ 61 + 1)) (hQ : n' * den * N = num * d' * (z * Dz)) :
    n' * den ≤ num * d' ∧ num * d' * 2 ^ 61 ≤ n' * den * (2 ^ 61 + 1) := by
  have hN : 0 < N := Nat.lt_of_lt_of_le hz hzl
  constructor
  · apply Nat.le_of_mul_le_mul_right _ hN
    calc n' * den * N = num * d' * (z * Dz) := hQ
      _ ≤ num * d' * N := Nat.mul_le_mul_left _ hzl
  · apply Nat.le_of_mul_le_mul_right _ hN
    calc num * d' * 2 ^ 61 * N = num * d' * (N * 2 ^ 61) := by ring
      _ ≤ num * d' * (z * Dz * (2 ^ 61 + 1)) := Nat.mul_le_mul_left _ hzu
      _ = num * d' * (z * Dz) * (2 ^ 61 + 1) := by ring
      _ = n' * den * (2 ^ 61 + 1) * N := by rw [← hQ]; ring

/-- the computed `z` and the exact value on a fall-back input: `z·Dz ≤ N < (z + 2^64 + 1)·Dz`, within a factor `1 + 2^−61` since `z ≥ 2^126` -/
theorem lossy_bounds {p wn hi5 lo5 lo hi : Nat} (P : Product p wn hi5 lo5 lo hi) {N Dn : Nat}
    (hNlo : wn * (hi5 * 2 ^ 64 + lo5) * Dn ≤ N) (hNhi : N < (wn * (hi5 * 2 ^ 64 + lo5) + wn) * Dn)
    (hall : lo + 1 = 2 ^ 64) :
    (hi * 2 ^ 64 + lo) * (2 ^ 64 * Dn) ≤ N ∧
      N * 2 ^ 61 ≤ (hi * 2 ^ 64 + lo) * (2 ^ 64 * Dn) * (2 ^ 61 + 1) := by
  obtain ⟨_, hupp⟩ := hi_bounds_down P hNlo hNhi
  have hlowz : (hi * 2 ^ 64 + lo) * (2 ^ 64 * Dn) ≤ N := by
    calc (hi * 2 ^ 64 + lo) * (2 ^ 64 * Dn) = ((hi * 2 ^ 64 + lo) * 2 ^ 64) * Dn := by ring
      _ ≤ wn * (hi5 * 2 ^ 64 + lo5) * Dn := Nat.mul_le_mul_right _ P.lower
      _ ≤ N := hNlo
  refine ⟨hlowz, ?_⟩
  -- (hi + 2)·B = z + B + 1, and (B + 1)·2^61 ≤ 2^126 ≤ z
  have hz : (hi + 2) * 2 ^ 64 = hi * 2 ^ 64 + lo + (2 ^ 64 + 1) := by
    rw [Nat.add_mul]; omega
  have h126 : (2 ^ 64 + 1) * 2 ^ 61 ≤ hi * 2 ^ 64 + lo := by
    have e1 : (2 ^ 64 + 1) * 2 ^ 61 ≤ 2 ^ 62 * 2 ^ 64 := by decide
    have e2 : 2 ^ 62 * 2 ^ 64 ≤ hi * 2 ^ 64 := Nat.mul_le_mul_right _ P.hi_ge
    exact Nat.le_trans e1 (Nat.le_trans e2 (Nat.le_add_right _ _))
  have hupp' : N ≤ (hi * 2 ^ 64 + lo + (2 ^ 64 + 1)) * (2 ^ 64 * Dn) := by
    rw [← hz]
    calc N ≤ (hi + 2) * (2 ^ 64 * (2 ^ 64 * Dn)) := Nat.le_of_lt hupp
      _ = (hi + 2) * 2 ^ 64 * (2 ^ 64 * Dn) := by ring
  exact rel61 _ _ _ _ h126 hupp'

/-- **the fall-back answer is an estimate** of `num/den` as soon as the value lies in `[hi, hi + 2)` units of the upper
word: `hi·Y ≤ X < (hi + 2)·Y` with `num/den = (X/Y)·2^(hilz + K − S − L)` for the exponent field `K` and the shift `S` of
the answer (normalising `hi` by `hilz ≤ 1` bits turns the slack 2 into at most 4). The bound `4000` leaves room for
`hilz + 62` below the `4096` of `EstOK`. -/
theorem estOK_of_bounds {F p eb} (lay : Layout F p eb) (q : Int) (hi lz X Y num den : Nat) (hhi : hi < 2 ^ 64)
    (hhi62 : 2 ^ 62 ≤ hi) (hPlo : -4000 ≤ power (wrapI32 q) + F.C.exponentBias - lz)
    (hPhi : power (wrapI32 q) + F.C.exponentBias - lz ≤ 4000) (hY : 0 < Y) (hden : 0 < den)
    (hlow : hi * Y ≤ X) (hupp : X < (hi + 2) * Y)
    (hprop : ∀ hilz K S : Nat, hilz ≤ 1 →
      (S : Int) + (power (wrapI32 q) + F.C.exponentBias - hilz - lz - 62 - 1) = K →
      num * 2 ^ L F.fmt * 2 ^ S * Y = X * 2 ^ hilz * 2 ^ K * den) :
    EstOK F p (computeErrorScaled F q hi lz) num den := by
  obtain ⟨hilz, hh1, hm, hm1, hm2, he⟩ := ces_fields F q hi lz hhi hhi62
  unfold EstOK
  rw [hm, he, show power (wrapI32 q) + F.C.exponentBias - (hilz : Int) - (lz : Int) - 62 + invalidFp - invalidFp =
    power (wrapI32 q) + F.C.exponentBias - (hilz : Int) - (lz : Int) - 62 by omega]
  have hrel := shift_rel p (by have := lay.hp64; omega)
    (power (wrapI32 q) + F.C.exponentBias - (hilz : Int) - (lz : Int) - 62)
  have hX := hprop hilz _ _ hh1 hrel
  refine ⟨hm1, hm2, by omega, by omega, ?_, ?_⟩
  all_goals
    generalize (power (wrapI32 q) + F.C.exponentBias - (hilz : Int) - (lz : Int) - 62 + 64 - p - 1).toNat = K at *
    generalize shiftOf p (power (wrapI32 q) + F.C.exponentBias - (hilz : Int) - (lz : Int) - 62) = S at *
  · apply Nat.le_of_mul_le_mul_right _ hY
    calc hi * 2 ^ hilz * 2 ^ K * den * Y = (hi * Y) * (2 ^ hilz * 2 ^ K * den) := by ring
      _ ≤ X * (2 ^ hilz * 2 ^ K * den) := Nat.mul_le_mul_right _ hlow
      _ = num * 2 ^ L F.fmt * 2 ^ S * Y := by rw [hX]; ring
  · apply Nat.lt_of_mul_lt_mul_right (a := Y)
    have h4 : 2 * 2 ^ hilz ≤ 4 := by
      rcases Nat.le_one_iff_eq_zero_or_eq_one.mp hh1 with h | h <;> rw [h] <;> decide
    calc num * 2 ^ L F.fmt * 2 ^ S * Y = X * (2 ^ hilz * 2 ^ K * den) := by rw [hX]; ring
      _ < (hi + 2) * Y * (2 ^ hilz * 2 ^ K * den) := Nat.mul_lt_mul_of_pos_right hupp
          (Nat.mul_pos (Nat.mul_pos (Nat.two_pow_pos _) (Nat.two_pow_pos _)) hden)
      _ = (hi * 2 ^ hilz + 2 * 2 ^ hilz) * (2 ^ K * den * Y) := by ring
      _ ≤ (hi * 2 ^ hilz + 4) * (2 ^ K * den * Y) := Nat.mul_le_mul_right _ (by omega)
      _ = (hi * 2 ^ hilz + 4) * 2 ^ K * den * Y := by ring

end LexVerif.Proof.Lemire
