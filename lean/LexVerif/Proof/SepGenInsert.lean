import LexVerif.Proof.SepLocal
/-!
# Proof.SepGenInsert — `insert_preserves`, general form

If the stripped input is accepted as a number and none of the three digit iterators of the run over the input with
separators stops on a separator (`NonStuck`), the input with separators is accepted as the same number
(`parseFloatSyntax_insert_gen`; `number_insert_gen` is the second half of `number_bi`). `NonStuck` holds when the
separators sit in I+L+T+C components only (`SepsOnlyIn`); for `SkipAll` it always holds (`nonStuck_skipAll`,
`parseFloatSyntax_insert`).
-/
namespace LexVerif.Proof.Sep
open LexVerif LexVerif.Model LexVerif.Spec
open LexVerif.Props.C12

def ExpNormal (c : Cfg) (o : POpts) (s : List Nat) (f : Bytes) : Prop :=
  f.firstIs o.exp (c.caseSensitiveExponent && c.feats.format) = true →
  ∀ r, parseExponentSign c { f with index := f.index + 1 } = .ok r →
  ∀ e ds, Run c .exponent c.exponentRadix r.2 e ds → ∀ x, s[e.index]? = some x → c.isSep x = false

def FracNormal (c : Cfg) (o : POpts) (s : List Nat) (eI : Bytes) : Prop :=
  (s[eI.index]? = some o.dp → ∀ eF dsF, Run c .fraction c.mantissaRadix { eI with index := eI.index + 1 } eF dsF →
    (∀ x, s[eF.index]? = some x → c.isSep x = false) ∧ ExpNormal c o s eF) ∧
  (s[eI.index]? ≠ some o.dp → ExpNormal c o s eI)

def IntNormal (c : Cfg) (o : POpts) (s : List Nat) (b0 : Bytes) : Prop :=
  ∀ eI dsI, Run c .integer c.mantissaRadix b0 eI dsI →
    (∀ x, s[eI.index]? = some x → c.isSep x = false) ∧ FracNormal c o s eI

theorem IntNormal.ok {c : Cfg} {o : POpts} {s : List Nat} {b : Bytes} (h : IntNormal c o s b) (hb : b.slc = s)
    (hP : NoSepBeforeSign c s) : IntOK c o s b := by
  intro eI dsI hRI
  obtain ⟨h1, h2, h3⟩ := h eI dsI hRI
  have heI : eI.slc = s := hRI.slc.trans hb
  refine ⟨h1, fun hdp eF dsF hRF => ⟨(h2 hdp eF dsF hRF).1, fun hf => ⟨hP.at _ ?_, (h2 hdp eF dsF hRF).2 hf⟩⟩,
    fun hnd hf => ⟨hP.at _ heI, h3 hnd hf⟩⟩
  exact hRF.slc.trans heI

theorem number_insert_gen (c : Cfg) (o : POpts) (hC : StripClass c o) (s : List Nat) (hresI : RescanOK c .integer s)
    (hresF : RescanOK c .fraction s) (hP : NoSepBeforeSign c s) (b b' : Bytes)
    (hr : StripRel c s b b') (hv : b.index ≤ s.length) (hic : b.ic = 0) (hfc : b.fc = 0)
    (hstart : (∀ x, getPrev s b.index = some x → c.isDigit x = false ∧ c.isSep x = false) ∨
      (∀ x, s[b.index]? = some x → c.isSep x = false))
    (hN : IntNormal c o s b) (p neg fv : Bool) (n' : Number) (cnt' : Nat)
    (h' : parseNumber c p o b' neg fv = .ok (n', cnt')) (hcnt' : cnt' = (nonSep c s).length) :
    ∃ n, parseNumber c p o b neg fv = .ok (n, s.length) ∧ NumRel c n n' ∧ SlicesOK c n := by
  obtain ⟨⟨n, cnt⟩, h1, hrel, hsok, hle, hNe, hc⟩ :=
    (number_bi c o hC s hresI hresF b b' hr hv hic hfc hstart (hN.ok hr.1 hP) p neg fv).2 (n', cnt') h'
  obtain rfl : cnt = s.length := end_of_strip c s cnt hle hNe (by rw [← hcnt']; exact hc.symm)
  exact ⟨n, h1, hrel, hsok⟩

/-- none of the digit iterators of the run over `s` stops on a separator: the cursor after `is_consumed`'s `peek`
does not stand on one, and neither do the cursors after the integer, fraction and exponent digits -/
def NonStuck (c : Cfg) (o : POpts) (s : List Nat) : Prop :=
  ∀ neg b1 v b0, parseMantissaSign c (Bytes.new s) = .ok (neg, b1) → peek c .integer b1 = .ok (v, b0) →
    (∀ x, s[b0.index]? = some x → c.isSep x = false) ∧ IntNormal c o s b0

/-- insert_preserves, general form: the stripped input is accepted as a number, no run of separators directly
precedes a sign, no digit iterator of the run over `s` stops on a separator ⟹ `s` is accepted as the same number. -/
theorem parseFloatSyntax_insert_gen (c : Cfg) (o : POpts) (hC : StripClass c o) (s : List Nat)
    (hresI : RescanOK c .integer s) (hresF : RescanOK c .fraction s) (hP : NoSepBeforeSign c s)
    (hNS : NonStuck c o s) (fv : Bool) (n' : Number) (cnt : Nat)
    (h : parseFloatSyntax c o false (nonSep c s) fv = .ok (.number n' cnt)) :
    ∃ n, parseFloatSyntax c o false s fv = .ok (.number n s.length) ∧ NumRel c n n' ∧ SlicesOK c n := by
  obtain ⟨neg, b1', b2', hps, hcons, hpn, _⟩ := (parseFloatSyntax_number_iff c o _ fv n' cnt).mp h
  unfold parseMantissaSign at hps
  obtain ⟨r, h1, h2, h3, h4⟩ := parseSign_strip_rev c hC.debug hC.sepPlus hC.sepMinus s _ _ _ _ _ _
    (stripRel_new c s) (hP.at _ rfl) (neg, b1') hps
  obtain ⟨neg0, b1⟩ := r
  simp only at h2 h3 h4
  subst h2
  have hpsL : parseMantissaSign c (Bytes.new s) = .ok (neg, b1) := by unfold parseMantissaSign; exact h1
  have hv1 : Bytes.Valid b1 := by
    unfold Bytes.Valid
    have := h4 (by simp [Bytes.new])
    simp only [new_slc] at this
    rw [h3.1]; exact this
  have hic1 : b1.ic = 0 ∧ b1.fc = 0 := parseSign_counts c _ _ _ _ _ _ hC.debug h1
  -- the stripped run is not at the end of its input
  rw [isConsumed_nosep c .integer b1' h3.noSep (hC.reach _)] at hcons
  simp only [hC.format, Bool.not_true, Bool.false_eq_true, if_false, Except.ok.injEq, Prod.mk.injEq] at hcons
  obtain ⟨hnone, rfl⟩ := hcons
  cases hp : peek c .integer b1 with
  | error e => exact absurd ((peek_error_iff c .integer b1).mp ⟨e, hp⟩) (hC.reach _)
  | ok pr =>
    obtain ⟨v, b0⟩ := pr
    obtain ⟨hN0, hIN⟩ := hNS neg b1 v b0 hpsL hp
    have hsp := peek_spec c .integer b1 b0 v hv1 hp
    have hb0s : b0.slc = s := by rw [hsp.1]; exact h3.1
    have hv0 : b0.index ≤ s.length := by
      have := hsp.2.2.2.2.2.1; unfold Bytes.Valid at this; rw [hb0s] at this; exact this
    have hr00 : StripRel c s b0 b1' := h3.skip .integer v hv1 hp
    have hN0n : Normal c b0 := by intro x hx; rw [hb0s] at hx; exact hN0 x hx
    rw [h3.2.1] at hpn
    obtain ⟨n, hn, hrel, hsok⟩ := number_insert_gen c o hC s hresI hresF hP b0 b1' hr00 hv0
      (by rw [hsp.2.1]; exact hic1.1) (by rw [hsp.2.2.1]; exact hic1.2) (Or.inr hN0) hIN false neg fv n' _ hpn rfl
    refine ⟨n, (parseFloatSyntax_number_iff c o s fv n _).mpr ⟨neg, b1, b0, hpsL, ?_, by rw [hb0s]; exact hn, rfl⟩,
      hrel, hsok⟩
    unfold isConsumed
    simp only [hC.format, Bool.not_true, Bool.false_eq_true, if_false, bind, Except.bind, hp, pure, Except.pure]
    rw [hsp.2.2.2.2.2.2, ← hr00.get hN0n, hnone]

theorem peek_normal_iltc (c : Cfg) (k : Comp) (hk : c.skip k = .pred .iltc) (b b0 : Bytes) (v : Option Nat)
    (hp : peek c k b = .ok (v, b0)) : ∀ x, b.slc[b0.index]? = some x → c.isSep x = false := by
  rw [IterSpec.peek_ok_iff (by rw [hk]; simp)] at hp
  intro x hx
  rw [← hp.2] at hx
  exact IterSpec.peekIdx_iltc_rest hk _ _ _ x hx

theorem mem_takeWhile (P : Nat → Bool) (l : List Nat) (m x : Nat) (hall : ∀ y ∈ l.take m, P y = true)
    (hx : l[m]? = some x) (hp : P x = true) : x ∈ l.takeWhile P := by
  have h := List.takeWhile_append_of_pos (l₂ := l.drop m) hall
  rw [List.take_append_drop, IterSpec.drop_eq_cons hx, List.takeWhile_cons_of_pos hp] at h
  rw [h]
  simp

theorem dropWhile_eq_drop (P : Nat → Bool) (l : List Nat) (m x : Nat) (hall : ∀ y ∈ l.take m, P y = true)
    (hx : l[m]? = some x) (hp : P x = false) : l.dropWhile P = l.drop m := by
  have h := List.dropWhile_append_of_pos (l₂ := l.drop m) hall
  rw [List.take_append_drop, IterSpec.drop_eq_cons hx, List.dropWhile_cons_of_neg (by simp [hp])] at h
  rw [h, IterSpec.drop_eq_cons hx]

theorem forall_take_of_slice {P : Nat → Prop} {s : List Nat} {i j : Nat} (hij : i ≤ j) (h1 : ∀ y ∈ s.take i, P y)
    (h2 : ∀ y ∈ slice s i j, P y) : ∀ y ∈ s.take j, P y := by
  intro y hy
  have e : s.take (i + (j - i)) = s.take i ++ (s.drop i).take (j - i) := List.take_add
  rw [Nat.add_sub_cancel' hij] at e
  rw [e, List.mem_append] at hy
  exact hy.elim (h1 y) (h2 y)

def notDpExp (c : Cfg) (o : POpts) (x : Nat) : Bool := !(x == o.dp) && !matchesExp c o x

/-- what `is_valid_options_punctuation` (with case folding) gives about the exponent character -/
structure OptsOK (c : Cfg) (o : POpts) : Prop where
  expDigit : ∀ x, matchesExp c o x = true → charToDigit x c.mantissaRadix = none
  expSign : matchesExp c o 43 = false ∧ matchesExp c o 45 = false
  expDp : matchesExp c o o.dp = false

/-- separators only in I+L+T+C components: for every digit component that is not I+L+T+C, its part of the input —
up to the first decimal point / exponent character; between the first decimal point and the exponent character;
behind the exponent character — contains no separator byte -/
structure SepsOnlyIn (c : Cfg) (o : POpts) (s : List Nat) : Prop where
  int : c.skip .integer ≠ .pred .iltc → NoSep c (s.takeWhile (notDpExp c o))
  frac : c.skip .fraction ≠ .pred .iltc →
    NoSep c (((s.dropWhile (fun x => !(x == o.dp))).drop 1).takeWhile (fun x => !matchesExp c o x))
  exp : c.skip .exponent ≠ .pred .iltc → NoSep c ((s.dropWhile (fun x => !matchesExp c o x)).drop 1)

theorem Run.bytes {c : Cfg} {k : Comp} {r : Nat} {b e : Bytes} {ds : List Nat} (h : Run c k r b e ds) :
    ∀ x ∈ slice b.slc b.index e.index, c.isSep x = true ∨ (charToDigit x r).isSome = true := by
  intro x hx
  rcases Bool.eq_false_or_eq_true (c.isSep x) with hs | hs
  · exact Or.inl hs
  · right
    have hm : x ∈ nonSep c (slice b.slc b.index e.index) := by
      simp only [nonSep, List.mem_filter, hx, hs, Bool.not_false, and_self]
    have := List.mem_map_of_mem (f := fun y => charToDigit y r) hm
    rw [h.yields, List.mem_map] at this
    obtain ⟨d, _, hd⟩ := this
    rw [← hd]; rfl

theorem notDpExp_of_sep {c : Cfg} {o : POpts} (hG : GenStrip c o) {x : Nat} (hx : c.isSep x = true) :
    notDpExp c o x = true := by
  have h1 : x ≠ o.dp := fun e => by rw [e, hG.sepDp] at hx; cases hx
  simp [notDpExp, h1, hG.sepExp x hx]

theorem notDpExp_of_digit {c : Cfg} {o : POpts} (hG : GenStrip c o) (hO : OptsOK c o) {x : Nat}
    (hx : (charToDigit x c.mantissaRadix).isSome = true) : notDpExp c o x = true := by
  have h1 : x ≠ o.dp := fun e => by rw [e, hG.dpDigit] at hx; cases hx
  have h2 : matchesExp c o x = false := Bool.eq_false_iff.mpr fun hq => by rw [hO.expDigit x hq] at hx; cases hx
  simp [notDpExp, h1, h2]

theorem noExp_of_notDpExp {c : Cfg} {o : POpts} {x : Nat} (h : notDpExp c o x = true) : matchesExp c o x = false := by
  simp only [notDpExp, Bool.and_eq_true, Bool.not_eq_true'] at h
  exact h.2

theorem noSep_at {c : Cfg} {k : Comp} {part s : List Nat} {j : Nat}
    (hI : c.skip k = .pred .iltc → ∀ x, s[j]? = some x → c.isSep x = false)
    (hS : c.skip k ≠ .pred .iltc → NoSep c part) (hmem : ∀ x, s[j]? = some x → c.isSep x = true → x ∈ part) :
    ∀ x, s[j]? = some x → c.isSep x = false := by
  intro x hx
  by_cases hk : c.skip k = .pred .iltc
  · exact hI hk x hx
  · rcases Bool.eq_false_or_eq_true (c.isSep x) with hcs | hcs
    · exact hS hk x (hmem x hx hcs)
    · exact hcs

theorem nonStuck_of_sepsOnlyIn (c : Cfg) (o : POpts) (hG : GenStrip c o) (hO : OptsOK c o) (s : List Nat)
    (hS : SepsOnlyIn c o s) : NonStuck c o s := by
  intro neg b1 v b0 hps hp
  have hd := hG.rel.debug
  unfold parseMantissaSign at hps
  -- the bytes before each cursor up to the end of the integer digits satisfy `notDpExp`: a sign, separators, digits
  obtain ⟨hb1s, hv1, hpre1⟩ : b1.slc = s ∧ b1.index ≤ s.length ∧ ∀ y ∈ s.take b1.index, notDpExp c o y = true := by
    rcases parseSign_inv c hd _ _ _ _ _ _ _ hps with ⟨rfl, h2⟩ | ⟨rfl, -⟩ <;> refine ⟨rfl, ?_⟩
    · have h43 : notDpExp c o 43 = true := by simp [notDpExp, hO.expSign.1, hG.dpSign.1.symm]
      have h45 : notDpExp c o 45 = true := by simp [notDpExp, hO.expSign.2, hG.dpSign.2.symm]
      simp only [new_slc, new_index, Nat.zero_add, List.take_one, List.head?_eq_getElem?] at h2 ⊢
      rcases h2 with h2 | h2
      · exact ⟨(List.getElem?_eq_some_iff.mp h2).1, by simpa [h2] using h43⟩
      · exact ⟨(List.getElem?_eq_some_iff.mp h2).1, by simpa [h2] using h45⟩
    · exact ⟨Nat.zero_le _, fun y hy => by simp [new_index] at hy⟩
  have hsp := peek_spec c .integer b1 b0 v (by unfold Bytes.Valid; rw [hb1s]; exact hv1) hp
  have hb0s : b0.slc = s := hsp.1.trans hb1s
  have hpre0 := forall_take_of_slice hsp.2.2.2.2.1 hpre1 fun y hy =>
    notDpExp_of_sep hG (List.all_eq_true.mp (hb1s ▸ peek_skips c .integer b1 b0 v hp) y hy)
  have hintMem : ∀ j, (∀ y ∈ s.take j, notDpExp c o y = true) → ∀ x, s[j]? = some x → c.isSep x = true →
      x ∈ s.takeWhile (notDpExp c o) :=
    fun j hpre x hx hcs => mem_takeWhile _ s j x hpre hx (notDpExp_of_sep hG hcs)
  refine ⟨noSep_at (fun hk => hb1s ▸ peek_normal_iltc c .integer hk b1 b0 v hp) hS.int (hintMem _ hpre0), ?_⟩
  intro eI dsI hRI
  have heI : eI.slc = s := hRI.slc.trans hb0s
  have hpreI := forall_take_of_slice hRI.le hpre0 fun y hy =>
    (hRI.bytes y (hb0s ▸ hy)).elim (notDpExp_of_sep hG) (notDpExp_of_digit hG hO)
  have hnoexpI : ∀ y ∈ s.take eI.index, matchesExp c o y = false := fun y hy => noExp_of_notDpExp (hpreI y hy)
  -- the exponent iterator from a cursor `f` whose prefix does not match the exponent character
  have hexpN : ∀ f : Bytes, f.slc = s → (∀ y ∈ s.take f.index, matchesExp c o y = false) → ExpNormal c o s f := by
    intro f hfs hpre hfe r hr e ds hR
    unfold parseExponentSign at hr
    obtain ⟨hrs, hri⟩ : r.2.slc = s ∧ f.index + 1 ≤ r.2.index := by
      rcases parseSign_inv c hd _ _ _ _ _ _ _ hr with ⟨h, -⟩ | ⟨h, -⟩ <;> rw [h] <;> exact ⟨hfs, by simp⟩
    refine noSep_at (fun hk => hrs ▸ run_normal_iltc c .exponent _ hd hk r.2 e ds hR) hS.exp ?_
    intro x hx _
    rw [firstIs_exp, hfs] at hfe
    cases hz : s[f.index]? with
    | none => rw [hz] at hfe; cases hfe
    | some z =>
      rw [hz] at hfe
      rw [dropWhile_eq_drop _ s f.index z (fun y hy => by simp [hpre y hy]) hz (by simp [hfe]), List.drop_drop]
      have hle := hR.le
      apply List.mem_of_getElem? (i := e.index - (f.index + 1))
      rw [List.getElem?_drop, ← hx]
      congr 1
      omega
  refine ⟨noSep_at (fun hk => hb0s ▸ run_normal_iltc c .integer _ hd hk b0 eI dsI hRI) hS.int (hintMem _ hpreI), ?_, ?_⟩
  · intro hdp eF dsF hRF
    have hle : eI.index + 1 ≤ eF.index := hRF.le
    have hpreF : ∀ y ∈ slice s (eI.index + 1) eF.index, matchesExp c o y = false := fun y hy =>
      noExp_of_notDpExp ((hRF.bytes y (heI ▸ hy)).elim (notDpExp_of_sep hG) (notDpExp_of_digit hG hO))
    have hnoexpF := forall_take_of_slice hle
      (forall_take_of_slice (Nat.le_succ _) hnoexpI (by rw [slice_one s _ _ hdp]; simpa using hO.expDp)) hpreF
    refine ⟨noSep_at (fun hk x hx => run_normal_iltc c .fraction _ hd hk _ eF dsF hRF x (heI ▸ hx)) hS.frac ?_,
      hexpN eF (hRF.slc.trans heI) hnoexpF⟩
    intro x hx hcs
    have hnodp : ∀ y ∈ s.take eI.index, (!(y == o.dp)) = true := by
      intro y hy
      have := hpreI y hy
      simp only [notDpExp, Bool.and_eq_true] at this
      exact this.1
    rw [dropWhile_eq_drop _ s eI.index o.dp hnodp hdp (by simp), List.drop_drop]
    apply mem_takeWhile _ _ (eF.index - (eI.index + 1)) x
    · intro y hy; simp [hpreF y hy]
    · rw [List.getElem?_drop, Nat.add_sub_cancel' hle]; exact hx
    · simp [hG.sepExp x hcs]
  · intro _
    exact hexpN eI heI hnoexpI

theorem nonStuck_skipAll (c : Cfg) (hA : SkipAll c) (o : POpts) (s : List Nat) : NonStuck c o s := by
  intro neg b1 v b0 hps hp
  unfold parseMantissaSign at hps
  have hb1s : b1.slc = s := parseSign_slc c hA.debug _ _ _ _ _ _ _ hps
  have hb0s : b0.slc = s := by
    rw [IterSpec.peek_ok_iff (hA.sepClass.reach _)] at hp
    rw [← hp.2]; exact hb1s
  have hexp : ∀ f : Bytes, f.slc = s → ExpNormal c o s f := by
    intro f hfs _ r hr e ds hR
    unfold parseExponentSign at hr
    have hrs : r.2.slc = s := (parseSign_slc c hA.debug _ _ _ _ _ _ _ hr).trans hfs
    exact hrs ▸ run_normal_iltc c .exponent _ hA.debug hA.exp r.2 e ds hR
  refine ⟨hb1s ▸ peek_normal_iltc c .integer hA.int b1 b0 v hp, fun eI dsI hRI => ?_⟩
  have heI : eI.slc = s := hRI.slc.trans hb0s
  refine ⟨hb0s ▸ run_normal_iltc c .integer _ hA.debug hA.int b0 eI dsI hRI, fun _ eF dsF hRF => ?_, fun _ => hexp eI heI⟩
  exact ⟨fun x hx => run_normal_iltc c .fraction _ hA.debug hA.frac _ eF dsF hRF x (heI ▸ hx),
    hexp eF (hRF.slc.trans heI)⟩

/-- insert_preserves for the class I+L+T+C -/
theorem parseFloatSyntax_insert (c : Cfg) (hA : SkipAll c) (o : POpts) (s : List Nat) (hP : NoSepBeforeSign c s)
    (fv : Bool) (n' : Number) (cnt : Nat) (h : parseFloatSyntax c o false (nonSep c s) fv = .ok (.number n' cnt)) :
    ∃ n, parseFloatSyntax c o false s fv = .ok (.number n s.length) ∧ NumRel c n n' ∧ SlicesOK c n :=
  parseFloatSyntax_insert_gen c o (hA.stripClass o) s (Or.inl hA.int) (Or.inl hA.frac) hP (nonStuck_skipAll c hA o s)
    fv n' cnt h

end LexVerif.Proof.Sep
