import LexVerif.Spec.Shortest
import LexVerif.Proof.RoundNEDecode
import LexVerif.Proof.AlgoRound
import Mathlib.Tactic.Ring
import Mathlib.Tactic.Linarith
/-!
# Proof.Shortest — the oracle `Spec.shortest`, characterised

`Cand iv E D`: `D ≥ 1` and `D·10^E` lies in the rounding interval. For the interval of a float `b` these are exactly the
decimals that round back to `b` (`cand_iff_roundNE`). `closestIn` returns exactly the candidates nearest to the value
(`mem_closestIn_iff`), and the search returns them at the largest scale that has a candidate (`mem_shortestGo_iff`).
Everything else that is said about the oracle — by `Props/RoundNE.lean`, Dragonbox, Grisu — goes through these.
-/
namespace LexVerif.Proof.RoundNE
open LexVerif.Spec
def decFrac (D : Nat) (E : Int) : Nat × Nat :=
  if E ≥ 0 then (D * 10 ^ E.toNat, 1) else (D, 10 ^ (-E).toNat)

theorem interval_eq {f : Fmt} (hf : WF f) {b : Nat} (hb : b < f.infBits) :
    ∃ k q, b = k * 2 ^ (f.p - 1) + q ∧ (0 < k → 2 ^ (f.p - 1) ≤ q) ∧ q < 2 * 2 ^ (f.p - 1) ∧
      interval f b = { v := 4 * q,
                       lo := if q = 2 ^ (f.p - 1) ∧ 0 < k then 4 * q - 1 else 4 * q - 2,
                       hi := 4 * q + 2, e2 := (k : Int) - (L f : Int) - 2, incl := q % 2 = 0 } := by
  obtain ⟨k, q, h1, h2, h3, h4, h5⟩ := decode_kq hf hb
  refine ⟨k, q, h1, h2, h3, ?_⟩
  unfold interval
  simp only [h4]
  have : (q = 2 ^ (f.p - 1) ∧ f.expField b > 1) ↔ (q = 2 ^ (f.p - 1) ∧ 0 < k) := by rw [h5]
  simp only [this]

theorem cell_midpoints {f : Fmt} (k q : Nat) (h1 : 0 < k → 2 ^ (f.p - 1) ≤ q)
    (h2 : q < 2 * 2 ^ (f.p - 1)) (h0 : k * 2 ^ (f.p - 1) + q ≠ 0) :
    let b := k * 2 ^ (f.p - 1) + q
    (ival f b + ival f (b + 1)) * 2 = (4 * q + 2) * 2 ^ k ∧
    (ival f (b - 1) + ival f b) * 2 =
      (if q = 2 ^ (f.p - 1) ∧ 0 < k then 4 * q - 1 else 4 * q - 2) * 2 ^ k := by
  dsimp only
  have hT := Nat.two_pow_pos (f.p - 1)
  have hq1 := kq_pos h1 h0
  rw [ival_kq f k q h1 (by omega), ival_kq_succ f k q h1 h2]
  constructor
  · ring
  · split
    · rename_i hc
      -- `b` is the first pattern of binade `k = j + 1`: its predecessor is the last of binade `j`
      obtain ⟨hq, hk⟩ := hc
      obtain ⟨j, rfl⟩ : ∃ j, k = j + 1 := ⟨k - 1, by omega⟩
      have e : (j + 1) * 2 ^ (f.p - 1) + q - 1 = j * 2 ^ (f.p - 1) + 2 * 2 ^ (f.p - 1) - 1 := by
        rw [hq, Nat.succ_mul]; omega
      rw [e, ival_kq_pred f j _ (by omega) (le_refl _) (by omega) (by omega), hq]
      generalize 2 ^ (f.p - 1) = T at *
      obtain ⟨t, rfl⟩ : ∃ t, T = t + 1 := ⟨T - 1, by omega⟩
      rw [show 2 * (t + 1) - 1 = 2 * t + 1 by omega, show 4 * (t + 1) - 1 = 4 * t + 3 by omega]
      ring
    · rename_i hc
      rw [ival_kq_pred f k q h1 (by omega) h0 (fun hk hq => hc ⟨hq, hk⟩)]
      obtain ⟨t, rfl⟩ : ∃ t, q = t + 1 := ⟨q - 1, by omega⟩
      rw [show t + 1 - 1 = t by omega, show 4 * (t + 1) - 2 = 4 * t + 2 by omega]
      ring

/-- the two fractions inside `scalePQ` -/
def binFrac (e2 : Int) : Nat × Nat := if e2 ≥ 0 then (2 ^ e2.toNat, 1) else (1, 2 ^ (-e2).toNat)
def tenFrac (E : Int) : Nat × Nat := if E ≥ 0 then (10 ^ E.toNat, 1) else (1, 10 ^ (-E).toNat)

theorem scalePQ_eq (e2 E : Int) :
    scalePQ e2 E = ((tenFrac E).1 * (binFrac e2).2, (binFrac e2).1 * (tenFrac E).2) :=
  rfl

theorem binFrac_pos (e2 : Int) : 0 < (binFrac e2).1 ∧ 0 < (binFrac e2).2 := by
  unfold binFrac; split <;> simp

theorem tenFrac_pos (E : Int) : 0 < (tenFrac E).1 ∧ 0 < (tenFrac E).2 := by
  unfold tenFrac; split <;> simp

theorem binFrac_scale (k l : Nat) :
    (binFrac ((k : Int) - (l : Int) - 2)).1 * 2 ^ l * 4 = (binFrac ((k : Int) - (l : Int) - 2)).2 * 2 ^ k := by
  unfold binFrac
  split
  · rename_i h
    obtain ⟨j, hj⟩ : ∃ j : Nat, ((k : Int) - (l : Int) - 2).toNat = j := ⟨_, rfl⟩
    have : k = j + l + 2 := by omega
    rw [hj, this]; simp only []; ring
  · rename_i h
    obtain ⟨j, hj⟩ : ∃ j : Nat, (-((k : Int) - (l : Int) - 2)).toNat = j := ⟨_, rfl⟩
    have : l + 2 = j + k := by omega
    rw [hj]; simp only []
    calc 1 * 2 ^ l * 4 = 2 ^ (l + 2) := by ring
      _ = 2 ^ (j + k) := by rw [this]
      _ = 2 ^ j * 2 ^ k := by ring

theorem decFrac_eq (D : Nat) (E : Int) : decFrac D E = (D * (tenFrac E).1, (tenFrac E).2) := by
  unfold decFrac tenFrac; split <;> simp

theorem ceil_le {P a D : Nat} (hP : 0 < P) (h : (a + P - 1) / P ≤ D) : a ≤ D * P := by
  have : (a + P - 1) / P < D + 1 := by omega
  rw [Nat.div_lt_iff_lt_mul hP, Nat.succ_mul] at this
  omega

theorem floor_le {P a D : Nat} (hP : 0 < P) (h : D ≤ a / P) : D * P ≤ a :=
  (Nat.le_div_iff_mul_le hP).mp h

theorem candRange_spec (iv : Interval) (E : Int) (P Q : Nat) (hPQ : scalePQ iv.e2 E = (P, Q))
    (hP : 0 < P) (D : Nat) (h1 : (candRange iv E).1 ≤ D) (h2 : D ≤ (candRange iv E).2) :
    1 ≤ D ∧ iv.lo * Q ≤ D * P ∧ D * P ≤ iv.hi * Q ∧
    (iv.incl = false → iv.lo * Q < D * P ∧ D * P < iv.hi * Q) := by
  unfold candRange at h1 h2
  simp only [hPQ] at h1 h2
  generalize iv.lo * Q = loN at *
  generalize iv.hi * Q = hiN at *
  have hD1 : 1 ≤ D := le_trans (le_max_right _ _) h1
  have hdlo := le_trans (le_max_left _ _) h1
  clear h1
  by_cases hin : iv.incl = true
  · simp only [hin, not_true_eq_false, false_and, if_false] at hdlo h2
    exact ⟨hD1, ceil_le hP hdlo, floor_le hP h2, by simp [hin]⟩
  · have hin' : iv.incl = false := by simpa using hin
    simp only [hin', Bool.false_eq_true, not_false_eq_true, true_and] at hdlo h2
    have lo_le : loN ≤ D * P := ceil_le hP (by split at hdlo <;> omega)
    have hi_le : D * P ≤ hiN := floor_le hP (by split at h2 <;> omega)
    refine ⟨hD1, lo_le, hi_le, fun _ => ⟨?_, ?_⟩⟩
    · by_cases hm : loN % P = 0
      · rw [if_pos hm] at hdlo
        obtain ⟨D', rfl⟩ : ∃ D', D = D' + 1 := ⟨D - 1, by omega⟩
        have := ceil_le (a := loN) (D := D') hP (by omega)
        rw [Nat.succ_mul]; omega
      · apply lt_of_le_of_ne lo_le
        intro he; apply hm; rw [he]; exact Nat.mul_mod_left _ _
    · by_cases hm : hiN % P = 0
      · rw [if_pos hm] at h2
        have := floor_le (a := hiN) (D := D + 1) hP (by omega)
        rw [Nat.succ_mul] at this; omega
      · apply lt_of_le_of_ne hi_le
        intro he; apply hm; rw [← he]; exact Nat.mul_mod_left _ _

theorem ceil_ge {P a D : Nat} (hP : 0 < P) (h : a ≤ D * P) : (a + P - 1) / P ≤ D := by
  have : (a + P - 1) / P < D + 1 := by
    rw [Nat.div_lt_iff_lt_mul hP, Nat.succ_mul]; omega
  omega

theorem candRange_complete (iv : Interval) (E : Int) (P Q : Nat) (hPQ : scalePQ iv.e2 E = (P, Q))
    (hP : 0 < P) (D : Nat) (hD1 : 1 ≤ D) (hlo : iv.lo * Q ≤ D * P) (hhi : D * P ≤ iv.hi * Q)
    (hs : iv.incl = false → iv.lo * Q < D * P ∧ D * P < iv.hi * Q) :
    (candRange iv E).1 ≤ D ∧ D ≤ (candRange iv E).2 := by
  unfold candRange
  simp only [hPQ]
  generalize iv.lo * Q = loN at *
  generalize iv.hi * Q = hiN at *
  have g1 : (loN + P - 1) / P ≤ D := ceil_ge hP hlo
  have g2 : D ≤ hiN / P := (Nat.le_div_iff_mul_le hP).mpr hhi
  by_cases hin : iv.incl = true
  · simp only [hin, not_true_eq_false, false_and, if_false]
    exact ⟨max_le g1 hD1, g2⟩
  · have hin' : iv.incl = false := by simpa using hin
    obtain ⟨s1, s2⟩ := hs hin'
    simp only [hin', Bool.false_eq_true, not_false_eq_true, true_and]
    constructor
    · apply max_le _ hD1
      split
      · rename_i hm
        obtain ⟨c, hc⟩ : ∃ c, loN = P * c := ⟨loN / P, by have := Nat.div_add_mod loN P; omega⟩
        have hcD : c < D := by
          rw [hc, Nat.mul_comm] at s1; exact Nat.lt_of_mul_lt_mul_right s1
        have : (loN + P - 1) / P ≤ c := ceil_ge hP (by rw [hc, Nat.mul_comm])
        omega
      · exact g1
    · split
      · rename_i hm
        obtain ⟨c, hc⟩ : ∃ c, hiN = P * c := ⟨hiN / P, by have := Nat.div_add_mod hiN P; omega⟩
        have hcD : D < c := by
          rw [hc, Nat.mul_comm P] at s2; exact Nat.lt_of_mul_lt_mul_right s2
        have : hiN / P = c := by rw [hc]; exact Nat.mul_div_cancel_left c hP
        omega
      · exact g2

theorem scalePQ_pos (e2 E : ℤ) : 0 < (scalePQ e2 E).1 ∧ 0 < (scalePQ e2 E).2 := by
  rw [scalePQ_eq]
  exact ⟨Nat.mul_pos (tenFrac_pos E).1 (binFrac_pos e2).2, Nat.mul_pos (binFrac_pos e2).1 (tenFrac_pos E).2⟩


def Cand (iv : Interval) (E : Int) (D : Nat) : Prop :=
  (candRange iv E).1 ≤ D ∧ D ≤ (candRange iv E).2

theorem cand_iff (iv : Interval) (E : Int) (D : Nat) :
    Cand iv E D ↔ 1 ≤ D ∧ iv.lo * (scalePQ iv.e2 E).2 ≤ D * (scalePQ iv.e2 E).1
      ∧ D * (scalePQ iv.e2 E).1 ≤ iv.hi * (scalePQ iv.e2 E).2
      ∧ (iv.incl = false → iv.lo * (scalePQ iv.e2 E).2 < D * (scalePQ iv.e2 E).1
            ∧ D * (scalePQ iv.e2 E).1 < iv.hi * (scalePQ iv.e2 E).2) := by
  constructor
  · rintro ⟨h1, h2⟩
    exact candRange_spec iv E _ _ rfl (scalePQ_pos _ _).1 D h1 h2
  · rintro ⟨h1, h2, h3, h4⟩
    exact candRange_complete iv E _ _ rfl (scalePQ_pos _ _).1 D h1 h2 h3 h4

theorem scale_iff {X Y A B S c : Nat} (hc : 0 < c) (hS : 0 < S) (hX : X * c = A * S)
    (hY : Y * c = B * S) : (X ≤ Y ↔ A ≤ B) ∧ (X < Y ↔ A < B) := by
  constructor
  · rw [← Nat.mul_le_mul_right_iff hc, hX, hY, Nat.mul_le_mul_right_iff hS]
  · rw [← Nat.mul_lt_mul_right hc, hX, hY, Nat.mul_lt_mul_right hS]

theorem mid_scale {I lo an ad k l : Nat} (td : Nat) (hmid : I * 2 = lo * 2 ^ k)
    (hsc : an * 2 ^ l * 4 = ad * 2 ^ k) : td * I * (2 * ad) = lo * (an * td) * (2 ^ l * 4) := by
  calc td * I * (2 * ad) = td * (I * 2) * ad := by ring
    _ = td * lo * (ad * 2 ^ k) := by rw [hmid]; ring
    _ = td * lo * (an * 2 ^ l * 4) := by rw [hsc]
    _ = lo * (an * td) * (2 ^ l * 4) := by ring

theorem decFrac_den_pos (D : ℕ) (E : ℤ) : 0 < (decFrac D E).2 := powFrac_pos (by decide) E D

theorem decFrac_zero (E : Int) : (decFrac 0 E).1 = 0 := by unfold decFrac; split <;> simp

/-- `(P, Q)` is the scale at which `candRange` compares -/
theorem inCell_iff_bounds {f : Fmt} (hf : WF f) {b : Nat} (hb0 : 0 < b) (hb : b < f.infBits)
    (D : Nat) {E : Int} {P Q : Nat} (hPQ : scalePQ (interval f b).e2 E = (P, Q)) :
    InCell f ((decFrac D E).1 * 2 ^ L f) (decFrac D E).2 b ↔
      (interval f b).lo * Q ≤ D * P ∧ D * P ≤ (interval f b).hi * Q ∧
      ((interval f b).incl = false →
        (interval f b).lo * Q < D * P ∧ D * P < (interval f b).hi * Q) := by
  obtain ⟨k, q, hbk, h1, h2, hiv⟩ := interval_eq hf hb
  rw [scalePQ_eq, Prod.mk.injEq] at hPQ
  obtain ⟨rfl, rfl⟩ := hPQ
  rw [decFrac_eq, hiv]
  dsimp only
  obtain ⟨_, ad_pos⟩ := binFrac_pos ((k : Int) - (L f : Int) - 2)
  have hsc := binFrac_scale k (L f)
  obtain ⟨mid_hi, mid_lo⟩ := cell_midpoints (f := f) k q h1 h2 (by rw [← hbk]; omega)
  rw [← hbk] at mid_hi mid_lo
  obtain ⟨t, ht, _⟩ := T_even hf
  have hpar : b % 2 = q % 2 := by rw [hbk, ht, Nat.mul_left_comm]; omega
  rw [decide_eq_false_iff_not, ← hpar]
  generalize (binFrac ((k : Int) - (L f : Int) - 2)).1 = an at *
  generalize (binFrac ((k : Int) - (L f : Int) - 2)).2 = ad at *
  generalize (tenFrac E).1 = tn
  generalize (tenFrac E).2 = td
  generalize (if q = 2 ^ (f.p - 1) ∧ 0 < k then 4 * q - 1 else 4 * q - 2) = lo at *
  have hS : 0 < 2 ^ (L f) * 4 := by positivity
  have hc : 0 < 2 * ad := by omega
  have eY : 2 * (D * tn * 2 ^ (L f)) * (2 * ad) = D * (tn * ad) * (2 ^ (L f) * 4) := by ring
  -- the cell's midpoints are `lo·2^k/2`, `hi·2^k/2` and `2^e2·2^L·4 = 2^k`: times `2·ad` the cell's comparisons are `candRange`'s times `2^L·4`
  obtain ⟨lo_le, lo_lt⟩ := scale_iff hc hS (mid_scale td mid_lo hsc) eY
  obtain ⟨hi_le, hi_lt⟩ := scale_iff hc hS eY (mid_scale td mid_hi hsc)
  rw [← lo_le, ← lo_lt, ← hi_le, ← hi_lt]
  constructor
  · intro c
    have hlo := c.lower (by omega)
    have hhi := c.upper hb
    exact ⟨hlo, hhi, fun hodd => ⟨lt_of_le_of_ne hlo fun he => hodd (c.lower_tie (by omega) he),
      lt_of_le_of_ne hhi fun he => hodd (c.upper_tie hb he)⟩⟩
  · intro ⟨hlo, hhi, hs⟩
    refine ⟨hb.le, fun _ => hlo, fun _ he => ?_, fun _ => hhi, fun _ he => ?_⟩
    · by_contra hodd
      exact (hs hodd).1.ne he
    · by_contra hodd
      exact (hs hodd).2.ne he


theorem cand_iff_roundNE {f : Fmt} (hf : WF f) {b : Nat} (hb0 : 0 < b) (hb : b < f.infBits) (D : Nat) (E : Int) :
    Cand (interval f b) E D ↔ 1 ≤ D ∧ roundNE f (decFrac D E).1 (decFrac D E).2 = b := by
  have key := inCell_iff_bounds hf hb0 hb D (E := E) (P := (scalePQ (interval f b).e2 E).1)
    (Q := (scalePQ (interval f b).e2 E).2) rfl
  rw [cand_iff, ← key, roundNE_eq_iff hf (decFrac_den_pos D E).ne']

/-- `|D·10^E − v|` at the comparison scale of `candRange`, as the sum of the two truncated differences -/
def dist (iv : Interval) (E : Int) (D : Nat) : Nat :=
  (D * (scalePQ iv.e2 E).1 - iv.v * (scalePQ iv.e2 E).2) + (iv.v * (scalePQ iv.e2 E).2 - D * (scalePQ iv.e2 E).1)

theorem pick_mem (c : List Nat) (dlo dhi d1 D : Nat) (h : dlo ≤ dhi)
    (hD : D ∈ (if (c.filter (fun d => dlo ≤ d ∧ d ≤ dhi)).isEmpty then (if d1 < dlo then [dlo] else [dhi])
      else c.filter (fun d => dlo ≤ d ∧ d ≤ dhi))) : dlo ≤ D ∧ D ≤ dhi := by
  by_cases he : (c.filter (fun d => dlo ≤ d ∧ d ≤ dhi)).isEmpty = true
  · rw [if_pos he] at hD
    split at hD <;> simp only [List.mem_singleton] at hD <;> omega
  · rw [if_neg he] at hD
    have := (List.mem_filter.mp hD).2
    simpa using this

theorem pick_ne_nil (c : List Nat) (dlo dhi d1 : Nat) :
    (if (c.filter (fun d => dlo ≤ d ∧ d ≤ dhi)).isEmpty then (if d1 < dlo then [dlo] else [dhi])
      else c.filter (fun d => dlo ≤ d ∧ d ≤ dhi)) ≠ [] := by
  by_cases he : (c.filter (fun d => dlo ≤ d ∧ d ≤ dhi)).isEmpty = true
  · rw [if_pos he]; split <;> simp
  · rw [if_neg he]; intro h; rw [h] at he; simp at he

theorem closestIn_ne_nil (iv : Interval) (E : Int) (dlo dhi : Nat) : closestIn iv E dlo dhi ≠ [] := by
  unfold closestIn
  exact pick_ne_nil _ dlo dhi _

/-- the distance to `vN = P·d1 + r` falls up to `d1` and rises from `d1 + 1` on; which of these two
is nearer is decided by `2r ⋚ P` -/
theorem dist_le {P vN r d1 D D' : Nat} (hv : P * d1 + r = vN) (hr : r < P)
    (h : D' ≤ D ∧ D ≤ d1 ∨ d1 + 1 ≤ D ∧ D ≤ D' ∨ D = d1 ∧ 2 * r ≤ P ∧ d1 + 1 ≤ D' ∨
      D = d1 + 1 ∧ P ≤ 2 * r ∧ D' ≤ d1) :
    (D * P - vN) + (vN - D * P) ≤ (D' * P - vN) + (vN - D' * P) := by
  have mono : ∀ {a b : Nat}, a ≤ b → a * P ≤ b * P := fun hab => Nat.mul_le_mul_right P hab
  have hd1 : P * d1 = d1 * P := Nat.mul_comm _ _
  have hs : (d1 + 1) * P = d1 * P + P := Nat.succ_mul _ _
  rcases h with ⟨a, b⟩ | ⟨a, b⟩ | ⟨rfl, _, b⟩ | ⟨rfl, _, b⟩
  · have := mono a
    have := mono b
    omega
  · have := mono a
    have := mono b
    omega
  · have := mono b
    omega
  · have := mono b
    omega

theorem mem_nearest (P r d1 d : Nat) :
    d ∈ (if 2 * r < P then [d1] else if 2 * r > P then [d1 + 1] else [d1, d1 + 1]) ↔
      d = d1 ∧ 2 * r ≤ P ∨ d = d1 + 1 ∧ P ≤ 2 * r := by
  split
  · rw [List.mem_singleton]; omega
  · split
    · rw [List.mem_singleton]; omega
    · rw [List.mem_cons, List.mem_singleton]; omega

theorem pick_closest (c : List Nat) (P vN r d1 dlo dhi D D' : Nat) (hv : P * d1 + r = vN)
    (hr : r < P) (hc : ∀ d, d ∈ c ↔ d = d1 ∧ 2 * r ≤ P ∨ d = d1 + 1 ∧ P ≤ 2 * r)
    (hD : D ∈ (if (c.filter (fun d => dlo ≤ d ∧ d ≤ dhi)).isEmpty
        then (if d1 < dlo then [dlo] else [dhi]) else c.filter (fun d => dlo ≤ d ∧ d ≤ dhi)))
    (h1 : dlo ≤ D') (h2 : D' ≤ dhi) :
    (D * P - vN) + (vN - D * P) ≤ (D' * P - vN) + (vN - D' * P) := by
  apply dist_le hv hr
  have hf : ∀ d, d ∈ c.filter (fun d => dlo ≤ d ∧ d ≤ dhi) ↔
      (d = d1 ∧ 2 * r ≤ P ∨ d = d1 + 1 ∧ P ≤ 2 * r) ∧ dlo ≤ d ∧ d ≤ dhi := by
    intro d
    rw [List.mem_filter, hc, decide_eq_true_eq]
  split at hD
  · rename_i he
    rw [List.isEmpty_iff] at he
    rw [he] at hf
    -- neither of the nearest two is in range, so the range lies to one side of them
    have n1 := mt (hf d1).mpr List.not_mem_nil
    have n2 := mt (hf (d1 + 1)).mpr List.not_mem_nil
    split at hD
    · rw [List.mem_singleton] at hD
      omega
    · rw [List.mem_singleton] at hD
      omega
  · have := (hf D).mp hD
    omega

/-- the selection inside `closestIn` returns exactly the minimisers of the distance to `vN = P·d1 + r` in `[dlo, dhi]`:
the nearest integers if one of them is in range; otherwise the range lies to one side of them, the distance is strictly
monotone on it and the fallback is the near end -/
theorem mem_pick_iff {P vN r d1 dlo dhi : Nat} (hP : 0 < P) (hv : P * d1 + r = vN) (hr : r < P) (h : dlo ≤ dhi)
    (c : List Nat) (hc : ∀ d, d ∈ c ↔ d = d1 ∧ 2 * r ≤ P ∨ d = d1 + 1 ∧ P ≤ 2 * r) (D : Nat) :
    D ∈ (if (c.filter (fun d => dlo ≤ d ∧ d ≤ dhi)).isEmpty then (if d1 < dlo then [dlo] else [dhi])
          else c.filter (fun d => dlo ≤ d ∧ d ≤ dhi)) ↔
      dlo ≤ D ∧ D ≤ dhi ∧ ∀ D', dlo ≤ D' → D' ≤ dhi →
        (D * P - vN) + (vN - D * P) ≤ (D' * P - vN) + (vN - D' * P) := by
  constructor
  · intro hD
    obtain ⟨a, b⟩ := pick_mem c dlo dhi d1 D h hD
    exact ⟨a, b, fun D' h1 h2 => pick_closest c P vN r d1 dlo dhi D D' hv hr hc hD h1 h2⟩
  · rintro ⟨h1, h2, hmin⟩
    have hf : ∀ d, d ∈ c.filter (fun d => dlo ≤ d ∧ d ≤ dhi) ↔
        (d = d1 ∧ 2 * r ≤ P ∨ d = d1 + 1 ∧ P ≤ 2 * r) ∧ dlo ≤ d ∧ d ≤ dhi := by
      intro d; rw [List.mem_filter, hc, decide_eq_true_eq]
    have mono : ∀ {a b : Nat}, a ≤ b → a * P ≤ b * P := fun hab => Nat.mul_le_mul_right P hab
    have hd1 : P * d1 = d1 * P := Nat.mul_comm _ _
    have hs : ∀ a : Nat, (a + 1) * P = a * P + P := fun a => Nat.succ_mul _ _
    split
    · rename_i he
      rw [List.isEmpty_iff] at he
      rw [he] at hf
      have n1 := mt (hf d1).mpr List.not_mem_nil
      have n2 := mt (hf (d1 + 1)).mpr List.not_mem_nil
      split
      · -- the range lies above `d1`: a `D` beyond `dlo` is farther than `dlo`
        rw [List.mem_singleton]
        by_contra hne
        have := hmin dlo (le_refl _) h
        have := mono (show dlo + 1 ≤ D by omega)
        have := mono (show d1 + 1 ≤ dlo by omega)
        have := hs dlo; have := hs d1
        omega
      · -- `d1` and `d1 + 1` cannot both be in range, so the range ends at or below `d1`
        rw [List.mem_singleton]
        have hdhi : dhi ≤ d1 := by omega
        by_contra hne
        have := hmin dhi h (le_refl _)
        have := mono (show D + 1 ≤ dhi by omega)
        have := mono hdhi
        have := hs D
        omega
    · -- some nearest integer `x` is in range; `D`, no farther than `x`, is `d1` or `d1 + 1` and nearest as well
      rename_i he
      obtain ⟨x, hx⟩ := List.exists_mem_of_ne_nil _ (fun hn => he (List.isEmpty_iff.mpr hn))
      obtain ⟨hxc, hx1, hx2⟩ := (hf x).mp hx
      have := hmin x hx1 hx2
      refine (hf D).mpr ⟨?_, h1, h2⟩
      have := hs d1; have := hs (d1 + 1); have := hs D
      rcases Nat.lt_or_ge D d1 with hlt | hge
      · have := mono (show D + 1 ≤ d1 by omega)
        rcases hxc with ⟨rfl, _⟩ | ⟨rfl, _⟩ <;> omega
      · rcases Nat.lt_or_ge (d1 + 1) D with hgt | hle
        · have := mono (show d1 + 1 + 1 ≤ D by omega)
          rcases hxc with ⟨rfl, _⟩ | ⟨rfl, _⟩ <;> omega
        · rcases (show D = d1 ∨ D = d1 + 1 by omega) with rfl | rfl <;>
            rcases hxc with ⟨rfl, _⟩ | ⟨rfl, _⟩ <;> omega

theorem mem_closestIn_iff (iv : Interval) (E : Int) {dlo dhi : Nat} (h : dlo ≤ dhi) (D : Nat) :
    D ∈ closestIn iv E dlo dhi ↔
      dlo ≤ D ∧ D ≤ dhi ∧ ∀ D', dlo ≤ D' → D' ≤ dhi → dist iv E D ≤ dist iv E D' := by
  unfold closestIn dist
  exact mem_pick_iff (scalePQ_pos _ _).1 (Nat.div_add_mod _ _) (Nat.mod_lt _ (scalePQ_pos _ _).1) h _
    (mem_nearest _ _ _) D

theorem best_of_close {iv : Interval} {E : Int} {D : Nat}
    (hclose : 2 * (D * (scalePQ iv.e2 E).1 - iv.v * (scalePQ iv.e2 E).2) ≤ (scalePQ iv.e2 E).1
            ∧ 2 * (iv.v * (scalePQ iv.e2 E).2 - D * (scalePQ iv.e2 E).1) ≤ (scalePQ iv.e2 E).1) (D' : Nat) :
    dist iv E D ≤ dist iv E D' := by
  unfold dist
  generalize (scalePQ iv.e2 E).1 = P at *
  generalize iv.v * (scalePQ iv.e2 E).2 = vN at *
  rcases Nat.lt_trichotomy D D' with h | rfl | h
  · have := Nat.mul_le_mul_right P (show D + 1 ≤ D' by omega)
    have : (D + 1) * P = D * P + P := Nat.succ_mul _ _
    omega
  · exact le_refl _
  · have := Nat.mul_le_mul_right P (show D' + 1 ≤ D by omega)
    have : (D' + 1) * P = D' * P + P := Nat.succ_mul _ _
    omega

theorem cand_of_range {iv : Interval} {E : Int} (h : (candRange iv E).1 ≤ (candRange iv E).2) :
    Cand iv E (candRange iv E).1 := ⟨le_refl _, h⟩

theorem mem_shortestGo_iff (iv : Interval) (fuel : Nat) (E0 : Int) (D : Nat) (E : Int) :
    (D, E) ∈ shortestGo iv fuel E0 ↔
      E ≤ E0 ∧ E0 - E < fuel ∧ (∀ E', E < E' → E' ≤ E0 → ∀ D', ¬ Cand iv E' D')
      ∧ Cand iv E D ∧ ∀ D', Cand iv E D' → dist iv E D ≤ dist iv E D' := by
  induction fuel generalizing E0 with
  | zero =>
    simp only [shortestGo, List.not_mem_nil, false_iff]
    rintro ⟨h1, h2, _⟩
    simp at h2
    omega
  | succ n ih =>
    unfold shortestGo
    simp only []
    split
    · -- there are candidates at `E0`: the search stops here
      rename_i hc
      rw [List.mem_map]
      constructor
      · rintro ⟨d, hd, he⟩
        obtain ⟨rfl, rfl⟩ := Prod.mk.inj he
        obtain ⟨a, b, c⟩ := (mem_closestIn_iff iv _ hc _).mp hd
        exact ⟨le_refl _, by omega, fun E' l1 l2 => absurd l2 (by omega), ⟨a, b⟩, fun D' hD' => c D' hD'.1 hD'.2⟩
      · rintro ⟨h1, _, h3, hD, hbest⟩
        have hE : E = E0 := by
          by_contra hne
          exact h3 E0 (by omega) (le_refl _) _ (cand_of_range hc)
        subst hE
        exact ⟨D, (mem_closestIn_iff iv E hc D).mpr ⟨hD.1, hD.2, fun D' a b => hbest D' ⟨a, b⟩⟩, rfl⟩
    · -- none at `E0`: one scale down
      rename_i hc
      rw [ih]
      have hno : ∀ D', ¬ Cand iv E0 D' := fun D' hD' => hc (le_trans hD'.1 hD'.2)
      constructor
      · rintro ⟨h1, h2, h3, hD, hbest⟩
        refine ⟨by omega, by push_cast; omega, fun E' l1 l2 D' hD' => ?_, hD, hbest⟩
        by_cases he : E' = E0
        · exact hno D' (he ▸ hD')
        · exact h3 E' l1 (by omega) D' hD'
      · rintro ⟨h1, h2, h3, hD, hbest⟩
        have hE : E ≠ E0 := fun he => hno D (he ▸ hD)
        exact ⟨by omega, by push_cast at h2; omega, fun E' l1 l2 => h3 E' l1 (by omega), hD, hbest⟩

/-- the exponent at which `shortest` starts its downward search -/
def upOf (f : Fmt) (b : Nat) : Int :=
  ((bitlen (interval f b).hi : Int) + (interval f b).e2) * 30103 / 100000 + 2

theorem shortest_eq (f : Fmt) (b : Nat) : shortest f b = shortestGo (interval f b) 420 (upOf f b) := rfl


end LexVerif.Proof.RoundNE
