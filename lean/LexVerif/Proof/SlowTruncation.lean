import Mathlib.Tactic.Ring  -- so that `2 ^ n` on ℕ elaborates here as it does in the Mathlib-importing modules that use these lemmas
import LexVerif.Proof.RoundNECell
/-!
# Proof.SlowTruncation — no half-way point between two floats has more than `max_digits` significant digits

`parse_mantissa` keeps `d = max_digits` significant digits and replaces a non-zero cut tail by a single digit `1`. Both the
value of the whole digit string and the replaced one lie strictly between `P·u` and `(P + 1)·u`, `P` the first `d` digits
and `u = radix^y` the unit of the `d`-th digit. `roundNE` is monotone and changes only at the half-way points
`(2q + 1)·2^k / 2^(L+1)` between adjacent floats; written in the (even) radix such a point is `Z / radix^a` with
`Z = (2q + 1)·(radix/2)^a·2^c < radix^d` — so it has at most `d` significant digits and cannot lie strictly inside
`(P·u, (P + 1)·u)`: either `u` is coarser than its last digit (`Z > P·radix ≥ radix^d`) or finer (an integer strictly
between `P` and `P + 1`). Hence `roundNE` is constant on the open interval (`roundNE_const_between`).
-/
namespace LexVerif.Proof.Truncation
open LexVerif.Spec LexVerif.Proof.RoundNE

/-- the numerator of the half-way point above a finite pattern `b`, in units of `2^-(L+1)`: `(2q + 1)·2^k` -/
theorem halfway_form (f : Fmt) (b : Nat) (hb : b < f.infBits) :
    ∃ k q, q < 2 * 2 ^ (f.p - 1) ∧ k ≤ f.maxExpField - 2 ∧ ival f b + ival f (b + 1) = (2 * q + 1) * 2 ^ k := by
  obtain ⟨k, q, rfl, h1, h2⟩ := decomp f b
  refine ⟨k, q, h2, ?_, ?_⟩
  · -- a normal pattern has `(k + 1)·2^(p-1) ≤ b < maxExpField·2^(p-1)`
    rw [infBits_eq] at hb
    by_cases hk : k = 0
    · omega
    · have : (k + 1) * 2 ^ (f.p - 1) < f.maxExpField * 2 ^ (f.p - 1) := by
        have := h1 (by omega)
        rw [Nat.add_mul, Nat.one_mul]; omega
      have := Nat.lt_of_mul_lt_mul_right this
      omega
  · rw [Nat.add_assoc, ival_kq f k q h1 (by omega), ival_kq f k (q + 1) (by omega) (by omega), ← Nat.add_mul]
    congr 1; omega

theorem halfway_between {f : Fmt} {N N' D b b' : Nat} (c : InCell f N D b) (c' : InCell f N' D b') (h : b < b') :
    ∃ k q, q < 2 * 2 ^ (f.p - 1) ∧ k ≤ f.maxExpField - 2 ∧
      2 * N ≤ D * ((2 * q + 1) * 2 ^ k) ∧ D * ((2 * q + 1) * 2 ^ k) ≤ 2 * N' := by
  have hb : b < f.infBits := Nat.lt_of_lt_of_le h c'.le_inf
  obtain ⟨k, q, hq, hk, hH⟩ := halfway_form f b hb
  refine ⟨k, q, hq, hk, ?_, ?_⟩
  · rw [← hH]; exact c.upper hb
  · rw [← hH]
    refine Nat.le_trans (Nat.mul_le_mul_left _ ?_) (c'.lower (by omega))
    exact Nat.add_le_add (ival_mono f (by omega)) (ival_mono f (by omega))

/-- a half-way point `n·2^k / 2^l` written in the even radix `r = 2·g`: it is `Z / r^a` with `Z < r^d`, by `hii` when it has
binary places left (`k ≤ l`, `a = l - k` radix places) and by `hi` when it is an integer -/
theorem halfway_in_radix {r g d p M l : Nat} (hr : r = 2 * g) (hg : 1 ≤ g)
    (hi : 2 ^ p * 2 ^ (M - l) ≤ r ^ d) (hii : 2 ^ p * g ^ l ≤ r ^ d) {n k : Nat} (hn : n < 2 ^ p) (hk : k ≤ M) :
    ∃ a Z, n * 2 ^ k * r ^ a = Z * 2 ^ l ∧ Z < r ^ d := by
  rcases Nat.le_total k l with h | h
  · refine ⟨l - k, n * g ^ (l - k), ?_, ?_⟩
    · rw [hr, Nat.mul_pow, Nat.mul_assoc n, ← Nat.mul_assoc (2 ^ k), ← Nat.pow_add, Nat.add_sub_cancel' h,
        Nat.mul_comm (2 ^ l), Nat.mul_assoc]
    · calc n * g ^ (l - k) ≤ n * g ^ l := Nat.mul_le_mul_left _ (Nat.pow_le_pow_right hg (Nat.sub_le _ _))
        _ < 2 ^ p * g ^ l := Nat.mul_lt_mul_of_pos_right hn (Nat.pow_pos hg)
        _ ≤ r ^ d := hii
  · refine ⟨0, n * 2 ^ (k - l), ?_, ?_⟩
    · rw [Nat.pow_zero, Nat.mul_one, Nat.mul_assoc n, ← Nat.pow_add, Nat.sub_add_cancel h]
    · calc n * 2 ^ (k - l) ≤ n * 2 ^ (M - l) :=
            Nat.mul_le_mul_left _ (Nat.pow_le_pow_right (by decide) (Nat.sub_le_sub_right hk l))
        _ < 2 ^ p * 2 ^ (M - l) := Nat.mul_lt_mul_of_pos_right hn (Nat.two_pow_pos _)
        _ ≤ r ^ d := hi

theorem between_rescale {H R Z E : Nat} (hZ : H * R = Z * E) (hR : 0 < R) {x x' D : Nat}
    (h1 : x * E < D * H) (h2 : D * H < x' * E) : x * R < D * Z ∧ D * Z < x' * R := by
  have e : D * Z * E = D * H * R := by rw [Nat.mul_assoc, ← hZ, Nat.mul_assoc]
  constructor
  · apply Nat.lt_of_mul_lt_mul_right (a := E)
    rw [e, Nat.mul_right_comm]
    exact Nat.mul_lt_mul_of_pos_right h1 hR
  · apply Nat.lt_of_mul_lt_mul_right (a := E)
    rw [e, Nat.mul_right_comm x']
    exact Nat.mul_lt_mul_of_pos_right h2 hR

theorem no_short_between {r d P Z : Nat} (hd : 1 ≤ d) (hP : r ^ (d - 1) ≤ P) (hZ : Z < r ^ d) {y n : Nat}
    (s1 : P * r ^ y < r ^ n * Z) (s2 : r ^ n * Z < (P + 1) * r ^ y) : False := by
  rcases Nat.lt_or_ge n y with h | h
  · -- the unit `r^y / r^n` is a positive power of `r`: `Z` would need more than `d` digits
    obtain ⟨t, rfl⟩ := Nat.exists_eq_add_of_lt h
    rw [Nat.add_assoc, Nat.pow_add, Nat.mul_left_comm] at s1
    have t1 : P * r ^ (t + 1) < Z := Nat.lt_of_mul_lt_mul_left s1
    have t2 : r ^ d ≤ P * r ^ (t + 1) := by
      rw [← Nat.sub_add_cancel hd, Nat.pow_succ]
      exact Nat.mul_le_mul hP (Nat.le_self_pow (Nat.succ_ne_zero t) r)
    omega
  · -- the unit is `1 / r^t`: the integer `r^t·Z` would lie strictly between `P` and `P + 1`
    obtain ⟨t, rfl⟩ := Nat.exists_eq_add_of_le h
    rw [Nat.pow_add, Nat.mul_assoc] at s1 s2
    rw [Nat.mul_comm P] at s1
    rw [Nat.mul_comm (P + 1)] at s2
    have t1 := Nat.lt_of_mul_lt_mul_left s1
    have t2 := Nat.lt_of_mul_lt_mul_left s2
    omega

/-- **no half-way point strictly inside `(P·u, (P+1)·u)`**: of two numbers strictly inside, neither rounds higher than the
other. `r = 2·g` the radix, `d` the digit limit with the two facts that define it (`hi`: the largest half-way point is
below `r^d`; `hii`: so is the numerator of the finest one), `u = r^m·r^xp / r^xn`. -/
theorem roundNE_le_of_no_halfway {f : Fmt} (hf : WF f) {r g d : Nat} (hr : r = 2 * g) (hg : 1 ≤ g) (hd : 1 ≤ d)
    (hi : 2 ^ (f.p + 1) * 2 ^ (f.maxExpField - 2 - (L f + 1)) ≤ r ^ d)
    (hii : 2 ^ (f.p + 1) * g ^ (L f + 1) ≤ r ^ d)
    (P m A A' : Nat) (hP : r ^ (d - 1) ≤ P)
    (hA : P * r ^ m < A) (hA' : A' < (P + 1) * r ^ m) (xp xn : Nat) :
    roundNE f (A' * r ^ xp) (r ^ xn) ≤ roundNE f (A * r ^ xp) (r ^ xn) := by
  have hrpos : 0 < r := by omega
  have hD : r ^ xn ≠ 0 := Nat.ne_of_gt (Nat.pow_pos hrpos)
  have hX : 0 < r ^ xp := Nat.pow_pos hrpos
  have hE : 0 < 2 ^ (L f + 1) := Nat.two_pow_pos _
  apply Nat.le_of_not_lt; intro hlt
  obtain ⟨k, q, hq, hk, up, lo⟩ :=
    halfway_between (inCell_roundNE hf (A * r ^ xp) hD) (inCell_roundNE hf (A' * r ^ xp) hD) hlt
  have hq1 : 2 * q + 1 < 2 ^ (f.p + 1) := by
    have : 2 ^ (f.p + 1) = 2 ^ (f.p - 1) * 2 * 2 := by
      have := hf.hp
      rw [← Nat.pow_succ, ← Nat.pow_succ]; congr 1; omega
    omega
  obtain ⟨a, Z, hZ, hZlt⟩ := halfway_in_radix hr hg hi hii hq1 hk
  have h2 : ∀ N, 2 * (N * 2 ^ L f) = N * 2 ^ (L f + 1) := fun N => by
    rw [Nat.pow_succ, Nat.mul_left_comm, Nat.mul_comm 2]
  rw [h2] at up lo
  -- `P·r^m·r^xp < r^xn·H / 2^(L+1) < (P+1)·r^m·r^xp`, `H` the half-way point's numerator
  have s1 := Nat.lt_of_lt_of_le (Nat.mul_lt_mul_of_pos_right (Nat.mul_lt_mul_of_pos_right hA hX) hE) up
  have s2 := Nat.lt_of_le_of_lt lo (Nat.mul_lt_mul_of_pos_right (Nat.mul_lt_mul_of_pos_right hA' hX) hE)
  -- the same with `Z / r^a` for `H / 2^(L+1)`: `P·r^(m+xp+a) < r^xn·Z < (P+1)·r^(m+xp+a)`
  obtain ⟨s1, s2⟩ := between_rescale hZ (Nat.pow_pos hrpos) s1 s2
  rw [Nat.mul_assoc, Nat.mul_assoc, ← Nat.pow_add, ← Nat.pow_add] at s1 s2
  exact no_short_between hd hP hZlt s1 s2

theorem roundNE_const_between {f : Fmt} (hf : WF f) {r g d : Nat} (hr : r = 2 * g) (hg : 1 ≤ g) (hd : 1 ≤ d)
    (hi : 2 ^ (f.p + 1) * 2 ^ (f.maxExpField - 2 - (L f + 1)) ≤ r ^ d)
    (hii : 2 ^ (f.p + 1) * g ^ (L f + 1) ≤ r ^ d)
    (P m A A' : Nat) (hP : r ^ (d - 1) ≤ P) (hm : 1 ≤ m)
    (hA1 : P * r ^ m < A) (hA2 : A < (P + 1) * r ^ m) (hA1' : P * r ^ m < A') (hA2' : A' < (P + 1) * r ^ m)
    (xp xn : Nat) :
    roundNE f (A * r ^ xp) (r ^ xn) = roundNE f (A' * r ^ xp) (r ^ xn) :=
  Nat.le_antisymm (roundNE_le_of_no_halfway hf hr hg hd hi hii P m A' A hP hA1' hA2 xp xn)
    (roundNE_le_of_no_halfway hf hr hg hd hi hii P m A A' hP hA1 hA2' xp xn)

end LexVerif.Proof.Truncation
