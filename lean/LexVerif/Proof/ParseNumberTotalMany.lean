import LexVerif.Proof.ParseNumberTotalPhases
import LexVerif.Proof.SepFree
import LexVerif.Proof.ParseNumberDebugU64
/-!
# Proof.ParseNumberTotalMany — the many-digits re-parse: `fraction_digits.unwrap()` is unreachable

The `unwrap` is reached only when `Bytes` is contiguous (no digit separator byte), there is no fraction and
`parse_u64_digits` over the stored integer digits returned with `step ≠ 0`. A counting argument excludes that:
the stored slice has `L = n_digits` bytes, `n_digits - step - zeros > 0`, the re-parse skips `z' ≤ zeros`
leading zeros and then consumes bytes until `step = 0` or the slice is exhausted. One statement for both builds
(`manyDigitsPhase_env`): a debug build owes `ManyDbg`, what `parse_u64_digits` needs of the stored slices.
-/
namespace LexVerif.Proof.PNTotal
open LexVerif LexVerif.Model LexVerif.Spec LexVerif.Proof.IterSpec
open LexVerif.Proof.PNDebug (RunsOut parseU64Digits_env get_lt)

variable {c : Cfg}

theorem notFormat_bytesContig (h : c.feats.format = false) : c.bytesContiguous = true := by
  cases hb : c.bytesContiguous
  · rw [IterSpec.format_of_sep hb] at h; cases h
  · rfl

theorem skipZeros_contig (cx : Env c) (hb : c.bytesContiguous = true) (b : Bytes) (hv : b.index ≤ b.slc.length) :
    ∃ b', skipZeros c .integer b = .ok (Sep.zerosPrefix (b.slc.drop b.index), b') ∧ b'.slc = b.slc ∧
      b'.index = b.index + Sep.zerosPrefix (b.slc.drop b.index) := by
  have hpl : ∀ f i, peekIdx c .integer b.slc f i = i := peekIdx_bc hb _ _
  obtain ⟨h1, h2⟩ := scan_plain (c := c) (k := .integer) b.slc (· == 48) (fun i => hpl _ _) (b.slc.length + 1)
    (b.iterCount c .integer == 0) b.index (hpl _ _) (by omega)
  have hcnt : (mv c .integer (b.index + ((b.slc.drop b.index).takeWhile (· == 48)).length)
      ((b.slc.drop b.index).takeWhile (· == 48)).length b).iterCount c .integer - b.iterCount c .integer =
      ((b.slc.drop b.index).takeWhile (· == 48)).length := by
    cases hct : c.iterContiguous .integer
    · rw [mv_iterCount c .integer hct (fun h => nomatch h)]
      exact Nat.add_sub_cancel_left ..
    · simp [Bytes.iterCount, hct]
  rw [skipZeros_eq (cx.hs _) b (cx.stepOK _ PNDebug.zero_ne_sep)]
  simp only [run, h1, h2, hcnt, Sep.zerosPrefix_takeWhile]
  exact ⟨_, rfl, mv_slc .., mv_index ..⟩

/-! ## the re-parse, cut into pieces that are definitionally the model's `manyDigitsPhase` -/

/-- everything after `if n_digits > 0` -/
def manyTail (c : Cfg) (neg : Bool) (ip : IntPart) (fp : FracPart) (ep : ExpPart) (step endIdx : Nat) :
    Except Err (Number × Nat) := do
  let integer := Bytes.new ip.integerDigits
  let (_, integer) ← skipZeros c .integer integer
  let (integer, mantissa, step) ← parseU64Digits c .integer integer 0 step
  let (implicit, mantissa) : Int × Nat ←
    if step = 0 || (c.feats.format && !c.bytesContiguous && fp.fraction.isNone) then
      pure ((ip.nDigits : Int) - (integer.currentCount c : Int), mantissa)
    else
      match fp.fraction with
      | none => .error (.panic "fraction_digits.unwrap()")
      | some fd => do
        let fraction := Bytes.new fd
        let fraction ← if mantissa = 0 then (do let (_, f) ← skipZeros c .fraction fraction; pure f) else pure fraction
        let (fraction, mantissa, _) ← parseU64Digits c .fraction fraction mantissa step
        pure (-(fraction.currentCount c : Int), mantissa)
  let exponent ← scaleExponent c implicit
  pure (⟨mantissa, exponent + ep.explicit, neg, true, ip.integerDigits, fp.fraction, ep.explicit⟩, endIdx)

/-- from the fraction `skip_zeros` on -/
def manyMid (c : Cfg) (neg : Bool) (ip : IntPart) (fp : FracPart) (ep : ExpPart) (nDigits step : Nat) (e0 : Int)
    (endIdx zi : Nat) (zeros : Bytes) : Except Err (Number × Nat) := do
  let (zf, _) ← skipZeros c .fraction zeros
  let nd := nDigits - step - zi - zf
  if nd > 0 then manyTail c neg ip fp ep step endIdx
  else pure (⟨fp.mantissa, e0, neg, false, ip.integerDigits, fp.fraction, ep.explicit⟩, endIdx)

theorem manyDigitsPhase_eq (o : POpts) (neg : Bool) (ip : IntPart) (fp : FracPart) (ep : ExpPart) (nDigits step : Nat)
    (e0 : Int) (endIdx : Nat) : manyDigitsPhase c o neg ip fp ep nDigits step e0 endIdx =
  (do
    let (zi, zeros) ← skipZeros c .integer ip.start
    let zeros ← if zeros.firstIsCased o.dp then zeros.step c else pure zeros
    manyMid c neg ip fp ep nDigits step e0 endIdx zi zeros) := rfl

theorem currentCount_le_new {l : List Nat} {b : Bytes} (h : Adv (Bytes.new l) b) : b.currentCount c ≤ l.length := by
  have h1 := h.cnt
  have h2 := h.valid
  simp only [Bytes.new, csum] at h1 h2
  unfold Bytes.currentCount
  split <;> omega

/-- what the re-scan needs in a debug build: `step` within the table's bound, and the stored slices hold digits only
as `peek` sees them -/
def ManyDbg (c : Cfg) (ip : IntPart) (fp : FracPart) (step : Nat) : Prop :=
  step ≤ u64Step c.feats c.mantissaRadix ∧ RunsOut c .integer (Bytes.new ip.integerDigits) ∧
    ∀ fd, fp.fraction = some fd → RunsOut c .fraction (Bytes.new fd)

/-- `hkey`: without a separator byte and without a fraction more than `step` significant integer digits remain, so
`fraction_digits.unwrap()` is not reached -/
theorem manyTail_env (cx : Env c) (neg : Bool) (ip : IntPart) (fp : FracPart) (ep : ExpPart) (step endIdx N : Nat)
    (hkey : c.bytesContiguous = true → fp.fraction = none → step + Sep.zerosPrefix ip.integerDigits < ip.integerDigits.length)
    (hN1 : ip.nDigits ≤ N) (hN2 : ip.integerDigits.length ≤ N) (hN3 : ∀ fd, fp.fraction = some fd → fd.length ≤ N)
    (hdbg : c.debug = true → ManyDbg c ip fp step) :
    ∃ num, manyTail c neg ip fp ep step endIdx = .ok (num, endIdx) ∧
      (num.exponent - ep.explicit).natAbs ≤ 5 * N ∧ num.explicitExp = ep.explicit := by
  unfold manyTail
  obtain ⟨z, i1, hr1, ha1⟩ := skipZeros_env cx .integer (Bytes.new ip.integerDigits) (PNDebug.new_valid _)
  simp only [hr1, bind, Except.bind, pure, Except.pure]
  obtain ⟨i2, m2, s2, hr2, ha2, hstop, hexact, hinv2⟩ := parseU64Digits_env cx .integer i1 0 step ha1.valid' fun hd =>
    ⟨PNDebug.minv_init (cx.dbg hd) (hdbg hd).1, (hdbg hd).2.1.skipZeros (cx.dbg hd) hr1⟩
  simp only [hr2]
  have hcc := currentCount_le_new (c := c) (ha1.trans ha2)
  split
  · obtain ⟨e, he, hbound⟩ := scaleExponent_env cx ((ip.nDigits : Int) - (i2.currentCount c : Int))
    simp only [he]
    refine ⟨_, rfl, ?_, rfl⟩
    simp only [Int.add_sub_cancel]
    omega
  · next hcond =>
    cases hfr : fp.fraction with
    | some fd =>
      simp only
      have hfd := hN3 fd hfr
      -- the fraction slice, after `skip_zeros` or not
      have hfrac : ∀ f : Bytes, Adv (Bytes.new fd) f → (c.debug = true → RunsOut c .fraction f) →
          ∃ r e, parseU64Digits c .fraction f m2 s2 = .ok r ∧
            scaleExponent c (-(r.1.currentCount c : Int)) = .ok e ∧ e.natAbs ≤ 5 * N := by
        intro f haf hrun
        obtain ⟨b2, m3, s3, hr3, ha3, _⟩ := parseU64Digits_env cx .fraction f m2 s2 haf.valid' fun hd =>
          ⟨hinv2 hd, hrun hd⟩
        have hcc2 := currentCount_le_new (c := c) (haf.trans ha3)
        obtain ⟨e, he, hbound⟩ := scaleExponent_env cx (-(b2.currentCount c : Int))
        refine ⟨_, e, hr3, he, ?_⟩
        simp only [Int.natAbs_neg, Int.natAbs_natCast] at hbound
        omega
      split
      · obtain ⟨n, f, hf, haf⟩ := skipZeros_env cx .fraction (Bytes.new fd) (PNDebug.new_valid fd)
        obtain ⟨r, e, h1, h2, hb⟩ := hfrac f haf fun hd =>
          ((hdbg hd).2.2 fd hfr).skipZeros (cx.dbg hd) hf
        simp only [hf, h1, h2]
        exact ⟨_, rfl, by simpa [Int.add_sub_cancel] using hb, rfl⟩
      · obtain ⟨r, e, h1, h2, hb⟩ := hfrac _ (Adv.refl _ (PNDebug.new_valid fd)) fun hd => (hdbg hd).2.2 fd hfr
        simp only [h1, h2]
        exact ⟨_, rfl, by simpa [Int.add_sub_cancel] using hb, rfl⟩
    | none =>
      exfalso
      simp only [hfr, Option.isNone_none, Bool.and_true, Bool.or_eq_true, decide_eq_true_eq, Bool.and_eq_true,
        Bool.not_eq_true', not_or, not_and, Bool.not_eq_false] at hcond
      have hb : c.bytesContiguous = true := by
        cases hf : c.feats.format with
        | false => exact notFormat_bytesContig hf
        | true => exact hcond.2 hf
      have hk := hkey hb hfr
      obtain ⟨j1, hj1, hjs, hji⟩ := skipZeros_contig cx hb (Bytes.new ip.integerDigits) (PNDebug.new_valid _)
      rw [hr1] at hj1
      simp only [Except.ok.injEq, Prod.mk.injEq] at hj1
      obtain ⟨_, rfl⟩ := hj1
      have hst := hexact hb
      simp only [Bytes.new, List.drop_zero] at hji hjs
      rw [hjs] at hstop
      have hs0 := hcond.1
      rcases hstop with h0 | hl
      · exact hs0 h0
      · omega

theorem manyMid_env (cx : Env c) (neg : Bool) (ip : IntPart) (fp : FracPart) (ep : ExpPart) (nDigits step : Nat)
    (e0 : Int) (endIdx zi N : Nat) (zeros : Bytes) (hz : zeros.index ≤ zeros.slc.length)
    (hkey : c.bytesContiguous = true → fp.fraction = none → nDigits - step - zi > 0 →
      step + Sep.zerosPrefix ip.integerDigits < ip.integerDigits.length)
    (hN1 : ip.nDigits ≤ N) (hN2 : ip.integerDigits.length ≤ N) (hN3 : ∀ fd, fp.fraction = some fd → fd.length ≤ N)
    (hdbg : c.debug = true → ManyDbg c ip fp step) :
    ∃ num, manyMid c neg ip fp ep nDigits step e0 endIdx zi zeros = .ok (num, endIdx) ∧
      (num.exponent = e0 ∨ (num.exponent - ep.explicit).natAbs ≤ 5 * N) ∧ num.explicitExp = ep.explicit := by
  unfold manyMid
  obtain ⟨zf, z3, hr, _⟩ := skipZeros_env cx .fraction zeros hz
  simp only [hr, bind, Except.bind, pure, Except.pure]
  split
  · next hnd =>
    obtain ⟨num, h, hb, he⟩ := manyTail_env cx neg ip fp ep step endIdx N
      (fun hb hf => hkey hb hf (by omega)) hN1 hN2 hN3 hdbg
    exact ⟨num, h, Or.inr hb, he⟩
  · exact ⟨_, rfl, Or.inl rfl, rfl⟩

/-- **the many-digits re-parse, either build**: it succeeds with the end index handed in; the exponent is `e0` or within
`5·N` of the explicit one. `hdp`: the decimal point of valid options is not the separator; `hip`: what the integer phase
stored when there is no separator byte. -/
theorem manyDigitsPhase_env (cx : Env c) (o : POpts) (neg : Bool) (ip : IntPart) (fp : FracPart) (ep : ExpPart)
    (nDigits step : Nat) (e0 : Int) (endIdx N : Nat)
    (hdp : c.debug = true → c.bytesContiguous = true ∨ o.dp ≠ c.fmt.digitSeparator)
    (hstart : ip.start.index ≤ ip.start.slc.length) (hnd : nDigits = ip.nDigits + fp.nAfterDot)
    (hL : ip.byte.index ≤ ip.start.slc.length)
    (hip : c.bytesContiguous = true → fp.fraction = none → ip.nDigits = ip.byte.index - ip.start.index ∧
        ip.integerDigits = (ip.start.slc.drop ip.start.index).take (ip.byte.index - ip.start.index))
    (hfp : fp.fraction = none → fp.nAfterDot = 0)
    (hN1 : ip.nDigits ≤ N) (hN2 : ip.integerDigits.length ≤ N) (hN3 : ∀ fd, fp.fraction = some fd → fd.length ≤ N)
    (hdbg : c.debug = true → ManyDbg c ip fp step) :
    ∃ num, manyDigitsPhase c o neg ip fp ep nDigits step e0 endIdx = .ok (num, endIdx) ∧
      (num.exponent = e0 ∨ (num.exponent - ep.explicit).natAbs ≤ 5 * N) ∧ num.explicitExp = ep.explicit := by
  rw [manyDigitsPhase_eq]
  obtain ⟨zi, zeros, hr1, ha1⟩ := skipZeros_env cx .integer ip.start hstart
  simp only [hr1, bind, Except.bind, pure, Except.pure]
  have hkey : c.bytesContiguous = true → fp.fraction = none → nDigits - step - zi > 0 →
      step + Sep.zerosPrefix ip.integerDigits < ip.integerDigits.length := by
    intro hb hf hgt
    obtain ⟨hn, hd⟩ := hip hb hf
    obtain ⟨j1, hj1, _, _⟩ := skipZeros_contig cx hb ip.start hstart
    rw [hr1] at hj1
    simp only [Except.ok.injEq, Prod.mk.injEq] at hj1
    have hzi : zi = Sep.zerosPrefix (ip.start.slc.drop ip.start.index) := hj1.1
    have hle := Sep.zerosPrefix_take_le (ip.byte.index - ip.start.index) (ip.start.slc.drop ip.start.index)
    rw [← hd] at hle
    have hlen : ip.integerDigits.length = ip.byte.index - ip.start.index := by
      rw [hd, List.length_take, List.length_drop]; omega
    have := hfp hf
    omega
  by_cases hdpb : zeros.firstIsCased o.dp = true
  · have hx := firstIsCased_get hdpb
    simp only [hdpb, ↓reduceIte,
      bstep_eq (get_lt hx) fun hd => (hdp hd).imp id fun h he => h (Option.some.inj (hx.symm.trans he))]
    exact manyMid_env cx neg ip fp ep nDigits step e0 endIdx zi N _
      (by have := get_lt hx; simp only; omega) hkey hN1 hN2 hN3 hdbg
  · simp only [hdpb, Bool.false_eq_true, ↓reduceIte]
    exact manyMid_env cx neg ip fp ep nDigits step e0 endIdx zi N _ ha1.valid' hkey hN1 hN2 hN3 hdbg

end LexVerif.Proof.PNTotal
