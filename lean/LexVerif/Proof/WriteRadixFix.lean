import LexVerif.Proof.WriteRadixMid
/-!
# Proof.WriteRadixFix — the repaired positional writer of radix.rs (`nonsciTextW`, `nonsciFinish2`)

Repairs: fixes/C07-generic-radix-positional-truncation.diff (digit window starts at the first significant digit) and
fixes/C14-generic-digit-options-min-and-literal.diff (trimmed zeros not counted, all-zero fraction treated as absent,
leading zeros not significant for `min_significant_digits`).
Whichever way the switches stand, the layout stage is `layoutWith (positional … (winEnd wf g) (tailOf wf mf o g))`
(`layout_eq`): the repairs change where the positional digit window ends and which tail finishes the text, nothing else.
Hence well-formedness and totality of the whole writer for every option set and every setting of the switches, and the
literal law of the repaired writer (`layoutTextW_strict`).
-/
namespace LexVerif.Proof.WriteRadixFix
open LexVerif.Spec LexVerif.Model LexVerif.Proof.WriteRadixWF LexVerif.Proof.WriteRadixRound LexVerif.Proof.WriteRadixMid
open LexVerif.Model.WriteRadix
open LexVerif.Model.WriteInt (Res)

def StrictFrac (dp : Nat) (s : List Nat) : Prop := ∀ pre, s ≠ pre ++ [dp]

theorem nonsciFinish2_shape (leading : Nat) (o : WOpts) (digits : List Nat) (il : Nat) :
    PointShape o.dp digits (digits.take (min digits.length il) ++ List.replicate (il - min digits.length il) 48)
      (nonsciFinish2 leading o digits il).text := by
  unfold nonsciFinish2 PointShape
  dsimp only
  split
  · rename_i hfc
    right
    generalize hbody : ((digits.drop (min digits.length il)).take (digits.length - il)).take
      (digits.length - il - rtrimCount 48 ((digits.drop (min digits.length il)).take (digits.length - il))) = body
    generalize hpad : (if minExactDigits _ o > _ then _ else 0 : Nat) = padn
    refine ⟨body ++ List.replicate padn 48, ?_, by simp, ?_⟩
    · intro h
      have h1 := congrArg List.length h
      have h2 := congrArg List.length hbody
      simp only [List.length_append, List.length_take, List.length_drop, List.length_replicate, List.length_nil] at h1 h2
      omega
    · intro c hc
      rcases List.mem_append.mp hc with hc | hc
      · rw [← hbody] at hc
        exact Or.inr (List.mem_of_mem_drop (List.mem_of_mem_take (List.mem_of_mem_take hc)))
      · exact Or.inl (List.mem_replicate.mp hc).2
  · split
    · exact Or.inl rfl
    · right
      generalize hpad : (if minExactDigits _ o > _ then _ else 0 : Nat) = padn
      refine ⟨48 :: List.replicate padn 48, by simp, by simp, ?_⟩
      intro c hc
      rcases List.mem_cons.mp hc with rfl | hc
      · exact Or.inl rfl
      · exact Or.inl (List.mem_replicate.mp hc).2

theorem nonsciFinish2_wf (leading : Nat) (o : WOpts) {r er : Nat} (hr : 0 < r) (digits : List Nat)
    (hd : ∀ c ∈ digits, DigitByte r c) {il : Nat} (hil : 0 < il) :
    WellFormed r er o.dp o.exp (nonsciFinish2 leading o digits il).text := by
  simpa using (nonsciFinish2_shape leading o digits il).wellFormed hr (intPart_ne digits hil)
    (intPart_digitBytes hr hd il) hd (Or.inl rfl : ExpPart er o.exp [])

/-- where the positional digit window ends, and the positional tail, by the repair switches `wf`, `mf` -/
def winEnd (wf : Bool) (g : Gen) : Nat :=
  if wf then min (g.ints.length + g.fracs.length)
    (min (ltrimCount 48 (g.ints ++ g.fracs)) (g.ints.length + g.fracs.length - 1) + maxDigitLength + 1)
  else min (g.ints.length + g.fracs.length) (maxDigitLength + 1)

def tailOf (wf mf : Bool) (o : WOpts) (g : Gen) : List Nat → Nat → Text :=
  if wf ∧ mf then nonsciFinish2 (min (ltrimCount 48 (g.ints ++ g.fracs)) (g.ints.length + g.fracs.length - 1)) o
  else nonsciFinish o

theorem layout_eq (wf mf : Bool) (fmt : Format) (feats : Features) (o : WOpts) (r : Nat) (g : Gen) :
    (if wf then layoutTextW mf fmt feats o r g else layoutText fmt feats o r g)
      = layoutWith (positional o r g (winEnd wf g) (tailOf wf mf o g)) fmt feats o r g := by
  cases wf <;> cases mf <;> rfl

theorem winEnd_le (wf : Bool) (g : Gen) : winEnd wf g ≤ g.ints.length + g.fracs.length := by
  unfold winEnd; split <;> exact Nat.min_le_left _ _

theorem tailOf_wf (wf mf : Bool) (o : WOpts) (g : Gen) {r er : Nat} (hr : 0 < r) (digits : List Nat)
    (il : Nat) (hd : ∀ c ∈ digits, DigitByte r c) (hil : 0 < il) :
    WellFormed r er o.dp o.exp (tailOf wf mf o g digits il).text := by
  unfold tailOf
  split
  · exact nonsciFinish2_wf _ o hr digits hd hil
  · exact nonsciFinish_wf o hr digits hd hil

/-- **the writer, whichever repairs are switched on** (`cf`: back-trace, `wf`: positional window, `mf`: tail): if the
generated bytes are digits of the radix, the text is well formed -/
theorem writeFloat_wellFormed_of_digits (cf wf mf : Bool) (feats : Features) (f : Fmt) (fmt : Format) (o : WOpts)
    (hr2 : 2 ≤ fmt.mantissaRadix) (hr36 : fmt.mantissaRadix ≤ 36) (her : 2 ≤ fmt.exponentRadix) {bits len : Nat}
    {g : Gen} (hg : generate cf f fmt.mantissaRadix bits = .ok g)
    (hd : ∀ c ∈ g.ints ++ g.fracs, DigitByte fmt.mantissaRadix c) (hne : g.ints ≠ []) {text : List Nat}
    (hw : WriteRadix.writeFloat cf feats f fmt o bits len wf mf = .ok text) :
    WellFormed fmt.mantissaRadix fmt.exponentRadix o.dp o.exp text := by
  obtain ⟨g', t, hg', hl, rfl⟩ := writeFloat_eq_ok hw
  cases Res.ok.inj (hg.symm.trans hg')
  have her' : 2 ≤ (WriteFloat.effFmt feats fmt).exponentRadix := by
    rw [WriteFloatBuf.effFmt_exponentRadix]; exact her
  rw [← WriteFloatBuf.effFmt_exponentRadix feats fmt]
  rw [layout_eq] at hl
  unfold layoutWith at hl
  split at hl
  · exact sciText_wf_all _ feats o hr2 hr36 her' g hd _ hl
  · exact positional_wf o hr2 hr36 g hd hne (winEnd_le wf g)
      (fun digits il => tailOf_wf wf mf o g (by omega) digits il) hl

/-- … and with fewer than 1100 integer digits and a `NonZero` `max_significant_digits` the call returns: it PANICs iff
the caller's slice is shorter than the highest index touched -/
theorem writeFloat_total_of_digits (cf wf mf : Bool) (feats : Features) (f : Fmt) (fmt : Format) (o : WOpts)
    (ho : o.maxDigits ≠ some 0) (hr2 : 2 ≤ fmt.mantissaRadix) (hr36 : fmt.mantissaRadix ≤ 36) {bits : Nat} (len : Nat)
    {g : Gen} (hg : generate cf f fmt.mantissaRadix bits = .ok g)
    (hd : ∀ c ∈ g.ints ++ g.fracs, DigitByte fmt.mantissaRadix c) (hne : g.ints ≠ []) (hil : g.ints.length < halfSize) :
    ∃ t : Text, WriteRadix.writeFloat cf feats f fmt o bits len wf mf = if t.hi > len then .panic else .ok t.text := by
  have ht : ∃ t, layoutWith (positional o fmt.mantissaRadix g (winEnd wf g) (tailOf wf mf o g))
      (WriteFloat.effFmt feats fmt) feats o fmt.mantissaRadix g = .ok t := by
    unfold layoutWith
    split
    · exact sciText_total _ feats o ho hr2 hr36 g hd hne
    · exact positional_total o hr2 hr36 g hd hil (winEnd_le wf g) _
  obtain ⟨t, ht⟩ := ht
  exact ⟨t, writeFloat_of_ok len hg (by rw [layout_eq]; exact ht)⟩

/-- at most 232 digits from the first significant one on -/
def SigFits (g : Gen) : Prop :=
  g.ints.length + g.fracs.length
    ≤ min (ltrimCount 48 (g.ints ++ g.fracs)) (g.ints.length + g.fracs.length - 1) + maxDigitLength + 1

instance (g : Gen) : Decidable (SigFits g) := by unfold SigFits; infer_instance

def layoutAllW (mf : Bool) (fmt : Format) (feats : Features) (o : WOpts) (g : Gen) : Res Text :=
  let sciExp := sciExpOf g
  let minExp := o.negBreak.getD (-5)
  let maxExp := o.posBreak.getD 9
  let outside := sciExp < minExp ∨ sciExp > maxExp
  let require := fmt.requiredExponentNotation ∨ outside
  let leading := min (ltrimCount 48 (g.ints ++ g.fracs)) (g.ints.length + g.fracs.length - 1)
  if ¬ fmt.noExponentNotation ∧ require then
    sciFinish fmt feats o
      ((g.ints ++ g.fracs).drop (if sciExp ≤ 0 then ((g.ints.length : Int) - sciExp - 1).toNat else 0)) sciExp
  else .ok (if mf then nonsciFinish2 leading o (g.ints ++ g.fracs) g.ints.length
            else nonsciFinish o (g.ints ++ g.fracs) g.ints.length)

def StrictShape (dp ec : Nat) (s : List Nat) : Prop :=
  ∃ ip fp ep, s = ip ++ fp ++ ep ∧ ip ≠ [] ∧ (fp = [] ∨ ∃ fd, fd ≠ [] ∧ fp = dp :: fd) ∧
    (ep = [] ∨ ∃ rest, ep = ec :: rest)

theorem _root_.LexVerif.Proof.WriteRadixWF.PointShape.strictShape {dp ec : Nat} {src ip s ep : List Nat} (h : PointShape dp src ip s) (hne : ip ≠ [])
    (hep : ep = [] ∨ ∃ rest, ep = ec :: rest) : StrictShape dp ec (s ++ ep) := by
  rcases h with rfl | ⟨fd, hfd, rfl, _⟩
  · exact ⟨s, [], ep, by simp, hne, Or.inl rfl, hep⟩
  · exact ⟨ip, dp :: fd, ep, by simp, hne, Or.inr ⟨fd, hfd, rfl⟩, hep⟩

/-- **literal law** of the repaired writer (every option set): never `"1."`, `"0."`, `"-0."` -/
theorem layoutTextW_strict (fmt : Format) (feats : Features) (o : WOpts) {r : Nat} (g : Gen) (hne : g.ints ≠ [])
    {t : Text} (h : layoutTextW true fmt feats o r g = .ok t) : StrictShape o.dp o.exp t.text := by
  unfold layoutTextW at h
  dsimp only at h
  split at h
  · obtain ⟨x, _, h⟩ := WriteRadixF.bind_eq_ok h
    unfold sciFinish at h
    split at h
    · cases h
    · rename_i d0 rest _
      cases Res.ok.inj h
      exact (sciMant_pointShape fmt o d0 rest).strictShape (by simp) (Or.inr ⟨_, rfl⟩)
  · obtain ⟨x, _, h⟩ := WriteRadixF.bind_eq_ok h
    split at h
    · cases h
    · simp only [Res.ok.injEq, if_true] at h
      subst h
      have hpos := List.length_pos_iff.mpr hne
      simpa using (nonsciFinish2_shape _ o _ _).strictShape (intPart_ne _ (by omega)) (Or.inl rfl)

end LexVerif.Proof.WriteRadixFix
