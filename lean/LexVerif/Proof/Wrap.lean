import LexVerif.Model.ExtFloat
/-! `as i32` / `as i64` of an integer already in range. -/
namespace LexVerif.Proof.Wrap
open LexVerif.Model

theorem wrapI_of_range {bits : Nat} (hb : 0 < bits) {x : Int} (h1 : -(2 ^ (bits - 1) : Int) ≤ x)
    (h2 : x < (2 ^ (bits - 1) : Int)) : wrapI bits x = x := by
  unfold wrapI
  have hp : (2 : Int) ^ bits = 2 * 2 ^ (bits - 1) := by
    rw [← Int.pow_succ']; congr 1; omega
  rw [hp]
  generalize (2 : Int) ^ (bits - 1) = h at *
  dsimp only
  by_cases hx : 0 ≤ x
  · rw [Int.emod_eq_of_lt hx (by omega), if_neg (by omega)]
  · rw [← Int.add_emod_right, Int.emod_eq_of_lt (by omega) (by omega), if_pos (by omega)]
    omega

theorem wrapI32_eq {x : Int} (h1 : -(2 ^ 31 : Int) ≤ x) (h2 : x < (2 ^ 31 : Int)) : wrapI32 x = x :=
  wrapI_of_range (by decide) h1 h2

theorem wrapI64_eq {x : Int} (h1 : -(2 ^ 63 : Int) ≤ x) (h2 : x < (2 ^ 63 : Int)) : wrapI64 x = x :=
  wrapI_of_range (by decide) h1 h2

end LexVerif.Proof.Wrap
