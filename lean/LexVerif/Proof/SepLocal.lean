import LexVerif.Proof.SepGenStrip
/-!
# Proof.SepLocal — the re-scan of the stored slice repeats the first pass

Replacing a neighbour that is neither digit nor separator by "no neighbour" (what the re-scan of a stored slice
`R = s[a..e)` sees at the slice boundary) never turns a skip decision into a non-skip (`holds_weaker`,
`nbr_slice_prev`, `peekIdx_drop` of `Proof/IterSlice.lean`) — for I+T+C (`Pred.itc`) only with the repair `Fix.itc`,
which is `true`. Hence `Rescan` and `PeekStable` for every predicate, and `strip_preserves` for every format of class
`GenStrip` (the hypotheses `… ≠ .pred .itc ∨ Fix.itc = true` of `parseFloatSyntax_strip_all` are met by their second
disjunct).
-/
namespace LexVerif.Proof.Sep
open LexVerif LexVerif.Model LexVerif.Spec
open LexVerif.Props.C12

theorem rescan_pred (c : Cfg) (k : Comp) (p : Pred) (hk : c.skip k = .pred p) (hp : p ≠ .itc ∨ Fix.itc = true)
    (hd : c.debug = false)
    (hreach : ∀ k, c.skip k ≠ .unreachable) (hks : k ≠ .special)
    (hsep : ∀ x, c.isSep x = true → charToDigit x c.mantissaRadix = none) : Rescan c k := by
  intro hc b e ds hR h0 hv hprev hnext
  have hrun := hR.run
  rw [parseDigits_eq c k _ hd (hreach k) b] at hrun
  simp only [Except.ok.injEq, Prod.mk.injEq] at hrun
  have hee : (IterSpec.scan c k b.slc (IterSpec.isDig c.mantissaRadix) (b.slc.length + 1) (b.iterCount c k == 0) b.index).2
      = e.index := by rw [← hrun.2, IterSpec.mv_index]
  have hnew : Bytes.iterCount c k (Bytes.new (slice b.slc b.index e.index)) = Bytes.iterCount c k b := by
    rw [h0]; cases k <;> simp_all [Bytes.iterCount, Bytes.new]
  have hlen : (slice b.slc b.index e.index).length = e.index - b.index := slice_length _ _ _ hR.valid
  have hsl := IterSpec.scan_region p hk b.slc b.index e.index hR.valid hprev (fun x hx => (hnext x hx).1)
    (clean_of_sep hsep k) (b.slc.length + 1) (b.iterCount c k == 0) b.index (Nat.le_refl _) hee
    (hp.elim .inl fun h => .inr (.inl h))
  have hle := (IterSpec.scan_le (c := c) (k := k) b.slc (IterSpec.isDig c.mantissaRadix) (b.slc.length + 1)
    (b.iterCount c k == 0) b.index hv).2
  refine ⟨_, _, parseDigits_eq c k _ hd (hreach k) _, ?_⟩
  have hv' := hR.valid
  rw [Nat.sub_self] at hsl
  rw [IterSpec.mv_index, new_slc, new_index, hnew,
    IterSpec.scan_lim _ _ (b.slc.length + 1) _ _ _ (by rw [hsl]; simp only; omega) (by rw [hsl]; simp only; omega),
    hsl, hlen]

theorem peekStable_pred (c : Cfg) (k : Comp) (p : Pred) (hk : c.skip k = .pred p)
    (hsepd : ∀ x, c.isSep x = true → c.isDigit x = false) : PeekStable c k := by
  intro b b1 x _ hp hs
  have hr : c.skip k ≠ .unreachable := by rw [hk]; simp
  have hc := IterSpec.contig_of_pred hk
  rw [IterSpec.peek_ok_iff hr] at hp ⊢
  obtain ⟨hx, rfl⟩ := hp
  have hcnt : ∀ j, (IterSpec.cur b j).iterCount c k = b.iterCount c k := fun j => by
    cases k <;> simp [Bytes.iterCount, hc, IterSpec.cur]
  have : IterSpec.pk c k (IterSpec.cur b (IterSpec.pk c k b)) = IterSpec.pk c k b := by
    simp only [IterSpec.pk, hcnt, IterSpec.cur_slc, IterSpec.cur_index]
    exact IterSpec.peekIdx_idem c k hsepd b.slc _ b.index x hx hs
  rw [this]
  simp [hx, IterSpec.cur]

theorem sep_lt_256 (c : Cfg) (x : Nat) (h : c.isSep x = true) : x < 256 := by
  simp only [Cfg.isSep, Bool.and_eq_true, decide_eq_true_eq] at h
  rw [h.2]
  unfold Cfg.digitSeparator
  split
  · unfold Format.digitSeparator Format.byteAt
    exact Nat.mod_lt _ (by decide)
  · decide

theorem GenStrip.sepNotDigit {c : Cfg} {o : POpts} (hG : GenStrip c o) (x : Nat) (h : c.isSep x = true) :
    c.isDigit x = false :=
  isDigit_of_stop c x (sep_lt_256 c x h) hG.radixM (hG.sepDigM x h)

theorem rescan_any (c : Cfg) (o : POpts) (hG : GenStrip c o) (k : Comp) (hks : k ≠ .special)
    (h : c.skip k ≠ .pred .itc ∨ Fix.itc = true) : Rescan c k := by
  cases hk : c.skip k with
  | noskip => exact rescan_contig c k (contig_of_noskip c k hk)
  | unreachable => exact absurd hk (hG.rel.reach k)
  | pred p =>
    exact rescan_pred c k p hk (h.imp (fun h1 e => by subst e; exact h1 hk) id) hG.rel.debug hG.rel.reach hks
      hG.sepDigM

theorem peekStable_any (c : Cfg) (o : POpts) (hG : GenStrip c o) (k : Comp) : PeekStable c k := by
  cases hk : c.skip k with
  | noskip => exact peekStable_contig c k (contig_of_noskip c k hk)
  | unreachable => exact absurd hk (hG.rel.reach k)
  | pred p => exact peekStable_pred c k p hk hG.sepNotDigit

theorem parseFloatSyntax_strip_all (c : Cfg) (o : POpts) (hG : GenStrip c o)
    (hI : c.skip .integer ≠ .pred .itc ∨ Fix.itc = true) (hF : c.skip .fraction ≠ .pred .itc ∨ Fix.itc = true)
    (s : List Nat)
    (hb256 : ∀ x ∈ s, x < 256) (fv : Bool) (n : Number) (cnt : Nat)
    (h : parseFloatSyntax c o false s fv = .ok (.number n cnt)) :
    ∃ n', parseFloatSyntax c o false (nonSep c s) fv = .ok (.number n' (nonSep c s).length) ∧ NumRel c n n' ∧
      SlicesOK c n :=
  parseFloatSyntax_strip_gen c o hG.stripClass hG.dpSign (peekStable_any c o hG .integer) s
    (Or.inr ⟨rescan_any c o hG .integer (by decide) hI, hb256⟩)
    (Or.inr ⟨rescan_any c o hG .fraction (by decide) hF, hb256⟩) fv n cnt h

end LexVerif.Proof.Sep
