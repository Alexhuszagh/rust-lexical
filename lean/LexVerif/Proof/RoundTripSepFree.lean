import LexVerif.Proof.RoundTripFlags
/-!
# Proof.RoundTripSepFree — the writer never emits the format's digit-separator byte (C08)

`Spec.Grammar` covers separator-free inputs (`Spec.separatorFree`); what the decimal writer emits is in that scope:
digits, signs, the decimal point and the exponent character all differ from a valid format's digit separator.
-/
namespace LexVerif.Proof.RoundTrip
open LexVerif.Spec LexVerif.Model LexVerif.Model.WriteFloat
open LexVerif.Proof.WriteFloatBuf (effFmt_exponentRadix)

theorem not_mem_render (dp expc er : Nat) (plusReq : Bool) (s : Shape) (sep R : Nat) (hR : R ≤ 36)
    (hsep : digitVal R sep = none) (h43 : sep ≠ 43) (h45 : sep ≠ 45) (hdp : sep ≠ dp) (hexp : sep ≠ expc)
    (hs : s.Below R)
    (her2 : 2 ≤ er) (her : er ≤ R) : sep ∉ s.render dp expc er plusReq := by
  have hdig : ∀ d, d < R → digitChar d ≠ sep := fun d hd h => by
    rw [← h, digitVal_digitChar R d hR hd] at hsep; cases hsep
  intro hmem
  refine allP_render (P := (· ≠ sep)) hdig dp expc er plusReq s hs
    (fun _ => Ne.symm hdp) (fun e _ => allP_expText _ _ _ e (Ne.symm hexp) (Ne.symm h45) (Ne.symm h43) ?_) sep hmem rfl
  exact LexVerif.Proof.WriteFloatAscii.allP_chars hdig
    (fun d hd => Nat.lt_of_lt_of_le (toDigits_digit_lt er _ her2 d hd) her)

theorem writeDecimal_separatorFree (feats : Features) (fmt : Format) (wo : WOpts) (po : POpts) (ds : List Nat)
    (sci : Int) (neg : Bool) (hv : FormatValid feats (unpack fmt.raw)) (h10 : fmt.mantissaRadix = 10)
    (hdp : wo.dp = po.dp) (hexp : wo.exp = po.exp)
    (hpunct : OptionsPunctuationValid feats (unpack fmt.raw) po.exp po.dp)
    (hmx : wo.maxDigits ≠ some 0) (hin : WriterInput ds sci) :
    separatorFree fmt (signBytes (mantSign feats fmt neg) ++ writeDecimal fmt feats ds sci wo) = true := by
  unfold separatorFree
  by_cases hz : fmt.digitSeparator = 0
  · simp [hz]
  · -- a separator of a valid format is a control character of the larger radix (no digit, no sign), and the documented
    -- punctuation check keeps it apart from the point and the exponent character: `not_mem_render`
    obtain ⟨hr1, _, hr3, hsepc, _, _, _, _⟩ := hv
    have hR1 : 2 ≤ fmt.mantissaRadix ∧ fmt.mantissaRadix ≤ 36 := LexVerif.Props.C18.radixSupported_range hr1
    have hR3 : 2 ≤ fmt.exponentRadix ∧ fmt.exponentRadix ≤ 36 := LexVerif.Props.C18.radixSupported_range hr3
    have hR36 : (unpack fmt.raw).digitRadix ≤ 36 := by rw [digitRadix_eq]; exact Nat.max_le.mpr ⟨hR1.2, hR3.2⟩
    have hR10 := digitRadix_decimal fmt h10
    have hsepc : OptionalControl feats.format (unpack fmt.raw).digitRadix fmt.digitSeparator := hsepc
    unfold OptionalControl at hsepc
    have hf : feats.format = true := by
      cases hff : feats.format
      · simp [hff] at hsepc; exact absurd hsepc hz
      · rfl
    simp only [hf, if_true] at hsepc
    have hcc : ControlChar (unpack fmt.raw).digitRadix fmt.digitSeparator := by
      rcases hsepc with h | h
      · exact absurd h hz
      · exact h
    obtain ⟨_, _, _, h4⟩ := hpunct
    obtain ⟨h5, h6, _⟩ := h4 hf
    have h5 : fmt.digitSeparator ≠ po.dp := h5
    have h6 : fmt.digitSeparator ≠ po.exp := h6
    have hsd := shapeOf_digits fmt feats ds sci wo hin hmx
    have hnot : fmt.digitSeparator ∉ signBytes (mantSign feats fmt neg) ++ writeDecimal fmt feats ds sci wo := by
      rw [writeDecimal_shape, effFmt_exponentRadix, hdp, hexp]
      simp only [List.mem_append, not_or]
      constructor
      · unfold mantSign signBytes
        cases neg <;> cases mantPlus feats fmt <;> simp [hcc.2.2.1, hcc.2.2.2]
      · apply not_mem_render _ _ _ _ _ _ (unpack fmt.raw).digitRadix hR36 hcc.2.1 hcc.2.2.1 hcc.2.2.2 h5 h6
        · exact hsd.below.mono hR10
        · exact hR3.1
        · rw [digitRadix_eq]; exact Nat.le_max_right _ _
    simp [hz, hnot]

end LexVerif.Proof.RoundTrip
