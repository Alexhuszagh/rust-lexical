import LexVerif.Proof.BellBracket
/-!
# Proof.BellLossy — lossy Bellerophon is within one unit in the last place

With `lossy`, `bellerophon` skips the accuracy decision and rounds the computed significand to nearest. By
`prepare_cases` that significand is a two-sided estimate of the true value (`est2_of_units`): with `Q` its kept bits, the
value rounds to `Q` at least and to `Q + 1` at most (`Est2.bracket`), and rounding to nearest gives `Q` or `Q + 1`.
-/
namespace LexVerif.Proof.Bell
open LexVerif.Spec LexVerif.Model LexVerif.Model.Bellerophon
open LexVerif.Gen.Bellerophon (Powers)
open LexVerif.Proof.RoundNE LexVerif.Proof.ExtRound LexVerif.Proof.BinaryCorrect LexVerif.Proof.Lemire

/-- **lossy Bellerophon**: the answer is always valid and is `roundNE` of the true value or an adjacent
pattern (`p ≤ 53`; a truncated mantissa holds at least 55 bits, as every `u64_step`-digit mantissa does). -/
theorem bellerophon_lossy_neighbour {F : FTy} {p eb : Nat} (lay : Layout F p eb) (hp53 : p ≤ 53)
    {r : Nat} {P : Powers} (hc : BellFacts r P) (n : Num)
    (hw : n.mantissa < 2 ^ 64) (hmw : n.manyDigits = true → 2 ^ 55 ≤ n.mantissa)
    (num den : Nat) (hd : 0 < den) (htv : TrueValue r n num den) :
    ∃ fp, bellerophon F P n true = .ok fp ∧ 0 ≤ fp.exp ∧
      extendedToFloat F fp ≤ roundNE F.fmt num den + 1 ∧ roundNE F.fmt num den ≤ extendedToFloat F fp + 1 := by
  have hmw44 : n.manyDigits = true → 2 ^ 44 ≤ n.mantissa := by
    intro h; have := hmw h
    have : (2 : Nat) ^ 44 ≤ 2 ^ 55 := by norm_num
    omega
  unfold bellerophon
  rcases prepare_cases lay hc n hw hmw44 num den hd htv with ⟨hp, hz⟩ | ⟨hp, hi⟩ |
    ⟨mant, E, sh, pw, hp, hm1, hm2, hElo, hEhi, hpw1, hpw2, hlo, hhi, htight⟩
  · rw [hp]; exact ⟨_, rfl, Int.le_refl _, by rw [ext_zero lay, hz]; omega, by rw [hz]; omega⟩
  · rw [hp]
    refine ⟨_, rfl, ?_, by rw [ext_infinite lay, hi]; omega, by rw [ext_infinite lay, hi]; omega⟩
    show 0 ≤ F.C.infinitePower
    rw [lay.infp]; omega
  · rw [hp]
    simp only []
    -- the tight excess is at most 2^10 units
    have hT : (8 + if n.manyDigits = true then 2 * 2 ^ clz64 n.mantissa + 1 else 0) ≤ 2 ^ 10 := by
      by_cases hm : n.manyDigits = true
      · rw [if_pos hm]
        have h55 := hmw hm
        have hlz : clz64 n.mantissa ≤ 8 := clz_le_of_ge (j := 8) (by simpa using h55) hw (by norm_num)
        have : 2 ^ clz64 n.mantissa ≤ 2 ^ 8 := Nat.pow_le_pow_right (by norm_num) hlz
        have h8 : (2 : Nat) ^ 8 = 256 := by norm_num
        have h10 : (2 : Nat) ^ 10 = 1024 := by norm_num
        omega
      · rw [if_neg hm]; norm_num
    have hT8 : 8 ≤ (8 + if n.manyDigits = true then 2 * 2 ^ clz64 n.mantissa + 1 else 0) := Nat.le_add_right _ _
    generalize (8 + if n.manyDigits = true then 2 * 2 ^ clz64 n.mantissa + 1 else 0) = Tt at hT hT8 htight
    have hE := est2_of_units (F := F) (p := p) (by omega) mant pw 4 Tt num den hm1 hm2 hlo htight
    have h11 : 2 ^ 11 ≤ 2 ^ (64 - p) := Nat.pow_le_pow_right (by decide) (by omega)
    unfold bellFinish litZeroShift
    simp only [Bool.not_true, Bool.false_and, Bool.false_eq_true, if_false]
    by_cases hp2 : -pw + 1 ≤ 64
    · -- same exponent field, significand `mant / 2^s + up`, `up ≤ 1`: between the first and the last threshold
      rw [if_neg (by omega), if_neg (by omega)]
      obtain ⟨hexp, hbits⟩ := round_bits lay mant pw
        (fun isOdd isHalfway isAbove => isAbove || (isOdd && isHalfway)) hm1 hm2 hp2
      refine ⟨_, rfl, hexp, ?_⟩
      rw [hbits]
      obtain ⟨ca, cd⟩ := hE.bracket lay hd hp2 (by omega) (by omega)
      simp only at ca cd
      have hu := upOf_le mant (shiftOf p pw) (fun isOdd isHalfway isAbove => isAbove || (isOdd && isHalfway))
      have hs := encode_succ F.fmt (pw + 64 - p - 1).toNat (mant / 2 ^ shiftOf p pw)
      generalize upOf mant (shiftOf p pw) _ = u at *
      rcases Nat.le_one_iff_eq_zero_or_eq_one.mp hu with h | h <;> subst h
      · rw [Nat.add_zero]; omega
      · omega
    · -- below the subnormal range the answer is `+0` and the value rounds to `0` or `1`
      obtain ⟨_, e2⟩ := bracket_deep_c lay Tt (by omega) ⟨mant, pw⟩ hm2 hp2 num den hd hE.2.2.2
      have hz := ext_zero lay
      by_cases h1 : -pw + 1 > 65
      · rw [if_pos h1]; exact ⟨_, rfl, Int.le_refl _, by rw [hz]; omega, by rw [hz]; omega⟩
      · rw [if_neg h1, if_pos (by omega)]; exact ⟨_, rfl, Int.le_refl _, by rw [hz]; omega, by rw [hz]; omega⟩

end LexVerif.Proof.Bell
