import LexVerif.Model.WriteBinaryOpts
import LexVerif.Proof.WriteBinaryExact
import LexVerif.Proof.WriteFloatRound
/-!
# Proof.WriteBinaryOpts — what `binary::truncate_and_round` (counts bits; `truncateAndRoundCur`) and
`binary::truncate_and_round_digits` (counts digits, the one `write_float` calls in /repo; `truncateAndRoundFixed`) compute,
and when the layouts that follow them denote the rounded value
-/
namespace LexVerif.Proof.WriteBinaryOpts
open LexVerif.Spec LexVerif.Model LexVerif.Model.WriteBinary
open LexVerif.Proof.WriteBinaryArith LexVerif.Proof.WriteBinaryExact

theorem significantBits_unique {x b : Nat} (hb : 1 ≤ b) (h1 : 2 ^ (b - 1) ≤ x) (h2 : x < 2 ^ b) : significantBits x = b := by
  have hx : 0 < x := Nat.lt_of_lt_of_le (Nat.two_pow_pos _) h1
  obtain ⟨s1, s2, s3⟩ := significantBits_spec hx
  have c : b - 1 < significantBits x := (Nat.pow_lt_pow_iff_right (by decide : 1 < 2)).mp (Nat.lt_of_le_of_lt h1 s3)
  have := significantBits_le h2
  omega

theorem significantBits_shr {m k : Nat} (hm : 0 < m) (hk : k < significantBits m) :
    significantBits (m >>> k) = significantBits m - k := by
  obtain ⟨s1, s2, s3⟩ := significantBits_spec hm
  rw [Nat.shiftRight_eq_div_pow]
  apply significantBits_unique (by omega)
  · rw [Nat.le_div_iff_mul_le (Nat.two_pow_pos _), ← Nat.pow_add]
    have : significantBits m - k - 1 + k = significantBits m - 1 := by omega
    rw [this]; exact s2
  · rw [Nat.div_lt_iff_lt_mul (Nat.two_pow_pos _), ← Nat.pow_add]
    have : significantBits m - k + k = significantBits m := by omega
    rw [this]; exact s3

theorem significantBits_shl {x k : Nat} (hx : 0 < x) : significantBits (x <<< k) = significantBits x + k := by
  obtain ⟨s1, s2, s3⟩ := significantBits_spec hx
  rw [Nat.shiftLeft_eq]
  apply significantBits_unique (by omega)
  · have : significantBits x + k - 1 = significantBits x - 1 + k := by omega
    rw [this, Nat.pow_add]
    exact Nat.mul_le_mul_right _ s2
  · rw [Nat.pow_add]
    exact Nat.mul_lt_mul_of_pos_right s3 (Nat.two_pow_pos _)

theorem significantBits_mono {a b : Nat} (ha : 0 < a) (hab : a ≤ b) : significantBits a ≤ significantBits b := by
  obtain ⟨a1, a2, a3⟩ := significantBits_spec ha
  obtain ⟨b1, b2, b3⟩ := significantBits_spec (Nat.lt_of_lt_of_le ha hab)
  have : significantBits a - 1 < significantBits b :=
    (Nat.pow_lt_pow_iff_right (by decide : 1 < 2)).mp (Nat.lt_of_le_of_lt a2 (Nat.lt_of_le_of_lt hab b3))
  omega

open LexVerif.Proof.WriteFloatRound (roundHalfEven)

/-- what `truncate_and_round` keeps: `m / 2^shr` rounded half-even (Round) or truncated (Truncate) -/
def keptMantissa (o : WOpts) (m shr : Nat) : Nat :=
  if o.truncate then m / 2 ^ shr else roundHalfEven m (2 ^ shr)

theorem top_bits {m K : Nat} (hm : 0 < m) (hK1 : 1 ≤ K) (hK : K < significantBits m) :
    significantBits (m >>> (significantBits m - K)) = K ∧ 0 < m >>> (significantBits m - K)
      ∧ m >>> (significantBits m - K) < 2 ^ K := by
  have hsh : significantBits (m >>> (significantBits m - K)) = K := by
    rw [significantBits_shr hm (by omega)]; omega
  have hpos : 0 < m >>> (significantBits m - K) := by
    rcases Nat.eq_zero_or_pos (m >>> (significantBits m - K)) with h | h
    · rw [h] at hsh; simp [significantBits] at hsh; omega
    · exact h
  have := (significantBits_spec hpos).2.2
  rw [hsh] at this
  exact ⟨hsh, hpos, this⟩

/-- the increment `truncate_and_round` adds to the shifted mantissa is the one of `roundHalfEven` -/
theorem roundHalfEven_shr (m : Nat) {shr : Nat} (hshr : 1 ≤ shr) :
    ∃ up, up ≤ 1
      ∧ (if m % 2 ^ shr > 2 ^ (shr - 1) ∨ ((m >>> shr) % 2 = 1 ∧ m % 2 ^ shr = 2 ^ (shr - 1)) then 1 else 0) = up
      ∧ roundHalfEven m (2 ^ shr) = m >>> shr + up := by
  refine ⟨_, ?_, rfl, ?_⟩
  · split <;> omega
  · rw [LexVerif.Proof.WriteFloatRound.roundHalfEven_eq_rhe, LexVerif.Proof.RoundNE.rhe_pow2 m shr hshr,
      Nat.shiftRight_eq_div_pow]
    congr 1
    exact if_congr (or_congr Iff.rfl and_comm) rfl rfl

/-- **`binary::truncate_and_round` when it truncates**: it returns the mantissa rounded (half-even on
BITS) to `d · bits_per_digit` bits — not shifted back — and a bit count that is the count of the returned mantissa plus
the shift: the pair still denotes `R · 2^(exp + shr)` at the same scientific exponent (+1 on carry). -/
theorem truncCur_spec (o : WOpts) {w m bpd d : Nat} (h1 : 1 ≤ bpd) (h5 : bpd ≤ 5) (hm : 0 < m)
    (hw : significantBits m ≤ w) (hw64 : w ≤ 64) (hd : o.maxDigits = some d) (hd1 : 1 ≤ d) (hlt : d * bpd < significantBits m) :
    truncateAndRoundCur w m (2 ^ bpd) o =
      (keptMantissa o m (significantBits m - d * bpd),
       significantBits (keptMantissa o m (significantBits m - d * bpd)) + (significantBits m - d * bpd)) ∧
    0 < keptMantissa o m (significantBits m - d * bpd) ∧
    keptMantissa o m (significantBits m - d * bpd) ≤ 2 ^ (d * bpd) := by
  have hlog : (fastLog2 (2 ^ bpd)).toNat = bpd := by rw [fastLog2_pow h1 h5]; rfl
  have hsat : satMul d bpd = d * bpd := by
    unfold satMul; omega
  obtain ⟨hsh, hshpos, hshlt⟩ := top_bits hm (Nat.mul_pos hd1 h1) hlt
  unfold truncateAndRoundCur keptMantissa
  simp only [hlog, hd, hsat]
  rw [if_pos hlt]
  generalize d * bpd = K at *
  generalize hmb : significantBits m = mb at *
  by_cases ht : o.truncate = true
  · simp only [ht, if_true]
    rw [← Nat.shiftRight_eq_div_pow]
    refine ⟨?_, hshpos, Nat.le_of_lt hshlt⟩
    rw [hsh]; congr 1; omega
  · simp only [ht, Bool.false_eq_true, if_false]
    obtain ⟨up, hup1, hup, hR⟩ := roundHalfEven_shr m (show 1 ≤ mb - K by omega)
    rw [hR, hup]
    have hmono := significantBits_mono hshpos (Nat.le_add_right _ up)
    generalize m >>> (mb - K) = sh at *
    have hKw : (2 : Nat) ^ K < 2 ^ w := Nat.pow_lt_pow_right (by decide) (by omega)
    rw [Nat.mod_eq_of_lt (show sh + up < 2 ^ w by omega)]
    have hle : significantBits (sh + up) ≤ w := significantBits_le (by omega)
    refine ⟨?_, by omega, by omega⟩
    congr 1
    rw [hsh]; omega

theorem mantissaDigits_shift (w bpd M : Nat) (e : ℤ) (shr : Nat) (h1 : 1 ≤ bpd) (h5 : bpd ≤ 5)
    (he1 : -3000 ≤ e) (he2 : e ≤ 3000) (hs : shr ≤ 64) (hal : bpd ∣ shr) :
    mantissaDigits w (2 ^ bpd) M (e + shr) = mantissaDigits w (2 ^ bpd) M e := by
  unfold mantissaDigits
  rw [fastLog2_pow h1 h5]
  have hb1 : (1 : ℤ) ≤ (bpd : ℤ) := by exact_mod_cast h1
  have hb5 : (bpd : ℤ) ≤ 5 := by exact_mod_cast h5
  rw [calculateShl_eq (by omega) (by omega) hb1 hb5, calculateShl_eq (by omega) (by omega) hb1 hb5]
  obtain ⟨k, rfl⟩ := hal
  congr 2
  push_cast
  rw [Int.add_mul_emod_self_left]

/-- a mantissa `M` handed to the layouts with a bit count that is `shr` too large — what
`truncate_and_round` does — is laid out exactly like `M` at exponent `e + shr`, PROVIDED `shr` is a whole
number of digits. -/
theorem layoutMB_shift (fmt : Format) (o : WOpts) {w bpd : Nat} (M : Nat) (e : ℤ) (shr : Nat)
    (hr : fmt.mantissaRadix = 2 ^ bpd) (h1 : 1 ≤ bpd) (h5 : bpd ≤ 5)
    (he1 : -3000 ≤ e) (he2 : e ≤ 3000) (hs : shr ≤ 64) (hal : bpd ∣ shr) :
    layoutMB fmt o w M (significantBits M + shr) e = layoutME fmt o w M (e + shr) := by
  have hmd := mantissaDigits_shift w bpd M e shr h1 h5 he1 he2 hs hal
  have hsci : e + ((significantBits M + shr : Nat) : ℤ) = e + (shr : ℤ) + (significantBits M : ℤ) := by
    push_cast; omega
  unfold layoutME layoutMB
  simp only [hr, hsci, sciLayout, negLayout, posLayout, hmd]

/-- bits kept by `truncate_and_round_digits`: `d` digits, of which the leading one only holds `(sci mod bpd) + 1` bits -/
def keptBits (bpd d mb : Nat) (e : ℤ) : Nat := d * bpd - (bpd - 1 - ((e + mb - 1) % (bpd : ℤ)).toNat)

/-- **`truncate_and_round_digits` when it truncates**: it returns the mantissa rounded on the boundary of
the `d`-th DIGIT and shifted back — a mantissa of the SAME exponent — together with its own bit count.  Whatever the
alignment, the layouts (exact for every mantissa/exponent pair, C06 `layoutME_exact`) then denote
`keptMantissa · 2^(shr + e)`. -/
theorem truncFixed_spec (o : WOpts) {w m bpd d : Nat} (e : ℤ) (h1 : 1 ≤ bpd) (h5 : bpd ≤ 5) (hm : 0 < m)
    (hw : significantBits m < w) (hd : o.maxDigits = some d) (hd1 : 1 ≤ d) (hd64 : d ≤ 64)
    (hlt : keptBits bpd d (significantBits m) e < significantBits m) :
    truncateAndRoundFixed w m (2 ^ bpd) e o =
      (keptMantissa o m (significantBits m - keptBits bpd d (significantBits m) e) <<<
          (significantBits m - keptBits bpd d (significantBits m) e),
       significantBits (keptMantissa o m (significantBits m - keptBits bpd d (significantBits m) e) <<<
          (significantBits m - keptBits bpd d (significantBits m) e))) ∧
    0 < keptMantissa o m (significantBits m - keptBits bpd d (significantBits m) e) ∧
    keptMantissa o m (significantBits m - keptBits bpd d (significantBits m) e) ≤
      2 ^ keptBits bpd d (significantBits m) e ∧
    1 ≤ keptBits bpd d (significantBits m) e := by
  have hlog : (fastLog2 (2 ^ bpd)).toNat = bpd := by rw [fastLog2_pow h1 h5]; rfl
  have hK1 : 1 ≤ keptBits bpd d (significantBits m) e := by
    unfold keptBits
    have : bpd ≤ d * bpd := Nat.le_mul_of_pos_left bpd hd1
    omega
  have hsat : satMul d bpd = d * bpd := by
    unfold satMul
    have : d * bpd ≤ 64 * 5 := Nat.mul_le_mul hd64 h5
    omega
  obtain ⟨hsh, hshpos, hshlt⟩ := top_bits hm hK1 hlt
  unfold truncateAndRoundFixed keptMantissa
  simp only [hlog, hd, hsat]
  have hKdef : d * bpd - (bpd - 1 - ((e + ↑(significantBits m) - 1) % (bpd : ℤ)).toNat) =
      keptBits bpd d (significantBits m) e := rfl
  rw [hKdef, if_pos hlt]
  generalize keptBits bpd d (significantBits m) e = K at *
  generalize hmb : significantBits m = mb at *
  by_cases ht : o.truncate = true
  · simp only [ht, if_true]
    rw [← Nat.shiftRight_eq_div_pow]
    refine ⟨?_, hshpos, Nat.le_of_lt hshlt, hK1⟩
    rw [significantBits_shl hshpos, hsh]; congr 1; omega
  · simp only [ht, Bool.false_eq_true, if_false]
    obtain ⟨up, hup1, hup, hR⟩ := roundHalfEven_shr m (show 1 ≤ mb - K by omega)
    rw [hR, hup]
    have hmono := significantBits_mono hshpos (Nat.le_add_right _ up)
    generalize m >>> (mb - K) = sh at *
    have hKw : (2 : Nat) ^ K < 2 ^ w := Nat.pow_lt_pow_right (by decide) (by omega)
    rw [Nat.mod_eq_of_lt (show sh + up < 2 ^ w by omega)]
    have hpos' : 0 < sh + up := by omega
    have hbits_le : significantBits (sh + up) ≤ K + 1 := significantBits_le (by rw [Nat.pow_succ]; omega)
    -- shifted back, the rounded mantissa still fits the unsigned type
    have hshl_lt : (sh + up) <<< (mb - K) < 2 ^ w := by
      have u3 := (significantBits_spec (show 0 < (sh + up) <<< (mb - K) by
        rw [Nat.shiftLeft_eq]; exact Nat.mul_pos hpos' (Nat.two_pow_pos _))).2.2
      rw [significantBits_shl hpos'] at u3
      have : (2 : Nat) ^ (significantBits (sh + up) + (mb - K)) ≤ 2 ^ w := Nat.pow_le_pow_right (by decide) (by omega)
      omega
    rw [Nat.mod_eq_of_lt hshl_lt]
    refine ⟨?_, by omega, by omega, hK1⟩
    rw [significantBits_shl hpos']
    congr 1
    rw [hsh]; omega

end LexVerif.Proof.WriteBinaryOpts
