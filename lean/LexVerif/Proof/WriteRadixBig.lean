import LexVerif.Proof.WriteRadixMid
import Mathlib.Tactic.Ring
import LexVerif.Proof.WriteRadixTermInt
/-!
# Proof.WriteRadixBig — the ulp clause for floats `x ≥ 2^p` (zero padding)

Such a float is an integer multiple of 2; `write_float` has no fraction digits and the integer loops are the only source
of error. Their output is `WriteRadixTermInt.genInteger_eq`; here its value is compared with the input: every
zero-padding step `integer /= base` rounds (relative error `≤ 2^-p`: `padIter_close`), the digit step taken after them
rounds twice (`first_step_close`), everything after that is exact; the floor of that step's quotient costs less than
`base·1.0`.
-/
namespace LexVerif.Proof.WriteRadixBig
open LexVerif.Spec LexVerif.Proof.RoundNE LexVerif.Proof.WriteRadixF LexVerif.Proof.WriteRadixWF
open LexVerif.Proof.WriteRadixInteger LexVerif.Proof.WriteRadixTermInt LexVerif.Proof.WriteRadixMid
open LexVerif.Proof.WriteRadixSpacing LexVerif.Model.WriteRadix
open LexVerif.Model.WriteInt (Res)

theorem fdiv_base_eq {f : Fmt} (h : FOK f) {r : Nat} (hrp : r < 2 * 2 ^ (f.p - 1)) (y : Nat) :
    fdiv f y (ofNat f r) = roundNE f (RoundNE.ival f y) (r * unit f) := by
  rw [fdiv_eq, (ofNat_ival h hrp).1]

theorem fdiv_close {f : Fmt} (h : FOK f) {r : Nat} (hr0 : 0 < r) (hrp : r < 2 * 2 ^ (f.p - 1)) {y : Nat}
    (hc : 2 ^ (f.p - 1) ≤ fdiv f y (ofNat f r)) (hfin : fdiv f y (ofNat f r) < f.infBits) :
    Close (2 * 2 ^ (f.p - 1)) 1 (r * RoundNE.ival f (fdiv f y (ofNat f r))) (RoundNE.ival f y) := by
  rw [fdiv_base_eq h hrp] at hc hfin ⊢
  obtain ⟨e, p1, p2, p3⟩ := round_rel h.wf (unit_pos f) hr0 (by rw [unit_eq]) rfl hfin hc
  exact close_of_rel p1 p2 p3

theorem padIter_close {f : Fmt} (h : FOK f) {r : Nat} (hr : 2 ≤ r) (hrp : r < 2 * 2 ^ (f.p - 1)) {y : Nat}
    (hy : y < f.infBits) : ∀ n, (∀ i, i < n → 2 ^ (f.p - 1) ≤ padIter f r (i + 1) y) →
      Close (2 * 2 ^ (f.p - 1)) n (RoundNE.ival f (padIter f r n y) * r ^ n) (RoundNE.ival f y)
  | 0, _ => by simpa [padIter] using Close.refl _ _
  | n + 1, hn => by
    have ih := padIter_close h hr hrp hy n (fun i hi => hn i (by omega))
    have hfin := Nat.lt_of_le_of_lt (padIter_le h hr hrp y (n + 1)) hy
    have hc := hn n (Nat.lt_succ_self n)
    rw [padIter_succ'] at hc hfin ⊢
    have := ((fdiv_close h (by omega) hrp hc hfin).mul_right (r ^ n)).step ih
    rwa [show r * RoundNE.ival f (fdiv f (padIter f r n y) (ofNat f r)) * r ^ n
      = RoundNE.ival f (fdiv f (padIter f r n y) (ofNat f r)) * r ^ (n + 1) by rw [Nat.pow_succ]; ring] at this

theorem big_dvd {f : Fmt} (h : FOK f) {w : Nat} (hw : (f.bias + f.p) * 2 ^ (f.p - 1) ≤ w) :
    2 * unit f ∣ RoundNE.ival f w := by
  obtain ⟨k, q, rfl, h1, h2⟩ := decomp f w
  have hT := Nat.two_pow_pos (f.p - 1)
  have hp := h.wf.hp
  have hb := bias_pos h.wf
  have hk : L f + 1 ≤ k := by
    apply Nat.le_of_not_lt; intro hk
    have : k * 2 ^ (f.p - 1) ≤ L f * 2 ^ (f.p - 1) := Nat.mul_le_mul_right _ (by omega)
    have e : (f.bias + f.p) * 2 ^ (f.p - 1) = L f * 2 ^ (f.p - 1) + 2 * 2 ^ (f.p - 1) := by
      rw [← L_add_two h.wf]; ring
    omega
  rw [ival_kq f k q h1 (by omega), unit_eq, show 2 * 2 ^ L f = 2 ^ (L f + 1) by rw [Nat.pow_succ]; ring]
  exact Nat.dvd_trans (Nat.pow_dvd_pow 2 hk) ⟨q, Nat.mul_comm _ _⟩

theorem first_step_close {f : Fmt} (h : FOK f) {r : Nat} (hr : 2 ≤ r) (hr36 : r ≤ 36) (hT : 36 ≤ 2 ^ (f.p - 1)) {w : Nat}
    (hw : (f.bias + f.p) * 2 ^ (f.p - 1) ≤ w) (hwf : w < f.infBits) (hd0 : stepDigit f r w < r)
    (hq1 : stepQuot f r w < (f.bias + f.p) * 2 ^ (f.p - 1)) :
    Close (2 * 2 ^ (f.p - 1)) 2 (r * RoundNE.ival f (stepQuot f r w) + stepDigit f r w * unit f) (RoundNE.ival f w) := by
  have hu := unit_pos f
  have hr0 : 0 < r := by omega
  have hrp : r < 2 * 2 ^ (f.p - 1) := by omega
  obtain ⟨hrv, hrf⟩ := ofNat_ival h hrp
  have hremv := (fmod_exact h.wf w hrf (by rw [hrv]; exact Nat.ne_of_gt (Nat.mul_pos hr0 hu))).1
  rw [hrv] at hremv
  obtain ⟨t, ht⟩ := big_dvd h hw
  have hrem : RoundNE.ival f (fmod f w (ofNat f r)) = stepDigit f r w * unit f := by
    have hdv : unit f ∣ RoundNE.ival f w % (r * unit f) :=
      (Nat.dvd_mod_iff ⟨r, Nat.mul_comm _ _⟩).mpr ⟨2 * t, by rw [ht]; ring⟩
    have hlt : RoundNE.ival f w % (r * unit f) / unit f < r :=
      (Nat.div_lt_iff_lt_mul hu).mpr (Nat.mod_lt _ (Nat.mul_pos hr0 hu))
    rw [stepDigit, asU32, ival_eq, hremv, Nat.min_eq_left (by omega), Nat.div_mul_cancel hdv]
  generalize stepDigit f r w = d0 at *
  have hremle : d0 * unit f ≤ RoundNE.ival f w := by rw [← hrem, hremv]; exact Nat.mod_le _ _
  have es : fsub f w (fmod f w (ofNat f r)) = roundNE f (RoundNE.ival f w - d0 * unit f) (unit f) := by
    rw [fsub_eq, hrem]
  have hs1le : fsub f w (fmod f w (ofNat f r)) ≤ w := fsub_le_self h.wf
  -- the difference is at least `r·1.0`, so the quotient is at least `1.0`: a normal float
  have hWge : 2 * 2 ^ (f.p - 1) * unit f ≤ RoundNE.ival f w := by rw [← ival_two_pow_p h]; exact ival_mono f hw
  have hs1ge : r * unit f ≤ RoundNE.ival f (fsub f w (fmod f w (ofNat f r))) := by
    rw [← hrv]
    apply ival_mono f
    rw [es]
    show roundNE f r 1 ≤ _
    apply roundNE_mono' h.wf Nat.one_pos hu
    have : (r + d0) * unit f ≤ 2 * 2 ^ (f.p - 1) * unit f := Nat.mul_le_mul_right _ (by omega)
    rw [Nat.add_mul] at this
    omega
  have hq1n : 2 ^ (f.p - 1) ≤ stepQuot f r w := by
    have h1 : one f ≤ stepQuot f r w := by
      rw [stepQuot, fdiv_base_eq h hrp]
      show roundNE f 1 1 ≤ _
      exact roundNE_mono' h.wf Nat.one_pos (Nat.mul_pos hr0 hu) (by omega)
    rw [one_eq h] at h1
    have : 1 * 2 ^ (f.p - 1) ≤ f.bias * 2 ^ (f.p - 1) := Nat.mul_le_mul_right _ (bias_pos h.wf)
    omega
  have c1 := (round_close_one h.wf hu (N := RoundNE.ival f w - d0 * unit f) (A := RoundNE.ival f w - d0 * unit f)
    (by rw [unit_eq]) (by rw [← es]; omega)).add_right (d0 * unit f)
  rw [← es, Nat.sub_add_cancel hremle] at c1
  exact ((fdiv_close h hr0 hrp (y := fsub f w (fmod f w (ofNat f r))) hq1n (lt_two_pow_p_finite h hq1)).add_right
    (d0 * unit f)).trans c1

/-- the number the integer bytes of `genInteger_eq` denote -/
theorem intDigits_value {r : Nat} (hr : 2 ≤ r) (hr36 : r ≤ 36) {d0 : Nat} (hd0 : d0 < r) (n z : Nat) (c : Prop)
    [Decidable c] (hc : c → n = 0) :
    ofDigits r (((if c then [] else (toDigits r n).map digitChar) ++ digitChar d0 :: List.replicate z 48).map byteDigit)
      = (n * r + d0) * r ^ z := by
  have htail : ofDigits r ((digitChar d0 :: List.replicate z 48).map byteDigit) = d0 * r ^ z := by
    rw [List.map_cons, byteDigit_digitChar (by omega), List.map_replicate, show byteDigit 48 = 0 from rfl,
      Spec.ofDigits_cons, Spec.ofDigits_replicate_zero, List.length_replicate, Nat.add_zero]
  split
  · rename_i h0
    rw [List.nil_append, htail, hc h0, Nat.zero_mul, Nat.zero_add]
  · rw [List.map_append, ofDigits_append_pow, htail, byteDigit_toDigits hr hr36, ofDigits_toDigits r _ hr,
      List.length_map, List.length_cons, List.length_replicate, Nat.pow_succ]
    ring

/-- from `T2·X ≤ a < (T2 + c)·K`: `m·X < (m + 1)·K` as long as `m·c ≤ T2` (used with `X = 1.0·r^z`, `a = w·r^z`, `K` the
spacing of the input, `m = r`) -/
theorem scale_bound {X a K T2 c m : Nat} (h1 : T2 * X ≤ a) (h2 : a < (T2 + c) * K) (h3 : m * c ≤ T2) :
    m * X < (m + 1) * K := by
  have hK : 0 < K := by
    apply Nat.pos_of_ne_zero; intro h0; subst h0; simp at h2
  apply Nat.lt_of_not_le; intro hge
  rcases Nat.eq_zero_or_pos m with h0 | hp
  · subst h0; simp at hge; omega
  · have h4 : T2 * ((m + 1) * K) ≤ T2 * (m * X) := Nat.mul_le_mul_left _ hge
    have h5 : T2 * (m * X) = m * (T2 * X) := by ring
    have h6 : m * (T2 * X) ≤ m * a := Nat.mul_le_mul_left _ h1
    have h7 : m * a < m * ((T2 + c) * K) := Nat.mul_lt_mul_of_pos_left h2 hp
    have h8 : m * ((T2 + c) * K) = m * T2 * K + (m * c) * K := by ring
    have h9 : (m * c) * K ≤ T2 * K := Nat.mul_le_mul_right _ h3
    have h10 : m * T2 * K + T2 * K = T2 * ((m + 1) * K) := by ring
    omega

theorem generate_big {f : Fmt} (h : FOK f) {r v : Nat} (hv1 : (f.bias + f.p) * 2 ^ (f.p - 1) ≤ v)
    (hv2 : v < f.infBits) {g : Gen} (hg : generate true f r v = .ok g) :
    genInteger f r v = .ok g.ints ∧ g.fracs = [] := by
  obtain ⟨t, ht⟩ := big_dvd h hv1
  have hfloor : ffloor f v = v := by
    apply ival_inj f
    rw [(ffloor_exact h.wf hv2).1, Nat.div_mul_cancel ⟨2 * t, by rw [ht]; ring⟩]
  obtain ⟨fr, ints, hfr, hi, rfl⟩ := generate_eq_ok hg
  rcases genFraction_eq_ok hfr with ⟨_, rfl⟩ | ⟨hgt, _⟩
  · simp only [Bool.false_eq_true, if_false, hfloor] at hi
    exact ⟨hi, rfl⟩
  · rw [hfloor, fsub_self] at hgt
    exact absurd hgt (Nat.not_lt_zero _)

/-- at most `Z` zero-padding steps: `2^p·3^z ≤ integer·r^z ≤ 2·input`, and the input is finite -/
theorem pad_count_le {f : Fmt} {Ns Z : Nat} (m : RadixFmt f Ns Z) {r : Nat} (hr3 : 3 ≤ r) {v w z : Nat} (hv2 : v < f.infBits)
    (hw : (f.bias + f.p) * 2 ^ (f.p - 1) ≤ w) (ha : RoundNE.ival f w * r ^ z ≤ 2 * RoundNE.ival f v) : z ≤ Z := by
  have h := m.fok
  apply Nat.le_of_not_lt; intro hlt
  have hinf := (ival_infBits h.wf).1
  have hvlt : RoundNE.ival f v < RoundNE.ival f f.infBits := ival_strictMono f hv2
  have h1 : 2 * 2 ^ (f.p - 1) * (unit f * r ^ z) ≤ RoundNE.ival f w * r ^ z := by
    rw [← Nat.mul_assoc, ← ival_two_pow_p h]
    exact Nat.mul_le_mul_right _ (ival_mono f hw)
  have h3 : unit f * r ^ z < 2 * 2 ^ (f.maxExpField - 2) := by
    apply Nat.lt_of_mul_lt_mul_left (a := 2 * 2 ^ (f.p - 1))
    calc _ ≤ _ := h1
      _ < 2 * (2 * 2 ^ (f.p - 1) * 2 ^ (f.maxExpField - 2)) := by omega
      _ = _ := by ring
  have hM := M_eq h.wf
  have e1 : 2 * 2 ^ (f.maxExpField - 2) = 2 ^ L f * 2 ^ (f.maxExpField - 1 - L f) := by
    rw [← Nat.pow_add, show 2 * 2 ^ (f.maxExpField - 2) = 2 ^ (f.maxExpField - 2 + 1) by rw [Nat.pow_succ]; ring]
    congr 1; have := h.hb; have := h.wf.hp; have := bias_pos h.wf; unfold L; omega
  rw [e1, unit_eq] at h3
  have h4 : r ^ z < 2 ^ (f.maxExpField - 1 - L f) := Nat.lt_of_mul_lt_mul_left h3
  have h5 : 3 ^ (Z + 1) ≤ r ^ z :=
    Nat.le_trans (Nat.pow_le_pow_left hr3 _) (Nat.pow_le_pow_right (by omega) hlt)
  have := m.hZ
  omega

/-- **the ulp clause for `x ≥ 2^p`**: `z ≤ Z` padding steps and the two roundings of the first digit step are at most `z + 3`
spacings, the floor of the quotient costs less than `r·1.0·r^z < 37` spacings: `2·(Z + 39)` patterns (1304 for binary64,
210 for binary32) -/
theorem error_big {f : Fmt} {Ns Z : Nat} (m : RadixFmt f Ns Z) {r : Nat} (hr3 : 3 ≤ r) (hr36 : r ≤ 36)
    {v : Nat} (hv1 : (f.bias + f.p) * 2 ^ (f.p - 1) ≤ v) (hv2 : v < f.infBits) {g : Gen}
    (hg : generate true f r v = .ok g) :
    ulpDist (roundNE f (ofDigits r ((g.ints ++ g.fracs).map byteDigit)) (r ^ g.fracs.length)) v ≤ 2 * Z + 78 := by
  have h := m.fok
  have hp := h.wf.hp
  have hu := unit_pos f
  have hTbig := m.tbig
  have hhs : halfSize = 1100 := rfl
  obtain ⟨hrp, hT36⟩ := m.radix_lt hr36
  have hr2 : 2 ≤ r := by omega
  have h2pT : 2 ^ (f.p - 1) ≤ (f.bias + f.p) * 2 ^ (f.p - 1) := Nat.le_mul_of_pos_left _ (by omega)
  obtain ⟨hgi, hfr⟩ := generate_big h hv1 hv2 hg
  obtain ⟨z, hzb, hno, hexp, hwle, hd0, hq1, hgi'⟩ := genInteger_eq h hr2 hrp hr36 m.buf (Nat.le_of_lt hv2)
  have hzf : z ≤ halfSize := by have := m.buf; omega
  have hw : (f.bias + f.p) * 2 ^ (f.p - 1) ≤ padIter f r z v := by
    rcases z with _ | z
    · exact hv1
    · exact hno z (Nat.lt_succ_self z)
  have hinv := padIter_close h hr2 hrp hv2 z (fun i hi => Nat.le_trans h2pT (hno i hi))
  have hwfin : padIter f r z v < f.infBits := Nat.lt_of_le_of_lt hwle hv2
  have hcl := first_step_close h hr2 hr36 hT36 hw hwfin hd0 hq1
  rw [hfr, List.append_nil, ← Res.ok.inj (hgi'.symm.trans hgi), intDigits_value hr2 hr36 hd0 _ z _
    (fun h0 => by rw [h0, ival_zero, Nat.zero_div]), List.length_nil, Nat.pow_zero]
  generalize stepQuot f r (padIter f r z v) = q1 at *
  generalize stepDigit f r (padIter f r z v) = d0 at *
  generalize padIter f r z v = w at *
  obtain ⟨hzz, _, hz2T⟩ := m.rounds (j := 2 + z) (by omega)
  obtain ⟨hzz0, hz2, hzT⟩ := m.rounds (Nat.le_add_right_of_le hzf)
  have hKlt := ival_lt_spacing f v
  have hTK := spacing_mul_le f (Nat.le_trans h2pT hv1)
  have hWge : 2 * 2 ^ (f.p - 1) * unit f ≤ RoundNE.ival f w := by
    rw [← ival_two_pow_p h]; exact ival_mono f hw
  have hzZ : z ≤ Z := by
    refine pad_count_le m hr3 hv2 hw ?_
    exact (hinv.le_two_mul (by omega) hz2).1
  generalize hK : spacing f v = K at *
  -- the whole chain, then `z + 2` roundings as spacings
  obtain ⟨ha1, ha2⟩ := Close.to_add ((hcl.mul_right (r ^ z)).trans hinv) hKlt hzz hz2T
  have hX : r * (unit f * r ^ z) < (r + 1) * K := by
    obtain ⟨b1, _⟩ := Close.to_add hinv hKlt hzz0 hzT
    apply scale_bound (T2 := 2 * 2 ^ (f.p - 1)) (a := RoundNE.ival f w * r ^ z) (c := z + 1)
    · calc 2 * 2 ^ (f.p - 1) * (unit f * r ^ z) = 2 * 2 ^ (f.p - 1) * unit f * r ^ z := by ring
        _ ≤ _ := Nat.mul_le_mul_right _ hWge
    · have : (2 * 2 ^ (f.p - 1) + (z + 1)) * K = 2 * 2 ^ (f.p - 1) * K + (z + 1) * K := by ring
      omega
    · have : r * (z + 1) ≤ 36 * (halfSize + 1) := Nat.mul_le_mul hr36 (by omega)
      rw [hhs] at this hTbig; omega
  -- the floor of the quotient: `I1·1.0 ≤ q1 < I1·1.0 + 1.0`
  have hdm := Nat.div_add_mod (RoundNE.ival f q1) (unit f)
  have hml := Nat.mod_lt (RoundNE.ival f q1) hu
  have e0 : (RoundNE.ival f q1 / unit f * r + d0) * r ^ z * unit f + r * (RoundNE.ival f q1 % unit f) * r ^ z
      = (r * RoundNE.ival f q1 + d0 * unit f) * r ^ z := by
    conv => rhs; rw [← hdm]
    ring
  have hfl : r * (RoundNE.ival f q1 % unit f) * r ^ z ≤ r * (unit f * r ^ z) := by
    rw [Nat.mul_assoc]
    exact Nat.mul_le_mul_left _ (Nat.mul_le_mul_right _ (Nat.le_of_lt hml))
  have h1 : (2 + z + 1) * K ≤ (Z + 3) * K := Nat.mul_le_mul_right _ (by omega)
  have h2 : (2 + z) * K + (r + 1) * K ≤ (Z + 39) * K := by
    rw [← Nat.add_mul]; exact Nat.mul_le_mul_right _ (by omega)
  have := pattern_dist h.wf (v := v) (N := (RoundNE.ival f q1 / unit f * r + d0) * r ^ z) (D := 1)
    (a := Z + 3) (b := Z + 39) Nat.one_pos hv2 (by have := m.fuel; rw [hhs] at this hTbig; omega)
    (by rw [hK, Nat.mul_one]; omega) (by rw [hK, Nat.mul_one, Nat.mul_one]; omega)
  omega

end LexVerif.Proof.WriteRadixBig
