import LexVerif.Proof.IterScan
/-!
# Proof.IterSpec — the iterator primitives and loops of the float syntax model, in closed form

Every function of `Model/Iter.lean` and every loop of `Model/ParseNumber.lean` threads a `Bytes` through the `Except` monad,
but all it can do to it is move the cursor forward and count digits: `f … b = .ok (v, mv c k j n b)` where `v`, `j`, `n` are the
pure functions of `Proof/IterScan.lean` applied to `b.slc`, `b.index` and `b.iterCount c k == 0`; `pk c k b` is `peekIdx` at
`b`'s own cursor and count, the cursor `peek` leaves. The equations hold for every `Cfg` whose `peek` is reachable. A release
build asserts nothing; a debug build owes `StepOK` for each byte stepped over (a skipping iterator must not stand on the
separator), `radix <= 10` in the 8-digit paths and `NoOv` in `parse_u64_digits`. The fuel of a loop is enough exactly when
the scan limited by it stops by itself, so an equation also says when `fault "fuel"` is returned.

A proof about one run rewrites with the equation and reads the result off the facts about `mv` and `scan`; where `peek`
never moves (`peekIdx_noskip`, `peekIdx_nonsep`, `peekIdx_bc`, `peekIdx_of_plain`) `scan_plain_eq` makes the loop a
`takeWhile`. A proof about two buffers rewrites both runs and compares the scans (`scan_trunc`, `scan_cfg`, and
`Proof/IterSlice.lean`); a second loop over the same bytes is `scan_mono`. `digitsPass_end`: the 8-digit fast path may be
ignored for the end state. A proof with a loop of its own steps with `iterStep_cur` under `Guard`.
-/
namespace LexVerif.Proof.IterSpec
open LexVerif LexVerif.Model

def cur (b : Bytes) (j : Nat) : Bytes := { b with index := j }

/-- cursor at `j`, `n` more digits of component `k` counted -/
def mv (c : Cfg) (k : Comp) (j n : Nat) (b : Bytes) : Bytes :=
  let f := if c.feats.format then n else 0
  match k with
  | .integer => { b with index := j, ic := b.ic + f }
  | .fraction => { b with index := j, fc := b.fc + f }
  | .exponent => { b with index := j, ec := b.ec + f }
  | .special => { b with index := j }

@[simp] theorem cur_slc (b : Bytes) (j : Nat) : (cur b j).slc = b.slc := rfl
@[simp] theorem cur_index (b : Bytes) (j : Nat) : (cur b j).index = j := rfl
@[simp] theorem cur_cur (b : Bytes) (i j : Nat) : cur (cur b i) j = cur b j := rfl
theorem cur_self (b : Bytes) : cur b b.index = b := rfl
@[simp] theorem mv_slc (c : Cfg) (k : Comp) (j n : Nat) (b : Bytes) : (mv c k j n b).slc = b.slc := by cases k <;> rfl
@[simp] theorem mv_index (c : Cfg) (k : Comp) (j n : Nat) (b : Bytes) : (mv c k j n b).index = j := by cases k <;> rfl
@[simp] theorem mv_zero (c : Cfg) (k : Comp) (j : Nat) (b : Bytes) : mv c k j 0 b = cur b j := by
  cases k <;> simp [mv, cur]
theorem mv_mv (c : Cfg) (k : Comp) (i j n m : Nat) (b : Bytes) : mv c k j m (mv c k i n b) = mv c k j (n + m) b := by
  cases k <;> cases hf : c.feats.format <;> simp [mv, hf, Nat.add_assoc]
theorem incCount_mv (c : Cfg) (k : Comp) (j n : Nat) (b : Bytes) :
    (mv c k j n b).incCount c k = mv c k j (n + 1) b := by
  cases k <;> cases hf : c.feats.format <;> simp [mv, Bytes.incCount, hf, Nat.add_assoc]

theorem mv_counts (c : Cfg) (k : Comp) (j n : Nat) (b : Bytes) :
    (mv c k j n b).ic + (mv c k j n b).fc + (mv c k j n b).ec ≤ b.ic + b.fc + b.ec + n := by
  cases k <;> cases hf : c.feats.format <;> simp [mv, hf] <;> omega

theorem mv_sum (c : Cfg) (k : Comp) (hf : c.feats.format = true) (hk : k ≠ .special) (j n : Nat) (b : Bytes) :
    (mv c k j n b).ic + (mv c k j n b).fc + (mv c k j n b).ec = b.ic + b.fc + b.ec + n := by
  cases k <;> simp [mv, hf] at hk ⊢ <;> omega

/-- `current_count()` of a skipping digit iterator is its own count -/
theorem mv_iterCount (c : Cfg) (k : Comp) (hnc : c.iterContiguous k = false) (hk : k ≠ .special) (j n : Nat) (b : Bytes) :
    (mv c k j n b).iterCount c k = b.iterCount c k + n := by
  have hf := format_of_notContig hnc
  cases k <;> simp [Bytes.iterCount, hnc, mv, hf] at hk ⊢

def pk (c : Cfg) (k : Comp) (b : Bytes) : Nat := peekIdx c k b.slc (b.iterCount c k == 0) b.index

theorem peek_eq {c : Cfg} {k : Comp} (hs : c.skip k ≠ .unreachable) (b : Bytes) :
    peek c k b = .ok (b.slc[pk c k b]?, cur b (pk c k b)) := by
  unfold peek pk peekIdx
  cases hk : c.skip k with
  | noskip => rfl
  | unreachable => exact absurd hk hs
  | pred p =>
    simp only [peekPred]
    cases hv : b.slc[b.index]? with
    | none => simp [hv, cur]
    | some v =>
      simp only
      cases hsep : c.isSep v <;> cases hh : p.holds c (nbr c b.slc b.index) (b.iterCount c k == 0) <;>
        simp [hv, cur]

theorem peek_ok_iff {c : Cfg} {k : Comp} (hs : c.skip k ≠ .unreachable) {b b' : Bytes} {r : Option Nat} :
    peek c k b = .ok (r, b') ↔ b.slc[pk c k b]? = r ∧ cur b (pk c k b) = b' := by
  rw [peek_eq hs, Except.ok.injEq, Prod.mk.injEq]

theorem pk_rest (c : Cfg) (k : Comp) (hnd : ∀ y, c.isSep y = true → c.isDigit y = false) (b : Bytes) :
    pk c k (cur b (pk c k b)) = pk c k b := by
  cases hsk : c.skip k with
  | pred p =>
    have hf : ∀ j, (cur b j).iterCount c k = b.iterCount c k := fun j => by
      simp only [Bytes.iterCount, contig_of_pred hsk, Bool.false_eq_true, if_false]; cases k <;> rfl
    unfold pk
    rw [hf, cur_slc, cur_index]
    exact peekIdx_rest hnd ..
  | noskip => simp only [pk, peekIdx_noskip hsk, cur_index]
  | unreachable => simp only [pk, peekIdx, hsk, cur_index]

/-- a state over `s` with the cursor at `i` in which every component has (`first`) or has not counted a digit yet -/
def st (s : List Nat) (f : Bool) (i : Nat) : Bytes :=
  ⟨s, i, if f then 0 else 1, if f then 0 else 1, if f then 0 else 1⟩

theorem pk_st (c : Cfg) (k : Comp) (s : List Nat) (f : Bool) (i : Nat) : pk c k (st s f i) = peekIdx c k s f i := by
  cases hk : c.skip k with
  | pred p =>
    simp only [pk, st, Bytes.iterCount, contig_of_pred hk]
    congr 1
    cases k <;> cases f <;> simp
  | noskip => simp only [pk, peekIdx, hk, st]
  | unreachable => simp only [pk, peekIdx, hk, st]

theorem peekIdx_of_plain {c : Cfg} {k : Comp} {s : List Nat}
    (h : ∀ b : Bytes, b.slc = s → peek c k b = .ok (b.slc[b.index]?, b)) (f : Bool) (i : Nat) :
    peekIdx c k s f i = i := by
  cases hk : c.skip k with
  | noskip => exact peekIdx_noskip hk s f i
  | unreachable => have := h ⟨s, i, 0, 0, 0⟩ rfl; simp [peek, hk] at this
  | pred p =>
    have := h (st s f i) rfl
    rw [peek_ok_iff (by rw [hk]; simp), pk_st] at this
    exact congrArg Bytes.index this.2

/-- the byte `x` may be stepped over: a debug build asserts that a skipping iterator is not on the separator -/
def StepOK (c : Cfg) (k : Comp) (x : Nat) : Prop :=
  c.debug = true → c.iterContiguous k = true ∨ x ≠ c.fmt.digitSeparator

theorem StepOK.release {c : Cfg} (hd : c.debug = false) (k : Comp) (x : Nat) : StepOK c k x := by
  intro h; rw [hd] at h; cases h

/-- what a debug build asserts when the iterator steps over the byte at `j` (nothing in a release build) -/
def Guard (c : Cfg) (k : Comp) (s : List Nat) (j : Nat) : Prop :=
  c.debug = true → j < s.length ∧ (c.iterContiguous k = true ∨ s[j]? ≠ some c.fmt.digitSeparator)

theorem Guard.of_get {c : Cfg} {k : Comp} {s : List Nat} {j x : Nat} (hx : s[j]? = some x) (h : StepOK c k x) :
    Guard c k s j := fun hd =>
  ⟨(List.getElem?_eq_some_iff.mp hx).1, (h hd).imp id fun hne he => hne (Option.some.inj (hx.symm.trans he))⟩

theorem iterStep_cur {c : Cfg} {k : Comp} {b : Bytes} {j : Nat} (g : Guard c k b.slc j) :
    iterStep c k (cur b j) = .ok (cur b (j + 1)) := by
  unfold iterStep Bytes.stepUnchecked Bytes.stepBy
  cases hd : c.debug with
  | false => simp [cur]
  | true =>
    obtain ⟨hlt, hns⟩ := g hd
    have h1 : ¬ b.slc.length ≤ j := by omega
    have h2 : ¬ b.slc.length < j := by omega
    have h3 : ¬ b.slc.length - j = 0 := by omega
    rcases hns with h | h <;> simp [h, cur, h1, h2, h3]

theorem first_after (c : Cfg) (k : Comp) (s : List Nat) (j n i : Nat) (b : Bytes) :
    peekIdx c k s ((mv c k j n b).iterCount c k == 0) i = peekIdx c k s ((b.iterCount c k == 0) && (n == 0)) i := by
  cases hct : c.iterContiguous k
  · have hf := format_of_notContig hct
    cases k with
    | special => exact peekIdx_special c s _ _ i
    | integer | fraction | exponent =>
      all_goals
        congr 1
        simp only [Bytes.iterCount, hct, mv, hf, Bool.false_eq_true, if_false, if_true]
        rw [Bool.eq_iff_iff]; simp
  · simp only [peekIdx_noskip ((skip_noskip_iff c k).mpr hct)]

theorem first_mv (c : Cfg) (k : Comp) (s : List Nat) (j n i : Nat) (b : Bytes) :
    peekIdx c k s ((mv c k (j + 1) (n + 1) b).iterCount c k == 0) i = peekIdx c k s false i := by
  rw [first_after]; simp

variable {c : Cfg} {k : Comp}

theorem parseDigitsLoop_eq (hs : c.skip k ≠ .unreachable) (r : Nat) :
    ∀ (fuel : Nat) (b : Bytes),
      (∀ x, isDig r x → StepOK c k x) →
      parseDigitsLoop c k r fuel b =
        if (scan c k b.slc (isDig r) fuel (b.iterCount c k == 0) b.index).1.length < fuel then
          .ok ((scan c k b.slc (isDig r) fuel (b.iterCount c k == 0) b.index).1.filterMap (charToDigit · r),
             mv c k (scan c k b.slc (isDig r) fuel (b.iterCount c k == 0) b.index).2
               (scan c k b.slc (isDig r) fuel (b.iterCount c k == 0) b.index).1.length b)
        else .error (.fault "fuel")
  | 0, b => by simp [parseDigitsLoop]
  | fuel + 1, b => by
    intro hg
    have hge : b.index ≤ pk c k b := peekIdx_ge c k b.slc _ b.index
    unfold parseDigitsLoop
    simp only [peek_eq hs, bind, Except.bind, scan]
    unfold pk at hge ⊢
    obtain hx | ⟨x, hx⟩ : b.slc[peekIdx c k b.slc (b.iterCount c k == 0) b.index]? = none ∨
        ∃ x, b.slc[peekIdx c k b.slc (b.iterCount c k == 0) b.index]? = some x := by
      cases b.slc[peekIdx c k b.slc (b.iterCount c k == 0) b.index]? <;> simp
    · simp [hx, pure, Except.pure]
    · simp only [hx]
      obtain hdg | ⟨d, hdg⟩ : charToDigit x r = none ∨ ∃ d, charToDigit x r = some d := by
        cases charToDigit x r <;> simp
      · simp [isDig, hdg, pure, Except.pure]
      · simp only [isDig, hdg, Option.isSome_some, if_true]
        rw [iterStep_cur (Guard.of_get hx (hg x (by simp [isDig, hdg])))]
        simp only [← mv_zero c k, incCount_mv]
        have ih := parseDigitsLoop_eq hs r fuel
          (mv c k (peekIdx c k b.slc (b.iterCount c k == 0) b.index + 1) (0 + 1) b)
          hg
        simp only [mv_slc, mv_index, scan_first _ _ _ (first_mv c k b.slc _ _ _ b)] at ih
        rw [ih]
        by_cases hlt : (scan c k b.slc (isDig r) fuel false
            (peekIdx c k b.slc (b.iterCount c k == 0) b.index + 1)).1.length < fuel
        · rw [if_pos hlt, if_pos (by simp only [List.length_cons]; omega)]
          simp [pure, Except.pure, hdg, mv_mv, Nat.add_comm]
        · rw [if_neg hlt, if_neg (by simp only [List.length_cons]; omega)]

theorem parseDigitsLoop_ok (hs : c.skip k ≠ .unreachable) (r fuel : Nat) (b : Bytes)
    (hf : b.slc.length - b.index < fuel)
    (hg : ∀ x, isDig r x → StepOK c k x) :
    parseDigitsLoop c k r fuel b =
      .ok ((scan c k b.slc (isDig r) fuel (b.iterCount c k == 0) b.index).1.filterMap (charToDigit · r),
        mv c k (scan c k b.slc (isDig r) fuel (b.iterCount c k == 0) b.index).2
          (scan c k b.slc (isDig r) fuel (b.iterCount c k == 0) b.index).1.length b) := by
  rw [parseDigitsLoop_eq hs r fuel b hg, if_pos (scan_fuel _ _ _ hf)]

theorem readIfValueCased_eq (hs : c.skip k ≠ .unreachable) (v : Nat) (b : Bytes)
    (hg : StepOK c k v) :
    readIfValueCased c k v b =
      .ok (if b.slc[pk c k b]? = some v then (true, cur b (pk c k b + 1)) else (false, cur b (pk c k b))) := by
  unfold readIfValueCased
  simp only [peek_eq hs, bind, Except.bind]
  by_cases h : b.slc[pk c k b]? = some v
  · simp [h, iterStep_cur (Guard.of_get h hg), pure, Except.pure]
  · simp [h, pure, Except.pure]

theorem readIfValueUncased_eq (hs : c.skip k ≠ .unreachable) (v : Nat) (b : Bytes)
    (hg : ∀ y, eqIgnoreCase y v = true → StepOK c k y) :
    readIfValueUncased c k v b =
      .ok (if (b.slc[pk c k b]?).any (eqIgnoreCase · v) then (true, cur b (pk c k b + 1)) else (false, cur b (pk c k b))) := by
  unfold readIfValueUncased
  simp only [peek_eq hs, bind, Except.bind]
  obtain hx | ⟨y, hx⟩ : b.slc[pk c k b]? = none ∨ ∃ y, b.slc[pk c k b]? = some y := by
    cases b.slc[pk c k b]? <;> simp
  · simp [hx, pure, Except.pure]
  · by_cases h : eqIgnoreCase y v = true
    · simp [hx, h, iterStep_cur (Guard.of_get hx (hg y h)), pure, Except.pure]
    · simp [hx, h, pure, Except.pure]

theorem isConsumed_eq (hs : c.skip k ≠ .unreachable) (b : Bytes) :
    isConsumed c k b =
      .ok (if c.feats.format then ((b.slc[pk c k b]?).isNone, cur b (pk c k b)) else (b.isBufferEmpty, b)) := by
  unfold isConsumed
  cases hf : c.feats.format <;> simp [peek_eq hs, bind, Except.bind, pure, Except.pure]

theorem iterNext_eq (hs : c.skip k ≠ .unreachable) (b : Bytes) :
    iterNext c k b = .ok (match b.slc[pk c k b]? with
      | none => (none, cur b (pk c k b))
      | some x => (some x, mv c k (pk c k b + 1)
          (if c.feats.format && !c.iterContiguous k && c.isDigit x then 1 else 0) b)) := by
  unfold iterNext
  simp only [peek_eq hs, bind, Except.bind]
  cases hx : b.slc[pk c k b]? with
  | none => rfl
  | some x =>
    simp only [pure, Except.pure]
    split
    · rw [show ({ cur b (pk c k b) with index := (cur b (pk c k b)).index + 1 } : Bytes) = mv c k (pk c k b + 1) 0 b by simp [cur],
        incCount_mv]
    · simp [cur]

theorem skipZerosLoop_eq (hs : c.skip k ≠ .unreachable) :
    ∀ (fuel : Nat) (b : Bytes),
      StepOK c k 48 →
      skipZerosLoop c k fuel b =
        if (scan c k b.slc (· == 48) fuel (b.iterCount c k == 0) b.index).1.length < fuel then
          .ok (mv c k (scan c k b.slc (· == 48) fuel (b.iterCount c k == 0) b.index).2
                (scan c k b.slc (· == 48) fuel (b.iterCount c k == 0) b.index).1.length b)
        else .error (.fault "fuel")
  | 0, b => by simp [skipZerosLoop]
  | fuel + 1, b => by
    intro hg
    have hge : b.index ≤ pk c k b := peekIdx_ge c k b.slc _ b.index
    unfold skipZerosLoop
    rw [readIfValueCased_eq hs 48 b hg]
    simp only [bind, Except.bind, scan]
    unfold pk at hge ⊢
    by_cases hx : b.slc[peekIdx c k b.slc (b.iterCount c k == 0) b.index]? = some 48
    · simp only [hx, if_true, beq_self_eq_true, ← mv_zero c k, incCount_mv]
      have ih := skipZerosLoop_eq hs fuel (mv c k (peekIdx c k b.slc (b.iterCount c k == 0) b.index + 1) (0 + 1) b)
        hg
      simp only [mv_slc, mv_index, scan_first _ _ _ (first_mv c k b.slc _ _ _ b)] at ih
      rw [ih]
      by_cases hlt : (scan c k b.slc (· == 48) fuel false
          (peekIdx c k b.slc (b.iterCount c k == 0) b.index + 1)).1.length < fuel
      · rw [if_pos hlt, if_pos (by simp only [List.length_cons]; omega)]
        simp [mv_mv, Nat.add_comm]
      · rw [if_neg hlt, if_neg (by simp only [List.length_cons]; omega)]
    · rw [if_neg hx]
      obtain hy | ⟨y, hy⟩ : b.slc[peekIdx c k b.slc (b.iterCount c k == 0) b.index]? = none ∨
          ∃ y, b.slc[peekIdx c k b.slc (b.iterCount c k == 0) b.index]? = some y := by
        cases b.slc[peekIdx c k b.slc (b.iterCount c k == 0) b.index]? <;> simp
      · simp [hy, pure, Except.pure]
      · have : (y == 48) = false := by
          cases h : y == 48
          · rfl
          · rw [hy, beq_iff_eq.mp h] at hx; exact absurd rfl hx
        simp [hy, this, pure, Except.pure]

theorem sliceTo_ok (start : Bytes) (n : Nat) (tag : String) (h : n ≤ start.slc.length - start.index) :
    sliceTo c start n tag = .ok ((start.slc.drop start.index).take n) := by
  simp [sliceTo, Bytes.asSlice, h, pure, Except.pure]

theorem incCountFold_mv (j n : Nat) (b : Bytes) : ∀ l : List Nat,
    l.foldl (fun b _ => b.incCount c k) (mv c k j n b) = mv c k j (n + l.length) b
  | [] => rfl
  | _ :: xs => by rw [List.foldl_cons, incCount_mv, incCountFold_mv j (n + 1) b xs, List.length_cons]; congr 1; omega

/-- `try_parse_8digits` on a contiguous iterator (a debug build asserts `radix <= 10`) -/
theorem tryParse8_eq (hct : c.iterContiguous k = true) (hr : c.debug = true → c.mantissaRadix ≤ 10) (b : Bytes) :
    tryParse8 c k b =
      .ok (if b.index + 8 ≤ b.slc.length ∧ is8Digits c.mantissaRadix (at8 b.slc b.index) = true then
            (some (val8Digits c.mantissaRadix (at8 b.slc b.index)), mv c k (b.index + 8) 8 b)
           else (none, b)) := by
  have h1 : (c.debug && decide (c.mantissaRadix > 10)) = false := by
    cases hd : c.debug
    · rfl
    · have := hr hd; simp; omega
  unfold tryParse8
  simp only [h1, hct, Bool.not_true, Bool.and_false, Bool.false_eq_true, if_false, peekBytes, Bool.true_and]
  by_cases h8 : b.index + 8 ≤ b.slc.length
  · have e : (decide (b.slc.length - b.index ≥ 8) && decide (b.index ≤ b.slc.length)) = true := by simp; omega
    simp only [e, if_true, h8, true_and]
    by_cases hd : is8Digits c.mantissaRadix (at8 b.slc b.index) = true
    · have hs : b.stepBy c true 8 = .ok (mv c k (b.index + 8) 0 b) := by
        have a1 : ¬ b.index > b.slc.length := by omega
        have a2 : ¬ b.slc.length - b.index < 8 := by omega
        simp [Bytes.stepBy, a1, a2, cur]
      simp only [at8] at hd ⊢
      simp only [hd, if_true, hs, bind, Except.bind, incCountFold_mv, pure, Except.pure]
      simp
    · simp only [at8] at hd ⊢
      simp [hd, pure, Except.pure]
  · have e : (decide (b.slc.length - b.index ≥ 8) && decide (b.index ≤ b.slc.length)) = false := by
      simp; omega
    simp [e, h8, pure, Except.pure]

theorem tryParse8_skip (hd : c.debug = false) (hct : c.iterContiguous k = false) (b : Bytes) :
    tryParse8 c k b = .ok (none, b) := by
  simp [tryParse8, hd, peekBytes, hct, pure, Except.pure]

theorem parse8Loop_eq (hct : c.iterContiguous k = true) (hr : c.debug = true → c.mantissaRadix ≤ 10) :
    ∀ (fuel : Nat) (b : Bytes) (m : Nat),
      parse8Loop c k fuel b m =
        if blocks8 c.mantissaRadix b.slc fuel b.index < fuel then
          .ok (acc8 c.mantissaRadix b.slc (blocks8 c.mantissaRadix b.slc fuel b.index) b.index m,
            mv c k (b.index + 8 * blocks8 c.mantissaRadix b.slc fuel b.index)
              (8 * blocks8 c.mantissaRadix b.slc fuel b.index) b)
        else .error (.fault "fuel")
  | 0, b, m => by simp [parse8Loop, blocks8]
  | fuel + 1, b, m => by
    unfold parse8Loop
    simp only [tryParse8_eq hct hr, bind, Except.bind, blocks8]
    by_cases hc : b.index + 8 ≤ b.slc.length ∧ is8Digits c.mantissaRadix (at8 b.slc b.index) = true
    · simp only [if_pos hc, parse8Loop_eq hct hr fuel, mv_slc, mv_index]
      by_cases hlt : blocks8 c.mantissaRadix b.slc fuel (b.index + 8) < fuel
      · rw [if_pos hlt, if_pos (by omega)]
        simp only [acc8, mv_mv]
        congr 3 <;> omega
      · rw [if_neg hlt, if_neg (by omega)]
    · simp [if_neg hc, acc8, pure, Except.pure, cur_self]

/-- 8-digit part of `parse_u64_digits`: at most `(step - 1) / 8` blocks, as `step` must stay above 8 -/
theorem u64Loop8_eq (hct : c.iterContiguous k = true) (hr : c.debug = true → c.mantissaRadix ≤ 10) :
    ∀ (fuel : Nat) (b : Bytes) (m step : Nat),
      u64Loop8 c k fuel b m step =
        if blocks8 c.mantissaRadix b.slc ((step - 1) / 8) b.index < fuel then
          .ok (mv c k (b.index + 8 * blocks8 c.mantissaRadix b.slc ((step - 1) / 8) b.index)
              (8 * blocks8 c.mantissaRadix b.slc ((step - 1) / 8) b.index) b,
            acc8 c.mantissaRadix b.slc (blocks8 c.mantissaRadix b.slc ((step - 1) / 8) b.index) b.index m,
            step - 8 * blocks8 c.mantissaRadix b.slc ((step - 1) / 8) b.index)
        else .error (.fault "fuel")
  | 0, b, m, step => by simp [u64Loop8]
  | fuel + 1, b, m, step => by
    unfold u64Loop8
    by_cases hs : step > 8
    · obtain ⟨l, hl⟩ : ∃ l, (step - 1) / 8 = l + 1 ∧ (step - 8 - 1) / 8 = l := ⟨(step - 8 - 1) / 8, by omega, rfl⟩
      simp only [if_pos hs, tryParse8_eq hct hr, bind, Except.bind, hl.1, blocks8]
      by_cases hc : b.index + 8 ≤ b.slc.length ∧ is8Digits c.mantissaRadix (at8 b.slc b.index) = true
      · simp only [if_pos hc, u64Loop8_eq hct hr fuel, mv_slc, mv_index, hl.2]
        by_cases hlt : blocks8 c.mantissaRadix b.slc l (b.index + 8) < fuel
        · rw [if_pos hlt, if_pos (by omega)]
          simp only [acc8, mv_mv]
          congr 3 <;> omega
        · rw [if_neg hlt, if_neg (by omega)]
      · simp [if_neg hc, acc8, pure, Except.pure, cur_self]
    · have h0 : (step - 1) / 8 = 0 := by omega
      simp [if_neg hs, h0, blocks8, acc8, pure, Except.pure, cur_self]

/-- the number of 8-digit blocks `parse_8digits` takes: none with `compact` or where `can_try_parse_multidigit!` is false -/
def nblocks (c : Cfg) (k : Comp) (s : List Nat) (i : Nat) : Nat :=
  if !c.feats.compact && canMultidigit c k then blocks8 c.mantissaRadix s (s.length + 1) i else 0

/-- builds without `power-of-two` only have radix 10 (`hrad`), so `can_try_parse_multidigit!` keeps what it is meant to -/
theorem canMultidigit_radix (hrad : c.feats.powerOfTwo = false → c.mantissaRadix ≤ 10) (hm : canMultidigit c k = true) :
    c.mantissaRadix ≤ 10 := by
  simp only [canMultidigit, Bool.and_eq_true, Bool.or_eq_true, Bool.not_eq_true', decide_eq_true_eq] at hm
  exact hm.2.elim hrad id

/-- `parse_8digits` (`hr`: what `can_try_parse_multidigit!` is meant to guarantee; a debug build asserts it) -/
theorem parse8Digits_eq (hr : canMultidigit c k = true → c.debug = true → c.mantissaRadix ≤ 10) (b : Bytes) (m : Nat) :
    parse8Digits c k b m =
      .ok (acc8 c.mantissaRadix b.slc (nblocks c k b.slc b.index) b.index m,
        mv c k (b.index + 8 * nblocks c k b.slc b.index) (8 * nblocks c k b.slc b.index) b) := by
  unfold parse8Digits nblocks
  by_cases hcm : c.feats.compact = false ∧ canMultidigit c k = true
  · have hct : c.iterContiguous k = true := by
      have := hcm.2; simp only [canMultidigit, Bool.and_eq_true] at this; exact this.1
    have h16 : (c.debug && decide (c.mantissaRadix ≥ 16)) = false := by
      cases hd : c.debug
      · rfl
      · have := hr hcm.2 hd; simp; omega
    simp only [hcm.1, hcm.2, h16, Bool.false_eq_true, if_false, if_true, Bool.not_false, Bool.and_self]
    rw [parse8Loop_eq hct (hr hcm.2), if_pos (blocks8_lt ..)]
  · have e : (!c.feats.compact && canMultidigit c k) = false := by
      cases h1 : c.feats.compact <;> cases h2 : canMultidigit c k <;> simp_all
    cases h1 : c.feats.compact <;> cases h2 : canMultidigit c k <;> simp_all [acc8, pure, Except.pure, cur_self]

/-- The 8-digit fast path is invisible: `parse_digits` after `parse_8digits` ends in the state `parse_digits` alone ends in. -/
theorem digitsPass_end (hs : c.skip k ≠ .unreachable) (hg : ∀ x, isDig c.mantissaRadix x → StepOK c k x)
    (hr : canMultidigit c k = true → c.mantissaRadix ≤ 10) (b b1 b2 : Bytes) (m0 m : Nat) (ds : List Nat)
    (h8 : parse8Digits c k b m0 = .ok (m, b1)) (hd : parseDigits c k c.mantissaRadix b1 = .ok (ds, b2)) :
    b2 = mv c k (scan c k b.slc (isDig c.mantissaRadix) (b.slc.length + 1) (b.iterCount c k == 0) b.index).2
      (scan c k b.slc (isDig c.mantissaRadix) (b.slc.length + 1) (b.iterCount c k == 0) b.index).1.length b := by
  rw [parse8Digits_eq fun h _ => hr h] at h8
  simp only [Except.ok.injEq, Prod.mk.injEq] at h8
  obtain ⟨-, rfl⟩ := h8
  by_cases hj : nblocks c k b.slc b.index = 0
  · rw [hj, Nat.mul_zero, Nat.add_zero, mv_zero, cur_self, parseDigits,
      parseDigitsLoop_ok hs _ _ b (by omega) hg] at hd
    simp only [Except.ok.injEq, Prod.mk.injEq] at hd
    exact hd.2.symm
  · have hcm : canMultidigit c k = true := by
      unfold nblocks at hj; cases h : canMultidigit c k
      · simp [h] at hj
      · rfl
    have hk : c.skip k = .noskip := (skip_noskip_iff c k).mpr (by
      simp only [canMultidigit, Bool.and_eq_true] at hcm; exact hcm.1)
    have hb : nblocks c k b.slc b.index = blocks8 c.mantissaRadix b.slc (b.slc.length + 1) b.index := by
      unfold nblocks at hj ⊢; split
      · rfl
      · next h => simp [h] at hj
    rw [parseDigits, parseDigitsLoop_ok hs _ _ _ (by simp only [mv_slc, mv_index]; omega) hg] at hd
    simp only [Except.ok.injEq, Prod.mk.injEq, mv_slc, mv_index, mv_mv, hb] at hd
    obtain ⟨e1, e2⟩ := scan_blocks8 hk (hr hcm) b.slc (b.slc.length + 1) (b.slc.length + 1) b.index
      (b.iterCount c k == 0)
      ((mv c k (b.index + 8 * blocks8 c.mantissaRadix b.slc (b.slc.length + 1) b.index)
        (8 * blocks8 c.mantissaRadix b.slc (b.slc.length + 1) b.index) b).iterCount c k == 0) (by omega)
    rw [← hd.2, e1, e2]

/-- no step of `*mantissa * radix + digit` over the bytes `l`, started at `m`, leaves `u64` (the `debug_assert`-ed overflow
check of `parse_u64_digits`) -/
def NoOv (r : Nat) : Nat → List Nat → Prop
  | _, [] => True
  | m, x :: xs => m * r + charToValidDigit x r < pow2_64 ∧ NoOv r (m * r + charToValidDigit x r) xs

/-- the running value only grows, so it is enough that the last one fits -/
theorem NoOv.of_last {r : Nat} (hr : 1 ≤ r) : ∀ (l : List Nat) (m : Nat),
    l.foldl (fun m x => m * r + charToValidDigit x r) m < pow2_64 → NoOv r m l
  | [], _, _ => trivial
  | x :: xs, m, h => by
    have mono : ∀ (l : List Nat) (a : Nat), a ≤ l.foldl (fun m x => m * r + charToValidDigit x r) a := by
      intro l
      induction l with
      | nil => intro a; exact Nat.le_refl _
      | cons y ys ih =>
        intro a
        exact Nat.le_trans (Nat.le_trans (Nat.le_mul_of_pos_right a hr) (Nat.le_add_right _ _)) (ih _)
    exact ⟨Nat.lt_of_le_of_lt (mono xs _) h, NoOv.of_last hr xs _ h⟩

theorem NoOv.foldl_eq {r : Nat} : ∀ (l : List Nat) (m : Nat), NoOv r m l →
    l.foldl (fun m x => (m * r + charToValidDigit x r) % pow2_64) m = l.foldl (fun m x => m * r + charToValidDigit x r) m
  | [], _, _ => rfl
  | x :: xs, m, h => by
    simp only [List.foldl_cons, Nat.mod_eq_of_lt h.1]
    exact NoOv.foldl_eq xs _ h.2

theorem u64Loop1_eq (hs : c.skip k ≠ .unreachable) :
    ∀ (fuel : Nat) (b : Bytes) (m step : Nat),
      (∀ x ∈ (scan c k b.slc (fun _ => true) step (b.iterCount c k == 0) b.index).1, StepOK c k x) →
      (c.debug = true → NoOv c.mantissaRadix m (scan c k b.slc (fun _ => true) step (b.iterCount c k == 0) b.index).1) →
      u64Loop1 c k fuel b m step =
        if (scan c k b.slc (fun _ => true) step (b.iterCount c k == 0) b.index).1.length < fuel then
          .ok (mv c k (scan c k b.slc (fun _ => true) step (b.iterCount c k == 0) b.index).2
                (scan c k b.slc (fun _ => true) step (b.iterCount c k == 0) b.index).1.length b,
               (scan c k b.slc (fun _ => true) step (b.iterCount c k == 0) b.index).1.foldl
                 (fun m x => (m * c.mantissaRadix + charToValidDigit x c.mantissaRadix) % pow2_64) m,
               step - (scan c k b.slc (fun _ => true) step (b.iterCount c k == 0) b.index).1.length)
        else .error (.fault "fuel")
  | 0, b, m, step => by simp [u64Loop1]
  | fuel + 1, b, m, step => by
    unfold u64Loop1
    simp only [peek_eq hs, bind, Except.bind]
    unfold pk
    obtain hx | ⟨x, hx⟩ : b.slc[peekIdx c k b.slc (b.iterCount c k == 0) b.index]? = none ∨
        ∃ x, b.slc[peekIdx c k b.slc (b.iterCount c k == 0) b.index]? = some x := by
      cases b.slc[peekIdx c k b.slc (b.iterCount c k == 0) b.index]? <;> simp
    · intro _ _; cases step <;> simp [scan, hx, pure, Except.pure]
    · cases step with
      | zero => intro _ _; simp [scan, hx, pure, Except.pure]
      | succ st =>
        simp only [hx, scan, if_true, Nat.zero_lt_succ, Nat.add_sub_cancel]
        intro hg hov
        -- the debug build's overflow check passes, and reducing mod 2^64 then changes nothing
        have hchk : (c.debug && decide (m * c.mantissaRadix + charToValidDigit x c.mantissaRadix ≥ pow2_64)) = false := by
          cases hd : c.debug
          · rfl
          · have := (hov hd).1; simp; omega
        simp only [hchk, Bool.false_eq_true, if_false]
        rw [iterStep_cur (Guard.of_get hx (hg x (List.mem_cons_self ..)))]
        simp only [← mv_zero c k, incCount_mv]
        have ih := u64Loop1_eq hs fuel (mv c k (peekIdx c k b.slc (b.iterCount c k == 0) b.index + 1) (0 + 1) b)
          ((m * c.mantissaRadix + charToValidDigit x c.mantissaRadix) % pow2_64) st
        simp only [mv_slc, mv_index, scan_first _ _ _ (first_mv c k b.slc _ _ _ b)] at ih
        rw [ih (fun y hy => hg y (List.mem_cons_of_mem _ hy)) (fun hd => by
          rw [Nat.mod_eq_of_lt (hov hd).1]; exact (hov hd).2)]
        by_cases hlt : (scan c k b.slc (fun _ => true) st false
            (peekIdx c k b.slc (b.iterCount c k == 0) b.index + 1)).1.length < fuel
        · rw [if_pos hlt, if_pos (by simp only [List.length_cons]; omega)]
          simp [mv_mv, Nat.add_comm]
          omega
        · rw [if_neg hlt, if_neg (by simp only [List.length_cons]; omega)]

/-- what a loop over `peek` with the test `p`, started in `b` with the model's fuel, takes, and where its cursor rests -/
abbrev run (c : Cfg) (k : Comp) (p : Nat → Bool) (b : Bytes) : List Nat × Nat :=
  scan c k b.slc p (b.slc.length + 1) (b.iterCount c k == 0) b.index

theorem run_fuel (p : Nat → Bool) (b : Bytes) : (run c k p b).1.length < b.slc.length + 1 :=
  scan_fuel _ _ _ (by omega)

/-- `parse_digits` (`hg`: a release build owes nothing, `StepOK.release`; a debug build that the separator is no digit) -/
theorem parseDigits_eq (hs : c.skip k ≠ .unreachable) (r : Nat) (b : Bytes) (hg : ∀ x, isDig r x → StepOK c k x) :
    parseDigits c k r b = .ok ((run c k (isDig r) b).1.filterMap (charToDigit · r),
      mv c k (run c k (isDig r) b).2 (run c k (isDig r) b).1.length b) :=
  parseDigitsLoop_ok hs r _ b (by omega) hg

/-- no byte is stepped over, so nothing is owed for a debug build -/
theorem parseDigits_stop (hs : c.skip k ≠ .unreachable) (r : Nat) (b : Bytes)
    (h : ∀ x, b.slc[pk c k b]? = some x → charToDigit x r = none) :
    parseDigits c k r b = .ok ([], cur b (pk c k b)) := by
  unfold parseDigits
  rw [parseDigitsLoop]
  simp only [peek_eq hs, bind, Except.bind, pure, Except.pure]
  cases hx : b.slc[pk c k b]? with
  | none => rfl
  | some x => simp only [h x hx]

/-- `skip_zeros`: the zeros counted are the difference of the iterator's `current_count()` -/
theorem skipZeros_eq (hs : c.skip k ≠ .unreachable) (b : Bytes) (hg : StepOK c k 48) :
    skipZeros c k b =
      .ok ((mv c k (run c k (· == 48) b).2 (run c k (· == 48) b).1.length b).iterCount c k - b.iterCount c k,
        mv c k (run c k (· == 48) b).2 (run c k (· == 48) b).1.length b) := by
  unfold skipZeros
  rw [skipZerosLoop_eq hs _ b hg, if_pos (run_fuel _ b)]
  rfl

/-- number of 8-digit blocks `parse_u64_digits` takes: at most `(step - 1) / 8`, none with `compact` or on a skipping iterator -/
def nblocksU (c : Cfg) (k : Comp) (s : List Nat) (i step : Nat) : Nat :=
  if !c.feats.compact && canMultidigit c k then blocks8 c.mantissaRadix s ((step - 1) / 8) i else 0

/-- `parse_u64_digits` is its one-digit loop behind the 8-digit blocks (`hr`: what a debug build asserts of the radix) -/
theorem parseU64Digits_eq (hr : canMultidigit c k = true → c.debug = true → c.mantissaRadix ≤ 10) (b : Bytes) (m step : Nat) :
    parseU64Digits c k b m step =
      u64Loop1 c k (b.slc.length + 1)
        (mv c k (b.index + 8 * nblocksU c k b.slc b.index step) (8 * nblocksU c k b.slc b.index step) b)
        (acc8 c.mantissaRadix b.slc (nblocksU c k b.slc b.index step) b.index m) (step - 8 * nblocksU c k b.slc b.index step) := by
  unfold parseU64Digits nblocksU
  split
  · next hcond =>
    have hcm : canMultidigit c k = true := by simp only [Bool.and_eq_true] at hcond; exact hcond.2
    have hct : c.iterContiguous k = true := by simp only [canMultidigit, Bool.and_eq_true] at hcm; exact hcm.1
    have h16 : (c.debug && decide (c.mantissaRadix ≥ 16)) = false := by
      cases hd : c.debug
      · rfl
      · have := hr hcm hd; simp; omega
    have hl := blocks8_le_lim c.mantissaRadix b.slc ((step - 1) / 8) b.index
    have hlt := blocks8_lt c.mantissaRadix b.slc ((step - 1) / 8) b.index
    simp only [h16, Bool.false_eq_true, if_false, u64Loop8_eq hct (hr hcm), if_pos hlt, bind, Except.bind, mv_slc]
  · simp [acc8, cur_self, pure, Except.pure, bind, Except.bind]

end LexVerif.Proof.IterSpec
