import LexVerif.Proof.WriteFloatRun
import LexVerif.Proof.RoundTripFlags
/-!
# Proof.RoundTripModel — what the buffer-faithful `write_float` model returns, as text (C08)

Whenever `Model.WriteFloat.writeFloat` completes (`.done w`), the returned slice `w.bytes.take w.len` is the sign
(`floatSign`: `-` for a negative non-NaN value, `+` when the format requires a mantissa sign) followed by `writeDecimal`
of the digits (`writeFloat_done_finite`; decimal back-end) or by the configured NaN / infinity string
(`writeFloat_done_special`); the format passed `is_valid` (`admitted_of_done`).
-/
namespace LexVerif.Proof.RoundTrip
open LexVerif.Spec LexVerif.Model LexVerif.Model.WriteFloat LexVerif.Proof.WriteFloatBuf LexVerif.Proof.WriteFloatRun

theorem admitted_of_done {feats : Features} {f : Fmt} {fmt : Format} {o : WOpts} {debug : Bool} {bits : Nat}
    {dg : List Nat × Int} {buf : List Nat} {w : Written} (h : writeFloat feats f fmt o debug bits dg buf = .done w) :
    ¬ Refused (bufferSizeConst feats f fmt o) feats f fmt bits buf ∧ FormatError.isValid feats fmt.raw = true := by
  have hr : ¬ Refused (bufferSizeConst feats f fmt o) feats f fmt bits buf := fun hr => by
    have := writeFloatB_refused hr o debug dg
    rw [show writeFloatB _ feats f fmt o debug bits dg buf = .done w from h] at this
    cases this
  exact ⟨hr, Decidable.not_not.mp fun hv => hr (.inr (.inl hv))⟩

theorem writeFloat_done_finite (feats : Features) (f : Fmt) (fmt : Format) (o : WOpts) (debug : Bool) (bits : Nat)
    (ds : List Nat) (sci : Int) (buf : List Nat) (w : Written) (hds : 1 ≤ ds.length) (hmx : o.maxDigits ≠ some 0)
    (hfin : f.isSpecial bits = false) (h : writeFloat feats f fmt o debug bits (ds, sci) buf = .done w) :
    w.bytes.take w.len = floatSign feats f fmt bits ++ writeDecimal fmt feats ds sci o := by
  have hr := (admitted_of_done h).1
  have h : writeFloatB (bufferSizeConst feats f fmt o) feats f fmt o false bits (ds, sci) buf = .done w := done_of_debug h
  have hsp : ¬ f.isSpecial bits = true := by rw [hfin]; exact Bool.false_ne_true
  by_cases hbe : backend feats fmt = .decimal
  · by_cases h32 : feats.compact = true ∧ 32 < ds.length
    · -- more digits than the temporary of `compact.rs` holds: the call cannot have returned
      rw [writeFloatB_admitted hr, if_neg hsp, if_pos hbe] at h
      unfold onTail at h
      rw [decimalB_long fmt feats f false ds sci o _ h32.1 h32.2] at h
      cases h
    · exact ((writeFloatB_runs_decimal hr o ds sci hfin hbe hds
        (fun hc => Nat.le_of_not_lt fun hlt => h32 ⟨hc, hlt⟩) hmx).of_done h).2.1
  · rw [writeFloatB_other hr o false (ds, sci) hfin hbe] at h; cases h

theorem writeFloat_done_special (feats : Features) (f : Fmt) (fmt : Format) (o : WOpts) (debug : Bool) (bits : Nat)
    (dg : List Nat × Int) (buf : List Nat) (w : Written) (hsp : f.isSpecial bits = true)
    (h : writeFloat feats f fmt o debug bits dg buf = .done w) :
    ∃ s, (if f.isNaN bits = true then o.nan else o.inf) = some s ∧
      w.bytes.take w.len = floatSign feats f fmt bits ++ s := by
  have hr := (admitted_of_done h).1
  cases hs : (if f.isNaN bits = true then o.nan else o.inf) with
  | none =>
    rw [show writeFloat feats f fmt o debug bits dg buf = _ from writeFloatB_disabled _ feats f fmt o debug bits dg buf hsp hs]
      at h
    cases h
  | some s => exact ⟨s, rfl, ((writeFloatB_runs_special hr o debug dg hsp hs).of_done h).2.1⟩

theorem floatSign_eq (feats : Features) (f : Fmt) (fmt : Format) (bits : Nat) :
    floatSign feats f fmt bits = signBytes (mantSign feats fmt (f.isNeg bits && !f.isNaN bits)) := by
  unfold floatSign mantSign mantPlus signBytes
  cases f.isNeg bits <;> cases f.isNaN bits <;> cases feats.format <;> cases fmt.requiredMantissaSign <;> simp

end LexVerif.Proof.RoundTrip
