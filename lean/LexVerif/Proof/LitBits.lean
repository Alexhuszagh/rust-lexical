import LexVerif.Spec.Decimal
import LexVerif.Proof.RoundNEDecode
/-!
# Proof.LitBits — sign / zero / NaN facts about `Spec.litBits` (Mathlib-free)
-/
namespace LexVerif.Proof.RoundNE
open LexVerif.Spec

theorem litBits_of_mantissa_zero (f : Fmt) (r b : Nat) (l : FloatLit)
    (h : ofDigits r (l.intDigits ++ l.fracDigits) = 0) :
    litBits f r b l = if l.neg then f.signBit else 0 := by
  unfold litBits
  simp only [h, if_true]

theorem signBit_eq {f : Fmt} (hf : WF f) : f.signBit = 2 ^ f.ebits * 2 ^ (f.p - 1) := by
  have := hf.hp
  unfold Fmt.signBit Fmt.totalBits
  rw [← Nat.pow_add]; congr 1; omega

theorem fields_add_signBit {f : Fmt} (hf : WF f) (x : Nat) :
    f.expField (x + f.signBit) = f.expField x ∧ f.manField (x + f.signBit) = f.manField x := by
  rw [signBit_eq hf]
  unfold Fmt.expField Fmt.manField
  constructor
  · rw [Nat.add_mul_div_right _ _ (Nat.two_pow_pos _), Nat.add_mod_right]
  · rw [Nat.add_mul_mod_self_right]

theorem isNaN_add_signBit {f : Fmt} (hf : WF f) (x : Nat) : f.isNaN (x + f.signBit) = f.isNaN x := by
  obtain ⟨h1, h2⟩ := fields_add_signBit hf x
  unfold Fmt.isNaN Fmt.isSpecial
  rw [h1, h2]

theorem isNeg_of_le_inf {f : Fmt} (hf : WF f) {x : Nat} (hx : x ≤ f.infBits) :
    f.isNeg x = false ∧ f.isNeg (x + f.signBit) = true := by
  have hs := infBits_lt_signBit hf
  have h1 : x / f.signBit = 0 := Nat.div_eq_of_lt (by omega)
  have h2 : (x + f.signBit) / f.signBit = 1 := by
    rw [Nat.add_div_right _ (by omega), h1]
  simp [Fmt.isNeg, h1, h2]

theorem isNaN_of_le_inf {f : Fmt} {x : Nat} (hx : x ≤ f.infBits) : f.isNaN x = false := by
  rcases Nat.lt_or_eq_of_le hx with h | h
  · have h1 := expField_lt h
    have : f.expField x ≠ f.maxExpField := by
      unfold Fmt.expField
      have := Nat.mod_le (x / 2 ^ (f.p - 1)) (2 ^ f.ebits)
      omega
    simp [Fmt.isNaN, Fmt.isSpecial, this]
  · subst h
    have : f.manField f.infBits = 0 := by
      unfold Fmt.manField; rw [infBits_eq]; exact Nat.mul_mod_left _ _
    simp [Fmt.isNaN, this]

theorem litBits_form {f : Fmt} (hf : WF f) {r b : Nat} (hr : 0 < r) (hb : 0 < b) (l : FloatLit) :
    ∃ x, x ≤ f.infBits ∧ litBits f r b l = x + (if l.neg then f.signBit else 0) := by
  unfold litBits
  simp only []
  split
  · exact ⟨0, Nat.zero_le _, (Nat.zero_add _).symm⟩
  · split
    · exact ⟨f.infBits, Nat.le_refl _, rfl⟩
    · split
      · exact ⟨0, Nat.zero_le _, (Nat.zero_add _).symm⟩
      · split
        · exact ⟨_, roundNE_le_infBits hf _ (Nat.pow_pos hr), rfl⟩
        · exact ⟨_, roundNE_le_infBits hf _ (Nat.mul_pos (Nat.pow_pos hr) (Nat.pow_pos hb)), rfl⟩

end LexVerif.Proof.RoundNE
