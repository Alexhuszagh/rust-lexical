import LexVerif.Proof.ParseInt
/-!
# Proof.ParseIntSwar — the SWAR kernels `is_{4,8}digits`, `parse_{4,8}digits` are correct for radix 2..10

Everything is over `Nat` by byte decomposition (no bit-blasting):
* `hb n x` : the high bit of each of the `n` low bytes of `x` is clear. `x &&& 0x80…80 = 0 ↔ hb n x`.
* `validity` : for a little-endian word `W` of `n` bytes, adding `k·0x01…01` (`k = 0x46 + 10 - radix`) and
  subtracting `0x30…30` (= adding `0xCF…CF + 1`) leaves all high bits clear iff every byte is in
  `['0', '0' + radix)`. Induction on the byte list; an invalid lowest byte already sets a high bit, valid
  bytes produce no carry / borrow into the next byte.
* `swar_pairs` : after `v - 0x30…30` and `v * r + (v >> 8)` the word is `leWord (pairs r ds)`, lane `i` holding
  `dᵢ·r + dᵢ₊₁ ≤ 99`; `leWord_lane` reads a lane back. What is left of either kernel is arithmetic on two or
  four lanes.
-/
namespace LexVerif.Proof.ParseInt
open LexVerif.Spec LexVerif.Model LexVerif.Model.ParseInt

def rep (k : Nat) : Nat → Nat
  | 0 => 0
  | n + 1 => k + 256 * rep k n

def hb : Nat → Nat → Prop
  | 0, _ => True
  | n + 1, x => x / 128 % 2 = 0 ∧ hb n (x / 256)

theorem byte_and_128 : ∀ y < 256, (y &&& 128 = 0 ↔ y / 128 % 2 = 0) := by decide +kernel

theorem and_rep128 (n : Nat) : ∀ x, x &&& rep 128 n = 0 ↔ hb n x := by
  induction n with
  | zero => intro x; simp [rep, hb]
  | succ n ih =>
    intro x
    have hsplit := Nat.div_add_mod (x &&& rep 128 (n + 1)) (2 ^ 8)
    rw [Nat.and_div_two_pow, Nat.and_mod_two_pow] at hsplit
    have hm : rep 128 (n + 1) % 2 ^ 8 = 128 := by simp only [rep]; omega
    have hd : rep 128 (n + 1) / 2 ^ 8 = rep 128 n := by simp only [rep]; omega
    rw [hm, hd] at hsplit
    have h1 := byte_and_128 (x % 2 ^ 8) (Nat.mod_lt _ (by decide))
    have h2 := ih (x / 2 ^ 8)
    have h3 : x % 2 ^ 8 / 128 % 2 = x / 128 % 2 := by omega
    rw [h3] at h1
    simp only [hb]
    rw [show x / 256 = x / 2 ^ 8 from rfl, ← h1, ← h2]
    constructor
    · intro h; rw [h] at hsplit; constructor <;> omega
    · intro ⟨ha, hb'⟩; rw [ha, hb'] at hsplit; omega

theorem hb_mod (n : Nat) : ∀ x, hb n (x % 256 ^ n) ↔ hb n x := by
  induction n with
  | zero => intro x; simp [hb]
  | succ n ih =>
    intro x
    simp only [hb]
    have h1 : x % 256 ^ (n + 1) / 128 % 2 = x / 128 % 2 := by
      rw [Nat.pow_succ, Nat.mul_comm]
      have : x % (256 * 256 ^ n) % 256 = x % 256 := Nat.mod_mul_right_mod _ _ _
      omega
    have h2 : x % 256 ^ (n + 1) / 256 = x / 256 % 256 ^ n := by
      rw [Nat.pow_succ, Nat.mul_comm]; exact Nat.mod_mul_right_div_self _ _ _
    rw [h1, h2, ih]

theorem validity (k : Nat) (hk : 70 ≤ k ∧ k ≤ 78) : ∀ bs : List Nat, (∀ b ∈ bs, b < 256) →
    ((hb bs.length (leWord bs + rep k bs.length) ∧ hb bs.length (leWord bs + (rep 207 bs.length + 1)))
      ↔ ∀ b ∈ bs, 48 ≤ b ∧ b + k < 128) := by
  intro bs
  induction bs with
  | nil => intro _; simp [hb]
  | cons b0 tl ih =>
    intro hbytes
    have hb0 : b0 < 256 := hbytes b0 (by simp)
    have ih' := ih (fun b hb' => hbytes b (by simp [hb']))
    simp only [List.length_cons, leWord, rep, hb, List.forall_mem_cons]
    by_cases hv : 48 ≤ b0 ∧ b0 + k < 128
    · have e1 : (b0 + 256 * leWord tl + (k + 256 * rep k tl.length)) / 256 = leWord tl + rep k tl.length := by omega
      have e2 : (b0 + 256 * leWord tl + (207 + 256 * rep 207 tl.length + 1)) / 256
          = leWord tl + (rep 207 tl.length + 1) := by omega
      have e3 : (b0 + 256 * leWord tl + (k + 256 * rep k tl.length)) / 128 % 2 = 0 := by omega
      have e4 : (b0 + 256 * leWord tl + (207 + 256 * rep 207 tl.length + 1)) / 128 % 2 = 0 := by omega
      rw [e1, e2, e3, e4, ← ih']
      simp [hv]
    · constructor
      · intro ⟨⟨h1, _⟩, ⟨h2, _⟩⟩; exfalso; omega
      · intro ⟨h, _⟩; exact absurd h hv

/-- the test `((v + add) | (v - sub)) & 0x80…80 == 0` on a word of `n` bytes, `M` the word's modulus -/
theorem isDigits_iff {r : Nat} (h2 : 2 ≤ r) (h10 : r ≤ 10) (bs : List Nat) (hbs : ∀ b ∈ bs, b < 256)
    {M add sub hi : Nat} (hM : M = 256 ^ bs.length) (hadd : add = rep (80 - r) bs.length)
    (hsub : M - sub = rep 207 bs.length + 1) (hhi : hi = rep 128 bs.length) :
    ((leWord bs + add) % M ||| (leWord bs + (M - sub)) % M) &&& hi = 0 ↔ ∀ b ∈ bs, 48 ≤ b ∧ b < 48 + r := by
  rw [hsub, hM, hadd, hhi, Nat.and_or_distrib_right, Nat.or_eq_zero_iff, and_rep128, and_rep128, hb_mod, hb_mod,
    validity (80 - r) (by omega) bs hbs]
  constructor <;> intro h b hb' <;> have := h b hb' <;> omega

theorem add4_eq {r : Nat} (h2 : 2 ≤ r) (h10 : r ≤ 10) :
    ((0x46 + 10 - r) + ((0x46 + 10 - r) <<< 8) % 2 ^ 32 + ((0x46 + 10 - r) <<< 16) % 2 ^ 32
      + ((0x46 + 10 - r) <<< 24) % 2 ^ 32) % 2 ^ 32 = rep (80 - r) 4 := by
  interval_cases r <;> rfl

theorem is4_correct {r : Nat} (h2 : 2 ≤ r) (h10 : r ≤ 10) (bs : List Nat) (hl : bs.length = 4) (hbs : ∀ b ∈ bs, b < 256) :
    is4digits r (leWord bs) = true ↔ ∀ b ∈ bs, 48 ≤ b ∧ b < 48 + r := by
  unfold is4digits
  simp only [beq_iff_eq]
  rw [add4_eq h2 h10]
  exact isDigits_iff h2 h10 bs hbs (by rw [hl]; decide) (by rw [hl]) (by rw [hl]; decide) (by rw [hl]; decide)

theorem add8_eq {r : Nat} (h2 : 2 ≤ r) (h10 : r ≤ 10) :
    rep (80 - r) 4 ||| (rep (80 - r) 4 <<< 32) % 2 ^ 64 = rep (80 - r) 8 := by
  interval_cases r <;> decide

theorem is8_correct {r : Nat} (h2 : 2 ≤ r) (h10 : r ≤ 10) (bs : List Nat) (hl : bs.length = 8) (hbs : ∀ b ∈ bs, b < 256) :
    is8digits r (leWord bs) = true ↔ ∀ b ∈ bs, 48 ≤ b ∧ b < 48 + r := by
  unfold is8digits
  simp only [beq_iff_eq]
  rw [add4_eq h2 h10, add8_eq h2 h10]
  exact isDigits_iff h2 h10 bs hbs (by rw [hl]; decide) (by rw [hl]) (by rw [hl]; decide) (by rw [hl]; decide)

theorem divK (m a q : Nat) (h : a < m) : (a + m * q) / m = q := by
  rw [Nat.add_mul_div_left _ _ (by omega), Nat.div_eq_of_lt h, Nat.zero_add]
theorem modK (m a q : Nat) (h : a < m) : (a + m * q) % m = a := by
  rw [Nat.add_mul_mod_self_left]; exact Nat.mod_eq_of_lt h
theorem and_7f (x : Nat) : x &&& 0x7f = x % 128 := Nat.and_two_pow_sub_one_eq_mod x 7
theorem mul_bnd {d r : Nat} (h : d < r) (h10 : r ≤ 10) : d * r ≤ 90 :=
  Nat.mul_le_mul (show d ≤ 9 by omega) h10

theorem leWord_lt : ∀ ls : List Nat, (∀ b ∈ ls, b < 256) → leWord ls < 256 ^ ls.length
  | [], _ => by simp [leWord]
  | b :: ls, h => by
    have h1 := leWord_lt ls fun x hx => h x (List.mem_cons_of_mem _ hx)
    have h2 := h b List.mem_cons_self
    simp only [leWord, List.length_cons, Nat.pow_succ]
    omega

theorem leWord_lane : ∀ (i : Nat) (ls : List Nat), (∀ b ∈ ls, b < 256) → leWord ls / 256 ^ i % 256 = ls.getD i 0
  | _, [], _ => by simp [leWord]
  | 0, b :: ls, h => by
    simp only [leWord, Nat.pow_zero, Nat.div_one, List.getD_cons_zero]
    exact modK _ _ _ (h b List.mem_cons_self)
  | i + 1, b :: ls, h => by
    rw [leWord, Nat.pow_succ', ← Nat.div_div_eq_div_mul, divK _ _ _ (h b List.mem_cons_self), List.getD_cons_succ]
    exact leWord_lane i ls fun x hx => h x (List.mem_cons_of_mem _ hx)

theorem leWord_add48 : ∀ ds : List Nat, leWord (ds.map (· + 48)) = leWord ds + rep 48 ds.length
  | [] => rfl
  | d :: ds => by
    simp only [List.map_cons, leWord, List.length_cons, rep, leWord_add48 ds]
    omega

theorem rep_lt (k : Nat) (hk : k < 256) : ∀ n, rep k n < 256 ^ n
  | 0 => by simp [rep]
  | n + 1 => by
    have := rep_lt k hk n
    simp only [rep, Nat.pow_succ]
    omega

/-- lanes after `v * r + (v >> 8)`: each digit times the radix plus its right neighbour -/
def pairs (r : Nat) : List Nat → List Nat
  | [] => []
  | [d] => [d * r]
  | d :: e :: ds => (d * r + e) :: pairs r (e :: ds)

theorem leWord_pairs (r : Nat) : ∀ ds : List Nat, (∀ d ∈ ds, d < 256) →
    leWord ds * r + leWord ds / 256 = leWord (pairs r ds)
  | [], _ => by simp [leWord, pairs]
  | [d], h => by
    simp only [leWord, pairs, Nat.mul_zero, Nat.add_zero, Nat.div_eq_of_lt (h d List.mem_cons_self)]
  | d :: e :: ds, h => by
    have hd := h d List.mem_cons_self
    have he := h e (List.mem_cons_of_mem _ List.mem_cons_self)
    have ih := leWord_pairs r (e :: ds) fun x hx => h x (List.mem_cons_of_mem _ hx)
    have hL : leWord (e :: ds) / 256 = leWord ds := divK _ _ _ he
    show (d + 256 * leWord (e :: ds)) * r + (d + 256 * leWord (e :: ds)) / 256
      = d * r + e + 256 * leWord (pairs r (e :: ds))
    rw [← ih, divK _ _ _ hd, hL, Nat.add_mul, Nat.mul_assoc]
    have : leWord (e :: ds) = e + 256 * leWord ds := rfl
    omega

theorem pairs_le {r : Nat} (h10 : r ≤ 10) : ∀ ds : List Nat, (∀ d ∈ ds, d < r) → ∀ b ∈ pairs r ds, b ≤ 99
  | [], _, b, hb => by simp [pairs] at hb
  | [d], h, b, hb => by
    have := mul_bnd (h d List.mem_cons_self) h10
    simp only [pairs, List.mem_singleton] at hb
    omega
  | d :: e :: ds, h, b, hb => by
    have := mul_bnd (h d List.mem_cons_self) h10
    have := h e (List.mem_cons_of_mem _ List.mem_cons_self)
    rw [pairs, List.mem_cons] at hb
    rcases hb with rfl | hb
    · omega
    · exact pairs_le h10 (e :: ds) (fun x hx => h x (List.mem_cons_of_mem _ hx)) b hb

theorem pairs_length (r : Nat) : ∀ ds : List Nat, (pairs r ds).length = ds.length
  | [] => rfl
  | [_] => rfl
  | _ :: e :: ds => by rw [pairs, List.length_cons, pairs_length r (e :: ds)]; rfl

/-- The first two lines of `parse_4digits` / `parse_8digits` on digit bytes, `M` the word's modulus and
`c` the word `0x30…30`: no lane overflows, so lane `i` holds `dᵢ·r + dᵢ₊₁`. -/
theorem swar_pairs {r : Nat} (h10 : r ≤ 10) (ds : List Nat) (hd : ∀ d ∈ ds, d < r) {n M c : Nat}
    (hn : ds.length = n) (hM : M = 256 ^ n) (hc : c = rep 48 n) :
    (((leWord (ds.map (· + 48)) + (M - c)) % M) * r % M + ((leWord (ds.map (· + 48)) + (M - c)) % M) / 2 ^ 8) % M
    = leWord (pairs r ds) := by
  subst hn hM hc
  have hd' : ∀ d ∈ ds, d < 256 := fun d h => by have := hd d h; omega
  have h1 := leWord_lt ds hd'
  have h2 := leWord_lt (pairs r ds) fun b hb => by have := pairs_le h10 ds hd b hb; omega
  have h3 := rep_lt 48 (by decide) ds.length
  rw [pairs_length] at h2
  have e1 : (leWord (ds.map (· + 48)) + (256 ^ ds.length - rep 48 ds.length)) % 256 ^ ds.length = leWord ds := by
    rw [leWord_add48, show leWord ds + rep 48 ds.length + (256 ^ ds.length - rep 48 ds.length)
      = leWord ds + 256 ^ ds.length by omega, Nat.add_mod_right, Nat.mod_eq_of_lt h1]
  have e2 := leWord_pairs r ds hd'
  rw [e1, Nat.mod_eq_of_lt (show leWord ds * r < _ by omega), show (2 : Nat) ^ 8 = 256 from rfl, e2,
    Nat.mod_eq_of_lt h2]

theorem parse4_digits {r : Nat} (h10 : r ≤ 10) (ds : List Nat) (hl : ds.length = 4) (hd : ∀ d ∈ ds, d < r) :
    parse4digits r (leWord (ds.map (· + 48))) = ofDigits r ds := by
  match ds, hl, hd with
  | [d0, d1, d2, d3], _, hd =>
    have hp : _ = leWord [d0 * r + d1, d1 * r + d2, d2 * r + d3, d3 * r] :=
      swar_pairs h10 [d0, d1, d2, d3] hd (n := 4) (M := 2 ^ 32) (c := 0x30303030) rfl (by decide) (by decide)
    have hB : ∀ b ∈ [d0 * r + d1, d1 * r + d2, d2 * r + d3, d3 * r], b ≤ 99 := pairs_le h10 _ hd
    have lane := fun i => leWord_lane i _ fun b hb => Nat.lt_of_le_of_lt (hB b hb) (by decide : 99 < 256)
    have l0 := lane 0
    have l2 := lane 2
    have c0 := hB (d0 * r + d1) (by simp)
    have c2 := hB (d2 * r + d3) (by simp)
    simp only [List.getD_cons_succ, List.getD_cons_zero] at l0 l2
    unfold parse4digits
    simp only [Nat.shiftRight_eq_div_pow, and_7f]
    rw [hp]
    generalize leWord [d0 * r + d1, d1 * r + d2, d2 * r + d3, d3 * r] = x at l0 l2
    rw [show x % 128 = d0 * r + d1 by omega, show x / 2 ^ 16 % 128 = d2 * r + d3 by omega]
    have q1 : (d0 * r + d1) * r ≤ 99 * 10 := Nat.mul_le_mul c0 h10
    have q2 : (d0 * r + d1) * r * r ≤ 99 * 10 * 10 := Nat.mul_le_mul q1 h10
    rw [Nat.mod_eq_of_lt (show (d0 * r + d1) * r < _ by omega),
      Nat.mod_eq_of_lt (show (d0 * r + d1) * r * r < _ by omega), Nat.mod_eq_of_lt (by omega)]
    simp only [ofDigits, List.foldl]
    ring

theorem and_ff (x : Nat) : x &&& 255 = x % 256 := Nat.and_two_pow_sub_one_eq_mod x 8

theorem and_mask8 (x : Nat) : x &&& 0x000000FF000000FF = x % 256 + 2 ^ 32 * (x / 2 ^ 32 % 256) := by
  have h := Nat.div_add_mod (x &&& 0x000000FF000000FF) (2 ^ 32)
  rw [Nat.and_div_two_pow, Nat.and_mod_two_pow] at h
  rw [show (0x000000FF000000FF : Nat) / 2 ^ 32 = 255 by decide,
    show (0x000000FF000000FF : Nat) % 2 ^ 32 = 255 by decide, and_ff, and_ff] at h
  omega

/-- the two multiplications and the final shift of `parse_8digits` -/
theorem parse8_combine (B0 B2 B4 B6 R2 R4 R6 : Nat) (c0 : B0 ≤ 99) (c2 : B2 ≤ 99) (c4 : B4 ≤ 99) (c6 : B6 ≤ 99)
    (q2 : R2 ≤ 100) (q4 : R4 ≤ 10000) (q6 : R6 ≤ 1000000) :
    ((((B0 + 2 ^ 32 * B4) * (R2 + R6 * 2 ^ 32)) % 2 ^ 64 + ((B2 + 2 ^ 32 * B6) * (1 + R4 * 2 ^ 32)) % 2 ^ 64) % 2 ^ 64
      / 2 ^ 32) % 2 ^ 32 = B0 * R6 + B2 * R4 + B4 * R2 + B6 := by
  have p02 : B0 * R2 ≤ 99 * 100 := Nat.mul_le_mul c0 q2
  have p06 : B0 * R6 ≤ 99 * 1000000 := Nat.mul_le_mul c0 q6
  have p42 : B4 * R2 ≤ 99 * 100 := Nat.mul_le_mul c4 q2
  have p24 : B2 * R4 ≤ 99 * 10000 := Nat.mul_le_mul c2 q4
  have x1 : (B0 + 2 ^ 32 * B4) * (R2 + R6 * 2 ^ 32)
      = (B0 * R2 + 2 ^ 32 * (B0 * R6 + B4 * R2)) + 2 ^ 64 * (B4 * R6) := by ring
  have x2 : (B2 + 2 ^ 32 * B6) * (1 + R4 * 2 ^ 32) = (B2 + 2 ^ 32 * (B2 * R4 + B6)) + 2 ^ 64 * (B6 * R4) := by ring
  rw [x1, x2, modK _ _ _ (by omega), modK _ _ _ (by omega)]
  have m : (B0 * R2 + 2 ^ 32 * (B0 * R6 + B4 * R2) + (B2 + 2 ^ 32 * (B2 * R4 + B6))) % 2 ^ 64
      = (B0 * R2 + B2) + 2 ^ 32 * (B0 * R6 + B2 * R4 + B4 * R2 + B6) := by
    rw [Nat.mod_eq_of_lt (by omega)]; omega
  rw [m, divK _ _ _ (by omega), Nat.mod_eq_of_lt (by omega)]

/-- after `swar_pairs` the lanes 0, 2, 4, 6 hold the four digit pairs; the two masked multiplications weigh them with
`r^6, r^4, r^2, 1` in the upper half of the word (`parse8_combine`) -/
theorem parse8_digits {r : Nat} (h10 : r ≤ 10) (ds : List Nat) (hl : ds.length = 8) (hd : ∀ d ∈ ds, d < r) :
    parse8digits r (leWord (ds.map (· + 48))) = ofDigits r ds := by
  match ds, hl, hd with
  | [d0, d1, d2, d3, d4, d5, d6, d7], _, hd =>
    have hp : _ = leWord [d0 * r + d1, d1 * r + d2, d2 * r + d3, d3 * r + d4, d4 * r + d5, d5 * r + d6,
        d6 * r + d7, d7 * r] :=
      swar_pairs h10 [d0, d1, d2, d3, d4, d5, d6, d7] hd (n := 8) (M := 2 ^ 64) (c := 0x3030303030303030) rfl
        (by decide) (by decide)
    have hB : ∀ b ∈ [d0 * r + d1, d1 * r + d2, d2 * r + d3, d3 * r + d4, d4 * r + d5, d5 * r + d6,
        d6 * r + d7, d7 * r], b ≤ 99 := pairs_le h10 _ hd
    have lane := fun i => leWord_lane i _ fun b hb => Nat.lt_of_le_of_lt (hB b hb) (by decide : 99 < 256)
    have l0 := lane 0
    have l2 := lane 2
    have l4 := lane 4
    have l6 := lane 6
    simp only [List.getD_cons_succ, List.getD_cons_zero] at l0 l2 l4 l6
    have q2 : r * r ≤ 100 := Nat.mul_le_mul h10 h10
    have q4 : r * r * (r * r) ≤ 10000 := Nat.mul_le_mul q2 q2
    have q6 : r * r * (r * r * (r * r)) ≤ 1000000 := Nat.mul_le_mul q2 q4
    unfold parse8digits
    simp only [Nat.shiftRight_eq_div_pow, Nat.shiftLeft_eq]
    rw [hp, Nat.mod_eq_of_lt (show r * r < 2 ^ 64 by omega),
      Nat.mod_eq_of_lt (show r * r * (r * r) < 2 ^ 64 by omega),
      Nat.mod_eq_of_lt (show r * r * (r * r * (r * r)) < 2 ^ 64 by omega),
      Nat.mod_eq_of_lt (show r * r * (r * r * (r * r)) * 2 ^ 32 < 2 ^ 64 by omega),
      Nat.mod_eq_of_lt (show r * r * (r * r) * 2 ^ 32 < 2 ^ 64 by omega),
      Nat.mod_eq_of_lt (show r * r + r * r * (r * r * (r * r)) * 2 ^ 32 < 2 ^ 64 by omega),
      Nat.mod_eq_of_lt (show 1 + r * r * (r * r) * 2 ^ 32 < 2 ^ 64 by omega), and_mask8, and_mask8]
    generalize leWord [d0 * r + d1, d1 * r + d2, d2 * r + d3, d3 * r + d4, d4 * r + d5, d5 * r + d6,
        d6 * r + d7, d7 * r] = x at l0 l2 l4 l6
    rw [show x % 256 = d0 * r + d1 by omega, show x / 2 ^ 32 % 256 = d4 * r + d5 by omega,
      show x / 2 ^ 16 % 256 = d2 * r + d3 by omega, show x / 2 ^ 16 / 2 ^ 32 % 256 = d6 * r + d7 by omega,
      parse8_combine _ _ _ _ _ _ _ (hB _ (by simp)) (hB _ (by simp)) (hB _ (by simp)) (hB _ (by simp)) q2 q4 q6]
    simp only [ofDigits, List.foldl]
    ring

theorem map_sub48 {r : Nat} (bs : List Nat) (hv : ∀ b ∈ bs, 48 ≤ b ∧ b < 48 + r) :
    bs = (bs.map (· - 48)).map (· + 48) ∧ ∀ d ∈ bs.map (· - 48), d < r := by
  constructor
  · rw [List.map_map]
    refine ((List.map_congr_left fun b hb => ?_).trans (List.map_id bs)).symm
    have := hv b hb
    show b - 48 + 48 = b
    omega
  · intro d hd
    obtain ⟨b, hb, rfl⟩ := List.mem_map.1 hd
    have := hv b hb
    omega

theorem swarCorrect {r : Nat} (h2 : 2 ≤ r) (h10 : r ≤ 10) : SwarCorrect r where
  is8 := is8_correct h2 h10
  is4 := is4_correct h2 h10
  parse8 := fun bs hl hv => by
    obtain ⟨e, hd⟩ := map_sub48 bs hv
    rw [e, parse8_digits h10 _ (by rw [List.length_map, hl]) hd, ← e]
  parse4 := fun bs hl hv => by
    obtain ⟨e, hd⟩ := map_sub48 bs hv
    rw [e, parse4_digits h10 _ (by rw [List.length_map, hl]) hd, ← e]

end LexVerif.Proof.ParseInt
