import LexVerif.Model.ParseNumber
import LexVerif.Proof.Validity
import LexVerif.Proof.RoundTripSplit
/-!
# Proof.RoundTripSpecial — a written special string is read back as the same special value (C08)

`grammar_special`: after the sign the writer emits, a configured NaN / infinity string whose first byte cannot start a
number of the format (`NotNumberStart`) is derived by the documented grammar as that special value.
`optionsError_nan` / `optionsError_inf`: valid parse options start the NaN string with `N`/`n` and the infinity string
with `I`/`i`, so an infinity string is never mistaken for the NaN string.
-/
namespace LexVerif.Proof.RoundTrip
open LexVerif.Spec LexVerif.Model

theorem optionsError_nan (o : POpts) (h : optionsError o = none) (t : List Nat) (ht : o.nan = some t) :
    t.head? = some 78 ∨ t.head? = some 110 :=
  (((Validity.optionsError_none_iff o).mp h).nan ht).head

theorem optionsError_inf (o : POpts) (h : optionsError o = none) (t : List Nat) (ht : o.inf = some t) :
    t.head? = some 73 ∨ t.head? = some 105 :=
  (((Validity.optionsError_none_iff o).mp h).inf ht).head

theorem eqSpecial_self (cased : Bool) : ∀ s : List Nat, eqSpecial cased s s = true
  | [] => rfl
  | a :: as => by simp [eqSpecial, matchByte_self, eqSpecial_self cased as]

theorem eqSpecial_head_ne (cased : Bool) (a b : Nat) (as bs : List Nat) (h : lower a ≠ lower b) :
    eqSpecial cased (a :: as) (b :: bs) = false := by
  have hab : a ≠ b := fun e => h (by rw [e])
  unfold eqSpecial matchByte eqUncased
  cases cased <;> simp [h, hab]

/-- the byte cannot begin a number of the format: not `0` (base prefix), not a mantissa digit, not the decimal point,
not the exponent character, not the base suffix -/
structure NotNumberStart (y : Syn) (o : POpts) (c : Nat) : Prop where
  notZero : c ≠ 48
  notDigit : digitVal y.radix c = none
  notPoint : c ≠ o.dp
  notExp : matchByte y.csExp o.exp c = false
  notSuffix : (y.suf ≠ 0 && matchByte y.csSuffix y.suf c) = false

theorem splitNumber_rest (y : Syn) (o : POpts) (sg : Option Bool) (c : Nat) (cs : List Nat)
    (h : NotNumberStart y o c) : (splitNumber y o sg (c :: cs)).rest = c :: cs := by
  have h1 : splitPrefix y (c :: cs) = (false, c :: cs) := by
    unfold splitPrefix
    split
    · rename_i e; cases e; exact absurd rfl h.notZero
    · rfl
  have h2 : takeDigits y.radix (c :: cs) = ([], c :: cs) := by simp [takeDigits, h.notDigit]
  have h3 : splitFraction y o (c :: cs) = (false, [], c :: cs) := by simp [splitFraction, h.notPoint]
  have h4 : splitExponent y o (c :: cs) = (false, none, [], c :: cs) := by simp [splitExponent, h.notExp]
  have h5 : splitSuffix y (c :: cs) = (false, c :: cs) := by
    simp only [splitSuffix, h.notSuffix]
    simp
  unfold splitNumber
  simp only [h1, h2, h3, h4, h5]

theorem numberOk_rest (y : Syn) (p : Parts) (h : p.rest ≠ []) : numberOk y p = false := by
  unfold numberOk
  have : p.rest.isEmpty = false := by cases hr : p.rest <;> simp_all
  simp [this]

theorem grammar_special (y : Syn) (o : POpts) (sg : Option Bool) (isNan : Bool) (c : Nat) (cs : List Nat)
    (hns : y.noSpecial = false) (hsign : signOk y.noPosMant y.reqMantSign sg = true)
    (hc43 : c ≠ 43) (hc45 : c ≠ 45) (hnn : NotNumberStart y o c)
    (hcfg : if isNan then o.nan = some (c :: cs)
            else (o.inf = some (c :: cs) ∧ ∀ t, o.nan = some t → eqSpecial y.csSpecial (c :: cs) t = false)) :
    grammarFloatSyn y o (signBytes sg ++ c :: cs) =
      if isNan then .nan (signBytes sg ++ c :: cs).length
      else .inf (sg == some true) (signBytes sg ++ c :: cs).length := by
  have hsplit := splitSign_signBytes sg (c :: cs) (by intro x hx; simp at hx; subst hx; exact ⟨hc43, hc45⟩)
  have hne : (signBytes sg ++ c :: cs).isEmpty = false := by cases sg <;> simp
  have hnum : numberOk y (splitNumber y o sg (c :: cs)) = false :=
    numberOk_rest y _ (by rw [splitNumber_rest y o sg c cs hnn]; simp)
  unfold grammarFloatSyn
  simp only [hne, hsplit, hnum, hsign, if_true, Bool.false_eq_true, if_false]
  cases isNan with
  | true =>
    simp only [if_true] at hcfg
    have : specialOf y o (c :: cs) = some true := by
      unfold specialOf isSpecial
      simp [hcfg, hns, eqSpecial_self]
    simp [this]
  | false =>
    simp only [Bool.false_eq_true, if_false] at hcfg
    have h1 : isSpecial y o.nan (c :: cs) = false := by
      unfold isSpecial
      cases hn : o.nan with
      | none => rfl
      | some t => simp [hcfg.2 t hn]
    have h2 : isSpecial y o.inf (c :: cs) = true := by
      unfold isSpecial
      simp [hcfg.1, hns, eqSpecial_self]
    have : specialOf y o (c :: cs) = some false := by
      unfold specialOf
      simp [h1, h2]
    simp [this]

theorem inf_ne_nan (cased : Bool) (o : POpts) (hv : optionsError o = none) (s t : List Nat) (hs : o.inf = some s)
    (ht : o.nan = some t) : eqSpecial cased s t = false := by
  have h1 := optionsError_inf o hv s hs
  have h2 := optionsError_nan o hv t ht
  cases s with
  | nil => simp at h1
  | cons a as =>
    cases t with
    | nil => simp at h2
    | cons b bs =>
      apply eqSpecial_head_ne
      simp only [List.head?_cons, Option.some.injEq] at h1 h2
      rcases h1 with rfl | rfl <;> rcases h2 with rfl | rfl <;> decide

end LexVerif.Proof.RoundTrip
