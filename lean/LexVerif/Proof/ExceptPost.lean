import LexVerif.Model.Iter
/-!
# Proof.ExceptPost — one postcondition predicate on the model's `Except Err` results

`Wp Q E x`: `x` is `ok a` with `Q a`, or `error e` with `E e`. What the families say about a run — no panic and no
fault (`PNDebug.Safe`, `C10Debug.NoPanicNoFault`), total with the error index inside the buffer (`PNTotal.TotP`,
`PNTotal.NumOK`, `PNTotal.SynOK`) — is `Wp` at a choice of `E`; the rules for `>>=`, `pure`, `if` and weakening are proved here once.
-/
namespace LexVerif.Proof
open LexVerif.Model

def Wp {α : Type} (Q : α → Prop) (E : Err → Prop) (x : Except Err α) : Prop :=
  match x with
  | .ok a => Q a
  | .error e => E e

/-- an ordinary `Error::Kind(idx)`: neither a `panic` nor a `fault` of the model -/
def IsKind : Err → Prop
  | .err _ _ => True
  | _ => False

theorem bind_congr_ok {α β : Type} {x : Except Err α} {f g : α → Except Err β} (h : ∀ a, x = .ok a → f a = g a) :
    x >>= f = x >>= g := by
  cases x with
  | error e => rfl
  | ok a => exact h a rfl

namespace Wp
variable {α β : Type} {Q Q' : α → Prop} {R : β → Prop} {E E' : Err → Prop} {x y : Except Err α}

theorem ok {a : α} (h : Q a) : Wp Q E (.ok a) := h
theorem pure {a : α} (h : Q a) : Wp Q E (Pure.pure a) := h
theorem error {e : Err} (h : E e) : Wp Q E (.error e : Except Err α) := h

theorem bind {f : α → Except Err β} (hx : Wp Q E x) (hf : ∀ a, x = .ok a → Q a → Wp R E (f a)) :
    Wp R E (x >>= f) := by
  cases x with
  | ok a => exact hf a rfl hx
  | error e => exact hx

theorem mono (hx : Wp Q E x) (hq : ∀ a, x = .ok a → Q a → Q' a) (he : ∀ e, E e → E' e) : Wp Q' E' x := by
  cases x with
  | ok a => exact hq a rfl hx
  | error e => exact he e hx

theorem ite {p : Prop} [Decidable p] (hx : p → Wp Q E x) (hy : ¬p → Wp Q E y) : Wp Q E (if p then x else y) := by
  split
  · next h => exact hx h
  · next h => exact hy h

theorem of_eq_ok {a : α} (hx : Wp Q E x) (h : x = .ok a) : Q a := by
  subst h; exact hx

theorem of_eq_error {e : Err} (hx : Wp Q E x) (h : x = .error e) : E e := by
  subst h; exact hx

end Wp
end LexVerif.Proof
