import LexVerif.Proof.ExtRound
import LexVerif.Proof.Wrap
/-!
# Proof.BinaryCorrect — `roundNE` at a normalised 64-bit significand with a cut tail

Used by `binary`, `slow_binary`, `positive_digit_comp`, Eisel–Lemire and Bellerophon: facts about `Layout`, `extendedToFloat`, `powFrac`,
`calculate_power2` (`calculatePower2_clamped`), and the value of `roundNE` at `x = (M + r/c)·(2^lg)^e` with `M·2^cz` normalised, `0 ≤ r/c < 1`:
`roundNE_norm_trunc` (the half-even rounding of `M·2^cz` at the shift, plus one exactly half-way above an even significand when `r ≠ 0`;
`rhe_sticky` is the only place where the tail matters), `roundNE_norm_zero_trunc` (below the underflow cut), `roundNE_norm_inf`, `roundNE_sticky_inf`
(at or above the overflow cut). The exact lemmas `roundNE_norm`, `roundNE_norm_zero` are the case `c = 1`, `r = 0`. `round_sticky`: what `shared::round`
returns for a callback that rounds up above half, or at half over an odd significand or a non-zero tail — the one rounding lemma of the three algorithms
that read their answer off 64 leading bits and a sticky flag.
-/

namespace LexVerif.Proof.BinaryCorrect

open LexVerif.Spec LexVerif.Model LexVerif.Model.Bellerophon LexVerif.Model.Binary

open LexVerif.Proof.RoundNE LexVerif.Proof.ExtRound

theorem clz_norm {M : Nat} (h0 : M ≠ 0) (h64 : M < 2 ^ 64) :
    clz64 M ≤ 63 ∧ 2 ^ 63 ≤ M * 2 ^ clz64 M ∧ M * 2 ^ clz64 M < 2 ^ 64 ∧
    shl64m M (clz64 M) = M * 2 ^ clz64 M := by
  have hmod : M % 2 ^ 64 = M := Nat.mod_eq_of_lt h64
  have hlo := bitlen_lower h0
  have hup := bitlen_upper M
  have hpos := bitlen_pos h0
  have hb64 : bitlen M ≤ 64 := by
    apply Classical.byContradiction; intro hc
    have : 2 ^ 64 ≤ 2 ^ (bitlen M - 1) := Nat.pow_le_pow_right (by decide) (by omega)
    omega
  unfold clz64
  rw [hmod]
  generalize bitlen M = b at *
  have e63 : 2 ^ 63 = 2 ^ (b - 1) * 2 ^ (64 - b) := by rw [← Nat.pow_add]; congr 1; omega
  have e64 : 2 ^ 64 = 2 ^ b * 2 ^ (64 - b) := by rw [← Nat.pow_add]; congr 1; omega
  have hp := Nat.two_pow_pos (64 - b)
  have h1 : 2 ^ 63 ≤ M * 2 ^ (64 - b) := by rw [e63]; exact Nat.mul_le_mul_right _ hlo
  have h2 : M * 2 ^ (64 - b) < 2 ^ 64 := by rw [e64]; exact Nat.mul_lt_mul_of_pos_right hup hp
  refine ⟨by omega, h1, h2, ?_⟩
  unfold shl64m shl64
  rw [Nat.mod_eq_of_lt (show 64 - b < 64 by omega), Nat.mod_eq_of_lt h2]

def IsPow2Base (base lg : Nat) : Prop := base = 2 ^ lg ∧ 1 ≤ lg ∧ lg ≤ 5 ∧ log2Radix base = (lg : Int)

theorem clz_pow_le {w k : Nat} (hk : k < 64) (h1 : 2 ^ k ≤ w) (h2 : w < 2 ^ 64) : 2 ^ clz64 w ≤ 2 ^ (63 - k) := by
  obtain ⟨_, _, hlt, _⟩ := clz_norm (M := w) (by have := Nat.two_pow_pos k; omega) h2
  have : 2 ^ k * 2 ^ clz64 w < 2 ^ k * 2 ^ (64 - k) := by
    calc 2 ^ k * 2 ^ clz64 w ≤ w * 2 ^ clz64 w := Nat.mul_le_mul_right _ h1
      _ < 2 ^ 64 := hlt
      _ = 2 ^ k * 2 ^ (64 - k) := by rw [← Nat.pow_add]; congr 1; omega
  have h4 : clz64 w < 64 - k := (Nat.pow_lt_pow_iff_right (by decide : 1 < 2)).mp (Nat.lt_of_mul_lt_mul_left this)
  exact Nat.pow_le_pow_right (by decide) (by omega)

theorem isPow2Base_of (base : Nat) (h : base = 2 ∨ base = 4 ∨ base = 8 ∨ base = 16 ∨ base = 32) :
    ∃ lg, IsPow2Base base lg := by
  rcases h with h | h | h | h | h <;> subst h
  · exact ⟨1, by unfold IsPow2Base; decide⟩
  · exact ⟨2, by unfold IsPow2Base; decide⟩
  · exact ⟨3, by unfold IsPow2Base; decide⟩
  · exact ⟨4, by unfold IsPow2Base; decide⟩
  · exact ⟨5, by unfold IsPow2Base; decide⟩

theorem bias_bounds {F p eb} (lay : Layout F p eb) : 128 ≤ F.C.exponentBias ∧ F.C.exponentBias ≤ 1075 := by
  have := lay.bias
  have := lay.hL127
  have := lay.hL1074
  omega

theorem calculatePower2_clamped {F p eb} (lay : Layout F p eb) {base lg : Nat} (hb : IsPow2Base base lg)
    (e : Int) (he1 : -(2 ^ 59 : Int) ≤ e) (he2 : e ≤ (2 ^ 59 : Int)) (c : Nat) (hc : c ≤ 64) :
    (1073741823 < (lg : Int) * e + F.C.exponentBias - c → calculatePower2 F base e c = 1073741823) ∧
    ((lg : Int) * e + F.C.exponentBias - c < -1073741823 → calculatePower2 F base e c = -1073741823) ∧
    (-1073741823 ≤ (lg : Int) * e + F.C.exponentBias - c → (lg : Int) * e + F.C.exponentBias - c ≤ 1073741823 →
      calculatePower2 F base e c = (lg : Int) * e + F.C.exponentBias - c) := by
  obtain ⟨_, hl1, hl5, hlog⟩ := hb
  have hB := bias_bounds lay
  -- `|lg·e| ≤ 5·2^59 < 2^63`: `saturating_mul` does not saturate, and neither the sum nor the difference wraps
  have hmul1 : (lg : Int) * e ≤ 5 * 2 ^ 59 :=
    Int.le_trans (Int.mul_le_mul_of_nonneg_left he2 (by omega)) (Int.mul_le_mul_of_nonneg_right (by omega) (by decide))
  have hmul2 : -(5 * 2 ^ 59) ≤ (lg : Int) * e := by
    have h1 : (lg : Int) * (-2 ^ 59) ≤ (lg : Int) * e := Int.mul_le_mul_of_nonneg_left he1 (by omega)
    have h2 : (5 : Int) * (-2 ^ 59) ≤ (lg : Int) * (-2 ^ 59) := Int.mul_le_mul_of_nonpos_right (by omega) (by decide)
    omega
  have hsat : satMulI64 e (lg : Int) = (lg : Int) * e := by
    unfold satMulI64
    rw [Int.mul_comm e]
    dsimp only
    rw [if_neg (by omega), if_neg (by omega)]
  unfold calculatePower2
  rw [hlog, hsat]
  generalize (lg : Int) * e = P at *
  generalize F.C.exponentBias = B at *
  rw [wrapI64, wrapI64, Wrap.wrapI_of_range (x := P + B) (by decide) (by omega) (by omega),
    Wrap.wrapI_of_range (by decide) (by omega) (by omega), show litPower2Limit = 1073741823 from rfl]
  refine ⟨fun h => if_pos h, fun h => ?_, fun h1 h2 => ?_⟩
  · rw [if_neg (by omega), if_pos h]
  · rw [if_neg (by omega), if_neg (by omega)]

theorem pow_pow2 (lg n : Nat) : (2 ^ lg) ^ n = 2 ^ (lg * n) := (Nat.pow_mul 2 lg n).symm

theorem lg_mul_split (lg : Nat) (e : Int) : ((lg * e.toNat : Nat) : Int) - (lg * (-e).toNat : Nat) = lg * e := by
  rw [Int.natCast_mul, Int.natCast_mul, ← Int.mul_sub]
  congr 1
  omega

theorem L_eq {F p eb} (lay : Layout F p eb) : L F.fmt = 2 ^ (eb - 1) - 1 + (p - 1) - 1 := by
  unfold L Fmt.bias; rw [lay.fmt]

theorem quot_bounds {p : Nat} (hp : 2 ≤ p) (hp64 : p ≤ 62) {mant : Nat} (hm1 : 2 ^ 63 ≤ mant)
    (hm2 : mant < 2 ^ 64) (power2 : Int) (hp2 : -power2 + 1 ≤ 64) :
    (0 < (power2 + 64 - p - 1).toNat →
        shiftOf p power2 = 64 - p ∧ 2 ^ (p - 1) ≤ mant / 2 ^ shiftOf p power2 ∧
        2 ^ shiftOf p power2 * 2 ^ (p - 1) ≤ mant) ∧
    mant / 2 ^ shiftOf p power2 < 2 * 2 ^ (p - 1) ∧ 0 < shiftOf p power2 ∧ shiftOf p power2 ≤ 64 ∧
    ((shiftOf p power2 : Int) + (power2 - 1) = ((power2 + 64 - p - 1).toNat : Int)) := by
  have hS : 2 ^ 64 = 2 ^ (64 - p) * (2 * 2 ^ (p - 1)) := by
    rw [← Nat.pow_succ', ← Nat.pow_add]; congr 1; omega
  have hS63 : 2 ^ 63 = 2 ^ (64 - p) * 2 ^ (p - 1) := by
    rw [← Nat.pow_add]; congr 1; omega
  unfold shiftOf
  by_cases hden : -power2 ≥ 64 - (p : Int)
  · rw [if_pos hden]
    refine ⟨fun h => by omega, ?_, by omega, by omega, by omega⟩
    have : mant / 2 ^ (-power2 + 1).toNat < 2 ^ (p - 1) := by
      rw [Nat.div_lt_iff_lt_mul (Nat.two_pow_pos _), ← Nat.pow_add]
      exact Nat.lt_of_lt_of_le hm2 (Nat.pow_le_pow_right (by decide) (by omega))
    have := Nat.two_pow_pos (p - 1)
    omega
  · rw [if_neg hden]
    refine ⟨fun _ => ⟨rfl, ?_, ?_⟩, ?_, by omega, by omega, by omega⟩
    · rw [Nat.le_div_iff_mul_le (Nat.two_pow_pos _), Nat.mul_comm, ← hS63]; exact hm1
    · rw [← hS63]; exact hm1
    · rw [Nat.div_lt_iff_lt_mul (Nat.two_pow_pos _), Nat.mul_comm, ← hS]; exact hm2

theorem binary_up (mant shift : Nat) (hs0 : 0 < shift) (hs : shift ≤ 64) (hm : mant < 2 ^ 64) :
    let isEven := if shift = 64 then true else decide (mant / 2 ^ (shift % 64) % 2 = 0)
    let truncatedBits := if shift = 64 then mant else mant % 2 ^ (shift % 64)
    let isHalfway := decide (truncatedBits = lowerNHalfway shift)
    let isAbove := decide (truncatedBits > lowerNHalfway shift)
    mant / 2 ^ shift + upOf mant shift (fun _ _ _ => isAbove || (!isEven && isHalfway)) =
      rhe mant (2 ^ shift) := by
  intro isEven truncatedBits isHalfway isAbove
  rw [rhe_pow2 mant shift hs0]
  congr 1
  unfold upOf
  have hh := lowerNHalfway_eq hs0 hs
  have htb : truncatedBits = mant % 2 ^ shift := by
    show (if shift = 64 then mant else mant % 2 ^ (shift % 64)) = _
    split
    · subst_vars; rw [Nat.mod_eq_of_lt hm]
    · rw [Nat.mod_eq_of_lt (show shift < 64 by omega)]
  have hev : isEven = decide (mant / 2 ^ shift % 2 = 0) := by
    show (if shift = 64 then true else decide (mant / 2 ^ (shift % 64) % 2 = 0)) = _
    split
    · subst_vars; rw [Nat.div_eq_of_lt hm]; rfl
    · rw [Nat.mod_eq_of_lt (show shift < 64 by omega)]
  have e1 : isAbove = decide (mant % 2 ^ shift > 2 ^ (shift - 1)) := by
    show decide (truncatedBits > lowerNHalfway shift) = _
    rw [htb, hh]
  have e2 : isHalfway = decide (mant % 2 ^ shift = 2 ^ (shift - 1)) := by
    show decide (truncatedBits = lowerNHalfway shift) = _
    rw [htb, hh]
  rw [e1, e2, hev]
  generalize mant % 2 ^ shift = t
  generalize mant / 2 ^ shift = a
  generalize 2 ^ (shift - 1) = h
  simp only [Bool.or_eq_true, Bool.and_eq_true, Bool.not_eq_true', decide_eq_true_eq, decide_eq_false_iff_not]
  exact ite_congr (propext (by omega)) (fun _ => rfl) (fun _ => rfl)

theorem ext_zero {F p eb} (lay : Layout F p eb) : extendedToFloat F ⟨0, 0⟩ = 0 := by
  have := ext_of_fields F (p - 1) (p + eb) lay.msNat (by rw [lay.bits]; rfl) 0 0
    (Nat.two_pow_pos _) (by rw [Nat.zero_mul]; exact Nat.two_pow_pos _) lay.hp64
  simpa using this

/-- the "cannot decide" test of `binary` -/
def binUndecided (mantissa shift : Nat) (lossy many : Bool) : Bool :=
  let isEven := if shift = 64 then true else decide (mantissa / 2 ^ (shift % 64) % 2 = 0)
  let truncatedBits := if shift = 64 then mantissa else mantissa % 2 ^ (shift % 64)
  let isHalfway := decide (truncatedBits = lowerNHalfway shift)
  !lossy && isEven && isHalfway && many

/-- the rounding direction `binary` hands to `round_nearest_tie_even` -/
def binRoundUp (mantissa shift : Nat) : Bool :=
  let isEven := if shift = 64 then true else decide (mantissa / 2 ^ (shift % 64) % 2 = 0)
  let truncatedBits := if shift = 64 then mantissa else mantissa % 2 ^ (shift % 64)
  let isHalfway := decide (truncatedBits = lowerNHalfway shift)
  let isAbove := decide (truncatedBits > lowerNHalfway shift)
  isAbove || (!isEven && isHalfway)

theorem binary_eq (F : FTy) (base : Nat) (n : Num) (lossy : Bool) :
    binary F base n lossy =
      if n.mantissa = 0 then .ok ⟨0, 0⟩
      else
        let mantissa := shl64m n.mantissa (clz64 n.mantissa)
        let power2 := calculatePower2 F base n.exponent (clz64 n.mantissa)
        if -power2 + 1 > 64 then .ok ⟨0, 0⟩
        else if power2 ≥ F.C.infinitePower then .ok ⟨0, F.C.infinitePower⟩
        else if binUndecided mantissa (calculateShift F power2).toNat lossy n.manyDigits then
          .ok ⟨mantissa, power2 + invalidFp⟩
        else .ok (round F ⟨mantissa, power2⟩ fun f s =>
          roundNearestTieEven f s fun _ _ _ => binRoundUp mantissa (calculateShift F power2).toNat) := rfl

theorem ext_infinite {F p eb} (lay : Layout F p eb) :
    extendedToFloat F ⟨0, F.C.infinitePower⟩ = F.fmt.infBits := by
  have hT : 0 < 2 ^ (p - 1) := Nat.two_pow_pos _
  have hbits : F.C.bits.toNat = p + eb := by rw [lay.bits]; rfl
  have hTT : 2 ^ p = 2 * 2 ^ (p - 1) := two_pow_pred (by have := lay.hp; omega)
  have hpow : 2 ^ (p + eb) = 2 ^ eb * (2 * 2 ^ (p - 1)) := by rw [← hTT, ← Nat.pow_add, Nat.add_comm]
  have h1 : (2 ^ eb - 1) * 2 ^ (p - 1) < 2 ^ eb * 2 ^ (p - 1) :=
    Nat.mul_lt_mul_of_pos_right (by have := Nat.two_pow_pos eb; omega) hT
  have h2 : 2 ^ eb * (2 * 2 ^ (p - 1)) = 2 * (2 ^ eb * 2 ^ (p - 1)) := by ac_rfl
  have := ext_of_fields F (p - 1) (p + eb) lay.msNat hbits 0 (2 ^ eb - 1) hT
    (by rw [Nat.add_zero, hpow, h2]; omega) lay.hp64
  rw [lay.infp, this, Nat.add_zero, lay.fmt]; rfl

theorem roundNE_inf_of_le {f : Fmt} (hf : WF f) {a b c d : Nat} (hb : 0 < b) (hd : 0 < d) (h : a * d ≤ c * b)
    (hinf : roundNE f a b = f.infBits) : roundNE f c d = f.infBits :=
  Nat.le_antisymm (roundNE_le_infBits hf c hd) (hinf ▸ roundNE_mono' hf hb hd h)

/-- the undecided situation of `binary` -/
def HalfwayEven (mant shift : Nat) : Prop :=
  mant % 2 ^ shift = 2 ^ (shift - 1) ∧ mant / 2 ^ shift % 2 = 0

/-- an exact half-way mantissa `M·2^cz` at shift `s` has its lowest set bit at `s - 1`, so `cz < s` -/
theorem HalfwayEven.clz_lt {M cz s : Nat} (h : HalfwayEven (M * 2 ^ cz) s) : cz < s := by
  apply Classical.byContradiction; intro hc
  have hpos := Nat.two_pow_pos (s - 1)
  have h1 := h.1
  rw [show cz = (cz - s) + s by omega, Nat.pow_add, ← Nat.mul_assoc, Nat.mul_mod_left] at h1
  omega

theorem roundNE_of_rhe {F p eb} (lay : Layout F p eb) (lg M cz c r : Nat) (e : Int)
    (hm1 : 2 ^ 63 ≤ M * 2 ^ cz) (hm2 : M * 2 ^ cz < 2 ^ 64) (hcz : cz ≤ 63) (hc : 0 < c)
    (power2 : Int) (hpw : power2 = (lg : Int) * e + F.C.exponentBias - cz) (hp2 : -power2 + 1 ≤ 64)
    (hfloor : (M * 2 ^ cz * c + r * 2 ^ cz) / (2 ^ shiftOf p power2 * c) = M * 2 ^ cz / 2 ^ shiftOf p power2) :
    roundNE F.fmt (powFrac (2 ^ lg) e (M * c + r)).1 ((powFrac (2 ^ lg) e (M * c + r)).2 * c) =
      encode F.fmt (power2 + 64 - p - 1).toNat
        (rhe (M * 2 ^ cz * c + r * 2 ^ cz) (2 ^ shiftOf p power2 * c)) := by
  have hp := lay.hp; have hp64 := lay.hp64; have heb := lay.heb
  have hfp : F.fmt.p = p := by rw [lay.fmt]
  have hL := L_eq lay
  have hLge := lay.hL
  obtain ⟨qa, qb, _, _, qe⟩ := quot_bounds hp (by omega) hm1 hm2 power2 hp2
  have hg := rhe_ge (M * 2 ^ cz * c + r * 2 ^ cz) (2 ^ shiftOf p power2 * c)
  rw [hfloor] at hg
  generalize (power2 + 64 - (p : Int) - 1).toNat = k at *
  generalize shiftOf p power2 = s at *
  simp only [powFrac_toNat, pow_pow2]
  -- `e = a − b`; `shift + (power2 − 1) = k` and `power2 − 1 = lg·e + L − cz` give the common factor `2^(lg·a + L − cz)`
  have hkey : s + (lg * e.toNat + L F.fmt - cz) = lg * (-e).toNat + k := by
    have he : (lg : Int) * e = ((lg * e.toNat : Nat) : Int) - ((lg * (-e).toNat : Nat) : Int) := by
      rw [Int.natCast_mul, Int.natCast_mul, ← Int.mul_sub, Int.toNat_sub_toNat_neg]
    rw [hpw, lay.bias] at qe
    omega
  generalize e.toNat = a at *
  generalize (-e).toNat = b at *
  apply roundNE_of_scaled lay.wf (Nat.ne_of_gt (Nat.mul_pos (Nat.two_pow_pos _) hc)) k _ _
    (2 ^ (lg * a + L F.fmt - cz)) (Nat.mul_pos (Nat.two_pow_pos s) hc)
  · have e1 : M * 2 ^ cz * c + r * 2 ^ cz = (M * c + r) * 2 ^ cz := by rw [Nat.add_mul]; ac_rfl
    rw [e1, Nat.mul_assoc, Nat.mul_assoc, ← Nat.pow_add, ← Nat.pow_add]
    congr 2
    omega
  · rw [Nat.mul_right_comm, ← Nat.pow_add, Nat.mul_right_comm (2 ^ s), ← Nat.pow_add, hkey]
  · rw [hfp]; omega
  · intro h0
    rw [hfp]
    calc 2 ^ s * c * 2 ^ (p - 1) = (2 ^ s * 2 ^ (p - 1)) * c := by ac_rfl
      _ ≤ (M * 2 ^ cz) * c := Nat.mul_le_mul_right c (qa h0).2.2
      _ ≤ (M * 2 ^ cz) * c + r * 2 ^ cz := Nat.le_add_right _ _

theorem mul_add_le_of_lt {n m g : Nat} (h : n * g < m * g) : n * g + g ≤ m * g := by
  rw [← Nat.succ_mul]
  exact Nat.mul_le_mul_right g (Nat.lt_of_mul_lt_mul_right h)

/-- a sticky part `r/c < 1` in units of `2^cz` (`cz < s`: the truncated bits are worth more) changes the half-even
quotient of `m = M·2^cz` by `2^s` in exactly one situation: exactly half-way above an even quotient, it rounds up -/
theorem rhe_sticky (M cz s c r : Nat) (hs : 0 < s) (hr : r < c) (hcs : r ≠ 0 → cz < s) :
    rhe (M * 2 ^ cz * c + r * 2 ^ cz) (2 ^ s * c) =
      rhe (M * 2 ^ cz) (2 ^ s) +
        (if M * 2 ^ cz % 2 ^ s = 2 ^ (s - 1) ∧ M * 2 ^ cz / 2 ^ s % 2 = 0 ∧ r ≠ 0 then 1 else 0) ∧
    (M * 2 ^ cz * c + r * 2 ^ cz) / (2 ^ s * c) = M * 2 ^ cz / 2 ^ s := by
  have hc : 0 < c := by omega
  have e2s : 2 ^ s = 2 * 2 ^ (s - 1) := two_pow_pred (by omega)
  have ht_lt := Nat.mod_lt (M * 2 ^ cz) (Nat.two_pow_pos s)
  -- the sticky part is below `G` units of `c`, and the truncated bits, `2^(s−1)` and `2^s` are multiples of `G`
  obtain ⟨G, hρ, htop, hbelow⟩ : ∃ G, r * 2 ^ cz < G * c ∧ M * 2 ^ cz % 2 ^ s + G ≤ 2 ^ s ∧
      (M * 2 ^ cz % 2 ^ s < 2 ^ (s - 1) → M * 2 ^ cz % 2 ^ s + G ≤ 2 ^ (s - 1)) := by
    by_cases hr0 : r = 0
    · exact ⟨1, by rw [hr0, Nat.zero_mul, Nat.one_mul]; exact hc, by omega, fun h => by omega⟩
    · have hcs' := hcs hr0
      have htmul : M * 2 ^ cz % 2 ^ s = (M % 2 ^ (s - cz)) * 2 ^ cz := by
        rw [show 2 ^ s = 2 ^ (s - cz) * 2 ^ cz by rw [← Nat.pow_add]; congr 1; omega]
        exact Nat.mul_mod_mul_right _ _ _
      rw [htmul] at ht_lt ⊢
      refine ⟨2 ^ cz, by rw [Nat.mul_comm (2 ^ cz) c]; exact Nat.mul_lt_mul_of_pos_right hr (Nat.two_pow_pos _), ?_,
        fun hlt => ?_⟩
      · rw [show 2 ^ s = 2 ^ (s - cz) * 2 ^ cz by rw [← Nat.pow_add]; congr 1; omega] at ht_lt ⊢
        exact mul_add_le_of_lt ht_lt
      · rw [show 2 ^ (s - 1) = 2 ^ (s - 1 - cz) * 2 ^ cz by rw [← Nat.pow_add]; congr 1; omega] at hlt ⊢
        exact mul_add_le_of_lt hlt
  rw [rhe_pow2 _ s hs, sticky_split (M * 2 ^ cz) s c (r * 2 ^ cz)]
  generalize M * 2 ^ cz % 2 ^ s = t at *
  generalize M * 2 ^ cz / 2 ^ s = a at *
  have h1 : (t + G) * c ≤ 2 ^ s * c := Nat.mul_le_mul_right c htop
  rw [Nat.add_mul] at h1
  have hrem : t * c + r * 2 ^ cz < 2 ^ s * c := by omega
  refine ⟨?_, by rw [Nat.mul_add_div (Nat.mul_pos (Nat.two_pow_pos _) hc), Nat.div_eq_of_lt hrem, Nat.add_zero]⟩
  rw [rhe_of_split _ _ _ hrem, e2s, Nat.mul_assoc]
  rcases Nat.lt_trichotomy t (2 ^ (s - 1)) with hlt | heq | hgt
  · have h2 : (t + G) * c ≤ 2 ^ (s - 1) * c := Nat.mul_le_mul_right c (hbelow hlt)
    rw [Nat.add_mul] at h2
    rw [if_neg (show ¬ (t > 2 ^ (s - 1) ∨ t = 2 ^ (s - 1) ∧ a % 2 = 1) by omega),
      if_neg (show ¬ (t = 2 ^ (s - 1) ∧ a % 2 = 0 ∧ r ≠ 0) by omega), if_neg (by omega), Nat.add_zero]
  · subst heq
    by_cases hodd : a % 2 = 1
    · rw [if_pos (show 2 ^ (s - 1) > 2 ^ (s - 1) ∨ 2 ^ (s - 1) = 2 ^ (s - 1) ∧ a % 2 = 1 from Or.inr ⟨rfl, hodd⟩),
        if_neg (show ¬ (2 ^ (s - 1) = 2 ^ (s - 1) ∧ a % 2 = 0 ∧ r ≠ 0) by omega), if_pos (by omega)]
    · rw [if_neg (show ¬ (2 ^ (s - 1) > 2 ^ (s - 1) ∨ 2 ^ (s - 1) = 2 ^ (s - 1) ∧ a % 2 = 1) by omega)]
      by_cases hr0 : r = 0
      · rw [if_neg (show ¬ (2 ^ (s - 1) = 2 ^ (s - 1) ∧ a % 2 = 0 ∧ r ≠ 0) from fun h => h.2.2 hr0), hr0,
          Nat.zero_mul, if_neg (by omega), Nat.add_zero]
      · have := Nat.mul_pos (Nat.pos_of_ne_zero hr0) (Nat.two_pow_pos cz)
        rw [if_pos (show 2 ^ (s - 1) = 2 ^ (s - 1) ∧ a % 2 = 0 ∧ r ≠ 0 from ⟨rfl, by omega, hr0⟩), if_pos (by omega)]
  · have h2 : (2 ^ (s - 1) + 1) * c ≤ t * c := Nat.mul_le_mul_right c hgt
    rw [Nat.add_mul, Nat.one_mul] at h2
    rw [if_pos (show t > 2 ^ (s - 1) ∨ t = 2 ^ (s - 1) ∧ a % 2 = 1 from Or.inl hgt),
      if_neg (show ¬ (t = 2 ^ (s - 1) ∧ a % 2 = 0 ∧ r ≠ 0) by omega), if_pos (by omega)]

theorem roundNE_norm_trunc {F p eb} (lay : Layout F p eb) (lg M cz c r : Nat) (e : Int)
    (hm1 : 2 ^ 63 ≤ M * 2 ^ cz) (hm2 : M * 2 ^ cz < 2 ^ 64) (hcz : cz ≤ 63) (hr : r < c)
    (power2 : Int) (hpw : power2 = (lg : Int) * e + F.C.exponentBias - cz) (hp2 : -power2 + 1 ≤ 64)
    (hcs : r ≠ 0 → cz < shiftOf p power2) :
    roundNE F.fmt (powFrac (2 ^ lg) e (M * c + r)).1 ((powFrac (2 ^ lg) e (M * c + r)).2 * c) =
      encode F.fmt (power2 + 64 - p - 1).toNat
        (rhe (M * 2 ^ cz) (2 ^ shiftOf p power2) +
          (if M * 2 ^ cz % 2 ^ shiftOf p power2 = 2 ^ (shiftOf p power2 - 1) ∧
              M * 2 ^ cz / 2 ^ shiftOf p power2 % 2 = 0 ∧ r ≠ 0 then 1 else 0)) := by
  obtain ⟨_, _, hs0, _, _⟩ := quot_bounds lay.hp lay.hp62 hm1 hm2 power2 hp2
  obtain ⟨hq, hfloor⟩ := rhe_sticky M cz (shiftOf p power2) c r hs0 hr hcs
  rw [← hq]
  exact roundNE_of_rhe lay lg M cz c r e hm1 hm2 hcz (by omega) power2 hpw hp2 hfloor

/-- **underflow cut** of `binary`, `-power2 + 1 > 64`, with a sticky part: `(M·c + r)·2^cz < 2^64·c`, so
`2·(M·c + r)·2^a·2^L < 2^(65 + a + L − cz)·c ≤ 2^b·c`: still below half the least subnormal -/
theorem roundNE_norm_zero_trunc {F p eb} (lay : Layout F p eb) (lg M cz c r : Nat) (e : Int)
    (hm2 : M * 2 ^ cz < 2 ^ 64) (hcz : cz ≤ 63) (hr : r < c)
    (power2 : Int) (hpw : power2 = (lg : Int) * e + F.C.exponentBias - cz) (hp2 : -power2 + 1 > 64) :
    roundNE F.fmt (powFrac (2 ^ lg) e (M * c + r)).1 ((powFrac (2 ^ lg) e (M * c + r)).2 * c) = 0 := by
  have hL := L_eq lay
  have hLge := lay.hL
  have hB := lay.bias
  have hc : 0 < c := by omega
  simp only [powFrac_toNat, pow_pow2]
  have he := lg_mul_split lg e
  generalize lg * e.toNat = a at *
  generalize lg * (-e).toNat = b at *
  apply roundNE_tiny lay.wf (Nat.ne_of_gt (Nat.mul_pos (Nat.two_pow_pos _) hc))
  have h1 : (M * c + r) * 2 ^ cz < 2 ^ 64 * c := by
    have : (M + 1) * 2 ^ cz ≤ 2 ^ (64 - cz) * 2 ^ cz := Nat.mul_le_mul_right _ (Nat.lt_of_mul_lt_mul_right
      (show M * 2 ^ cz < 2 ^ (64 - cz) * 2 ^ cz by rw [← Nat.pow_add, Nat.sub_add_cancel (by omega)]; exact hm2))
    rw [← Nat.pow_add, Nat.sub_add_cancel (by omega)] at this
    calc (M * c + r) * 2 ^ cz < (M + 1) * c * 2 ^ cz :=
          Nat.mul_lt_mul_of_pos_right (by rw [Nat.add_mul, Nat.one_mul]; omega) (Nat.two_pow_pos _)
      _ = (M + 1) * 2 ^ cz * c := Nat.mul_right_comm _ _ _
      _ ≤ 2 ^ 64 * c := Nat.mul_le_mul_right _ this
  have h2 := Nat.mul_lt_mul_of_pos_right h1 (Nat.two_pow_pos (a + L F.fmt - cz))
  have e1 : (M * c + r) * 2 ^ cz * 2 ^ (a + L F.fmt - cz) = (M * c + r) * 2 ^ a * 2 ^ L F.fmt := by
    rw [Nat.mul_assoc, Nat.mul_assoc, ← Nat.pow_add, ← Nat.pow_add]; congr 2; omega
  have e2 : 2 * (2 ^ 64 * c * 2 ^ (a + L F.fmt - cz)) = 2 ^ (65 + (a + L F.fmt - cz)) * c := by
    rw [Nat.pow_add, show (2 : Nat) ^ 65 = 2 * 2 ^ 64 from Nat.pow_succ']; ac_rfl
  have h3 : 2 ^ (65 + (a + L F.fmt - cz)) * c ≤ 2 ^ b * c :=
    Nat.mul_le_mul_right c (Nat.pow_le_pow_right (by decide) (by omega))
  rw [e1] at h2
  omega

/-- the literal's value `(M·c + r)/c · base^e` is at least `M·base^e` -/
theorem roundNE_sticky_inf {f : Fmt} (hf : WF f) (base M c r : Nat) (e : Int) (hb : 0 < base) (hc : 0 < c)
    (h : roundNE f (powFrac base e M).1 (powFrac base e M).2 = f.infBits) :
    roundNE f (powFrac base e (M * c + r)).1 ((powFrac base e (M * c + r)).2 * c) = f.infBits := by
  have hden : ∀ m, 0 < (powFrac base e m).2 := powFrac_pos hb e
  have hle : (powFrac base e M).1 * ((powFrac base e (M * c + r)).2 * c) ≤
      (powFrac base e (M * c + r)).1 * (powFrac base e M).2 := by
    unfold powFrac; split
    · simp only [Nat.one_mul, Nat.mul_one]
      calc M * base ^ e.toNat * c = M * c * base ^ e.toNat := by ac_rfl
        _ ≤ (M * c + r) * base ^ e.toNat := Nat.mul_le_mul_right _ (Nat.le_add_right _ _)
    · simp only []
      calc M * (base ^ (-e).toNat * c) = M * c * base ^ (-e).toNat := by ac_rfl
        _ ≤ (M * c + r) * base ^ (-e).toNat := Nat.mul_le_mul_right _ (Nat.le_add_right _ _)
  exact roundNE_inf_of_le hf (hden M) (Nat.mul_pos (hden (M * c + r)) hc) hle h

theorem binUndecided_iff {mant s : Nat} (hs0 : 0 < s) (hs : s ≤ 64) (hm : mant < 2 ^ 64) (lossy many : Bool) :
    binUndecided mant s lossy many = true ↔ lossy = false ∧ HalfwayEven mant s ∧ many = true := by
  have htb : (if s = 64 then mant else mant % 2 ^ (s % 64)) = mant % 2 ^ s := by
    split
    · subst_vars; rw [Nat.mod_eq_of_lt hm]
    · rw [Nat.mod_eq_of_lt (show s < 64 by omega)]
  have hev : (if s = 64 then true else decide (mant / 2 ^ (s % 64) % 2 = 0)) = decide (mant / 2 ^ s % 2 = 0) := by
    split
    · subst_vars; rw [Nat.div_eq_of_lt hm]; rfl
    · rw [Nat.mod_eq_of_lt (show s < 64 by omega)]
  unfold binUndecided HalfwayEven
  simp only [htb, hev, lowerNHalfway_eq hs0 hs, Bool.not_eq_true', Bool.and_eq_true, decide_eq_true_eq]
  exact ⟨fun h => ⟨h.1.1.1, ⟨h.1.2, h.1.1.2⟩, h.2⟩, fun h => ⟨⟨⟨h.1, h.2.1.2⟩, h.2.1.1⟩, h.2.2⟩⟩

/-- **the one rounding of the "64 bits + sticky" family**: `shared::round` of the normalised `M·2^cz` with a callback whose
increment is "above half, or at half over an odd significand or with a non-zero tail" returns `roundNE` of
`(M + r/c)·(2^lg)^e`. `binary` (no tail at an even half), `slow_binary` (at an even half: up iff the tail is non-zero) and
`positive_digit_comp` (`is_truncated`) supply three callbacks. -/
theorem round_sticky {F p eb} (lay : Layout F p eb) (lg M cz c r : Nat) (e : Int)
    (hm1 : 2 ^ 63 ≤ M * 2 ^ cz) (hm2 : M * 2 ^ cz < 2 ^ 64) (hcz : cz ≤ 63) (hr : r < c)
    (pw : Int) (hpw : pw = (lg : Int) * e + F.C.exponentBias - cz) (hp2 : -pw + 1 ≤ 64)
    (hcs : r ≠ 0 → cz < shiftOf p pw) (cb : Bool → Bool → Bool → Bool)
    (hcb : upOf (M * 2 ^ cz) (shiftOf p pw) cb =
      if M * 2 ^ cz % 2 ^ shiftOf p pw > 2 ^ (shiftOf p pw - 1) ∨
        (M * 2 ^ cz % 2 ^ shiftOf p pw = 2 ^ (shiftOf p pw - 1) ∧ (M * 2 ^ cz / 2 ^ shiftOf p pw % 2 = 1 ∨ r ≠ 0))
      then 1 else 0) :
    0 ≤ (round F ⟨M * 2 ^ cz, pw⟩ fun f s => roundNearestTieEven f s cb).exp ∧
    extendedToFloat F (round F ⟨M * 2 ^ cz, pw⟩ fun f s => roundNearestTieEven f s cb) =
      roundNE F.fmt (powFrac (2 ^ lg) e (M * c + r)).1 ((powFrac (2 ^ lg) e (M * c + r)).2 * c) := by
  obtain ⟨hexp, hbits⟩ := round_bits lay (M * 2 ^ cz) pw cb hm1 hm2 hp2
  obtain ⟨_, _, hs0, _, _⟩ := quot_bounds lay.hp lay.hp62 hm1 hm2 pw hp2
  refine ⟨hexp, ?_⟩
  rw [hbits, hcb, roundNE_norm_trunc lay lg M cz c r e hm1 hm2 hcz hr pw hpw hp2 hcs, rhe_pow2 _ _ hs0, Nat.add_assoc]
  congr 2
  generalize M * 2 ^ cz % 2 ^ shiftOf p pw = t
  generalize M * 2 ^ cz / 2 ^ shiftOf p pw = a
  generalize 2 ^ (shiftOf p pw - 1) = h
  by_cases h1 : t > h
  · rw [if_pos (Or.inl h1), if_pos (Or.inl h1), if_neg (by omega)]
  · by_cases h2 : t = h
    · by_cases h3 : a % 2 = 1
      · rw [if_pos (Or.inr ⟨h2, Or.inl h3⟩), if_pos (Or.inr ⟨h2, h3⟩), if_neg (by omega)]
      · by_cases h4 : r = 0
        · rw [if_neg (by omega), if_neg (by omega), if_neg (by omega)]
        · rw [if_pos (Or.inr ⟨h2, Or.inr h4⟩), if_neg (by omega), if_pos ⟨h2, by omega, h4⟩]
    · rw [if_neg (by omega), if_neg (by omega), if_neg (by omega)]

theorem roundNE_norm {F p eb} (lay : Layout F p eb) (lg M c : Nat) (e : Int)
    (hm1 : 2 ^ 63 ≤ M * 2 ^ c) (hm2 : M * 2 ^ c < 2 ^ 64) (hc : c ≤ 63)
    (power2 : Int) (hpw : power2 = (lg : Int) * e + F.C.exponentBias - c) (hp2 : -power2 + 1 ≤ 64) :
    roundNE F.fmt (powFrac (2 ^ lg) e M).1 (powFrac (2 ^ lg) e M).2 =
      encode F.fmt (power2 + 64 - p - 1).toNat (rhe (M * 2 ^ c) (2 ^ shiftOf p power2)) := by
  have := roundNE_norm_trunc lay lg M c 1 0 e hm1 hm2 hc Nat.one_pos power2 hpw hp2 (fun h => absurd rfl h)
  simpa using this

theorem roundNE_norm_zero {F p eb} (lay : Layout F p eb) (lg M c : Nat) (e : Int)
    (hm2 : M * 2 ^ c < 2 ^ 64) (hc : c ≤ 63)
    (power2 : Int) (hpw : power2 = (lg : Int) * e + F.C.exponentBias - c) (hp2 : -power2 + 1 > 64) :
    roundNE F.fmt (powFrac (2 ^ lg) e M).1 (powFrac (2 ^ lg) e M).2 = 0 := by
  have := roundNE_norm_zero_trunc lay lg M c 1 0 e hm2 hc Nat.one_pos power2 hpw hp2
  simpa using this

/-- the overflow cut of `binary` (/repo commit 6cdda4d) -/
theorem roundNE_norm_inf {F p eb} (lay : Layout F p eb) (lg M c : Nat) (e : Int)
    (hm1 : 2 ^ 63 ≤ M * 2 ^ c) (hm2 : M * 2 ^ c < 2 ^ 64) (hc : c ≤ 63)
    (power2 : Int) (hpw : power2 = (lg : Int) * e + F.C.exponentBias - c)
    (hinf : power2 ≥ F.C.infinitePower) :
    roundNE F.fmt (powFrac (2 ^ lg) e M).1 (powFrac (2 ^ lg) e M).2 = F.fmt.infBits := by
  have hp := lay.hp; have hp64 := lay.hp64; have heb := lay.heb
  rw [lay.infp] at hinf
  have hMpos : 0 < 2 ^ eb - 1 := by
    have : 2 ^ 2 ≤ 2 ^ eb := Nat.pow_le_pow_right (by decide) heb
    omega
  rw [roundNE_norm lay lg M c e hm1 hm2 hc power2 hpw (by omega)]
  apply encode_of_inf_le
  have hinfB : F.fmt.infBits = (2 ^ eb - 1) * 2 ^ (p - 1) := by rw [lay.fmt]; rfl
  have hfp : F.fmt.p = p := by rw [lay.fmt]
  rw [hinfB, hfp]
  have hk : 2 ^ eb - 1 ≤ (power2 + 64 - (p : Int) - 1).toNat := by omega
  exact Nat.le_trans (Nat.mul_le_mul_right _ hk) (Nat.le_add_right _ _)

end LexVerif.Proof.BinaryCorrect
