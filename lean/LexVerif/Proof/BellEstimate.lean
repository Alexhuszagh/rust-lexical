import LexVerif.Proof.BellSound
import LexVerif.Proof.LemireWide
/-!
# Proof.BellEstimate — what an invalid-marked answer of a moderate path knows about the value

Both answers are two-sided estimates in units of the answer's last place (`Est2`, `Proof.EstCell`): Eisel–Lemire's
one-sided `EstW` is one (`est2_of_estW` in `Proof.LemireWide`; `lemire_invalid_est`), and so is Bellerophon's (`bellerophon_invalid_est`).

`bellerophon` marks its answer invalid when `error_is_accurate` fails: the answer is then the scaled, normalised extended
float `⟨mant, pw⟩` itself. `Proof.BellSound.prepare_cases` bounds the **true** value of the literal (truncated mantissas
included) by `mant − 4 < Y/U < mant + 8 (+ 2·2^ctlz + 1)` units (`est2_of_units` puts them in the coordinates of `Est2`).
-/
namespace LexVerif.Proof.Bell
open LexVerif.Model LexVerif.Model.Bellerophon LexVerif.Gen.Bellerophon
open LexVerif.Proof.RoundNE LexVerif.Proof.ExtRound LexVerif.Proof.Lemire

/-- **an invalid-marked answer of `compute_float` is an estimate of every true value of the `Number`**, as
`bellerophon_invalid_est` says of Bellerophon: the value itself for an untruncated mantissa; for a truncated one every
value in `[w, w+1)·10^q`, with the slack widened to `40` (`estW_widen`; `mant + 4 ≤ 36·w` holds of every 19-digit word) -/
theorem lemire_invalid_est {F : FTy} {p : Nat} {fp : ExtendedFloat80} (n : Num) (hw0 : 0 < n.mantissa)
    (hest : EstOK F p fp (powFrac 10 n.exponent n.mantissa).1 (powFrac 10 n.exponent n.mantissa).2)
    (hm36 : n.manyDigits = true → fp.mant + 4 ≤ 36 * n.mantissa)
    (num den : Nat) (hd : 0 < den) (htv : TrueValue 10 n num den) :
    Est2 F p { fp with exp := fp.exp - invalidFp } 1 40 num den := by
  have hwd := powFrac_pos (base := 10) (by decide) n.exponent n.mantissa
  obtain ⟨t1, t2⟩ := htv
  by_cases hm : n.manyDigits = true
  · rw [if_pos hm] at t2
    have e2 : (powFrac 10 n.exponent (n.mantissa + 1)).2 = (powFrac 10 n.exponent n.mantissa).2 := by
      unfold powFrac; split <;> rfl
    have e1 : (powFrac 10 n.exponent (n.mantissa + 1)).1 * n.mantissa =
        (powFrac 10 n.exponent n.mantissa).1 * (n.mantissa + 1) := by
      unfold powFrac; split <;> simp only [] <;> ring
    rw [e2] at t2
    refine est2_of_estW hd (estW_widen _ _ _ _ n.mantissa hest (hm36 hm) hw0 hwd t1 ?_)
    calc num * (powFrac 10 n.exponent n.mantissa).2 * n.mantissa
        < (powFrac 10 n.exponent (n.mantissa + 1)).1 * den * n.mantissa := Nat.mul_lt_mul_of_pos_right t2 hw0
      _ = (powFrac 10 n.exponent n.mantissa).1 * den * (n.mantissa + 1) := by
          rw [Nat.mul_right_comm, e1, Nat.mul_right_comm]
  · rw [if_neg hm] at t2
    obtain ⟨a, b, lo, hi⟩ := est2_congr hd (Nat.le_antisymm t1 t2) (est2_of_estW hwd (estW_of_estOK hest))
    exact ⟨a, b, lo, Nat.lt_of_lt_of_le hi (Nat.mul_le_mul_right _ (Nat.mul_le_mul_right _ (by omega)))⟩

theorem bellerophon_invalid_est {F : FTy} {p eb : Nat} (lay : Layout F p eb)
    {r : Nat} {P : Powers} (hc : BellFacts r P) (n : Num)
    (hw : n.mantissa < 2 ^ 64) (hmw : n.manyDigits = true → 2 ^ 44 ≤ n.mantissa)
    (num den : Nat) (hd : 0 < den) (htv : TrueValue r n num den) {fp : ExtendedFloat80}
    (h : bellerophon F P n false = .ok fp) (hinv : fp.exp < 0) :
    -(fp.exp - invalidFp) + 1 ≤ 65 ∧ fp.exp - invalidFp < 32768 ∧
    Est2 F p { fp with exp := fp.exp - invalidFp } 4
      (8 + if n.manyDigits then 2 * 2 ^ clz64 n.mantissa + 1 else 0) num den := by
  have hp64 := lay.hp64
  unfold bellerophon at h
  rcases prepare_cases lay hc n hw hmw num den hd htv with ⟨hp, _⟩ | ⟨hp, _⟩ |
    ⟨mant, E, sh, pw, hp, hm1, hm2, hElo, hEhi, hpw1, hpw2, hlo, _, hhi⟩
  · rw [hp] at h; simp only [] at h
    injection h with h; subst h
    exact absurd hinv (by decide)
  · rw [hp] at h; simp only [] at h
    injection h with h; subst h
    have := lay.infp
    simp only at hinv
    omega
  · rw [hp] at h; simp only [] at h
    rcases bellFinish_cases h with ⟨rfl, _⟩ | ⟨rfl, _⟩ | ⟨rfl, h3, _⟩ | ⟨rfl, h4, _⟩
    · exact absurd hinv (by decide)
    · exact absurd hinv (by decide)
    · have := (round_bits lay mant pw tieEven hm1 hm2 h3).1
      omega
    · have e0 : pw + invalidFp - invalidFp = pw := by omega
      simp only [e0]
      exact ⟨by omega, by omega, est2_of_units (by omega) mant pw 4 _ num den hm1 hm2 hlo hhi⟩

/-- the exponent bounds of an invalid-marked answer alone (they do not depend on which true value is estimated) -/
theorem bellerophon_invalid_exp {F : FTy} {p eb : Nat} (lay : Layout F p eb)
    {r : Nat} {P : Powers} (hc : BellFacts r P) (n : Num)
    (hw : n.mantissa < 2 ^ 64) (hmw : n.manyDigits = true → 2 ^ 44 ≤ n.mantissa) {fp : ExtendedFloat80}
    (h : bellerophon F P n false = .ok fp) (hinv : fp.exp < 0) :
    -(fp.exp - invalidFp) + 1 ≤ 65 ∧ fp.exp - invalidFp < 32768 := by
  have hr : 0 < r := by have := hc.r2; omega
  obtain ⟨a, b, _⟩ := bellerophon_invalid_est lay hc n hw hmw _ _ (powFrac_pos hr _ _) (trueValue_self hr n) h hinv
  exact ⟨a, b⟩

end LexVerif.Proof.Bell
