import LexVerif.Model.Grisu
import LexVerif.Proof.Numeral
import LexVerif.Proof.DragonboxBits
import Mathlib.Tactic.Ring
import Mathlib.Tactic.Linarith
/-!
# Proof.GrisuDigitStep — digit-list bookkeeping and the weeding loop of `generate_digits`

`DigitsOK ds N`: the characters appended so far (no leading `'0'`) denote `N`, which has `ds.length` digits;
`Final ds V N`: the shape of the returned digit string (value `V`, as many digits as `N`). `gen_step` is one digit of
either loop, in units of its position: what stopping gives, and the invariant that goes on. `roundDigit_spec`: whatever
`mant` is, `round_digit` leaves `rem + dec·unit ≤ delta`.
-/
namespace LexVerif.Proof.GrisuDigits
open LexVerif.Model.Grisu LexVerif.Model.Dragonbox LexVerif.Spec
open LexVerif.Proof.DragonboxBits

theorem ofDigits_nil (r : Nat) : ofDigits r [] = 0 := rfl

structure DigitsOK (ds : List Nat) (N : Nat) : Prop where
  chars : ∀ c ∈ ds, 48 ≤ c ∧ c ≤ 57
  val : ofDigits 10 (ds.map (· - 48)) = N
  head : ds.head? ≠ some 48
  zero : N = 0 → ds = []
  len : N ≠ 0 → 10 ^ ds.length ≤ 10 * N

theorem digitsOK_nil : DigitsOK [] 0 :=
  ⟨by simp, rfl, by simp, fun _ => rfl, fun h => absurd rfl h⟩

def pushDigit (ds : List Nat) (digit : Nat) : List Nat :=
  if digit ≠ 0 ∨ ds ≠ [] then ds ++ [(48 + digit) % 256] else ds

structure Final (ds : List Nat) (V N : Nat) : Prop where
  chars : ∀ c ∈ ds, 48 ≤ c ∧ c ≤ 57
  ne : ds ≠ []
  head : ds.head? ≠ some 48
  val : ofDigits 10 (ds.map (· - 48)) = V
  len : ∀ n, N < 10 ^ n → ds.length ≤ n

theorem decLast_snoc (ds : List Nat) (c dec : Nat) :
    decLast (ds ++ [c]) dec = ds ++ [(c + 256 - dec % 256) % 256] := by
  simp [decLast]

theorem decLast_nil (dec : Nat) : decLast [] dec = [] := by
  simp [decLast]

theorem pushDigit_ok {ds : List Nat} {N d : Nat} (h : DigitsOK ds N) (hd : d < 10) :
    DigitsOK (pushDigit ds d) (10 * N + d) := by
  unfold pushDigit
  by_cases hc : d ≠ 0 ∨ ds ≠ []
  · rw [if_pos hc]
    have hch : (48 + d) % 256 = 48 + d := by omega
    rw [hch]
    refine ⟨?_, ?_, ?_, ?_, ?_⟩
    · intro c hcm
      rcases List.mem_append.1 hcm with h1 | h1
      · exact h.chars c h1
      · simp at h1; omega
    · rw [List.map_append, List.map_cons, List.map_nil, ofDigits_snoc, h.val]; omega
    · cases ds with
      | nil =>
        simp
        have : N = 0 := by rw [← h.val]; rfl
        rcases hc with hc | hc
        · omega
        · exact absurd rfl hc
      | cons a t => simpa using h.head
    · intro h0
      have hN : N = 0 := by omega
      have hd0 : d = 0 := by omega
      have := h.zero hN
      rcases hc with hc | hc
      · exact absurd hd0 hc
      · exact absurd this hc
    · intro _
      rw [List.length_append, List.length_singleton, Nat.pow_succ]
      by_cases hN : N = 0
      · have := h.zero hN
        subst this; subst hN
        simp
        rcases hc with hc | hc
        · omega
        · exact absurd rfl hc
      · have := h.len hN
        omega
  · rw [if_neg hc]
    have h1 : d = 0 := by
      by_cases h : d = 0
      · exact h
      · exact absurd (Or.inl h) hc
    have h2 : ds = [] := by
      by_cases h : ds = []
      · exact h
      · exact absurd (Or.inr h) hc
    subst h1; subst h2
    have : N = 0 := by rw [← h.val]; rfl
    subst this
    exact digitsOK_nil

theorem final_of_step {ds : List Nat} {N d dec : Nat} (h : DigitsOK ds N) (hd : d < 10) (hdec : dec ≤ d)
    (hpos : 1 ≤ 10 * N + d - dec) :
    Final (decLast (pushDigit ds d) dec) (10 * N + d - dec) (10 * N + d) := by
  have hok := pushDigit_ok h hd
  have hne : d ≠ 0 ∨ ds ≠ [] := by
    by_cases h0 : N = 0
    · left; omega
    · right; intro hnil; subst hnil
      exact h0 (by rw [← h.val]; rfl)
  have hlen : (pushDigit ds d).length = ds.length + 1 := by
    unfold pushDigit; rw [if_pos hne]; simp
  have hlen' : ∀ n, 10 * N + d < 10 ^ n → ds.length + 1 ≤ n := by
    intro n hn
    have hN' : 10 * N + d ≠ 0 := by omega
    have h1 := hok.len hN'
    rw [hlen] at h1
    by_cases hle : ds.length + 1 ≤ n
    · exact hle
    · exfalso
      have h2 : 10 ^ (n + 1) ≤ 10 ^ (ds.length + 1) := Nat.pow_le_pow_right (by omega) (by omega)
      rw [Nat.pow_succ] at h2
      omega
  unfold pushDigit
  rw [if_pos hne, decLast_snoc]
  have hch : ((48 + d) % 256 + 256 - dec % 256) % 256 = 48 + d - dec := by omega
  rw [hch]
  refine ⟨?_, by simp, ?_, ?_, ?_⟩
  · intro c hcm
    rcases List.mem_append.1 hcm with h1 | h1
    · exact h.chars c h1
    · simp at h1; omega
  · cases ds with
    | nil =>
      simp
      have : N = 0 := by rw [← h.val]; rfl
      omega
    | cons a t => simpa using h.head
  · rw [List.map_append, List.map_cons, List.map_nil, ofDigits_snoc, h.val]; omega
  · intro n hn
    rw [List.length_append, List.length_singleton]
    exact hlen' n hn

/-- **one digit of either loop**, in units `X` of its position: the digits so far denote `N`, the rest `R < 10·X` of the upper bound
`U = N·(10X) + R` is still outside the interval `[L, U]` (`Δ ≤ R`, `Δ = U − L`). The loop takes `d = R / X`, keeps `r = R % X`, and
either stops — `round_digit` having taken `e` units off, `r + e·X ≤ Δ`: then `e ≤ d`, the value `10N+d−e` lies in `[L, U]`, and since
`Δ < 10·X` the number of digits obeys the bound — or goes on with `10N + d` and the rest `r`. Loop 1 goes on with `X/10`; loop 2
multiplies `U`, `L`, `Δ`, `r` by 10 and keeps `X`. -/
theorem gen_step {ds : List Nat} {N d r X R Δ L U : Nat} (hok : DigitsOK ds N) (hX : 1 ≤ X) (hdm : d * X + r = R)
    (hR : R < 10 * X) (hsum : N * (10 * X) + R = U) (hΔ : Δ + L = U) (hL : 1 ≤ L) (hprev : Δ ≤ R) :
    d < 10
    ∧ (∀ e, r + e * X ≤ Δ →
        Final (decLast (pushDigit ds d) e) (10 * N + d - e) (10 * N + d)
        ∧ L ≤ (10 * N + d - e) * X ∧ (10 * N + d - e) * X ≤ U ∧ ∀ P, 10 * U ≤ P * Δ → 10 * N + d < P)
    ∧ DigitsOK (pushDigit ds d) (10 * N + d) ∧ (10 * N + d) * X + r = U := by
  have hd : d < 10 := by
    apply Classical.byContradiction; intro h
    have : 10 * X ≤ d * X := Nat.mul_le_mul_right X (by omega)
    omega
  have hs : (10 * N + d) * X + r = U := by
    have e : (10 * N + d) * X = N * (10 * X) + d * X := by ring
    omega
  refine ⟨hd, fun e he => ?_, pushDigit_ok hok hd, hs⟩
  have hed : e ≤ d := Nat.le_of_mul_le_mul_right (by omega : e * X ≤ d * X) hX
  have e7 : (10 * N + d - e) * X = (10 * N + d) * X - e * X := Nat.sub_mul _ _ _
  have hV : L ≤ (10 * N + d - e) * X := by omega
  have hVpos : 1 ≤ 10 * N + d - e := by
    rcases Nat.eq_zero_or_pos (10 * N + d - e) with h | h
    · rw [h] at hV; omega
    · exact h
  refine ⟨final_of_step hok hd hed hVpos, hV, by omega, fun P hP => ?_⟩
  by_cases hlt : 10 * N + d < P
  · exact hlt
  · exfalso
    have h1 : P * X ≤ (10 * N + d) * X := Nat.mul_le_mul_right _ (by omega)
    have h9 : d * X ≤ 9 * X := Nat.mul_le_mul_right _ (by omega)
    have hPpos : 0 < P := by
      rcases Nat.eq_zero_or_pos P with h | h
      · subst h; omega
      · exact h
    have h2 : P * Δ < P * (10 * X) := Nat.mul_lt_mul_of_pos_left (by omega) hPpos
    have e8 : P * (10 * X) = 10 * (P * X) := by ring
    omega

theorem roundDigit_spec (delta unit mant : Nat) (hdelta : delta < 2 ^ 64) :
    ∀ (fuel rem dec : Nat), rem ≤ delta →
      ∃ e, (roundDigit delta unit mant fuel rem dec).2 = dec + e ∧ rem + e * unit ≤ delta := by
  intro fuel
  induction fuel with
  | zero => intro rem dec h; exact ⟨0, by simp [roundDigit], by omega⟩
  | succ fuel ih =>
    intro rem dec h
    rw [roundDigit]
    split
    · rename_i hc
      have h1 : sub64 delta rem ≥ unit := hc.2.1
      rw [sub64_eq h hdelta] at h1
      have h2 : u64 (rem + unit) = rem + unit := DragonboxArith.u64_id (by omega)
      rw [h2]
      obtain ⟨e, he1, he2⟩ := ih (rem + unit) (dec + 1) (by omega)
      refine ⟨e + 1, by rw [he1]; omega, ?_⟩
      rw [Nat.add_mul]; omega
    · exact ⟨0, rfl, by omega⟩

end LexVerif.Proof.GrisuDigits
