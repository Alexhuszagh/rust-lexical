import LexVerif.Proof.DragonboxNormal
import LexVerif.Proof.DragonboxTrailing
import Mathlib.Tactic.FieldSimp
import LexVerif.Proof.DragonboxExp
/-!
# Proof.DragonboxNormalSpec — `compute_nearest_normal` against the oracle `Spec.shortest`

`normal_ok`: for every finite float with a non-zero mantissa field (binary32 and binary64, subnormals included) the
model's `to_decimal` returns — trailing zeros stripped — a pair of `Spec.shortest`.
-/
namespace LexVerif.Proof.DragonboxNormalSpec
open LexVerif.Model.Dragonbox LexVerif.Spec LexVerif.Proof.DragonboxExp
open LexVerif.Proof.DragonboxExact LexVerif.Proof.DragonboxSpec LexVerif.Proof.DragonboxMath
open LexVerif.Proof.DragonboxNormal LexVerif.Proof.DragonboxShortest LexVerif.Proof.RoundNE

/-! ## translating the oracle's comparisons (`D·P ⋛ n·Q`) into the scaled ones (`D·K·b ⋛ n·a`) -/
section scale
variable {P Q a b K : Nat}

theorem cmp_scaled (hs : P * a = 2 * K * Q * b) (ha : 0 < a) (hQ : 0 < Q) (x D : Nat) :
    (2 * x * Q ≤ D * P ↔ x * a ≤ D * K * b) ∧ (2 * x * Q < D * P ↔ x * a < D * K * b)
      ∧ (D * P ≤ 2 * x * Q ↔ D * K * b ≤ x * a) ∧ (D * P < 2 * x * Q ↔ D * K * b < x * a) := by
  have e1 : 2 * x * Q * a = (x * a) * (2 * Q) := by ring
  have e2 : D * P * a = (D * K * b) * (2 * Q) := by rw [Nat.mul_assoc D P a, hs]; ring
  have h2Q : 0 < 2 * Q := by omega
  exact ⟨(scale_iff ha h2Q e1 e2).1, (scale_iff ha h2Q e1 e2).2, (scale_iff ha h2Q e2 e1).1, (scale_iff ha h2Q e2 e1).2⟩

end scale

/-! ## the value `x = a/b = 2^(e-1)·10^k` of the certificate's fraction, and the oracle's comparison fractions at it -/

theorem xFrac_Q (e k : Int) : ((xFrac e k).1 : ℚ) / (xFrac e k).2 = (2 : ℚ) ^ (e - 1) * (10 : ℚ) ^ k := by
  have h2 := zpow_toNat_div 2 (e - 1)
  have h10 := zpow_toNat_div 10 k
  rw [show -(e - 1) = 1 - e by ring] at h2
  simp only [Nat.cast_ofNat] at h2 h10
  rw [← h2, ← h10]
  simp only [xFrac]
  push_cast
  rw [mul_div_mul_comm]

theorem x_value {t : FTy} {e : Int} {d : ExpData} (F : Facts t e d) :
    (d.a : ℚ) / d.b = (2 : ℚ) ^ (e - 1) * (10 : ℚ) ^ (-d.minusK) := by
  obtain ⟨e0, j, a0, b0, rfl, hb0, h0, hrel⟩ := F.hval
  have hb : (d.b : ℚ) ≠ 0 := by exact_mod_cast F.hpos.1.ne'
  have hb0Q : (b0 : ℚ) ≠ 0 := by exact_mod_cast hb0.ne'
  have hx : ((xFrac e0 (-d.minusK)).2 : ℚ) ≠ 0 := by
    have : 0 < (xFrac e0 (-d.minusK)).2 := Nat.mul_pos (Nat.pow_pos (by decide)) (Nat.pow_pos (by decide))
    exact_mod_cast this.ne'
  -- the first exponent of the entry has `a0/b0 = 2^(e0-1)·10^k`, and `a/b = 2^j·a0/b0`
  have h1 : (a0 : ℚ) / b0 = (2 : ℚ) ^ (e0 - 1) * (10 : ℚ) ^ (-d.minusK) := by
    rw [← xFrac_Q, div_eq_div_iff hb0Q hx, mul_comm ((xFrac e0 (-d.minusK)).1 : ℚ)]
    exact_mod_cast h0
  have h2 : (d.a : ℚ) / d.b = 2 ^ j * ((a0 : ℚ) / b0) := by
    rw [← mul_div_assoc, div_eq_div_iff hb hb0Q]
    exact_mod_cast hrel
  rw [h2, h1, show e0 + (j : ℤ) - 1 = (j : ℤ) + (e0 - 1) by ring, zpow_add₀ (by norm_num : (2 : ℚ) ≠ 0), zpow_natCast]
  ring

/-- a fraction worth `2^(e-1)·10^k` against the comparison fraction `P/Q = 10^E/2^(e-2)` of the oracle at a decimal scale
`E ≥ -k`: `P·a = 2·10^(E+k)·Q·b` -/
theorem scale_of_value {e k E : Int} {a b : Nat} (hb : 0 < b)
    (hv : (a : ℚ) / b = (2 : ℚ) ^ (e - 1) * (10 : ℚ) ^ k) (hE : 0 ≤ E + k) :
    (scalePQ (e - 2) E).1 * a = 2 * 10 ^ (E + k).toNat * (scalePQ (e - 2) E).2 * b := by
  obtain ⟨c, _, hP, hQ⟩ := scalePQ_Q (e - 2) E
  have hbQ : (b : ℚ) ≠ 0 := by exact_mod_cast hb.ne'
  have ha : (a : ℚ) = b * ((2 : ℚ) ^ (e - 1) * (10 : ℚ) ^ k) := by rw [← hv]; field_simp
  have h10 : ((10 ^ (E + k).toNat : ℕ) : ℚ) = (10 : ℚ) ^ E * (10 : ℚ) ^ k := by
    rw [← zpow_add₀ (by norm_num : (10 : ℚ) ≠ 0)]
    conv => rhs; rw [show E + k = (((E + k).toNat : ℕ) : ℤ) by omega]
    rw [zpow_natCast]; push_cast; rfl
  have h2 : (2 : ℚ) ^ (e - 1) = 2 * (2 : ℚ) ^ (e - 2) := by
    rw [show e - 1 = (e - 2) + 1 by ring, zpow_add₀ (by norm_num : (2 : ℚ) ≠ 0), zpow_one]; ring
  have : (((scalePQ (e - 2) E).1 * a : ℕ) : ℚ) = ((2 * 10 ^ (E + k).toNat * (scalePQ (e - 2) E).2 * b : ℕ) : ℚ) := by
    rw [Nat.cast_mul, Nat.cast_mul (_ * _) b, Nat.cast_mul (2 * _), Nat.cast_mul 2, h10, hP, hQ, ha, h2]
    push_cast; ring
  exact_mod_cast this

def ivOf (q : Nat) (e : Int) : Interval :=
  { v := 4 * q, lo := 4 * q - 2, hi := 4 * q + 2, e2 := e - 2, incl := decide (q % 2 = 0) }

theorem cand_scaled {a b K q : Nat} {e E : Int} (hq : 1 ≤ q) (ha : 0 < a)
    (hs : (scalePQ (e - 2) E).1 * a = 2 * K * (scalePQ (e - 2) E).2 * b) (D : Nat) :
    Cand (ivOf q e) E D ↔
      1 ≤ D ∧ (2 * q - 1) * a ≤ D * K * b ∧ D * K * b ≤ (2 * q + 1) * a
        ∧ (q % 2 = 1 → (2 * q - 1) * a < D * K * b ∧ D * K * b < (2 * q + 1) * a) := by
  rw [cand_iff]
  have hQ := (scalePQ_pos (e - 2) E).2
  have hlo : (ivOf q e).lo = 2 * (2 * q - 1) := by show 4 * q - 2 = _; omega
  have hhi : (ivOf q e).hi = 2 * (2 * q + 1) := by show 4 * q + 2 = _; omega
  have hincl : (ivOf q e).incl = false ↔ q % 2 = 1 := by
    show decide (q % 2 = 0) = false ↔ _
    rw [decide_eq_false_iff_not]; omega
  have he2 : (ivOf q e).e2 = e - 2 := rfl
  have hsc := fun x => cmp_scaled hs ha hQ x D
  rw [hlo, hhi, hincl, he2, (hsc _).1, (hsc _).2.2.1, (hsc _).2.1, (hsc _).2.2.2]

theorem normDec_id {m : Nat} (E : Int) (h : m % 10 ≠ 0) : normDec 20 m E = (m, E) := by
  show (if m ≠ 0 ∧ m % 10 = 0 then normDec 19 (m / 10) (E + 1) else (m, E)) = (m, E)
  rw [if_neg (fun hc => h hc.2)]

theorem facts_all (t : FTy) (e : Int) (h1 : t.denormalExponent ≤ e)
    (h2 : e ≤ ((2 ^ t.exponentSize.toNat - 2 : Nat) : Int) - t.exponentBias) : ∃ d, Facts t e d := by
  obtain ⟨s32, s64n, s64p⟩ := runLengths_sum
  cases t
  · have c1 : (((2 ^ FTy.f32.exponentSize.toNat - 2 : Nat) : Int) - FTy.f32.exponentBias) = 104 := by decide
    have c2 : FTy.f32.denormalExponent = -149 := rfl
    rw [c1] at h2; rw [c2] at h1
    exact facts_of_entries entries32 h1 (by rw [s32]; omega)
  · have c1 : (((2 ^ FTy.f64.exponentSize.toNat - 2 : Nat) : Int) - FTy.f64.exponentBias) = 971 := by decide
    have c2 : FTy.f64.denormalExponent = -1074 := rfl
    rw [c1] at h2; rw [c2] at h1
    by_cases h : e < 0
    · exact facts_of_entries entries64_neg h1 (by rw [s64n]; omega)
    · exact facts_of_entries entries64_nonneg (by omega) (by rw [s64p]; omega)

theorem prec_eq (t : FTy) : prec t = (fmtOf t).p := by cases t <;> rfl

theorem processTrailingZeros_spec (t : FTy) (E : Int) {s : Nat} (h0 : 0 < s) (hs : s < 2 ^ prec t) :
    ∃ j m, processTrailingZeros t s E = (m, i32 (E + (j : Nat))) ∧ s = m * 10 ^ j ∧ m % 10 ≠ 0 ∧ j ≤ 20 := by
  have key : ∃ j m, processTrailingZeros t s E = (m, i32 (E + (j : Nat))) ∧ s = m * 10 ^ j ∧ m % 10 ≠ 0 := by
    cases t
    · have hs' : s < 2 ^ 24 := hs
      exact LexVerif.Proof.DragonboxTrailing.processTrailingZeros_f32 E h0 (by omega)
    · have hs' : s < 2 ^ 53 := hs
      exact LexVerif.Proof.DragonboxTrailing.processTrailingZeros_f64 E h0 (by
        have : (2 : Nat) ^ 53 < 2 ^ 32 * 10 ^ 8 := by decide
        omega)
  obtain ⟨j, m, h1, h2, h3⟩ := key
  refine ⟨j, m, h1, h2, h3, ?_⟩
  by_contra hj
  have hj : 21 ≤ j := by omega
  have hm : 1 ≤ m := by
    rcases Nat.eq_zero_or_pos m with h | h
    · rw [h] at h3; simp at h3
    · exact h
  have h10 : 10 ^ 21 ≤ 10 ^ j := Nat.pow_le_pow_right (by decide) hj
  have : 10 ^ j ≤ m * 10 ^ j := Nat.le_mul_of_pos_left _ hm
  have hp : (2 : Nat) ^ prec t ≤ 2 ^ 54 := Nat.pow_le_pow_right (by decide) (by have := prec_le t; omega)
  have : (2 : Nat) ^ 54 < 10 ^ 21 := by decide
  omega

theorem scale_sub {c S X Y W A B W' : Nat} (hc : 0 < c) (hX : X * c = S * A) (hY : Y * c = S * B)
    (hW : W * c = S * W') (h : 2 * (A - B) ≤ W') : 2 * (X - Y) ≤ W := by
  apply Nat.le_of_mul_le_mul_right _ hc
  calc 2 * (X - Y) * c = 2 * (X * c - Y * c) := by rw [Nat.mul_assoc, Nat.sub_mul]
    _ = S * (2 * (A - B)) := by rw [hX, hY, ← Nat.mul_sub, Nat.mul_left_comm]
    _ ≤ S * W' := Nat.mul_le_mul_left _ h
    _ = W * c := hW.symm

theorem scale_close {P Q a b T q D : Nat} (hs : P * a = 2 * T * Q * b) (ha : 0 < a) (h : CloseTo a b T q D) :
    2 * (D * P - 4 * q * Q) ≤ P ∧ 2 * (4 * q * Q - D * P) ≤ P := by
  have eU : D * P * a = 2 * Q * (D * T * b) := by rw [Nat.mul_assoc, hs]; ring
  have eV : 4 * q * Q * a = 2 * Q * (2 * q * a) := by ring
  have eP : P * a = 2 * Q * (T * b) := by rw [hs]; ring
  exact ⟨scale_sub ha eU eV eP h.1, scale_sub ha eV eU eP h.2⟩

theorem kappa_small (t : FTy) : 1 ≤ t.kappa ∧ t.kappa ≤ 2 := by cases t <;> decide

/-- **the normal branch is correct** for every input that is not one of the two exceptional binary32 floats -/
theorem normal_ok_nonexc (t : FTy) (bits : Nat) (h0 : 0 < bits) (hfin : bits < (fmtOf t).infBits)
    (hm : bits &&& t.mantissaMask ≠ 0) (hexc : (t.exponent bits, t.mantissa bits) ∉ excFloats t) :
    dragonboxOk t bits = true := by
  obtain ⟨hiv, hq1, hq2, he1, he2, hqn⟩ := interval_normal t bits h0 hfin hm
  have hdec0 := toDecimal_normal t bits h0 hfin hm
  obtain ⟨d, F⟩ := facts_all t _ he1 he2
  rw [← prec_eq] at hq2 hqn
  rw [normal_eq_pure F rfl rfl hq1 hq2 hqn hexc] at hdec0
  have hiv' : interval (fmtOf t) bits = ivOf (t.mantissa bits) (t.exponent bits) := hiv
  have hmem := mem_shortest_fmtOf t h0 hfin
  have huni := @mem_shortest_fmtOf_of_unique t bits h0 hfin
  rw [hiv'] at hmem huni
  clear hiv hiv'
  generalize t.mantissa bits = q at *
  generalize t.exponent bits = e at *
  have S := setup F hq1
  have hN : 2 ^ (prec t + 1) = 2 * 2 ^ prec t := by rw [Nat.pow_succ]; ring
  have hwin : (e < t.fcPmHalfLower ∨ e > t.divBy5Threshold) → ¬ d.b ∣ (2 * q - 1) * d.a := by
    intro hw hdvd
    have hcop : Nat.Coprime d.b d.a := by rw [Nat.Coprime, Nat.gcd_comm]; exact F.hgcd
    have hb1 : d.b ∣ 2 * q - 1 := hcop.dvd_of_dvd_mul_right hdvd
    rcases F.hwin hw with h2 | hbig
    · obtain ⟨k, hk⟩ := (Nat.dvd_of_mod_eq_zero h2).trans hb1
      omega
    · have := Nat.le_of_dvd (by omega) hb1
      omega
  obtain ⟨hk1, hk2⟩ := kappa_small t
  obtain ⟨_, hK1, hK2⟩ := F.hK
  have hE0 : i32 (d.minusK + t.kappa) = d.minusK + t.kappa := DragonboxArith.i32_id (by omega) (by omega)
  have hE1 : i32 (d.minusK + t.kappa + 1) = d.minusK + t.kappa + 1 := DragonboxArith.i32_id (by omega) (by omega)
  -- the two scales of the algorithm, `10^(κ+1)` and `10^κ` times `10^(-k)`
  have hs1 := scale_of_value (E := d.minusK + t.kappa + 1) F.hpos.1 (x_value F) (by omega)
  have hs0 := scale_of_value (E := d.minusK + t.kappa) F.hpos.1 (x_value F) (by omega)
  rw [show (d.minusK + t.kappa + 1 + -d.minusK).toNat = t.kappa.toNat + 1 by omega, Nat.pow_succ,
    Nat.mul_comm (10 ^ t.kappa.toNat) 10] at hs1
  rw [show (d.minusK + t.kappa + -d.minusK).toNat = t.kappa.toNat by omega] at hs0
  have hbigiff := fun D => cand_scaled (K := 10 * 10 ^ t.kappa.toNat) (e := e) (E := d.minusK + t.kappa + 1)
    hq1 F.hpos.2 hs1 D
  have hsmalliff := fun D => cand_scaled (K := 10 ^ t.kappa.toNat) (e := e) (E := d.minusK + t.kappa)
    hq1 F.hpos.2 hs0 D
  unfold dragonboxOk
  rw [hdec0]
  simp only []
  rcases pure_correct S e (d.minusK + t.kappa) hq2 hwin with ⟨s, hbig, huniq, hsp, hres⟩ | ⟨D, hnone, hclose, hres⟩
  · -- the only multiple of `10^(κ+1)` in the interval, trailing zeros removed
    rw [hres]
    obtain ⟨j, m, hr1, hr2, hr3, hj⟩ := processTrailingZeros_spec t (i32 (i32 (d.minusK + t.kappa) + 1)) hbig.1 hsp
    rw [hr1, hE0, hE1, DragonboxArith.i32_id (by omega) (by omega), normDec_id _ hr3]
    exact List.contains_iff_mem.mpr
      (huni ((hbigiff s).mpr hbig) (fun D hD => huniq D ((hbigiff D).mp hD)) hr2 hr3)
  · -- no multiple of `10^(κ+1)` in the interval; `D` is within half a unit of the value at scale `10^κ`
    rw [hres, hE0]
    obtain ⟨hD1, hDlo, hDhi⟩ := close_inside S D hclose
    have h10 : D % 10 ≠ 0 := by
      intro h10
      obtain ⟨D', rfl⟩ : ∃ D', D = 10 * D' := ⟨D / 10, by omega⟩
      apply hnone D'
      have e1 : D' * (10 * 10 ^ t.kappa.toNat) * d.b = 10 * D' * 10 ^ t.kappa.toNat * d.b := by ring
      exact ⟨by omega, by rw [e1]; exact Nat.le_of_lt hDlo, by rw [e1]; exact Nat.le_of_lt hDhi,
        fun _ => ⟨by rw [e1]; exact hDlo, by rw [e1]; exact hDhi⟩⟩
    rw [normDec_id _ h10]
    have hc : Cand (ivOf q e) (d.minusK + t.kappa) D :=
      (hsmalliff D).mpr ⟨hD1, Nat.le_of_lt hDlo, Nat.le_of_lt hDhi, fun _ => ⟨hDlo, hDhi⟩⟩
    have hcl := scale_close hs0 F.hpos.2 hclose
    exact List.contains_iff_mem.mpr ((hmem D _).mpr
      ⟨hc, fun D' hD' => hnone D' ((hbigiff D').mp hD'), fun D' _ => best_of_close (iv := ivOf q e) hcl D'⟩)

/-- the two binary32 floats whose centre-integrality flag is wrong, evaluated: the flag is not consulted on them -/
theorem exc_eval : dragonboxOk .f32 585281266 = true ∧ dragonboxOk .f32 593669874 = true := by decide +kernel

theorem exc_ok (t : FTy) (bits : Nat) (hfin : bits < (fmtOf t).infBits)
    (hexc : (t.exponent bits, t.mantissa bits) ∈ excFloats t) : dragonboxOk t bits = true := by
  cases t
  · obtain ⟨k, q, hb, _, _, hdec, _⟩ := decode_kq (wf_fmtOf .f32) hfin
    obtain ⟨hm, he, _⟩ := accessors_decode .f32 bits
    simp only [hdec] at hm he
    have hb' : bits = k * 2 ^ 23 + q := hb
    have he' : FTy.f32.exponent bits = (k : Int) - 149 := he
    have hx : (FTy.f32.exponent bits, FTy.f32.mantissa bits) = (-81, 14855922)
        ∨ (FTy.f32.exponent bits, FTy.f32.mantissa bits) = (-80, 14855922) := by
      simpa [excFloats] using hexc
    rcases hx with hx | hx
    · obtain ⟨hx1, hx2⟩ := Prod.mk.inj hx
      have : bits = 585281266 := by omega
      rw [this]
      exact exc_eval.1
    · obtain ⟨hx1, hx2⟩ := Prod.mk.inj hx
      have : bits = 593669874 := by omega
      rw [this]
      exact exc_eval.2
  · simp [excFloats] at hexc

/-- **`compute_nearest_normal` is correct**: every finite non-zero float with a non-zero mantissa field — all normal and
subnormal binary32 and binary64 inputs of the branch — is written as a pair of `Spec.shortest` -/
theorem normal_ok (t : FTy) (bits : Nat) (h0 : 0 < bits) (hfin : bits < (fmtOf t).infBits)
    (hm : bits &&& t.mantissaMask ≠ 0) : dragonboxOk t bits = true := by
  by_cases hexc : (t.exponent bits, t.mantissa bits) ∈ excFloats t
  · exact exc_ok t bits hfin hexc
  · exact normal_ok_nonexc t bits h0 hfin hm hexc

end LexVerif.Proof.DragonboxNormalSpec
