import LexVerif.Proof.SepFree
import LexVerif.Proof.Numeral
/-!
# Proof.SepFree8 — the 8-digit fast paths (`parse_8digits`, the 8-digit part of `parse_u64_digits`)
agree with digit-by-digit parsing (radix ≤ 10, contiguous iterator, release build).
-/
namespace LexVerif.Proof.Sep
open LexVerif LexVerif.Model
open LexVerif.Props.C12 LexVerif.Proof.IterSpec

theorem radix8_pow (r : Nat) (h : r ≤ 10) : radix8 r = r ^ 8 := radix8_eq ⟨r, by omega⟩

def horner (r : Nat) (ds : List Nat) (a : Nat) : Nat := ds.foldl (fun acc d => acc * r + d) a

theorem horner_closed (r : Nat) (ds : List Nat) (a : Nat) : horner r ds a = a * r ^ ds.length + horner r ds 0 :=
  Spec.foldl_horner r ds a

theorem horner_mod (r M : Nat) (ds : List Nat) (a : Nat) : horner r ds (a % M) % M = horner r ds a % M := by
  rw [horner_closed r ds (a % M), horner_closed r ds a, Nat.add_mod, Nat.mul_mod, Nat.mod_mod, ← Nat.mul_mod, ← Nat.add_mod]

theorem foldMantissa_mod (r : Nat) (ds : List Nat) (a : Nat) :
    foldMantissa r a ds % pow2_64 = horner r ds a % pow2_64 := by
  induction ds generalizing a with
  | nil => simp [foldMantissa, horner]
  | cons d ds ih =>
    simp only [foldMantissa, List.foldl_cons, horner] at *
    rw [ih]
    exact horner_mod r pow2_64 ds (a * r + d)

theorem foldMantissa_lt (r : Nat) (ds : List Nat) (a : Nat) (h : ds ≠ []) : foldMantissa r a ds < pow2_64 := by
  induction ds generalizing a with
  | nil => exact absurd rfl h
  | cons d ds ih =>
    simp only [foldMantissa, List.foldl_cons]
    cases ds with
    | nil => simp only [List.foldl_nil]; exact Nat.mod_lt _ (by decide)
    | cons e es => exact ih _ (by simp)

theorem foldMantissa_eq (r : Nat) (ds : List Nat) (a : Nat) (h : ds ≠ []) :
    foldMantissa r a ds = (a * r ^ ds.length + horner r ds 0) % pow2_64 := by
  rw [← horner_closed, ← foldMantissa_mod, Nat.mod_eq_of_lt (foldMantissa_lt r ds a h)]

theorem foldMantissa_append (r a : Nat) (xs ys : List Nat) :
    foldMantissa r a (xs ++ ys) = foldMantissa r (foldMantissa r a xs) ys := by
  simp [foldMantissa, List.foldl_append]

theorem val8_step (r m : Nat) (bs : List Nat) (hr : r ≤ 10) (hl : bs.length = 8) :
    (m * radix8 r + val8Digits r bs) % pow2_64 = foldMantissa r m (bs.map (· - 48)) := by
  have hne : bs.map (· - 48) ≠ [] := by
    intro h; have := congrArg List.length h; simp [hl] at this
  rw [foldMantissa_eq r _ m hne, radix8_pow r hr, List.length_map, hl]
  congr 2
  simp [val8Digits, horner, List.foldl_map]

theorem digit_of_is8 (r x : Nat) (hr : r ≤ 10) (h : (48 ≤ x && x < 48 + r) = true) :
    charToDigit x r = some (x - 48) ∧ charToValidDigit x r = x - 48 := by
  simp only [Bool.and_eq_true, decide_eq_true_eq] at h
  have hv : charToValidDigit x r = x - 48 := by
    simp only [charToValidDigit, hr, if_true]
    omega
  refine ⟨?_, hv⟩
  simp only [charToDigit, hv]
  split
  · rfl
  · omega

theorem digitsPrefix_is8 (r : Nat) (hr : r ≤ 10) (bs rest : List Nat) (h : is8Digits r bs = true) :
    digitsPrefix r (bs ++ rest) = bs.map (· - 48) ++ digitsPrefix r rest := by
  induction bs with
  | nil => simp
  | cons x xs ih =>
    simp only [is8Digits, List.all_cons, Bool.and_eq_true] at h
    have hx := (digit_of_is8 r x hr (by simpa using h.1)).1
    simp only [List.cons_append, digitsPrefix, hx, List.map_cons]
    rw [ih (by simpa [is8Digits] using h.2)]

theorem adv_add (c : Cfg) (k : Comp) (n m : Nat) (b : Bytes) : adv c k m (adv c k n b) = adv c k (n + m) b := by
  cases k <;> cases hf : c.feats.format <;> simp [adv, hf, Nat.add_assoc]

theorem blocks8_spec (r : Nat) (hr : r ≤ 10) (s : List Nat) : ∀ (lim i m : Nat),
    (digitsPrefix r (s.drop i)).length
      = 8 * blocks8 r s lim i + (digitsPrefix r (s.drop (i + 8 * blocks8 r s lim i))).length ∧
    foldMantissa r (acc8 r s (blocks8 r s lim i) i m) (digitsPrefix r (s.drop (i + 8 * blocks8 r s lim i)))
      = foldMantissa r m (digitsPrefix r (s.drop i))
  | 0, i, m => by simp [blocks8, acc8]
  | lim + 1, i, m => by
    unfold blocks8
    split
    · next h =>
      have hl : (at8 s i).length = 8 := by simp only [at8, List.length_take, List.length_drop]; omega
      have hdrop : s.drop i = at8 s i ++ s.drop (i + 8) := by
        rw [at8, ← List.drop_drop, List.take_append_drop]
      obtain ⟨h2, h3⟩ := blocks8_spec r hr s lim (i + 8)
        ((m * radix8 r + val8Digits r (at8 s i)) % pow2_64)
      have e : i + 8 * (blocks8 r s lim (i + 8) + 1) = i + 8 + 8 * blocks8 r s lim (i + 8) := by omega
      rw [e, acc8, h3]
      refine ⟨?_, ?_⟩
      · conv => lhs; rw [hdrop, digitsPrefix_is8 _ hr _ _ h.2, List.length_append, List.length_map, hl, h2]
        omega
      · conv => rhs; rw [hdrop, digitsPrefix_is8 _ hr _ _ h.2, foldMantissa_append, ← val8_step _ _ _ hr hl]
    · simp [acc8]

theorem blocks8_lt_fuel (r : Nat) (s : List Nat) (lim i fuel : Nat) (h : s.length - i < fuel) :
    blocks8 r s lim i < fuel := by
  by_cases hv : i ≤ s.length
  · have := blocks8_le r s lim i hv; omega
  · cases lim with
    | zero => simp only [blocks8]; omega
    | succ n => unfold blocks8; rw [if_neg (by omega)]; omega

theorem parse8Loop_spec (c : Cfg) (k : Comp) (hd : c.debug = false) (hr : c.mantissaRadix ≤ 10) :
    ∀ (fuel : Nat) (b : Bytes) (m : Nat), b.slc.length - b.index < fuel →
      ∃ j m1, parse8Loop c k fuel b m = .ok (m1, adv c k (8 * j) b) ∧
        (digitsPrefix c.mantissaRadix (b.slc.drop b.index)).length
          = 8 * j + (digitsPrefix c.mantissaRadix (b.slc.drop (b.index + 8 * j))).length ∧
        foldMantissa c.mantissaRadix m1 (digitsPrefix c.mantissaRadix (b.slc.drop (b.index + 8 * j)))
          = foldMantissa c.mantissaRadix m (digitsPrefix c.mantissaRadix (b.slc.drop b.index)) := by
  intro fuel b m hf
  cases hct : c.iterContiguous k with
  | false =>
    obtain ⟨n, rfl⟩ : ∃ n, fuel = n + 1 := ⟨fuel - 1, by omega⟩
    refine ⟨0, m, ?_, by simp, by simp⟩
    unfold parse8Loop
    simp [tryParse8_skip hd hct, bind, Except.bind, pure, Except.pure, adv_zero]
  | true =>
    obtain ⟨h2, h3⟩ := blocks8_spec c.mantissaRadix hr b.slc fuel b.index m
    refine ⟨_, _, ?_, h2, h3⟩
    rw [parse8Loop_eq hct (fun h => by rw [hd] at h; cases h) fuel b m,
      if_pos (blocks8_lt_fuel _ _ _ _ _ hf), adv_eq_mv]

end LexVerif.Proof.Sep
