/-!
# Proof.MulHi — the 64×64 → 64 multiplication of `bellerophon::mul` and `compact::mul`

Both sources form the four 32×32 partial products, add the halves of the middle column with the rounding bit `1 << 31`, and
add the carries to the high product. `schoolbook_eq`: the result is the 128-bit product rounded half-up to its high 64 bits,
`(x·y + 2^63) / 2^64`, and no `u64` operation on the way wraps. The recombination itself (`recombine`) is an identity between
natural numbers and needs no bound: split the partial products `B`, `C`, `D` at 32 bits and everything is linear. Mathlib-free.
-/
namespace LexVerif.Proof.MulHi

theorem recombine (A B C D : Nat) :
    A + B / 2 ^ 32 + C / 2 ^ 32 + (B % 2 ^ 32 + C % 2 ^ 32 + D / 2 ^ 32 + 2 ^ 31) / 2 ^ 32
      = (A * 2 ^ 64 + (B + C) * 2 ^ 32 + D + 2 ^ 63) / 2 ^ 64 := by
  have hb := Nat.div_add_mod B (2 ^ 32)
  have hc := Nat.div_add_mod C (2 ^ 32)
  have hd := Nat.div_add_mod D (2 ^ 32)
  have hd0 := Nat.mod_lt D (Nat.two_pow_pos 32)
  generalize B / 2 ^ 32 = b1, B % 2 ^ 32 = b0, C / 2 ^ 32 = c1, C % 2 ^ 32 = c0, D / 2 ^ 32 = d1, D % 2 ^ 32 = d0 at *
  -- high part `A + b1 + c1`, middle column `b0 + c0 + d1 + 2^31` in units of `2^32`, and `d0 < 2^32` below it
  have e : A * 2 ^ 64 + (B + C) * 2 ^ 32 + D + 2 ^ 63
      = ((b0 + c0 + d1 + 2 ^ 31) * 2 ^ 32 + d0) + (A + b1 + c1) * (2 ^ 32 * 2 ^ 32) := by omega
  have h32 := Nat.two_pow_pos 32
  rw [e, show (2 : Nat) ^ 64 = 2 ^ 32 * 2 ^ 32 from by decide, Nat.add_mul_div_right _ _ (Nat.mul_pos h32 h32),
    ← Nat.div_div_eq_div_mul, Nat.add_comm _ d0, Nat.add_mul_div_right _ _ h32, Nat.div_eq_of_lt hd0, Nat.zero_add,
    Nat.add_comm]

theorem split32 (x y : Nat) :
    x * y = x / 2 ^ 32 * (y / 2 ^ 32) * 2 ^ 64 + (x / 2 ^ 32 * (y % 2 ^ 32) + x % 2 ^ 32 * (y / 2 ^ 32)) * 2 ^ 32
      + x % 2 ^ 32 * (y % 2 ^ 32) := by
  have hx := Nat.div_add_mod x (2 ^ 32)
  have hy := Nat.div_add_mod y (2 ^ 32)
  generalize x / 2 ^ 32 = x1, x % 2 ^ 32 = x0, y / 2 ^ 32 = y1, y % 2 ^ 32 = y0 at *
  rw [← hx, ← hy, show (2 : Nat) ^ 64 = 2 ^ 32 * 2 ^ 32 from by decide]
  generalize (2 : Nat) ^ 32 = h
  rw [Nat.add_mul, Nat.mul_add, Nat.mul_add, Nat.add_mul]
  ac_rfl

theorem round_hi_lt {x y : Nat} (hx : x < 2 ^ 64) (hy : y < 2 ^ 64) : (x * y + 2 ^ 63) / 2 ^ 64 < 2 ^ 64 := by
  have hP : x * y ≤ (2 ^ 64 - 1) * (2 ^ 64 - 1) := Nat.mul_le_mul (by omega) (by omega)
  generalize x * y = P at *
  omega

/-- `mul` of bellerophon.rs and of compact.rs on the significands, every intermediate a `u64` -/
def schoolbook (x y : Nat) : Nat :=
  let A := x / 2 ^ 32 * (y / 2 ^ 32) % 2 ^ 64
  let B := x / 2 ^ 32 * (y % 2 ^ 32) % 2 ^ 64
  let C := x % 2 ^ 32 * (y / 2 ^ 32) % 2 ^ 64
  let D := x % 2 ^ 32 * (y % 2 ^ 32) % 2 ^ 64
  (A + B / 2 ^ 32 + C / 2 ^ 32 + ((B % 2 ^ 32 + C % 2 ^ 32 + D / 2 ^ 32) % 2 ^ 64 + 2 ^ 31) % 2 ^ 64 / 2 ^ 32) % 2 ^ 64

theorem schoolbook_eq {x y : Nat} (hx : x < 2 ^ 64) (hy : y < 2 ^ 64) : schoolbook x y = (x * y + 2 ^ 63) / 2 ^ 64 := by
  have h64 : ∀ {a b : Nat}, a < 2 ^ 32 → b < 2 ^ 32 → a * b < 2 ^ 64 := fun ha hb =>
    Nat.lt_of_lt_of_eq (Nat.mul_lt_mul'' ha hb) (by decide)
  have hx1 : x / 2 ^ 32 < 2 ^ 32 := by omega
  have hy1 : y / 2 ^ 32 < 2 ^ 32 := by omega
  have hx0 : x % 2 ^ 32 < 2 ^ 32 := Nat.mod_lt _ (by decide)
  have hy0 : y % 2 ^ 32 < 2 ^ 32 := Nat.mod_lt _ (by decide)
  have hlt := round_hi_lt hx hy
  have hD := h64 hx0 hy0
  unfold schoolbook
  simp only []
  rw [Nat.mod_eq_of_lt (h64 hx1 hy1), Nat.mod_eq_of_lt (h64 hx1 hy0), Nat.mod_eq_of_lt (h64 hx0 hy1),
    Nat.mod_eq_of_lt hD]
  rw [split32 x y] at hlt ⊢
  generalize x / 2 ^ 32 * (y / 2 ^ 32) = A, x / 2 ^ 32 * (y % 2 ^ 32) = B, x % 2 ^ 32 * (y / 2 ^ 32) = C,
    x % 2 ^ 32 * (y % 2 ^ 32) = D at *
  -- the middle column is below `3·2^32`
  have hm : B % 2 ^ 32 + C % 2 ^ 32 + D / 2 ^ 32 + 2 ^ 31 < 2 ^ 64 := by
    have := Nat.mod_lt B (Nat.two_pow_pos 32); have := Nat.mod_lt C (Nat.two_pow_pos 32)
    have : D / 2 ^ 32 < 2 ^ 32 := by omega
    omega
  rw [Nat.mod_eq_of_lt (Nat.lt_of_le_of_lt (Nat.le_add_right _ _) hm), Nat.mod_eq_of_lt hm, recombine,
    Nat.mod_eq_of_lt hlt]

end LexVerif.Proof.MulHi
