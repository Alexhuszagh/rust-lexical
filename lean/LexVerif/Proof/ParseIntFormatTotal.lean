import LexVerif.Proof.ParseIntFormatSimple
import LexVerif.Proof.ParseNumberTotal
/-!
# Proof.ParseIntFormatTotal — the format-feature integer model is total (C10, release build, EVERY valid format)

Invariant carried through every phase of `Model.ParseIntFormat.algorithm`: the iterator is a later state of the same
buffer (`PNTotal.Adv`: same slice, cursor inside the buffer, digit counts grow at most as fast as the cursor). From it:
no unchecked step leaves the buffer (`Err.fault "unchecked"`), no loop runs out of fuel (`Err.fault "fuel"`: every
`next()` that yields a byte moves the cursor), `unreachable!()` of the separator dispatch is excluded by
`format.is_valid()`, and every index handed to `Ok` / `Error` is `≤ length` — including the `usize` subtractions
`cursor - zeros`, `cursor - 1` (they cannot wrap: `zeros ≤ cursor` follows from the count part of `Adv`).
Separators (all 15 skip predicates), base prefix, base suffix and `no_integer_leading_zeros` are all covered.

The algorithm is walked once, for `algorithm_complete` and `algorithm_partial` together: `partial_` is read in one place
(`invalidDigit`), so the two runs do the same iterator operations until its first call. `Out n` lists what the pair of
runs can return on a buffer of length `n`, `Step n` says that a statement sequence falls through in the same state in
both runs or returns an `Out`; there is one `*_step` lemma per phase. Totality of either run is a projection
(`Out.total`), and so is the agreement of the two (`Proof/ParseIntFormatAgree.lean`).
-/
namespace LexVerif.Proof.PIF
open LexVerif LexVerif.Spec LexVerif.Model LexVerif.Model.ParseIntFormat LexVerif.Proof.PNTotal

/-- acceptable results: `Ok` with a count inside the input, `Error::Kind(i)` with `i` inside the input; never the
model's FAULT (unchecked step / slice / fuel) and never PANIC -/
def Total (len : Nat) : Res → Prop
  | .ok (_, n) => n ≤ len
  | .error (.err _ i) => i ≤ len
  | .error _ => False

theorem Total.mono {n m : Nat} (h : n ≤ m) {r : Res} (hr : Total n r) : Total m r := by
  cases r with
  | ok p => obtain ⟨v, k⟩ := p; simp only [Total] at *; omega
  | error x => cases x <;> simp only [Total] at * <;> omega


def Inb (n : Nat) (b : Bytes) : Prop := b.slc.length = n ∧ b.index ≤ n

theorem Inb.adv {n : Nat} {b b' : Bytes} (h : Inb n b) (ha : Adv b b') : Inb n b' :=
  ⟨by rw [ha.len]; exact h.1, by have := ha.valid; rw [h.1] at this; exact this⟩

theorem Inb.valid {n : Nat} {b : Bytes} (h : Inb n b) : b.index ≤ b.slc.length := by rw [h.1]; exact h.2

/-- a statement sequence with early return: falls through with the iterator inside the buffer, or returns a total result -/
def FlowTot (n : Nat) : Flow (Bytes × Nat) → Prop
  | .ok (b, _) => Inb n b
  | .error r => Total n r


variable {e : Env}

theorem iterNext_tot2 (hc : Rel e.c) (b : Bytes) (hv : b.index ≤ b.slc.length) :
    ∃ v b', iterNext e.c .integer b = .ok (v, b') ∧ Adv b b' ∧ (v ≠ none → b.index < b'.index) := by
  have hge := IterSpec.peekIdx_ge e.c .integer b.slc (b.iterCount e.c .integer == 0) b.index
  rw [IterSpec.iterNext_eq (hc.hs _)]
  cases hx : b.slc[IterSpec.pk e.c .integer b]? with
  | none => exact ⟨_, _, rfl, (moved_pk .integer b hv).adv, fun h => absurd rfl h⟩
  | some x =>
    have hlt := PNDebug.get_lt hx
    refine ⟨_, _, rfl, Adv.mv .integer (by unfold IterSpec.pk at *; split <;> omega) hlt, fun _ => ?_⟩
    rw [IterSpec.mv_index]; unfold IterSpec.pk; omega

theorem loop8_noerr (t : IntTy) (r : Nat) (sub : Bool) (rest : List Nat) (v cur : Nat) (m : ParseInt.MRes) :
    ParseInt.loop8 t r sub rest v cur ≠ .error m := by
  obtain ⟨k, v', -, he⟩ := loop8_ok t r sub rest v cur
  rw [he]
  exact fun h => nomatch h

theorem loop4_noerr (t : IntTy) (r : Nat) (sub : Bool) (rest : List Nat) (v cur : Nat) (m : ParseInt.MRes) :
    ParseInt.loop4 t r sub rest v cur ≠ .error m := by
  obtain ⟨k, v', -, he⟩ := loop4_ok t r sub rest v cur
  rw [he]
  exact fun h => nomatch h

theorem multiLoop_ok (hc : Rel e.c) {n : Nat} (sub : Bool) (b : Bytes) (value : Nat) (hb : Inb n b) :
    ∃ b' v', multiLoop e sub b value = .ok (b', v') ∧ Inb n b' := by
  have hlen : b.asSlice.length = n - b.index := by simp only [Bytes.asSlice, List.length_drop, hb.1]
  unfold multiLoop
  simp only [hc.hd, Bool.false_and, Bool.false_eq_true, if_false]
  split
  · have key : ∃ k v', k ≤ b.asSlice.length ∧
        (if (e.contig && ParseInt.canMulti e.c.feats e.radix && !e.noMulti && decide (e.t.bits ≥ 64) &&
            decide (b.bufferLength ≥ 8)) = true
          then ParseInt.loop8 e.t e.radix sub b.asSlice value b.index
          else ParseInt.loop4 e.t e.radix sub b.asSlice value b.index) = .ok (b.asSlice.drop k, v', b.index + k) := by
      split
      · exact loop8_ok _ _ _ _ _ _
      · exact loop4_ok _ _ _ _ _ _
    obtain ⟨k, v', hk, he⟩ := key
    rw [he]
    exact ⟨_, _, rfl, hb.1, by have := hb.2; simp only; omega⟩
  · exact ⟨b, value, rfl, hb⟩

theorem multiLoop_total (hc : Rel e.c) {n : Nat} (sub : Bool) (b : Bytes) (value : Nat) (hb : Inb n b) :
    FlowTot n (multiLoop e sub b value) := by
  obtain ⟨b', v', h, hb'⟩ := multiLoop_ok hc sub b value hb
  rw [h]
  exact hb'

theorem FlowTot.mono {n m : Nat} (h : n ≤ m) {x : Flow (Bytes × Nat)} (hx : FlowTot n x) :
    match x with | .ok _ => True | .error r => Total m r := by
  cases x with
  | ok p => trivial
  | error r => exact Total.mono h hx

/-- `parse_sign` on a fresh buffer (`parseSign_release`): its errors carry index 0, the cursor moves over a sign byte
only, and the counts stay zero (`skipZeros_le` needs that) -/
theorem parseSign_total (hc : Rel e.c) (s : List Nat) :
    (∀ x, ParseIntFormat.parseSign e (Bytes.new s) = .error x → Total s.length (.error x)) ∧
    (∀ neg b, ParseIntFormat.parseSign e (Bytes.new s) = .ok (neg, b) → Inb s.length b ∧ csum b = 0) := by
  rw [parseSign_release e hc.hd]
  have hl := signLen_le e.t s
  split
  · exact ⟨fun x h => by cases h; exact Nat.zero_le _, fun _ _ h => nomatch h⟩
  · split
    · exact ⟨fun x h => by cases h; exact Nat.zero_le _, fun _ _ h => nomatch h⟩
    · exact ⟨fun _ h => (nomatch h), fun _ _ h => by cases h; exact ⟨⟨rfl, hl⟩, rfl⟩⟩

/-- from a buffer whose counts are zero, the digit count cannot grow past the cursor: the difference `skip_zeros`
reports is at most the new cursor -/
theorem iterCount_diff_le (c : Cfg) {b b' : Bytes} (ha : Adv b b') (h0 : csum b = 0) :
    b'.iterCount c .integer - b.iterCount c .integer ≤ b'.index := by
  have hcnt := ha.cnt
  simp only [Bytes.iterCount]
  split
  · omega
  · simp only [csum] at *; omega

/-- the base-prefix test returns `Empty` at an index inside the buffer (a prefix with nothing behind it) or falls through
with the iterator moved forward inside the buffer -/
theorem readPrefix_cases (hc : Rel e.c) {n : Nat} (b1 : Bytes) (hb1 : Inb n b1) (zeros start : Nat) :
    (∃ i, i ≤ n ∧ readPrefix e b1 zeros start = .error (err "Empty" i)) ∨
    (∃ p b2 st, readPrefix e b1 zeros start = .ok (p, b2, st) ∧ Inb n b2 ∧ b1.index ≤ b2.index) := by
  obtain ⟨hit, b2, hr, ha2⟩ := readIfValue_tot hc .integer e.c.basePrefix e.c.caseSensitiveBasePrefix b1 hb1.valid
  have hb2 := hb1.adv ha2
  unfold readPrefix
  split
  · rw [hr]
    cases hit with
    | true =>
      simp only
      split
      · exact .inl ⟨_, hb2.2, rfl⟩
      · exact .inr ⟨_, _, _, rfl, hb2, ha2.mono⟩
    | false => exact .inr ⟨_, _, _, rfl, hb2, ha2.mono⟩
  · exact .inr ⟨_, _, _, rfl, hb1, Nat.le_refl _⟩

theorem readPrefix_total (hc : Rel e.c) {n : Nat} (b1 : Bytes) (hb1 : Inb n b1) (zeros start : Nat) :
    (∀ r, readPrefix e b1 zeros start = .error r → Total n r) ∧
    (∀ p b2 st, readPrefix e b1 zeros start = .ok (p, b2, st) → Inb n b2 ∧ b1.index ≤ b2.index) := by
  rcases readPrefix_cases hc b1 hb1 zeros start with ⟨i, hi, h⟩ | ⟨p, b2, st, h, hb2, hle⟩ <;> rw [h]
  · exact ⟨fun r hr => by cases hr; exact hi, fun _ _ _ hr => nomatch hr⟩
  · exact ⟨fun _ hr => (nomatch hr), fun _ _ _ hr => by cases hr; exact ⟨hb2, hle⟩⟩

/-- the returns of the complete and of the partial run on a buffer of length `n`; `fin` = the phase may also return
`$into_ok!` at the end of the buffer (a digit loop does not: `fin = false`) -/
inductive Out (n : Nat) : Bool → Res → Res → Prop
  | err {fin : Bool} (k : String) (i : Nat) (h : i ≤ n) : Out n fin (err k i) (err k i)
  /-- `invalid_digit!` at `i < n`: `InvalidDigit(i)` against `$into_ok!(value, i, count)` -/
  | invOk {fin : Bool} (v : Int) (i : Nat) (h : i < n) : Out n fin (err "InvalidDigit" i) (.ok (v, i))
  | invEmpty {fin : Bool} (i : Nat) (h : i < n) : Out n fin (err "InvalidDigit" i) (err "Empty" i)
  /-- `$into_ok!` at the end of the buffer -/
  | done (v : Int) : Out n true (.ok (v, n)) (.ok (v, n))

theorem Out.total {n : Nat} {f : Bool} {rc rp : Res} (h : Out n f rc rp) : Total n rc ∧ Total n rp := by
  cases h <;> refine ⟨?_, ?_⟩ <;> show _ ≤ _ <;> omega

theorem Out.mono {m n : Nat} (hmn : m ≤ n) {f : Bool} {rc rp : Res} (h : Out m false rc rp) : Out n f rc rp := by
  cases h with
  | err k i h => exact .err k i (by omega)
  | invOk v i h => exact .invOk v i (by omega)
  | invEmpty i h => exact .invEmpty i (by omega)

/-- the two runs of a statement sequence with early `return`: the same fall-through state, inside the buffer, or an
`Out` -/
def Step (n : Nat) (f : Bool) (xc xp : Flow (Bytes × Nat)) : Prop :=
  (∃ b v, Inb n b ∧ xc = .ok (b, v) ∧ xp = .ok (b, v)) ∨
    (∃ rc rp, Out n f rc rp ∧ xc = .error rc ∧ xp = .error rp)

theorem Step.ok {n : Nat} {f : Bool} {b : Bytes} (hb : Inb n b) (v : Nat) : Step n f (.ok (b, v)) (.ok (b, v)) :=
  Or.inl ⟨b, v, hb, rfl, rfl⟩

theorem Step.ret {n : Nat} {f : Bool} {rc rp : Res} (h : Out n f rc rp) : Step n f (.error rc) (.error rp) :=
  Or.inr ⟨rc, rp, h, rfl, rfl⟩

theorem Step.total {n : Nat} {f : Bool} {xc xp : Flow (Bytes × Nat)} (h : Step n f xc xp) :
    FlowTot n xc ∧ FlowTot n xp := by
  rcases h with ⟨b, v, hb, rfl, rfl⟩ | ⟨rc, rp, ho, rfl, rfl⟩
  · exact ⟨hb, hb⟩
  · exact ho.total

variable {c : Cfg} {t : IntTy} {nm : Bool}

theorem intoOk_out {n : Nat} (value idx cnt : Nat) (h : idx = n) :
    Out n true (intoOk ⟨c, t, false, nm⟩ value idx cnt) (intoOk ⟨c, t, true, nm⟩ value idx cnt) := by
  subst h
  have hrq : (⟨c, t, true, nm⟩ : Env).requiredDigits = (⟨c, t, false, nm⟩ : Env).requiredDigits := rfl
  simp only [intoOk, hrq]
  split
  · exact .err _ _ (Nat.le_refl _)
  · exact .done _

theorem invalidDigit_out {n : Nat} (value idx cnt : Nat) (h1 : 1 ≤ idx) (h : idx ≤ n) :
    Out n false (invalidDigit ⟨c, t, false, nm⟩ value idx cnt) (invalidDigit ⟨c, t, true, nm⟩ value idx cnt) := by
  have hs : usizeSub c.debug idx 1 = .ok (idx - 1) := by simp [usizeSub, h1]
  simp only [invalidDigit, hs, Bool.false_eq_true, if_false, if_true]
  unfold intoOk
  split
  · exact .invEmpty _ (by omega)
  · exact .invOk _ _ (by omega)

theorem fmtInvalidDigit_step (hc : Rel c) {n : Nat} (b : Bytes) (hb : Inb n b) (h1 : 1 ≤ b.index)
    (ch start value : Nat) (isEnd : Bool) :
    (fmtInvalidDigit ⟨c, t, false, nm⟩ b ch start value isEnd = .brk ∧
      fmtInvalidDigit ⟨c, t, true, nm⟩ b ch start value isEnd = .brk) ∨
    (∃ rc rp, fmtInvalidDigit ⟨c, t, false, nm⟩ b ch start value isEnd = .ret rc ∧
      fmtInvalidDigit ⟨c, t, true, nm⟩ b ch start value isEnd = .ret rp ∧ Out n false rc rp) := by
  have hd := hc.hd
  have fin : ∀ b' : Bytes, Inb n b' → 1 ≤ b'.index →
      Out n false (invalidDigit ⟨c, t, false, nm⟩ value b'.cursor (b'.iterCount c .integer))
        (invalidDigit ⟨c, t, true, nm⟩ value b'.cursor (b'.iterCount c .integer)) :=
    fun b' hb' h1' => invalidDigit_out _ _ _ h1' hb'.2
  unfold fmtInvalidDigit
  simp only [hd, Bool.false_and, Bool.false_eq_true, if_false, Env.contig]
  by_cases hsuf : c.baseSuffix ≠ 0
  · rw [if_pos hsuf, if_pos hsuf]
    have hsub : usizeSub false b.cursor start =
        .ok (if start ≤ b.cursor then b.cursor - start else b.cursor + 2 ^ 64 - start) := by
      unfold usizeSub; split <;> simp
    simp only [hsub]
    generalize (if start ≤ b.cursor then b.cursor - start else b.cursor + 2 ^ 64 - start) = d
    by_cases hd1 : d > 1
    · simp only [hd1, if_true]
      by_cases hbrk : (isSuffixByte c ch && isEnd && b.isBufferEmpty) = true
      · rw [if_pos hbrk, if_pos hbrk]; exact Or.inl ⟨rfl, rfl⟩
      · simp only [hbrk, Bool.false_eq_true, if_false]
        by_cases hemp : b.isBufferEmpty = true
        · simp only [hemp, Bool.not_true, Bool.false_eq_true, if_false]
          exact Or.inr ⟨_, _, rfl, rfl, fin b hb h1⟩
        · have hlt : b.index < b.slc.length := by
            simp only [Bytes.isBufferEmpty, decide_eq_true_eq, ge_iff_le, Nat.not_le] at hemp
            exact hemp
          have hst : stepChecked c b = .ok { b with index := b.index + 1 } := by
            simp only [stepChecked, ge_iff_le, Nat.not_le.mpr hlt, if_false, iterStep_rel hc]
          have hemp' : b.isBufferEmpty = false := by simpa using hemp
          simp only [hemp', Bool.not_false, if_true, hst]
          exact Or.inr ⟨_, _, rfl, rfl, fin _ ⟨hb.1, by have := hb.1; simp only; omega⟩ (by simp only; omega)⟩
    · simp only [hd1, if_false]
      exact Or.inr ⟨_, _, rfl, rfl, fin b hb h1⟩
  · rw [if_neg hsuf, if_neg hsuf]
    exact Or.inr ⟨_, _, rfl, rfl, fin b hb h1⟩

theorem parse1Unchecked_step (hc : Rel c) {n : Nat} (sub isEnd : Bool) (start : Nat) :
    ∀ (fuel : Nat) (b : Bytes) (value : Nat), Inb n b → n - b.index < fuel →
      Step n false (parse1Unchecked ⟨c, t, false, nm⟩ sub isEnd start fuel b value)
        (parse1Unchecked ⟨c, t, true, nm⟩ sub isEnd start fuel b value) := by
  intro fuel
  induction fuel with
  | zero => intro b v hb h; omega
  | succ f ih =>
    intro b value hb hf
    obtain ⟨v, b', hn, ha, hlt⟩ := iterNext_tot2 (e := ⟨c, t, false, nm⟩) hc b hb.valid
    have hb' := hb.adv ha
    simp only at hn
    rw [parse1Unchecked, parse1Unchecked]
    simp only [hn]
    cases v with
    | none => exact .ok hb' _
    | some ch =>
      have hlt := hlt (by simp)
      simp only [Env.radix]
      cases hdg : ParseInt.charToDigit ch c.mantissaRadix with
      | none =>
        simp only
        rcases fmtInvalidDigit_step (t := t) (nm := nm) hc b' hb' (by omega) ch start value isEnd with
          ⟨hfc, hfp⟩ | ⟨rc, rp, hfc, hfp, ho⟩
        · rw [hfc, hfp]; exact .ok hb' _
        · rw [hfc, hfp]; exact .ret ho
      | some d =>
        simp only
        exact ih b' _ hb' (by have := hb'.2; omega)

theorem parse1Checked_step (hc : Rel c) {n : Nat} (sub : Bool) (start : Nat) :
    ∀ (fuel : Nat) (b : Bytes) (value : Nat), Inb n b → n - b.index < fuel →
      Step n false (parse1Checked ⟨c, t, false, nm⟩ sub start fuel b value)
        (parse1Checked ⟨c, t, true, nm⟩ sub start fuel b value) := by
  intro fuel
  induction fuel with
  | zero => intro b v hb h; omega
  | succ f ih =>
    intro b value hb hf
    obtain ⟨v, b', hn, ha, hlt⟩ := iterNext_tot2 (e := ⟨c, t, false, nm⟩) hc b hb.valid
    have hb' := hb.adv ha
    simp only at hn
    rw [parse1Checked, parse1Checked]
    simp only [hn]
    cases v with
    | none => exact .ok hb' _
    | some ch =>
      have hlt := hlt (by simp)
      simp only [Env.radix]
      cases hdg : ParseInt.charToDigit ch c.mantissaRadix with
      | none =>
        simp only
        rcases fmtInvalidDigit_step (t := t) (nm := nm) hc b' hb' (by omega) ch start value true with
          ⟨hfc, hfp⟩ | ⟨rc, rp, hfc, hfp, ho⟩
        · rw [hfc, hfp]; exact .ok hb' _
        · rw [hfc, hfp]; exact .ret ho
      | some d =>
        simp only [Env.radixT, Env.radix]
        cases hm : ParseInt.mulAddChecked t sub value (c.mantissaRadix % 2 ^ t.bits) d with
        | some w => exact ih b' _ hb' (by have := hb'.2; omega)
        | none =>
          have hs : usizeSub c.debug b'.cursor 1 = .ok (b'.index - 1) := by
            simp only [usizeSub, Bytes.cursor]; exact if_pos (show 1 ≤ b'.index by omega)
          simp only [hs]
          exact .ret (.err _ _ (by have := hb'.2; omega))

theorem parseDigitsUnchecked_step (hc : Rel c) {n : Nat} (sub isEnd : Bool) (start : Nat) (b : Bytes) (value : Nat)
    (hb : Inb n b) :
    Step n false (parseDigitsUnchecked ⟨c, t, false, nm⟩ sub isEnd start b value)
      (parseDigitsUnchecked ⟨c, t, true, nm⟩ sub isEnd start b value) := by
  obtain ⟨b1, v1, hml, hm⟩ := multiLoop_ok (e := ⟨c, t, false, nm⟩) hc sub b value hb
  have heq : multiLoop ⟨c, t, true, nm⟩ sub b value = multiLoop ⟨c, t, false, nm⟩ sub b value := rfl
  unfold parseDigitsUnchecked
  rw [heq, hml]
  exact parse1Unchecked_step hc sub isEnd start _ b1 v1 hm (by have := hm.1; have := hm.2; omega)

theorem parseDigitsChecked_step (hc : Rel c) {n : Nat} (sub : Bool) (start : Nat) (b : Bytes) (value od : Nat)
    (hb : Inb n b) :
    Step n false (parseDigitsChecked ⟨c, t, false, nm⟩ sub start b value od)
      (parseDigitsChecked ⟨c, t, true, nm⟩ sub start b value od) := by
  unfold parseDigitsChecked
  have tail : ∀ (b1 : Bytes) (v1 : Nat), Inb n b1 →
      Step n false (parse1Checked ⟨c, t, false, nm⟩ sub start (b1.slc.length + 1) b1 v1)
        (parse1Checked ⟨c, t, true, nm⟩ sub start (b1.slc.length + 1) b1 v1) :=
    fun b1 v1 h1 => parse1Checked_step hc sub start _ b1 v1 h1 (by have := h1.1; have := h1.2; omega)
  simp only [Env.contig]
  by_cases hct : c.iterContiguous .integer = true
  · simp only [hct, if_true]
    by_cases hlt : min b.slc.length (od + b.index) < b.index
    · have := hb.1; have := hb.2; omega
    · simp only [hlt, if_false]
      -- `take_n`: the loop runs in the shorter buffer; what it returns early is an `Out` of the longer one
      have hsm : Inb (min b.slc.length (od + b.index))
          ⟨b.slc.take (min b.slc.length (od + b.index)), b.index, 0, 0, 0⟩ :=
        ⟨by simp only [List.length_take]; omega, by show b.index ≤ _; omega⟩
      rcases parseDigitsUnchecked_step (t := t) (nm := nm) hc sub false start _ value hsm with
        ⟨b1, v1, -, h1, h2⟩ | ⟨rc, rp, ho, h1, h2⟩
      · rw [h1, h2]
        exact tail _ _ ⟨hb.1, by have := hb.1; simp only; omega⟩
      · rw [h1, h2]
        exact .ret (ho.mono (by have := hb.1; omega))
  · simp only [hct, Bool.false_eq_true, if_false]
    exact tail _ _ hb

theorem skipZeros_le (hc : Rel c) {b b1 : Bytes} {zeros : Nat} (hv : b.index ≤ b.slc.length) (h0 : csum b = 0)
    (h : skipZeros c .integer b = .ok (zeros, b1)) : Adv b b1 ∧ zeros ≤ b1.index := by
  rw [IterSpec.skipZeros_eq (hc.hs _) b (IterSpec.StepOK.release hc.hd _ _)] at h
  cases h
  have ha := adv_scan (c := c) .integer (· == 48) (b.slc.length + 1) (b.iterCount c .integer == 0) b hv
  exact ⟨ha, iterCount_diff_le c ha h0⟩

theorem leadingZeroCheck_step (hc : Rel c) {n : Nat} (isPrefix : Bool) (b2 : Bytes) (hb2 : Inb n b2)
    (zeros start : Nat) (hz : zeros ≤ b2.index) :
    Step n true (leadingZeroCheck ⟨c, t, false, nm⟩ isPrefix b2 zeros start)
      (leadingZeroCheck ⟨c, t, true, nm⟩ isPrefix b2 zeros start) := by
  have hd := hc.hd
  unfold leadingZeroCheck
  simp only [Env.radix]
  by_cases hcond : (!isPrefix && c.flag Format.noIntegerLeadingZeros false && zeros != 0) = true
  · simp only [hcond, if_true]
    have hs : usizeSub c.debug b2.cursor zeros = .ok (b2.index - zeros) := by
      simp only [usizeSub, Bytes.cursor]; exact if_pos hz
    have hi : b2.index - zeros ≤ n := by have := hb2.2; omega
    simp only [hs]
    by_cases hz1 : zeros > 1
    · simp only [hz1, if_true]; exact .ret (.err _ _ hi)
    · simp only [hz1, if_false]
      obtain ⟨v, b3, hp, ha3, hv, _⟩ := peek_tot hc .integer b2 hb2.valid
      have hb3 := hb2.adv ha3
      simp only [hp]
      cases v with
      | some ch =>
        simp only
        cases hdg : ParseInt.charToDigit ch c.mantissaRadix with
        | some d => exact .ret (.err _ _ hi)
        | none =>
          have hlt : b3.index < b3.slc.length := some_lt hv
          exact .ret ((invalidDigit_out _ _ _ (by omega)
            (by have := hb3.1; simp only [Bytes.cursor]; omega)).mono (Nat.le_refl _))
      | none =>
        have hge : b3.slc.length ≤ b3.index := by
          have := hv.symm; rw [List.getElem?_eq_none_iff] at this; exact this
        exact .ret (intoOk_out _ _ _ (by have := hb3.1; have := hb3.2; simp only [Bytes.cursor]; omega))
  · simp only [hcond, Bool.false_eq_true, if_false]
    exact .ok hb2 _

theorem prefixZeros_step (hc : Rel c) {n : Nat} (b : Bytes) (hb : Inb n b) (h0 : csum b = 0) (start : Nat) :
    Step n true (prefixZeros ⟨c, t, false, nm⟩ b start) (prefixZeros ⟨c, t, true, nm⟩ b start) := by
  unfold prefixZeros
  simp only
  by_cases hcond : (decide (c.basePrefix ≠ 0) || c.flag Format.noIntegerLeadingZeros false) = true
  · simp only [hcond, if_true]
    obtain ⟨zeros, b1, hsz, -⟩ := skipZeros_tot hc .integer b hb.valid
    obtain ⟨ha1, hz⟩ := skipZeros_le hc hb.valid h0 hsz
    have hb1 := hb.adv ha1
    simp only [hsz]
    have heq : readPrefix ⟨c, t, true, nm⟩ b1 zeros (start + zeros) =
        readPrefix ⟨c, t, false, nm⟩ b1 zeros (start + zeros) := rfl
    rw [heq]
    rcases readPrefix_cases (e := ⟨c, t, false, nm⟩) hc b1 hb1 zeros (start + zeros) with
      ⟨i, hi, hx⟩ | ⟨isPrefix, b2, start2, hx, hb2, hle⟩ <;> rw [hx]
    · exact .ret (.err _ i hi)
    · exact leadingZeroCheck_step hc isPrefix b2 hb2 zeros start2 (by omega)
  · simp only [hcond, Bool.false_eq_true, if_false]
    exact .ok hb _

theorem negBlock_step (hc : Rel c) {n : Nat} (co isNeg : Bool) (b : Bytes) (hb : Inb n b) (start : Nat) :
    Step n false (negBlock ⟨c, t, false, nm⟩ co isNeg b start) (negBlock ⟨c, t, true, nm⟩ co isNeg b start) := by
  unfold negBlock
  split
  · exact parseDigitsUnchecked_step hc _ _ _ _ _ hb
  · exact .ok hb _

theorem mainBlock_step (hc : Rel c) {n : Nat} (co isNeg : Bool) (b : Bytes) (hb : Inb n b) (value start od : Nat) :
    Step n false (mainBlock ⟨c, t, false, nm⟩ co isNeg b value start od)
      (mainBlock ⟨c, t, true, nm⟩ co isNeg b value start od) := by
  unfold mainBlock
  split
  · exact parseDigitsUnchecked_step hc _ _ _ _ _ hb
  · split
    · exact parseDigitsChecked_step hc _ _ _ _ _ hb
    · exact parseDigitsChecked_step hc _ _ _ _ _ hb

def run (x : Flow Res) : Res := match x with | .ok r => r | .error r => r

theorem digitsBody_out (hc : Rel c) {n : Nat} (isNeg : Bool) (b : Bytes) (hb : Inb n b) (start od : Nat) :
    Out n true (run (digitsBody ⟨c, t, false, nm⟩ isNeg b start od))
      (run (digitsBody ⟨c, t, true, nm⟩ isNeg b start od)) := by
  unfold digitsBody
  simp only [hc.hd, Bool.false_and, Bool.false_eq_true, if_false]
  rcases negBlock_step (t := t) (nm := nm) hc (decide (b.asSlice.length ≤ od)) isNeg b hb start with
    ⟨b1, v1, hb1, h1, h2⟩ | ⟨rc, rp, ho, h1, h2⟩
  · rw [h1, h2]
    simp only
    rcases mainBlock_step (t := t) (nm := nm) hc (decide (b.asSlice.length ≤ od)) isNeg b1 hb1 v1 start od with
      ⟨b2, v2, hb2, h3, h4⟩ | ⟨rc, rp, ho, h3, h4⟩
    · rw [h3, h4]; exact intoOk_out _ _ _ hb2.1
    · rw [h3, h4]; exact ho.mono (Nat.le_refl _)
  · rw [h1, h2]; exact ho.mono (Nat.le_refl _)

/-- **what the two parsers return on the same input**, release build, every format whose separator dispatch has no
`unreachable!()` arm -/
theorem parseIntFormat_out (hc : Rel c) (s : List Nat) :
    Out s.length true (parseIntFormat ⟨c, t, false, nm⟩ s) (parseIntFormat ⟨c, t, true, nm⟩ s) := by
  unfold parseIntFormat algorithm
  have heq : ParseIntFormat.parseSign ⟨c, t, true, nm⟩ (Bytes.new s) =
      ParseIntFormat.parseSign ⟨c, t, false, nm⟩ (Bytes.new s) := rfl
  rw [heq]
  have hs := parseSign_total (e := ⟨c, t, false, nm⟩) hc s
  cases hps : ParseIntFormat.parseSign ⟨c, t, false, nm⟩ (Bytes.new s) with
  | error x =>
    have := hs.1 x hps
    cases x with
    | err k i => exact .err k i this
    | panic m => exact this.elim
    | fault m => exact this.elim
  | ok p =>
    obtain ⟨isNeg, b⟩ := p
    obtain ⟨hb, h0⟩ := hs.2 isNeg b hps
    simp only
    by_cases hemp : b.isBufferEmpty = true
    · simp only [hemp, if_true]
      have hidx : b.cursor = s.length := by
        simp only [Bytes.isBufferEmpty, decide_eq_true_eq, ge_iff_le] at hemp
        have := hb.1; have := hb.2; simp only [Bytes.cursor]; omega
      have hrq : (⟨c, t, true, nm⟩ : Env).requiredDigits = (⟨c, t, false, nm⟩ : Env).requiredDigits := rfl
      rw [hrq]
      by_cases hr : (⟨c, t, false, nm⟩ : Env).requiredDigits = true
      · simp only [hr, if_true]; exact .err _ _ (Nat.le_of_eq hidx)
      · simp only [hr, Bool.false_eq_true, if_false]; exact intoOk_out _ _ _ hidx
    · simp only [hemp, Bool.false_eq_true, if_false]
      rcases prefixZeros_step (t := t) (nm := nm) hc b hb h0 b.cursor with
        ⟨b1, st, hb1, h1, h2⟩ | ⟨rc, rp, ho, h1, h2⟩
      · rw [h1, h2]; exact digitsBody_out hc isNeg b1 hb1 st _
      · rw [h1, h2]; exact ho

theorem prefixZeros_total (hc : Rel e.c) {n : Nat} (b : Bytes) (hb : Inb n b) (h0 : csum b = 0) (start : Nat) :
    FlowTot n (prefixZeros e b start) := by
  obtain ⟨c, t, p, nm⟩ := e
  cases p
  · exact (prefixZeros_step hc b hb h0 start).total.1
  · exact (prefixZeros_step hc b hb h0 start).total.2

theorem negBlock_total (hc : Rel e.c) {n : Nat} (co isNeg : Bool) (b : Bytes) (hb : Inb n b) (start : Nat) :
    FlowTot n (negBlock e co isNeg b start) := by
  obtain ⟨c, t, p, nm⟩ := e
  cases p
  · exact (negBlock_step hc co isNeg b hb start).total.1
  · exact (negBlock_step hc co isNeg b hb start).total.2

theorem mainBlock_total (hc : Rel e.c) {n : Nat} (co isNeg : Bool) (b : Bytes) (hb : Inb n b) (value start od : Nat) :
    FlowTot n (mainBlock e co isNeg b value start od) := by
  obtain ⟨c, t, p, nm⟩ := e
  cases p
  · exact (mainBlock_step hc co isNeg b hb value start od).total.1
  · exact (mainBlock_step hc co isNeg b hb value start od).total.2

/-- **the model is total in a release build of any format whose separator dispatch has no `unreachable!()` arm** -/
theorem parseIntFormat_total_rel (hc : Rel e.c) (s : List Nat) : Total s.length (parseIntFormat e s) := by
  obtain ⟨c, t, p, nm⟩ := e
  cases p
  · exact (parseIntFormat_out hc s).total.1
  · exact (parseIntFormat_out hc s).total.2

end LexVerif.Proof.PIF
