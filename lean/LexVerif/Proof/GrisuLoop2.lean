import LexVerif.Proof.GrisuDigitStep
/-!
# Proof.GrisuLoop2 — the second loop of `generate_digits` (fractional digits, `kappa = -1, -2, …`)
-/
namespace LexVerif.Proof.GrisuDigits
open LexVerif.Model.Grisu LexVerif.Model.Dragonbox

theorem genLoop2_succ (wmant one sh fuel part2 delta ten : Nat) (kappa : Int) (ds : List Nat) (k : Int) :
    genLoop2 wmant one sh (fuel + 1) part2 delta kappa ten ds k =
      if u64 (part2 * 10) &&& (one - 1) < u64 (delta * 10) then
        some (decLast (pushDigit ds (u64 (part2 * 10) >>> sh))
          (roundDigit (u64 (delta * 10)) one (u64 (wmant * ten)) 20 (u64 (part2 * 10) &&& (one - 1)) 0).2,
          i32 (k + i32 (kappa - 1)))
      else genLoop2 wmant one sh fuel (u64 (part2 * 10) &&& (one - 1)) (u64 (delta * 10)) (i32 (kappa - 1))
        (u64 (ten * 10)) (pushDigit ds (u64 (part2 * 10) >>> sh)) k := by
  rw [genLoop2]
  simp only [pushDigit]

theorem frac_count_le {delta j b : Nat} (hd : 1 ≤ delta) (h : delta * 10 ^ j < b) (hb : b ≤ 2 ^ 60) : j ≤ 18 := by
  by_cases hj : j ≤ 18
  · exact hj
  · exfalso
    have h1 : 10 ^ 19 ≤ 10 ^ j := Nat.pow_le_pow_right (by omega) (by omega)
    have h2 : 10 ^ j ≤ delta * 10 ^ j := Nat.le_mul_of_pos_left _ hd
    omega

/-- `j`: the number of fractional digits already produced -/
theorem genLoop2_spec (Um Lm delta wmant sh one : Nat) (k : Int)
    (hsh : sh ≤ 60) (hone : one = 2 ^ sh) (hLm : 1 ≤ Lm) (hdelta : delta + Lm = Um) (hd1 : 1 ≤ delta)
    (hk : -100000 ≤ k ∧ k ≤ 100000) :
    ∀ (fuel j part2 ten N : Nat) (ds : List Nat), 20 ≤ fuel + j →
      DigitsOK ds N → part2 < one → N * one + part2 = Um * 10 ^ j → delta * 10 ^ j ≤ part2 →
      ∃ (ds' : List Nat) (j' V N' : Nat), j < j' ∧ j' ≤ 19 ∧
          genLoop2 wmant one sh fuel part2 (delta * 10 ^ j) (-(j : Int)) ten ds k = some (ds', k - (j' : Int)) ∧
          Final ds' V N' ∧ Lm * 10 ^ j' ≤ V * one ∧ V * one ≤ Um * 10 ^ j' ∧
          ∀ n, 10 * Um ≤ 10 ^ n * delta → N' < 10 ^ n := by
  have hone1 : 1 ≤ one := by rw [hone]; exact Nat.pow_pos (by omega)
  have hone60 : one ≤ 2 ^ 60 := by rw [hone]; exact Nat.pow_le_pow_right (by omega) hsh
  intro fuel
  induction fuel with
  | zero =>
    intro j part2 ten N ds hfj hok hp2 hsum hprev
    have := frac_count_le hd1 (Nat.lt_of_le_of_lt hprev hp2) hone60
    omega
  | succ fuel ih =>
    intro j part2 ten N ds hfj hok hp2 hsum hprev
    have hj18 := frac_count_le hd1 (Nat.lt_of_le_of_lt hprev hp2) hone60
    rw [genLoop2_succ]
    have hpow : 10 ^ (j + 1) = 10 ^ j * 10 := Nat.pow_succ ..
    have hTpos : 1 ≤ 10 ^ j := Nat.pow_pos (by omega)
    have hsplit : Um * 10 ^ j = delta * 10 ^ j + Lm * 10 ^ j := by rw [← hdelta]; ring
    have hLT : 1 ≤ Lm * 10 ^ j := Nat.mul_pos hLm hTpos
    have hi1 : i32 (-(j : Int) - 1) = -((j + 1 : Nat) : Int) := by unfold i32; omega
    have hi2 : i32 (k + -((j + 1 : Nat) : Int)) = k - ((j + 1 : Nat) : Int) := by unfold i32; omega
    rw [hi1, hi2]
    generalize 10 ^ j = T at *
    generalize hdT : delta * T = dT at *
    have hp10 : u64 (part2 * 10) = part2 * 10 := DragonboxArith.u64_id (by omega)
    have hd10 : u64 (dT * 10) = dT * 10 := DragonboxArith.u64_id (by omega)
    rw [hp10, hd10]
    have hand : (part2 * 10) &&& (one - 1) = (part2 * 10) % one := by
      rw [hone]; exact Nat.and_two_pow_sub_one_eq_mod _ _
    have hshr : (part2 * 10) >>> sh = (part2 * 10) / one := by
      rw [hone]; exact Nat.shiftRight_eq_div_pow _ _
    rw [hand, hshr]
    have hd : part2 * 10 / one < 10 := Nat.div_lt_of_lt_mul (by omega)
    have hdm := Nat.div_add_mod (part2 * 10) one
    have hq : part2 * 10 % one < one := Nat.mod_lt _ hone1
    generalize part2 * 10 / one = d at *
    generalize part2 * 10 % one = q at *
    -- in units `X = one`, with `Um`, `Lm`, `delta` times `10^(j+1)`: the rest `R = part2·10` gives the digit `d` and the rest `q`
    obtain ⟨-, hstopF, hokN, hsN⟩ := gen_step (X := one) (R := part2 * 10) (Δ := dT * 10) (L := Lm * (T * 10))
      (U := Um * (T * 10)) hok hone1 (by rw [Nat.mul_comm d one]; exact hdm) (by omega)
      (by rw [← Nat.mul_assoc Um, ← hsum]; ring) (by rw [← hdT, ← hdelta]; ring)
      (Nat.mul_pos hLm (Nat.mul_pos hTpos (by decide))) (Nat.mul_le_mul_right 10 hprev)
    split
    · rename_i hstop
      obtain ⟨e, he1, he2⟩ := roundDigit_spec (dT * 10) one (u64 (wmant * ten)) (by omega) 20 q 0 (by omega)
      rw [he1, Nat.zero_add]
      obtain ⟨hfin, hlo, hhi, hcnt⟩ := hstopF e he2
      refine ⟨_, j + 1, 10 * N + d - e, 10 * N + d, by omega, by omega, rfl, hfin, ?_, ?_, fun n hn => hcnt _ ?_⟩
      · rw [hpow]; exact hlo
      · rw [hpow]; exact hhi
      · calc 10 * (Um * (T * 10)) = 10 * Um * (T * 10) := by ring
          _ ≤ 10 ^ n * delta * (T * 10) := Nat.mul_le_mul_right _ hn
          _ = 10 ^ n * (dT * 10) := by rw [← hdT]; ring
    · rename_i hcont
      have e5 : dT * 10 = delta * 10 ^ (j + 1) := by rw [hpow, ← hdT]; ring
      rw [e5]
      obtain ⟨ds', j', V, N', hj', hj19, hres, hrest⟩ :=
        ih (j + 1) q (u64 (ten * 10)) (10 * N + d) (pushDigit ds d) (by omega) hokN hq
          (by rw [hpow]; exact hsN) (by rw [hpow, ← Nat.mul_assoc, hdT]; omega)
      exact ⟨ds', j', V, N', by omega, hj19, hres, hrest⟩

end LexVerif.Proof.GrisuDigits
