import LexVerif.Proof.LemireBasics
import LexVerif.Proof.ParseInt
import LexVerif.Proof.Numeral
import LexVerif.Model.ParseFloatAlgo
import LexVerif.Proof.IterSpec
import LexVerif.Proof.LitExact
/-!
# Proof.Pipeline — what `Props.C01Main` needs of `Spec.litBits`, `sliceDigits` and `to_native!`

For the float types of a `Layout` and a radix `≤ 64`, `Spec.litBits` is `roundSigned` of the exact fraction `litFrac` of
the literal (`litBits_exact`, an instance of `RoundNE.litBits_exact_of_range`).
-/
namespace LexVerif.Proof.Pipeline
open LexVerif.Spec LexVerif.Model LexVerif.Model.ParseFloatAlgo
open LexVerif.Proof.RoundNE LexVerif.Proof.ExtRound LexVerif.Proof.BinaryCorrect

theorem litBits_exact {F p eb} (lay : Layout F p eb) {r b : Nat} (hr : 2 ≤ r) (hr64 : r ≤ 64) (hb : 2 ≤ b)
    (l : FloatLit) (hdig : ∀ d ∈ l.intDigits ++ l.fracDigits, d < r) :
    litBits F.fmt r b l = roundSigned F.fmt l.neg (litFrac r b l).1 (litFrac r b l).2 := by
  have hf := lay.wf
  have hbias : F.fmt.bias = 2 ^ (eb - 1) - 1 := by unfold Fmt.bias; rw [lay.fmt]
  have hL := L_eq lay
  have hL1074 := lay.hL1074
  have hb1024 := lay.hb1024
  refine litBits_exact_of_range hf (by omega) (by omega) (Nat.le_trans hr64 (Nat.pow_le_pow_left hb 6)) ⟨?_, ?_⟩ l hdig
  · apply roundNE_huge hf Nat.one_pos
    rw [hbias, Nat.one_mul]
    exact Nat.le_trans (Nat.pow_le_pow_right (by decide) (by omega)) (Nat.pow_le_pow_left hb 1100)
  · apply roundNE_tiny hf (Nat.ne_of_gt (Nat.pow_pos (by omega)))
    rw [hL, Nat.one_mul, ← Nat.pow_succ']
    exact Nat.lt_of_lt_of_le (Nat.pow_lt_pow_right (by decide) (by omega)) (Nat.pow_le_pow_left hb 1200)

theorem litBits_of_mantissa {F p eb} (lay : Layout F p eb) {r b : Nat} (hr : 2 ≤ r) (hr64 : r ≤ 64) (hb : 2 ≤ b)
    (neg : Bool) (m : Nat) (e : Int) :
    litBits F.fmt r b ⟨neg, toDigits r m, [], e⟩ =
      roundSigned F.fmt neg (powFrac b e m).1 (powFrac b e m).2 := by
  rw [litBits_exact lay hr hr64 hb _ (by
    simp only [List.append_nil]; exact LexVerif.Spec.toDigits_digit_lt r m (by omega))]
  unfold litFrac powFrac
  simp only [List.append_nil, List.length_nil, Nat.pow_zero, Nat.one_mul,
    LexVerif.Spec.ofDigits_toDigits r m (by omega)]

theorem charToDigit_lt {ch r d : Nat} (h : charToDigit ch r = some d) : d < r := by
  unfold charToDigit at h
  simp only [] at h
  split at h
  · injection h with h; omega
  · exact absurd h (by simp)

theorem parseDigitsLoop_lt (c : Cfg) (hd : c.debug = false) (k : Comp) (radix : Nat) (fuel : Nat) (b b' : Bytes)
    (ds : List Nat) (h : parseDigitsLoop c k radix fuel b = .ok (ds, b')) : ∀ d ∈ ds, d < radix := by
  intro d hdm
  by_cases hs : c.skip k = .unreachable
  · cases fuel <;> simp [parseDigitsLoop, peek, hs, bind, Except.bind] at h
  rw [LexVerif.Proof.IterSpec.parseDigitsLoop_eq hs radix fuel b
    (fun x _ => LexVerif.Proof.IterSpec.StepOK.release hd k x)] at h
  split at h
  · simp only [Except.ok.injEq, Prod.mk.injEq] at h
    rw [← h.1] at hdm
    obtain ⟨x, _, hx⟩ := List.mem_filterMap.mp hdm
    exact charToDigit_lt hx
  · cases h

theorem sliceDigits_lt (c : Cfg) (k : Comp) (s : List Nat) : ∀ d ∈ sliceDigits c k s, d < c.mantissaRadix := by
  unfold sliceDigits
  split
  · rename_i ds b' h
    have : ({ c with debug := false } : Cfg).mantissaRadix = c.mantissaRadix := rfl
    exact parseDigitsLoop_lt _ rfl k _ _ _ _ _ h
  · intro d hd; simp at hd

theorem toNative_eq (F : FTy) (fp : ExtendedFloat80) (neg : Bool) {num den : Nat}
    (h : extendedToFloat F fp = roundNE F.fmt num den) :
    toNative F fp neg = roundSigned F.fmt neg num den := by
  unfold toNative FastPath.withSign roundSigned
  rw [h]
  cases neg <;> simp

end LexVerif.Proof.Pipeline
