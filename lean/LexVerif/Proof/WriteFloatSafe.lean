import LexVerif.Proof.WriteFloatDragon
import LexVerif.Proof.Numeral
/-!
# Proof.WriteFloatSafe — `sign + need ≤ buffer_size_const` outside the excluded option regions

`textN_le` compares the length of the text of `write_float!` (from the lengths of `sciMantissa`, `negFlat`, `posFlat`) with
`2 + E + D` (pure arithmetic): `D` = significant-digit allowance, `E` = exponent/zero allowance of `buffer_size_const`,
`B ≥ 2 + E + D`, `S ≤ 1` sign byte.  It is stated for `algorithm.rs` (rounding inside the layouts); `compact.rs` lays out
digits that are rounded already (`maxDigits := none`) and is the special case without a carry.
-/
namespace LexVerif.Proof.WriteFloatBound
open LexVerif.Spec LexVerif.Model LexVerif.Model.WriteFloat LexVerif.Proof.WriteFloatBuf LexVerif.Proof.WriteFloatDragon

theorem sciMantissa_length_le (fmt : Format) (n d0 : Nat) (T : List Nat) (o : WOpts) (hn : T.length + 1 = n) :
    (sciMantissa fmt n d0 T o).length ≤ max 3 (1 + max n (o.minDigits.getD 0)) := by
  unfold sciMantissa
  simp only [minExactDigits_eq]
  repeat' split
  all_goals simp only [List.length_append, List.length_cons, List.length_nil, zeros_length]
  all_goals omega

/-- Option regions in which `buffer_size_const` is proved sufficient for every value.
`D`/`E`: digit and exponent allowances of `buffer_size_const`; `P`/`K`: largest positive / negative scientific exponent
written positionally.  The complement is exactly where the implementation panics with a buffer of the documented size
(see the witnesses in `Props/C09.lean`):
* Dragonbox builds: many leading zeros followed by the digit writer's fixed 20/10-byte slice demand (`nd > D`),
  many padding zeros followed by the exponent writer's fixed 10-byte demand (`min > 50` with small breaks),
  a large positive break with at most two digits kept (sign + carry + ".0");
* `compact` builds: a large positive break with one digit kept.
`64` is `FORMATTED_SIZE_DECIMAL` of `f32`/`f64` (`formattedSizeDecimal_float`), a lower bound of `buffer_size_const`; `50` is
what it leaves for padding zeros beside the first digit, the point and the exponent writer's 12 bytes (symbol, sign, window). -/
def SafeOpts (feats : Features) (f : Fmt) (fmt : Format) (o : WOpts) : Prop :=
  let D := sizeDigits fmt.mantissaRadix o
  let E := sizeExp feats fmt o
  let P : Nat := if (effFmt feats fmt).noExponentNotation = true then 309 else (o.posBreak.getD 9).toNat
  let K : Nat := if (effFmt feats fmt).noExponentNotation = true then 324 else (o.negBreak.getD (-5)).natAbs
  if feats.compact = true then 2 ≤ D ∨ P + 4 ≤ 64
  else (mantNeed f ≤ D ∨ K + 2 + mantNeed f ≤ 64) ∧ (o.minDigits.getD 0 ≤ 50 ∨ 12 ≤ E) ∧ (3 ≤ D ∨ P + 5 ≤ 64)

/-- well-formed option numbers: what `OptionsBuilder::build` tests (`mnmx`, the signs of the breaks), what the `NonZero` / `i32`
field types give (`mx`, the ranges) and, beyond both, `negative_exponent_break ≠ i32::MIN` (where `absI32` wraps).  A hypothesis
of the C09 theorems (`DecimalCall.opts`); it is not derived from `wOptsError o = none`. -/
structure NumOpts (o : WOpts) : Prop where
  mx : o.maxDigits ≠ some 0
  mnmx : ∀ a b, o.minDigits = some a → o.maxDigits = some b → a ≤ b
  nb : o.negBreak.getD (-5) ≤ 0 ∧ -(2 ^ 31) < o.negBreak.getD (-5)
  pb : 0 ≤ o.posBreak.getD 9 ∧ o.posBreak.getD 9 < 2 ^ 31

theorem expSign_length_le (fmt : Format) (feats : Features) (e : Int) : (expSign fmt feats e).length ≤ 1 := by
  unfold expSign; repeat' split
  all_goals simp

theorem numeral10_length_le (n : Nat) (h : n < 1000) : (numeral 10 n).length ≤ 3 := by
  unfold numeral
  rw [List.length_map]
  exact LexVerif.Spec.toDigits_length_le 10 n 3 (by omega) (by omega) (by omega)

theorem sizeDigits_ge_min (o : WOpts) : o.minDigits.getD 0 ≤ sizeDigits 10 o := by
  unfold sizeDigits
  cases o.minDigits <;> cases o.maxDigits <;> simp <;> omega

theorem sizeDigits_ge_count (o : WOpts) (c : Nat) (hc : c ≤ 28) (hmx : ∀ m, o.maxDigits = some m → c ≤ m) :
    c ≤ sizeDigits 10 o := by
  unfold sizeDigits
  cases hm : o.maxDigits with
  | none => cases o.minDigits <;> simp <;> omega
  | some m =>
    have := hmx m hm
    cases o.minDigits <;> simp <;> omega

theorem formattedSizeDecimal_float (feats : Features) (f : Fmt) : formattedSizeDecimal feats (tyName f) = 64 := by
  unfold formattedSizeDecimal sizeRows tyName
  by_cases h1 : feats.powerOfTwo = true <;> by_cases h2 : feats.compact = true <;> by_cases h3 : f.p = 24 <;>
    simp [h1, h2, h3] <;> decide

theorem bufferSizeConst_ge (feats : Features) (f : Fmt) (fmt : Format) (o : WOpts) (h10 : fmt.mantissaRadix = 10) :
    2 + sizeExp feats fmt o + sizeDigits 10 o ≤ bufferSizeConstOld feats f fmt o ∧ 64 ≤ bufferSizeConstOld feats f fmt o := by
  unfold bufferSizeConstOld
  simp only [h10, if_true, formattedSizeDecimal_float]
  omega

theorem sizeExp_facts (feats : Features) (fmt : Format) (o : WOpts) (hno : NumOpts o) :
    5 ≤ sizeExp feats fmt o ∧
    (¬ (effFmt feats fmt).noExponentNotation = true →
      (o.negBreak.getD (-5)).natAbs ≤ sizeExp feats fmt o ∧ (o.posBreak.getD 9).toNat ≤ sizeExp feats fmt o) ∧
    ((effFmt feats fmt).noExponentNotation = true → 324 ≤ sizeExp feats fmt o) := by
  obtain ⟨⟨hnb1, hnb2⟩, ⟨hpb1, hpb2⟩⟩ := And.intro hno.nb hno.pb
  unfold sizeExp
  by_cases hne : (effFmt feats fmt).noExponentNotation = true
  · have hnn : ¬ ¬ (effFmt feats fmt).noExponentNotation = true := fun h => h hne
    simp only [if_neg hnn]
    refine ⟨by split <;> omega, fun h => absurd hne h, by intro _; split <;> omega⟩
  · simp only [if_pos hne]
    generalize o.negBreak.getD (-5) = nb at hnb1 hnb2 ⊢
    generalize o.posBreak.getD 9 = pb at hpb1 hpb2 ⊢
    have habs : absI32 nb = -nb := by
      unfold absI32
      rw [if_neg (by omega)]
      split <;> omega
    have hmax : 0 ≤ max (absI32 nb) pb ∧ max (absI32 nb) pb < 2 ^ 31 := by rw [habs]; omega
    have hus : asUsize (max (absI32 nb) pb) = (max (absI32 nb) pb).toNat := by
      unfold asUsize
      rw [Int.emod_eq_of_lt hmax.1 (by omega)]
    rw [hus, habs]
    have h1 : nb.natAbs ≤ (max (-nb) pb).toNat := by omega
    have h2 : pb.toNat ≤ (max (-nb) pb).toNat := by omega
    generalize (max (-nb) pb).toNat = ex at h1 h2 ⊢
    refine ⟨?_, fun _ => ⟨?_, ?_⟩, fun h => absurd h hne⟩
    all_goals (repeat' split)
    all_goals omega

theorem mantNeed_le (f : Fmt) : mantNeed f ≤ 20 := by unfold mantNeed; split <;> omega

/-- positional notation was chosen although exponent notation is allowed: the exponent lies within the breaks -/
theorem within_breaks {p q : Prop} {s nb pb : Int} (h : ¬ (p ∧ (q ∨ s < nb ∨ s > pb))) (hp : p) : nb ≤ s ∧ s ≤ pb :=
  ⟨Int.not_lt.mp fun hh => h ⟨hp, Or.inr (Or.inl hh)⟩, Int.not_lt.mp fun hh => h ⟨hp, Or.inr (Or.inr hh)⟩⟩

/-- **the text of `write_float!` fits**, with the slack of the exponent writer behind it.  Stated for `algorithm.rs`
(`writeDigitsN`: rounding inside the layouts); `compact.rs` lays out digits that are rounded already, at the carried
exponent, so it is the instance `c = 0` at those digits.  `c`: the carry that can still come (it adds an integer digit in
positional notation, whence `hlead`); `hwin`: the exponent writer's 10-byte window behind much zero padding. -/
theorem textN_le (fmt : Format) (feats : Features) (o : WOpts) (ds : List Nat) (sci : Int) (S D E B c : Nat)
    (her : fmt.exponentRadix = 10) (hmx : o.maxDigits ≠ some 0) (hds1 : 1 ≤ ds.length)
    (hrange : -324 ≤ sci ∧ sci + c ≤ 309) (hS : S ≤ 1)
    (hc : (if (truncateAndRound ds o).2 = true then 1 else 0) ≤ c)
    (hB : 2 + E + D ≤ B) (hB64 : 64 ≤ B) (hE5 : 5 ≤ E)
    (hEbr : ¬ fmt.noExponentNotation = true → (o.negBreak.getD (-5)).natAbs ≤ E ∧ (o.posBreak.getD 9).toNat ≤ E)
    (hEno : fmt.noExponentNotation = true → 324 ≤ E)
    (hcD : (truncateAndRound ds o).1.length ≤ D) (hmnD : o.minDigits.getD 0 ≤ D) (hc32 : (truncateAndRound ds o).1.length ≤ 32)
    (hwin : feats.compact = true ∨ o.minDigits.getD 0 ≤ 50 ∨ 12 ≤ E)
    (hlead : 2 + c ≤ D ∨ (if fmt.noExponentNotation = true then 309 else (o.posBreak.getD 9).toNat) + 4 + c ≤ 64) :
    S + ((writeDigitsN fmt feats ds sci o).length + slackN fmt feats ds sci o) ≤ B := by
  have hcI : (if (truncateAndRound ds o).2 = true then (1 : Int) else 0) = ((if (truncateAndRound ds o).2 = true then 1 else 0 : Nat) : Int) := by
    split <;> rfl
  unfold writeDigitsN slackN
  dsimp only
  by_cases c2 : ¬ fmt.noExponentNotation = true ∧
      (fmt.requiredExponentNotation = true ∨ sci < o.negBreak.getD (-5) ∨ sci > o.posBreak.getD 9)
  · -- mantissa; symbol, sign, at most three exponent digits; the exponent writer's window
    simp only [if_pos c2]
    rw [writeScientific_flat, List.length_append, writeExponent_length, her]
    obtain ⟨k1, _, _, _, k2⟩ := roundSci_length ds o hds1 hmx
    have := sciMantissa_length_le fmt (roundSci ds o).1.length (digitChar ((roundSci ds o).1.headD 0))
      (chars (roundSci ds o).1.tail) o (by simp; omega)
    have hsc : (roundSci ds o).2 = (truncateAndRound ds o).2 := rfl
    rw [hsc]
    have hb : -324 ≤ sci + (if (truncateAndRound ds o).2 = true then (1 : Int) else 0) ∧
        sci + (if (truncateAndRound ds o).2 = true then (1 : Int) else 0) ≤ 309 := by rw [hcI]; omega
    generalize sci + (if (truncateAndRound ds o).2 = true then (1 : Int) else 0) = e' at hb ⊢
    have := expSign_length_le fmt feats e'
    have := numeral10_length_le e'.natAbs (by omega)
    unfold expSlack expNeed
    rcases hwin with hw | hw
    · rw [if_pos hw]; omega
    · split
      · omega
      · rw [if_pos (Or.inr rfl)]; omega
  · simp only [if_neg c2, Nat.add_zero]
    by_cases c3 : sci < 0
    · rw [if_pos c3, writeNegative_flat]
      have hk : sci.natAbs ≤ E := by
        by_cases hne : fmt.noExponentNotation = true
        · have := hEno hne; omega
        · have := (hEbr hne).1
          have := (within_breaks c2 hne).1
          omega
      split
      · rw [posFlat_length]; simp only [List.length_singleton]; repeat' split
        all_goals omega
      · rw [negFlat_length]; split <;> omega
    · rw [if_neg c3, writePositive_flat, posFlat_length]
      obtain ⟨_, _, _, _, k2⟩ := roundPos_length ds sci o hds1 hmx
      have hsc : (roundPos ds sci o).2 = (truncateAndRound ds o).2 := rfl
      rw [hsc]
      -- room for the integer digits, the point and the `0` behind it
      have : S + (sci.toNat + 1 + (if (truncateAndRound ds o).2 = true then 1 else 0) + 2) ≤ B := by
        by_cases hne : fmt.noExponentNotation = true
        · rw [if_pos hne] at hlead; have := hEno hne; omega
        · rw [if_neg hne] at hlead
          have := (within_breaks c2 hne).2
          have := (hEbr hne).2
          omega
      generalize (if (truncateAndRound ds o).2 = true then 1 else 0) = cy at hc this ⊢
      repeat' split
      all_goals omega

theorem need_le_general (feats : Features) (f : Fmt) (fmt : Format) (o : WOpts) (ds : List Nat) (sci : Int) (S D E B : Nat)
    (her : (effFmt feats fmt).exponentRadix = 10) (hmx : o.maxDigits ≠ some 0)
    (hds1 : 1 ≤ ds.length) (hdsn : ds.length ≤ mantNeed f) (hrange : -324 ≤ sci ∧ sci ≤ 308) (hS : S ≤ 1)
    (hB : 2 + E + D ≤ B) (hB64 : 64 ≤ B) (hE5 : 5 ≤ E)
    (hEbr : ¬ (effFmt feats fmt).noExponentNotation = true →
      (o.negBreak.getD (-5)).natAbs ≤ E ∧ (o.posBreak.getD 9).toNat ≤ E)
    (hEno : (effFmt feats fmt).noExponentNotation = true → 324 ≤ E)
    (hcD : (truncateAndRound ds o).1.length ≤ D) (hmnD : o.minDigits.getD 0 ≤ D)
    (hsafe : if feats.compact = true then
        2 ≤ D ∨ (if (effFmt feats fmt).noExponentNotation = true then 309 else (o.posBreak.getD 9).toNat) + 4 ≤ 64
      else (mantNeed f ≤ D ∨
          (if (effFmt feats fmt).noExponentNotation = true then 324 else (o.negBreak.getD (-5)).natAbs) + 2 + mantNeed f ≤ 64) ∧
        (o.minDigits.getD 0 ≤ 50 ∨ 12 ≤ E) ∧
        (3 ≤ D ∨ (if (effFmt feats fmt).noExponentNotation = true then 309 else (o.posBreak.getD 9).toNat) + 5 ≤ 64)) :
    S + needDec fmt feats f ds sci o ≤ B := by
  obtain ⟨hc1, hc2, _, _⟩ := truncateAndRound_length ds o hds1 hmx
  have hnd := mantNeed_le f
  have hcar : (if (truncateAndRound ds o).2 = true then (1 : Int) else 0) ≤ 1 ∧
      0 ≤ (if (truncateAndRound ds o).2 = true then (1 : Int) else 0) := by split <;> omega
  unfold needDec writeDecimal
  by_cases hcomp : feats.compact = true
  · -- `compact.rs`: the rounded digits laid out at the carried exponent, without a further carry
    rw [if_pos hcomp, if_pos hcomp]
    rw [if_pos hcomp] at hsafe
    have := textN_le (effFmt feats fmt) feats { o with maxDigits := none } (truncateAndRound ds o).1
      (sci + (if (truncateAndRound ds o).2 = true then 1 else 0)) S D E B 0 her (fun h => nomatch h) hc1 (by omega) hS
      (Nat.le_refl _) hB hB64 hE5 hEbr hEno hcD hmnD (by show (truncateAndRound ds o).1.length ≤ 32; omega) (.inl hcomp) hsafe
    -- `writeDigitsC … ds sci o` unfolds to `writeDigitsN` at these digits, this exponent and `maxDigits := none`
    exact Nat.le_trans (Nat.add_le_add_left (Nat.le_add_right _ _) S) this
  · -- `algorithm.rs`: the text with the exponent writer's slack, and the digit writer's window
    rw [if_neg hcomp, if_neg hcomp]
    rw [if_neg hcomp] at hsafe
    obtain ⟨hs1, hs2, hs3⟩ := hsafe
    have htext := textN_le (effFmt feats fmt) feats o ds sci S D E B 1 her hmx hds1 (by omega) hS (by split <;> omega) hB hB64
      hE5 hEbr hEno hcD hmnD (by omega) (.inr hs2) hs3
    have hwin : S + digitWinN (effFmt feats fmt) (mantNeed f) ds sci o ≤ B := by
      unfold digitWinN
      by_cases c2 : ¬ (effFmt feats fmt).noExponentNotation = true ∧ ((effFmt feats fmt).requiredExponentNotation = true ∨
          sci < o.negBreak.getD (-5) ∨ sci > o.posBreak.getD 9)
      · rw [if_pos c2]; omega
      · rw [if_neg c2]
        by_cases c3 : sci < 0
        · rw [if_pos c3]
          by_cases hne : (effFmt feats fmt).noExponentNotation = true
          · rw [if_pos hne] at hs1; have := hEno hne; omega
          · rw [if_neg hne] at hs1
            have := (within_breaks c2 hne).1
            have := (hEbr hne).1
            omega
        · rw [if_neg c3]; omega
    omega

/-- **the arithmetic heart of C09**: outside the excluded option regions the sign byte plus the slice need of the
decimal back-end is at most `buffer_size_const` as it was before /repo commit fb7040b (`bufferSizeConstOld`), for every digit
list the digit generator can produce and every scientific exponent of a finite float. -/
theorem need_le_bound (feats : Features) (f : Fmt) (fmt : Format) (o : WOpts) (ds : List Nat) (sci : Int) (S : Nat)
    (h10 : fmt.mantissaRadix = 10) (her : (effFmt feats fmt).exponentRadix = 10) (hno : NumOpts o)
    (hds1 : 1 ≤ ds.length) (hdsn : ds.length ≤ mantNeed f) (hrange : -324 ≤ sci ∧ sci ≤ 308) (hS : S ≤ 1)
    (hsafe : SafeOpts feats f fmt o) :
    S + needDec fmt feats f ds sci o ≤ bufferSizeConstOld feats f fmt o := by
  obtain ⟨hB, hB64⟩ := bufferSizeConst_ge feats f fmt o h10
  obtain ⟨hE5, hEbr, hEno⟩ := sizeExp_facts feats fmt o hno
  obtain ⟨hc1, hc2, hc3, hc4⟩ := truncateAndRound_length ds o hds1 hno.mx
  have hnd := mantNeed_le f
  have hcD : (truncateAndRound ds o).1.length ≤ sizeDigits 10 o :=
    sizeDigits_ge_count o _ (by omega) hc3
  unfold SafeOpts at hsafe
  rw [h10] at hsafe
  dsimp only at hsafe
  exact need_le_general feats f fmt o ds sci S _ _ _ her hno.mx hds1 hdsn hrange hS hB hB64 hE5 hEbr hEno hcD
    (sizeDigits_ge_min o) hsafe

end LexVerif.Proof.WriteFloatBound
