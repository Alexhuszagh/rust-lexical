import LexVerif.Proof.SepGenInsert
/-!
# Proof.SepEnable — separators at positions the flags enable (docs/DigitSeparators.md) are skipped, for all 15 `peek`
variants

Position kinds of a maximal run of separators inside the digits of a component: a digit of the component before it
(`dB`) and a digit after it (`dA`) — internal; only after — leading; only before — trailing. Run length 1 (`single`)
unless the consecutive flag is set. At such a run the predicate of the component holds (`enabled_holds`); hence the
digit run of a component over its part `[a, z)` of the input ends at the terminator `z` (`PartEnabled`), and
`DocEnabled` gives `NonStuck`.
-/
namespace LexVerif.Proof.Sep
open LexVerif LexVerif.Model LexVerif.Spec
open LexVerif.Props.C12

def IsD (c : Cfg) (o : Option Nat) : Prop := ∃ y, o = some y ∧ c.isDigit y = true ∧ c.isSep y = false
def IsO (c : Cfg) (o : Option Nat) : Prop := o = none ∨ ∃ y, o = some y ∧ c.isDigit y = false ∧ c.isSep y = false
def IsS (c : Cfg) (o : Option Nat) : Prop := ∃ y, o = some y ∧ c.isDigit y = false ∧ c.isSep y = true

/-- what the predicates can ask about a neighbour that is a digit (`d = true`) or nothing / another byte (`d = false`) -/
structure OptFacts (c : Cfg) (o : Option Nat) (d : Bool) : Prop where
  anyDigit : o.any c.isDigit = d
  anySep : o.any c.isSep = false
  allOther : o.all (fun x => !c.isDigit x && !c.isSep x) = !d
  allNoSep : o.all (fun x => !c.isSep x) = true
  allNoDigit : o.all (fun x => !c.isDigit x) = !d
  allDigit : d = true → o.all c.isDigit = true

theorem optFacts_D (c : Cfg) (o : Option Nat) (h : IsD c o) : OptFacts c o true := by
  obtain ⟨y, rfl, h1, h2⟩ := h
  constructor <;> simp [h1, h2]

theorem optFacts_O (c : Cfg) (o : Option Nat) (h : IsO c o) : OptFacts c o false := by
  rcases h with rfl | ⟨y, rfl, h1, h2⟩
  · constructor <;> simp
  · constructor <;> simp [h1, h2]

structure SepFacts (c : Cfg) (o : Option Nat) : Prop where
  anyDigit : o.any c.isDigit = false
  anySep : o.any c.isSep = true
  allOther : o.all (fun x => !c.isDigit x && !c.isSep x) = false
  allNoSep : o.all (fun x => !c.isSep x) = false

theorem sepFacts_S (c : Cfg) (o : Option Nat) (h : IsS c o) : SepFacts c o := by
  obtain ⟨y, rfl, h1, h2⟩ := h
  constructor <;> simp [h1, h2]

def FlagsEnable (fl : SepFlags) (dB dA single : Bool) : Prop :=
  (dB = true → dA = true → fl.i = true) ∧ (dB = false → dA = true → fl.l = true) ∧
  (dB = true → dA = false → fl.t = true) ∧ (dB = false → dA = false → False) ∧ (single = false → fl.c = true)

theorem holds_consecutive_next (c : Cfg) (p : Pred) (hc : p.consecutive = true) (n : Nbr) (x : Option Nat) (first : Bool) :
    p.holds c n first = p.holds c ⟨n.prev, x, n.prevc, n.nextc⟩ first := by
  cases p <;> first | rfl | cases hc

theorem skip_consecutive {fl : SepFlags} {p : Pred} (hp : fl.skip = .pred p) : p.consecutive = fl.c := by
  obtain ⟨fi, fl', ft, fc⟩ := fl
  cases fi <;> cases fl' <;> cases ft <;> cases fc <;>
    simp only [SepFlags.skip, Skip.pred.injEq, reduceCtorEq] at hp <;>
    subst hp <;> rfl

/-- a run of one separator, or any run seen by a predicate with the consecutive flag: `prev` is `prevc`, `next` is `nextc` -/
theorem enabled_holds_single (c : Cfg) (fl : SepFlags) (p : Pred) (hp : fl.skip = .pred p) (prev nextc : Option Nat)
    (dB dA : Bool) (hen : FlagsEnable fl dB dA true) (hprev : OptFacts c prev dB) (hnextc : OptFacts c nextc dA) :
    p.holds c ⟨prev, nextc, prev, nextc⟩ (!dB) = true := by
  obtain ⟨fi, fl', ft, fc⟩ := fl
  obtain ⟨e1, e2, e3, e4, -⟩ := hen
  obtain ⟨a1, a2, a3, a4, a5, a6⟩ := hprev
  obtain ⟨b1, b2, b3, b4, b5, b6⟩ := hnextc
  simp only at e1 e2 e3
  cases dB
  · cases dA
    · exact (e4 rfl rfl).elim
    · -- leading
      obtain rfl : fl' = true := e2 rfl rfl
      cases fi <;> cases ft <;> cases fc <;>
        simp only [SepFlags.skip, Skip.pred.injEq] at hp <;>
        subst hp <;>
        simp [Pred.holds, a1, a2, a3, a4, a5, b1, b2, b4]
  · cases dA
    · -- trailing
      obtain rfl : ft = true := e3 rfl rfl
      cases fi <;> cases fl' <;> cases fc <;>
        simp only [SepFlags.skip, Skip.pred.injEq] at hp <;>
        subst hp <;>
        simp [Pred.holds, b3, b4, b5]
    · -- internal
      obtain rfl : fi = true := e1 rfl rfl
      cases fl' <;> cases ft <;> cases fc <;>
        simp only [SepFlags.skip, Skip.pred.injEq] at hp <;>
        subst hp <;>
        simp [Pred.holds, b1, b4, b6]

/-- an enabled run is skipped: at the first separator of a maximal run whose kind and length the flags enable, the
predicate of the component holds (`first` = no digit of the component seen yet = no digit before the run) -/
theorem enabled_holds (c : Cfg) (fl : SepFlags) (p : Pred) (hp : fl.skip = .pred p) (n : Nbr) (dB dA single : Bool)
    (hen : FlagsEnable fl dB dA single) (hprev : OptFacts c n.prev dB) (hprevc : n.prevc = n.prev)
    (hnextc : OptFacts c n.nextc dA)
    (hnext : if single = true then n.next = n.nextc else SepFacts c n.next) :
    p.holds c n (!dB) = true := by
  have hen1 : FlagsEnable fl dB dA true := ⟨hen.1, hen.2.1, hen.2.2.1, hen.2.2.2.1, fun h => by cases h⟩
  have hs := enabled_holds_single c fl p hp n.prev n.nextc dB dA hen1 hprev hnextc
  obtain ⟨p1, x1, pc1, xc1⟩ := n
  simp only at hprevc hnext hs
  subst hprevc
  cases single
  · -- several separators: the consecutive flag is set, and such a predicate does not look at `next`
    have hc : p.consecutive = true := by rw [skip_consecutive hp]; exact hen.2.2.2.2 rfl
    rw [holds_consecutive_next c p hc _ xc1]
    exact hs
  · simp only [if_true] at hnext
    subst hnext
    exact hs

theorem slice_succ (s : List Nat) (a i x : Nat) (h : a ≤ i) (hx : s[i]? = some x) :
    slice s a (i + 1) = slice s a i ++ [x] := by
  rw [slice_append s a i (i + 1) h (by omega), slice_one s i x hx]

theorem peekIdx_lands (c : Cfg) (k : Comp) (p : Pred) (hk : c.skip k = .pred p) (s : List Nat) (a z : Nat)
    (hterm : ∀ x, s[z]? = some x → c.isSep x = false)
    (hE : ∀ i, a ≤ i → i < z → ∀ x, s[i]? = some x → c.isSep x = true →
      (i = a ∨ ∃ y, s[i - 1]? = some y ∧ c.isSep y = false) →
      p.holds c (nbr c s i) ((slice s a i).all c.isSep) = true)
    (hsingle : p.consecutive = false → ∀ i, a ≤ i → i + 1 < z → ∀ x y, s[i]? = some x → s[i + 1]? = some y →
      c.isSep x = true → c.isSep y = false)
    (f : Bool) (i : Nat) (hab : a ≤ i) (hbz : i ≤ z) (hcnt : f = (slice s a i).all c.isSep)
    (hstart : ∀ x, s[i]? = some x → c.isSep x = true → i = a ∨ ∃ y, s[i - 1]? = some y ∧ c.isSep y = false) :
    IterSpec.peekIdx c k s f i ≤ z ∧ (∀ x, s[IterSpec.peekIdx c k s f i]? = some x → c.isSep x = false) ∧
      (slice s a (IterSpec.peekIdx c k s f i)).all c.isSep = (slice s a i).all c.isSep := by
  have hge := IterSpec.peekIdx_ge c k s f i
  -- the cursor moves over separators only, so not over `z`
  have hjz : IterSpec.peekIdx c k s f i ≤ z := Nat.le_of_not_lt fun hq => by
    obtain ⟨x, hx, hs⟩ := IterSpec.peekIdx_seps c k s f i z hbz hq
    rw [hterm x hx] at hs; cases hs
  have hall : (slice s i (IterSpec.peekIdx c k s f i)).all c.isSep = true := by
    have := IterSpec.nonSep_peek (c := c) (k := k) s f i
    simp only [nonSep, List.filter_eq_nil_iff, Bool.not_eq_true, Bool.not_eq_false'] at this
    exact List.all_eq_true.mpr this
  refine ⟨hjz, ?_, by rw [slice_append s a i _ hab hge, List.all_append, hall, Bool.and_true]⟩
  cases hx : s[i]? with
  | none => rw [IterSpec.peekIdx_nonsep c k s f i (by simp [hx])]; simp [hx]
  | some x =>
    cases hs : c.isSep x with
    | false =>
      rw [IterSpec.peekIdx_nonsep c k s f i (by intro y hy; rw [hx] at hy; cases hy; exact hs)]
      intro y hy; rw [hx] at hy; cases hy; exact hs
    | true =>
      have hlt : i < z := Nat.lt_of_le_of_ne hbz fun e => by subst e; rw [hterm x hx] at hs; cases hs
      have hh : p.holds c (nbr c s i) f = true := by rw [hcnt]; exact hE i hab hlt x hx hs (hstart x hx hs)
      cases hcons : p.consecutive with
      | true =>
        -- the cursor lands behind the whole run of separators
        rw [IterSpec.peekIdx_skip hk hx hs hh, hcons, if_pos rfl]
        intro y hy
        exact IterSpec.countSeps_stop c (s.drop (i + 1)) y (by rw [List.getElem?_drop]; exact hy)
      | false =>
        rw [IterSpec.peekIdx_skip hk hx hs hh, hcons, if_neg Bool.false_ne_true] at hjz ⊢
        intro y hy
        by_cases hl2 : i + 1 < z
        · exact hsingle hcons i hab hl2 x y hx hy hs
        · rw [show i + 1 = z by omega] at hy; exact hterm y hy

theorem scan_to_term (c : Cfg) (k : Comp) (p : Pred) (hk : c.skip k = .pred p) (r : Nat)
    (s : List Nat) (a z : Nat) (hz : z ≤ s.length)
    (hbody : ∀ i, a ≤ i → i < z → ∀ x, s[i]? = some x → c.isSep x = true ∨ (charToDigit x r).isSome = true)
    (hterm : ∀ x, s[z]? = some x → c.isSep x = false ∧ charToDigit x r = none)
    (hE : ∀ i, a ≤ i → i < z → ∀ x, s[i]? = some x → c.isSep x = true →
      (i = a ∨ ∃ y, s[i - 1]? = some y ∧ c.isSep y = false) →
      p.holds c (nbr c s i) ((slice s a i).all c.isSep) = true)
    (hsingle : p.consecutive = false → ∀ i, a ≤ i → i + 1 < z → ∀ x y, s[i]? = some x → s[i + 1]? = some y →
      c.isSep x = true → c.isSep y = false) :
    ∀ (lim : Nat) (f : Bool) (i : Nat), a ≤ i → i ≤ z → f = (slice s a i).all c.isSep →
      (∀ x, s[i]? = some x → c.isSep x = true → i = a ∨ ∃ y, s[i - 1]? = some y ∧ c.isSep y = false) →
      (IterSpec.scan c k s (IterSpec.isDig r) lim f i).1.length < lim →
      (IterSpec.scan c k s (IterSpec.isDig r) lim f i).2 = z
  | 0, _, _ => by intro _ _ _ _ h; simp at h
  | lim + 1, f, i => by
    intro hab hbz hcnt hstart hlt
    obtain ⟨hjz, hns, hall⟩ := peekIdx_lands c k p hk s a z (fun x hx => (hterm x hx).1) hE hsingle f i hab hbz hcnt hstart
    have hge := IterSpec.peekIdx_ge c k s f i
    unfold IterSpec.scan at hlt ⊢
    cases hx : s[IterSpec.peekIdx c k s f i]? with
    | none =>
      have := List.getElem?_eq_none_iff.mp hx
      simp only; omega
    | some x =>
      simp only [hx] at hlt ⊢
      cases hd : IterSpec.isDig r x with
      | false =>
        -- `peek` shows no digit: inside the part every non-separator is a digit, so the cursor is at `z`
        simp only [Bool.false_eq_true, if_false]
        refine Nat.le_antisymm hjz (Nat.le_of_not_lt fun hq => ?_)
        rcases hbody _ (by omega) hq x hx with h | h
        · rw [hns x hx] at h; cases h
        · simp [IterSpec.isDig, h] at hd
      | true =>
        -- a digit, which is not the terminator: the loop goes on behind it, inside the part
        simp only [hd, if_true, List.length_cons] at hlt ⊢
        have hq : IterSpec.peekIdx c k s f i < z := Nat.lt_of_le_of_ne hjz fun e => by
          rw [e] at hx; simp [IterSpec.isDig, (hterm x hx).2] at hd
        refine scan_to_term c k p hk r s a z hz hbody hterm hE hsingle lim false _ (by omega) hq ?_ ?_ (by omega)
        · rw [slice_succ s a _ x (by omega) hx, List.all_append]
          simp [hns x hx]
        · intro y _ _
          exact Or.inr ⟨x, by simpa using hx, hns x hx⟩

/-- the documented rule at a separator position `i`: a digit of the component before (through separators) and after it
— internal, needs I; only after — leading, needs L; only before — trailing, needs T; a separator next to it — needs C -/
def DocEnabledAt (c : Cfg) (fl : SepFlags) (s : List Nat) (i : Nat) : Prop :=
  FlagsEnable fl ((prevcByte c s i).any c.isDigit) ((nextcByte c s i).any c.isDigit)
    (!((s[i + 1]?).any c.isSep || (getPrev s i).any c.isSep))

/-- the part `[a, z)` of the input belongs to component `k`, and every separator in it is at a position the flags of `k`
enable -/
structure PartEnabled (c : Cfg) (k : Comp) (r : Nat) (s : List Nat) (a z : Nat) : Prop where
  le : a ≤ z ∧ z ≤ s.length
  body : ∀ i, a ≤ i → i < z → ∀ x, s[i]? = some x →
    c.isSep x = true ∨ ((charToDigit x r).isSome = true ∧ c.isDigit x = true)
  term : ∀ x, s[z]? = some x → c.isSep x = false ∧ charToDigit x r = none ∧ c.isDigit x = false
  before : ∀ x, getPrev s a = some x → c.isDigit x = false ∧ c.isSep x = false
  enabled : ∀ i, a ≤ i → i < z → ∀ x, s[i]? = some x → c.isSep x = true → DocEnabledAt c (c.sepFlags k) s i

theorem firstNonSep_nonsep (c : Cfg) : ∀ (l : List Nat) (x : Nat), firstNonSep c l = some x → c.isSep x = false := by
  intro l
  induction l with
  | nil => intro x h; simp [firstNonSep] at h
  | cons y ys ih =>
    intro x h
    simp only [firstNonSep] at h
    split at h
    · exact ih x h
    · next hs => simp only [Option.some.injEq] at h; rw [← h]; simpa using hs

theorem optFacts_self (c : Cfg) (o : Option Nat) (h : ∀ y, o = some y → c.isSep y = false) :
    OptFacts c o (o.any c.isDigit) := by
  cases o with
  | none => constructor <;> simp
  | some y =>
    have hs := h y rfl
    cases hd : c.isDigit y <;> constructor <;> simp [hd, hs]

theorem skip_sepFlags (c : Cfg) (k : Comp) (hks : k ≠ .special) : (c.sepFlags k).skip = c.skip k := by
  cases k <;> first | exact absurd rfl hks | rfl

theorem mem_slice {s : List Nat} {a e j y : Nat} (h1 : a ≤ j) (h2 : j < e) (hy : s[j]? = some y) : y ∈ slice s a e := by
  apply List.mem_of_getElem? (i := j - a)
  rw [slice_get s a e (j - a) (by omega), Nat.add_sub_cancel' h1]
  exact hy

theorem partEnabled_run (c : Cfg) (k : Comp) (p : Pred) (hks : k ≠ .special) (hk : c.skip k = .pred p) (r : Nat)
    (hsepd : ∀ x, c.isSep x = true → c.isDigit x = false) (s : List Nat) (a z : Nat)
    (hP : PartEnabled c k r s a z) :
    (∀ i, a ≤ i → i < z → ∀ x, s[i]? = some x → c.isSep x = true →
      (i = a ∨ ∃ y, s[i - 1]? = some y ∧ c.isSep y = false) →
      p.holds c (nbr c s i) ((slice s a i).all c.isSep) = true) ∧
    (p.consecutive = false → ∀ i, a ≤ i → i + 1 < z → ∀ x y, s[i]? = some x → s[i + 1]? = some y →
      c.isSep x = true → c.isSep y = false) := by
  have hfl := (skip_sepFlags c k hks).trans hk
  refine ⟨?_, ?_⟩
  · intro i hai hiz x hx hs hstart
    have hen := hP.enabled i hai hiz x hx hs
    unfold DocEnabledAt at hen
    -- the byte before the run is not a separator; the flag of `scan_to_term`: no non-separator in `[a, i)` ⟺ that
    -- byte is no digit
    obtain ⟨hprevns, hflag⟩ : (∀ y, getPrev s i = some y → c.isSep y = false) ∧
        (slice s a i).all c.isSep = !((getPrev s i).any c.isDigit) := by
      by_cases hia : i = a
      · subst hia
        refine ⟨fun y hy => (hP.before y hy).2, ?_⟩
        rw [slice_self]
        cases hg : getPrev s i with
        | none => rfl
        | some y => simp [(hP.before y hg).1]
      · obtain ⟨y, hy, hsy⟩ := hstart.resolve_left hia
        have hg : getPrev s i = some y := by simp [getPrev, show i ≠ 0 by omega, hy]
        have hyd := ((hP.body (i - 1) (by omega) (by omega) y hy).resolve_left (by simp [hsy])).2
        rw [hg]
        refine ⟨fun y' hy' => by cases hy'; exact hsy, ?_⟩
        simp only [Option.any_some, hyd, Bool.not_true, List.all_eq_false]
        exact ⟨y, mem_slice (by omega) (by omega) hy, by simp [hsy]⟩
    have hprevc : prevcByte c s i = getPrev s i := by
      cases i with
      | zero => rfl
      | succ j =>
        simp only [prevcByte, getPrev, Nat.succ_ne_zero, if_false, Nat.add_sub_cancel]
        cases hv : s[j]? with
        | none => rfl
        | some y => simp [hprevns y (by simp [getPrev, hv])]
    have hprev := optFacts_self c _ hprevns
    rw [hprevc, hprev.anySep, Bool.or_false] at hen
    rw [hflag]
    refine enabled_holds c _ p hfl (nbr c s i) _ _ _ hen hprev hprevc
      (optFacts_self c _ (firstNonSep_nonsep c _)) ?_
    simp only [nbr]
    cases hn : s[i + 1]? with
    | none =>
      simp only [Option.any_none, Bool.not_false, if_true]
      simp [nextcByte, IterSpec.drop_of_none hn, firstNonSep]
    | some y =>
      cases hsy : c.isSep y with
      | false =>
        simp only [Option.any_some, hsy, Bool.not_false, if_true]
        simp [nextcByte, IterSpec.drop_eq_cons hn, firstNonSep, hsy]
      | true =>
        simp only [Option.any_some, hsy, Bool.not_true, Bool.false_eq_true, if_false]
        exact sepFacts_S c _ ⟨y, rfl, hsepd y hsy, hsy⟩
  · intro hnc i hai hiz x y hx hy hs
    have hen := hP.enabled i hai (by omega) x hx hs
    unfold DocEnabledAt at hen
    cases hsy : c.isSep y with
    | false => rfl
    | true =>
      have h5 := hen.2.2.2.2
      simp only [hy, Option.any_some, hsy, Bool.true_or, Bool.not_true] at h5
      rw [← hnc, skip_consecutive hfl]
      exact (h5 trivial).symm

theorem sepFlags_eq_none {f : SepFlags} (h : f.skip = .noskip) : f = SepFlags.none := by
  obtain ⟨i, l, t, cc⟩ := f
  cases i <;> cases l <;> cases t <;> cases cc <;> first | rfl | cases h

theorem partEnabled_end (c : Cfg) (k : Comp) (hks : k ≠ .special) (hd : c.debug = false)
    (hreach : c.skip k ≠ .unreachable) (r : Nat)
    (hsepd : ∀ x, c.isSep x = true → c.isDigit x = false) (s : List Nat) (a z : Nat)
    (hP : PartEnabled c k r s a z) (b e : Bytes) (ds : List Nat) (hbs : b.slc = s) (hba : b.index = a)
    (h0 : c.iterContiguous k = false → Bytes.iterCount c k b = 0) (hR : Run c k r b e ds) : e.index = z := by
  subst hbs hba
  cases hk : c.skip k with
  | unreachable => exact absurd hk hreach
  | noskip =>
    -- no separator flag: the part contains no separator at all
    have hfl := sepFlags_eq_none ((skip_sepFlags c k hks).trans hk)
    have hnosep : ∀ i, b.index ≤ i → i < z → ∀ x, b.slc[i]? = some x → c.isSep x = false := by
      intro i h1 h2 x hx
      rcases Bool.eq_false_or_eq_true (c.isSep x) with hs | hs
      · have hen := hP.enabled i h1 h2 x hx hs
        unfold DocEnabledAt at hen
        rw [hfl] at hen
        obtain ⟨e1, e2, e3, e4, _⟩ := hen
        cases hB : (prevcByte c b.slc i).any c.isDigit <;> cases hA : (nextcByte c b.slc i).any c.isDigit
        · exact (e4 hB hA).elim
        · cases e2 hB hA
        · cases e3 hB hA
        · cases e1 hB hA
      · exact hs
    -- the run cannot pass `z`, and cannot stop before it
    have hez : e.index ≤ z := Nat.le_of_not_lt fun hq => by
      have hzx := List.getElem?_eq_getElem (Nat.lt_of_lt_of_le hq hR.valid)
      have ht := hP.term _ hzx
      rcases hR.bytes _ (mem_slice hP.le.1 hq hzx) with h | h
      · rw [ht.1] at h; cases h
      · rw [ht.2.1] at h; cases h
    refine Nat.le_antisymm hez (Nat.le_of_not_lt fun hlt => ?_)
    have hx := List.getElem?_eq_getElem (Nat.lt_of_lt_of_le hlt hP.le.2)
    rcases hP.body e.index hR.le hlt _ hx with h | h
    · rw [hnosep e.index hR.le hlt _ hx] at h; cases h
    · rw [hR.stop _ hx] at h; cases h.1
  | pred p =>
    have hc := IterSpec.contig_of_pred hk
    obtain ⟨hE, hsingle⟩ := partEnabled_run c k p hks hk r hsepd _ _ z hP
    have hrun := hR.run
    rw [parseDigits_eq c k r hd hreach b] at hrun
    simp only [Except.ok.injEq, Prod.mk.injEq] at hrun
    have hle := IterSpec.scan_le (c := c) (k := k) b.slc (IterSpec.isDig r) (b.slc.length + 1) (b.iterCount c k == 0)
      b.index (Nat.le_trans hP.le.1 hP.le.2)
    rw [← hrun.2, IterSpec.mv_index]
    refine scan_to_term c k p hk r _ _ z hP.le.2
      (fun i h1 h2 x hx => (hP.body i h1 h2 x hx).imp_right And.left)
      (fun x hx => ⟨(hP.term x hx).1, (hP.term x hx).2.1⟩) hE hsingle _ _ _ (Nat.le_refl _) hP.le.1 ?_ ?_ (by omega)
    · rw [slice_self, h0 hc]; rfl
    · intro x _ _; exact Or.inl rfl

theorem int_after_peek (c : Cfg) (k : Comp) (hks : k ≠ .special) (hd : c.debug = false)
    (hreach : ∀ k, c.skip k ≠ .unreachable) (r : Nat) (hsepr : ∀ x, c.isSep x = true → charToDigit x r = none)
    (hsepd : ∀ x, c.isSep x = true → c.isDigit x = false) (s : List Nat) (a z : Nat)
    (hP : PartEnabled c k r s a z) (b1 b0 : Bytes) (v : Option Nat) (hbs : b1.slc = s) (hba : b1.index = a)
    (h0 : c.iterContiguous k = false → Bytes.iterCount c k b1 = 0) (hp : peek c k b1 = .ok (v, b0)) :
    (∀ x, s[b0.index]? = some x → c.isSep x = false) ∧ ∀ e ds, Run c k r b0 e ds → e.index = z := by
  subst hbs hba
  have hv1 : Bytes.Valid b1 := Nat.le_trans hP.le.1 hP.le.2
  obtain ⟨dd, ee, hrun, _⟩ := PNTotal.parseDigits_tot ⟨hd, hreach⟩ k r b1 hv1
  have hend := partEnabled_end c k hks hd (hreach k) r hsepd _ _ z hP b1 ee dd rfl rfl h0
    (Run.of_clean c k r hd (clean_of_sep hsepr k) b1 ee dd hv1 hrun)
  obtain ⟨-, rfl⟩ := (IterSpec.peek_ok_iff (hreach k)).1 hp
  refine ⟨fun x hx => ?_, fun e ds hR => ?_⟩
  · rcases Bool.eq_false_or_eq_true (c.isSep x) with hcs | hcs
    · -- the run from `b1` would stop right here, on a separator — but it ends at the terminator
      rw [IterSpec.parseDigits_stop (hreach k) r b1 fun y hy => by
        rw [show b1.slc[IterSpec.pk c k b1]? = some x from hx] at hy; cases hy; exact hsepr x hcs] at hrun
      simp only [Except.ok.injEq, Prod.mk.injEq] at hrun
      rw [← hrun.2] at hend
      rw [show (IterSpec.cur b1 (IterSpec.pk c k b1)).index = z from hend] at hx
      exact (hP.term x hx).1
    · exact hcs
  · have h2 := hR.run
    rw [parseDigits_peeked hd (hreach k) hsepd, hrun] at h2
    simp only [Except.ok.injEq, Prod.mk.injEq] at h2
    rw [← h2.2]; exact hend

def signLen (l : List Nat) : Nat :=
  match l.head? with
  | some 43 => 1
  | some 45 => 1
  | _ => 0

def ExpEnabled (c : Cfg) (o : POpts) (s : List Nat) (y : Nat) : Prop :=
  ∀ x, s[y]? = some x → matchesExp c o x = true →
    ∃ zE, PartEnabled c .exponent c.exponentRadix s (y + 1 + signLen (s.drop (y + 1))) zE

/-- every separator of `s` is at a position the flags enable: the integer part (behind the optional sign), the
fraction part (behind the decimal point that terminates the integer part) and the exponent part (behind the exponent
character and its optional sign) each satisfy the documented position rules of their component -/
def DocEnabled (c : Cfg) (o : POpts) (s : List Nat) : Prop :=
  ∃ zI, PartEnabled c .integer c.mantissaRadix s (signLen s) zI ∧
    (s[zI]? = some o.dp → ∃ zF, PartEnabled c .fraction c.mantissaRadix s (zI + 1) zF ∧ ExpEnabled c o s zF) ∧
    (s[zI]? ≠ some o.dp → ExpEnabled c o s zI)

theorem parseSign_signLen (c : Cfg) (hd : c.debug = false) (np rq : Bool) (ip ms : String) (b b1 : Bytes) (neg : Bool)
    (h : parseSign c np rq ip ms b = .ok (neg, b1)) :
    b1 = { b with index := b.index + signLen (b.slc.drop b.index) } := by
  unfold signLen
  rw [List.head?_drop]
  rcases parseSign_inv c hd np rq ip ms b b1 neg h with ⟨rfl, h2⟩ | ⟨rfl, h43, h45⟩
  · rcases h2 with h2 | h2 <;> rw [h2] <;> rfl
  · split
    · next he => exact absurd he h43
    · next he => exact absurd he h45
    · rfl

theorem nonStuck_of_docEnabled (c : Cfg) (o : POpts) (hG : GenStrip c o) (s : List Nat) (hD : DocEnabled c o s) :
    NonStuck c o s := by
  -- each digit run ends at the terminator of its enabled part (`int_after_peek`, `partEnabled_end`): no separator
  obtain ⟨zI, hPI, hdpE, hnodpE⟩ := hD
  intro neg b1 v b0 hps hp
  have hd := hG.rel.debug
  unfold parseMantissaSign at hps
  have hb1 := parseSign_signLen c hd _ _ _ _ _ _ _ hps
  simp only [new_slc, new_index, List.drop_zero, Nat.zero_add] at hb1
  subst hb1
  obtain ⟨hN0, hIend⟩ := int_after_peek c .integer (by decide) hd hG.rel.reach _ hG.sepDigM
    hG.sepNotDigit s _ zI hPI _ b0 v rfl rfl (fun hc => by simp [Bytes.iterCount, Bytes.new, hc]) hp
  have hsp := peek_spec c .integer _ b0 v (Nat.le_trans hPI.le.1 hPI.le.2) hp
  have hexpN : ∀ f : Bytes, f.slc = s → f.ec = 0 → ExpEnabled c o s f.index → ExpNormal c o s f := by
    intro f hfs hfe hE hfx r hr e ds hR x hx
    rw [firstIs_exp, hfs] at hfx
    cases hz : s[f.index]? with
    | none => rw [hz] at hfx; cases hfx
    | some w =>
      rw [hz] at hfx
      obtain ⟨zE, hPE⟩ := hE w hz hfx
      unfold parseExponentSign at hr
      have hr2 := parseSign_signLen c hd _ _ _ _ _ _ _ hr
      simp only [hfs] at hr2
      have hend := partEnabled_end c .exponent (by decide) hd (hG.rel.reach _) _
        hG.sepNotDigit s _ zE hPE r.2 e ds (by rw [hr2]) (by rw [hr2])
        (by intro hc; rw [hr2]; simp [Bytes.iterCount, hc, hfe]) hR
      rw [hend] at hx
      exact (hPE.term x hx).1
  refine ⟨hN0, ?_⟩
  intro eI dsI hRI
  have heIi := hIend eI dsI hRI
  subst heIi
  have heI : eI.slc = s := hRI.slc.trans hsp.1
  have heIc : eI.fc = 0 ∧ eI.ec = 0 := by
    rw [hRI.eq]
    simp [advS, Bytes.new, hsp.2.2.1, hsp.2.2.2.1]
  refine ⟨fun x hx => (hPI.term x hx).1, ?_, fun hnodp => hexpN eI heI heIc.2 (hnodpE hnodp)⟩
  intro hdp eF dsF hRF
  obtain ⟨zF, hPF, hEF⟩ := hdpE hdp
  have hendF := partEnabled_end c .fraction (by decide) hd (hG.rel.reach _) _
    hG.sepNotDigit s _ zF hPF { eI with index := eI.index + 1 } eF dsF heI rfl
    (by intro hc; simp [Bytes.iterCount, hc, heIc.1]) hRF
  subst hendF
  have heFc : eF.ec = 0 := by rw [hRF.eq]; simp [advS, heIc.2]
  exact ⟨fun x hx => (hPF.term x hx).1, hexpN eF (hRF.slc.trans heI) heFc hEF⟩

/-! ### executable form of `PartEnabled` (for concrete inputs) -/

instance (fl : SepFlags) (a b d : Bool) : Decidable (FlagsEnable fl a b d) := by
  unfold FlagsEnable; infer_instance

instance (c : Cfg) (fl : SepFlags) (s : List Nat) (i : Nat) : Decidable (DocEnabledAt c fl s i) := by
  unfold DocEnabledAt; infer_instance

def partEnabledB (c : Cfg) (k : Comp) (r : Nat) (s : List Nat) (a z : Nat) : Bool :=
  decide (a ≤ z) && decide (z ≤ s.length) &&
  ((List.range (z - a)).all fun t =>
    match s[a + t]? with
    | some x =>
      (c.isSep x || ((charToDigit x r).isSome && c.isDigit x)) &&
        (!c.isSep x || decide (DocEnabledAt c (c.sepFlags k) s (a + t)))
    | none => false) &&
  (match s[z]? with
   | some x => !c.isSep x && (charToDigit x r).isNone && !c.isDigit x
   | none => true) &&
  (match getPrev s a with
   | some x => !c.isDigit x && !c.isSep x
   | none => true)

theorem partEnabled_of_B (c : Cfg) (k : Comp) (r : Nat) (s : List Nat) (a z : Nat)
    (h : partEnabledB c k r s a z = true) : PartEnabled c k r s a z := by
  unfold partEnabledB at h
  simp only [Bool.and_eq_true, decide_eq_true_eq] at h
  obtain ⟨⟨⟨⟨h1, h2⟩, h3⟩, h4⟩, h5⟩ := h
  have hbody : ∀ i, a ≤ i → i < z → ∀ x, s[i]? = some x →
      (c.isSep x = true ∨ ((charToDigit x r).isSome = true ∧ c.isDigit x = true)) ∧
      (c.isSep x = true → DocEnabledAt c (c.sepFlags k) s i) := by
    intro i hai hiz x hx
    have := List.all_eq_true.mp h3 (i - a) (List.mem_range.mpr (by omega))
    have e : a + (i - a) = i := by omega
    rw [e, hx] at this
    simp only [Bool.and_eq_true, Bool.or_eq_true, Bool.not_eq_true', decide_eq_true_eq] at this
    refine ⟨this.1, ?_⟩
    intro hs
    rcases this.2 with h | h
    · rw [hs] at h; cases h
    · exact h
  refine ⟨⟨h1, h2⟩, fun i hai hiz x hx => (hbody i hai hiz x hx).1, ?_, ?_,
    fun i hai hiz x hx hs => (hbody i hai hiz x hx).2 hs⟩
  · intro x hx
    rw [hx] at h4
    simp only [Bool.and_eq_true, Bool.not_eq_true', Option.isNone_iff_eq_none] at h4
    exact ⟨h4.1.1, h4.1.2, h4.2⟩
  · intro x hx
    rw [hx] at h5
    simp only [Bool.and_eq_true, Bool.not_eq_true'] at h5
    exact h5

end LexVerif.Proof.Sep
