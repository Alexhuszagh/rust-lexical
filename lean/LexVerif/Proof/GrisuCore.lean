import Mathlib.Tactic.Ring
import Mathlib.Tactic.Linarith
/-!
# Proof.GrisuCore — error analysis of the three rounded products of `grisu` (pure `Nat`)

`c̃` is the cached 64-bit significand, `cn/cd` the exact value it approximates (`|c̃ − cn/cd| ≤ 1/2`), `x` a normalised
64-bit boundary; `rnd x = ⌊(x·c̃ + 2^63)/2^64⌋` is what `mul` returns.  Then `rnd x − 1 < x·c/2^64 < rnd x + 1`
(`prod_upper`, `prod_lower`: named after the boundary each is used at), so the shrunk interval `[rnd lo + 1, rnd hi − 1]` lies strictly inside the true scaled one.
-/
namespace LexVerif.Proof.GrisuCore

def rnd (x c : Nat) : Nat := (x * c + 2 ^ 63) / 2 ^ 64

theorem round_facts (P : Nat) : (P + 2 ^ 63) / 2 ^ 64 * 2 ^ 64 ≤ P + 2 ^ 63
    ∧ P + 2 ^ 63 < ((P + 2 ^ 63) / 2 ^ 64 + 1) * 2 ^ 64 := by
  constructor
  · exact Nat.div_mul_le_self _ _
  · have := Nat.lt_mul_div_succ (P + 2 ^ 63) (by decide : 0 < 2 ^ 64)
    rw [Nat.mul_comm (2 ^ 64)] at this
    exact this

theorem rnd_lo (x c : Nat) : rnd x c * 2 ^ 64 ≤ x * c + 2 ^ 63 := (round_facts (x * c)).1

theorem rnd_hi (x c : Nat) : x * c + 2 ^ 63 < (rnd x c + 1) * 2 ^ 64 := (round_facts (x * c)).2

theorem prod_lower {x c cn cd : Nat} (hx : x < 2 ^ 64) (hcd : 0 < cd) (h2 : 2 * cn ≤ 2 * (c * cd) + cd) :
    x * cn < (rnd x c + 1) * 2 ^ 64 * cd := by
  have h := rnd_hi x c
  have a1 : 2 * (x * cn) ≤ 2 * (x * (c * cd)) + x * cd := by
    calc 2 * (x * cn) = x * (2 * cn) := by ring
      _ ≤ x * (2 * (c * cd) + cd) := Nat.mul_le_mul_left _ h2
      _ = 2 * (x * (c * cd)) + x * cd := by ring
  have a2 : x * cd < 2 ^ 64 * cd := Nat.mul_lt_mul_of_pos_right hx hcd
  have a3 : (x * c + 2 ^ 63) * cd < (rnd x c + 1) * 2 ^ 64 * cd := Nat.mul_lt_mul_of_pos_right h hcd
  have a4 : (x * c + 2 ^ 63) * cd = x * (c * cd) + 2 ^ 63 * cd := by ring
  have a5 : 2 ^ 64 * cd = 2 * (2 ^ 63 * cd) := by ring
  omega

/-- stated with `r + 1 = rnd` to avoid truncated subtraction -/
theorem prod_upper {x c cn cd r : Nat} (hx : x < 2 ^ 64) (hcd : 0 < cd) (h1 : 2 * (c * cd) ≤ 2 * cn + cd)
    (hr : r + 1 = rnd x c) : r * 2 ^ 64 * cd < x * cn := by
  have h := rnd_lo x c
  rw [← hr] at h
  have a1 : 2 * (x * (c * cd)) ≤ 2 * (x * cn) + x * cd := by
    calc 2 * (x * (c * cd)) = x * (2 * (c * cd)) := by ring
      _ ≤ x * (2 * cn + cd) := Nat.mul_le_mul_left _ h1
      _ = 2 * (x * cn) + x * cd := by ring
  have a2 : x * cd < 2 ^ 64 * cd := Nat.mul_lt_mul_of_pos_right hx hcd
  have a3 : (r + 1) * 2 ^ 64 * cd ≤ (x * c + 2 ^ 63) * cd := Nat.mul_le_mul_right _ h
  have a4 : (x * c + 2 ^ 63) * cd = x * (c * cd) + 2 ^ 63 * cd := by ring
  have a5 : (r + 1) * 2 ^ 64 * cd = r * 2 ^ 64 * cd + 2 * (2 ^ 63 * cd) := by ring
  omega

theorem rnd_mono {x y c : Nat} (h : x ≤ y) : rnd x c ≤ rnd y c := by
  unfold rnd
  exact Nat.div_le_div_right (Nat.add_le_add_right (Nat.mul_le_mul_right _ h) _)

theorem rnd_gap {x y c g : Nat} (h : x * c + g * 2 ^ 64 ≤ y * c) : rnd x c + g ≤ rnd y c := by
  unfold rnd
  have : (x * c + 2 ^ 63) / 2 ^ 64 + g = (x * c + 2 ^ 63 + g * 2 ^ 64) / 2 ^ 64 := by
    rw [Nat.add_mul_div_right _ _ (by decide : 0 < 2 ^ 64)]
  rw [this]
  exact Nat.div_le_div_right (by omega)

/-! ## the shrunk interval: non-empty, contains `w`, and relatively wide (digit-count bound)

With `K = 2^s·c̃` the three products are `(4m+2)·K`, `4m·K` and `(4m-2)·K` (`(4m-1)·K` on a binade boundary);
`u, w, l` are their roundings. -/

theorem shrunk_gen {PU PW PL G n10 : Nat} (hG : PL + G ≤ PU) (hW : PW + 2 ^ 64 ≤ PU) (hG3 : 4 * 2 ^ 64 ≤ G)
    (hn : 10 * PU + 3 * n10 * 2 ^ 64 + 10 * 2 ^ 64 ≤ n10 * G) :
    (PL + 2 ^ 63) / 2 ^ 64 + 3 ≤ (PU + 2 ^ 63) / 2 ^ 64
    ∧ (PW + 2 ^ 63) / 2 ^ 64 + 1 ≤ (PU + 2 ^ 63) / 2 ^ 64
    ∧ 10 * ((PU + 2 ^ 63) / 2 ^ 64 - 1)
        ≤ n10 * ((PU + 2 ^ 63) / 2 ^ 64 - 1 - ((PL + 2 ^ 63) / 2 ^ 64 + 1)) := by
  obtain ⟨u1, u2⟩ := round_facts PU
  obtain ⟨w1, w2⟩ := round_facts PW
  obtain ⟨l1, l2⟩ := round_facts PL
  generalize (PU + 2 ^ 63) / 2 ^ 64 = u at *
  generalize (PW + 2 ^ 63) / 2 ^ 64 = w at *
  generalize (PL + 2 ^ 63) / 2 ^ 64 = l at *
  have hl3 : l + 3 ≤ u := by omega
  refine ⟨hl3, by omega, ?_⟩
  -- each rounding moves its product by at most `2^63`
  have g1 : G ≤ (u - l - 2) * 2 ^ 64 + 3 * 2 ^ 64 := by
    have : (u - l - 2) * 2 ^ 64 = u * 2 ^ 64 - l * 2 ^ 64 - 2 * 2 ^ 64 := by
      rw [Nat.sub_mul, Nat.sub_mul]
    omega
  have g2 : n10 * G ≤ n10 * ((u - l - 2) * 2 ^ 64 + 3 * 2 ^ 64) := Nat.mul_le_mul_left _ g1
  have g3 : n10 * ((u - l - 2) * 2 ^ 64 + 3 * 2 ^ 64) = n10 * (u - l - 2) * 2 ^ 64 + 3 * n10 * 2 ^ 64 := by ring
  have e5 : u - 1 - (l + 1) = u - l - 2 := by omega
  rw [e5]
  refine Nat.le_of_mul_le_mul_right (c := 2 ^ 64) ?_ (by decide)
  have g6 : 10 * (u - 1) * 2 ^ 64 = 10 * (u * 2 ^ 64) - 10 * 2 ^ 64 := by
    rw [Nat.mul_assoc, Nat.sub_mul, Nat.mul_sub, Nat.one_mul]
  obtain ⟨R, hR⟩ : ∃ R, n10 * (u - l - 2) * 2 ^ 64 = R := ⟨_, rfl⟩
  obtain ⟨NG, hNG⟩ : ∃ NG, n10 * G = NG := ⟨_, rfl⟩
  rw [hR] at g3 ⊢
  rw [hNG] at g2 hn
  rw [g3] at g2
  rw [g6]
  clear g3 g6 hR hNG
  omega

/-- the three rounded products, significands in units of `2^s` (`h` the hidden bit, `K = 2^s·c̃`): the shrunk interval
`[l+1, u-1]` is non-empty, contains `w`, and is wide enough for the digit-count bound `n10` (`10^17` for binary64,
`10^9` for binary32). The lower boundary is `3K` below the upper one on the hidden bit and `4K` otherwise; the two
hypotheses on `n10` say that this gap is at least `10/n10` of the upper product, with room for the three roundings. -/
theorem interval_facts {h n10 m s c : Nat} (hm1 : 1 ≤ m) (hm2 : m < 2 * h) (hK : 2 * 2 ^ 64 ≤ 2 ^ s * c)
    (hn3 : 10 * ((4 * h + 2) * (2 ^ s * c)) + (3 * n10 + 10) * 2 ^ 64 ≤ n10 * (3 * (2 ^ s * c)))
    (hn4 : 10 * ((8 * h - 2) * (2 ^ s * c)) + (3 * n10 + 10) * 2 ^ 64 ≤ n10 * (4 * (2 ^ s * c))) :
    rnd ((if m = h then 4 * m - 1 else 4 * m - 2) * 2 ^ s) c + 3 ≤ rnd ((4 * m + 2) * 2 ^ s) c
    ∧ rnd (4 * m * 2 ^ s) c + 1 ≤ rnd ((4 * m + 2) * 2 ^ s) c
    ∧ 10 * (rnd ((4 * m + 2) * 2 ^ s) c - 1) ≤ n10 *
        (rnd ((4 * m + 2) * 2 ^ s) c - 1 - (rnd ((if m = h then 4 * m - 1 else 4 * m - 2) * 2 ^ s) c + 1)) := by
  unfold rnd
  simp only [Nat.mul_assoc _ (2 ^ s) c]
  generalize 2 ^ s * c = K at *
  have e1 : (4 * m + 2) * K = 4 * m * K + 2 * K := by ring
  have e4 : 4 * K ≤ 4 * m * K := by
    calc 4 * K = 4 * 1 * K := by ring
      _ ≤ 4 * m * K := Nat.mul_le_mul_right K (by omega)
  by_cases hh : m = h
  · have e3 : (4 * m - 1) * K = 4 * m * K - K := by rw [Nat.sub_mul, Nat.one_mul]
    rw [if_pos hh, e1, e3]
    rw [← hh, e1] at hn3
    exact shrunk_gen (G := 3 * K) (by omega) (by omega) (by omega) (by omega)
  · have e2 : (4 * m - 2) * K = 4 * m * K - 2 * K := by rw [Nat.sub_mul]
    have hle : (4 * m + 2) * K ≤ (8 * h - 2) * K := Nat.mul_le_mul_right K (by omega)
    rw [if_neg hh, e1, e2]
    rw [e1] at hle
    exact shrunk_gen (G := 4 * K) (by omega) (by omega) (by omega) (by omega)
end LexVerif.Proof.GrisuCore
