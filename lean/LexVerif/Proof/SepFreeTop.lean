import LexVerif.Proof.SepFreeNumber
import LexVerif.Proof.GrammarSpecial
/-!
# Proof.SepFreeTop — `parse_complete` / `parse_partial` up to the `Number` on separator-free input
-/
namespace LexVerif.Proof.Sep
open LexVerif LexVerif.Model LexVerif.Spec
open LexVerif.Props.C12

theorem parseSign_same (c c' : Cfg) (hd : c.debug = false) (hd' : c'.debug = false) (np rq : Bool) (ip ms : String)
    (b : Bytes) : parseSign c' np rq ip ms b = parseSign c np rq ip ms b := by
  rw [parseSign_release c hd, parseSign_release c' hd']

theorem parseSign_slc (c : Cfg) (hd : c.debug = false) (np rq : Bool) (ip ms : String) (b b' : Bytes) (neg : Bool)
    (h : parseSign c np rq ip ms b = .ok (neg, b')) : b'.slc = b.slc := by
  rw [parseSign_release c hd] at h
  exact signClosed_slc h

theorem isSpecialEq_same (c c' : Cfg) (hP : PlainClass c') (hC : Counterpart c c') (b : Bytes)
    (hn : NoSep c b.slc) (l : List Nat) : isSpecialEq c' b l = isSpecialEq c b l := by
  rw [Grammar.isSpecialEq_spec b l (hP.noSep _), Grammar.isSpecialEq_spec b l hn]
  unfold IterSpec.spCmp
  rw [hC.caseSensitiveSpecial]

theorem parsePositiveSpecial_same (c c' : Cfg) (hP : PlainClass c') (hC : Counterpart c c')
    (o : POpts) (b : Bytes) (hn : NoSep c b.slc) : parsePositiveSpecial c' o b = parsePositiveSpecial c o b := by
  unfold parsePositiveSpecial
  simp only [hC.feats, hC.noSpecial, isSpecialEq_same c c' hP hC b hn]

theorem parseSpecialComplete_same (c c' : Cfg) (hP : PlainClass c') (hC : Counterpart c c')
    (o : POpts) (b : Bytes) (hn : NoSep c b.slc) : parseSpecialComplete c' o b = parseSpecialComplete c o b := by
  unfold parseSpecialComplete
  rw [parsePositiveSpecial_same c c' hP hC o b hn]

theorem parseFloatSyntax_same (c c' : Cfg) (hS : RelClass c) (hP : PlainClass c') (hC : Counterpart c c')
    (o : POpts) (isPartial : Bool) (input : List Nat) (fv : Bool) (hn : NoSep c input) :
    parseFloatSyntax c' o isPartial input fv = parseFloatSyntax c o isPartial input fv := by
  unfold parseFloatSyntax parseMantissaSign
  simp only [hC.noPositiveMantissaSign, hC.requiredMantissaSign, parseSign_same c c' hS.debug hP.debug]
  refine bind_congr_ok fun r hsg => ?_
  obtain ⟨neg, b1⟩ := r
  have hs1 : b1.slc = input := parseSign_slc c hS.debug _ _ _ _ _ _ _ hsg
  have hn1 : NoSep c b1.slc := by rw [hs1]; exact hn
  simp only [bind, Except.bind, isConsumed_nosep c .integer b1 hn1 (hS.reach _),
    isConsumed_nosep c' .integer b1 (hP.noSep _) (hP.reach _), hC.feats,
    hC.requiredIntegerDigits, hC.requiredMantissaDigits, parseCompleteNumber,
    ← parseNumber_same c c' hS hP hC _ o b1 neg fv hn1,
    parsePositiveSpecial_same c c' hP hC o b1 hn1, parseSpecialComplete_same c c' hP hC o b1 hn1]

end LexVerif.Proof.Sep
