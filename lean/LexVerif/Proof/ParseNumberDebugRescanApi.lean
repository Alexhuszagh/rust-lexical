import LexVerif.Proof.ParseNumberDebugRescanMain
/-!
# Proof.ParseNumberDebugRescanApi — from format / options validity to the hypotheses of `parseFloatSyntax_safe_comp`

Validity gives: the decimal point and the base-prefix letter (in either ASCII case) are no digits of the mantissa radix;
with `NoCaseClash` they are not the separator either. A component iterator is contiguous or has one of the 14
predicates (`peek`'s `unreachable!()` arm is excluded by `NumberFormat::error()`).
-/
namespace LexVerif.Proof.PNDebug
open LexVerif LexVerif.Model LexVerif.Spec
open LexVerif.Proof.Sep (contig_of_noskip)

variable {c : Cfg}

theorem digitVal36_lower (y : Nat) : digitVal36 (lowerAscii y) = digitVal36 y := by
  unfold lowerAscii
  split
  · next h =>
    unfold digitVal36
    have h1 : ¬ (48 ≤ y + 32 ∧ y + 32 ≤ 57) := by omega
    have h2 : ¬ (65 ≤ y + 32 ∧ y + 32 ≤ 90) := by omega
    have h3 : (97 ≤ y + 32 ∧ y + 32 ≤ 122) := by omega
    have h4 : ¬ (48 ≤ y ∧ y ≤ 57) := by omega
    have h5 : y + 32 - 87 = y - 55 := by omega
    rw [if_neg h1, if_neg h2, if_pos h3, if_neg h4, if_pos h, h5]
  · rfl

theorem digitVal36_eqIgnoreCase {y v : Nat} (h : eqIgnoreCase y v = true) : digitVal36 y = digitVal36 v := by
  have : lowerAscii y = lowerAscii v := by simpa [eqIgnoreCase] using h
  rw [← digitVal36_lower y, this, digitVal36_lower]

theorem matchesB_cases {y v : Nat} {cased : Bool} (h : matchesB y v cased = true) : y = v ∨ eqIgnoreCase y v = true := by
  unfold matchesB at h
  split at h
  · left; simpa using h
  · right; exact h

theorem not_isDigit_of_controlChar {v : Nat} (hv : v = 0 ∨ ControlChar (unpack c.fmt.raw).digitRadix v) (y : Nat)
    (hy : y = v ∨ eqIgnoreCase y v = true) : c.isDigit y = false := by
  have hn : digitVal (unpack c.fmt.raw).digitRadix v = none := by
    rcases hv with rfl | h
    · rfl
    · exact h.2.1
  have h36 : digitVal36 y = digitVal36 v := by
    rcases hy with h | h
    · rw [h]
    · exact digitVal36_eqIgnoreCase h
  have : digitVal (unpack c.fmt.raw).digitRadix y = none := by unfold digitVal at hn ⊢; rw [h36]; exact hn
  unfold Cfg.isDigit Cfg.mantissaRadix
  rw [CharDigit.digitVal_none_mono this (Nat.le_max_left c.fmt.mantissaRadix c.fmt.exponentRadix)]; rfl

theorem prefix_not_digit_sep (hfe : (formatError c.feats c.fmt).isNone = true)
    (hclash : c.basePrefix ≠ 0 → matchesB c.fmt.digitSeparator c.basePrefix c.caseSensitiveBasePrefix = false) :
    c.basePrefix ≠ 0 → ∀ y, matchesB y c.basePrefix c.caseSensitiveBasePrefix = true →
      c.isDigit y = false ∧ c.isSep y = false := by
  intro hne y hm
  have hf : c.feats.format = true := by
    cases hff : c.feats.format
    · simp [Cfg.basePrefix, hff] at hne
    · rfl
  have hbp : c.basePrefix = c.fmt.basePrefix := by simp [Cfg.basePrefix, hf]
  refine ⟨?_, notSep_of_ne (matchesB_ne hm (hclash hne))⟩
  -- the documented constraint on the prefix: absent, or a control character of the larger radix
  rw [hbp] at hm
  exact not_isDigit_of_controlChar (Validity.valid_of hfe).basePrefix.cases y (matchesB_cases hm)

theorem dp_not_digit (o : POpts)
    (hopt : isValidOptionsPunctuation c.feats c.fmt o.exp o.dp = true) : c.isDigit o.dp = false :=
  not_isDigit_of_controlChar (.inr (Validity.punctuation_of hopt).decimalPoint) _ (Or.inl rfl)

theorem flags_of_skip_itc (f : SepFlags) (h : f.skip = .pred .itc) : f = ⟨true, false, true, true⟩ := by
  obtain ⟨i, l, t, cc⟩ := f
  cases i <;> cases l <;> cases t <;> cases cc <;> simp_all [SepFlags.skip]

theorem compOk_of_skip (cx : Ctx c) (k : Comp) (allow : Prop) (h : c.skip k = .pred .itc → Fix.itc = true ∨ allow) :
    CompOk c k allow := by
  cases hk : c.skip k with
  | noskip => exact Or.inl (contig_of_noskip c k hk)
  | unreachable => exact absurd hk (cx.skipOk k)
  | pred p =>
    right
    refine ⟨p, hk, ?_⟩
    by_cases hp : p = .itc
    · right; subst hp; exact h hk
    · exact Or.inl hp

end LexVerif.Proof.PNDebug
