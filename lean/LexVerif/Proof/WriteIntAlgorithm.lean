import LexVerif.Proof.WriteIntDigits
import LexVerif.Proof.WriteIntApi
/-!
# Proof.WriteIntAlgorithm — `algorithm.rs::algorithm` (u8..u64) is correct whenever the digit count is exact;
`digit_count` is exact (`fast_log2`, the power-of-two arms, the naive count), hence `Radix::radix` for u8..u64
-/
namespace LexVerif.Model.WriteInt
open LexVerif.Spec

theorem small64 : SmallBits 64 := Or.inr (Or.inr (Or.inr rfl))

/-- the digit-pair table of radix `r` has the `2·r²` entries the writers index into -/
theorem tableLen_ok (r : Nat) (hr36 : r ≤ 36) : ¬ tableLen r < r * r * 2 % 2 ^ 32 := by
  have := sq_le_36 r hr36
  rw [Nat.mod_eq_of_lt (by omega), tableLen_eq]; omega

theorem algorithm_spec (bits r value : Nat) (hb : SmallBits bits) (hr : 2 ≤ r) (hr36 : r ≤ 36)
    (hv : value < 2 ^ bits) (hcount : digitCountSmall bits value r = .ok (toDigits r value).length) :
    MantSpec (algorithm bits value r) (numeral r value) (numeral r value).length := by
  intro buffer hbuf
  have hL := toDigits_length_le_bits r value bits hr (by have := hb.ge; omega) hv
  have hb64 := hb.le
  rw [← numeral_length] at hcount hL
  have ht := Toward.slice r value buffer hbuf (by omega)
  rw [algorithm, if_neg (by simp [hr, hr36]), if_neg (tableLen_ok r hr36), hcount, bind_ok, if_neg (by omega),
    List.length_take_of_le hbuf, writeDigits_toward bits r value hb hr hr36 hv ht, bind_ok]

theorem fastLog2_spec (bits x : Nat) (hb : 1 ≤ bits) (hx : x < 2 ^ bits) :
    x < 2 ^ (fastLog2 bits x + 1) ∧ (1 ≤ x → 2 ^ fastLog2 bits x ≤ x) ∧ (x = 0 → fastLog2 bits x = 0) := by
  have hy0 : x ||| 1 ≠ 0 := by
    intro h; have := Nat.or_eq_zero_iff.mp h; omega
  have h1 : (1:Nat) < 2 ^ bits := by
    calc 1 < 2 ^ 1 := by decide
      _ ≤ 2 ^ bits := Nat.pow_le_pow_right (by omega) hb
  have hyb : x ||| 1 < 2 ^ bits := Nat.or_lt_two_pow hx h1
  have hlog : Nat.log2 (x ||| 1) < bits := (Nat.log2_lt hy0).mpr hyb
  have hfl : fastLog2 bits x = Nat.log2 (x ||| 1) := by
    unfold fastLog2 clz; rw [if_neg hy0]; omega
  rw [hfl]
  have hup : x ||| 1 < 2 ^ (Nat.log2 (x ||| 1) + 1) := Nat.lt_log2_self
  have hlo : 2 ^ Nat.log2 (x ||| 1) ≤ x ||| 1 := Nat.log2_self_le hy0
  refine ⟨Nat.lt_of_le_of_lt Nat.left_le_or hup, ?_, ?_⟩
  · intro hx1
    rcases Nat.eq_zero_or_pos (Nat.log2 (x ||| 1)) with h0 | h0
    · rw [h0]; simpa using hx1
    · rcases Nat.lt_or_ge x (2 ^ Nat.log2 (x ||| 1)) with hlt | hge
      · exfalso
        have h1' : (1:Nat) < 2 ^ Nat.log2 (x ||| 1) := by
          calc 1 < 2 ^ 1 := by decide
            _ ≤ 2 ^ Nat.log2 (x ||| 1) := Nat.pow_le_pow_right (by omega) h0
        have := Nat.or_lt_two_pow hlt h1'
        omega
      · exact hge
  · intro h0; subst h0; decide

theorem pow2_count (bits x s : Nat) (hb : 1 ≤ bits) (hx : x < 2 ^ bits) (hs : 1 ≤ s) :
    (toDigits (2 ^ s) x).length = fastLog2 bits x / s + 1 := by
  obtain ⟨hup, hlo, hz⟩ := fastLog2_spec bits x hb hx
  refine toDigits_length_two_pow s x _ hs hup ?_
  rcases Nat.eq_zero_or_pos x with h0 | h0
  · exact Or.inl (hz h0)
  · exact Or.inr (hlo h0)

/-- the power-of-two arms shared by the `digit_count` implementations: `⌊log2 x⌋ / s + 1` digits in radix `2^s` -/
theorem pow2_cascade (bits v r : Nat) (hb : 1 ≤ bits) (hv : v < 2 ^ bits) (other : Res Nat)
    (hother : other = .ok (toDigits r v).length) :
    (if r = 2 then .ok (fastLog2 bits v + 1)
     else if r = 4 then .ok (fastLog2 bits v / 2 + 1)
     else if r = 8 then .ok (fastLog2 bits v / 3 + 1)
     else if r = 16 then .ok (fastLog2 bits v / 4 + 1)
     else if r = 32 then .ok (fastLog2 bits v / 5 + 1)
     else other) = Res.ok (toDigits r v).length := by
  have arm : ∀ s, 1 ≤ s → r = 2 ^ s → Res.ok (fastLog2 bits v / s + 1) = .ok (toDigits r v).length := by
    intro s h1 hrs
    rw [hrs, pow2_count bits v s hb hv h1]
  by_cases h2 : r = 2
  · rw [if_pos h2, ← Nat.div_one (fastLog2 bits v)]
    exact arm 1 (by decide) h2
  rw [if_neg h2]
  by_cases h4 : r = 4
  · rw [if_pos h4]
    exact arm 2 (by decide) h4
  rw [if_neg h4]
  by_cases h8 : r = 8
  · rw [if_pos h8]
    exact arm 3 (by decide) h8
  rw [if_neg h8]
  by_cases h16 : r = 16
  · rw [if_pos h16]
    exact arm 4 (by decide) h16
  rw [if_neg h16]
  by_cases h32 : r = 32
  · rw [if_pos h32]
    exact arm 5 (by decide) h32
  rw [if_neg h32]
  exact hother

theorem digitCountSmall_spec (bits r value : Nat) (hb : SmallBits bits) (hr : 2 ≤ r) (hr36 : r ≤ 36)
    (h10 : r ≠ 10) (hv : value < 2 ^ bits) :
    digitCountSmall bits value r = .ok (toDigits r value).length := by
  have hb8 := hb.ge
  unfold digitCountSmall
  rw [if_neg (by simp [hr, hr36]), if_neg h10]
  exact pow2_cascade bits value r (by omega) hv _ (naiveCount_spec bits r value hb hr hr36 hv)

theorem radixWrite_small_spec (feats : Features) (bits r value : Nat) (hb : SmallBits bits) (hr : 2 ≤ r)
    (hr36 : r ≤ 36) (h10 : r ≠ 10) (hv : value < 2 ^ bits) (htab : hasTable feats r = true) :
    MantSpec (radixWrite feats bits value r) (numeral r value) (numeral r value).length := by
  intro buffer hbuf
  have hb64 := hb.le
  unfold radixWrite
  rw [if_neg (by simp [htab]), if_neg (by omega)]
  exact algorithm_spec bits r value hb hr hr36 hv (digitCountSmall_spec bits r value hb hr hr36 h10 hv) buffer hbuf

theorem radixWrite_u128_small_spec (feats : Features) (r value : Nat) (hr : 2 ≤ r)
    (hr36 : r ≤ 36) (h10 : r ≠ 10) (hv : value < 2 ^ 64) (htab : hasTable feats r = true)
    (hvalid : validRadix feats r = true) :
    MantSpec (radixWrite feats 128 value r) (numeral r value) (numeral r value).length := by
  intro buffer hbuf
  unfold radixWrite
  rw [if_neg (by simp [htab]), if_pos rfl]
  unfold algorithmU128
  rw [if_neg (by simp [hvalid]), if_neg (by simp [hr, hr36]), if_neg (tableLen_ok r hr36), if_pos (by omega),
    Nat.mod_eq_of_lt hv]
  exact algorithm_spec 64 r value small64 hr hr36 hv (digitCountSmall_spec 64 r value small64 hr hr36 h10 hv)
    buffer hbuf

end LexVerif.Model.WriteInt
