import LexVerif.Proof.WriteBinaryExact
import LexVerif.Proof.DragonboxSpec
import LexVerif.Proof.RoundNE
import LexVerif.Props.RoundNE
import LexVerif.Proof.LitValue
import LexVerif.Proof.Bits
import LexVerif.Proof.DragonboxShortest
/-!
# Proof.WriteBinaryBits — `Float::mantissa` / `Float::exponent` are the fields of `Spec.Fmt.decode`
(`DragonboxShortest.accessors_decode`), so `mantissa · 2^exponent = valQ`; exactness and round trip of the layouts on bit
patterns (`layoutBits_exact_all`, `layoutBits_roundtrip`).
-/
namespace LexVerif.Proof.WriteBinaryBits
open LexVerif.Spec LexVerif.Model LexVerif.Model.WriteBinary LexVerif.Model.Dragonbox
open LexVerif.Proof.RoundNE LexVerif.Proof.DragonboxSpec LexVerif.Proof.WriteBinaryExact LexVerif.Proof.Bits

theorem mantissa_exponent_bounds (t : FTy) {bits : Nat} (h0 : 0 < bits) (hfin : bits < (fmtOf t).infBits) :
    0 < t.mantissa bits ∧ t.mantissa bits * 16 < 2 ^ t.bits ∧ t.mantissa bits < 2 ^ 64
      ∧ -1074 ≤ t.exponent bits ∧ t.exponent bits ≤ 971 := by
  obtain ⟨_, h1, h2, h3, h4, _⟩ := DragonboxShortest.interval_accessors t bits h0 hfin
  cases t
  · have h2' : FTy.f32.mantissa bits < 2 ^ 24 := h2
    have h3' : -149 ≤ FTy.f32.exponent bits := h3
    have h4' : FTy.f32.exponent bits ≤ 104 := h4
    exact ⟨h1, show _ < 2 ^ 32 by omega, by omega, by omega, by omega⟩
  · have h2' : FTy.f64.mantissa bits < 2 ^ 53 := h2
    have h3' : -1074 ≤ FTy.f64.exponent bits := h3
    have h4' : FTy.f64.exponent bits ≤ 971 := h4
    exact ⟨h1, show _ < 2 ^ 64 by omega, by omega, by omega, by omega⟩

/-- the radix / exponent-base pairs of binary.rs (`bpb = bpd`) and hex.rs (4/2, 8/2, 16/2, 32/2, 16/4), as exponents of 2 -/
def IsPair (bpd bpb : Nat) : Prop := 1 ≤ bpd ∧ bpd ≤ 5 ∧ (bpb = 1 ∨ (bpb = 2 ∧ bpd = 4) ∨ bpb = bpd)

/-- `writeBinary_exact` at the level of the laid-out digits (sign removed) -/
theorem layoutBits_exact_all (fmt : Format) (o : WOpts) (t : FTy) {bits bpd bpb : Nat}
    (hr : fmt.mantissaRadix = 2 ^ bpd) (hb : fmt.exponentBase = 2 ^ bpb) (hp : IsPair bpd bpb)
    (hfin : bits < (fmtOf t).infBits) :
    layoutQ (2 ^ bpd) (2 ^ bpb) (layoutBits fmt o t bits) = valQ (fmtOf t) bits := by
  by_cases h0 : 0 < bits
  · obtain ⟨b1, b2, b3, b4, b5⟩ := mantissa_exponent_bounds t h0 hfin
    obtain ⟨hm, he, _⟩ := DragonboxShortest.accessors_decode t bits
    have hw : 5 ≤ t.bits := by cases t <;> decide
    unfold layoutBits
    rw [layoutME_exact fmt o hr hb hp.1 hp.2.1 hp.2.2 b1 hw b2 b3 (by omega) (by omega)]
    unfold valQ
    rw [hm, he]
  · have hz : bits = 0 := by omega
    subst hz
    have hm : t.mantissa 0 = 0 := by cases t <;> decide
    have hv : valQ (fmtOf t) 0 = 0 := by
      unfold valQ
      have : ((fmtOf t).decode 0).m = 0 := by cases t <;> decide
      rw [this]; simp
    unfold layoutBits
    rw [hm, hv]
    exact layoutME_zero fmt o _ hr hb hp.1

/-- the literal's exact value as a fraction of naturals — the `(num, den)` the specification parser
(`Spec.litBits`, the judge of `./check C06`) rounds -/
def layoutFrac (r b : Nat) (l : Layout) : Nat × Nat :=
  let m := ofDigits r (l.int ++ l.frac)
  let fl := l.frac.length
  match l.exp with
  | none => (m, r ^ fl)
  | some x => if x ≥ 0 then (m * b ^ x.toNat, r ^ fl) else (m, r ^ fl * b ^ (-x).toNat)

theorem litFrac_layout (r b : Nat) (neg : Bool) (l : Layout) :
    Pipeline.litFrac r b ⟨neg, l.int, l.frac, l.exp.getD 0⟩ = layoutFrac r b l := by
  unfold Pipeline.litFrac layoutFrac
  cases l.exp <;> simp

theorem layoutFrac_q (r b : Nat) (hr : 0 < r) (hb : 0 < b) (l : Layout) :
    0 < (layoutFrac r b l).2 ∧ ((layoutFrac r b l).1 : ℚ) / ((layoutFrac r b l).2 : ℚ) = layoutQ r b l := by
  rw [← litFrac_layout r b false l]
  refine ⟨Pipeline.litFrac_den_pos hr hb _, (litFrac_Q hr hb _).trans ?_⟩
  unfold litQ layoutQ
  cases l.exp <;> simp [expFactor]

theorem layoutBits_roundtrip (fmt : Format) (o : WOpts) (t : FTy) {bits bpd bpb : Nat}
    (hr : fmt.mantissaRadix = 2 ^ bpd) (hb : fmt.exponentBase = 2 ^ bpb) (hp : IsPair bpd bpb)
    (hfin : bits < (fmtOf t).infBits) :
    roundNE (fmtOf t) (layoutFrac (2 ^ bpd) (2 ^ bpb) (layoutBits fmt o t bits)).1
      (layoutFrac (2 ^ bpd) (2 ^ bpb) (layoutBits fmt o t bits)).2 = bits := by
  obtain ⟨hd, hq⟩ := layoutFrac_q (2 ^ bpd) (2 ^ bpb) (Nat.two_pow_pos _) (Nat.two_pow_pos _) (layoutBits fmt o t bits)
  apply LexVerif.Props.RoundNE.roundNE_of_valQ (DragonboxShortest.wf_fmtOf t) hfin _ hd
  rw [hq, layoutBits_exact_all fmt o t hr hb hp hfin]

end LexVerif.Proof.WriteBinaryBits
