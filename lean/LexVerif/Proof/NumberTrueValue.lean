import LexVerif.Proof.Compose
import Mathlib.Tactic.Ring
/-!
# Proof.NumberTrueValue — the digits of the input are a true value of the words `parse_number` built

`Proof.Bell.TrueValue r n num den`: `num/den` is `w·r^q` for an untruncated mantissa and lies in `[w, w+1)·r^q` for a truncated
one. `reads_tv`: what the syntax pass yields (`Props.C01Number.Reads`, exponent base = radix) has the value of its digit content,
`Proof.Compose.valueOf`, as a true value: exactly for an untruncated mantissa, by `litFrac_tv_truncated` otherwise (the first
`stp` significant digits are the word, the rest less than one unit of it: `sig_interval`, `interval_tv`). Nothing here knows
which algorithm reads the words. The declarations are in the namespace `Props.C01Trunc`.
-/
namespace LexVerif.Props.C01Trunc
open LexVerif.Spec LexVerif.Model LexVerif.Model.ParseFloatAlgo
open LexVerif.Proof.RoundNE LexVerif.Proof.ExtRound LexVerif.Proof.Pipeline
open LexVerif.Props.C01Main LexVerif.Props.C01SlowDomain LexVerif.Proof.Slow

open LexVerif.Proof.Bell in
theorem interval_tv (r : Nat) (hr0 : 0 < r) (S w A fl : Nat) (q E : Int) (neg : Bool) (hS1 : w * r ^ A ≤ S)
    (hS2 : S < (w + 1) * r ^ A) (hq : q = (A : Int) + E - fl) :
    TrueValue r ⟨w, q, neg, true⟩ (S * r ^ E.toNat) (r ^ fl * r ^ (-E).toNat) := by
  unfold TrueValue
  simp only [if_true]
  rw [powFrac_eq, powFrac_eq]
  dsimp only
  have k : ∀ v : Nat, v * r ^ q.toNat * (r ^ fl * r ^ (-E).toNat) = v * r ^ A * (r ^ E.toNat * r ^ (-q).toNat) := fun v => by
    rw [C01Number.pow_balance r (x := q) (y := E) (P := fl) (Q := A) (by omega) v]; ring
  generalize q.toNat = a at *
  generalize (-q).toNat = b at *
  generalize E.toNat = e1 at *
  generalize (-E).toNat = e2 at *
  have hpos : 0 < r ^ e1 * r ^ b := Nat.mul_pos (Nat.pow_pos hr0) (Nat.pow_pos hr0)
  constructor
  · rw [k]
    calc w * r ^ A * (r ^ e1 * r ^ b) ≤ S * (r ^ e1 * r ^ b) := Nat.mul_le_mul_right _ hS1
      _ = S * r ^ e1 * r ^ b := by ring
  · rw [k]
    calc S * r ^ e1 * r ^ b = S * (r ^ e1 * r ^ b) := by ring
      _ < (w + 1) * r ^ A * (r ^ e1 * r ^ b) := Nat.mul_lt_mul_of_pos_right hS2 hpos

theorem sig_interval {r : Nat} {sig : List Nat} (hv : ValidDigits r sig) (stp : Nat) :
    ofDigits r (dv r (sig.take stp)) * r ^ (sig.length - stp) ≤ ofDigits r (dv r sig) ∧
    ofDigits r (dv r sig) < (ofDigits r (dv r (sig.take stp)) + 1) * r ^ (sig.length - stp) := by
  have hsplit := C01Number.ofDigits_dv_take_drop r sig stp
  have htail := ofDigits_dv_lt (valid_drop hv stp)
  rw [List.length_drop] at hsplit htail
  have : (ofDigits r (dv r (sig.take stp)) + 1) * r ^ (sig.length - stp) =
      ofDigits r (dv r (sig.take stp)) * r ^ (sig.length - stp) + r ^ (sig.length - stp) := by ring
  omega

open LexVerif.Proof.Bell in
theorem litFrac_tv_truncated (r stp : Nat) (hr0 : 0 < r) (c : Cfg) (hr : c.mantissaRadix = r) (n : Number)
    (hmany : n.manyDigits = true) (hs : PlainSlices c n) (hN : stp < (sigBytes n.integer n.fraction).length)
    (hw : n.mantissa = ofDigits r (dv r ((sigBytes n.integer n.fraction).take stp)))
    (hq : n.exponent = ((sigBytes n.integer n.fraction).length : Int) - stp + n.explicitExp -
      ((n.fraction.getD []).length : Int)) :
    TrueValue r (numOf n) (litFrac r r (numberLit c n)).1 (litFrac r r (numberLit c n)).2 := by
  have hnum : numOf n = ⟨n.mantissa, n.exponent, n.isNegative, true⟩ := by unfold numOf; rw [hmany]
  have hvs : ValidDigits r (sigBytes n.integer n.fraction) := by
    have := valid_sigBytes hs.validInt hs.validFrac
    rwa [hr] at this
  obtain ⟨hS1, hS2⟩ := sig_interval hvs stp
  rw [← hw] at hS1 hS2
  rw [hnum, C01Number.litFrac_plain r r c hr n hs]
  exact interval_tv r hr0 _ n.mantissa _ _ n.exponent n.explicitExp n.isNegative hS1 hS2 (by omega)

open LexVerif.Proof.Bell LexVerif.Proof.Compose in
theorem reads_tv {c : Cfg} {r stp len : Nat} {n : Number} (R : C01Number.Reads c r stp 1 len n) (hr0 : 0 < r)
    (hr : c.mantissaRadix = r) (hb : c.exponentBase = r) :
    TrueValue r (numOf n) (valueOf c n).1 (valueOf c n).2 := by
  rw [valueOf_eq hr hb]
  cases hmany : n.manyDigits with
  | false =>
    have hx := (R.exact hmany).1.2.2
    rw [hr, hb] at hx
    exact (trueValue_iff_exact (n := numOf n) hmany _ _).mpr hx
  | true =>
    obtain ⟨hs, hN, hw, _, _, hq, _⟩ := R.trunc hmany
    exact litFrac_tv_truncated r stp hr0 c hr n hmany hs hN hw (by rw [hq]; push_cast; ring)

end LexVerif.Props.C01Trunc
