import LexVerif.Proof.SepGenPhases
import LexVerif.Proof.SepFreeTop
import LexVerif.Proof.GrammarMany
/-!
# Proof.SepGenStrip — `parse_number` over an input with separators and over the stripped input; `strip_preserves`

`number_bi`: from related cursors, if no digit run of the run over the input with separators ends on a separator and the
exponent sign is not hidden behind separators (`IntOK`), the two runs of `parse_number` fail together or return the same
number (`NumStrip`) — the phases of `SepGenPhases` chained by `BiE.bind_ok`, and `manyDigits_both`. A run that consumed
the whole input satisfies `IntOK` (`intOK_of_whole`), which gives `number_strip_gen`; `SepGenInsert` gets `IntOK` from
`NonStuck`. Then the complete parser, under `Rescan` for the integer and fraction component and `PeekStable` for the
integer component; both hold for components without separator flags and for I+L+T+C components
(`parseFloatSyntax_strip_mix`, `parseFloatSyntax_strip` for `SkipAll`).
At the end the value: numbers related by `NumRel` whose stored slices re-scan consistently (`SlicesOK`) have the same
`numberBits` (`numberBits_of_numRel`).
-/
namespace LexVerif.Proof.Sep
open LexVerif LexVerif.Model LexVerif.Spec
open LexVerif.Props.C12

theorem parseNumber_left (c : Cfg) (o : POpts) (hC : StripClass c o) (b : Bytes) (hv : Bytes.Valid b) (p neg fv : Bool)
    (n : Number) (cnt : Nat) (h : parseNumber c p o b neg fv = .ok (n, cnt)) :
    ∃ dsI eI fp ep, Run c .integer c.mantissaRadix b eI dsI ∧
      FracLeft c o b eI (foldMantissa c.mantissaRadix 0 dsI) fp ∧
      (decide (dsI.length + fp.nAfterDot = 0) || decide (Bytes.currentCount c fp.byte = 0)) = false ∧
      exponentPhase c (fp.byte.firstIs o.exp (c.caseSensitiveExponent && c.feats.format)) fp.byte fp.fraction
        fp.exponent = .ok ep ∧
      cnt = ep.byte.index := by
  -- `parse_number` unfolded, each phase replaced by what `integerPhase_left` / `fractionPhase_left` say of it
  obtain ⟨dsI, eI, hRI, _, hint⟩ := integerPhase_left c o hC b hv
  have hvI : Bytes.Valid eI := by unfold Bytes.Valid; rw [hRI.slc]; exact hRI.valid
  unfold parseNumber at h
  simp only [hC.debug, Bool.false_and, Bool.false_eq_true, if_false, hint, bind, Except.bind] at h
  by_cases hzI : (c.requiredIntegerDigits && decide (dsI.length = 0)) = true
  · rw [if_pos hzI] at h; cases h
  · rw [if_neg hzI] at h
    simp only at h
    cases hfpE : fractionPhase c o eI (foldMantissa c.mantissaRadix 0 dsI) with
    | error er => rw [hfpE] at h; cases h
    | ok fp =>
      rw [hfpE] at h
      simp only at h
      have hFL : FracLeft c o b eI (foldMantissa c.mantissaRadix 0 dsI) fp := by
        rcases fractionPhase_left c o hC eI (foldMantissa c.mantissaRadix 0 dsI) with
          ⟨h1, h2⟩ | ⟨h1, dsF, eF, h2, h3, h4⟩
        · rw [hfpE] at h2
          simp only [Except.ok.injEq] at h2
          exact Or.inl ⟨h2, h1⟩
        · rw [hfpE] at h4
          by_cases hzF : (c.requiredFractionDigits && decide (dsF.length = 0)) = true
          · rw [if_pos hzF] at h4; cases h4
          · rw [if_neg hzF] at h4
            simp only [Except.ok.injEq] at h4
            rw [hRI.slc] at h1 h3 h4
            exact Or.inr ⟨dsF, eF, h1, h2, h3, by simpa using hzF, h4⟩
      have hcond : (c.requiredMantissaDigits && (decide (dsI.length + fp.nAfterDot = 0) ||
          c.feats.format && decide (Bytes.currentCount c fp.byte = 0)))
          = (decide (dsI.length + fp.nAfterDot = 0) || decide (Bytes.currentCount c fp.byte = 0)) := by
        simp only [hC.reqMant, hC.format, Bool.true_and]
      rw [hcond] at h
      by_cases hm : (decide (dsI.length + fp.nAfterDot = 0) || decide (Bytes.currentCount c fp.byte = 0)) = true
      · rw [if_pos hm] at h
        cases hpk : peek c .integer b with
        | error er => rw [hpk] at h; cases h
        | ok r => rw [hpk] at h; simp only at h; split at h <;> cases h
      · rw [if_neg hm] at h
        cases hepE : exponentPhase c (fp.byte.firstIs o.exp (c.caseSensitiveExponent && c.feats.format)) fp.byte
            fp.fraction fp.exponent with
        | error er => rw [hepE] at h; cases h
        | ok ep =>
          rw [hepE] at h
          simp only [suffixPhase_none c hC.noSuffix, hC.reqMant, Bool.not_true, Bool.and_false, Bool.false_and,
            Bool.false_eq_true, if_false] at h
          refine ⟨dsI, eI, fp, ep, hRI, hFL, by simpa using hm, hepE, ?_⟩
          split at h
          · simp only [pure, Except.pure, Except.ok.injEq, Prod.mk.injEq] at h; exact h.2.symm
          · exact ((Grammar.manyDigitsPhase_spec c o neg _ fp ep _ _ _ _).of_eq_ok h).2.2.2.2

/-- re-scan consistency of component `k`: the iterator restarted on the region its first pass consumed runs through
all of it. True for every predicate (`rescan_pred` in `SepLocal.lean`); for I+T+C only through the repair
`Fix.itc`, which is `true`. -/
def Rescan (c : Cfg) (k : Comp) : Prop :=
  c.iterContiguous k = false →
  ∀ (b e : Bytes) (ds : List Nat), Run c k c.mantissaRadix b e ds → Bytes.iterCount c k b = 0 → Bytes.Valid b →
    ((∀ x, getPrev b.slc b.index = some x → c.isDigit x = false ∧ c.isSep x = false) ∨
      (∀ x, b.slc[b.index]? = some x → c.isSep x = false)) →
    (∀ x, b.slc[e.index]? = some x → c.isDigit x = false ∧ c.isSep x = false) →
    ∃ ds' e', parseDigits c k c.mantissaRadix (Bytes.new (slice b.slc b.index e.index)) = .ok (ds', e') ∧
      e'.index = (slice b.slc b.index e.index).length

theorem sliceOK_of_run {c : Cfg} {k : Comp} {b e : Bytes} {ds : List Nat} (hres : Rescan c k)
    (hR : Run c k c.mantissaRadix b e ds)
    (hcon : c.iterContiguous k = true → NoSep c (slice b.slc b.index e.index))
    (h0 : c.iterContiguous k = false → Bytes.iterCount c k b = 0) (hv : Bytes.Valid b)
    (hprev : (∀ x, getPrev b.slc b.index = some x → c.isDigit x = false ∧ c.isSep x = false) ∨
      (∀ x, b.slc[b.index]? = some x → c.isSep x = false))
    (hnext : ∀ x, b.slc[e.index]? = some x → c.isDigit x = false ∧ c.isSep x = false) :
    SliceOK c k (slice b.slc b.index e.index) := by
  cases hc : c.iterContiguous k
  · exact Or.inr ⟨hc, hres hc b e ds hR (h0 hc) hv hprev hnext⟩
  · exact Or.inl ⟨hc, hcon hc⟩

theorem isDigit_of_stop (c : Cfg) (x : Nat) (hx : x < 256) (hr : c.mantissaRadix ≤ 36)
    (h : charToDigit x c.mantissaRadix = none) : c.isDigit x = false := by
  unfold Cfg.isDigit
  rw [← LexVerif.Proof.CharDigit.charToDigit_eq x c.mantissaRadix hx (by omega), h]; rfl

theorem manyClosed_fields (r : Nat) (scale : Int → Int) (dp : Nat) (s : List Nat) (i : Nat) (ids : List Nat) (ipN : Nat)
    (fraction : Option (List Nat)) (fpMant : Nat) (explicit : Int) (neg : Bool) (nDigits step : Nat) (ex0 : Int)
    (endIdx : Nat) (sm : Bool) (res : Number × Nat)
    (h : manyClosed r scale dp s i ids ipN fraction fpMant explicit neg nDigits step ex0 endIdx sm = .ok res) :
    res.1.integer = ids ∧ res.1.fraction = fraction ∧ res.2 = endIdx := by
  unfold manyClosed manyCore at h
  simp only at h
  repeat' split at h
  all_goals first
    | (cases h; done)
    | (cases h; exact ⟨rfl, rfl, rfl⟩)

theorem manyClosed_endIdx (r : Nat) (scale : Int → Int) (dp : Nat) (s : List Nat) (i : Nat) (ids : List Nat) (ipN : Nat)
    (fraction : Option (List Nat)) (fpMant : Nat) (explicit : Int) (neg : Bool) (nDigits step : Nat) (ex0 : Int)
    (e1 e2 : Nat) (sm : Bool) :
    manyClosed r scale dp s i ids ipN fraction fpMant explicit neg nDigits step ex0 e2 sm =
      (manyClosed r scale dp s i ids ipN fraction fpMant explicit neg nDigits step ex0 e1 sm).map (fun x => (x.1, e2)) := by
  unfold manyClosed manyCore
  simp only
  repeat' split
  all_goals first
    | rfl
    | simp_all [Except.map]

theorem exponentPhase_noexp (c : Cfg) (b : Bytes) (fr : Option (List Nat)) (ex : Int) (ep : ExpPart)
    (h : exponentPhase c false b fr ex = .ok ep) : ep.byte = b := by
  rw [Phase.exponentPhase_eq] at h
  simp only [Bool.false_eq_true, if_false] at h
  split at h
  · cases h
  · simp only [pure, Except.pure, Except.ok.injEq] at h; rw [← h]

theorem parseNumber_left_whole (c : Cfg) (o : POpts) (hC : StripClass c o) (s : List Nat) (b : Bytes) (hsl : b.slc = s)
    (hv : b.index ≤ s.length) (p neg fv : Bool) (n : Number) (cnt : Nat)
    (h : parseNumber c p o b neg fv = .ok (n, cnt)) (hcnt : cnt = s.length) :
    ∃ dsI eI fp ep, Run c .integer c.mantissaRadix b eI dsI ∧
      FracLeft c o b eI (foldMantissa c.mantissaRadix 0 dsI) fp ∧
      (decide (dsI.length + fp.nAfterDot = 0) || decide (Bytes.currentCount c fp.byte = 0)) = false ∧
      exponentPhase c (fp.byte.firstIs o.exp (c.caseSensitiveExponent && c.feats.format)) fp.byte fp.fraction
        fp.exponent = .ok ep ∧
      cnt = ep.byte.index ∧ eI.slc = s ∧
      (∀ x, s[fp.byte.index]? = some x → c.isSep x = false) ∧ (∀ x, s[eI.index]? = some x → c.isSep x = false) := by
  have hvb : Bytes.Valid b := by unfold Bytes.Valid; rw [hsl]; exact hv
  obtain ⟨dsI, eI, fp, ep, hRI, hFL, hm, hep, hcntE⟩ := parseNumber_left c o hC b hvb p neg fv n cnt h
  have heI : eI.slc = s := by rw [hRI.slc]; exact hsl
  have hvI : eI.index ≤ s.length := by have := hRI.valid; rw [hsl] at this; exact this
  have hfps : fp.byte.slc = s ∧ fp.byte.index ≤ s.length := by
    rcases hFL with ⟨rfl, _⟩ | ⟨dsF, eF, _, hRF, _, _, rfl⟩
    · exact ⟨heI, hvI⟩
    · refine ⟨by rw [hRF.slc]; exact heI, ?_⟩
      have := hRF.valid; simp only [heI] at this; exact this
  -- a separator under the cursor that is not taken for the exponent character ends the parse before the end of `s`
  have hstuck : (∀ x, c.isSep x = true → matchesExp c o x = false) →
      ∀ x, s[fp.byte.index]? = some x → c.isSep x = false := by
    intro hne x hx
    cases hcs : c.isSep x with
    | false => rfl
    | true =>
      exfalso
      have hfe : fp.byte.firstIs o.exp (c.caseSensitiveExponent && c.feats.format) = false := by
        rw [firstIs_exp, hfps.1, hx]; exact hne x hcs
      rw [hfe] at hep
      have := exponentPhase_noexp c _ _ _ _ hep
      rw [this] at hcntE
      have hlt : fp.byte.index < s.length := (List.getElem?_eq_some_iff.mp hx).1
      omega
  -- the cursor after a run: an I+L+T+C iterator does not stop on a separator; an inert separator would be stuck
  have hNIF : (∀ x, s[eI.index]? = some x → c.isSep x = false) ∧
      (∀ x, s[fp.byte.index]? = some x → c.isSep x = false) := by
    rcases hFL with ⟨rfl, _⟩ | ⟨dsF, eF, hdp, hRF, _, _, rfl⟩
    · have : ∀ x, s[eI.index]? = some x → c.isSep x = false := by
        rcases hC.comp .integer (by decide) with hk | hI
        · have := run_normal_iltc c .integer _ hC.debug hk b eI dsI hRI
          rw [hsl] at this; exact this
        · exact hstuck hI.2.1
      exact ⟨this, this⟩
    · rw [hsl] at hdp
      constructor
      · rcases hC.comp .integer (by decide) with hk | hI
        · have := run_normal_iltc c .integer _ hC.debug hk b eI dsI hRI
          rw [hsl] at this; exact this
        · intro x hx; rw [hdp] at hx; cases hx; exact hI.1
      · rcases hC.comp .fraction (by decide) with hk | hI
        · have := run_normal_iltc c .fraction _ hC.debug hk _ eF dsF hRF
          simp only [heI] at this; exact this
        · exact hstuck hI.2.1
  obtain ⟨hNI, hNF⟩ := hNIF
  exact ⟨dsI, eI, fp, ep, hRI, hFL, hm, hep, hcntE, heI, hNF, hNI⟩

def SlicesOK (c : Cfg) (n : Number) : Prop :=
  n.manyDigits = true → SliceOK c .integer n.integer ∧ ∀ fd, n.fraction = some fd → SliceOK c .fraction fd

/-- whatever surrounds the region: the iterator rests on no separator, and the other bytes of the region are digits -/
theorem rescan_run_iltc {c : Cfg} {k : Comp} {r : Nat} (hd : c.debug = false) (hk : c.skip k = .pred .iltc)
    {b e : Bytes} {ds : List Nat} (hR : Run c k r b e ds) :
    ∃ ds' e', parseDigits c k r (Bytes.new (slice b.slc b.index e.index)) = .ok (ds', e') ∧
      e'.index = (slice b.slc b.index e.index).length := by
  refine ⟨_, _, parseDigits_eq c k r hd (by rw [hk]; simp) _, ?_⟩
  simp only [IterSpec.mv_index, new_slc, new_index]
  have hy := hR.yields
  generalize hf : ((Bytes.new (slice b.slc b.index e.index)).iterCount c k == 0) = f
  generalize slice b.slc b.index e.index = R at hy ⊢
  have hle := IterSpec.scan_le (c := c) (k := k) R (IterSpec.isDig r) (R.length + 1) f 0 (Nat.zero_le _)
  by_cases hj : (IterSpec.scan c k R (IterSpec.isDig r) (R.length + 1) f 0).2 < R.length
  · exfalso
    have hx := List.getElem?_eq_getElem hj
    have hns := IterSpec.scan_rest_iltc hk R (IterSpec.isDig r) _ f 0 _ hx
    have hnd := IterSpec.scan_stop R (IterSpec.isDig r) _ f 0 (by omega) _ hx
    have hm : R[(IterSpec.scan c k R (IterSpec.isDig r) (R.length + 1) f 0).2] ∈ nonSep c R := by
      simp [nonSep, hns]
    have := List.mem_map_of_mem (f := fun y => charToDigit y r) hm
    rw [hy, List.mem_map] at this
    obtain ⟨d, _, hd'⟩ := this
    simp [IterSpec.isDig, ← hd'] at hnd
  · omega

theorem rescan_iltc (c : Cfg) (k : Comp) (hd : c.debug = false) (hk : c.skip k = .pred .iltc) : Rescan c k :=
  fun _ _ _ _ hR _ _ _ _ => rescan_run_iltc hd hk hR

theorem sliceOK_iltc {c : Cfg} {k : Comp} (hd : c.debug = false) (hk : c.skip k = .pred .iltc)
    {b e : Bytes} {ds : List Nat} (hR : Run c k c.mantissaRadix b e ds) : SliceOK c k (slice b.slc b.index e.index) :=
  Or.inr ⟨IterSpec.contig_of_pred hk, rescan_run_iltc hd hk hR⟩

/-- the input consists of bytes so that `is_digit` of the separator predicates and the digit test of the loops agree on
it -/
def RescanOK (c : Cfg) (k : Comp) (s : List Nat) : Prop :=
  c.skip k = .pred .iltc ∨ (Rescan c k ∧ ∀ x ∈ s, x < 256)

theorem Run.radix_pos {c : Cfg} {k : Comp} {r : Nat} {b e : Bytes} {ds : List Nat} (h : Run c k r b e ds)
    (hne : ds ≠ []) : 1 ≤ r := by
  have hy := h.yields
  cases ds with
  | nil => exact absurd rfl hne
  | cons d ds' =>
    cases hl : nonSep c (slice b.slc b.index e.index) with
    | nil => rw [hl] at hy; simp at hy
    | cons x xs =>
      rw [hl] at hy
      simp only [List.map_cons, List.cons.injEq] at hy
      have hx := hy.1
      unfold charToDigit at hx
      simp only at hx
      split at hx
      · omega
      · cases hx

theorem FracLeft.radix_pos {c : Cfg} {o : POpts} {b eI : Bytes} {dsI : List Nat} {mI step : Nat} {fp : FracPart}
    (hRI : Run c .integer c.mantissaRadix b eI dsI) (hFL : FracLeft c o b eI mI fp)
    (hle : ¬ dsI.length + fp.nAfterDot ≤ step) : 1 ≤ c.mantissaRadix := by
  rcases Nat.eq_zero_or_pos dsI.length with h0 | hpos
  · rcases hFL with ⟨rfl, _⟩ | ⟨dsF, eF, _, hRF, _, _, rfl⟩
    · simp [h0] at hle
    · exact hRF.radix_pos (by intro hnil; simp [h0, hnil] at hle)
  · exact hRI.radix_pos (List.ne_nil_of_length_pos hpos)

/-- The hypotheses are what `number_bi` holds after the three first-pass phases: the cursors and parts of the two runs,
related phase by phase. -/
theorem manyDigits_both (c : Cfg) (o : POpts) (hC : StripClass c o) (hr1 : 1 ≤ c.mantissaRadix) (s : List Nat)
    (hresI : RescanOK c .integer s) (hresF : RescanOK c .fraction s) (b b' : Bytes) (hr : StripRel c s b b')
    (hv : b.index ≤ s.length) (hic : b.ic = 0) (hfc : b.fc = 0)
    (hstart : (∀ x, getPrev s b.index = some x → c.isDigit x = false ∧ c.isSep x = false) ∨
      (∀ x, s[b.index]? = some x → c.isSep x = false))
    (eI : Bytes) (dsI : List Nat) (hRI : Run c .integer c.mantissaRadix b eI dsI)
    (hconI : c.iterContiguous .integer = true → eI.index - b.index = dsI.length ∧ NoSep c (slice b.slc b.index eI.index))
    (hNI : ∀ x, s[eI.index]? = some x → c.isSep x = false) (fp fp' : FracPart)
    (hFL : FracLeft c o b eI (foldMantissa c.mantissaRadix 0 dsI) fp)
    (hNF : ∀ x, s[fp.byte.index]? = some x → c.isSep x = false)
    (f1 : fp'.mantissa = fp.mantissa) (f4 : fp'.fraction = fp.fraction.map (nonSep c))
    (ep ep' : ExpPart) (e1 : ep'.explicit = ep.explicit) {neg hp : Bool} {bI' : Bytes} {m nDigits step : Nat}
    {ex0 : Int} {e e' : Nat} :
    (∀ n, manyDigitsPhase c o neg ⟨hp, b, eI, m, dsI.length, slice b.slc b.index eI.index⟩ fp ep nDigits step ex0 e
        = .ok (n, e) →
      ∃ n', manyDigitsPhase c o neg ⟨hp, b', bI', m, dsI.length, nonSep c (slice b.slc b.index eI.index)⟩ fp' ep'
        nDigits step ex0 e' = .ok (n', e') ∧ NumRel c n n' ∧ SlicesOK c n) ∧
    (∀ n', manyDigitsPhase c o neg ⟨hp, b', bI', m, dsI.length, nonSep c (slice b.slc b.index eI.index)⟩ fp' ep'
        nDigits step ex0 e' = .ok (n', e') →
      ∃ n, manyDigitsPhase c o neg ⟨hp, b, eI, m, dsI.length, slice b.slc b.index eI.index⟩ fp ep nDigits step ex0 e
        = .ok (n, e) ∧ NumRel c n n' ∧ SlicesOK c n) := by
  have hsl : b.slc = s := hr.1
  have hvb : Bytes.Valid b := by unfold Bytes.Valid; rw [hsl]; exact hv
  have heI : eI.slc = s := by rw [hRI.slc]; exact hsl
  -- a byte of `s` at which a digit run stopped and that is no separator is an "other" byte for the predicates
  have hnext : (∀ x ∈ s, x < 256) → ∀ (e : Bytes), (∀ x, s[e.index]? = some x → c.isSep x = false) →
      (∀ x, s[e.index]? = some x → charToDigit x c.mantissaRadix = none) →
      ∀ x, s[e.index]? = some x → c.isDigit x = false ∧ c.isSep x = false := by
    intro hb256 e hn hs x hx
    exact ⟨isDigit_of_stop c x (hb256 x (List.mem_of_getElem? hx)) hC.radixM (hs x hx), hn x hx⟩
  have hokI : SliceOK c .integer (slice b.slc b.index eI.index) := by
    rcases hresI with hk | ⟨hres, hb256⟩
    · exact sliceOK_iltc hC.debug hk hRI
    · exact sliceOK_of_run hres hRI (fun hc => (hconI hc).2)
        (by intro hc; simp [Bytes.iterCount, hc, hic]) hvb (by rw [hsl]; exact hstart)
        (by rw [hsl]; exact hnext hb256 eI hNI (by intro x hx; exact hRI.stop x (by rw [hsl]; exact hx)))
  have hfcI : eI.fc = 0 := by rw [hRI.eq]; simp [advS, hfc]
  have hokF : ∀ fd, fp.fraction = some fd → SliceOK c .fraction fd := by
    intro fd hfd
    rcases hFL with ⟨rfl, _⟩ | ⟨dsF, eF, hdp, hRF, hconF, _, rfl⟩
    · cases hfd
    · simp only [Option.some.injEq] at hfd
      subst hfd
      rw [hsl] at hdp
      have hiltc : c.skip .fraction = .pred .iltc → SliceOK c .fraction (slice b.slc (eI.index + 1) eF.index) := by
        intro hk
        have := sliceOK_iltc hC.debug hk hRF
        simpa only [heI, hsl] using this
      rcases hresF with hk | ⟨hres, hb256⟩
      · exact hiltc hk
      · rcases hC.comp .fraction (by decide) with hk | hI
        · exact hiltc hk
        · have hvF : Bytes.Valid ({ eI with index := eI.index + 1 } : Bytes) := by
            unfold Bytes.Valid; simp only [heI]
            have := (List.getElem?_eq_some_iff.mp hdp).1; omega
          have := sliceOK_of_run hres hRF (fun hc => by simpa [heI, hsl] using (hconF hc).2)
            (by intro hc; simp [Bytes.iterCount, hc, hfcI]) hvF
            (Or.inl (by
              -- in front of the fraction stands the decimal point: no digit, and (the integer run ended there) no separator
              intro x hx
              simp only [getPrev, heI, Nat.add_sub_cancel, Nat.succ_ne_zero, if_false, hdp, Option.some.injEq] at hx
              subst hx
              exact ⟨isDigit_of_stop c _ (hb256 _ (List.mem_of_getElem? hdp)) hC.radixM hI.1, hNI _ hdp⟩))
            (by
              simp only [heI]
              exact hnext hb256 eF hNF (by intro x hx; exact hRF.stop x (by simp only [heI]; exact hx)))
          simpa [heI, hsl] using this
  have hfracM : s[eI.index]? = some o.dp → ∃ dsF eF,
      Run c .fraction c.mantissaRadix { eI with index := eI.index + 1 } eF dsF ∧
      ∀ x, s[eF.index]? = some x → c.isSep x = false := by
    intro hdp
    rcases hFL with ⟨rfl, hnodp⟩ | ⟨dsF, eF, _, hRF, _, _, rfl⟩
    · exfalso
      simp [Bytes.firstIsCased, Bytes.first, heI, hdp] at hnodp
    · exact ⟨dsF, eF, hRF, hNF⟩
  have hL := manyDigits_left c o hC hr1 s neg ⟨hp, b, eI, m, dsI.length, slice b.slc b.index eI.index⟩ fp ep nDigits step
    ex0 e eI dsI hsl hRI hNI hfracM hokI hokF
  have hR := manyDigits_nosep c hC.debug hC.reach (hC.multi _ (by decide)) (hC.multi _ (by decide)) (nonSep c s)
    (nonSep_noSep c s) o neg
    ⟨hp, b', bI', m, dsI.length, nonSep c (slice b.slc b.index eI.index)⟩ fp' ep' nDigits step ex0 e' hr.2.1
    (nonSep_noSep c _) (by
      intro fd hfd
      rw [f4] at hfd
      cases hfr : fp.fraction with
      | none => rw [hfr] at hfd; cases hfd
      | some x =>
        rw [hfr] at hfd
        simp only [Option.map_some, Option.some.injEq] at hfd
        rw [← hfd]; exact nonSep_noSep c _)
  simp only [hr.2.2.1, hC.format, hC.bytes, Bool.not_false, Bool.and_true, f1, f4, e1] at hL hR
  rw [manyClosed_endIdx _ _ _ _ _ _ _ _ _ _ _ _ _ _ e e'] at hR
  rw [hL, hR]
  cases hmc : manyClosed c.mantissaRadix (scaleVal c) o.dp (nonSep c s) (nonSep c (List.take b.index s)).length
      (nonSep c (slice b.slc b.index eI.index)) dsI.length (Option.map (nonSep c) fp.fraction) fp.mantissa ep.explicit
      neg nDigits step ex0 e true with
  | error er =>
    constructor
    · intro n h; cases h
    · intro n' h; cases h
  | ok res =>
    obtain ⟨g1, g2, g3⟩ := manyClosed_fields _ _ _ _ _ _ _ _ _ _ _ _ _ _ _ _ _ hmc
    have hrel : NumRel c { res.1 with integer := slice b.slc b.index eI.index, fraction := fp.fraction } res.1 :=
      ⟨rfl, rfl, rfl, rfl, g1, g2, rfl⟩
    have hok : SlicesOK c { res.1 with integer := slice b.slc b.index eI.index, fraction := fp.fraction } :=
      fun _ => ⟨hokI, hokF⟩
    constructor
    · intro n h
      simp only [Except.map, Except.ok.injEq, Prod.mk.injEq] at h
      obtain ⟨rfl, _⟩ := h
      exact ⟨res.1, rfl, hrel, hok⟩
    · intro n' h
      simp only [Except.map, Except.ok.injEq, Prod.mk.injEq] at h
      obtain ⟨rfl, _⟩ := h
      rw [← g3]
      exact ⟨_, rfl, hrel, hok⟩

def ExpOK (c : Cfg) (o : POpts) (s : List Nat) (f : Bytes) : Prop :=
  f.firstIs o.exp (c.caseSensitiveExponent && c.feats.format) = true →
    NoSignAfterSep c { f with index := f.index + 1 } ∧
    ∀ r, parseExponentSign c { f with index := f.index + 1 } = .ok r →
      ∀ e ds, Run c .exponent c.exponentRadix r.2 e ds → ∀ x, s[e.index]? = some x → c.isSep x = false

def FracOK (c : Cfg) (o : POpts) (s : List Nat) (eI : Bytes) : Prop :=
  (s[eI.index]? = some o.dp → ∀ eF dsF, Run c .fraction c.mantissaRadix { eI with index := eI.index + 1 } eF dsF →
    (∀ x, s[eF.index]? = some x → c.isSep x = false) ∧ ExpOK c o s eF) ∧
  (s[eI.index]? ≠ some o.dp → ExpOK c o s eI)

/-- no digit run of `parse_number` from `b0` on ends on a separator, and the exponent sign is not hidden behind separators -/
def IntOK (c : Cfg) (o : POpts) (s : List Nat) (b0 : Bytes) : Prop :=
  ∀ eI dsI, Run c .integer c.mantissaRadix b0 eI dsI →
    (∀ x, s[eI.index]? = some x → c.isSep x = false) ∧ FracOK c o s eI

def NumStrip (c : Cfg) (s : List Nat) (r r' : Number × Nat) : Prop :=
  NumRel c r.1 r'.1 ∧ SlicesOK c r.1 ∧ r.2 ≤ s.length ∧ (∀ x, s[r.2]? = some x → c.isSep x = false) ∧
    r'.2 = (nonSep c (s.take r.2)).length

theorem number_bi (c : Cfg) (o : POpts) (hC : StripClass c o) (s : List Nat) (hresI : RescanOK c .integer s)
    (hresF : RescanOK c .fraction s) (b b' : Bytes) (hr : StripRel c s b b') (hv : b.index ≤ s.length)
    (hic : b.ic = 0) (hfc : b.fc = 0)
    (hstart : (∀ x, getPrev s b.index = some x → c.isDigit x = false ∧ c.isSep x = false) ∨
      (∀ x, s[b.index]? = some x → c.isSep x = false))
    (hN : IntOK c o s b) (p neg fv : Bool) :
    BiE (NumStrip c s) (parseNumber c p o b neg fv) (parseNumber c p o b' neg fv) := by
  have hsl : b.slc = s := hr.1
  have hvb : Bytes.Valid b := by unfold Bytes.Valid; rw [hsl]; exact hv
  rw [parseNumber_stages c hC.debug, parseNumber_stages c hC.debug]
  -- each `*_bi` phase asks that its digit run does not end on a separator: the clause of `hN` for that run
  refine BiE.bind_ok (integerPhase_bi c o hC s b b' hr hvb fun e ds hR => by rw [hsl]; exact (hN e ds hR).1) ?_
  rintro ip ip' - - ⟨eI, dsI, hRI, hconI, hNIb, hrI, rfl, rfl⟩
  obtain ⟨hNI, hFN⟩ := hN eI dsI hRI
  have heI : eI.slc = s := hRI.slc.trans hsl
  refine BiE.bind_ok (fractionPhase_bi c o hC s b eI _ _ hRI.slc.symm hrI (Normal.of_run hRI hNIb) ?_) ?_
  · intro hdp eF dsF hRF
    rw [heI] at hdp ⊢
    exact (hFN.1 hdp eF dsF hRF).1
  rintro fp fp' - - ⟨hFL, hNFn, hrF, f1, f2, f3, f4, f5⟩
  have hfps1 : fp.byte.slc = s := hrF.1
  obtain ⟨hEN, hfps2⟩ : ExpOK c o s fp.byte ∧ fp.byte.index ≤ s.length := by
    rcases hFL with ⟨rfl, hnodp⟩ | ⟨dsF, eF, hdp, hRF, _, _, rfl⟩
    · refine ⟨hFN.2 fun hh => ?_, by have := hRI.valid; rw [hsl] at this; exact this⟩
      simp [Bytes.firstIsCased, Bytes.first, heI, hh] at hnodp
    · refine ⟨(hFN.1 (by rw [← hsl]; exact hdp) eF dsF hRF).2, ?_⟩
      have := hRF.valid; simp only [heI] at this; exact this
  have hNF : ∀ x, s[fp.byte.index]? = some x → c.isSep x = false := fun x hx => hNFn x (by rw [hfps1]; exact hx)
  have hcc : Bytes.currentCount c fp'.byte = Bytes.currentCount c fp.byte := by
    simp only [Bytes.currentCount, hC.bytes, Bool.false_eq_true, if_false, hrF.2.2.2.1, hrF.2.2.2.2.1, hrF.2.2.2.2.2]
  have hfi : ∀ v cased, fp'.byte.firstIs v cased = fp.byte.firstIs v cased := by
    intro v cased; simp [Bytes.firstIs, Bytes.firstIsCased, Bytes.firstIsUncased, hrF.first hNFn]
  unfold Props.C01Number.tailOf
  simp only [f1, f2, f3, f4, f5, hfi, hcc]
  split
  · refine biE_fail (fun a h => ?_) (fun a h => ?_)
    · cases hpk : peek c .integer b with
      | error er => rw [hpk] at h; cases h
      | ok r => rw [hpk] at h; simp only [bind, Except.bind] at h; split at h <;> cases h
    · cases hpk : peek c .integer b' with
      | error er => rw [hpk] at h; cases h
      | ok r => rw [hpk] at h; simp only [bind, Except.bind] at h; split at h <;> cases h
  · refine BiE.bind_ok (exponentPhase_bi c o hC s _ fp.byte fp'.byte hrF hNFn (fun hh => firstIs_some _ _ _ hh) hfps2
      (fun hh => (hEN hh).1) (fun hh => (hEN hh).2) fp.fraction fp.exponent) ?_
    rintro ep ep' - - ⟨hrE, e1, e2, hve, hNe⟩
    simp only [suffixPhase_none c hC.noSuffix, e1, e2, hC.reqMant, Bool.not_true, Bool.and_false, Bool.false_and,
      Bool.false_eq_true, if_false]
    show BiE _ (if _ then _ else _) (if _ then _ else _)
    split
    · exact biE_ok ⟨by simp only [NumRel, and_self], fun hmd => (by cases hmd), hve, hNe, hrE.2.2.1⟩
    · next hle =>
      have hb := manyDigits_both c o hC (hFL.radix_pos hRI hle) s hresI hresF b b' hr hv hic hfc hstart eI dsI hRI
        hconI hNI fp fp' hFL hNF f1 f4 ep ep' e1 (neg := neg) (hp := false) (bI' := adv c .integer dsI.length b')
        (m := foldMantissa c.mantissaRadix 0 dsI) (nDigits := dsI.length + fp.nAfterDot)
        (step := u64Step c.feats c.mantissaRadix) (ex0 := ep.exponent) (e := ep.byte.index) (e' := ep'.byte.index)
      constructor
      · rintro ⟨n, cnt⟩ h
        obtain rfl : cnt = ep.byte.index := ((Grammar.manyDigitsPhase_spec c o neg _ _ _ _ _ _ _).of_eq_ok h).2.2.2.2
        obtain ⟨n', h1, h2, h3⟩ := hb.1 n h
        exact ⟨_, h1, h2, h3, hve, hNe, hrE.2.2.1⟩
      · rintro ⟨n', cnt'⟩ h
        obtain rfl : cnt' = ep'.byte.index := ((Grammar.manyDigitsPhase_spec c o neg _ _ _ _ _ _ _).of_eq_ok h).2.2.2.2
        obtain ⟨n, h1, h2, h3⟩ := hb.2 n' h
        exact ⟨_, h1, h2, h3, hve, hNe, hrE.2.2.1⟩

theorem parseSign_inv (c : Cfg) (hd : c.debug = false) (np rq : Bool) (ip ms : String) (b b1 : Bytes) (neg : Bool)
    (h : parseSign c np rq ip ms b = .ok (neg, b1)) :
    (b1 = { b with index := b.index + 1 } ∧ (b.slc[b.index]? = some 43 ∨ b.slc[b.index]? = some 45)) ∨
    (b1 = b ∧ b.slc[b.index]? ≠ some 43 ∧ b.slc[b.index]? ≠ some 45) := by
  rw [parseSign_release c hd] at h
  unfold signClosed Bytes.first at h
  split at h
  · next heq =>
    split at h
    · simp only [Except.ok.injEq, Prod.mk.injEq] at h; exact Or.inl ⟨h.2.symm, Or.inl heq⟩
    · cases h
  · next heq =>
    simp only [Except.ok.injEq, Prod.mk.injEq] at h; exact Or.inl ⟨h.2.symm, Or.inr heq⟩
  · next h43 h45 =>
    split at h
    · cases h
    · simp only [Except.ok.injEq, Prod.mk.injEq] at h; exact Or.inr ⟨h.2.symm, h43, h45⟩

theorem expOK_of_ok (c : Cfg) (o : POpts) (hC : StripClass c o) (s : List Nat) (f : Bytes)
    (fr : Option (List Nat)) (ex : Int) (ep : ExpPart)
    (h : exponentPhase c (f.firstIs o.exp (c.caseSensitiveExponent && c.feats.format)) f fr ex = .ok ep)
    (hend : ep.byte.index = s.length) : ExpOK c o s f := by
  intro hfe
  obtain ⟨w, hget⟩ := firstIs_some _ _ _ hfe
  have hlt : f.index < f.slc.length := (List.getElem?_eq_some_iff.mp hget).1
  rw [hfe, Phase.exponentPhase_eq] at h
  simp only [if_true, step_release c hC.debug, bind, Except.bind] at h
  split at h
  · cases h
  · split at h
    · cases h
    · unfold parseExponentSign at h ⊢
      cases hps : parseSign c c.noPositiveExponentSign c.requiredExponentSign "InvalidPositiveExponentSign"
          "MissingExponentSign" { f with index := f.index + 1 } with
      | error e => simp [hps] at h
      | ok r0 =>
        obtain ⟨neg, st⟩ := r0
        simp only [hps] at h
        have hinv := parseSign_inv c hC.debug _ _ _ _ _ _ _ hps
        have hst : st.slc = f.slc ∧ st.index ≤ st.slc.length := by
          rcases hinv with ⟨rfl, h2⟩ | ⟨rfl, _⟩
          · have : f.index + 1 < f.slc.length := by
              rcases h2 with h2 | h2 <;> exact (List.getElem?_eq_some_iff.mp h2).1
            exact ⟨rfl, by simp only; omega⟩
          · exact ⟨rfl, by simp only; omega⟩
        obtain ⟨ds, e, hR, hPd, hT⟩ := expDigits_left c o hC neg st ex hst.2
        simp only [hPd, hT] at h
        by_cases hz : ds.length = 0
        · simp [hz] at h
        · simp only [hz, if_false, Except.ok.injEq] at h
          subst h
          simp only at hend
          refine ⟨fun x hx hs y hy => ?_, fun r hr e' ds' hR' x hx => ?_⟩
          · -- a sign behind the separator `x`: the run over `s` reads no sign, and then finds no exponent digit
            have hstb : st = { f with index := f.index + 1 } := by
              rcases hinv with ⟨_, h2⟩ | ⟨h1, _⟩
              · exfalso
                simp only at hx
                rw [hx] at h2
                rcases h2 with h2 | h2 <;> cases h2
                · rw [hC.sepPlus] at hs; cases hs
                · rw [hC.sepMinus] at hs; cases hs
              · exact h1
            subst hstb
            have hsgn := charToDigit_sign c.exponentRadix hC.radixE
            -- `y` is the first byte the digit run took, so it is a digit
            rcases hR.head hy with ⟨key, _⟩ | ⟨hnil, _⟩
            · refine ⟨fun e43 => ?_, fun e45 => ?_⟩
              · rw [e43, hsgn.1] at key; cases key
              · rw [e45, hsgn.2] at key; cases key
            · simp [hnil] at hz
          · cases hr
            obtain ⟨_, rfl⟩ := hR.det hR'
            rw [hend] at hx
            exact absurd (List.getElem?_eq_some_iff.mp hx).1 (Nat.lt_irrefl _)

theorem intOK_of_whole (c : Cfg) (o : POpts) (hC : StripClass c o) (s : List Nat) (b : Bytes) (hsl : b.slc = s)
    (hv : b.index ≤ s.length) (p neg fv : Bool) (n : Number) (cnt : Nat)
    (h : parseNumber c p o b neg fv = .ok (n, cnt)) (hcnt : cnt = s.length) : IntOK c o s b := by
  obtain ⟨dsI, eI, fp, ep, hRI, hFL, _, hep, hcntE, heI, hNF, hNI⟩ :=
    parseNumber_left_whole c o hC s b hsl hv p neg fv n cnt h hcnt
  have hEN : ExpOK c o s fp.byte := expOK_of_ok c o hC s fp.byte _ _ ep hep (by rw [← hcntE, hcnt])
  intro eI' dsI' hRI'
  obtain ⟨_, rfl⟩ := hRI.det hRI'
  refine ⟨hNI, ?_⟩
  rcases hFL with ⟨rfl, hnodp⟩ | ⟨dsF, eF, hdp, hRF, _, _, rfl⟩
  · refine ⟨fun hdp => ?_, fun _ => hEN⟩
    simp [Bytes.firstIsCased, Bytes.first, heI, hdp] at hnodp
  · refine ⟨fun _ eF' dsF' hRF' => ?_, fun hnd => absurd (hsl ▸ hdp) hnd⟩
    obtain ⟨_, rfl⟩ := hRF.det hRF'
    exact ⟨hNF, hEN⟩

/-- a separator under the start cursor that `peek` does not skip would end the integer run right there -/
theorem start_normal (c : Cfg) (o : POpts) (hC : StripClass c o) (s : List Nat) (b : Bytes) (hsl : b.slc = s)
    (hv : b.index ≤ s.length) (hN : IntOK c o s b)
    (h2 : ∀ x, s[b.index]? = some x → c.isSep x = true → peek c .integer b = .ok (some x, b)) :
    ∀ x, s[b.index]? = some x → c.isSep x = false := by
  intro x hx
  cases hcs : c.isSep x with
  | false => rfl
  | true =>
    exfalso
    have hpk := h2 x hx hcs
    have hnd : charToDigit x c.mantissaRadix = none := by
      cases hdg : charToDigit x c.mantissaRadix with
      | none => rfl
      | some d =>
        have := clean_shown (hC.cleanM _ (Or.inl rfl)) hpk (by simp [IterSpec.isDig, hdg])
        rw [hcs] at this; cases this
    have hpe := hpk
    rw [IterSpec.peek_ok_iff (hC.reach _)] at hpe
    have hrun : parseDigits c .integer c.mantissaRadix b = .ok ([], b) := by
      rw [IterSpec.parseDigits_stop (hC.reach _) _ b fun y hy => by rw [hpe.1] at hy; cases hy; exact hnd, hpe.2]
    obtain ⟨dsI, eI, hRI⟩ := Run.total hC .integer (Or.inl rfl) b (by unfold Bytes.Valid; rw [hsl]; exact hv)
    have := hRI.run
    rw [hrun] at this
    simp only [Except.ok.injEq, Prod.mk.injEq] at this
    have hx2 := (hN eI dsI hRI).1 x (by rw [← this.2]; exact hx)
    rw [hcs] at hx2; cases hx2

theorem number_strip_gen (c : Cfg) (o : POpts) (hC : StripClass c o) (s : List Nat) (hresI : RescanOK c .integer s)
    (hresF : RescanOK c .fraction s) (b b' : Bytes) (hr : StripRel c s b b')
    (hv : b.index ≤ s.length) (hic : b.ic = 0) (hfc : b.fc = 0)
    (hstart : (∀ x, getPrev s b.index = some x → c.isDigit x = false ∧ c.isSep x = false) ∨
      (∀ x, s[b.index]? = some x → c.isSep x = false))
    (hN : IntOK c o s b) (p neg fv : Bool) (n : Number) (cnt : Nat) (h : parseNumber c p o b neg fv = .ok (n, cnt))
    (hcnt : cnt = s.length) :
    ∃ n', parseNumber c p o b' neg fv = .ok (n', (nonSep c s).length) ∧ NumRel c n n' ∧ SlicesOK c n := by
  obtain ⟨⟨n', cnt'⟩, h1, hrel, hsok, _, _, hc⟩ :=
    (number_bi c o hC s hresI hresF b b' hr hv hic hfc hstart hN p neg fv).1 (n, cnt) h
  simp only [hcnt, List.take_length] at hc
  subst hc
  exact ⟨n', h1, hrel, hsok⟩

def PeekStable (c : Cfg) (k : Comp) : Prop :=
  ∀ (b b1 : Bytes) (x : Nat), Bytes.Valid b → peek c k b = .ok (some x, b1) → c.isSep x = true →
    peek c k b1 = .ok (some x, b1)

theorem StripRel.skip {c : Cfg} {s : List Nat} {b b' b0 : Bytes} (h : StripRel c s b b') (k : Comp) (v : Option Nat)
    (hv : Bytes.Valid b) (hp : peek c k b = .ok (v, b0)) : StripRel c s b0 b' := by
  have hs := peek_spec c k b b0 v hv hp
  have hk := peek_skips c k b b0 v hp
  obtain ⟨h1, h2, h3, h4, h5, h6⟩ := h
  refine ⟨by rw [hs.1]; exact h1, h2, ?_, by rw [hs.2.1]; exact h4, by rw [hs.2.2.1]; exact h5,
    by rw [hs.2.2.2.1]; exact h6⟩
  have e : b0.index = b.index + (b0.index - b.index) := by have := hs.2.2.2.2.1; omega
  rw [e, nonSep_take_add, ← h1]
  have : nonSep c ((b.slc.drop b.index).take (b0.index - b.index)) = [] := nonSep_of_all_sep c _ hk
  rw [this, h3, h1]; simp

theorem parseSign_counts (c : Cfg) (np rq : Bool) (ip ms : String) (b : Bytes) (r : Bool × Bytes) (hd : c.debug = false)
    (h : parseSign c np rq ip ms b = .ok r) : r.2.ic = b.ic ∧ r.2.fc = b.fc := by
  rw [parseSign_release c hd] at h
  rcases signClosed_ok (neg := r.1) (b' := r.2) h with e | e <;> rw [e] <;> exact ⟨rfl, rfl⟩

/-- strip_preserves, general form: release build of a separator format of class `StripClass` whose integer and
fraction iterators re-scan their stored slices consistently (`RescanOK`):
an input the complete parser accepts as a number is accepted, as the same number (`NumRel`), after all separator
bytes are deleted. -/
theorem parseFloatSyntax_strip_gen (c : Cfg) (o : POpts) (hC : StripClass c o) (hdps : o.dp ≠ 43 ∧ o.dp ≠ 45)
    (hstab : PeekStable c .integer) (s : List Nat) (hresI : RescanOK c .integer s) (hresF : RescanOK c .fraction s)
    (fv : Bool) (n : Number) (cnt : Nat) (h : parseFloatSyntax c o false s fv = .ok (.number n cnt)) :
    ∃ n', parseFloatSyntax c o false (nonSep c s) fv = .ok (.number n' (nonSep c s).length) ∧ NumRel c n n' ∧
      SlicesOK c n := by
  obtain ⟨neg, b1, b0, hps, hic, hpn, _⟩ := (parseFloatSyntax_number_iff c o s fv n cnt).mp h
  unfold parseMantissaSign at hps
  have hb1s : b1.slc = s := parseSign_slc c hC.debug _ _ _ _ _ _ _ hps
  have hv1 : Bytes.Valid b1 := by
    have := parseSign_spec c c.noPositiveMantissaSign c.requiredMantissaSign "InvalidPositiveSign" "MissingSign"
      (Bytes.new s) (by simp [Bytes.Valid, Bytes.new]) hC.debug
    rw [hps] at this
    exact this.2.1
  have hic1 : b1.ic = 0 ∧ b1.fc = 0 := parseSign_counts c _ _ _ _ _ _ hC.debug hps
  -- the left run is not at the end of the input: `peek` stops on a byte
  obtain ⟨x, hp⟩ : ∃ x, peek c .integer b1 = .ok (some x, b0) := by
    rw [IterSpec.isConsumed_eq (hC.reach _), if_pos hC.format, Except.ok.injEq, Prod.mk.injEq] at hic
    obtain ⟨hv, rfl⟩ := hic
    rw [IterSpec.peek_eq (hC.reach _)]
    cases hx : b1.slc[IterSpec.pk c .integer b1]? with
    | none => simp [hx] at hv
    | some x => exact ⟨x, rfl⟩
  have hsp := peek_spec c .integer b1 b0 _ hv1 hp
  have hb0s : b0.slc = s := by rw [hsp.1]; exact hb1s
  have hlen : b0.slc.length = s.length := congrArg List.length hb0s
  have hv0 : b0.index ≤ s.length := by have := hsp.2.2.2.2.2.1; unfold Bytes.Valid at this; rw [hb0s] at this; exact this
  have hx0 : s[b0.index]? = some x := by rw [← hb0s]; exact hsp.2.2.2.2.2.2.symm
  rcases parseSign_strip c hC.debug hC.sepPlus hC.sepMinus s _ _ _ _ _ _ (stripRel_new c s) (neg, b1) hps with
    ⟨⟨neg', b1'⟩, h1, h2, h3, h4⟩ | ⟨h1, y, hy, hsg⟩
  · -- both runs handle the sign alike
    simp only at h2 h3 h4
    subst h2
    have hr00 : StripRel c s b0 b1' := h3.skip .integer _ hv1 hp
    have hN := intOK_of_whole c o hC s b0 hb0s hv0 false neg' fv n _ hpn hlen
    have hN0 := start_normal c o hC s b0 hb0s hv0 hN (by
      intro x' hx' hcs
      rw [hx0] at hx'; cases hx'
      exact hstab b1 b0 x hv1 hp hcs)
    obtain ⟨n', hn', hrel, hsok⟩ := number_strip_gen c o hC s hresI hresF b0 b1' hr00 hv0
      (by rw [hsp.2.1]; exact hic1.1) (by rw [hsp.2.2.1]; exact hic1.2) (Or.inr hN0) hN false neg' fv n _ hpn hlen
    -- the stripped run is not at the end either: its cursor shows the byte `x` under the cursor of the run over `s`
    have hn1' : NoSep c b1'.slc := by rw [h3.2.1]; exact nonSep_noSep c s
    have hnonempty : (b1'.slc[b1'.index]?).isNone = false := by
      rw [hr00.get (by rw [hb0s]; exact hN0), hb0s, hx0]; rfl
    refine ⟨n', (parseFloatSyntax_number_iff c o _ fv _ _).mpr ⟨neg', b1', b1', h1, ?_, ?_, rfl⟩, hrel, hsok⟩
    · rw [isConsumed_nosep c .integer b1' hn1' (hC.reach _), hC.format, hnonempty]
      rfl
    · rw [hn', h3.2.1]
  · -- the left run stands on a separator and a sign follows: it finds no mantissa digit
    exfalso
    simp only at h1
    subst h1
    obtain ⟨dsI, eI, fp, ep, hRI, hFL, hm, _, _, heI, _, hNI⟩ :=
      parseNumber_left_whole c o hC s b0 hb0s hv0 false neg fv n _ hpn hlen
    -- the first non-separator byte from `b0` on is the sign
    have hhead : (nonSep c (s.drop b0.index)).head? = some y := by
      have hk := peek_skips c .integer (Bytes.new s) b0 _ hp
      simp only [new_slc, new_index] at hk hy
      have := drop_slice_append s 0 b0.index (Nat.zero_le _)
      simp only [List.drop_zero] at this hy
      have h2 : nonSep c s = nonSep c (slice s 0 b0.index ++ s.drop b0.index) := congrArg (nonSep c) this
      rw [h2, nonSep_append, nonSep_of_all_sep c _ hk, List.nil_append] at hy
      exact hy
    have hsgn := charToDigit_sign c.mantissaRadix hC.radixM
    -- it is no digit, so the integer run took none, and the sign is the first non-separator byte behind it
    obtain ⟨hds, hhead⟩ : dsI = [] ∧ (nonSep c (s.drop eI.index)).head? = some y := by
      rcases hRI.head (by rw [hb0s]; exact hhead) with ⟨key, _⟩ | h
      · rcases hsg with rfl | rfl
        · rw [hsgn.1] at key; cases key
        · rw [hsgn.2] at key; cases key
      · rw [hb0s] at h; exact h
    rcases hFL with ⟨rfl, _⟩ | ⟨dsF, eF, hdp, _, _, _, _⟩
    · simp [hds] at hm
    · rw [hb0s] at hdp
      rw [IterSpec.drop_eq_cons hdp, nonSep_cons_non c _ _ (hNI _ hdp)] at hhead
      simp only [List.head?_cons, Option.some.injEq] at hhead
      rcases hsg with rfl | rfl
      · exact hdps.1 hhead
      · exact hdps.2 hhead

theorem rescan_contig (c : Cfg) (k : Comp) (h : c.iterContiguous k = true) : Rescan c k := by
  intro hc; rw [h] at hc; cases hc

theorem peekStable_contig (c : Cfg) (k : Comp) (h : c.iterContiguous k = true) : PeekStable c k := by
  intro b b1 x _ hp _
  have := plainPeek_noskip c k b.slc (skip_of_contig c k h) b rfl
  rw [this] at hp
  simp only [Except.ok.injEq, Prod.mk.injEq] at hp
  rw [← hp.2]; rw [this, hp.1]

theorem peekStable_iltc (c : Cfg) (k : Comp) (hk : c.skip k = .pred .iltc) : PeekStable c k := by
  intro b b1 x _ hp hs
  exfalso
  rw [IterSpec.peek_ok_iff (by rw [hk]; simp)] at hp
  rw [IterSpec.peekIdx_iltc_rest hk _ _ _ x hp.1] at hs
  cases hs

structure MixOK (c : Cfg) : Prop where
  int : c.iterContiguous .integer = true ∨ c.skip .integer = .pred .iltc
  frac : c.iterContiguous .fraction = true ∨ c.skip .fraction = .pred .iltc

theorem MixOK.rescanI {c : Cfg} (h : MixOK c) (hd : c.debug = false) : Rescan c .integer := by
  rcases h.int with h | h
  · exact rescan_contig c _ h
  · exact rescan_iltc c _ hd h

theorem MixOK.rescanF {c : Cfg} (h : MixOK c) (hd : c.debug = false) : Rescan c .fraction := by
  rcases h.frac with h | h
  · exact rescan_contig c _ h
  · exact rescan_iltc c _ hd h

theorem MixOK.stable {c : Cfg} (h : MixOK c) : PeekStable c .integer := by
  rcases h.int with h | h
  · exact peekStable_contig c _ h
  · exact peekStable_iltc c _ h

/-- strip_preserves for the mixed class: integer / fraction component without separator flags or I+L+T+C, the
exponent component with ANY flag combination -/
theorem parseFloatSyntax_strip_mix (c : Cfg) (o : POpts) (hG : GenStrip c o) (hM : MixOK c) (s : List Nat)
    (hb256 : ∀ x ∈ s, x < 256) (fv : Bool) (n : Number) (cnt : Nat)
    (h : parseFloatSyntax c o false s fv = .ok (.number n cnt)) :
    ∃ n', parseFloatSyntax c o false (nonSep c s) fv = .ok (.number n' (nonSep c s).length) ∧ NumRel c n n' ∧
      SlicesOK c n :=
  parseFloatSyntax_strip_gen c o hG.stripClass hG.dpSign hM.stable s (Or.inr ⟨hM.rescanI hG.rel.debug, hb256⟩)
    (Or.inr ⟨hM.rescanF hG.rel.debug, hb256⟩) fv n cnt h

/-- strip_preserves for the class I+L+T+C -/
theorem parseFloatSyntax_strip (c : Cfg) (hA : SkipAll c) (o : POpts) (hdp : o.dp ≠ 43 ∧ o.dp ≠ 45) (s : List Nat)
    (fv : Bool) (n : Number) (cnt : Nat) (h : parseFloatSyntax c o false s fv = .ok (.number n cnt)) :
    ∃ n', parseFloatSyntax c o false (nonSep c s) fv = .ok (.number n' (nonSep c s).length) ∧ NumRel c n n' ∧
      SlicesOK c n :=
  parseFloatSyntax_strip_gen c o (hA.stripClass o) hdp (peekStable_iltc c _ hA.int) s (Or.inl hA.int) (Or.inl hA.frac)
    fv n cnt h

/-! ## the value: `numberBits` reads the same digits from a stored slice and from the stripped slice -/

theorem cfg_debug_eq (c : Cfg) (hd : c.debug = false) : ({ c with debug := false } : Cfg) = c := by
  obtain ⟨f, m, d⟩ := c
  simp only at hd
  subst hd; rfl

theorem sliceDigits_of_sliceOK (c : Cfg) (o : POpts) (hC : StripClass c o) (k : Comp)
    (hk : k = .integer ∨ k = .fraction) (R : List Nat)
    (hok : SliceOK c k R) : sliceDigits c k (nonSep c R) = sliceDigits c k R := by
  rcases hok with ⟨_, hn⟩ | ⟨_, ds, e', hrun, hend⟩
  · rw [nonSep_of_noSep c R hn]
  · unfold sliceDigits
    rw [cfg_debug_eq c hC.debug, hrun,
      parseDigits_nosep c k _ hC.debug (hC.reach k) (Bytes.new (nonSep c R)) (nonSep_noSep c R)]
    have htr := parseDigits_trace c k _ hC.debug (hC.cleanM k hk) _ e' ds (by simp [Bytes.Valid, Bytes.new]) hrun
    have hyl := htr.2.2.2.1
    simp only [new_slc, new_index, hend, slice_zero_length] at hyl
    simp only [new_slc, new_index, List.drop_zero]
    have := digitsPrefix_append c.mantissaRadix (nonSep c R) ds [] hyl (by intro x hx; cases hx)
    rw [List.append_nil] at this
    exact this

theorem numberBits_of_numRel (c : Cfg) (o : POpts) (hC : StripClass c o) (f : Fmt) (n n' : Number) (h : NumRel c n n')
    (hok : SlicesOK c n) : numberBits c f n' = numberBits c f n := by
  obtain ⟨h1, h2, h3, h4, h5, h6, h7⟩ := h
  unfold numberBits
  rw [h1, h2, h3, h4, h5, h6, h7]
  cases hmd : n.manyDigits with
  | false => rfl
  | true =>
    obtain ⟨hI, hF⟩ := hok hmd
    simp only [if_true, sliceDigits_of_sliceOK c o hC .integer (Or.inl rfl) n.integer hI]
    cases hfr : n.fraction with
    | none => rfl
    | some fd => simp only [Option.map_some, sliceDigits_of_sliceOK c o hC .fraction (Or.inr rfl) fd (hF fd hfr)]

end LexVerif.Proof.Sep
