import LexVerif.Proof.IterBasic
import LexVerif.Proof.IterSlice
/-!
# Proof.SepDigits — what `peek` skips and what `parse_digits` over a skip iterator yields

Read off the closed forms of `Proof/IterSpec.lean`: `peek` moves over separators only, and when no separator is taken
for a digit (`Clean`) the digits `parse_digits` hands on are the non-separator bytes it passed (`parseDigits_trace`).
-/
namespace LexVerif.Proof.Sep
open LexVerif LexVerif.Model
open LexVerif.Props.C12
open LexVerif.Proof.IterSpec (mv cur scan isDig Clean StepOK parseDigitsLoop_eq scan_ge scan_le scan_all scan_stop
  scan_nonSep mv_index mv_slc)

theorem peek_skips (c : Cfg) (k : Comp) (b b' : Bytes) (v : Option Nat) (hp : peek c k b = .ok (v, b')) :
    (slice b.slc b.index b'.index).all c.isSep = true := by
  have hs : c.skip k ≠ .unreachable := fun hk => by simp [peek, hk] at hp
  rw [IterSpec.peek_ok_iff hs] at hp
  rw [← hp.2, IterSpec.cur_index]
  have := IterSpec.nonSep_peek (c := c) (k := k) b.slc (b.iterCount c k == 0) b.index
  simp only [nonSep, List.filter_eq_nil_iff, Bool.not_eq_true, Bool.not_eq_false'] at this
  exact List.all_eq_true.mpr this

def advS (c : Cfg) (k : Comp) (di dc : Nat) (b : Bytes) : Bytes :=
  let f := if c.feats.format then dc else 0
  match k with
  | .integer => { b with index := b.index + di, ic := b.ic + f }
  | .fraction => { b with index := b.index + di, fc := b.fc + f }
  | .exponent => { b with index := b.index + di, ec := b.ec + f }
  | .special => { b with index := b.index + di }

@[simp] theorem advS_slc (c : Cfg) (k : Comp) (di dc : Nat) (b : Bytes) : (advS c k di dc b).slc = b.slc := by
  cases k <;> rfl

@[simp] theorem advS_index (c : Cfg) (k : Comp) (di dc : Nat) (b : Bytes) :
    (advS c k di dc b).index = b.index + di := by
  cases k <;> rfl

theorem clean_of_sep {c : Cfg} {r : Nat} (hsep : ∀ x, c.isSep x = true → charToDigit x r = none) (k : Comp) :
    Clean c k (isDig r) := Or.inr fun x hx => by simp [isDig, hsep x hx]

theorem clean_shown {c : Cfg} {k : Comp} {p : Nat → Bool} (h : Clean c k p) {b b1 : Bytes} {v : Nat}
    (hp : peek c k b = .ok (some v, b1)) (hpv : p v = true) : c.isSep v = false := by
  have hs : c.skip k ≠ .unreachable := fun hk => by simp [peek, hk] at hp
  rw [IterSpec.peek_ok_iff hs] at hp
  exact h.taken hp.1 hpv

theorem mv_eq_advS (c : Cfg) (k : Comp) (j n : Nat) (b : Bytes) (h : b.index ≤ j) :
    mv c k j n b = advS c k (j - b.index) n b := by
  cases k <;> simp [mv, advS, Nat.add_sub_cancel' h]

theorem reach_of_run {c : Cfg} {k : Comp} {r fuel : Nat} {b e : Bytes} {ds : List Nat}
    (h : parseDigitsLoop c k r fuel b = .ok (ds, e)) : c.skip k ≠ .unreachable := by
  intro hk
  cases fuel <;> simp [parseDigitsLoop, peek, hk, bind, Except.bind] at h

theorem map_digit_of_all (r : Nat) : ∀ l : List Nat, (∀ x ∈ l, isDig r x = true) →
    l.map (fun x => charToDigit x r) = (l.filterMap (charToDigit · r)).map some ∧
      (l.filterMap (charToDigit · r)).length = l.length
  | [], _ => ⟨rfl, rfl⟩
  | x :: xs, h => by
    obtain ⟨d, hd⟩ := Option.isSome_iff_exists.mp (h x (List.mem_cons_self ..))
    obtain ⟨h1, h2⟩ := map_digit_of_all r xs fun y hy => h y (List.mem_cons_of_mem _ hy)
    simp [hd, h1, h2]

theorem scan_all_along {c : Cfg} {k : Comp} (s : List Nat) (p : Nat → Bool) : ∀ (lim : Nat) (f : Bool) (i : Nat),
    (scan c k s p lim f i).1.length < lim → s[(scan c k s p lim f i).2]? = none → ∀ st,
    (scan c k s (fun _ => true) st f i).1 = (scan c k s p lim f i).1.take st
  | 0, _, _ => by simp
  | lim + 1, f, i => by
    intro hlt hend st
    unfold scan at hlt hend ⊢
    cases hx : s[IterSpec.peekIdx c k s f i]? with
    | none => cases st <;> simp [hx]
    | some x =>
      simp only [hx] at hlt hend ⊢
      cases hp : p x
      · simp only [hp, Bool.false_eq_true, if_false] at hend
        rw [hx] at hend; cases hend
      · simp only [hp, if_true, List.length_cons] at hlt hend ⊢
        cases st with
        | zero => simp []
        | succ st =>
          simp only [hx, List.take_succ_cons]
          rw [scan_all_along s p lim false _ (by omega) hend st]

theorem parseDigitsLoop_trace (c : Cfg) (k : Comp) (radix : Nat) (hd : c.debug = false)
    (hcl : Clean c k (isDig radix)) (fuel : Nat) (b e : Bytes) (ds : List Nat) (hv : Bytes.Valid b)
    (h : parseDigitsLoop c k radix fuel b = .ok (ds, e)) :
    e = advS c k (e.index - b.index) ds.length b ∧ b.index ≤ e.index ∧ e.index ≤ b.slc.length ∧
      (nonSep c (slice b.slc b.index e.index)).map (fun x => charToDigit x radix) = ds.map some ∧
      (∀ x, b.slc[e.index]? = some x → charToDigit x radix = none) := by
  rw [parseDigitsLoop_eq (reach_of_run h) radix fuel b fun x _ => StepOK.release hd k x] at h
  split at h
  · next hlt =>
    have hge := scan_ge (c := c) (k := k) b.slc (isDig radix) fuel (b.iterCount c k == 0) b.index
    have hle := (scan_le (c := c) (k := k) b.slc (isDig radix) fuel (b.iterCount c k == 0) b.index hv).1
    have hns := scan_nonSep b.slc hcl fuel (b.iterCount c k == 0) b.index
    have hst := scan_stop b.slc (isDig radix) fuel (b.iterCount c k == 0) b.index hlt
    obtain ⟨hm, hl⟩ := map_digit_of_all radix _ (scan_all b.slc (isDig radix) fuel (b.iterCount c k == 0) b.index)
    simp only [Except.ok.injEq, Prod.mk.injEq] at h
    obtain ⟨rfl, rfl⟩ := h
    simp only [mv_index]
    refine ⟨by rw [hl]; exact mv_eq_advS c k _ _ b hge, hge, hle, by rw [hns, hm], fun x hx => ?_⟩
    simpa [isDig] using hst x hx
  · cases h

theorem parseDigits_eq (c : Cfg) (k : Comp) (r : Nat) (hd : c.debug = false) (hs : c.skip k ≠ .unreachable) (b : Bytes) :
    parseDigits c k r b =
      .ok ((scan c k b.slc (isDig r) (b.slc.length + 1) (b.iterCount c k == 0) b.index).1.filterMap (charToDigit · r),
        mv c k (scan c k b.slc (isDig r) (b.slc.length + 1) (b.iterCount c k == 0) b.index).2
          (scan c k b.slc (isDig r) (b.slc.length + 1) (b.iterCount c k == 0) b.index).1.length b) :=
  IterSpec.parseDigits_eq hs r b fun x _ => StepOK.release hd k x

theorem parseDigits_peeked {c : Cfg} {k : Comp} (hd : c.debug = false) (hs : c.skip k ≠ .unreachable)
    (hnd : ∀ y, c.isSep y = true → c.isDigit y = false) (r : Nat) (b : Bytes) :
    parseDigits c k r (cur b (IterSpec.pk c k b)) = parseDigits c k r b := by
  have hpk := IterSpec.pk_rest c k hnd b
  simp only [IterSpec.pk, IterSpec.cur_slc, IterSpec.cur_index] at hpk
  have hm : ∀ j n, mv c k j n (cur b (IterSpec.pk c k b)) = mv c k j n b := fun j n => by cases k <;> rfl
  rw [parseDigits_eq c k r hd hs, parseDigits_eq c k r hd hs, hm]
  simp only [IterSpec.cur_slc, IterSpec.cur_index, IterSpec.pk, IterSpec.scan_eq_scanAt, hpk]

theorem parseDigits_trace (c : Cfg) (k : Comp) (radix : Nat) (hd : c.debug = false) (hcl : Clean c k (isDig radix))
    (b e : Bytes) (ds : List Nat) (hv : Bytes.Valid b) (h : parseDigits c k radix b = .ok (ds, e)) :
    e = advS c k (e.index - b.index) ds.length b ∧ b.index ≤ e.index ∧ e.index ≤ b.slc.length ∧
    (nonSep c (slice b.slc b.index e.index)).map (fun x => charToDigit x radix) = ds.map some ∧
    (∀ x, b.slc[e.index]? = some x → charToDigit x radix = none) :=
  parseDigitsLoop_trace c k radix hd hcl _ b e ds hv h

theorem parseDigits_yields (c : Cfg) (k : Comp) (radix : Nat) (hd : c.debug = false)
    (hsep : ∀ x, c.isSep x = true → charToDigit x radix = none) (b b' : Bytes) (ds : List Nat)
    (hv : Bytes.Valid b) (h : parseDigits c k radix b = .ok (ds, b')) :
    (nonSep c (slice b.slc b.index b'.index)).map (fun x => charToDigit x radix) = ds.map some :=
  (parseDigits_trace c k radix hd (clean_of_sep hsep k) b b' ds hv h).2.2.2.1

end LexVerif.Proof.Sep
