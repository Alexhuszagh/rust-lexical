import LexVerif.Proof.LitExact
import LexVerif.Props.RoundNE
/-!
# Proof.LitValue — a literal is read as the rounding of its value

`litFrac_Q`: the fraction `litFrac` is the rational `digits · b^exp / r^fracLen`. With `RoundNE.litBits_exact_of_range`:
`Spec.litBits` of a literal is `roundSigned` of *any* fraction equal to that rational (`litBits_of_value`) — the form in
which both writer round trips (C08 decimal, C06 power-of-two) use it: the writer side proves an equation between
rationals, one `roundNE_congr` does the rest.
-/
namespace LexVerif.Proof.RoundNE
open LexVerif.Spec LexVerif.Proof.Pipeline LexVerif.Props.RoundNE

/-- the number a literal denotes -/
def litQ (r b : Nat) (l : FloatLit) : ℚ :=
  (ofDigits r (l.intDigits ++ l.fracDigits) : ℚ) / (r : ℚ) ^ l.fracDigits.length * (b : ℚ) ^ l.exp

theorem litFrac_Q {r b : Nat} (hr : 0 < r) (hb : 0 < b) (l : FloatLit) :
    ((litFrac r b l).1 : ℚ) / ((litFrac r b l).2 : ℚ) = litQ r b l := by
  have hrq : (r : ℚ) ≠ 0 := by exact_mod_cast Nat.ne_of_gt hr
  have hbq : (b : ℚ) ≠ 0 := by exact_mod_cast Nat.ne_of_gt hb
  unfold litFrac litQ
  split
  · rename_i h
    obtain ⟨a, ha⟩ : ∃ a : Nat, l.exp = (a : Int) := ⟨l.exp.toNat, by omega⟩
    rw [ha, Int.toNat_natCast, zpow_natCast]; push_cast; ring
  · rename_i h
    obtain ⟨a, ha⟩ : ∃ a : Nat, l.exp = -(a : Int) := ⟨(-l.exp).toNat, by omega⟩
    rw [ha, neg_neg, Int.toNat_natCast, zpow_neg, zpow_natCast]; push_cast; field_simp

theorem litBits_of_value {f : Fmt} (hf : WF f) {r b : Nat} (hr : 0 < r) (hb : 0 < b) (hrb : r ≤ b ^ 6)
    (hrange : LitRange f b) (l : FloatLit) (hdig : ∀ d ∈ l.intDigits ++ l.fracDigits, d < r) {N D : Nat} (hD : 0 < D)
    (hval : (N : ℚ) / D = litQ r b l) : litBits f r b l = roundSigned f l.neg N D := by
  rw [litBits_exact_of_range hf hr hb hrb hrange l hdig]
  unfold roundSigned
  congr 1
  exact roundNE_congr hf (litFrac_den_pos hr hb l) hD (by rw [litFrac_Q hr hb, hval])

end LexVerif.Proof.RoundNE
