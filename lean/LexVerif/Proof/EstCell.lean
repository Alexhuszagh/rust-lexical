import LexVerif.Proof.BinaryCorrect
import Mathlib.Tactic.Ring
/-!
# Proof.EstCell — where the value rounds, read off an estimate of it

A moderate path ends with a normalised 64-bit significand `mant` at a binary exponent and a bound on how far the true
value is from it. `shared::round` cuts `mant` into the kept significand `Q = mant / 2^S` (at exponent field `K`) and the
truncated bits `X = mant % 2^S`. `Est2 … cl ch`: the value lies within `(mant − cl, mant + ch)` units of the last place
of `mant`. `Est2.cell` compares the value with the three thresholds of rounding next to `Q` (`encode_le_roundNE`,
`encode_succ_le_roundNE`, `roundNE_le_encode` of `Proof.RoundNECell`: `le_roundNE_iff` in the coordinates `K`, `Q`): a quarter of a step below `Q`, the midpoint above `Q`, the midpoint above `Q + 1`. Bellerophon's
accuracy decision (`Proof.BellRound`), the bracket of an invalid-marked answer (`Proof.BellBracket`) and the lossy answer
(`Proof.BellLossy`) each read two of the four bounds.
-/
namespace LexVerif.Proof.Bell
open LexVerif.Spec LexVerif.Model
open LexVerif.Proof.RoundNE LexVerif.Proof.ExtRound LexVerif.Proof.BinaryCorrect

/-- a two-sided estimate: `(mant − cl)·2^K < (num/den)·2^L·2^S < (mant + ch)·2^K` (`est` is the un-biased estimate) -/
def Est2 (F : FTy) (p : Nat) (est : ExtendedFloat80) (cl ch num den : Nat) : Prop :=
  2 ^ 63 ≤ est.mant ∧ est.mant < 2 ^ 64 ∧
  est.mant * 2 ^ (est.exp + 64 - p - 1).toNat * den <
    num * 2 ^ L F.fmt * 2 ^ shiftOf p est.exp + cl * 2 ^ (est.exp + 64 - p - 1).toNat * den ∧
  num * 2 ^ L F.fmt * 2 ^ shiftOf p est.exp < (est.mant + ch) * 2 ^ (est.exp + 64 - p - 1).toNat * den

/-- `hp2`: the shift is at most 64, i.e. the estimate is not deeper than the subnormal range -/
theorem Est2.cell {F : FTy} {p eb : Nat} (lay : Layout F p eb) {est : ExtendedFloat80} {cl ch num den : Nat}
    (h : Est2 F p est cl ch num den) (hd : 0 < den) (hp2 : -est.exp + 1 ≤ 64) :
    (4 * cl ≤ 2 ^ shiftOf p est.exp →
      encode F.fmt (est.exp + 64 - p - 1).toNat (est.mant / 2 ^ shiftOf p est.exp) ≤ roundNE F.fmt num den) ∧
    (2 ^ (shiftOf p est.exp - 1) + cl ≤ est.mant % 2 ^ shiftOf p est.exp →
      encode F.fmt (est.exp + 64 - p - 1).toNat (est.mant / 2 ^ shiftOf p est.exp + 1) ≤ roundNE F.fmt num den) ∧
    (est.mant % 2 ^ shiftOf p est.exp + ch ≤ 2 ^ (shiftOf p est.exp - 1) →
      roundNE F.fmt num den ≤ encode F.fmt (est.exp + 64 - p - 1).toNat (est.mant / 2 ^ shiftOf p est.exp)) ∧
    (est.mant % 2 ^ shiftOf p est.exp + ch ≤ 2 ^ shiftOf p est.exp + 2 ^ (shiftOf p est.exp - 1) →
      roundNE F.fmt num den ≤ encode F.fmt (est.exp + 64 - p - 1).toNat (est.mant / 2 ^ shiftOf p est.exp + 1)) := by
  obtain ⟨hm1, hm2, hlo, hhi⟩ := h
  have hf := lay.wf
  have hfp : F.fmt.p = p := by rw [lay.fmt]
  obtain ⟨qa, qb, qc, _, _⟩ := quot_bounds lay.hp lay.hp62 hm1 hm2 est.exp hp2
  have hdm := Nat.div_add_mod est.mant (2 ^ shiftOf p est.exp)
  generalize (est.exp + 64 - p - 1).toNat = K at *
  generalize shiftOf p est.exp = S at *
  have h2s : 2 ^ S = 2 * 2 ^ (S - 1) := two_pow_pred qc
  generalize est.mant / 2 ^ S = Q at *
  generalize est.mant % 2 ^ S = X at *
  generalize 2 ^ (S - 1) = half at *
  have h1 : 0 < K → 2 ^ (F.fmt.p - 1) ≤ Q := by rw [hfp]; exact fun hk => (qa hk).2.1
  have h2 : Q < 2 * 2 ^ (F.fmt.p - 1) := by rw [hfp]; exact qb
  have h1' : 0 < K → 2 ^ (F.fmt.p - 1) ≤ Q + 1 := fun hk => Nat.le_succ_of_le (h1 hk)
  -- in units of `Y = den·2^K`, everything scaled by `2^S`: `mant·Y = Q·Z + X·Y` with `Z = 2^S·Y = 2·(half·Y)`
  generalize hN : num * 2 ^ L F.fmt = N at *
  have elo : est.mant * 2 ^ K * den = Q * (2 ^ S * (den * 2 ^ K)) + X * (den * 2 ^ K) := by rw [← hdm]; ring
  have ehi : (est.mant + ch) * 2 ^ K * den =
      Q * (2 ^ S * (den * 2 ^ K)) + X * (den * 2 ^ K) + ch * (den * 2 ^ K) := by rw [← hdm]; ring
  have ecl : cl * 2 ^ K * den = cl * (den * 2 ^ K) := by ring
  have eZ : 2 ^ S * (den * 2 ^ K) = 2 * (half * (den * 2 ^ K)) := by rw [h2s]; ring
  rw [elo, ecl] at hlo
  rw [ehi] at hhi
  generalize hYd : den * 2 ^ K = Y at *
  refine ⟨fun hc => ?_, fun hc => ?_, fun hc => ?_, fun hc => ?_⟩
  · -- `4·Q·Z ≤ 4·mant·Y < 4·N·2^S + 4·cl·Y ≤ 4·N·2^S + Z`
    apply encode_le_roundNE hf hd K Q h1 (Nat.le_of_lt h2)
    rw [hYd, hN]
    apply Nat.lt_of_mul_lt_mul_right (a := 2 ^ S)
    have := Nat.mul_le_mul_right Y hc
    have e1 : 4 * Q * Y * 2 ^ S = 4 * (Q * (2 ^ S * Y)) := by ring
    have e2 : (4 * N + Y) * 2 ^ S = 4 * (N * 2 ^ S) + 2 ^ S * Y := by ring
    have e3 : 4 * cl * Y = 4 * (cl * Y) := by ring
    rw [e1, e2]; omega
  · -- `(2Q+1)·Z = 2·(Q·2^S + half)·Y ≤ 2·(mant − cl)·Y < 2·N·2^S`
    apply encode_succ_le_roundNE hf hd K Q h1 h2
    rw [hYd, hN]
    apply Nat.lt_of_mul_lt_mul_right (a := 2 ^ S)
    have := Nat.mul_le_mul_right Y hc
    have e1 : (2 * Q + 1) * Y * 2 ^ S = 2 * (Q * (2 ^ S * Y)) + 2 ^ S * Y := by ring
    have e2 : 2 * N * 2 ^ S = 2 * (N * 2 ^ S) := by ring
    rw [Nat.add_mul] at this
    rw [e1, e2]; omega
  · -- `2·N·2^S < 2·(mant + ch)·Y ≤ 2·(Q·2^S + half)·Y = (2Q+1)·Z`
    apply roundNE_le_encode hf hd K Q h1 (Nat.le_of_lt h2)
    rw [hYd, hN]
    apply Nat.lt_of_mul_lt_mul_right (a := 2 ^ S)
    have := Nat.mul_le_mul_right Y hc
    have e1 : (2 * Q + 1) * Y * 2 ^ S = 2 * (Q * (2 ^ S * Y)) + 2 ^ S * Y := by ring
    have e2 : 2 * N * 2 ^ S = 2 * (N * 2 ^ S) := by ring
    rw [Nat.add_mul] at this
    rw [e1, e2]; omega
  · -- the same one significand up: `mant + ch ≤ (Q+1)·2^S + half`
    apply roundNE_le_encode hf hd K (Q + 1) h1' h2
    rw [hYd, hN]
    apply Nat.lt_of_mul_lt_mul_right (a := 2 ^ S)
    have := Nat.mul_le_mul_right Y hc
    have e1 : (2 * (Q + 1) + 1) * Y * 2 ^ S = 2 * (Q * (2 ^ S * Y)) + 3 * (2 ^ S * Y) := by ring
    have e2 : 2 * N * 2 ^ S = 2 * (N * 2 ^ S) := by ring
    rw [Nat.add_mul, Nat.add_mul] at this
    rw [e1, e2]; omega

theorem Est2.bracket {F : FTy} {p eb : Nat} (lay : Layout F p eb) {est : ExtendedFloat80} {cl ch num den : Nat}
    (h : Est2 F p est cl ch num den) (hd : 0 < den) (hp2 : -est.exp + 1 ≤ 64) (hcl : 4 * cl ≤ 2 ^ (64 - p))
    (hch : 2 * ch ≤ 2 ^ (64 - p)) :
    encode F.fmt (est.exp + 64 - p - 1).toNat (est.mant / 2 ^ shiftOf p est.exp) ≤ roundNE F.fmt num den ∧
    roundNE F.fmt num den ≤ encode F.fmt (est.exp + 64 - p - 1).toNat (est.mant / 2 ^ shiftOf p est.exp + 1) := by
  obtain ⟨ca, _, _, cd⟩ := h.cell lay hd hp2
  obtain ⟨_, _, qc, _, _⟩ := quot_bounds lay.hp lay.hp62 h.1 h.2.1 est.exp hp2
  have hS : 2 ^ (64 - p) ≤ 2 ^ shiftOf p est.exp :=
    Nat.pow_le_pow_right (by decide) (by unfold shiftOf; split <;> omega)
  have h2s := two_pow_pred qc
  have hext := Nat.mod_lt est.mant (Nat.two_pow_pos (shiftOf p est.exp))
  exact ⟨ca (by omega), cd (by omega)⟩

/-- a one-sided estimate, `mant·2^K ≤ (num/den)·2^L·2^S < (mant + c)·2^K`, is a two-sided one with `cl = 1` -/
theorem Est2.of_le {F : FTy} {p : Nat} {est : ExtendedFloat80} {c num den : Nat} (hm1 : 2 ^ 63 ≤ est.mant)
    (hm2 : est.mant < 2 ^ 64) (hd : 0 < den)
    (hlo : est.mant * 2 ^ (est.exp + 64 - p - 1).toNat * den ≤ num * 2 ^ L F.fmt * 2 ^ shiftOf p est.exp)
    (hhi : num * 2 ^ L F.fmt * 2 ^ shiftOf p est.exp < (est.mant + c) * 2 ^ (est.exp + 64 - p - 1).toNat * den) :
    Est2 F p est 1 c num den :=
  ⟨hm1, hm2, Nat.lt_of_le_of_lt hlo (Nat.lt_add_of_pos_right
    (Nat.mul_pos (Nat.mul_pos Nat.one_pos (Nat.two_pow_pos _)) hd)), hhi⟩

theorem est2_congr {F : FTy} {p : Nat} {est : ExtendedFloat80} {cl ch n1 d1 n2 d2 : Nat} (hd2 : 0 < d2)
    (heq : n1 * d2 = n2 * d1) (h : Est2 F p est cl ch n1 d1) : Est2 F p est cl ch n2 d2 := by
  obtain ⟨h1, h2, lo, hi⟩ := h
  refine ⟨h1, h2, ?_, ?_⟩
  all_goals
    generalize 2 ^ (est.exp + 64 - p - 1).toNat = K at *
    generalize 2 ^ shiftOf p est.exp = S at *
    generalize 2 ^ L F.fmt = LL at *
    apply Nat.lt_of_mul_lt_mul_right (a := d1)
  · calc est.mant * K * d2 * d1 = est.mant * K * d1 * d2 := by ac_rfl
      _ < (n1 * LL * S + cl * K * d1) * d2 := Nat.mul_lt_mul_of_pos_right lo hd2
      _ = (n1 * d2) * LL * S + cl * K * d2 * d1 := by rw [Nat.add_mul]; congr 1 <;> ac_rfl
      _ = (n2 * LL * S + cl * K * d2) * d1 := by rw [heq, Nat.add_mul]; congr 1; ac_rfl
  · calc n2 * LL * S * d1 = (n2 * d1) * LL * S := by ac_rfl
      _ = n1 * LL * S * d2 := by rw [← heq]; ac_rfl
      _ < (est.mant + ch) * K * d1 * d2 := Nat.mul_lt_mul_of_pos_right hi hd2
      _ = (est.mant + ch) * K * d2 * d1 := by ac_rfl

theorem _root_.LexVerif.Props.C01Compact.est2_mono {F : FTy} {p : Nat} {est : ExtendedFloat80} {cl ch ch' num den : Nat}
    (h : Est2 F p est cl ch num den) (hle : ch ≤ ch') : Est2 F p est cl ch' num den := by
  obtain ⟨h1, h2, h3, h4⟩ := h
  refine ⟨h1, h2, h3, Nat.lt_of_lt_of_le h4 ?_⟩
  exact Nat.mul_le_mul_right _ (Nat.mul_le_mul_right _ (by omega))

theorem shift_lt3 (X Y Z a b a' b' : Nat) (h : X * 2 ^ a < Y * 2 ^ b + Z * 2 ^ a) (heq : a + b' = a' + b) :
    X * 2 ^ a' < Y * 2 ^ b' + Z * 2 ^ a' := by
  apply Nat.lt_of_mul_lt_mul_right (a := 2 ^ b)
  calc X * 2 ^ a' * 2 ^ b = X * 2 ^ (a' + b) := by rw [Nat.pow_add]; ring
    _ = (X * 2 ^ a) * 2 ^ b' := by rw [← heq, Nat.pow_add]; ring
    _ < (Y * 2 ^ b + Z * 2 ^ a) * 2 ^ b' := Nat.mul_lt_mul_of_pos_right h (Nat.two_pow_pos _)
    _ = Y * 2 ^ b' * 2 ^ b + Z * 2 ^ (a + b') := by rw [Nat.pow_add]; ring
    _ = (Y * 2 ^ b' + Z * 2 ^ a') * 2 ^ b := by rw [heq, Nat.pow_add]; ring

theorem shift_lt2 (X Y a b a' b' : Nat) (h : Y * 2 ^ b < X * 2 ^ a) (heq : a + b' = a' + b) :
    Y * 2 ^ b' < X * 2 ^ a' := by
  apply Nat.lt_of_mul_lt_mul_right (a := 2 ^ b)
  calc Y * 2 ^ b' * 2 ^ b = (Y * 2 ^ b) * 2 ^ b' := by ring
    _ < (X * 2 ^ a) * 2 ^ b' := Nat.mul_lt_mul_of_pos_right h (Nat.two_pow_pos _)
    _ = X * 2 ^ (a + b') := by rw [Nat.pow_add]; ring
    _ = X * 2 ^ a' * 2 ^ b := by rw [heq, Nat.pow_add]; ring

/-- the bounds of `prepare_cases` (units `den·2^(pw−1)`, `2^(1−pw)`) in the units of `Est2` -/
theorem est2_of_units {F : FTy} {p : Nat} (hp64 : p ≤ 64) (mant : Nat) (pw : Int) (cl ch num den : Nat)
    (hm1 : 2 ^ 63 ≤ mant) (hm2 : mant < 2 ^ 64)
    (hlo : mant * (den * 2 ^ (pw - 1).toNat) <
      num * 2 ^ L F.fmt * 2 ^ (1 - pw).toNat + cl * (den * 2 ^ (pw - 1).toNat))
    (hhi : num * 2 ^ L F.fmt * 2 ^ (1 - pw).toNat < (mant + ch) * (den * 2 ^ (pw - 1).toNat)) :
    Est2 F p ⟨mant, pw⟩ cl ch num den := by
  have hrel : (shiftOf p pw : Int) + (pw - 1) = ((pw + 64 - p - 1).toNat : Int) := by
    unfold shiftOf; split <;> omega
  refine ⟨hm1, hm2, ?_, ?_⟩
  all_goals
    simp only
    generalize hK : (pw + 64 - p - 1).toNat = K at *
    generalize hS : shiftOf p pw = S at *
    have heq : (pw - 1).toNat + S = K + (1 - pw).toNat := by omega
  · have := shift_lt3 (mant * den) (num * 2 ^ L F.fmt) (cl * den) (pw - 1).toNat (1 - pw).toNat K S (by
      calc mant * den * 2 ^ (pw - 1).toNat = mant * (den * 2 ^ (pw - 1).toNat) := by ring
        _ < num * 2 ^ L F.fmt * 2 ^ (1 - pw).toNat + cl * (den * 2 ^ (pw - 1).toNat) := hlo
        _ = num * 2 ^ L F.fmt * 2 ^ (1 - pw).toNat + cl * den * 2 ^ (pw - 1).toNat := by ring) heq
    calc mant * 2 ^ K * den = mant * den * 2 ^ K := by ring
      _ < num * 2 ^ L F.fmt * 2 ^ S + cl * den * 2 ^ K := this
      _ = num * 2 ^ L F.fmt * 2 ^ S + cl * 2 ^ K * den := by ring
  · have := shift_lt2 ((mant + ch) * den) (num * 2 ^ L F.fmt) (pw - 1).toNat (1 - pw).toNat K S (by
      calc num * 2 ^ L F.fmt * 2 ^ (1 - pw).toNat < (mant + ch) * (den * 2 ^ (pw - 1).toNat) := hhi
        _ = (mant + ch) * den * 2 ^ (pw - 1).toNat := by ring) heq
    calc num * 2 ^ L F.fmt * 2 ^ S < (mant + ch) * den * 2 ^ K := this
      _ = (mant + ch) * 2 ^ K * den := by ring

end LexVerif.Proof.Bell
