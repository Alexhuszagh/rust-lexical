import LexVerif.Proof.GrisuCached
import LexVerif.Proof.GrisuArith
import LexVerif.Proof.GrisuCore
import LexVerif.Proof.GrisuCand
import LexVerif.Proof.GrisuDigits
import LexVerif.Proof.GrisuSpec
/-!
# Proof.GrisuMain — `grisu` (compact builds) round-trips for EVERY finite non-zero binary32 / binary64 input

`grisu_ok`: the model's `grisu` returns 1 … 17 (9) digit characters without a leading zero whose value `digits·10^k`
lies strictly inside the rounding interval of the float, hence is read back (exact `roundNE`) as the same bits.
Ingredients: what `cached_grisu_power` returns (`GrisuCached.cached_spec`: a table row `c̃·2^ce` with
`|c̃ − 10^k'/2^ce| ≤ 1/2` that passed the window test `-60 … -32`), `mul` = correctly rounded product (`GrisuArith`), the error analysis
of the three products (`GrisuCore`), the digit-generation loops (`GrisuDigits`) and the oracle side (`GrisuCand`).
-/
namespace LexVerif.Proof.GrisuMain
open LexVerif.Model.Dragonbox LexVerif.Model.Grisu LexVerif.Spec LexVerif.Spec.Tables LexVerif.Proof.GrisuCached
open LexVerif.Proof.GrisuArith LexVerif.Proof.GrisuCore LexVerif.Proof.GrisuCand LexVerif.Proof.GrisuInterval
open LexVerif.Proof.GrisuDigits LexVerif.Proof.GrisuSpec LexVerif.Proof.DragonboxSpec
open LexVerif.Proof.DragonboxShortest LexVerif.Proof.RoundNE

theorem interval_facts_fmt (t : FTy) {m s c : Nat} (hm1 : 1 ≤ m) (hm2 : m < 2 ^ (fmtOf t).p) (hs : 62 - (fmtOf t).p ≤ s)
    (hc : 2 ^ 63 ≤ c) :
    rnd ((if m = t.hiddenBit then 4 * m - 1 else 4 * m - 2) * 2 ^ s) c + 3 ≤ rnd ((4 * m + 2) * 2 ^ s) c
    ∧ rnd (4 * m * 2 ^ s) c + 1 ≤ rnd ((4 * m + 2) * 2 ^ s) c
    ∧ 10 * (rnd ((4 * m + 2) * 2 ^ s) c - 1) ≤ 10 ^ maxDigits t *
        (rnd ((4 * m + 2) * 2 ^ s) c - 1
          - (rnd ((if m = t.hiddenBit then 4 * m - 1 else 4 * m - 2) * 2 ^ s) c + 1)) := by
  have hK := Nat.mul_le_mul (Nat.pow_le_pow_right (by decide : 0 < 2) hs) hc
  cases t
  · replace hK : 2 ^ 101 ≤ 2 ^ s * c := hK
    exact GrisuCore.interval_facts (h := 2 ^ 23) (n10 := 10 ^ 9) hm1 hm2 (by omega) (by omega) (by omega)
  · replace hK : 2 ^ 72 ≤ 2 ^ s * c := hK
    exact GrisuCore.interval_facts (h := 2 ^ 52) (n10 := 10 ^ 17) hm1 hm2 (by omega) (by omega) (by omega)

theorem grisu_unfold (t : FTy) (bits : Nat) :
    LexVerif.Model.Grisu.grisu t bits =
      match normalizedBoundaries t (fromFloat t bits) with
      | (lower, upper) =>
        match cachedGrisuPower upper.exp with
        | none => none
        | some (cp, ki) =>
          generateDigits (mul (normalize (fromFloat t bits)) cp)
            ⟨sub64 (mul upper cp).mant 1, (mul upper cp).exp⟩
            ⟨u64 ((mul lower cp).mant + 1), (mul lower cp).exp⟩ (i32 (-ki)) := by
  unfold LexVerif.Model.Grisu.grisu
  rfl

/-- the decimal fraction `grisuOk` judges with is the one the oracle's candidates are stated with -/
theorem decFracN_eq : decFracN = decFrac := rfl

theorem mul_rnd {x c sh : Nat} {ex ec : Int} (hx : x < 2 ^ 64) (hc : c < 2 ^ 64)
    (hsh : i32 (i32 (ex + ec) + 64) = -(sh : Int)) : mul ⟨x, ex⟩ ⟨c, ec⟩ = ⟨rnd x c, -(sh : Int)⟩ := by
  obtain ⟨hm, he⟩ := mul_spec ⟨x, ex⟩ ⟨c, ec⟩ hx hc
  generalize mul ⟨x, ex⟩ ⟨c, ec⟩ = r at hm he
  cases r
  simp only [] at hm he
  rw [hm, he, hsh, rnd]

theorem grisu_ok (t : FTy) (bits : Nat) (h0 : 0 < bits) (hfin : bits < (fmtOf t).infBits) :
    grisuOk t bits = true := by
  obtain ⟨lo, hiv, hlo, hm1, hm2, he1, he2⟩ := interval_all t bits h0 hfin
  have hgu := grisu_unfold t bits
  rw [show fromFloat t bits = ⟨t.mantissa bits, t.exponent bits⟩ from rfl] at hgu
  generalize t.mantissa bits = m at *
  generalize t.exponent bits = e at *
  have hp53 : 2 ^ (fmtOf t).p ≤ 2 ^ 53 := Nat.pow_le_pow_right (by decide) (by cases t <;> decide)
  have a1 : -1074 ≤ t.denormalExponent := by cases t <;> decide
  have a2 : (((2 ^ t.exponentSize.toNat - 2 : Nat) : Int) - t.exponentBias) ≤ 971 := by cases t <;> decide
  obtain ⟨hs61, hU63, hU64, hnorm, hbnd⟩ := boundaries_spec t m e hm1 (by omega) (by omega)
  have hsp : 62 - (fmtOf t).p ≤ 62 - Nat.log2 (2 * m + 1) := by
    have : Nat.log2 (2 * m + 1) < (fmtOf t).p + 1 := by rw [Nat.log2_lt (by omega), Nat.pow_succ]; omega
    omega
  generalize 62 - Nat.log2 (2 * m + 1) = s at *
  -- the cached power `cm·2^ce ≈ 10^ki`, `cn/cd` its exact value, `-sh` the exponent of the products
  have hue : -1140 ≤ e - 2 - (s : Int) ∧ e - 2 - (s : Int) ≤ 1089 := by omega
  obtain ⟨⟨⟨cm, ce⟩, ki⟩, hGc⟩ := cached_some hue.1 hue.2
  obtain ⟨hnear, hki1, hki2, hsh1, hsh2⟩ := cached_spec hue.1 hue.2 hGc
  unfold IsNearestPow10 at hnear
  simp only [Nat.mul_assoc] at hnear hsh1 hsh2
  obtain ⟨hcm63, hcm64, herr1, herr2⟩ := hnear
  have hcd : 0 < powNum 2 ce * powDen 10 ki := by
    unfold powNum powDen
    split <;> split <;> positivity
  generalize hshd : (-(e - 2 - (s : Int) + ce + 64)).toNat = sh at *
  have hshI : (sh : Int) = -(e - 2 - (s : Int) + ce + 64) := by omega
  have hsc := scale_identity (ki := ki) hshI
  generalize powNum 10 ki * powDen 2 ce = cn at *
  generalize powNum 2 ce * powDen 10 ki = cd at *
  have hexp : i32 (i32 (e - 2 - (s : Int) + ce) + 64) = -(sh : Int) := by unfold i32; omega
  -- the three products `U`, `W`, `Lw` and what `generate_digits` makes of `[Lw + 1, U - 1]`
  obtain ⟨hL3, hW1, hcount⟩ := interval_facts_fmt t (s := s) (c := cm) hm1 hm2 hsp hcm63
  generalize hl4 : (if m = t.hiddenBit then 4 * m - 1 else 4 * m - 2) = l4 at *
  have hl4 : lo ≤ l4 ∧ l4 ≤ 4 * m + 2 := ⟨hlo, by rw [← hl4]; split <;> omega⟩
  have hW64 : 4 * m * 2 ^ s < 2 ^ 64 := Nat.lt_of_le_of_lt (Nat.mul_le_mul_right _ (by omega)) hU64
  have hL64 : l4 * 2 ^ s < 2 ^ 64 := Nat.lt_of_le_of_lt (Nat.mul_le_mul_right _ hl4.2) hU64
  have hUlt := mul_lt ⟨(4 * m + 2) * 2 ^ s, e - 2 - s⟩ ⟨cm, ce⟩ hU64 hcm64
  rw [hbnd] at hgu
  simp only [hGc] at hgu
  rw [mul_rnd hU64 hcm64 hexp] at hUlt
  rw [hnorm, mul_rnd hU64 hcm64 hexp, mul_rnd hW64 hcm64 hexp, mul_rnd hL64 hcm64 hexp] at hgu
  simp only [] at hgu hUlt
  have hLtrue := prod_lower (c := cm) hL64 hcd herr2
  have hUtrue := fun r => prod_upper (c := cm) (r := r) hU64 hcd herr1
  generalize rnd ((4 * m + 2) * 2 ^ s) cm = U at *
  generalize rnd (4 * m * 2 ^ s) cm = W at *
  generalize rnd (l4 * 2 ^ s) cm = Lw at *
  obtain ⟨ds, κ, hgen, hκ1, hκ2, hchars, hne, hhead, hlow, hupp, hcnt⟩ :=
    generateDigits_spec ⟨W, -(sh : Int)⟩ ⟨U - 1, -(sh : Int)⟩ ⟨Lw + 1, -(sh : Int)⟩ (-ki) sh
      (by omega) (by omega) rfl (by show U - 1 < 2 ^ 64; omega) (by show 1 ≤ Lw + 1; omega)
      (by show Lw + 1 < U - 1; omega) (by show W ≤ U - 1; omega) (by omega)
  simp only [] at hlow hupp hcnt
  rw [LexVerif.Proof.DragonboxBits.sub64_one (by omega) hUlt,
    DragonboxArith.u64_id (by omega),
    DragonboxArith.i32_id (x := -ki) (by omega) (by omega), hgen] at hgu
  unfold grisuOk
  rw [hgu]
  simp only []
  have hlen := hcnt (maxDigits t) (by cases t <;> decide) hcount
  have hlen1 : 1 ≤ ds.length := by
    rcases ds with _ | ⟨c, r⟩
    · exact absurd rfl hne
    · simp
  generalize ofDigits 10 (ds.map (· - 48)) = D at *
  have hcand : Cand (interval (fmtOf t) bits) (-ki + κ) D := by
    rw [hiv]
    refine cand_of_products _ hcd hsc ?_ (hUtrue (U - 1) (by omega)) hlow hupp
    exact Nat.lt_of_le_of_lt (Nat.mul_le_mul_right _ (Nat.mul_le_mul_right _ hl4.1)) hLtrue
  have hrt : roundNE (fmtOf t) (decFracN D (-ki + κ)).1 (decFracN D (-ki + κ)).2 = bits := by
    rw [decFracN_eq]
    exact ((cand_iff_roundNE (wf_fmtOf t) h0 hfin D _).mp hcand).2
  simp only [Bool.and_eq_true, List.all_eq_true, decide_eq_true_eq, beq_iff_eq, bne_iff_ne, ne_eq]
  exact ⟨⟨⟨⟨hchars, hlen⟩, hlen1⟩, hhead⟩, hrt⟩

end LexVerif.Proof.GrisuMain
