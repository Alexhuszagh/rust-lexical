import Mathlib.Tactic.Ring
import LexVerif.Proof.WriteRadixF
/-!
# Proof.WriteRadixSpacing — the distance between neighbouring floats, and what one rounding costs

`spacing f c` is the distance from pattern `c` to its successor. A rounded quotient is within half a spacing of the exact
one (`round_err`), for a normal result a relative error `≤ 2^-p` (`round_rel`); `Close n j A B` says that `A` and `B`
differ by at most `j` such errors (`Close.trans`, `Close.add_right`), which are at most `j + 1` spacings
(`Close.to_add`). `pattern_dist` turns a distance in value into a distance in patterns.
-/
namespace LexVerif.Proof.WriteRadixSpacing
open LexVerif.Spec LexVerif.Proof.RoundNE LexVerif.Proof.WriteRadixF
open LexVerif.Model.WriteRadix (unit fmul fsub fdiv ofNat one)

/-- distance from pattern `c` to `c + 1`, in units of `2^-L` -/
def spacing (f : Fmt) (c : Nat) : Nat := 2 ^ (c / 2 ^ (f.p - 1) - 1)

theorem spacing_kq (f : Fmt) {k q : Nat} (h1 : 0 < k → 2 ^ (f.p - 1) ≤ q) (h2 : q < 2 * 2 ^ (f.p - 1)) :
    spacing f (k * 2 ^ (f.p - 1) + q) = 2 ^ k := by
  have hT := Nat.two_pow_pos (f.p - 1)
  unfold spacing
  congr 1
  by_cases hk0 : k = 0
  · subst hk0
    have : (0 * 2 ^ (f.p - 1) + q) / 2 ^ (f.p - 1) ≤ 1 := by
      apply Nat.le_of_lt_succ
      rw [Nat.div_lt_iff_lt_mul hT]; omega
    omega
  · have hq := h1 (by omega)
    have : (k * 2 ^ (f.p - 1) + q) / 2 ^ (f.p - 1) = k + 1 :=
      Nat.div_eq_of_lt_le (by rw [Nat.succ_mul]; omega) (by rw [Nat.succ_mul, Nat.succ_mul]; omega)
    omega

theorem decomp_spacing (f : Fmt) (c : Nat) : ∃ k q, c = k * 2 ^ (f.p - 1) + q ∧ (0 < k → 2 ^ (f.p - 1) ≤ q) ∧
    q < 2 * 2 ^ (f.p - 1) ∧ RoundNE.ival f c = q * 2 ^ k ∧ spacing f c = 2 ^ k := by
  obtain ⟨k, q, rfl, h1, h2⟩ := decomp f c
  exact ⟨k, q, rfl, h1, h2, ival_kq f k q h1 (Nat.le_of_lt h2), spacing_kq f h1 h2⟩

theorem ival_step (f : Fmt) (c : Nat) : RoundNE.ival f (c + 1) = RoundNE.ival f c + spacing f c := by
  obtain ⟨k, q, rfl, h1, h2, hv, hs⟩ := decomp_spacing f c
  rw [hv, hs, Nat.add_assoc, ival_kq f k (q + 1) (fun h => by have := h1 h; omega) (by omega)]
  ring

theorem ival_lt_spacing (f : Fmt) (c : Nat) : RoundNE.ival f c < 2 * 2 ^ (f.p - 1) * spacing f c := by
  obtain ⟨k, q, rfl, _, h2, hv, hs⟩ := decomp_spacing f c
  rw [hv, hs]
  exact Nat.mul_lt_mul_of_pos_right h2 (Nat.two_pow_pos k)

theorem spacing_mul_le (f : Fmt) {c : Nat} (hc : 2 ^ (f.p - 1) ≤ c) :
    2 ^ (f.p - 1) * spacing f c ≤ RoundNE.ival f c := by
  obtain ⟨k, q, rfl, h1, _, hv, hs⟩ := decomp_spacing f c
  rw [hv, hs]
  apply Nat.mul_le_mul_right
  by_cases hk0 : k = 0
  · subst hk0; omega
  · exact h1 (by omega)

theorem spacing_mono (f : Fmt) {a b : Nat} (hab : a ≤ b) : spacing f a ≤ spacing f b :=
  Nat.pow_le_pow_right (by decide) (Nat.sub_le_sub_right (Nat.div_le_div_right hab) 1)

theorem spacing_le_two_mul (f : Fmt) {a b : Nat} (hb : b ≤ a + 2 ^ (f.p - 1)) : spacing f b ≤ 2 * spacing f a := by
  have h1 : b / 2 ^ (f.p - 1) ≤ a / 2 ^ (f.p - 1) + 1 := by
    rw [← Nat.add_div_right a (Nat.two_pow_pos _)]; exact Nat.div_le_div_right hb
  unfold spacing
  rw [Nat.mul_comm, ← Nat.pow_succ]
  exact Nat.pow_le_pow_right (by decide) (by omega)

theorem spacing_le_pow (f : Fmt) {c k : Nat} (hc : c < (k + 2) * 2 ^ (f.p - 1)) : spacing f c ≤ 2 ^ k := by
  have := (Nat.div_lt_iff_lt_mul (Nat.two_pow_pos (f.p - 1))).mpr hc
  exact Nat.pow_le_pow_right (by decide) (by omega)

theorem pow_le_spacing (f : Fmt) {c k : Nat} (hc : (k + 1) * 2 ^ (f.p - 1) ≤ c) : 2 ^ k ≤ spacing f c := by
  have := (Nat.le_div_iff_mul_le (Nat.two_pow_pos (f.p - 1))).mpr hc
  exact Nat.pow_le_pow_right (by decide) (by omega)

theorem ival_pred_le (f : Fmt) {c : Nat} (hc : c ≠ 0) : RoundNE.ival f c ≤ RoundNE.ival f (c - 1) + spacing f c := by
  have e := ival_step f (c - 1)
  rw [Nat.sub_add_cancel (by omega)] at e
  rw [e]
  exact Nat.add_le_add_left (spacing_mono f (Nat.sub_le c 1)) _

theorem ival_add_ge (f : Fmt) (c : Nat) : ∀ j, RoundNE.ival f c + j * spacing f c ≤ RoundNE.ival f (c + j)
  | 0 => by simp
  | j + 1 => by
    have ih := ival_add_ge f c j
    have := spacing_mono f (Nat.le_add_right c j)
    rw [← Nat.add_assoc, ival_step, Nat.add_mul j 1, Nat.one_mul]
    omega

/-- going down, the spacing can halve (once, within `2^(p-1)` patterns) -/
theorem ival_sub_le (f : Fmt) (c : Nat) : ∀ j, j ≤ c → j ≤ 2 ^ (f.p - 1) →
    2 * RoundNE.ival f (c - j) + j * spacing f c ≤ 2 * RoundNE.ival f c
  | 0, _, _ => by simp
  | j + 1, hc, hT => by
    have ih := ival_sub_le f c j (by omega) (by omega)
    have e : c - j = (c - (j + 1)) + 1 := by omega
    rw [e, ival_step] at ih
    have := spacing_le_two_mul f (a := c - (j + 1)) (b := c) (by omega)
    rw [Nat.add_mul j 1, Nat.one_mul]
    omega

theorem fsub_succ {f : Fmt} (h : FOK f) {v : Nat} (hv : v + 1 < f.infBits) :
    RoundNE.ival f (fsub f (v + 1) v) = spacing f v ∧ fsub f (v + 1) v ≤ v + 1 := by
  have hstep := ival_step f v
  obtain ⟨k, _, _, _, _, _, hs⟩ := decomp_spacing f v
  obtain ⟨c, hc⟩ := exists_pattern f k 1 (by have := Nat.two_pow_pos (f.p - 1); omega)
  rw [Nat.one_mul, ← hs] at hc
  have hle : c ≤ v + 1 := le_of_ival_le f (by rw [hc, hstep]; omega)
  have : fsub f (v + 1) v = c := by
    rw [fsub_eq, hstep, Nat.add_sub_cancel_left, unit_eq]
    exact roundNE_of_ival h.wf (by omega) (Nat.two_pow_pos _) (by rw [hc])
  rw [this]
  exact ⟨hc, hle⟩

/-- `c = round(N/D)` is within half the spacing at `c` of `N/D`. Stated for `N/D = A/B` in units of `2^-L`
(`N·2^L = A·K`, `D = B·K`), so that the common factor is cancelled here once. -/
theorem round_err {f : Fmt} (hf : WF f) {N D A B K : Nat} (hK : 0 < K) (hB : 0 < B) (hN : N * 2 ^ L f = A * K)
    (hD : D = B * K) (hfin : roundNE f N D < f.infBits) :
    2 * A ≤ B * (2 * RoundNE.ival f (roundNE f N D) + spacing f (roundNE f N D)) ∧
    B * (2 * RoundNE.ival f (roundNE f N D)) ≤ 2 * A + B * spacing f (roundNE f N D) := by
  have cell := inCell_roundNE hf N (den := D) (by rw [hD]; exact Nat.ne_of_gt (Nat.mul_pos hB hK))
  generalize roundNE f N D = c at *
  constructor
  · have up := cell.upper hfin
    rw [ival_step, hN, hD] at up
    apply Nat.le_of_mul_le_mul_right _ hK
    calc 2 * A * K = 2 * (A * K) := by ring
      _ ≤ B * K * (RoundNE.ival f c + (RoundNE.ival f c + spacing f c)) := up
      _ = _ := by ring
  · by_cases h0 : c = 0
    · subst h0; rw [ival_zero]; simp
    · have lo := cell.lower h0
      have hs := ival_pred_le f h0
      rw [hN, hD] at lo
      apply Nat.le_of_mul_le_mul_right _ hK
      calc B * (2 * RoundNE.ival f c) * K
          ≤ B * K * (RoundNE.ival f (c - 1) + RoundNE.ival f c) + B * K * spacing f c := by
            rw [← Nat.mul_add]
            calc B * (2 * RoundNE.ival f c) * K = B * K * (2 * RoundNE.ival f c) := by ring
              _ ≤ _ := Nat.mul_le_mul_left _ (by omega)
        _ ≤ 2 * (A * K) + B * K * spacing f c := Nat.add_le_add_right lo _
        _ = _ := by ring

theorem round_rel {f : Fmt} (hf : WF f) {N D A B K : Nat} (hK : 0 < K) (hB : 0 < B) (hN : N * 2 ^ L f = A * K)
    (hD : D = B * K) (hfin : roundNE f N D < f.infBits) (hnorm : 2 ^ (f.p - 1) ≤ roundNE f N D) :
    ∃ e, B * RoundNE.ival f (roundNE f N D) ≤ A + e ∧ A ≤ B * RoundNE.ival f (roundNE f N D) + e ∧
      2 * 2 ^ (f.p - 1) * e ≤ B * RoundNE.ival f (roundNE f N D) := by
  obtain ⟨e1, e2⟩ := round_err hf hK hB hN hD hfin
  have hs := Nat.mul_le_mul_left B (spacing_mul_le f hnorm)
  rw [Nat.mul_left_comm] at hs
  rw [Nat.mul_add, ← Nat.mul_assoc B 2, Nat.mul_comm B 2, Nat.mul_assoc] at e1
  rw [← Nat.mul_assoc B 2, Nat.mul_comm B 2, Nat.mul_assoc] at e2
  generalize B * RoundNE.ival f (roundNE f N D) = x at *
  generalize B * spacing f (roundNE f N D) = y at *
  refine ⟨(x - A) + (A - x), by omega, by omega, Nat.le_trans ?_ hs⟩
  rw [Nat.mul_assoc, Nat.mul_left_comm]
  exact Nat.mul_le_mul_left _ (by omega)

/-- `A` and `B` differ by at most `j` relative errors of `1/n`: `A/B ≤ n/(n − j)` and `B/A ≤ (n + 1)/(n + 1 − j)` -/
def Close (n j A B : Nat) : Prop := (n - j) * A ≤ n * B ∧ (n + 1 - j) * B ≤ (n + 1) * A

theorem Close.refl (n A : Nat) : Close n 0 A A := ⟨Nat.le_refl _, Nat.le_refl _⟩

theorem Close.mul_right {n j A B : Nat} (h : Close n j A B) (k : Nat) : Close n j (A * k) (B * k) := by
  unfold Close
  rw [← Nat.mul_assoc, ← Nat.mul_assoc, ← Nat.mul_assoc, ← Nat.mul_assoc]
  exact ⟨Nat.mul_le_mul_right k h.1, Nat.mul_le_mul_right k h.2⟩

theorem Close.cases {n j A B : Nat} (h : Close n j A B) (hj : j ≤ n) :
    ∃ m, n = m + j ∧ m * A ≤ (m + j) * B ∧ (m + 1) * B ≤ (m + j + 1) * A := by
  obtain ⟨m, rfl⟩ : ∃ m, n = m + j := ⟨n - j, by omega⟩
  obtain ⟨h1, h2⟩ := h
  rw [Nat.add_sub_cancel] at h1
  rw [show m + j + 1 - j = m + 1 by omega] at h2
  exact ⟨m, rfl, h1, h2⟩

theorem Close.le_two_mul {n j A B : Nat} (h : Close n j A B) (hn : 0 < n) (hj : 2 * j ≤ n) :
    A ≤ 2 * B ∧ B ≤ 2 * A := by
  obtain ⟨m, rfl, h1, h2⟩ := h.cases (by omega)
  constructor
  · apply Nat.le_of_mul_le_mul_left _ (show 0 < m by omega)
    have := Nat.mul_le_mul_right B (show m + j ≤ m + m by omega)
    rw [Nat.add_mul m m] at this
    rw [Nat.mul_left_comm]
    omega
  · apply Nat.le_of_mul_le_mul_left _ (show 0 < m + 1 by omega)
    have := Nat.mul_le_mul_right A (show m + j + 1 ≤ m + 1 + (m + 1) by omega)
    rw [Nat.add_mul (m + 1) (m + 1)] at this
    rw [Nat.mul_left_comm]
    omega

theorem close_of_rel {n x A e : Nat} (h1 : x ≤ A + e) (h2 : A ≤ x + e) (he : n * e ≤ x) : Close n 1 x A := by
  unfold Close
  have k1 := Nat.mul_le_mul_left n h1
  have k2 := Nat.mul_le_mul_left n h2
  rw [Nat.mul_add] at k1 k2
  rw [Nat.sub_mul, Nat.one_mul, Nat.add_sub_cancel, Nat.succ_mul]
  omega

/-- a rounding with denominator `1.0` (sum, difference, product) is one relative error, also for a subnormal result
(which is exact) -/
theorem round_close_one {f : Fmt} (hf : WF f) {N D A : Nat} (hD : 0 < D) (hN : N * 2 ^ L f = A * D)
    (hfin : roundNE f N D < f.infBits) : Close (2 * 2 ^ (f.p - 1)) 1 (RoundNE.ival f (roundNE f N D)) A := by
  by_cases hnorm : 2 ^ (f.p - 1) ≤ roundNE f N D
  · obtain ⟨e, p1, p2, p3⟩ := round_rel hf hD Nat.one_pos hN (Nat.one_mul _).symm hfin hnorm
    rw [Nat.one_mul] at p1 p2 p3
    exact close_of_rel p1 p2 p3
  · obtain ⟨e1, e2⟩ := round_err hf hD Nat.one_pos hN (Nat.one_mul _).symm hfin
    generalize roundNE f N D = c at *
    have hsp : spacing f c = 1 := by unfold spacing; rw [Nat.div_eq_of_lt (by omega)]; rfl
    rw [hsp] at e1 e2
    exact close_of_rel (e := 0) (by omega) (by omega) (by simp)

/-- `(1 − i/n)(1 − j/n) ≥ 1 − (i+j)/n` -/
theorem close_half {n i j A B C : Nat} (h1 : (n - i) * A ≤ n * B) (h2 : (n - j) * B ≤ n * C) :
    (n - (i + j)) * A ≤ n * C := by
  by_cases hij : i + j ≤ n
  · obtain ⟨m, rfl⟩ : ∃ m, n = m + i + j := ⟨n - i - j, by omega⟩
    rw [show m + i + j - i = m + j by omega] at h1
    rw [show m + i + j - j = m + i by omega] at h2
    rw [show m + i + j - (i + j) = m by omega]
    rcases Nat.eq_zero_or_pos (m + i + j) with h0 | hpos
    · have : m = 0 := by omega
      subst this; simp
    · apply Nat.le_of_mul_le_mul_left _ hpos
      calc (m + i + j) * (m * A) ≤ (m + i) * ((m + j) * A) := by
            rw [← Nat.mul_assoc, ← Nat.mul_assoc]
            exact Nat.mul_le_mul_right _ (by
              rw [show (m + i) * (m + j) = (m + i + j) * m + i * j by ring]; exact Nat.le_add_right _ _)
        _ ≤ (m + i) * ((m + i + j) * B) := Nat.mul_le_mul_left _ h1
        _ = (m + i + j) * ((m + i) * B) := Nat.mul_left_comm _ _ _
        _ ≤ (m + i + j) * ((m + i + j) * C) := Nat.mul_le_mul_left _ h2
  · rw [Nat.sub_eq_zero_of_le (by omega)]; simp

theorem Close.trans {n i j A B C : Nat} (h1 : Close n i A B) (h2 : Close n j B C) : Close n (i + j) A C :=
  ⟨close_half h1.1 h2.1, by rw [Nat.add_comm i j]; exact close_half h2.2 h1.2⟩

theorem Close.step {n j A' A B : Nat} (h1 : Close n 1 A' A) (h : Close n j A B) : Close n (j + 1) A' B := by
  rw [Nat.add_comm]; exact h1.trans h

theorem Close.add_right {n j A B : Nat} (h : Close n j A B) (c : Nat) : Close n j (A + c) (B + c) := by
  obtain ⟨h1, h2⟩ := h
  unfold Close
  rw [Nat.mul_add, Nat.mul_add, Nat.mul_add, Nat.mul_add]
  exact ⟨Nat.add_le_add h1 (Nat.mul_le_mul_right _ (Nat.sub_le _ _)),
    Nat.add_le_add h2 (Nat.mul_le_mul_right _ (Nat.sub_le _ _))⟩


/-- from `z` relative roundings to an additive bound in spacings (`K` = spacing at the input, `iv < n·K`) -/
theorem Close.to_add {n a iv K z : Nat} (hc : Close n z a iv) (hK : iv < n * K) (hz : z * z + z ≤ n) (hzn : z < n) :
    a ≤ iv + (z + 1) * K ∧ iv ≤ a + z * K := by
  obtain ⟨m, rfl, h1, h2⟩ := hc.cases (Nat.le_of_lt hzn)
  have k1 : z * iv ≤ z * ((m + z) * K) := Nat.mul_le_mul_left _ (Nat.le_of_lt hK)
  have k2 : z * ((m + z) * K) = m * z * K + z * z * K := by ring
  have k3 : z * z * K ≤ m * K := Nat.mul_le_mul_right K (by omega)
  constructor
  · apply Nat.le_of_mul_le_mul_left _ (show 0 < m by omega)
    rw [show m * (iv + (z + 1) * K) = m * iv + m * z * K + m * K by ring]
    rw [show (m + z) * iv = m * iv + z * iv by ring] at h1
    omega
  · apply Nat.le_of_mul_le_mul_left _ (show 0 < m + z + 1 by omega)
    rw [show (m + z + 1) * (a + z * K) = (m + z + 1) * a + (m * z * K + z * z * K + z * K) by ring]
    rw [show (m + z + 1) * iv = (m + 1) * iv + z * iv by ring]
    omega

/-- a rational within `a` spacings above / `b` spacings below the finite float `v` rounds to a pattern at most `a`
above / `2b` below `v` (below a binade boundary the spacing halves; above the largest float the result saturates) -/
theorem pattern_dist {f : Fmt} (hf : WF f) {v N D a b : Nat} (hD : 0 < D) (hvfin : v < f.infBits)
    (hbT : 2 * b ≤ 2 ^ (f.p - 1))
    (hup : N * unit f ≤ (RoundNE.ival f v + a * spacing f v) * D)
    (hlo : RoundNE.ival f v * D ≤ N * unit f + b * spacing f v * D) :
    ulpDist (roundNE f N D) v ≤ max a (2 * b) := by
  have hu := Nat.two_pow_pos (L f)
  rw [unit_eq] at hup hlo
  have up : roundNE f N D ≤ v + a := by
    by_cases hfin : v + a < f.infBits
    · rw [← roundNE_of_ival hf hfin hu rfl]
      exact roundNE_mono' hf hD hu (Nat.le_trans hup (Nat.mul_le_mul_right _ (ival_add_ge f v a)))
    · exact Nat.le_trans (roundNE_le_infBits hf N hD) (by omega)
  have lo : v - 2 * b ≤ roundNE f N D := by
    by_cases hb : 2 * b ≤ v
    · rw [← roundNE_of_ival hf (show v - 2 * b < f.infBits by omega) hu rfl]
      apply roundNE_mono' hf hu hD
      have hs := ival_sub_le f v (2 * b) hb hbT
      rw [Nat.mul_assoc] at hs
      have h3 : RoundNE.ival f (v - 2 * b) * D + b * spacing f v * D ≤ RoundNE.ival f v * D := by
        rw [← Nat.add_mul]; exact Nat.mul_le_mul_right _ (by omega)
      omega
    · omega
  unfold ulpDist
  split <;> omega

end LexVerif.Proof.WriteRadixSpacing
