import LexVerif.Proof.PrefixRepair
import LexVerif.Proof.ParseNumberTotalPhases
import LexVerif.Proof.ParseNumberDebugU64
/-!
# Proof.ParseNumberDebugRescanFacts — what the first pass provides for the re-scan: start conditions, counts, stored slice

* `AtRest`: the cursor is where a `peek` left it (`atRest_of_peek`); `StartC`: the state a component's digit run starts in
  (byte before it neither digit nor separator, or at rest — on a non-separator, or on a separator `peek` refuses to skip:
  then the run is empty);
* the base-prefix phase does not touch any count;
* `firstPass_runsOut`: `parse_digits` runs through the slice the first pass stored;
* `Sep.rescan_sim2`: the same fact in terms of the model's loop, for a first pass from anywhere inside the region
  (`IterSpec.scan_region` read through `parseDigitsLoop_eq`).
-/
namespace LexVerif.Proof.PNDebug
open LexVerif LexVerif.Model
open LexVerif.Props.C12 (Bytes.Valid)
open LexVerif.Proof.Sep (slice slice_self slice_length)
open LexVerif.Proof.IterSpec

variable {c : Cfg}

/-- `peek` leaves the cursor of `st` where it is: on a non-separator, at the end, or on a separator it refuses to skip -/
def AtRest (c : Cfg) (k : Comp) (st : Bytes) : Prop := pk c k st = st.index

def StartC (c : Cfg) (k : Comp) (st : Bytes) : Prop :=
  (∀ x, getPrev st.slc st.index = some x → c.isDigit x = false ∧ c.isSep x = false) ∨ AtRest c k st

theorem atRest_of_peek (cx : Ctx c) (k : Comp) (b b1 : Bytes) (v : Option Nat)
    (hp : peek c k b = .ok (v, b1)) : AtRest c k b1 := by
  rw [peek_eq (cx.skipOk k)] at hp
  cases hp
  unfold AtRest pk
  rw [← mv_zero c k, first_after]
  simpa [mv_zero] using peekIdx_rest (sep_not_isDigit cx) b.slc _ b.index

/-- read off `PrefixRepair.prefixClosed`: the digits start where `b` stood, where a `peek` rested, or behind the prefix letter -/
theorem prefixPhase_facts (cx : Ctx c) (b st : Bytes) (isP : Bool) (hb : Bytes.Valid b) (hpost : AtRest c .integer b)
    (hpre : c.basePrefix ≠ 0 → ∀ y, matchesB y c.basePrefix c.caseSensitiveBasePrefix = true →
      c.isDigit y = false ∧ c.isSep y = false)
    (h : prefixPhase c b = .ok (isP, st)) :
    st.ic = b.ic ∧ st.fc = b.fc ∧ StartC c .integer st ∧ (c.basePrefix = 0 → AtRest c .integer st) := by
  obtain ⟨-, hic, hfc⟩ := (Wp.of_eq_ok (PNTotal.prefixPhase_moved cx.env b hb) h).counts
  refine ⟨hic, hfc, ?_⟩
  have rest : ∀ b0 : Bytes, AtRest c .integer (cur b0 (pk c .integer b0)) := fun b0 =>
    atRest_of_peek cx _ b0 _ _ (peek_eq (cx.skipOk _) b0)
  rw [PNTotal.prefixPhase_env cx.env b] at h
  unfold PrefixRepair.prefixClosed at h
  split at h
  · next hcond =>
    have hne : c.basePrefix ≠ 0 := by
      simp only [Bool.and_eq_true, ne_eq, decide_eq_true_eq] at hcond; exact hcond.2
    refine (fun hs => ⟨hs, fun h0 => absurd h0 hne⟩) ?_
    split at h
    · split at h
      · next hm =>
        cases hy : b.slc[pk c .integer (cur b (pk c .integer b + 1))]? with
        | none => simp [hy] at hm
        | some y =>
          have hst : st = cur b (pk c .integer (cur b (pk c .integer b + 1)) + 1) := by
            split at h <;> cases h; rfl
          left
          intro x hx
          rw [hst, show getPrev (cur b _).slc (cur b _).index = some y by simpa [getPrev] using hy] at hx
          cases hx
          exact hpre hne y (by simpa [hy] using hm)
      · split at h <;> cases h
        · exact Or.inr hpost
        · exact Or.inr (rest (cur b (pk c .integer b + 1)))
    · cases h; exact Or.inr (rest b)
  · cases h; exact ⟨Or.inr hpost, fun _ => hpost⟩

/-- **the slice the first pass of a non-contiguous iterator stores is re-scanned completely**: every predicate but
I+T+C; I+T+C with the repair `Fix.itc`, or when the run does not start behind a non-digit. The first pass ran from `st` to
the resting cursor of its scan, in front of a byte that is no digit; `IterSpec.scan_region` carries the scan over to the
slice. -/
theorem firstPass_runsOut (cx : Ctx c) (k : Comp) (p : Pred) (hk : c.skip k = .pred p) (st : Bytes) (hv : Bytes.Valid st)
    (hcnt : Bytes.iterCount c k st = 0) (hstart : StartC c k st) (hp : p ≠ .itc ∨ Fix.itc = true ∨ AtRest c k st) :
    RunsOut c k (Bytes.new (slice st.slc st.index (run c k (isDig c.mantissaRadix) st).2)) := by
  have hnc := contig_of_pred hk
  have hle := scan_le (c := c) (k := k) st.slc (isDig c.mantissaRadix) (st.slc.length + 1) (st.iterCount c k == 0)
    st.index hv
  have hself := scan_fuel (c := c) (k := k) st.slc (isDig c.mantissaRadix) (st.iterCount c k == 0)
    (show st.slc.length - st.index < st.slc.length + 1 by omega)
  have hnd : ∀ x, isDig c.mantissaRadix x = false → c.isDigit x = false := fun x hx =>
    isDigit_of_stop c x cx.r36 (by simpa [isDig] using hx)
  have hsep : ∀ x, c.isSep x = true → isDig c.mantissaRadix x = false := fun x hx => by
    rw [isSep_eq hx]; simp [isDig, charToDigit_none_of_not_isDig cx.sepNotDigM]
  -- a run that starts on a separator `peek` does not skip is empty
  have rest : AtRest c k st → (∀ x, st.slc[st.index]? = some x → c.isSep x = false) ∨
      RunsOut c k (Bytes.new (slice st.slc st.index (run c k (isDig c.mantissaRadix) st).2)) := by
    intro hi
    by_cases hns : ∀ x, st.slc[st.index]? = some x → c.isSep x = false
    · exact .inl hns
    · obtain ⟨x, hx, hsx⟩ : ∃ x, st.slc[st.index]? = some x ∧ c.isSep x = true := by
        simpa using hns
      have hi : peekIdx c k st.slc (st.iterCount c k == 0) st.index = st.index := hi
      have : (run c k (isDig c.mantissaRadix) st).2 = st.index := by simp [run, scan, hi, hx, hsep x hsx]
      rw [this, slice_self]
      exact .inr (by simp [RunsOut, run, Bytes.new, scan, peekIdx])
  have main : ((∀ x, getPrev st.slc st.index = some x → c.isDigit x = false ∧ c.isSep x = false) ∨
        (∀ x, st.slc[st.index]? = some x → c.isSep x = false)) →
      (p ≠ .itc ∨ Fix.itc = true ∨ ∀ x, st.slc[st.index]? = some x → c.isSep x = false) →
      RunsOut c k (Bytes.new (slice st.slc st.index (run c k (isDig c.mantissaRadix) st).2)) := by
    intro hprev hp4
    have hreg := scan_region p hk st.slc st.index _ hle.1 hprev
      (fun x hx => hnd x (scan_stop _ _ _ _ _ hself x hx)) (.inr hsep) _ _ st.index (Nat.le_refl _) rfl
      (hp4.imp id (Or.imp id .inr))
    have hlen := slice_length st.slc st.index (run c k (isDig c.mantissaRadix) st).2 hle.1
    have h0 : (Bytes.new (slice st.slc st.index (run c k (isDig c.mantissaRadix) st).2)).iterCount c k = 0 := by
      simp [Bytes.iterCount, Bytes.new, hnc]; cases k <;> rfl
    simp only [run, hcnt] at hle hself hlen h0 ⊢
    rw [Nat.sub_self, hcnt] at hreg
    generalize slice st.slc st.index
      (scan c k st.slc (isDig c.mantissaRadix) (st.slc.length + 1) (0 == 0) st.index).2 = R at hreg hlen h0 ⊢
    unfold RunsOut run
    simp only [Bytes.new] at h0 ⊢
    rw [h0, scan_lim R _ (st.slc.length + 1) (R.length + 1) _ 0 (by rw [hreg]; exact hself)
      (by rw [hreg]; simp only; omega), hreg, List.getElem?_eq_none_iff, hlen]
    exact Nat.le_refl _
  rcases hstart with h1 | h2
  · rcases hp with hne | hfix | h2
    · exact main (.inl h1) (.inl hne)
    · exact main (.inl h1) (.inr (.inl hfix))
    · exact (rest h2).elim (fun h => main (.inl h1) (.inr (.inr h))) id
  · exact (rest h2).elim (fun h => main (.inr h) (.inr (.inr h))) id

end LexVerif.Proof.PNDebug

namespace LexVerif.Proof.Sep
open LexVerif LexVerif.Model LexVerif.Spec
open LexVerif.Props.C12
open LexVerif.Proof.IterSpec

set_option linter.unusedVariables false in
/-- **simulation**: the first pass over `s` from inside the region `[a, e)` and the re-scan of the stored region
`R = s[a..e)` from the corresponding position take the same decisions -/
theorem rescan_sim2 (c : Cfg) (k : Comp) (p : Pred) (hk : c.skip k = .pred p) (hd : c.debug = false)
    (hc : c.iterContiguous k = false) (hf : c.feats.format = true) (hks : k ≠ .special)
    (hsep : ∀ x, c.isSep x = true → charToDigit x c.mantissaRadix = none)
    (s : List Nat) (a e : Nat) (he : e ≤ s.length)
    (hprev : (∀ x, getPrev s a = some x → c.isDigit x = false ∧ c.isSep x = false) ∨
      (∀ x, s[a]? = some x → c.isSep x = false))
    (hstop : ∀ x, s[e]? = some x → c.isDigit x = false) :
    ∀ (fuel : Nat) (bb ee rr : Bytes) (dd : List Nat),
      parseDigitsLoop c k c.mantissaRadix fuel bb = .ok (dd, ee) → bb.slc = s → a ≤ bb.index → ee.index = e →
      rr.slc = slice s a e → rr.index = bb.index - a → Bytes.iterCount c k rr = Bytes.iterCount c k bb →
      (p ≠ .itc ∨ Bytes.iterCount c k bb ≠ 0) →
      ∃ e', parseDigitsLoop c k c.mantissaRadix fuel rr = .ok (dd, e') ∧ e'.index = e - a := by
  intro fuel bb ee rr dd h hbs hab hee hrs hri hcnt hpc
  -- both runs are the scan of their buffer (`parseDigitsLoop_eq`); `scan_region` carries the first over to the slice
  have hs : c.skip k ≠ .unreachable := by rw [hk]; exact fun h => nomatch h
  have hg : ∀ x, isDig c.mantissaRadix x = true → StepOK c k x := fun x _ => StepOK.release hd k x
  rw [parseDigitsLoop_eq hs _ fuel bb hg] at h
  rw [parseDigitsLoop_eq hs _ fuel rr hg, hrs, hri, hcnt]
  rw [hbs] at h
  split at h
  · next hlt =>
    simp only [Except.ok.injEq, Prod.mk.injEq] at h
    obtain ⟨rfl, rfl⟩ := h
    rw [mv_index] at hee
    rw [scan_region p hk s a e he hprev hstop (.inr fun x hx => by simp [isDig, hsep x hx]) fuel _ bb.index hab hee
      (hpc.elim .inl fun h0 => .inr (.inr (.inl (by simpa using h0)))), if_pos hlt]
    exact ⟨_, rfl, mv_index ..⟩
  · cases h

end LexVerif.Proof.Sep
