import LexVerif.Proof.NumberValue
import LexVerif.Proof.SepFreeMany2
import LexVerif.Props.C12
import LexVerif.Proof.ParsePhases
import LexVerif.Proof.ParseNumberC11
/-!
# Proof.NumberSyntax — the `Number` the syntax layer builds reads its digit slices

For every format without digit separator and base prefix (in particular every format when the `format` feature is off),
release build, mantissa radix `r` whose `stp = u64_step(r)` digits fit a `u64` (`r^stp ≤ 2^64`), and exponent base `bs` with
`r = bs^k`: if `parse_number` accepts, then the digit slices it stores are the digit runs themselves (`PlainSlices`) and

* `many_digits = false`: there are at most `stp` significant digits, `mantissa` is their value (no wrap) and `exponent` is
  the explicit exponent minus `k` times the number of fraction digits (`NumberExactAt`);
* `many_digits = true`: there are more, `mantissa` is the value of the first `stp` of them and `exponent` places that
  word.

Both halves are the structure `Reads` of `Proof.NumberValue`: `reads_of_parse`, and `reads_of_syntax` for the `Number` of
the API's syntax pass. `Props.C01Number` and `Props.C05Number` write its instances out.
Built on the closed forms of `Proof.SepFreePhases` / `Proof.SepFreeMany2` (`intClosed`, `fracClosed`, `manyClosed`).
The declarations keep the namespace of `Props.C01Number`, which states its results with them.
-/
namespace LexVerif.Props.C01Number
open LexVerif LexVerif.Spec LexVerif.Model LexVerif.Model.ParseFloatAlgo
open LexVerif.Proof.Sep LexVerif.Proof.Slow LexVerif.Proof.Pipeline LexVerif.Proof.RoundNE
open LexVerif.Props.C01Main LexVerif.Props.C01SlowDomain LexVerif.Props.C12
open LexVerif.Props.C01 (IsI64)

theorem foldExponent_le (r : Nat) : ∀ (ds : List Nat) (acc : Nat), (∀ d ∈ ds, d < r) →
    acc ≤ 0x10000000 * r + r → foldExponent r acc ds ≤ 0x10000000 * r + r
  | [], acc, _, h => by simpa [foldExponent] using h
  | d :: ds, acc, hd, h => by
    unfold foldExponent
    simp only [List.foldl_cons]
    have hdr : d < r := hd d (List.mem_cons_self ..)
    have := foldExponent_le r ds (if acc < 0x10000000 then acc * r + d else acc)
      (fun x hx => hd x (List.mem_cons_of_mem _ hx)) (by
        split
        · rename_i hlt
          have : acc * r ≤ (0x10000000 - 1) * r := Nat.mul_le_mul_right _ (by omega)
          have e : (0x10000000 - 1) * r = 0x10000000 * r - r := by
            rw [Nat.sub_mul, Nat.one_mul]
          have hpos : r ≤ 0x10000000 * r := Nat.le_mul_of_pos_left _ (by decide)
          omega
        · exact h)
    unfold foldExponent at this
    exact this

theorem except_bind_ok {ε α β : Type} {x : Except ε α} {f : α → Except ε β} {b : β} (h : (x >>= f) = .ok b) :
    ∃ a, x = .ok a ∧ f a = .ok b := by
  cases x with
  | error e => cases h
  | ok a => exact ⟨a, rfl, h⟩

theorem exponentPhase_facts (c : Cfg) (hd : c.debug = false) (hasExp : Bool) (b : Bytes) (fr : Option (List Nat)) (e : Int)
    (ep : ExpPart) (hok : exponentPhase c hasExp b fr e = .ok ep) (hr : c.exponentRadix ≤ 255) :
    ep.exponent = e + ep.explicit ∧ -(2 ^ 40 : Int) ≤ ep.explicit ∧ ep.explicit ≤ 2 ^ 40 := by
  have h40 : (2 : Int) ^ 40 = 1099511627776 := by norm_num
  rw [LexVerif.Proof.Phase.exponentPhase_eq] at hok
  cases hasExp with
  | false =>
    simp only [Bool.false_eq_true, if_false] at hok
    split at hok
    · cases hok
    · simp only [pure, Except.pure, Except.ok.injEq] at hok
      subst hok
      simp
  | true =>
    rw [if_pos rfl] at hok
    obtain ⟨b1, _, hok⟩ := except_bind_ok hok
    split at hok
    · cases hok
    split at hok
    · cases hok
    obtain ⟨⟨negExp, b2⟩, _, hok⟩ := except_bind_ok hok
    obtain ⟨⟨ds, b3⟩, hpd, hok⟩ := except_bind_ok hok
    dsimp only at hok
    -- the tail stores `±foldExponent` of the digits, which saturates
    rcases LexVerif.Proof.Phase.expTail_cases (c := c) negExp b2 b3 ds e with ⟨t, ht⟩ | ⟨x, hx, ht⟩
    · rw [ht] at hok; cases hok
    rw [ht] at hok
    simp only [Except.ok.injEq] at hok
    subst hok
    have hlt : ∀ d ∈ ds, d < c.exponentRadix := by
      unfold parseDigits at hpd
      exact parseDigitsLoop_lt c hd .exponent c.exponentRadix _ b2 b3 ds hpd
    have hb := foldExponent_le c.exponentRadix ds 0 hlt (by omega)
    have hb2 : 0x10000000 * c.exponentRadix + c.exponentRadix ≤ 0x10000000 * 255 + 255 := by
      have := Nat.mul_le_mul_left 0x10000000 hr
      omega
    refine ⟨rfl, ?_, ?_⟩ <;> simp only <;> omega

theorem scaleVal_same_base (c : Cfg) (h : c.mantissaRadix = c.exponentBase) (x : Int) : scaleVal c x = x := by
  unfold scaleVal; rw [if_pos h]

theorem parseNumber_tail (c : Cfg) (hd : c.debug = false) (isPartial : Bool) (o : POpts) (b : Bytes) (neg fv : Bool) :
    parseNumber c isPartial o b neg fv =
      (integerPhase c b >>= fun ip => fractionPhase c o ip.byte ip.mantissa >>= fun fp => tailOf c isPartial o neg ip fp) :=
  parseNumber_stages c hd isPartial o b neg fv

theorem manyCore_many (r : Nat) (scale : Int → Int) (ids : List Nat) (ipN : Nat) (fraction : Option (List Nat))
    (fpMant : Nat) (explicit : Int) (neg : Bool) (step : Nat) (ex0 : Int) (endIdx : Nat) (sepMode : Bool) (nd : Nat)
    (hnd : nd > 0) (n : Number) (cnt : Nat)
    (h : manyCore r scale ids ipN fraction fpMant explicit neg step ex0 endIdx sepMode nd = .ok (n, cnt)) :
    n.manyDigits = true ∧ n.integer = ids ∧ n.fraction = fraction ∧ n.explicitExp = explicit := by
  unfold manyCore at h
  rw [if_pos hnd] at h
  dsimp only at h
  split at h
  · simp only [Except.ok.injEq, Prod.mk.injEq] at h
    rw [← h.1]
    exact ⟨rfl, rfl, rfl, rfl⟩
  · cases fraction with
    | none => cases h
    | some fd =>
      simp only [Except.ok.injEq, Prod.mk.injEq] at h
      rw [← h.1]
      exact ⟨rfl, rfl, rfl, rfl⟩

theorem manyCore_zero (r : Nat) (scale : Int → Int) (ids : List Nat) (ipN : Nat) (fraction : Option (List Nat))
    (fpMant : Nat) (explicit : Int) (neg : Bool) (step : Nat) (ex0 : Int) (endIdx : Nat) (sepMode : Bool) (nd : Nat)
    (hnd : ¬ nd > 0) :
    manyCore r scale ids ipN fraction fpMant explicit neg step ex0 endIdx sepMode nd =
      .ok (⟨fpMant, ex0, neg, false, ids, fraction, explicit⟩, endIdx) := by
  unfold manyCore
  rw [if_neg hnd]

/-- the count of significant digits beyond the step, as `manyClosed` computes it: the leading zeros of the integer digits
do not count, nor those after the decimal point when it follows them directly (`tailOf_facts` and `tailOf_many` have this
term written out) -/
def manyCount (dp : Nat) (s : List Nat) (i nDigits step : Nat) : Nat :=
  nDigits - step - zerosPrefix (s.drop i) -
    zerosPrefix (s.drop (if (s[i + zerosPrefix (s.drop i)]? == some dp) = true then i + zerosPrefix (s.drop i) + 1
      else i + zerosPrefix (s.drop i)))

theorem tailOf_ok (c : Cfg) (hS : RelClass c) (hre : c.exponentRadix ≤ 255) (isPartial : Bool) (o : POpts) (neg : Bool)
    (ip : IntPart) (fp : FracPart) (hn : NoSep c ip.start.slc) (hids : NoSep c ip.integerDigits)
    (hfd : ∀ fd, fp.fraction = some fd → NoSep c fd) (n : Number) (cnt : Nat)
    (h : tailOf c isPartial o neg ip fp = .ok (n, cnt)) :
    ∃ (explicit ex0 : Int) (endIdx : Nat),
      -(2 ^ 40 : Int) ≤ explicit ∧ explicit ≤ 2 ^ 40 ∧
      (ex0 = fp.exponent + explicit ∨ (ip.nDigits + fp.nAfterDot = 0 ∧ ex0 = 0)) ∧
      manyCore c.mantissaRadix (scaleVal c) ip.integerDigits ip.nDigits fp.fraction fp.mantissa explicit neg
        (u64Step c.feats c.mantissaRadix) ex0 endIdx (c.feats.format && !c.bytesContiguous)
        (manyCount o.dp ip.start.slc ip.start.index (ip.nDigits + fp.nAfterDot) (u64Step c.feats c.mantissaRadix)) =
          .ok (n, cnt) := by
  unfold tailOf at h
  dsimp only at h
  split at h
  · -- required mantissa digits missing: both branches are errors
    obtain ⟨x, _, h⟩ := except_bind_ok h
    split at h <;> cases h
  · obtain ⟨ep, hep, h⟩ := except_bind_ok h
    obtain ⟨x1, x2, x3⟩ := exponentPhase_facts c hS.debug _ fp.byte fp.fraction fp.exponent ep hep hre
    obtain ⟨bs, _, h⟩ := except_bind_ok h
    refine ⟨ep.explicit, if (c.feats.format && !c.requiredMantissaDigits && decide (ip.nDigits + fp.nAfterDot = 0)) = true
      then 0 else ep.exponent, bs.index, x2, x3, ?_, ?_⟩
    · split
      · rename_i hc
        simp only [Bool.and_eq_true, decide_eq_true_eq] at hc
        exact Or.inr ⟨hc.2, rfl⟩
      · exact Or.inl x1
    · by_cases hle : ip.nDigits + fp.nAfterDot ≤ u64Step c.feats c.mantissaRadix
      · -- the digits fit: the count is `0` and `manyCore` returns the words of the first pass
        rw [if_pos hle] at h
        rw [manyCore_zero _ _ _ _ _ _ _ _ _ _ _ _ _ (by unfold manyCount; omega)]
        exact h
      · rw [if_neg hle, manyDigits_rel c hS ip.start.slc hn o neg ip fp ep _ _ _ _ rfl hids hfd] at h
        exact h

theorem tailOf_facts (c : Cfg) (hS : RelClass c) (hre : c.exponentRadix ≤ 255) (isPartial : Bool) (o : POpts) (neg : Bool)
    (ip : IntPart) (fp : FracPart) (hn : NoSep c ip.start.slc) (hids : NoSep c ip.integerDigits)
    (hfd : ∀ fd, fp.fraction = some fd → NoSep c fd) (n : Number) (cnt : Nat)
    (h : tailOf c isPartial o neg ip fp = .ok (n, cnt)) (hmany : n.manyDigits = false) :
    n.integer = ip.integerDigits ∧ n.fraction = fp.fraction ∧ n.mantissa = fp.mantissa ∧
    (n.exponent = fp.exponent + n.explicitExp ∨ (ip.nDigits + fp.nAfterDot = 0 ∧ n.exponent = 0)) ∧
    -(2 ^ 40 : Int) ≤ n.explicitExp ∧ n.explicitExp ≤ 2 ^ 40 ∧
    (ip.nDigits + fp.nAfterDot ≤ u64Step c.feats c.mantissaRadix ∨
      ip.nDigits + fp.nAfterDot - u64Step c.feats c.mantissaRadix - zerosPrefix (ip.start.slc.drop ip.start.index) -
        zerosPrefix (ip.start.slc.drop
          (if (ip.start.slc[ip.start.index + zerosPrefix (ip.start.slc.drop ip.start.index)]? == some o.dp) = true
            then ip.start.index + zerosPrefix (ip.start.slc.drop ip.start.index) + 1
            else ip.start.index + zerosPrefix (ip.start.slc.drop ip.start.index))) = 0) := by
  obtain ⟨explicit, ex0, endIdx, x2, x3, hexp, hmc⟩ := tailOf_ok c hS hre isPartial o neg ip fp hn hids hfd n cnt h
  by_cases hpos : manyCount o.dp ip.start.slc ip.start.index (ip.nDigits + fp.nAfterDot) (u64Step c.feats c.mantissaRadix) > 0
  · rw [(manyCore_many _ _ _ _ _ _ _ _ _ _ _ _ _ hpos n cnt hmc).1] at hmany
    cases hmany
  · rw [manyCore_zero _ _ _ _ _ _ _ _ _ _ _ _ _ hpos] at hmc
    simp only [Except.ok.injEq, Prod.mk.injEq] at hmc
    obtain ⟨rfl, _⟩ := hmc
    exact ⟨rfl, rfl, rfl, hexp, x2, x3, Or.inr (Nat.eq_zero_of_not_pos hpos)⟩

theorem tailOf_many (c : Cfg) (hS : RelClass c) (hre : c.exponentRadix ≤ 255) (isPartial : Bool) (o : POpts) (neg : Bool)
    (ip : IntPart) (fp : FracPart) (hn : NoSep c ip.start.slc) (hids : NoSep c ip.integerDigits)
    (hfd : ∀ fd, fp.fraction = some fd → NoSep c fd) (n : Number) (cnt : Nat)
    (h : tailOf c isPartial o neg ip fp = .ok (n, cnt)) (hmany : n.manyDigits = true) :
    ∃ (explicit ex0 : Int) (endIdx : Nat),
      -(2 ^ 40 : Int) ≤ explicit ∧ explicit ≤ 2 ^ 40 ∧
      0 < ip.nDigits + fp.nAfterDot - u64Step c.feats c.mantissaRadix - zerosPrefix (ip.start.slc.drop ip.start.index) -
        zerosPrefix (ip.start.slc.drop
          (if (ip.start.slc[ip.start.index + zerosPrefix (ip.start.slc.drop ip.start.index)]? == some o.dp) = true
            then ip.start.index + zerosPrefix (ip.start.slc.drop ip.start.index) + 1
            else ip.start.index + zerosPrefix (ip.start.slc.drop ip.start.index))) ∧
      manyCore c.mantissaRadix (scaleVal c) ip.integerDigits ip.nDigits fp.fraction fp.mantissa explicit neg
        (u64Step c.feats c.mantissaRadix) ex0 endIdx (c.feats.format && !c.bytesContiguous)
        (ip.nDigits + fp.nAfterDot - u64Step c.feats c.mantissaRadix - zerosPrefix (ip.start.slc.drop ip.start.index) -
          zerosPrefix (ip.start.slc.drop
            (if (ip.start.slc[ip.start.index + zerosPrefix (ip.start.slc.drop ip.start.index)]? == some o.dp) = true
              then ip.start.index + zerosPrefix (ip.start.slc.drop ip.start.index) + 1
              else ip.start.index + zerosPrefix (ip.start.slc.drop ip.start.index)))) = .ok (n, cnt) := by
  obtain ⟨explicit, ex0, endIdx, x2, x3, _, hmc⟩ := tailOf_ok c hS hre isPartial o neg ip fp hn hids hfd n cnt h
  by_cases hpos : manyCount o.dp ip.start.slc ip.start.index (ip.nDigits + fp.nAfterDot) (u64Step c.feats c.mantissaRadix) > 0
  · exact ⟨explicit, ex0, endIdx, x2, x3, hpos, hmc⟩
  · rw [manyCore_zero _ _ _ _ _ _ _ _ _ _ _ _ _ hpos] at hmc
    simp only [Except.ok.injEq, Prod.mk.injEq] at hmc
    rw [← hmc.1] at hmany
    cases hmany

def intEnd (c : Cfg) (b : Bytes) : Nat := b.index + (digitsPrefix c.mantissaRadix (b.slc.drop b.index)).length

def hasPoint (o : POpts) (c : Cfg) (b : Bytes) : Bool := b.slc[intEnd c b]? == some o.dp

def fracRun (o : POpts) (c : Cfg) (b : Bytes) : List Nat :=
  if hasPoint o c b then digitsPrefix c.mantissaRadix (b.slc.drop (intEnd c b + 1)) else []

theorem parseNumber_split (c : Cfg) (hS : RelClass c) (hpre : c.basePrefix = 0)
    (isPartial : Bool) (o : POpts) (b : Bytes) (neg fv : Bool) (hn : NoSep c b.slc) (n : Number) (cnt : Nat)
    (h : parseNumber c isPartial o b neg fv = .ok (n, cnt)) :
    ∃ ip fp, tailOf c isPartial o neg ip fp = .ok (n, cnt) ∧ ip.start = b ∧
      ip.nDigits = (digitsPrefix c.mantissaRadix (b.slc.drop b.index)).length ∧
      ip.integerDigits = (b.slc.drop b.index).take (digitsPrefix c.mantissaRadix (b.slc.drop b.index)).length ∧
      fp.nAfterDot = (fracRun o c b).length ∧
      fp.fraction = (if hasPoint o c b then some ((b.slc.drop (intEnd c b + 1)).take (fracRun o c b).length) else none) ∧
      fp.mantissa = foldMantissa c.mantissaRadix (foldMantissa c.mantissaRadix 0
        (digitsPrefix c.mantissaRadix (b.slc.drop b.index))) (fracRun o c b) ∧
      fp.exponent = scaleVal c (-((fracRun o c b).length : Int)) := by
  -- `parse_number` in closed form; every `by_cases` below is one of its error exits, which `h` rules out
  rw [parseNumber_closed c hS isPartial o b neg fv hn, LexVerif.Proof.PrefixRepair.prefixPhase_none c hpre b] at h
  simp only [bind, Except.bind] at h
  unfold intClosed at h
  dsimp only at h
  unfold fracRun hasPoint intEnd
  generalize hdsI : digitsPrefix c.mantissaRadix (b.slc.drop b.index) = dsI at *
  by_cases e1 : (c.feats.format && c.requiredIntegerDigits && decide (dsI.length = 0)) = true
  · rw [if_pos e1] at h; cases h
  rw [if_neg e1] at h
  by_cases e2 : (c.feats.format && !false && c.noFloatLeadingZeros &&
      decide ((List.take dsI.length (List.drop b.index b.slc)).length > 1) &&
      decide ((List.take dsI.length (List.drop b.index b.slc)).head? = some 48)) = true
  · rw [if_pos e2] at h; cases h
  rw [if_neg e2] at h
  simp only at h
  unfold fracClosed at h
  simp only [adv_slc, adv_index] at h
  have hfirst : (adv c Comp.integer dsI.length b).firstIsCased o.dp = (b.slc[b.index + dsI.length]? == some o.dp) := by
    simp [Bytes.firstIsCased, Bytes.first]
  rw [hfirst] at h
  by_cases hdot : (b.slc[b.index + dsI.length]? == some o.dp) = true
  · rw [if_pos hdot] at h
    simp only [hdot, if_true]
    generalize hdsF : digitsPrefix c.mantissaRadix (b.slc.drop (b.index + dsI.length + 1)) = dsF at *
    by_cases e3 : (c.feats.format && c.requiredFractionDigits && decide (dsF.length = 0)) = true
    · rw [if_pos e3] at h; cases h
    rw [if_neg e3] at h
    simp only at h
    exact ⟨_, _, h, rfl, rfl, rfl, rfl, rfl, rfl, rfl⟩
  · rw [if_neg hdot] at h
    simp only [hdot, Bool.false_eq_true, if_false]
    simp only at h
    refine ⟨_, _, h, rfl, rfl, rfl, rfl, rfl, rfl, ?_⟩
    simp [scaleVal]

theorem digitVal_eq_valid (x r : Nat) : Binary.digitVal x r = charToValidDigit x r := rfl

theorem charToDigit_some {x r d : Nat} (h : charToDigit x r = some d) : Binary.digitVal x r = d ∧ d < r := by
  unfold charToDigit at h
  dsimp only at h
  split at h
  · rename_i hlt
    injection h with h
    exact ⟨h, by rw [← h]; exact hlt⟩
  · cases h

theorem charToDigit_48 {r : Nat} (hr : 0 < r) : charToDigit 48 r = some 0 :=
  Proof.CharDigit.charToDigit_48 r hr

theorem dp_cons_some {x r d : Nat} (xs : List Nat) (h : charToDigit x r = some d) :
    digitsPrefix r (x :: xs) = d :: digitsPrefix r xs := by
  rw [digitsPrefix]; simp only [h]
theorem dp_cons_none {x r : Nat} (xs : List Nat) (h : charToDigit x r = none) : digitsPrefix r (x :: xs) = [] := by
  rw [digitsPrefix]; simp only [h]
theorem zp_cons_48 (xs : List Nat) : zerosPrefix (48 :: xs) = zerosPrefix xs + 1 := by rw [zerosPrefix]; simp
theorem zp_cons_ne {x : Nat} (xs : List Nat) (h : x ≠ 48) : zerosPrefix (x :: xs) = 0 := by rw [zerosPrefix]; simp [h]
theorem zp_nil : zerosPrefix [] = 0 := by rw [zerosPrefix]

theorem run_slice (r : Nat) : ∀ (l : List Nat),
    (l.take (digitsPrefix r l).length).length = (digitsPrefix r l).length ∧
    dv r (l.take (digitsPrefix r l).length) = digitsPrefix r l ∧
    ValidDigits r (l.take (digitsPrefix r l).length) ∧
    digitsPrefix r (l.take (digitsPrefix r l).length) = digitsPrefix r l
  | [] => by simp [digitsPrefix.eq_1, dv, ValidDigits]
  | x :: xs => by
    cases hx : charToDigit x r with
    | none => rw [dp_cons_none xs hx]; simp [dv, ValidDigits, digitsPrefix.eq_1]
    | some d =>
      obtain ⟨i1, i2, i3, i4⟩ := run_slice r xs
      obtain ⟨e1, e2⟩ := charToDigit_some hx
      rw [dp_cons_some xs hx]
      simp only [List.length_cons, List.take_succ_cons]
      refine ⟨by rw [i1], ?_, ?_, ?_⟩
      · simp only [dv, List.map_cons, e1]
        unfold dv at i2; rw [i2]
      · intro c hc
        rcases List.mem_cons.mp hc with h | h
        · rw [h, e1]; exact e2
        · exact i3 c h
      · rw [dp_cons_some _ hx, i4]

theorem digitsPrefix_lt (r : Nat) : ∀ (l : List Nat), ∀ d ∈ digitsPrefix r l, d < r
  | [], d, h => by simp [digitsPrefix.eq_1] at h
  | x :: xs, d, h => by
    cases hx : charToDigit x r with
    | none => rw [dp_cons_none xs hx] at h; simp at h
    | some d' =>
      rw [dp_cons_some xs hx] at h
      simp only [List.mem_cons] at h
      rcases h with h | h
      · rw [h]; exact (charToDigit_some hx).2
      · exact digitsPrefix_lt r xs d h

theorem digitsPrefix_zeros {r : Nat} (hr : 0 < r) : ∀ (l : List Nat),
    digitsPrefix r l = List.replicate (zerosPrefix l) 0 ++ digitsPrefix r (l.drop (zerosPrefix l))
  | [] => by simp [digitsPrefix.eq_1, zp_nil]
  | x :: xs => by
    by_cases hx : x = 48
    · subst hx
      have ih := digitsPrefix_zeros hr xs
      rw [zp_cons_48, List.replicate_succ, List.drop_succ_cons, List.cons_append, ← ih,
        dp_cons_some xs (charToDigit_48 hr)]
    · rw [zp_cons_ne xs hx]; simp

theorem zerosPrefix_le_run {r : Nat} (hr : 0 < r) (l : List Nat) : zerosPrefix l ≤ (digitsPrefix r l).length := by
  rw [digitsPrefix_zeros hr l, List.length_append, List.length_replicate]; omega

theorem skipZeros_eq_drop : ∀ (l : List Nat), Binary.skipZeros l = l.drop (zerosPrefix l)
  | [] => by simp [Binary.skipZeros, zp_nil]
  | x :: xs => by
    unfold Binary.skipZeros
    rw [List.dropWhile_cons]
    by_cases hx : x = 48
    · subst hx
      rw [zp_cons_48]
      simp only [decide_true, if_true, List.drop_succ_cons]
      have := skipZeros_eq_drop xs
      unfold Binary.skipZeros at this
      exact this
    · rw [zp_cons_ne xs hx]; simp [hx]

theorem zerosPrefix_take : ∀ (l : List Nat) (n : Nat), zerosPrefix l ≤ n → zerosPrefix (l.take n) = zerosPrefix l :=
  LexVerif.Proof.Sep.zerosPrefix_take

theorem zerosPrefix_drop_self : ∀ (l : List Nat), zerosPrefix (l.drop (zerosPrefix l)) = 0
  | [] => by simp [zp_nil]
  | x :: xs => by
    by_cases hx : x = 48
    · subst hx
      rw [zp_cons_48, List.drop_succ_cons]
      exact zerosPrefix_drop_self xs
    · rw [zp_cons_ne xs hx, List.drop_zero, zp_cons_ne xs hx]

theorem after_run (r : Nat) : ∀ (l : List Nat) (x : Nat),
    (l.drop (digitsPrefix r l).length).head? = some x → charToDigit x r = none
  | [], x, h => by simp [digitsPrefix.eq_1] at h
  | y :: ys, x, h => by
    cases hy : charToDigit y r with
    | none =>
      rw [dp_cons_none ys hy] at h
      simp only [List.length_nil, List.drop_zero, List.head?_cons, Option.some.injEq] at h
      rw [← h]; exact hy
    | some d =>
      rw [dp_cons_some ys hy] at h
      simp only [List.length_cons, List.drop_succ_cons] at h
      exact after_run r ys x h

theorem in_run (r : Nat) : ∀ (l : List Nat) (i : Nat) (x : Nat), i < (digitsPrefix r l).length → l[i]? = some x →
    (charToDigit x r).isSome
  | [], i, x, h, _ => by simp [digitsPrefix.eq_1] at h
  | y :: ys, i, x, h, hx => by
    cases hy : charToDigit y r with
    | none => rw [dp_cons_none ys hy] at h; simp at h
    | some d =>
      rw [dp_cons_some ys hy] at h
      cases i with
      | zero => simp at hx; rw [← hx, hy]; rfl
      | succ j =>
        simp only [List.length_cons] at h
        simp only [List.getElem?_cons_succ] at hx
        exact in_run r ys j x (by omega) hx

theorem sliceDigits_run (c : Cfg) (hS : RelClass c) (k : Comp) (l : List Nat) (hn : NoSep c l) :
    sliceDigits c k l = digitsPrefix c.mantissaRadix l := by
  unfold sliceDigits
  have hn' : NoSep { c with debug := false } (Bytes.new l).slc := hn
  rw [parseDigits_nosep { c with debug := false } k c.mantissaRadix rfl (hS.reach k) (Bytes.new l) hn']
  simp [Bytes.new]

theorem zfTerm_cases (r : Nat) (hr0 : 0 < r) (dp : Nat) (hdp : charToDigit dp r = none) (s : List Nat) (i : Nat) :
    let rest := s.drop i
    let nI := (digitsPrefix r rest).length
    let zi := zerosPrefix rest
    let zf := zerosPrefix (s.drop (if (s[i + zi]? == some dp) = true then i + zi + 1 else i + zi))
    (zi < nI → zf = 0) ∧
    (zi = nI → (s[i + nI]? == some dp) = true → zf = zerosPrefix (s.drop (i + nI + 1))) ∧
    (zi = nI → ¬ (s[i + nI]? == some dp) = true → zf = 0) := by
  intro rest nI zi zf
  have hget : ∀ j, s[i + j]? = rest[j]? := fun j => by simp only [rest, List.getElem?_drop]
  have hdrop : ∀ j, s.drop (i + j) = rest.drop j := fun j => by simp only [rest, List.drop_drop]
  refine ⟨?_, ?_, ?_⟩
  · -- the byte after the leading zeros is a digit, so not the decimal point
    intro hlt
    have hnotdp : ¬ (s[i + zi]? == some dp) = true := by
      intro hc
      rw [hget] at hc
      have hx : rest[zi]? = some dp := by simpa using hc
      have := in_run r rest zi dp hlt hx
      rw [hdp] at this; cases this
    simp only [zf, if_neg hnotdp, hdrop]
    exact zerosPrefix_drop_self rest
  · intro he hpt
    simp only [zf, he, if_pos hpt]
  · intro he hpt
    simp only [zf, he, if_neg hpt, hdrop]
    -- the byte after the digit run is not a digit, so not `'0'`
    cases hh : (rest.drop nI) with
    | nil => exact zp_nil
    | cons x xs =>
      have := after_run r rest x (by simp only [nI] at hh; rw [hh]; rfl)
      have hx : x ≠ 48 := by
        intro h48; rw [h48, charToDigit_48 hr0] at this; cases this
      exact zp_cons_ne xs hx

def intBytes (c : Cfg) (b : Bytes) : List Nat :=
  (b.slc.drop b.index).take (digitsPrefix c.mantissaRadix (b.slc.drop b.index)).length

def fracBytes (o : POpts) (c : Cfg) (b : Bytes) : Option (List Nat) :=
  if hasPoint o c b then some ((b.slc.drop (intEnd c b + 1)).take (fracRun o c b).length) else none

theorem split_slices (r : Nat) (hr0 : 0 < r) (c : Cfg) (hS : RelClass c) (hr : c.mantissaRadix = r) (o : POpts)
    (hdp : charToDigit o.dp r = none) (b : Bytes) (hns : ∀ l, NoSep c l) (h256 : ∀ x ∈ b.slc, x < 256) (n : Number)
    (hi : n.integer = intBytes c b) (hf : n.fraction = fracBytes o c b) (step : Nat) :
    PlainSlices c n ∧ dv r n.integer = digitsPrefix r (b.slc.drop b.index) ∧ dv r (n.fraction.getD []) = fracRun o c b ∧
    n.integer.length ≤ b.slc.length ∧ (n.fraction.getD []).length ≤ b.slc.length ∧
    manyCount o.dp b.slc b.index ((digitsPrefix r (b.slc.drop b.index)).length + (fracRun o c b).length) step =
      (sigBytes n.integer n.fraction).length - step := by
  -- the count `manyClosed` takes walks over the buffer (zeros, the point, zeros); `sigBytes` drops the zeros of the
  -- stored slices: `zfTerm_cases` says where the first walk stops, by what follows the integer zeros
  have hz := zfTerm_cases r hr0 o.dp hdp b.slc b.index
  simp only at hz
  unfold intBytes at hi
  unfold fracBytes at hf
  unfold manyCount
  unfold fracRun hasPoint intEnd at *
  rw [hr] at hi hf ⊢
  generalize b.slc = s at *
  generalize hrest : s.drop b.index = rest at *
  obtain ⟨ri1, ri2, ri3, ri4⟩ := run_slice r rest
  have hzi : zerosPrefix rest ≤ (digitsPrefix r rest).length := zerosPrefix_le_run hr0 rest
  have hztake : zerosPrefix (rest.take (digitsPrefix r rest).length) = zerosPrefix rest := zerosPrefix_take rest _ hzi
  generalize hdsI : digitsPrefix r rest = dsI at *
  have hmemrest : ∀ x ∈ rest, x < 256 := fun x hx => h256 x (by rw [← hrest] at hx; exact List.mem_of_mem_drop hx)
  have hint : (numberLit c n).intDigits = dv r n.integer := by
    show sliceDigits c .integer n.integer = _
    rw [hi, sliceDigits_run c hS .integer _ (hns _), hr, ri4, ri2]
  have hl1 : n.integer.length ≤ s.length := by
    rw [hi, List.length_take, ← hrest, List.length_drop]; omega
  by_cases hpt : (s[b.index + dsI.length]? == some o.dp) = true
  · simp only [hpt, if_true] at hf ⊢
    generalize b.index + dsI.length + 1 = k at *
    obtain ⟨rf1, rf2, rf3, rf4⟩ := run_slice r (s.drop k)
    have hzf : zerosPrefix (s.drop k) ≤ (digitsPrefix r (s.drop k)).length := zerosPrefix_le_run hr0 _
    generalize hdsF : digitsPrefix r (s.drop k) = dsF at *
    have hfrac : (numberLit c n).fracDigits = dv r (n.fraction.getD []) := by
      show (match n.fraction with | some fd => sliceDigits c .fraction fd | none => []) = _
      rw [hf]
      simp only [Option.getD_some]
      rw [sliceDigits_run c hS .fraction _ (hns _), hr, rf4, rf2]
    refine ⟨⟨by rw [hr, hi]; exact ri3, ?_, ?_, ?_, by rw [hint, hr], by rw [hfrac, hr]⟩, by rw [hi, ri2], by rw [hf]; exact rf2,
      hl1, ?_, ?_⟩
    · intro fr hfr; rw [hf] at hfr; injection hfr with hfr; rw [hr, ← hfr]; exact rf3
    · intro x hx; rw [hi] at hx; exact hmemrest x (List.mem_of_mem_take hx)
    · intro fr hfr x hx; rw [hf] at hfr; injection hfr with hfr; rw [← hfr] at hx
      exact h256 x (List.mem_of_mem_drop (List.mem_of_mem_take hx))
    · rw [hf]; simp only [Option.getD_some, List.length_take, List.length_drop]; omega
    · rw [hi, hf]
      unfold sigBytes
      simp only
      rw [skipZeros_eq_drop, hztake]
      by_cases hall : zerosPrefix rest = dsI.length
      · -- integer digits all zero: the fraction's leading zeros are skipped too
        have hnil : List.drop (zerosPrefix rest) (List.take dsI.length rest) = [] := by
          apply List.eq_nil_of_length_eq_zero
          rw [List.length_drop, ri1]; omega
        rw [if_pos hnil, skipZeros_eq_drop, List.length_drop, rf1, zerosPrefix_take _ _ hzf, hz.2.1 hall hpt]
        omega
      · have hne : List.drop (zerosPrefix rest) (List.take dsI.length rest) ≠ [] := by
          intro h0
          have := congrArg List.length h0
          rw [List.length_drop, ri1, List.length_nil] at this
          omega
        rw [if_neg hne, List.length_append, List.length_drop, ri1, rf1, hz.1 (by omega)]
        omega
  · simp only [hpt, Bool.false_eq_true, if_false, List.length_nil, Nat.add_zero] at hf ⊢
    have hfrac : (numberLit c n).fracDigits = dv r (n.fraction.getD []) := by
      show (match n.fraction with | some fd => sliceDigits c .fraction fd | none => []) = _
      rw [hf]; rfl
    refine ⟨⟨by rw [hr, hi]; exact ri3, ?_, ?_, ?_, by rw [hint, hr], by rw [hfrac, hr]⟩, by rw [hi, ri2], by rw [hf]; rfl,
      hl1, by rw [hf]; simp, ?_⟩
    · intro fr hfr; rw [hf] at hfr; cases hfr
    · intro x hx; rw [hi] at hx; exact hmemrest x (List.mem_of_mem_take hx)
    · intro fr hfr; rw [hf] at hfr; cases hfr
    · rw [hi, hf]
      unfold sigBytes
      simp only
      rw [skipZeros_eq_drop, hztake, List.length_drop, ri1]
      by_cases hall : zerosPrefix rest = dsI.length
      · rw [hz.2.2 hall hpt]; omega
      · rw [hz.1 (by omega)]; omega

theorem foldMantissa_small (r : Nat) (ds : List Nat) (h : ofDigits r ds < 2 ^ 64) : foldMantissa r 0 ds = ofDigits r ds := by
  by_cases hnil : ds = []
  · rw [hnil]; rfl
  · rw [foldMantissa_eq r _ 0 hnil, Nat.zero_mul, Nat.zero_add]
    have : horner r ds 0 = ofDigits r ds := rfl
    rw [this]
    exact Nat.mod_eq_of_lt (by unfold pow2_64; exact h)

theorem u64Spec_value (r : Nat) : ∀ (l : List Nat) (m st : Nat),
    (u64Spec r l m st).2.1 = foldMantissa r m (dv r (l.take (min st l.length)))
  | [], m, st => by simp [u64Spec, foldMantissa, dv]
  | x :: xs, m, st => by
    by_cases hst : st > 0
    · obtain ⟨t, rfl⟩ : ∃ t, st = t + 1 := ⟨st - 1, by omega⟩
      have ih := u64Spec_value r xs ((m * r + charToValidDigit x r) % pow2_64) t
      simp only [u64Spec, hst, if_true, Nat.add_sub_cancel, List.length_cons]
      rw [ih, Nat.add_min_add_right, List.take_succ_cons]
      simp only [dv, List.map_cons, foldMantissa, List.foldl_cons, digitVal_eq_valid]
    · have : st = 0 := by omega
      subst this
      simp [u64Spec, foldMantissa, dv]

theorem u64Spec_eq (r : Nat) (l : List Nat) (m st : Nat) :
    u64Spec r l m st =
      (min st l.length, foldMantissa r m (dv r (l.take (min st l.length))), st - min st l.length) := by
  obtain ⟨s1, s2⟩ := u64Spec_step r l m st
  exact Prod.ext s2 (Prod.ext (u64Spec_value r l m st) (by rw [s1, s2]))

theorem manyCore_facts (r : Nat) (scale : Int → Int) (ids : List Nat) (ipN : Nat) (fraction : Option (List Nat))
    (fpMant : Nat) (explicit : Int) (neg : Bool) (step : Nat) (ex0 : Int) (endIdx : Nat) (nd : Nat) (hnd : nd > 0)
    (n : Number) (cnt : Nat)
    (h : manyCore r scale ids ipN fraction fpMant explicit neg step ex0 endIdx false nd = .ok (n, cnt)) :
    n.integer = ids ∧ n.fraction = fraction ∧ n.explicitExp = explicit ∧
    (((u64Spec r (ids.drop (zerosPrefix ids)) 0 step).2.2 = 0 ∧
        n.mantissa = (u64Spec r (ids.drop (zerosPrefix ids)) 0 step).2.1 ∧
        n.exponent = scale ((ipN : Int) - ((zerosPrefix ids + (u64Spec r (ids.drop (zerosPrefix ids)) 0 step).1 : Nat) : Int)) + explicit) ∨
     ((u64Spec r (ids.drop (zerosPrefix ids)) 0 step).2.2 ≠ 0 ∧ ∃ fd, fraction = some fd ∧
        n.mantissa = (u64Spec r (fd.drop (if (u64Spec r (ids.drop (zerosPrefix ids)) 0 step).2.1 = 0 then zerosPrefix fd else 0))
          (u64Spec r (ids.drop (zerosPrefix ids)) 0 step).2.1 (u64Spec r (ids.drop (zerosPrefix ids)) 0 step).2.2).2.1 ∧
        n.exponent = scale (-(((if (u64Spec r (ids.drop (zerosPrefix ids)) 0 step).2.1 = 0 then zerosPrefix fd else 0) +
          (u64Spec r (fd.drop (if (u64Spec r (ids.drop (zerosPrefix ids)) 0 step).2.1 = 0 then zerosPrefix fd else 0))
            (u64Spec r (ids.drop (zerosPrefix ids)) 0 step).2.1 (u64Spec r (ids.drop (zerosPrefix ids)) 0 step).2.2).1 : Nat) : Int)) + explicit)) := by
  unfold manyCore at h
  rw [if_pos hnd] at h
  dsimp only at h
  by_cases hz : (u64Spec r (ids.drop (zerosPrefix ids)) 0 step).2.2 = 0
  · simp only [hz, decide_true, Bool.true_or, if_true, Except.ok.injEq, Prod.mk.injEq] at h
    obtain ⟨rfl, _⟩ := h
    exact ⟨rfl, rfl, rfl, Or.inl ⟨hz, rfl, rfl⟩⟩
  · simp only [hz, decide_false, Bool.false_and, Bool.or_false, Bool.false_eq_true, if_false] at h
    cases hfr : fraction with
    | none => rw [hfr] at h; cases h
    | some fd =>
      rw [hfr] at h
      simp only [Except.ok.injEq, Prod.mk.injEq] at h
      obtain ⟨rfl, _⟩ := h
      exact ⟨rfl, rfl, rfl, Or.inr ⟨hz, fd, rfl, rfl, rfl⟩⟩

theorem ofDigits_take_pos (r : Nat) {bs : List Nat} {c0 : Nat} {cs : List Nat} (hbs : bs = c0 :: cs)
    (h48 : c0 ≠ 48) (hc : c0 < 256) (k : Nat) (hk : 0 < k) :
    r ^ ((bs.take k).length - 1) ≤ ofDigits r (dv r (bs.take k)) := by
  obtain ⟨k', rfl⟩ : ∃ k', k = k' + 1 := ⟨k - 1, by omega⟩
  rw [hbs, List.take_succ_cons]
  simp only [dv, List.map_cons, List.length_cons, Nat.add_sub_cancel]
  rw [ofDigits_cons, List.length_map]
  have hd := digitVal_ne_zero (radix := r) hc h48
  have : 1 * r ^ (cs.take k').length ≤ Binary.digitVal c0 r * r ^ (cs.take k').length :=
    Nat.mul_le_mul_right _ (by omega)
  omega

/-- whatever branch `manyCore` took, the `mantissa` is the value of the first `stp` significant
digits and the `exponent` places them: `N − stp − #fraction digits` digits of the radix (`N` significant digits), scaled,
plus the explicit exponent -/
theorem manyCore_words (r stp : Nat) (hr2 : 2 ≤ r) (hstp : 1 ≤ stp) (hfit : r ^ stp ≤ 2 ^ 64) (scale : Int → Int)
    (int : List Nat) (ipN : Nat) (hipN : ipN = int.length) (frac : Option (List Nat)) (fpMant : Nat) (E : Int) (neg : Bool)
    (ex0 : Int) (endIdx nd : Nat) (hnd : nd > 0) (hvi : ValidDigits r int) (hvf : ∀ fr, frac = some fr → ValidDigits r fr)
    (h256i : ∀ x ∈ int, x < 256) (hN : stp < (sigBytes int frac).length) (n : Number) (cnt : Nat)
    (h : manyCore r scale int ipN frac fpMant E neg stp ex0 endIdx false nd = .ok (n, cnt)) :
    n.mantissa = ofDigits r (dv r ((sigBytes int frac).take stp)) ∧
    n.exponent = scale (((sigBytes int frac).length : Int) - stp - ((frac.getD []).length : Int)) + E := by
  subst hipN
  obtain ⟨_, _, _, hcase⟩ := manyCore_facts _ _ _ _ _ _ _ _ _ _ _ _ hnd n cnt h
  simp only [u64Spec_eq] at hcase
  have hzle : zerosPrefix int ≤ int.length := zerosPrefix_le int
  generalize hz : zerosPrefix int = z at *
  generalize hA : int.drop z = A at *
  have hAlen : A.length = int.length - z := by rw [← hA, List.length_drop]
  have hvA : ValidDigits r A := by rw [← hA]; exact valid_drop hvi z
  have hskip : Binary.skipZeros int = A := by rw [skipZeros_eq_drop, hz, hA]
  -- at most `stp` digits do not wrap
  have hsmall : ∀ l : List Nat, ValidDigits r l → l.length ≤ stp → foldMantissa r 0 (dv r l) = ofDigits r (dv r l) := by
    intro l hv hl
    apply foldMantissa_small r
    have := ofDigits_dv_lt hv
    have h19 : r ^ l.length ≤ r ^ stp := Nat.pow_le_pow_right (by omega) hl
    omega
  have htake_len : ∀ (l : List Nat) k, (l.take k).length ≤ k := fun l k => by rw [List.length_take]; omega
  rcases hcase with ⟨hu0, hm, he⟩ | ⟨hu0, fd, hfd, hm, he⟩
  · -- all `stp` digits come from the integer part
    have hA19 : stp ≤ A.length := by omega
    rw [Nat.min_eq_left hA19] at hm he
    have hAne : A ≠ [] := by intro h0; rw [h0] at hA19; simp at hA19; omega
    have hsig : sigBytes int frac = A ++ frac.getD [] := by
      unfold sigBytes
      cases frac with
      | none => simp [hskip]
      | some fr => simp only [hskip, if_neg hAne, Option.getD_some]
    rw [hsig, List.take_append_of_le_length hA19]
    refine ⟨by rw [hm, hsmall _ (valid_take hvA stp) (htake_len _ _)], ?_⟩
    rw [he, List.length_append]
    congr 2
    push_cast
    omega
  · have hAlt : A.length < stp := by omega
    rw [Nat.min_eq_right (Nat.le_of_lt hAlt), List.take_of_length_le (Nat.le_refl _)] at hm he
    have sv := hsmall A hvA (by omega)
    have hvfd := hvf fd hfd
    by_cases hAnil : A = []
    · -- no significant integer digit: the fraction's leading zeros are skipped
      have hu1 : foldMantissa r 0 (dv r A) = 0 := by rw [sv, hAnil]; rfl
      have hsig : sigBytes int frac = fd.drop (zerosPrefix fd) := by
        unfold sigBytes; rw [hfd]; simp only [hskip, hAnil, if_true, skipZeros_eq_drop]
      rw [hsig] at hN ⊢
      rw [hu1, if_pos rfl, hAnil, List.length_nil, Nat.sub_zero, Nat.min_eq_left (by omega)] at hm he
      refine ⟨by rw [hm, hsmall _ (valid_take (valid_drop hvfd _) stp) (htake_len _ _)], ?_⟩
      rw [he, hfd]
      congr 2
      simp only [Option.getD_some, List.length_drop] at hN ⊢
      push_cast
      have hzf : zerosPrefix fd ≤ fd.length := zerosPrefix_le fd
      omega
    · -- some significant integer digits, the rest from the fraction
      obtain ⟨c0, cs, hAc⟩ : ∃ c0 cs, A = c0 :: cs := by
        cases A with
        | nil => exact absurd rfl hAnil
        | cons c0 cs => exact ⟨c0, cs, rfl⟩
      have h48 : c0 ≠ 48 := skipZeros_head (by rw [hskip, hAc])
      have hc0 : c0 < 256 := h256i c0 (by
        have : c0 ∈ int.drop z := by rw [hA, hAc]; exact List.mem_cons_self ..
        exact List.mem_of_mem_drop this)
      have hpos := ofDigits_take_pos r hAc h48 hc0 A.length (by rw [hAc]; simp)
      rw [List.take_of_length_le (Nat.le_refl _)] at hpos
      have hu1 : foldMantissa r 0 (dv r A) ≠ 0 := by
        rw [sv]
        have : 0 < r ^ (A.length - 1) := Nat.pow_pos (by omega)
        omega
      have hsig : sigBytes int frac = A ++ fd := by
        unfold sigBytes; rw [hfd]; simp only [hskip, if_neg hAnil]
      rw [hsig, List.length_append] at hN
      rw [if_neg hu1, List.drop_zero, Nat.min_eq_left (by omega)] at hm he
      rw [Nat.zero_add] at he
      have htk : (A ++ fd).take stp = A ++ fd.take (stp - A.length) := by
        rw [List.take_append, List.take_of_length_le (by omega)]
      rw [hsig, htk]
      refine ⟨?_, ?_⟩
      · have hvall : ValidDigits r (A ++ fd.take (stp - A.length)) := valid_append hvA (valid_take hvfd _)
        have hlen19 : (A ++ fd.take (stp - A.length)).length ≤ stp := by
          rw [List.length_append, List.length_take]; omega
        rw [hm, ← foldMantissa_append, ← hsmall _ hvall hlen19]
        unfold dv; rw [List.map_append]
      · rw [he, hfd, List.length_append]
        congr 2
        simp only [Option.getD_some]
        push_cast
        omega

theorem reads_of_parse (r stp : Nat) (hr2 : 2 ≤ r) (hstp : 1 ≤ stp) (hfit : r ^ stp ≤ 2 ^ 64) (c : Cfg)
    (hstep : u64Step c.feats r = stp) (hS : RelClass c) (hpre : c.basePrefix = 0) (hr : c.mantissaRadix = r)
    (bs k : Nat) (hk5 : k ≤ 5) (hrk : r = bs ^ k) (hb : c.exponentBase = bs) (hsc : ∀ x : Int, scaleVal c x = x * k)
    (hre : c.exponentRadix ≤ 255) (hbc : c.bytesContiguous = true) (isPartial : Bool) (o : POpts)
    (hdp : charToDigit o.dp r = none) (b : Bytes) (neg fv : Bool) (hns : ∀ l, NoSep c l) (h256 : ∀ x ∈ b.slc, x < 256)
    (hlen : b.slc.length < 2 ^ 60) (n : Number) (cnt : Nat)
    (h : parseNumber c isPartial o b neg fv = .ok (n, cnt)) : Reads c r stp k b.slc.length n := by
  obtain ⟨ip, fp, ht, hstart, hnI, hids, hnF, hfrac, hfm, hfe⟩ :=
    parseNumber_split c hS hpre isPartial o b neg fv (hns _) n cnt h
  constructor
  · intro hmany
    obtain ⟨f1, f2, f3, f4, f5, f6, f7⟩ :=
      tailOf_facts c hS hre isPartial o neg ip fp (hns _) (hns _) (fun _ _ => hns _) n cnt ht hmany
    obtain ⟨hps, hdI, hdF, _, hl2, hcount⟩ :=
      split_slices r (by omega) c hS hr o hdp b hns h256 n (f1.trans hids) (f2.trans hfrac) stp
    rw [hstart, hnI, hnF, hr, hstep] at f7
    rw [hnI, hnF, hfe, hsc, hr] at f4
    rw [hfm, hr, ← foldMantissa_append, ← hdI, ← hdF] at f3
    have hfl : (fracRun o c b).length = (n.fraction.getD []).length := by rw [← hdF, dv_length]
    rw [← hdI, dv_length, hfl] at f4
    have h40 : (2 : Int) ^ 40 = 1099511627776 := by norm_num
    have h60 : (2 : Nat) ^ 60 = 1152921504606846976 := by norm_num
    have h63 : (2 : Int) ^ 63 = 9223372036854775808 := by norm_num
    -- at most `stp` significant digits, so the mantissa word does not wrap
    have hsig : (sigBytes n.integer n.fraction).length ≤ stp := by
      have hc0 : manyCount o.dp b.slc b.index ((digitsPrefix r (b.slc.drop b.index)).length + (fracRun o c b).length) stp = 0 := by
        rcases f7 with h7 | h7
        · unfold manyCount; omega
        · exact h7
      omega
    have hvs : ValidDigits r (sigBytes n.integer n.fraction) := by
      have := valid_sigBytes hps.validInt hps.validFrac
      rwa [hr] at this
    have hSlt : ofDigits r (dv r (sigBytes n.integer n.fraction)) < r ^ stp :=
      Nat.lt_of_lt_of_le (ofDigits_dv_lt hvs) (Nat.pow_le_pow_right (by omega) hsig)
    have hmant : n.mantissa = ofDigits r (dv r (sigBytes n.integer n.fraction)) := by
      rw [f3, foldMantissa_small r _ (by rw [ofDigits_sig]; omega), ofDigits_sig]
    have hS0 : n.integer.length + (n.fraction.getD []).length = 0 →
        ofDigits r (dv r (sigBytes n.integer n.fraction)) = 0 := by
      intro h0
      have e1 : n.integer = [] := List.eq_nil_of_length_eq_zero (by omega)
      have e2 : n.fraction.getD [] = [] := List.eq_nil_of_length_eq_zero (by omega)
      rw [← ofDigits_sig, e1, e2]
      rfl
    generalize hflen : (n.fraction.getD []).length = fl at *
    have hTb : fl * k ≤ fl * 5 := Nat.mul_le_mul_left _ hk5
    have hTc : -(fl : Int) * (k : Int) = -((fl * k : Nat) : Int) := by push_cast; ring
    rw [hTc] at f4
    have hbound : -(5 * (b.slc.length : Int)) - 2 ^ 40 ≤ n.exponent ∧ n.exponent ≤ 2 ^ 40 := by
      rcases f4 with he | ⟨_, he⟩ <;> rw [he] <;> constructor <;> omega
    refine ⟨⟨by rw [hmant]; omega, ?_, ?_⟩, hps, hsig, hbound⟩
    · unfold IsI64; omega
    · rw [hr, hb, powFrac_eq, litFrac_plain r bs c hr n hps, hmant, hflen]
      unfold RatEq
      simp only
      generalize ofDigits r (dv r (sigBytes n.integer n.fraction)) = S at *
      rcases f4 with he | ⟨h0, he⟩
      · have hpw : r ^ fl = bs ^ (fl * k) := by rw [hrk, ← Nat.pow_mul, Nat.mul_comm]
        rw [he, hpw]
        have := pow_balance bs (x := -((fl * k : Nat) : Int) + n.explicitExp) (y := n.explicitExp) (P := fl * k) (Q := 0)
          (by omega) S
        rwa [Nat.pow_zero, Nat.one_mul] at this
      · -- no digit at all: the value is `0`
        rw [hS0 h0, Nat.zero_mul, Nat.zero_mul, Nat.zero_mul, Nat.zero_mul]
  · intro hmany
    obtain ⟨explicit, ex0, endIdx, x2, x3, hpos, hmc⟩ :=
      tailOf_many c hS hre isPartial o neg ip fp (hns _) (hns _) (fun _ _ => hns _) n cnt ht hmany
    obtain ⟨_, m1, m2, m3⟩ := manyCore_many _ _ _ _ _ _ _ _ _ _ _ _ _ hpos n cnt hmc
    obtain ⟨hps, hdI, _, hl1, hl2, hcount⟩ :=
      split_slices r (by omega) c hS hr o hdp b hns h256 n (m1.trans hids) (m2.trans hfrac) stp
    have hvi : ValidDigits r n.integer := by rw [← hr]; exact hps.validInt
    have hvf : ∀ fr, n.fraction = some fr → ValidDigits r fr := by rw [← hr]; exact hps.validFrac
    have hNgt : stp < (sigBytes n.integer n.fraction).length := by
      have hpos' : 0 < manyCount o.dp b.slc b.index
          ((digitsPrefix r (b.slc.drop b.index)).length + (fracRun o c b).length) stp := by
        rw [hstart, hnI, hnF, hr, hstep] at hpos
        exact hpos
      omega
    have hlenI : ip.nDigits = n.integer.length := by rw [hnI, hr, ← hdI, dv_length]
    rw [hr, hstep] at hpos hmc
    rw [hbc, ← m1, ← m2] at hmc
    simp only [Bool.not_true, Bool.and_false] at hmc
    obtain ⟨w1, w2⟩ := manyCore_words r stp hr2 hstp hfit (scaleVal c) n.integer ip.nDigits hlenI n.fraction _ _ _ _ _ _ hpos
      hvi hvf hps.bytesInt hNgt n cnt hmc
    have hvs : ValidDigits r (sigBytes n.integer n.fraction) := valid_sigBytes hvi hvf
    have htlen : ((sigBytes n.integer n.fraction).take stp).length = stp := by
      rw [List.length_take]; omega
    have hwlt : n.mantissa < r ^ stp := by
      rw [w1]
      have := ofDigits_dv_lt (valid_take hvs stp)
      rwa [htlen] at this
    have hwge : r ^ (stp - 1) ≤ n.mantissa := by
      rw [w1]
      obtain ⟨c0, cs, hsg⟩ : ∃ c0 cs, sigBytes n.integer n.fraction = c0 :: cs := by
        cases hsg : sigBytes n.integer n.fraction with
        | nil => rw [hsg] at hNgt; simp at hNgt
        | cons c0 cs => exact ⟨c0, cs, rfl⟩
      have hc0 : c0 < 256 := by
        have hm : c0 ∈ sigBytes n.integer n.fraction := by rw [hsg]; exact List.mem_cons_self ..
        rcases mem_sigBytes hm with h | ⟨fr, hfr', h⟩
        · exact hps.bytesInt c0 h
        · exact hps.bytesFrac fr hfr' c0 h
      have := ofDigits_take_pos r hsg (sigBytes_head hsg) hc0 stp (by omega)
      rwa [htlen] at this
    exact ⟨hps, hNgt, w1, hwge, hwlt, by rw [w2, hsc, m3], by rw [m3]; exact x2, by rw [m3]; exact x3, hl1, hl2⟩

theorem parseSign_slc (c : Cfg) (hd : c.debug = false) (np rq : Bool) (ip ms : String) (b : Bytes) (r : Bool × Bytes)
    (h : parseSign c np rq ip ms b = .ok r) : r.2.slc = b.slc := by
  rw [parseSign_release c hd] at h
  exact signClosed_slc (neg := r.1) (b' := r.2) h

theorem isConsumed_same (c : Cfg) (hS : RelClass c) (b : Bytes) (hn : NoSep c b.slc) (r : Bool × Bytes)
    (h : isConsumed c .integer b = .ok r) : r.2 = b := by
  rw [isConsumed_nosep c .integer b hn (hS.reach _), Except.ok.injEq] at h
  rw [← h]

theorem syntax_to_parse (c : Cfg) (hd : c.debug = false)
    (hclass : c.feats.format = false ∨ SepPrefixFree c.fmt) (hr8 : c.feats.powerOfTwo = false → c.mantissaRadix ≤ 10)
    (o : POpts) (isPartial : Bool) (s : List Nat) (fv : Bool) (n : Number) (cnt : Nat)
    (hp : parseFloatSyntax c o isPartial s fv = .ok (.number n cnt)) :
    RelClass c ∧ c.basePrefix = 0 ∧ c.exponentRadix ≤ 255 ∧ c.bytesContiguous = true ∧ (∀ l, NoSep c l) ∧
    ∃ (p : Bool) (b : Bytes) (neg : Bool) (cnt' : Nat), b.slc = s ∧ parseNumber c p o b neg fv = .ok (n, cnt') := by
  have hs := std_of c hd hclass hr8
  have hS : RelClass c := ⟨hd, fun k => by rw [hs.nosep.skip k]; decide, hr8⟩
  have hns : ∀ l, NoSep c l := noSep_of_sep_zero c hs.nosep.sep0
  refine ⟨hS, hs.noprefix, hs.expRadix, by simp [Cfg.bytesContiguous, hs.nosep.sep0], hns, ?_⟩
  obtain ⟨neg, consumed, b, ha, hq⟩ := LexVerif.Proof.C11.parseFloatSyntax_ok c o isPartial s fv _ hp
  obtain ⟨hslc, _, _⟩ := LexVerif.Proof.C11.afterSign_ok c s neg consumed b ha
  rcases hq with ⟨_, _, hq⟩ | ⟨_, ht⟩
  · cases hq
  cases isPartial with
  | false =>
    exact ⟨false, b, neg, _, hslc, (LexVerif.Proof.C11.tail_complete_number c o s fv neg b n cnt hslc ht).1⟩
  | true =>
    unfold LexVerif.Proof.C11.tail at ht
    simp only [if_true] at ht
    cases hpn : parseNumber c true o b neg fv with
    | ok v =>
      rw [hpn] at ht
      simp only [pure, Except.pure, Except.ok.injEq, Parsed.number.injEq] at ht
      exact ⟨true, b, neg, v.2, hslc, by rw [hpn, ← ht.1]⟩
    | error e =>
      -- the special-value fallback does not yield a `Number`
      rw [hpn] at ht
      cases e with
      | err k i => revert ht; cases parsePositiveSpecial c o b with
        | error e => intro ht; cases ht
        | ok sp => cases sp <;> intro ht <;> cases ht
      | panic t => cases ht
      | fault t => cases ht

theorem reads_of_syntax (r stp : Nat) (hr2 : 2 ≤ r) (hstp : 1 ≤ stp) (hfit : r ^ stp ≤ 2 ^ 64) (c : Cfg)
    (hstep : u64Step c.feats r = stp) (hr8 : c.feats.powerOfTwo = false → c.mantissaRadix ≤ 10) (hd : c.debug = false)
    (hclass : c.feats.format = false ∨ SepPrefixFree c.fmt) (hr : c.mantissaRadix = r) (bs k : Nat) (hk5 : k ≤ 5)
    (hrk : r = bs ^ k) (hb : c.exponentBase = bs) (hsc : ∀ x : Int, scaleVal c x = x * k)
    (o : POpts) (hdp : charToDigit o.dp r = none) (isPartial : Bool) (s : List Nat) (fv : Bool)
    (h256 : ∀ x ∈ s, x < 256) (hlen : s.length < 2 ^ 60) (n : Number) (cnt : Nat)
    (hp : parseFloatSyntax c o isPartial s fv = .ok (.number n cnt)) : Reads c r stp k s.length n := by
  obtain ⟨hS, hpre, hre, hbc, hns, p, b, neg, cnt', hslc, hpn⟩ := syntax_to_parse c hd hclass hr8 o isPartial s fv n cnt hp
  have hres := reads_of_parse r stp hr2 hstp hfit c hstep hS hpre hr bs k hk5 hrk hb hsc hre hbc p o hdp b neg fv hns
    (by rw [hslc]; exact h256) (by rw [hslc]; exact hlen) n cnt' hpn
  rwa [hslc] at hres

theorem dp_not_digit_le (feats : Features) (fmt : Format) (o : POpts)
    (hv : isValidOptionsPunctuation feats fmt o.exp o.dp = true) (r : Nat) (hr : r ≤ fmt.mantissaRadix) :
    charToDigit o.dp r = none :=
  (Proof.Validity.punctuation_of hv).decimalPoint.charToDigit_none
    (Nat.le_trans hr (Nat.le_max_left fmt.mantissaRadix fmt.exponentRadix)) (Props.C18.digitRadix_le fmt.raw)

end LexVerif.Props.C01Number
