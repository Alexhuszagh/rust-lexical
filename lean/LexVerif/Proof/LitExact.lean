import Mathlib.Algebra.Group.Nat.Defs
import LexVerif.Spec.Decimal
import LexVerif.Proof.RoundNEDecode
import LexVerif.Proof.Numeral
/-!
# Proof.LitExact — `Spec.litBits` rounds the exact value of the literal

`Spec.litBits` answers without rounding when the exponent is astronomically large (`exp ≥ 1100 + 6·fracLen`: infinity) or
small (`exp ≤ −(1200 + 6·digits)`: zero). For a float type whose finite range lies inside `(b^-1200, b^1100)` (`LitRange`) both
answers are what `roundNE` returns on the exact fraction `litFrac`, so `litBits` is `roundSigned ∘ litFrac` on every
literal (`litBits_exact_of_range`). The parser's pipeline (C01), the decimal round trip (C08) and the power-of-two round
trip (C06) read their literals through this one statement.
-/
namespace LexVerif.Proof.Pipeline
open LexVerif.Spec

/-- the exact value of a literal as a fraction (what `litBits` rounds when it does not short-circuit) -/
def litFrac (r b : Nat) (l : FloatLit) : Nat × Nat :=
  if l.exp ≥ 0 then (ofDigits r (l.intDigits ++ l.fracDigits) * b ^ l.exp.toNat, r ^ l.fracDigits.length)
  else (ofDigits r (l.intDigits ++ l.fracDigits), r ^ l.fracDigits.length * b ^ (-l.exp).toNat)

theorem litFrac_den_pos {r b : Nat} (hr : 0 < r) (hb : 0 < b) (l : FloatLit) : 0 < (litFrac r b l).2 := by
  unfold litFrac
  split
  · exact Nat.pow_pos hr
  · exact Nat.mul_pos (Nat.pow_pos hr) (Nat.pow_pos hb)

end LexVerif.Proof.Pipeline

namespace LexVerif.Proof.RoundNE
open LexVerif.Spec LexVerif.Proof.Pipeline

/-- the finite range of the float type lies inside `(b^-1200, b^1100)` -/
structure LitRange (f : Fmt) (b : Nat) : Prop where
  over : roundNE f (b ^ 1100) 1 = f.infBits
  under : roundNE f 1 (b ^ 1200) = 0

theorem LitRange.mono {f : Fmt} (hf : WF f) {b b' : Nat} (hb : 0 < b) (h : b ≤ b') (hr : LitRange f b) : LitRange f b' := by
  have hb' : 0 < b' := Nat.lt_of_lt_of_le hb h
  constructor
  · refine Nat.le_antisymm (roundNE_le_infBits hf _ Nat.one_pos) ?_
    rw [← hr.over]
    exact roundNE_mono' hf Nat.one_pos Nat.one_pos (Nat.mul_le_mul_right _ (Nat.pow_le_pow_left h _))
  · have := roundNE_mono' hf (a := 1) (c := 1) (Nat.pow_pos hb' (n := 1200)) (Nat.pow_pos hb (n := 1200))
      (Nat.mul_le_mul_left _ (Nat.pow_le_pow_left h _))
    rw [hr.under] at this
    omega

theorem litRange_f32 : LitRange f32 2 := ⟨by decide +kernel, by decide +kernel⟩
theorem litRange_f64 : LitRange f64 2 := ⟨by decide +kernel, by decide +kernel⟩

/-- `r ≤ b^6` is what the factor 6 in the two cut-offs of `litBits` allows for: a digit of the mantissa radix weighs at
most six digits of the exponent base (radix 36, base 2). -/
theorem litBits_exact_of_range {f : Fmt} (hf : WF f) {r b : Nat} (hr : 0 < r) (hb : 0 < b) (hrb : r ≤ b ^ 6)
    (hrange : LitRange f b) (l : FloatLit) (hdig : ∀ d ∈ l.intDigits ++ l.fracDigits, d < r) :
    litBits f r b l = roundSigned f l.neg (litFrac r b l).1 (litFrac r b l).2 := by
  have hmlt := ofDigits_lt r _ hdig
  have hpos : l.exp ≥ 0 → litFrac r b l =
      (ofDigits r (l.intDigits ++ l.fracDigits) * b ^ l.exp.toNat, r ^ l.fracDigits.length) := fun h => if_pos h
  have hneg : ¬ l.exp ≥ 0 → litFrac r b l =
      (ofDigits r (l.intDigits ++ l.fracDigits), r ^ l.fracDigits.length * b ^ (-l.exp).toNat) := fun h => if_neg h
  have hpow : ∀ k, r ^ k ≤ b ^ (6 * k) := fun k => by rw [Nat.pow_mul]; exact Nat.pow_le_pow_left hrb k
  unfold litBits roundSigned
  simp only []
  generalize ofDigits r (l.intDigits ++ l.fracDigits) = m at hmlt hpos hneg ⊢
  generalize l.fracDigits.length = fl at hpos hneg ⊢
  generalize (l.intDigits ++ l.fracDigits).length = n at hmlt ⊢
  by_cases hm0 : m = 0
  · subst hm0
    rw [if_pos rfl]
    by_cases h3 : l.exp ≥ 0
    · rw [hpos h3, Nat.zero_mul, roundNE_zero, Nat.zero_add]
    · rw [hneg h3, roundNE_zero, Nat.zero_add]
  rw [if_neg hm0]
  by_cases h1 : l.exp ≥ ((1100 + 6 * fl : Nat) : Int)
  · -- the value is at least `b^1100`
    obtain ⟨en, hen⟩ : ∃ en : Nat, l.exp = (en : Int) := ⟨l.exp.toNat, by omega⟩
    rw [if_pos h1, hpos (by omega), hen, Int.toNat_natCast]
    congr 1
    refine Nat.le_antisymm ?_ (roundNE_le_infBits hf _ (Nat.pow_pos hr))
    rw [← hrange.over]
    refine roundNE_mono' hf Nat.one_pos (Nat.pow_pos hr) ?_
    calc b ^ 1100 * r ^ fl ≤ b ^ 1100 * b ^ (6 * fl) := Nat.mul_le_mul_left _ (hpow fl)
      _ ≤ b ^ en := by rw [← Nat.pow_add]; exact Nat.pow_le_pow_right hb (by omega)
      _ ≤ m * b ^ en * 1 := by rw [Nat.mul_one]; exact Nat.le_mul_of_pos_left _ (Nat.pos_of_ne_zero hm0)
  · rw [if_neg h1]
    by_cases h2 : l.exp ≤ -(((1200 + 6 * n : Nat)) : Int)
    · -- the value is below `b^-1200`
      obtain ⟨en, hen⟩ : ∃ en : Nat, -l.exp = (en : Int) := ⟨(-l.exp).toNat, by omega⟩
      rw [if_pos h2, hneg (by omega), hen, Int.toNat_natCast]
      have hd : 0 < r ^ fl * b ^ en := Nat.mul_pos (Nat.pow_pos hr) (Nat.pow_pos hb)
      have : roundNE f m (r ^ fl * b ^ en) ≤ 0 := by
        rw [← hrange.under]
        refine roundNE_mono' hf hd (Nat.pow_pos hb) ?_
        calc m * b ^ 1200 ≤ r ^ n * b ^ 1200 := Nat.mul_le_mul_right _ (Nat.le_of_lt hmlt)
          _ ≤ b ^ (6 * n) * b ^ 1200 := Nat.mul_le_mul_right _ (hpow n)
          _ ≤ b ^ en := by rw [← Nat.pow_add]; exact Nat.pow_le_pow_right hb (by omega)
          _ ≤ 1 * (r ^ fl * b ^ en) := by rw [Nat.one_mul]; exact Nat.le_mul_of_pos_left _ (Nat.pow_pos hr)
      dsimp only
      omega
    · rw [if_neg h2]
      by_cases h3 : l.exp ≥ 0
      · rw [hpos h3]; simp only [if_pos h3]
      · rw [hneg h3]; simp only [if_neg h3]

end LexVerif.Proof.RoundNE
