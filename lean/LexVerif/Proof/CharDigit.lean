import LexVerif.Model.FormatError
import LexVerif.Spec.Numeral
/-!
# Proof.CharDigit — `char_to_digit_const` computes the documented digit value
-/
namespace LexVerif.Proof.CharDigit
open LexVerif.Spec LexVerif.Model.FormatError

theorem digitVal_of_some {r c d : Nat} (h : digitVal36 c = some d) :
    digitVal r c = if d < r then some d else none := by
  unfold digitVal; rw [h]

theorem digitVal_of_none {r c : Nat} (h : digitVal36 c = none) : digitVal r c = none := by
  unfold digitVal; rw [h]

theorem digitVal_none_mono {r R c : Nat} (h : digitVal R c = none) (hle : r ≤ R) : digitVal r c = none := by
  cases hc : digitVal36 c with
  | none => exact digitVal_of_none hc
  | some d =>
    rw [digitVal_of_some hc] at h ⊢
    split at h
    · cases h
    · rw [if_neg (by omega)]

/-- For every byte: the branch-free `c.wrapping_sub(b'0')` used for radices up to 10 and the three-range lookup
used above 10, compared with the radix, give the digit value of the documentation. By the class of the byte
(`0-9`, `A-Z`, `a-z`, other); the wrapped difference of a byte below `'0'` is at least 208, hence not a digit. -/
theorem charToValidDigit_spec (c r : Nat) (hc : c < 256) (hr : r ≤ 255) :
    (if charToValidDigit c r < r then some (charToValidDigit c r) else none) = digitVal r c := by
  unfold charToValidDigit
  by_cases h1 : 48 ≤ c ∧ c ≤ 57
  · rw [digitVal_of_some (d := c - 48) (by simp only [digitVal36, h1, and_self, if_true])]
    have e : (c + 256 - 48) % 256 = c - 48 := by omega
    simp only [e, h1, and_self, if_true, ite_self]
  by_cases h2 : 65 ≤ c ∧ c ≤ 90
  · rw [digitVal_of_some (d := c - 55) (by simp only [digitVal36, h1, h2, and_self, if_true, if_false])]
    have e : c - 65 + 10 = c - 55 := by omega
    simp only [h1, h2, e, and_self, if_true, if_false]
    split
    · rw [if_neg (by omega), if_neg (by omega)]
    · rfl
  by_cases h3 : 97 ≤ c ∧ c ≤ 122
  · rw [digitVal_of_some (d := c - 87) (by simp only [digitVal36, h1, h2, h3, and_self, if_true, if_false])]
    have e : c - 97 + 10 = c - 87 := by omega
    simp only [h1, h2, h3, e, and_self, if_true, if_false]
    split
    · rw [if_neg (by omega), if_neg (by omega)]
    · rfl
  · rw [digitVal_of_none (by simp only [digitVal36, h1, h2, h3, if_false])]
    simp only [h1, h2, h3, if_false]
    split
    · rw [if_neg (by omega)]
    · rw [if_neg (by omega)]

theorem charIsDigit_eq_false_iff (c r : Nat) (hc : c < 256) (hr : r ≤ 255) :
    charIsDigit c r = false ↔ digitVal r c = none := by
  rw [← charToValidDigit_spec c r hc hr, charIsDigit]
  split <;> simp [*]

end LexVerif.Proof.CharDigit
