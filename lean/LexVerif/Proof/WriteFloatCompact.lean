import LexVerif.Proof.WriteFloatBound
/-!
# Proof.WriteFloatCompact — the buffer-faithful `compact.rs` layout functions: each needs exactly the list-level bytes
it writes (`decimalC_lays`)
-/
namespace LexVerif.Proof.WriteFloatCompact
open LexVerif.Spec LexVerif.Model LexVerif.Model.WriteFloat LexVerif.Proof.WriteFloatBuf LexVerif.Proof.WriteFloatBound

/-- pointwise step using the hypothesis `hb` about the first bytes -/
macro "body_tac" hb:ident : tactic => `(tactic|
  (intro i hi
   try dsimp only at hi
   have hbi := $hb i
   simp only [put_getD, put_length, List.length_replicate, List.length_cons, List.length_nil] at hbi ⊢
   simp only [List.getD_eq_getElem?_getD] at hbi ⊢
   grind [zeros]))

theorem writeNegative_noMax (ds : List Nat) (e : Int) (o : WOpts) :
    writeNegative ds e { o with maxDigits := none } =
      [48, o.dp] ++ zeros (e.natAbs - 1) ++ chars ds ++
        (if ds.length < minExactDigits ds.length o then zeros (minExactDigits ds.length o - ds.length) else []) := rfl

theorem writePositive_noMax (ds : List Nat) (e : Int) (o : WOpts) :
    writePositive ds e { o with maxDigits := none } = posFlat (e.toNat + 1) (trimPos o (e.toNat + 1) ds) o := rfl

theorem negC_lays (ds : List Nat) (e : Int) (o : WOpts) (hk : 1 ≤ e.natAbs) :
    Lays (negC ds e o) (writeNegative ds e { o with maxDigits := none }).length
      (writeNegative ds e { o with maxDigits := none }) := by
  intro b
  rw [writeNegative_noMax]
  unfold negC
  refine (Lay.set (Starts.nil b) rfl fun s1 => Lay.set s1 rfl fun s2 =>
    Lay.fill s2 rfl (by simp only [List.length_append, List.length_cons, List.length_nil]; omega) fun s3 =>
    Lay.blit s3 (by simp; omega) fun s4 =>
    padZeros_lays (s4.cast (t' := [48, o.dp] ++ zeros (e.natAbs - 1) ++ chars ds) (by simp [zeros])) (by simp; omega)).need_eq ?_
  simp only [List.length_append, List.length_cons, List.length_nil, zeros_length, chars_length]
  omega

theorem posCLayout_lays (ds : List Nat) (e : Int) (o : WOpts) :
    Lays (posCLayout ds e o) (posFlat (e.toNat + 1) ds o).length (posFlat (e.toNat + 1) ds o) := by
  intro b
  unfold posCLayout posFlat pad
  dsimp only
  generalize e.toNat + 1 = leading
  by_cases hge : leading ≥ ds.length
  · rw [if_pos hge, if_pos hge]
    by_cases htrim : o.trim = true
    · simp only [htrim, not_true_eq_false, if_true, if_false]
      refine (Lay.blit (Starts.nil b) rfl fun s1 => Lay.fill s1 (by simp) hge fun s2 =>
        Sized.ok ⟨s2.cast (by simp [zeros]), by simp; omega⟩).need_eq ?_
      simp only [List.length_append, List.length_nil, zeros_length, chars_length]; omega
    · simp only [htrim, Bool.false_eq_true, not_false_eq_true, if_true, if_false]
      refine (Lay.blit (Starts.nil b) rfl fun s1 => Lay.fill s1 (by simp) hge fun s2 =>
        Lay.set s2 (by simp; omega) fun s3 => Lay.set s3 (by simp; omega) fun s4 =>
        padZeros_lays (s4.cast (t' := chars ds ++ zeros (leading - ds.length) ++ [o.dp, 48]) (by simp [zeros]))
          (by simp; omega)).need_eq ?_
      simp only [List.length_append, List.length_cons, List.length_nil, zeros_length, chars_length]; omega
  · rw [if_neg hge, if_neg hge]
    refine (Lay.blit (Starts.nil b) rfl fun s1 => Lay.set s1 (by simp; omega) fun s2 =>
      Lay.blit s2 (by simp; omega) fun s3 =>
      padZeros_lays (s3.cast (t' := chars (ds.take leading) ++ [o.dp] ++ chars (ds.drop leading)) (by simp))
        (by simp; omega)).need_eq ?_
    simp only [List.length_append, List.length_cons, List.length_nil, chars_length, List.length_take,
      List.length_drop]
    omega

theorem posC_lays (ds : List Nat) (e : Int) (o : WOpts) :
    Lays (posC ds e o) (writePositive ds e { o with maxDigits := none }).length
      (writePositive ds e { o with maxDigits := none }) := by
  rw [writePositive_noMax]
  exact posCLayout_lays _ e o

theorem writeScientific_noMax (fmt : Format) (feats : Features) (ds : List Nat) (e : Int) (o : WOpts) (r : Nat) :
    writeScientific fmt feats ds e { o with maxDigits := none } r =
      sciMantissa fmt (trimSci o ds).length (digitChar ((trimSci o ds).headD 0)) (chars (trimSci o ds).tail) o ++
        writeExponent fmt feats e o.exp r := by
  simp [writeScientific, sciMantissa]

theorem sciCLayout_lays (fmt : Format) (feats : Features) (ds : List Nat) (e : Int) (o : WOpts) (hds : 1 ≤ ds.length) :
    Lays (sciCLayout fmt feats ds e o)
      ((sciMantissa fmt ds.length (digitChar (ds.headD 0)) (chars ds.tail) o ++
          writeExponent fmt feats e o.exp fmt.exponentRadix).length +
        expSlack feats fmt.exponentRadix (numeral fmt.exponentRadix e.natAbs).length)
      (sciMantissa fmt ds.length (digitChar (ds.headD 0)) (chars ds.tail) o ++
        writeExponent fmt feats e o.exp fmt.exponentRadix) := by
  intro b
  unfold sciCLayout
  have hn : (chars ds.tail).length + 1 = ds.length := by simp; omega
  refine (Lay.set (Starts.nil b) rfl fun s1 => Lay.set s1 rfl fun s2 =>
    Sized.bind (sciBody_lays (T := chars ds.tail) hn (Nat.le_refl _) s2 fun hle => s2.append hle rfl) fun r hr =>
    writeExponentB_lays hr.1 hr.2).need_eq ?_
  have := sciMantissa_length_pos fmt ds.length (digitChar (ds.headD 0)) (chars ds.tail) o
  simp only [List.length_append, List.length_nil, List.length_cons, writeExponent_length]
  omega

theorem sciC_lays (fmt : Format) (feats : Features) (ds : List Nat) (e : Int) (o : WOpts) (hds : 1 ≤ ds.length) :
    Lays (sciC fmt feats ds e o)
      ((writeScientific fmt feats ds e { o with maxDigits := none } fmt.exponentRadix).length +
        expSlack feats fmt.exponentRadix (numeral fmt.exponentRadix e.natAbs).length)
      (writeScientific fmt feats ds e { o with maxDigits := none } fmt.exponentRadix) := by
  rw [writeScientific_noMax]
  exact sciCLayout_lays fmt feats _ e o (trimSci_length o ds hds).1

/-- `compact.rs` copies exactly the exponent digits: no slack -/
theorem expSlack_compact (feats : Features) (radix n : Nat) (h : feats.compact = true) : expSlack feats radix n = 0 := by
  unfold expSlack expNeed
  rw [if_pos h, Nat.sub_self]

/-- **`compact::write_float`** (no debug assertions): it needs exactly the list-level bytes `writeDigitsC`, and writes them -/
theorem decimalC_lays (fmt : Format) (feats : Features) (ds : List Nat) (sci : Int) (o : WOpts)
    (hc : feats.compact = true) (hds : 1 ≤ ds.length) (hds32 : ds.length ≤ 32) (hmx : o.maxDigits ≠ some 0) :
    Lays (decimalC fmt feats false ds sci o) (writeDigitsC fmt feats ds sci o).length (writeDigitsC fmt feats ds sci o) := by
  have hl := (truncateAndRound_length ds o hds hmx).1
  intro b
  unfold decimalC writeDigitsC
  dsimp only
  rw [if_neg (show ¬ ds.length > 32 by omega)]
  simp only [Bool.false_eq_true, false_and, if_false]
  generalize sci + (if (truncateAndRound ds o).2 = true then 1 else 0) = sci'
  by_cases c2 : ¬ fmt.noExponentNotation = true ∧
      (fmt.requiredExponentNotation = true ∨ sci' < o.negBreak.getD (-5) ∨ sci' > o.posBreak.getD 9)
  · rw [if_pos c2, if_pos c2]
    have := sciC_lays fmt feats (truncateAndRound ds o).1 sci' { o with maxDigits := none } hl b
    rwa [expSlack_compact feats _ _ hc, Nat.add_zero] at this
  · rw [if_neg c2, if_neg c2]
    by_cases c3 : sci' < 0
    · rw [if_pos c3, if_pos c3]; exact negC_lays _ _ _ (by omega) b
    · rw [if_neg c3, if_neg c3]; exact posC_lays _ _ _ b

end LexVerif.Proof.WriteFloatCompact
