import LexVerif.Proof.Shortest
import LexVerif.Proof.RoundNE
import Mathlib.Tactic.Ring
import Mathlib.Tactic.Linarith
import Mathlib.Tactic.Positivity
import Mathlib.Tactic.FieldSimp
import Mathlib.Algebra.Order.Field.Rat
import Mathlib.Algebra.Order.Field.Power
import Mathlib.Tactic.GCongr
/-!
# Proof.ShortestUp — `Spec.shortest` on a float: scales, start exponent and fuel

In rational terms a candidate is a `D ≥ 1` with `D·10^E` in the rounding interval (`cand_iff_Q`), so a change of scale is a
power of ten moved between `D` and `10^E`. The start exponent of the search is an upper bound for every candidate
(`0.30103 > log10 2 > 0.30102`, checked by kernel evaluation of two 100000-bit comparisons) and the fuel reaches the largest
scale that has one, so that membership in `shortest f b` is: a candidate, none one scale up, nearest among the candidates
(`mem_shortest_iff`).
-/
namespace LexVerif.Proof.RoundNE
open LexVerif.Spec

theorem two_pow_le_ten_pow : (2 : ℕ) ^ 100000 ≤ 10 ^ 30103 := by decide +kernel
theorem ten_pow_le_two_pow : (10 : ℕ) ^ 30102 ≤ 2 ^ 100000 := by decide +kernel

theorem log_bound2_aux (s : ℤ) (hs : s ≤ 200000) :
    (10 : ℚ) ^ (30103 * s - 200000) ≤ (2 : ℚ) ^ (100000 * s) := by
  have q1 : (2 : ℚ) ^ 100000 ≤ 10 ^ 30103 := by exact_mod_cast two_pow_le_ten_pow
  have q2 : (10 : ℚ) ^ 30102 ≤ 2 ^ 100000 := by exact_mod_cast ten_pow_le_two_pow
  rcases le_or_gt 0 s with h | h
  · obtain ⟨n, rfl⟩ := Int.eq_ofNat_of_zero_le h
    calc (10 : ℚ) ^ (30103 * (n : ℤ) - 200000) ≤ (10 : ℚ) ^ ((30102 * n : ℕ) : ℤ) :=
          zpow_le_zpow_right₀ (by norm_num) (by push_cast; omega)
      _ = ((10 : ℚ) ^ 30102) ^ n := by rw [← pow_mul, zpow_natCast]
      _ ≤ ((2 : ℚ) ^ 100000) ^ n := pow_le_pow_left₀ (by positivity) q2 n
      _ = (2 : ℚ) ^ (100000 * (n : ℤ)) := by
          rw [← pow_mul]; exact_mod_cast (zpow_natCast (2 : ℚ) (100000 * n)).symm
  · obtain ⟨a, ha⟩ : ∃ a : ℕ, s = -(a : ℤ) := ⟨(-s).toNat, by omega⟩
    subst ha
    calc (10 : ℚ) ^ (30103 * -(a : ℤ) - 200000) ≤ (10 : ℚ) ^ (-((30103 * a : ℕ) : ℤ)) :=
          zpow_le_zpow_right₀ (by norm_num) (by push_cast; omega)
      _ = (((10 : ℚ) ^ 30103) ^ a)⁻¹ := by rw [← pow_mul, zpow_neg, zpow_natCast]
      _ ≤ (((2 : ℚ) ^ 100000) ^ a)⁻¹ :=
          inv_anti₀ (by positivity) (pow_le_pow_left₀ (by positivity) q1 a)
      _ = (2 : ℚ) ^ (100000 * -(a : ℤ)) := by
          rw [← pow_mul, mul_neg, zpow_neg]; exact_mod_cast rfl

theorem log_bound2 (s E : ℤ) (hs : s ≤ 200000) (h : 100000 * E + 200000 ≤ 30103 * s) :
    (10 : ℚ) ^ E ≤ (2 : ℚ) ^ s := by
  rw [← pow_le_pow_iff_left₀ (by positivity) (by positivity) (by norm_num : (100000 : ℕ) ≠ 0),
    ← zpow_natCast, ← zpow_natCast, ← zpow_mul, ← zpow_mul, mul_comm E, mul_comm s]
  exact le_trans (zpow_le_zpow_right₀ (by norm_num) (by push_cast; omega)) (log_bound2_aux s hs)

/-- the contrapositive is `log_bound2` for `-s`, `-E` -/
theorem log_bound (s E : ℤ) (hs : -200000 ≤ s) (h : (10 : ℚ) ^ E < (2 : ℚ) ^ s) :
    E ≤ s * 30103 / 100000 + 2 := by
  by_contra hcon
  have := log_bound2 (-s) (-E) (by omega) (by omega)
  rw [zpow_neg, zpow_neg, inv_le_inv₀ (by positivity) (by positivity)] at this
  exact absurd h (not_lt.mpr this)

theorem tenFrac_Q (E : ℤ) : ((tenFrac E).1 : ℚ) / ((tenFrac E).2 : ℚ) = (10 : ℚ) ^ E :=
  powFrac_Q 10 E (p := tenFrac E) rfl

theorem binFrac_Q (e : ℤ) : ((binFrac e).1 : ℚ) / ((binFrac e).2 : ℚ) = (2 : ℚ) ^ e :=
  powFrac_Q 2 e (p := binFrac e) rfl

theorem scalePQ_Q (e2 E : ℤ) : ∃ c : ℚ, 0 < c ∧
    ((scalePQ e2 E).1 : ℚ) = c * (10 : ℚ) ^ E ∧ ((scalePQ e2 E).2 : ℚ) = c * (2 : ℚ) ^ e2 := by
  rw [scalePQ_eq, ← tenFrac_Q, ← binFrac_Q]
  have adQ : (0 : ℚ) < (binFrac e2).2 := by exact_mod_cast (binFrac_pos e2).2
  have tdQ : (0 : ℚ) < (tenFrac E).2 := by exact_mod_cast (tenFrac_pos E).2
  refine ⟨(tenFrac E).2 * (binFrac e2).2, by positivity, ?_, ?_⟩
  · push_cast; field_simp
  · push_cast; field_simp

structure InIv (iv : Interval) (x : ℚ) : Prop where
  lo : (iv.lo : ℚ) * (2 : ℚ) ^ iv.e2 ≤ x
  hi : x ≤ (iv.hi : ℚ) * (2 : ℚ) ^ iv.e2
  strict : iv.incl = false → (iv.lo : ℚ) * (2 : ℚ) ^ iv.e2 < x ∧ x < (iv.hi : ℚ) * (2 : ℚ) ^ iv.e2

theorem cmp_cast {X Y : ℕ} {c x y : ℚ} (hc : 0 < c) (hX : (X : ℚ) = c * x) (hY : (Y : ℚ) = c * y) :
    (X ≤ Y ↔ x ≤ y) ∧ (X < Y ↔ x < y) := by
  rw [← Nat.cast_le (α := ℚ), ← Nat.cast_lt (α := ℚ), hX, hY]
  exact ⟨mul_le_mul_iff_right₀ hc, mul_lt_mul_iff_right₀ hc⟩

theorem cand_iff_Q (iv : Interval) (E : Int) (D : Nat) :
    Cand iv E D ↔ 1 ≤ D ∧ InIv iv ((D : ℚ) * (10 : ℚ) ^ E) := by
  obtain ⟨c, hc, hP, hQ⟩ := scalePQ_Q iv.e2 E
  have eD : ((D * (scalePQ iv.e2 E).1 : ℕ) : ℚ) = c * ((D : ℚ) * (10 : ℚ) ^ E) := by push_cast; rw [hP]; ring
  have en : ∀ n : ℕ, ((n * (scalePQ iv.e2 E).2 : ℕ) : ℚ) = c * ((n : ℚ) * (2 : ℚ) ^ iv.e2) := by
    intro n; push_cast; rw [hQ]; ring
  rw [cand_iff, (cmp_cast hc (en _) eD).1, (cmp_cast hc (en _) eD).2, (cmp_cast hc eD (en _)).1,
    (cmp_cast hc eD (en _)).2]
  exact ⟨fun ⟨h1, h2, h3, h4⟩ => ⟨h1, h2, h3, h4⟩, fun ⟨h1, h2, h3, h4⟩ => ⟨h1, h2, h3, h4⟩⟩

theorem cand_add_iff (iv : Interval) (E : Int) (j : Nat) (D : Nat) :
    Cand iv (E + j) D ↔ Cand iv E (D * 10 ^ j) := by
  rw [cand_iff_Q, cand_iff_Q]
  have h1 : 1 ≤ D ↔ 1 ≤ D * 10 ^ j :=
    ⟨fun h => Nat.mul_pos h (Nat.pow_pos (by decide)), fun h => Nat.pos_of_ne_zero fun h0 => by simp [h0] at h⟩
  have h2 : (D : ℚ) * (10 : ℚ) ^ (E + j) = ((D * 10 ^ j : ℕ) : ℚ) * (10 : ℚ) ^ E := by
    rw [zpow_add₀ (by norm_num : (10 : ℚ) ≠ 0), zpow_natCast]; push_cast; ring
  rw [h1, h2]

theorem cand_succ_iff (iv : Interval) (E : Int) (D : Nat) : Cand iv (E + 1) D ↔ Cand iv E (10 * D) := by
  have := cand_add_iff iv E 1 D
  rwa [Nat.pow_one, Nat.mul_comm] at this

theorem no_cand_above {iv : Interval} {E : Int} (h : ∀ D, ¬ Cand iv (E + 1) D) (E' : Int) (hE : E < E') (D : Nat) :
    ¬ Cand iv E' D := by
  intro hc
  obtain ⟨n, hn⟩ : ∃ n : Nat, E' = (E + 1) + n := ⟨(E' - (E + 1)).toNat, by omega⟩
  rw [hn, cand_add_iff] at hc
  exact h _ hc

theorem mem_shortestGo_of_best {iv : Interval} {fuel : Nat} {up E : Int} {D : Nat}
    (hc : Cand iv E D) (hnone : ∀ D', ¬ Cand iv (E + 1) D')
    (hbest : ∀ D', Cand iv E D' → dist iv E D ≤ dist iv E D')
    (hup : E ≤ up) (hfuel : up - E < fuel) : (D, E) ∈ shortestGo iv fuel up :=
  (mem_shortestGo_iff iv fuel up D E).mpr ⟨hup, hfuel, fun E' l1 _ => no_cand_above hnone E' l1, hc, hbest⟩

theorem le_upOf_of_le_hi {f : Fmt} (hf : WF f) (hsz : L f + 2 ≤ 200000) {b : Nat} (hb : b < f.infBits)
    {D : Nat} {E : Int} (hD1 : 1 ≤ D)
    (chi : D * (scalePQ (interval f b).e2 E).1 ≤ (interval f b).hi * (scalePQ (interval f b).e2 E).2) :
    E ≤ upOf f b := by
  obtain ⟨c, c_pos, hP, hQ⟩ := scalePQ_Q (interval f b).e2 E
  obtain ⟨k, q, hbk, h1, h2, hiv⟩ := interval_eq hf hb
  have he2 : (interval f b).e2 = (k : ℤ) - (L f : ℤ) - 2 := by rw [hiv]
  unfold upOf
  apply log_bound _ _ (by rw [he2]; omega)
  have hhi : ((interval f b).hi : ℚ) < (2 : ℚ) ^ (bitlen (interval f b).hi : ℤ) := by
    rw [zpow_natCast]; exact_mod_cast bitlen_upper (interval f b).hi
  have chiQ : (D : ℚ) * (c * (10 : ℚ) ^ E) ≤
      (interval f b).hi * (c * (2 : ℚ) ^ (interval f b).e2) := by
    rw [← hP, ← hQ]; exact_mod_cast chi
  have hD1Q : (1 : ℚ) ≤ D := by exact_mod_cast hD1
  have h10 : (0 : ℚ) < (10 : ℚ) ^ E := by positivity
  have h2 : (0 : ℚ) < (2 : ℚ) ^ (interval f b).e2 := by positivity
  rw [zpow_add₀ (by norm_num : (2 : ℚ) ≠ 0)]
  calc (10 : ℚ) ^ E ≤ D * (10 : ℚ) ^ E := le_mul_of_one_le_left h10.le hD1Q
    _ ≤ (interval f b).hi * (2 : ℚ) ^ (interval f b).e2 :=
        le_of_mul_le_mul_left (by linarith) c_pos
    _ < (2 : ℚ) ^ (bitlen (interval f b).hi : ℤ) * (2 : ℚ) ^ (interval f b).e2 :=
        mul_lt_mul_of_pos_right hhi h2


theorem cand_le_up {f : Fmt} (hf : WF f) (hsz : L f + 2 ≤ 200000) {b : Nat} (hb : b < f.infBits) {D : Nat} {E : Int}
    (h : Cand (interval f b) E D) : E ≤ upOf f b := by
  obtain ⟨hD1, _, chi, _⟩ := (cand_iff _ E D).mp h
  exact le_upOf_of_le_hi hf hsz hb hD1 chi

theorem decFrac_Q (D : ℕ) (E : ℤ) :
    ((decFrac D E).1 : ℚ) / ((decFrac D E).2 : ℚ) = (D : ℚ) * (10 : ℚ) ^ E := by
  have := (powFrac_q 10 D E (by decide)).1
  rwa [Nat.cast_ofNat] at this

theorem shortestGo_ne_nil (iv : Interval) (fuel : Nat) (Es E0 : Int) (h1 : Es - fuel < E0)
    (h2 : E0 ≤ Es) (hne : (candRange iv E0).1 ≤ (candRange iv E0).2) : shortestGo iv fuel Es ≠ [] := by
  induction fuel generalizing Es with
  | zero => simp at h1; omega
  | succ n ih =>
    unfold shortestGo
    simp only []
    split
    · intro h
      exact closestIn_ne_nil _ _ _ _ (List.map_eq_nil_iff.mp h)
    · rename_i hc
      have : E0 ≠ Es := fun he => hc (he ▸ hne)
      exact ih (Es - 1) (by push_cast at h1; omega) (by omega)

theorem range_nonempty (iv : Interval) (E : Int) (P Q : Nat) (hPQ : scalePQ iv.e2 E = (P, Q))
    (hP : 0 < P) (hle : P ≤ Q) (hw : iv.lo + 3 ≤ iv.hi) :
    (candRange iv E).1 ≤ (candRange iv E).2 := by
  have hq : iv.lo * Q + 3 * Q ≤ iv.hi * Q := by
    calc iv.lo * Q + 3 * Q = (iv.lo + 3) * Q := by ring
      _ ≤ iv.hi * Q := Nat.mul_le_mul_right Q hw
  have key : iv.lo * Q < (iv.lo * Q / P + 1) * P ∧ (iv.lo * Q / P + 1) * P ≤ iv.lo * Q + P := by
    have d1 := Nat.div_add_mod (iv.lo * Q) P
    have d2 := Nat.mod_lt (iv.lo * Q) hP
    have e : (iv.lo * Q / P + 1) * P = P * (iv.lo * Q / P) + P := by ring
    rw [e]
    generalize iv.lo * Q / P = c at *
    generalize iv.lo * Q % P = m at *
    omega
  obtain ⟨c1, c2⟩ := candRange_complete iv E P Q hPQ hP (iv.lo * Q / P + 1) (Nat.le_add_left 1 _)
    (by omega) (by omega) (fun _ => ⟨by omega, by omega⟩)
  exact le_trans c1 c2

theorem shortest_ne_nil {f : Fmt} (hf : WF f) (hp : f.p ≤ 1000) (hM : f.maxExpField ≤ 100000)
    {b : Nat} (hb0 : 0 < b) (hb : b < f.infBits) : shortest f b ≠ [] := by
  rw [shortest_eq]
  -- at the last scale the fuel reaches, `10^E ≤ 2^e2`: the interval, at least three units `2^e2` wide, holds a multiple of `10^E`
  apply shortestGo_ne_nil _ 420 _ (upOf f b - 419) (by push_cast; omega) (by omega)
  obtain ⟨k, q, hbk, h1, h2, hiv⟩ := interval_eq hf hb
  have he2 : (interval f b).e2 = (k : ℤ) - (L f : ℤ) - 2 := by rw [hiv]
  have hhi : (interval f b).hi = 4 * q + 2 := by rw [hiv]
  have hT := Nat.two_pow_pos (f.p - 1)
  have hq1 : 1 ≤ q := kq_pos h1 (by rw [← hbk]; omega)
  have hlo : (interval f b).lo + 3 ≤ (interval f b).hi := by
    rw [hiv]; dsimp only; split <;> omega
  have hk : k < f.maxExpField := by
    rw [infBits_eq, hbk] at hb
    by_contra hge
    have := Nat.mul_le_mul_right (2 ^ (f.p - 1)) (Nat.le_of_not_lt hge)
    omega
  have hh : bitlen (interval f b).hi ≤ f.p + 3 := by
    apply (bitlen_le_iff _ _).mpr
    rw [hhi, show f.p + 3 = (f.p - 1) + 4 by have := hf.hp; omega, Nat.pow_add]
    omega
  apply range_nonempty _ _ (scalePQ (interval f b).e2 (upOf f b - 419)).1
    (scalePQ (interval f b).e2 (upOf f b - 419)).2 rfl (scalePQ_pos _ _).1 _ hlo
  have hlog : (10 : ℚ) ^ (upOf f b - 419) ≤ (2 : ℚ) ^ (interval f b).e2 := by
    apply log_bound2 _ _ (by rw [he2]; omega)
    unfold upOf
    generalize (interval f b).e2 = e2 at *
    generalize bitlen (interval f b).hi = h at *
    omega
  obtain ⟨c, c_pos, hP, hQ⟩ := scalePQ_Q (interval f b).e2 (upOf f b - 419)
  have := mul_le_mul_of_nonneg_left hlog c_pos.le
  rw [← hP, ← hQ] at this
  exact_mod_cast this

theorem fuel_of_max {f : Fmt} (hf : WF f) (hp : f.p ≤ 1000) (hM : f.maxExpField ≤ 100000) {b : Nat} (hb0 : 0 < b)
    (hb : b < f.infBits) {E : Int} (hnone : ∀ D', ¬ Cand (interval f b) (E + 1) D') : upOf f b - E < 420 := by
  obtain ⟨⟨D, E1⟩, hm⟩ := List.exists_mem_of_ne_nil _ (shortest_ne_nil hf hp hM hb0 hb)
  rw [shortest_eq] at hm
  obtain ⟨_, h2, _, hc, _⟩ := (mem_shortestGo_iff _ _ _ _ _).mp hm
  have : E1 ≤ E := by
    by_contra hlt
    exact no_cand_above hnone E1 (by omega) D hc
  omega

/-- **`shortest f b`, characterised** (formats with `p ≤ 1000` and at most 100000 exponent values, in particular `f32`,
`f64`): the pairs `(D, E)` such that `D·10^E` rounds to `b` (`cand_iff_roundNE`), no decimal with a larger exponent does,
and `D·10^E` is nearest to the value of `b` among those with exponent `E` -/
theorem mem_shortest_iff {f : Fmt} (hf : WF f) (hp : f.p ≤ 1000) (hM : f.maxExpField ≤ 100000) (hsz : L f + 2 ≤ 200000)
    {b : Nat} (hb0 : 0 < b) (hb : b < f.infBits) (D : Nat) (E : Int) :
    (D, E) ∈ shortest f b ↔
      Cand (interval f b) E D ∧ (∀ D', ¬ Cand (interval f b) (E + 1) D')
      ∧ ∀ D', Cand (interval f b) E D' → dist (interval f b) E D ≤ dist (interval f b) E D' := by
  rw [shortest_eq]
  constructor
  · intro hm
    obtain ⟨_, _, h3, hc, hbest⟩ := (mem_shortestGo_iff _ _ _ _ _).mp hm
    exact ⟨hc, fun D' hD' => h3 (E + 1) (by omega) (cand_le_up hf hsz hb hD') D' hD', hbest⟩
  · rintro ⟨hc, hnone, hbest⟩
    exact mem_shortestGo_of_best hc hnone hbest (cand_le_up hf hsz hb hc) (fuel_of_max hf hp hM hb0 hb hnone)

/-- the only candidate `s = m·10^j` of a scale, `10 ∤ m`: `m` is the only candidate `j` scales up, and there is none above -/
theorem mem_shortest_of_unique {f : Fmt} (hf : WF f) (hp : f.p ≤ 1000) (hM : f.maxExpField ≤ 100000)
    (hsz : L f + 2 ≤ 200000) {b : Nat} (hb0 : 0 < b) (hb : b < f.infBits) {E : Int} {s m j : Nat}
    (hc : Cand (interval f b) E s) (huniq : ∀ D, Cand (interval f b) E D → D = s) (hs : s = m * 10 ^ j)
    (hm : m % 10 ≠ 0) : (m, E + j) ∈ shortest f b := by
  have hum : ∀ D, Cand (interval f b) (E + j) D → D = m := fun D hD =>
    Nat.eq_of_mul_eq_mul_right (Nat.pow_pos (by decide : 0 < 10)) (hs ▸ huniq _ ((cand_add_iff ..).mp hD))
  refine (mem_shortest_iff hf hp hM hsz hb0 hb m (E + j)).mpr
    ⟨(cand_add_iff ..).mpr (hs ▸ hc), fun D hD => ?_, fun D' hD' => hum D' hD' ▸ le_refl _⟩
  have := hum _ ((cand_succ_iff ..).mp hD)
  omega

theorem abs_natCast_sub (a b : ℕ) : |(a : ℚ) - (b : ℚ)| = (((a - b) + (b - a) : ℕ) : ℚ) := by
  rcases le_total a b with h | h
  · have hq : (a : ℚ) ≤ b := by exact_mod_cast h
    rw [abs_of_nonpos (by linarith), Nat.sub_eq_zero_of_le h, Nat.zero_add, Nat.cast_sub h]; ring
  · have hq : (b : ℚ) ≤ a := by exact_mod_cast h
    rw [abs_of_nonneg (by linarith), Nat.sub_eq_zero_of_le h, Nat.add_zero, Nat.cast_sub h]


theorem shortest_closest' {f : Fmt} (hf : WF f) {b : Nat} (hb0 : 0 < b) (hb : b < f.infBits)
    {D : Nat} {E : Int} (h : (D, E) ∈ shortest f b) {D' : Nat}
    (hrt : roundNE f (decFrac D' E).1 (decFrac D' E).2 = b) :
    |(D : ℚ) * (10 : ℚ) ^ E - ((f.decode b).m : ℚ) * (2 : ℚ) ^ (f.decode b).e| ≤
      |(D' : ℚ) * (10 : ℚ) ^ E - ((f.decode b).m : ℚ) * (2 : ℚ) ^ (f.decode b).e| := by
  have hD1 : 1 ≤ D' := by
    by_contra h0
    have : D' = 0 := by omega
    subst this
    rw [decFrac_eq] at hrt
    simp only [Nat.zero_mul] at hrt
    rw [roundNE_zero] at hrt
    omega
  rw [shortest_eq] at h
  have key := ((mem_shortestGo_iff _ _ _ _ _).mp h).2.2.2.2 D' ((cand_iff_roundNE hf hb0 hb D' E).mpr ⟨hD1, hrt⟩)
  unfold dist at key
  obtain ⟨c, c_pos, hP, hQ⟩ := scalePQ_Q (interval f b).e2 E
  have hv : (interval f b).v = 4 * (f.decode b).m := rfl
  have he2 : (interval f b).e2 = (f.decode b).e - 2 := rfl
  rw [hv] at key
  have hexp : (2 : ℚ) ^ (f.decode b).e = 4 * (2 : ℚ) ^ (interval f b).e2 := by
    rw [he2, zpow_sub₀ (by norm_num : (2 : ℚ) ≠ 0)]; norm_num; ring
  rw [hexp]
  generalize (f.decode b).m = m at *
  generalize (scalePQ (interval f b).e2 E).1 = P at *
  generalize (scalePQ (interval f b).e2 E).2 = Q at *
  have r : ∀ X : ℕ, (X : ℚ) * (10 : ℚ) ^ E - (m : ℚ) * (4 * (2 : ℚ) ^ (interval f b).e2)
      = (((X * P : ℕ) : ℚ) - ((4 * m * Q : ℕ) : ℚ)) / c := by
    intro X; push_cast; rw [hP, hQ]; field_simp
  rw [r D, r D', abs_div, abs_div, abs_natCast_sub, abs_natCast_sub]
  apply div_le_div_of_nonneg_right _ (abs_nonneg _)
  exact_mod_cast key

end LexVerif.Proof.RoundNE
