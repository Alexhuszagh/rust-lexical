import LexVerif.Proof.AlgoRound
import LexVerif.Model.Binary
/-!
# Proof.ExtRound — `shared::round` / `round_nearest_tie_even` / `extended_to_float` produce an `encode`

For a normalised 64-bit significand `mant` at biased exponent `power2` (value `mant·2^(power2 − EXPONENT_BIAS)`)
`round` shifts by `calculate_shift`, adds the callback's increment and assembles the float whose bit
pattern is `encode f k (mant / 2^shift + up)`.  Stated for any float type through its `Layout` (precision `p`,
exponent bits `eb`); `layout_f64`, `layout_f32` are the two instances.  Mathlib-free.
-/
namespace LexVerif.Proof.ExtRound
open LexVerif.Model LexVerif.Model.Bellerophon LexVerif.Proof.RoundNE

theorem f64_ms : FTy.f64.ms = 52 := rfl
theorem f32_ms : FTy.f32.ms = 23 := rfl

theorem lowerNMask_succ {n : Nat} (h : n ≤ 64) : lowerNMask n + 1 = 2 ^ n := by
  unfold lowerNMask
  split
  · subst_vars; rfl
  · have hn : n < 64 := by omega
    have : shl64m 1 n = 2 ^ n := by
      unfold shl64m shl64
      rw [Nat.mod_eq_of_lt hn, Nat.one_mul, Nat.mod_eq_of_lt (Nat.pow_lt_pow_right (by decide) hn)]
    rw [this]
    have := Nat.two_pow_pos n
    omega

theorem lowerNHalfway_eq {n : Nat} (h0 : 0 < n) (h : n ≤ 64) : lowerNHalfway n = 2 ^ (n - 1) := by
  unfold lowerNHalfway nthBit shl64m shl64
  have hn : n - 1 < 64 := by omega
  rw [if_neg (by omega), Nat.mod_eq_of_lt hn, Nat.one_mul,
    Nat.mod_eq_of_lt (Nat.pow_lt_pow_right (by decide) hn)]

theorem shr64m_eq {x n : Nat} (h : n < 64) : shr64m x n = x / 2 ^ n := by
  unfold shr64m shr; rw [Nat.mod_eq_of_lt h]

/-- the increment `round_nearest_tie_even` adds: its callback on (odd, half-way, above half-way) -/
def upOf (mant shift : Nat) (cb : Bool → Bool → Bool → Bool) : Nat :=
  if cb (decide ((mant / 2 ^ shift) % 2 = 1)) (decide (mant % 2 ^ shift = 2 ^ (shift - 1)))
      (decide (mant % 2 ^ shift > 2 ^ (shift - 1))) then 1 else 0

theorem upOf_le (mant shift : Nat) (cb) : upOf mant shift cb ≤ 1 := by
  unfold upOf; split <;> omega

theorem rnte_eq (mant : Nat) (e : Int) (shift : Nat) (cb : Bool → Bool → Bool → Bool)
    (hm : mant < 2 ^ 64) (h0 : 0 < shift) (h64 : shift ≤ 64) :
    roundNearestTieEven ⟨mant, e⟩ shift cb = ⟨mant / 2 ^ shift + upOf mant shift cb, e + shift⟩ := by
  unfold roundNearestTieEven upOf
  simp only [lowerNMask_succ h64, lowerNHalfway_eq h0 h64]
  have hdiv : (if shift = 64 then 0 else shr64m mant shift) = mant / 2 ^ shift := by
    split
    · subst_vars; rw [Nat.div_eq_of_lt hm]
    · rw [shr64m_eq (by omega)]
  rw [hdiv]
  have hlt : mant / 2 ^ shift < 2 ^ 63 := by
    rw [Nat.div_lt_iff_lt_mul (Nat.two_pow_pos _)]
    calc mant < 2 ^ 64 := hm
      _ = 2 ^ 63 * 2 ^ 1 := by decide
      _ ≤ 2 ^ 63 * 2 ^ shift := Nat.mul_le_mul_left _ (Nat.pow_le_pow_right (by decide) h0)
  congr 1
  unfold wrap64
  split <;> (apply Nat.mod_eq_of_lt; omega)

theorem asU64_ofNat {e : Nat} (he : e < 2 ^ 64) : asU64 (e : Int) = e := by
  unfold asU64
  have : ((e : Int) % (2 ^ 64 : Int)) = (e : Int) := Int.emod_eq_of_lt (by omega) (by exact_mod_cast he)
  rw [this]; rfl

theorem ext_of_fields (F : FTy) (ms bits : Nat) (hms : F.ms = ms) (hbits : F.C.bits.toNat = bits)
    (m e : Nat) (hm : m < 2 ^ ms) (he : e * 2 ^ ms + m < 2 ^ bits) (hb : bits ≤ 64) :
    extendedToFloat F ⟨m, (e : Int)⟩ = e * 2 ^ ms + m := by
  have hpos := Nat.two_pow_pos ms
  have hle : 2 ^ bits ≤ 2 ^ 64 := Nat.pow_le_pow_right (by decide) hb
  have he64 : e < 2 ^ 64 := by
    have : e ≤ e * 2 ^ ms := Nat.le_mul_of_pos_right e hpos
    omega
  unfold extendedToFloat
  rw [hms, hbits]
  show (m ||| shl64 (asU64 (e : Int)) ms) % 2 ^ bits = _
  rw [asU64_ofNat he64]
  unfold shl64
  have h1 : e * 2 ^ ms % 2 ^ 64 = e * 2 ^ ms := Nat.mod_eq_of_lt (by omega)
  rw [h1, Nat.or_comm, Nat.mul_comm e, ← Nat.two_pow_add_eq_or_of_lt hm]
  exact Nat.mod_eq_of_lt (by rw [Nat.mul_comm]; exact he)

/-- a denormal rounded up to the hidden bit: field `2^ms`, exponent `1` -/
theorem ext_of_hidden (F : FTy) (ms bits : Nat) (hms : F.ms = ms) (hbits : F.C.bits.toNat = bits)
    (hlt : 2 ^ ms < 2 ^ bits) (hb : bits ≤ 64) :
    extendedToFloat F ⟨2 ^ ms, 1⟩ = 2 ^ ms := by
  have hle : 2 ^ bits ≤ 2 ^ 64 := Nat.pow_le_pow_right (by decide) hb
  unfold extendedToFloat
  rw [hms, hbits]
  show (2 ^ ms ||| shl64 (asU64 ((1 : Nat) : Int)) ms) % 2 ^ bits = _
  rw [asU64_ofNat (by decide)]
  unfold shl64
  have h1 : 2 ^ ms % 2 ^ 64 = 2 ^ ms := Nat.mod_eq_of_lt (by omega)
  rw [Nat.one_mul, h1, Nat.or_self, Nat.mod_eq_of_lt hlt]

/-- the `Gen.FloatConsts` constants of `F` in terms of its IEEE format `⟨p, eb⟩`
(instances by evaluation; `Props.TablesParse.float_constants_*` states the same as `layoutOk`) -/
structure Layout (F : FTy) (p eb : Nat) : Prop where
  fmt : F.fmt = ⟨p, eb⟩
  ms : F.C.mantissaSize = ((p - 1 : Nat) : Int)
  hidden : F.C.hiddenBitMask = ((2 ^ (p - 1) : Nat) : Int)
  carry : F.C.carryMask = ((2 ^ p : Nat) : Int)
  mask : F.C.mantissaMask = ((2 ^ (p - 1) - 1 : Nat) : Int)
  infp : F.C.infinitePower = ((2 ^ eb - 1 : Nat) : Int)
  bits : F.C.bits = ((p + eb : Nat) : Int)
  bias : F.C.exponentBias = ((2 ^ (eb - 1) - 1 + (p - 1) : Nat) : Int)
  hp : 2 ≤ p
  hp64 : p + eb ≤ 64
  heb : 2 ≤ eb
  heb16 : eb ≤ 16
  heb15 : eb ≤ 15
  hL : 63 ≤ 2 ^ (eb - 1) - 1 + (p - 1) - 1
  maxMant : F.C.maxMantissaFastPath = ((2 ^ p : Nat) : Int)
  hpb : p + 1 ≤ 2 ^ (eb - 1) - 1
  hL127 : 127 ≤ 2 ^ (eb - 1) - 1 + (p - 1) - 1
  hL1074 : 2 ^ (eb - 1) - 1 + (p - 1) - 1 ≤ 1074
  hb1024 : 2 ^ (eb - 1) ≤ 1024

theorem layout_f64 : Layout FTy.f64 53 11 := by
  constructor <;> decide
theorem layout_f32 : Layout FTy.f32 24 8 := by
  constructor <;> decide

theorem Layout.wf {F p eb} (lay : Layout F p eb) : WF F.fmt := by
  rw [lay.fmt]; exact ⟨lay.hp, lay.heb⟩

theorem Layout.hp62 {F p eb} (lay : Layout F p eb) : p ≤ 62 := by
  have := lay.hp64; have := lay.heb; omega

theorem Layout.msNat {F p eb} (lay : Layout F p eb) : F.ms = p - 1 := by
  unfold FTy.ms; rw [lay.ms]; rfl

theorem mul_le_iff_of_lt {M E T r : Nat} (hr : r < T) : M * T ≤ E * T + r ↔ M ≤ E := by
  constructor
  · intro h
    apply Classical.byContradiction; intro hc
    have : (E + 1) * T ≤ M * T := Nat.mul_le_mul_right T (by omega)
    rw [Nat.add_mul, Nat.one_mul] at this
    omega
  · intro h
    have : M * T ≤ E * T := Nat.mul_le_mul_right T h
    omega

/-- the shift `shared::round` applies (the same as `calculate_shift`) -/
def shiftOf (p : Nat) (power2 : Int) : Nat :=
  if -power2 ≥ 64 - (p : Int) then (-power2 + 1).toNat else 64 - p

theorem calculateShift_eq {F p eb} (lay : Layout F p eb) (power2 : Int) :
    (Binary.calculateShift F power2).toNat = shiftOf p power2 := by
  have hp := lay.hp; have hp64 := lay.hp64
  unfold Binary.calculateShift shiftOf
  rw [lay.ms]
  have e : (64 : Int) - ((p - 1 : Nat) : Int) - 1 = 64 - (p : Int) := by omega
  simp only [e]
  split
  · rfl
  · omega

theorem ext_fields {F : FTy} {p eb : Nat} (lay : Layout F p eb) (m e : Nat) (hm : m < 2 ^ (p - 1))
    (he : e ≤ 2 ^ eb - 1) : extendedToFloat F ⟨m, (e : Int)⟩ = e * 2 ^ (p - 1) + m := by
  have hp := lay.hp
  have hbits : F.C.bits.toNat = p + eb := by rw [lay.bits]; rfl
  have hbitsPow : 2 ^ (p + eb) = 2 ^ eb * (2 * 2 ^ (p - 1)) := by
    rw [← two_pow_pred (show 0 < p by omega), ← Nat.pow_add, Nat.add_comm]
  refine ext_of_fields F (p - 1) (p + eb) lay.msNat hbits m e hm ?_ lay.hp64
  rw [hbitsPow]
  have a1 : (e + 1) * 2 ^ (p - 1) ≤ 2 ^ eb * 2 ^ (p - 1) :=
    Nat.mul_le_mul_right _ (by have := Nat.two_pow_pos eb; omega)
  rw [Nat.add_mul, Nat.one_mul] at a1
  have a3 : 2 ^ eb * (2 * 2 ^ (p - 1)) = 2 * (2 ^ eb * 2 ^ (p - 1)) := by ac_rfl
  have a4 : 0 < 2 ^ eb * 2 ^ (p - 1) := Nat.mul_pos (Nat.two_pow_pos eb) (Nat.two_pow_pos _)
  omega

/-- normal range: significand `q0 ∈ [2^(p−1), 2^p]` at exponent field `En + 1`; `m3`, `e` are what the code leaves in
the two fields (`q0 = 2^p` is the carry) -/
theorem ext_encode_normal {F p eb} (lay : Layout F p eb) (q0 En : Nat) (h1 : 2 ^ (p - 1) ≤ q0)
    (h2 : q0 ≤ 2 * 2 ^ (p - 1)) (m3 : Nat) (e : Int)
    (hm3 : m3 = if q0 = 2 * 2 ^ (p - 1) then 0 else q0 - 2 ^ (p - 1))
    (he : e = if q0 = 2 * 2 ^ (p - 1) then ((En + 2 : Nat) : Int) else ((En + 1 : Nat) : Int)) :
    0 ≤ e ∧ extendedToFloat F (if e ≥ F.C.infinitePower then ⟨0, F.C.infinitePower⟩ else ⟨m3, e⟩) =
      encode F.fmt En q0 := by
  have hp := lay.hp; have heb := lay.heb
  have hinf : F.fmt.infBits = (2 ^ eb - 1) * 2 ^ (p - 1) := by rw [lay.fmt]; rfl
  have hM3 : 3 ≤ 2 ^ eb - 1 := by
    have : 2 ^ 2 ≤ 2 ^ eb := Nat.pow_le_pow_right (by decide) heb
    omega
  have extF := ext_fields lay
  have hfp : F.fmt.p = p := by rw [lay.fmt]
  unfold encode
  rw [hinf, hfp, lay.infp]
  generalize hT : 2 ^ (p - 1) = T at *
  have hTpos : 0 < T := by rw [← hT]; exact Nat.two_pow_pos _
  generalize hM : 2 ^ eb - 1 = M at *
  -- `En·T + q0 = E·T + m3` with `E` the exponent field and `m3 < T`
  obtain ⟨E, hE, hsplit⟩ : ∃ E : Nat, e = (E : Int) ∧ En * T + q0 = E * T + m3 := by
    by_cases hc : q0 = 2 * T
    · rw [if_pos hc] at hm3 he
      exact ⟨En + 2, he, by rw [hm3, hc, Nat.add_mul]; omega⟩
    · rw [if_neg hc] at hm3 he
      exact ⟨En + 1, he, by rw [hm3, Nat.add_mul]; omega⟩
  have hm3lt : m3 < T := by rw [hm3]; split <;> omega
  subst hE
  refine ⟨Int.natCast_nonneg _, ?_⟩
  rw [hsplit]
  by_cases hov : ((E : Nat) : Int) ≥ ((M : Nat) : Int)
  · rw [if_pos hov, if_pos ((mul_le_iff_of_lt hm3lt).mpr (by omega))]
    have := extF 0 M hTpos (Nat.le_refl _)
    rwa [Nat.add_zero] at this
  · rw [if_neg hov, if_neg (fun h => hov (by have := (mul_le_iff_of_lt hm3lt).mp h; omega))]
    exact extF m3 E hm3lt (by omega)

theorem ext_encode_sub {F p eb} (lay : Layout F p eb) (q0 : Nat) (h : q0 ≤ 2 ^ (p - 1)) (e : Int)
    (he : e = if 2 ^ (p - 1) ≤ q0 then 1 else 0) :
    0 ≤ e ∧ extendedToFloat F ⟨q0, e⟩ = encode F.fmt 0 q0 := by
  have hp := lay.hp; have hp64 := lay.hp64; have heb := lay.heb
  have hbits : F.C.bits.toNat = p + eb := by rw [lay.bits]; rfl
  have hinf : F.fmt.infBits = (2 ^ eb - 1) * 2 ^ (p - 1) := by rw [lay.fmt]; rfl
  have hM3 : 3 ≤ 2 ^ eb - 1 := by
    have : 2 ^ 2 ≤ 2 ^ eb := Nat.pow_le_pow_right (by decide) heb
    omega
  have hfp : F.fmt.p = p := by rw [lay.fmt]
  have hT := Nat.two_pow_pos (p - 1)
  have hMT : 3 * 2 ^ (p - 1) ≤ (2 ^ eb - 1) * 2 ^ (p - 1) := Nat.mul_le_mul_right _ hM3
  unfold encode
  rw [hinf, hfp, Nat.zero_mul, Nat.zero_add, if_neg (by omega)]
  by_cases hq : 2 ^ (p - 1) ≤ q0
  · rw [if_pos hq] at he; subst he
    have : q0 = 2 ^ (p - 1) := by omega
    subst this
    exact ⟨by decide, ext_of_hidden F (p - 1) (p + eb) lay.msNat hbits
      (Nat.pow_lt_pow_right (by decide) (by omega)) hp64⟩
  · rw [if_neg hq] at he; subst he
    have := ext_fields lay q0 0 (by omega) (Nat.zero_le _)
    rw [Nat.zero_mul, Nat.zero_add] at this
    exact ⟨Int.le_refl _, this⟩

theorem round_bits {F : FTy} {p eb : Nat} (lay : Layout F p eb) (mant : Nat) (power2 : Int)
    (cb : Bool → Bool → Bool → Bool) (hm1 : 2 ^ 63 ≤ mant) (hm2 : mant < 2 ^ 64)
    (hp2 : -power2 + 1 ≤ 64) :
    0 ≤ (round F ⟨mant, power2⟩ (fun f s => roundNearestTieEven f s cb)).exp ∧
    extendedToFloat F (round F ⟨mant, power2⟩ (fun f s => roundNearestTieEven f s cb)) =
      encode F.fmt (power2 + 64 - p - 1).toNat
        (mant / 2 ^ shiftOf p power2 + upOf mant (shiftOf p power2) cb) := by
  have hp := lay.hp; have hp64 := lay.hp64; have heb := lay.heb
  have hTT : 2 ^ p = 2 * 2 ^ (p - 1) := two_pow_pred (by omega)
  unfold round
  rw [lay.ms, lay.hidden, lay.carry, lay.mask, hTT]
  have e : (64 : Int) - ((p - 1 : Nat) : Int) - 1 = 64 - (p : Int) := by omega
  simp only [e]
  unfold shiftOf
  have hTpos := Nat.two_pow_pos (p - 1)
  by_cases hden : -power2 ≥ 64 - (p : Int)
  · rw [if_pos hden, if_pos hden]
    have hs : (min (-power2 + 1) 64).toNat = (-power2 + 1).toNat := by
      rw [Int.min_eq_left hp2]
    rw [hs]
    generalize hsd : (-power2 + 1).toNat = s
    simp only [rnte_eq mant power2 s cb hm2 (by omega) (by omega)]
    have hu := upOf_le mant s cb
    have ha : mant / 2 ^ s < 2 ^ (p - 1) := by
      rw [Nat.div_lt_iff_lt_mul (Nat.two_pow_pos _), ← Nat.pow_add]
      exact Nat.lt_of_lt_of_le hm2 (Nat.pow_le_pow_right (by decide) (by omega))
    rw [show (power2 + 64 - (p : Int) - 1).toNat = 0 by omega]
    exact ext_encode_sub lay _ (by omega) _ (by
      by_cases hq : 2 ^ (p - 1) ≤ mant / 2 ^ s + upOf mant s cb
      · rw [if_pos hq, if_pos (by omega)]
      · rw [if_neg hq, if_neg (by omega)])
  · rw [if_neg hden, if_neg hden]
    rw [show (64 - (p : Int)).toNat = 64 - p by omega]
    simp only [rnte_eq mant power2 (64 - p) cb hm2 (by omega) (by omega)]
    have hu := upOf_le mant (64 - p) cb
    generalize upOf mant (64 - p) cb = u at *
    have ha1 : 2 ^ (p - 1) ≤ mant / 2 ^ (64 - p) := by
      rw [Nat.le_div_iff_mul_le (Nat.two_pow_pos _), ← Nat.pow_add, show p - 1 + (64 - p) = 63 by omega]; exact hm1
    have ha2 : mant / 2 ^ (64 - p) < 2 * 2 ^ (p - 1) := by
      rw [Nat.div_lt_iff_lt_mul (Nat.two_pow_pos _), ← hTT, ← Nat.pow_add, show p + (64 - p) = 64 by omega]; exact hm2
    generalize mant / 2 ^ (64 - p) = a at *
    obtain ⟨En, hEn⟩ : ∃ En : Nat, power2 + ((64 - p : Nat) : Int) = ((En + 1 : Nat) : Int) :=
      ⟨(power2 + ((64 - p : Nat) : Int) - 1).toNat, by omega⟩
    rw [show (power2 + 64 - (p : Int) - 1).toNat = En by omega, hEn, Int.toNat_natCast,
      show ((2 ^ (p - 1) - 1 : Nat) : Int).toNat + 1 = 2 ^ (p - 1) by rw [Int.toNat_natCast]; omega]
    by_cases hcar : a + u = 2 * 2 ^ (p - 1)
    · have hc1 : (a + u) / (2 * 2 ^ (p - 1)) % 2 = 1 := by rw [hcar, Nat.div_self (by omega)]
      rw [if_pos hc1]
      have hshr : shr (a + u) 1 = 2 ^ (p - 1) := by unfold shr; omega
      simp only [hshr]
      obtain ⟨h0, hx⟩ := ext_encode_normal lay (a + u) En (by omega) (by omega) 0 (((En + 1 : Nat) : Int) + 1)
        (by rw [if_pos hcar]) (by rw [if_pos hcar]; omega)
      split
      · rw [if_pos (by assumption)] at hx
        exact ⟨by show (0 : Int) ≤ F.C.infinitePower; rw [lay.infp]; omega, hx⟩
      · rw [if_neg (by assumption)] at hx; exact ⟨h0, by simpa using hx⟩
    · have hc1 : ¬ ((a + u) / (2 * 2 ^ (p - 1)) % 2 = 1) := by
        rw [Nat.div_eq_of_lt (by omega)]; decide
      rw [if_neg hc1]
      have hmod : (a + u) % 2 ^ (p - 1) = a + u - 2 ^ (p - 1) := by
        rw [Nat.mod_eq_sub_mod (by omega), Nat.mod_eq_of_lt (by omega)]
      obtain ⟨h0, hx⟩ := ext_encode_normal lay (a + u) En (by omega) (by omega) (a + u - 2 ^ (p - 1))
        ((En + 1 : Nat) : Int) (by rw [if_neg hcar]) (by rw [if_neg hcar])
      split
      · rw [if_pos (by assumption)] at hx
        exact ⟨by show (0 : Int) ≤ F.C.infinitePower; rw [lay.infp]; omega, hx⟩
      · rw [if_neg (by assumption)] at hx; exact ⟨h0, by simpa [hmod] using hx⟩

end LexVerif.Proof.ExtRound
