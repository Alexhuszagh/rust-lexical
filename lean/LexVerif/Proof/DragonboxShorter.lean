import LexVerif.Proof.DragonboxShortest
import LexVerif.Proof.DragonboxCache
/-!
# Proof.DragonboxShorter — `compute_nearest_shorter`: every input checked against `Spec.shortest` by the kernel

The branch is taken by the 254 + 2046 floats with a zero mantissa field. For each, `shorterOk` runs the model (cache entry
read through `cachePower`) and checks its answer with `shortestCert`, the decidable form of `mem_shortest_fmtOf`: two
candidate ranges per input, where running the oracle takes one for every scale it searches through.
(The declarations go into the namespace `LexVerif.Proof.DragonboxSpec`, beside `dragonboxOk`.)
-/
namespace LexVerif.Proof.DragonboxSpec
open LexVerif.Spec LexVerif.Model.Dragonbox LexVerif.Proof.DragonboxCache LexVerif.Proof.DragonboxShortest
open LexVerif.Proof.RoundNE (best_of_close)

def shortestCert (f : Fmt) (bits D : Nat) (E : Int) : Bool :=
  let iv := interval f bits
  let above := candRange iv (E + 1)
  let here := candRange iv E
  let pq := scalePQ iv.e2 E
  decide (above.2 < above.1) && decide (here.1 ≤ D ∧ D ≤ here.2)
    && (decide (2 * (D * pq.1 - iv.v * pq.2) ≤ pq.1 ∧ 2 * (iv.v * pq.2 - D * pq.1) ≤ pq.1) || decide (here.1 = here.2))

theorem mem_shortest_of_cert (t : FTy) {bits D : Nat} {E : Int} (h0 : 0 < bits) (hfin : bits < (fmtOf t).infBits)
    (h : shortestCert (fmtOf t) bits D E = true) : (D, E) ∈ shortest (fmtOf t) bits := by
  simp only [shortestCert, Bool.and_eq_true, Bool.or_eq_true, decide_eq_true_eq] at h
  obtain ⟨⟨habove, hhere⟩, hpick⟩ := h
  refine (mem_shortest_fmtOf t h0 hfin D E).mpr
    ⟨hhere, fun D' hD' => by have := Nat.le_trans hD'.1 hD'.2; omega, fun D' hD' => ?_⟩
  rcases hpick with hclose | huniq
  · exact best_of_close hclose D'
  · -- the shorter interval is asymmetric: its only candidate need not be the integer nearest to the value
    have : D' = D := by have := hD'.1; have := hD'.2; have := hhere.1; have := hhere.2; omega
    exact this ▸ le_refl _

/-- what `computeNearestShorter` does with the cache entry (`computeNearestShorter_eq`) -/
def shorterBody (t : FTy) (bits : Nat) (pow5 : Nat × Nat) : Nat × Int :=
  let exponent := t.exponent bits
  let minusK := floorLog10Pow2MinusLog10_4Over3 exponent
  let beta := i32 (exponent + floorLog2Pow10 (i32 (-minusK)))
  let xi := computeLeftEndpoint t pow5 beta
  let zi := computeRightEndpoint t pow5 beta
  let xi := if ¬ isLeftEndpoint t exponent then u64 (xi + 1) else xi
  let significand := zi / 10
  if u64 (significand * 10) ≥ xi then
    processTrailingZeros t significand (i32 (minusK + 1))
  else
    let significand := computeRoundUp t pow5 beta
    let bitsI : Int := t.mantissaSize
    let lower : Int := i32 (i32 (i32 (-floorLog5Pow2MinusLog5_3 (bitsI + 4)) - 2) - bitsI)
    let upper : Int := i32 (i32 (i32 (-floorLog5Pow2 (bitsI + 2)) - 2) - bitsI)
    let roundDown := preferRoundDown significand
    let significand :=
      if roundDown ∧ exponent ≥ lower ∧ exponent ≤ upper then sub64 significand 1
      else if significand < xi then u64 (significand + 1) else significand
    (significand, minusK)

def shorterPower (t : FTy) (bits : Nat) : Option (Nat × Nat) :=
  cachePower t (i32 (-floorLog10Pow2MinusLog10_4Over3 (t.exponent bits)))

theorem computeNearestShorter_eq (t : FTy) (bits : Nat) :
    computeNearestShorter t bits = (shorterPower t bits).map (shorterBody t bits) := by
  unfold shorterPower
  rw [← dragonboxPower_eq_cachePower]
  rfl

def shorterOk (t : FTy) (bits : Nat) : Bool :=
  match (shorterPower t bits).map (shorterBody t bits) with
  | some (m, e) => shortestCert (fmtOf t) bits (normDec 20 m e).1 (normDec 20 m e).2
  | none => false

theorem dragonboxOk_of_shorterOk {t : FTy} {bits : Nat} (h0 : 0 < bits) (hfin : bits < (fmtOf t).infBits)
    (hd : toDecimal t bits = computeNearestShorter t bits) (h : shorterOk t bits = true) : dragonboxOk t bits = true := by
  unfold dragonboxOk
  rw [hd, computeNearestShorter_eq]
  unfold shorterOk at h
  split at h
  · next m e heq => rw [heq]; exact List.contains_iff_mem.mpr (mem_shortest_of_cert t h0 hfin h)
  · exact absurd h (by decide)

theorem shorter32_all : (expChunk .f32 0 255).all (shorterOk .f32) = true := by decide +kernel
theorem shorter64_all : (expChunk .f64 0 2047).all (shorterOk .f64) = true := by decide +kernel

end LexVerif.Proof.DragonboxSpec
