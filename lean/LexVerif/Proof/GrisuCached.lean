import LexVerif.Model.Grisu
import LexVerif.Proof.Tables.Grisu
/-!
# Proof.GrisuCached — the model's `cached_grisu_power` (exact-rational version of the `f64` index estimate, then the
adjusting loop over `Gen.Grisu.powersOfTen`)

* `cachedGrisuPower_eq_dump`: on its whole admissible range `[-1140, 1089]` it returns exactly what the compiled crate
  returned (`Gen.Grisu.cached*`, R dump). Evaluating the model in the kernel is dear (`Int` arithmetic, `2^53`), so the
  kernel only checks the `Nat` comparisons of `Tables.Grisu.pathOk` per dumped row; that the loop starts at `startIdx`,
  and stops where `pathOk` says because `fast_binary_power ∘ fast_decimal_power` is monotone, is proved (`climb`, `descend`).
* `cached_spec`, what the Grisu proof needs: the loop can only stop at a table row that passed the window test, and every
  row is a nearest 64-bit approximation of its power of ten with the binary exponent the model computes (`pow_row`, from the table theorem `Tables.Grisu.rows_walk`).
-/
namespace LexVerif.Proof.GrisuCached
open LexVerif.Gen.Grisu LexVerif.Proof.Tables LexVerif.Model.Grisu
open LexVerif.Model.Dragonbox (i32)
open LexVerif.Spec.Tables (IsNearestPow10)
open LexVerif.Proof.Tables.Grisu (binB startIdx pathOk)

theorem cachedLoop_some {exp : Int} {cp : Fp} {ki : Int} : ∀ (fuel : Nat) (idx : Int),
    cachedLoop exp fuel idx = some (cp, ki) →
    ∃ j : Nat, powersOfTen[j]? = some cp.mant ∧ cp.exp = fastBinaryPower (fastDecimalPower j)
      ∧ ki = i32 (-348 + i32 ((j : Int) * 8))
      ∧ -60 ≤ i32 (i32 (exp + cp.exp) + 64) ∧ i32 (i32 (exp + cp.exp) + 64) ≤ -32
  | 0, _, h => by simp [cachedLoop] at h
  | fuel + 1, idx, h => by
    rw [cachedLoop] at h
    split at h
    · cases h
    · rename_i h0
      split at h
      · cases h
      · rename_i mant hm
        simp only [] at h
        split at h
        · exact cachedLoop_some fuel _ h
        · split at h
          · exact cachedLoop_some fuel _ h
          · rename_i h1 h2
            simp only [Option.some.injEq, Prod.mk.injEq] at h
            obtain ⟨rfl, rfl⟩ := h
            refine ⟨idx.toNat, hm, rfl, ?_, Int.not_lt.mp h1, Int.not_lt.mp h2⟩
            rw [Int.toNat_of_nonneg (by omega)]

theorem fastDecimalPower_eq {j : Nat} (h : j < 87) : fastDecimalPower j = -348 + 8 * (j : Int) := by
  unfold fastDecimalPower i32; omega

theorem binexp_eq {j : Nat} (h : j < 87) : fastBinaryPower (fastDecimalPower j) = (binB j : Int) - 1220 := by
  have hw : i32 ((-348 + 8 * (j : Int)) * (152170 + 65536)) = 1741648 * (j : Int) - 75761688 := by
    unfold i32; omega
  rw [fastDecimalPower_eq h, fastBinaryPower, hw,
    show 1741648 * (j : Int) - 75761688 = (1741648 * j + 63464) + 2 ^ 16 * (-1157) by omega,
    Int.add_mul_ediv_left _ _ (by decide)]
  rw [show ((binB j : Nat) : Int) = (1741648 * (j : Int) + 63464) / 2 ^ 16 by rw [binB, Int.natCast_ediv]; rfl]
  unfold i32; omega

theorem binB_mono {j l : Nat} (h : j ≤ l) : binB j ≤ binB l :=
  Nat.div_le_div_right (by omega)

def rowAt (j : Nat) : Option (Fp × Int) := some (⟨powersOfTenList.getD j 0, (binB j : Int) - 1220⟩, -348 + 8 * (j : Int))

/-- one round of the loop at a row of the table; `exp + binB j - 1156` (`= exp + (binB j - 1220) + 64`) is the exponent
tested against the window -/
theorem cachedLoop_step {exp : Int} (h1 : -1140 ≤ exp) (h2 : exp ≤ 1089) {j : Nat} (hj : j < 87) (fuel : Nat) :
    cachedLoop exp (fuel + 1) j =
      if exp + binB j - 1156 < -60 then cachedLoop exp fuel (j + 1)
      else if exp + binB j - 1156 > -32 then cachedLoop exp fuel (j - 1)
      else rowAt j := by
  have hlen : j < powersOfTenList.length := by rw [Grisu.rows_size.1]; exact hj
  have hget : powersOfTen[j]? = some (powersOfTenList.getD j 0) := by
    rw [powersOfTen, List.getElem?_toArray, List.getElem?_eq_getElem hlen, List.getD_eq_getElem?_getD,
      List.getElem?_eq_getElem hlen, Option.getD_some]
  have hcur : i32 (i32 (exp + fastBinaryPower (fastDecimalPower j)) + 64) = exp + binB j - 1156 := by
    have hB : binB j ≤ 2300 := by unfold binB; omega
    rw [binexp_eq hj]; unfold i32; omega
  have hk : i32 (-348 + i32 ((j : Int) * 8)) = -348 + 8 * (j : Int) := by unfold i32; omega
  rw [cachedLoop, if_neg (by omega), Int.toNat_natCast, hget]
  simp only [hcur, hk]
  rw [binexp_eq hj, rowAt]

/-- started `d` rows below `j`, the loop climbs to `j` when the row just below `j` is under the window (`binB` is monotone) -/
theorem climb {exp : Int} (h1 : -1140 ≤ exp) (h2 : exp ≤ 1089) {j : Nat} (hj : j < 87)
    (hw1 : -60 ≤ exp + binB j - 1156) (hw2 : exp + binB j - 1156 ≤ -32) :
    ∀ (d fuel : Nat), d < fuel → d ≤ j → (d ≠ 0 → exp + binB (j - 1) - 1156 < -60) →
      cachedLoop exp fuel ((j - d : Nat) : Int) = rowAt j
  | 0, fuel + 1, _, _, _ => by
    rw [Nat.sub_zero, cachedLoop_step h1 h2 hj, if_neg (by omega), if_neg (by omega)]
  | d + 1, fuel + 1, hf, hd, hb => by
    have hm := binB_mono (show j - (d + 1) ≤ j - 1 by omega)
    have hb' := hb (by omega)
    rw [cachedLoop_step h1 h2 (by omega), if_pos (by omega),
      show ((j - (d + 1) : Nat) : Int) + 1 = ((j - d : Nat) : Int) by omega]
    exact climb h1 h2 hj hw1 hw2 d fuel (by omega) (by omega) (fun _ => hb')

theorem descend {exp : Int} (h1 : -1140 ≤ exp) (h2 : exp ≤ 1089) {j : Nat}
    (hw1 : -60 ≤ exp + binB j - 1156) (hw2 : exp + binB j - 1156 ≤ -32) :
    ∀ (d fuel : Nat), d < fuel → j + d < 87 → (d ≠ 0 → -32 < exp + binB (j + 1) - 1156) →
      cachedLoop exp fuel ((j + d : Nat) : Int) = rowAt j
  | 0, fuel + 1, _, hj, _ => by
    show cachedLoop exp (fuel + 1) ((j : Nat) : Int) = rowAt j
    rw [cachedLoop_step h1 h2 (show j < 87 from hj), if_neg (by omega), if_neg (by omega)]
  | d + 1, fuel + 1, hf, hd, hb => by
    have hm := binB_mono (show j + 1 ≤ j + (d + 1) by omega)
    have hb' := hb (by omega)
    rw [cachedLoop_step h1 h2 hd, if_neg (by omega), if_pos (by omega),
      show ((j + (d + 1) : Nat) : Int) - 1 = ((j + d : Nat) : Int) by omega]
    exact descend h1 h2 hw1 hw2 d fuel (by omega) (by omega) (fun _ => hb')

theorem cachedGrisuPower_start {i : Nat} (hi : i < 2230) :
    cachedGrisuPower (cachedLo + i) = cachedLoop (cachedLo + i) 100 (startIdx i) := by
  unfold cachedGrisuPower startIdx
  simp only []
  congr 1
  have hn : -(i32 (cachedLo + (i : Int) + 87)) = 1053 - (i : Int) := by unfold cachedLo i32; omega
  rw [hn]
  split
  · rename_i h
    -- `⌊1053·log₁₀2⌋ = 316`, and below `⌊1176·log₁₀2⌋ = 354` (`i ≤ 2229`): all that matters is that `i32` does not wrap
    have ha : (1053 - i) * 2711437152599295 / 2 ^ 53 ≤ 317 := by omega
    have hc : (((1053 - i) * 2711437152599295 : Nat) : Int) = ((1053 - i : Nat) : Int) * 2711437152599295 :=
      Int.natCast_mul _ _
    rw [show (1053 : Int) - i = ((1053 - i : Nat) : Int) by omega, ← hc,
      show (2 : Int) ^ 53 = ((2 ^ 53 : Nat) : Int) by rfl, ← Int.ofNat_tdiv]
    generalize (1053 - i) * 2711437152599295 / 2 ^ 53 = a at *
    rw [show i32 ((a : Int) - -348) = ((a + 348 : Nat) : Int) by unfold i32; omega]
    exact (Int.ofNat_tdiv _ 8).symm
  · rename_i h
    have ha : (i - 1053) * 2711437152599295 / 2 ^ 53 ≤ 355 := by omega
    have hc : (((i - 1053) * 2711437152599295 : Nat) : Int) = ((i - 1053 : Nat) : Int) * 2711437152599295 :=
      Int.natCast_mul _ _
    rw [show (1053 : Int) - i = -((i - 1053 : Nat) : Int) by omega, Int.neg_mul, ← hc, Int.neg_tdiv,
      show (2 : Int) ^ 53 = ((2 ^ 53 : Nat) : Int) by rfl, ← Int.ofNat_tdiv]
    generalize (i - 1053) * 2711437152599295 / 2 ^ 53 = a at *
    by_cases h348 : a ≤ 348
    · rw [show i32 (-(a : Int) - -348) = ((348 - a : Nat) : Int) by unfold i32; omega]
      exact (Int.ofNat_tdiv _ 8).symm
    · rw [show i32 (-(a : Int) - -348) = -((a - 348 : Nat) : Int) by unfold i32; omega, Int.neg_tdiv,
        show ((a - 348 : Nat) : Int).tdiv 8 = ((a - 348) / 8 : Nat) from (Int.ofNat_tdiv _ 8).symm]
      omega

theorem cachedGrisuPower_of_path {i : Nat} {r : Nat × Nat × Nat} (hi : i < 2230) (h : pathOk i r = true) :
    cachedGrisuPower (cachedLo + i) = some (⟨r.1, (r.2.1 : Int) - cachedBinExpBias⟩, (r.2.2 : Int) - cachedKBias) := by
  simp only [pathOk, Bool.and_eq_true, Bool.or_eq_true, beq_iff_eq, Nat.blt_eq, Nat.ble_eq] at h
  obtain ⟨⟨⟨⟨⟨⟨h8, hj⟩, hm⟩, hb⟩, hw1⟩, hw2⟩, hp⟩ := h
  have hrow : rowAt ((r.2.2 + 8) / 8) = some (⟨r.1, (r.2.1 : Int) - cachedBinExpBias⟩, (r.2.2 : Int) - cachedKBias) := by
    rw [rowAt, ← hm, ← hb]
    unfold cachedBinExpBias cachedKBias
    congr 3 <;> omega
  have h1 : -1140 ≤ cachedLo + (i : Int) := by unfold cachedLo; omega
  have h2 : cachedLo + (i : Int) ≤ 1089 := by unfold cachedLo; omega
  have hw1' : -60 ≤ cachedLo + (i : Int) + binB ((r.2.2 + 8) / 8) - 1156 := by unfold cachedLo; omega
  have hw2' : cachedLo + (i : Int) + binB ((r.2.2 + 8) / 8) - 1156 ≤ -32 := by unfold cachedLo; omega
  rw [cachedGrisuPower_start hi, ← hrow]
  generalize (r.2.2 + 8) / 8 = j at *
  generalize startIdx i = s at *
  rcases hp with (hs | ⟨hs, hb⟩) | ⟨⟨hs, hs87⟩, hb⟩
  · rw [hs]
    exact descend h1 h2 hw1' hw2' 0 100 (by omega) hj (fun h => absurd rfl h)
  · have := climb h1 h2 hj hw1' hw2' (j - s) 100 (by omega) (by omega) (fun _ => by unfold cachedLo; omega)
    rwa [show j - (j - s) = s by omega] at this
  · have := descend h1 h2 hw1' hw2' (s - j) 100 (by omega) (by omega) (fun _ => by unfold cachedLo; omega)
    rwa [show j + (s - j) = s by omega] at this

theorem cachedRows_length : Grisu.cachedRows.length = 2230 := by
  simp only [Grisu.cachedRows, List.length_zip, Grisu.cached_size]
  decide

theorem cachedGrisuPower_eq_dump (i : Nat) (h : i < Grisu.cachedRows.length) :
    cachedGrisuPower (cachedLo + i) =
      some (⟨Grisu.cachedRows[i].1, (Grisu.cachedRows[i].2.1 : Int) - cachedBinExpBias⟩,
            (Grisu.cachedRows[i].2.2 : Int) - cachedKBias) := by
  have hp := allIdx_get pathOk Grisu.cachedRows 0 Grisu.path_walk i h
  rw [Nat.zero_add] at hp
  exact cachedGrisuPower_of_path (cachedRows_length ▸ h) hp

/-- row `j` of `GRISU_POWERS_OF_TEN` with the exponents the model computes for it -/
theorem pow_row {j : Nat} (h : j < powersOfTenList.length) :
    IsNearestPow10 (fastDecimalPower j) (fastBinaryPower (fastDecimalPower j)) powersOfTenList[j] := by
  obtain ⟨s1, s2, s3, -⟩ := Grisu.rows_size
  have hj : j < 87 := s1 ▸ h
  have hr := allIdx_get Grisu.rowOk Grisu.rows 0 Grisu.rows_walk j (by simp [Grisu.rows, s1, s2, s3]; omega)
  have hb := allIdx_get _ binaryPowerBiasedList 0 Grisu.binB_walk j (by omega)
  simp only [Nat.zero_add, Grisu.rows, List.getElem_zip, Grisu.rowOk, decide_eq_true_eq, beq_iff_eq] at hr hb
  rw [binexp_eq hj, fastDecimalPower_eq hj, ← hb, ← hr.1]
  exact hr.2.2

theorem cached_some {ue : Int} (h1 : -1140 ≤ ue) (h2 : ue ≤ 1089) : ∃ r, cachedGrisuPower ue = some r := by
  have hd := cachedGrisuPower_eq_dump (ue + 1140).toNat (by rw [cachedRows_length]; omega)
  rw [show cachedLo + ((ue + 1140).toNat : Int) = ue by unfold cachedLo; omega] at hd
  exact ⟨_, hd⟩

/-- the cached power is a nearest 64-bit approximation `c̃·2^ce` of `10^ki`, and it brings the exponent of the product
with a 64-bit number of exponent `ue` into the window `-60 … -32` -/
theorem cached_spec {ue : Int} {cp : Fp} {ki : Int} (h1 : -1140 ≤ ue) (h2 : ue ≤ 1089)
    (h : cachedGrisuPower ue = some (cp, ki)) :
    IsNearestPow10 ki cp.exp cp.mant ∧ -348 ≤ ki ∧ ki ≤ 340
      ∧ 32 ≤ -(ue + cp.exp + 64) ∧ -(ue + cp.exp + 64) ≤ 60 := by
  obtain ⟨j, hj, he, hk, hw1, hw2⟩ := cachedLoop_some _ _ h
  obtain ⟨cm, ce⟩ := cp
  simp only [] at hj he hw1 hw2 ⊢
  rw [powersOfTen, List.getElem?_toArray, List.getElem?_eq_some_iff] at hj
  obtain ⟨hj87, hj⟩ := hj
  have hrow := pow_row hj87
  rw [hj, ← he] at hrow
  rw [Grisu.rows_size.1] at hj87
  clear hj
  have hkj : ki = fastDecimalPower j := by rw [hk, fastDecimalPower_eq hj87]; unfold i32; omega
  rw [← hkj] at hrow
  refine ⟨hrow, by rw [hkj, fastDecimalPower_eq hj87]; omega, by rw [hkj, fastDecimalPower_eq hj87]; omega, ?_⟩
  -- `fast_binary_power` is small whatever its argument, so neither `i32` of the window test wraps
  unfold fastBinaryPower i32 at he
  unfold i32 at hw1 hw2
  omega

/-- `fast_binary_power` literal formula = the dumped table on `[-400, 400]`: `Tables.Grisu.fastBinaryPower_walk` under the
model's name -/
theorem fastBinaryPower_walk :
    allIdx (vecOk (fun q v => fastBinaryPower q = v) fastBinaryPowerLo fastBinaryPowerTabBias) 0
      fastBinaryPowerTabBiased.toList = true := Tables.Grisu.fastBinaryPower_walk

end LexVerif.Proof.GrisuCached
