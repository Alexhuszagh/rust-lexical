import LexVerif.Proof.WriteRadixTerm
import LexVerif.Proof.WriteRadixInteger
/-!
# Proof.WriteRadixTermInt — the integer loops of radix.rs in closed form (Mathlib-free)

`genInteger_eq`: for every start value up to `+∞` the two loops return `z` zeros, in front of them the digit of one digit
step taken from `padIter z x` (the value after `z` divisions by the base), in front of that the digits of the floor of
that step's quotient. Termination, the validity of the bytes and the value for `x ≥ 2^p` are read off this equation.

Why the fuel suffices: dividing by `base ≥ 2` and rounding never gives more than half (`fdiv_le_half`: halving is exact
and rounding is monotone), so a zero-padding step, taken only while the quotient is `≥ 2^p`, lowers the exponent field
`x / 2^(p-1)` (`pad_step`): at most `bias + 1 - p` steps. After them the quotient of the digit step is below `2^p`, and
from there on the loop is the exact radix conversion (`WriteRadixInteger.digitLoop_floor`), at most `p` more digits. So
at most `bias + 2` (1025 / 129) bytes `< 1100` are written: `genInteger_total`; `generate_total` — digit generation
never PANICs.
-/
namespace LexVerif.Proof.WriteRadixTermInt
open LexVerif.Spec LexVerif.Model LexVerif.Proof.RoundNE LexVerif.Proof.WriteRadixF LexVerif.Proof.WriteRadixTerm
open LexVerif.Model.WriteRadix
open LexVerif.Model.WriteInt (Res)

theorem ival_half (f : Fmt) {x : Nat} (hx : 2 * 2 ^ (f.p - 1) ≤ x) :
    2 * RoundNE.ival f (x - 2 ^ (f.p - 1)) = RoundNE.ival f x := by
  obtain ⟨k, q, rfl, h1, h2⟩ := decomp f x
  have hk : 0 < k := by
    apply Nat.pos_of_ne_zero; intro h0; subst h0; omega
  obtain ⟨j, rfl⟩ : ∃ j, k = j + 1 := ⟨k - 1, by omega⟩
  have e : (j + 1) * 2 ^ (f.p - 1) + q - 2 ^ (f.p - 1) = j * 2 ^ (f.p - 1) + q := by
    rw [Nat.succ_mul]; omega
  rw [e, ival_kq f j q (fun _ => h1 (by omega)) (by omega), ival_kq f (j + 1) q h1 (by omega), Nat.pow_succ]
  ac_rfl

theorem fdiv_le_half {f : Fmt} (hf : WF f) {x y b : Nat} (hx : 2 * 2 ^ (f.p - 1) ≤ x) (hxi : x ≤ f.infBits)
    (hy : y ≤ x) (hb : 2 * unit f ≤ RoundNE.ival f b) : fdiv f y b ≤ x - 2 ^ (f.p - 1) := by
  have hT := Nat.two_pow_pos (f.p - 1)
  have hh := ival_half f hx
  have e : roundNE f (RoundNE.ival f x) (2 * unit f) = x - 2 ^ (f.p - 1) := by
    apply roundNE_of_ival hf (by omega) (by have := unit_pos f; omega)
    rw [← hh, unit_eq]; ac_rfl
  rw [← e, fdiv_eq]
  apply roundNE_mono' hf (by have := unit_pos f; omega) (by have := unit_pos f; omega)
  exact Nat.mul_le_mul (ival_mono f hy) hb

theorem sub_T_div (T x : Nat) (hT : 0 < T) (hx : T ≤ x) : (x - T) / T + 1 = x / T := by
  have := Nat.add_div_right (x - T) hT
  rw [Nat.sub_add_cancel hx] at this
  omega

theorem ofNat_two {f : Fmt} (h : FOK f) : ofNat f 2 = (f.bias + 1) * 2 ^ (f.p - 1) := by
  have hT2 := two_le_two_pow h.wf
  apply ival_inj f
  rw [(ofNat_ival h (n := 2) (by omega)).1, ival_pow_two h.wf 1, Nat.pow_one]

theorem le_of_exponent_pos {f : Fmt} (h : FOK f) {y : Nat} (hy : 0 < exponent f y) :
    (f.bias + f.p) * 2 ^ (f.p - 1) ≤ y := by
  apply Nat.le_of_not_lt; intro hlt
  have := exponent_le_zero h hlt (lt_two_pow_p_finite h hlt)
  omega

theorem fdiv_le_self {f : Fmt} (hf : WF f) {x b : Nat} (hb : unit f ≤ RoundNE.ival f b) : fdiv f x b ≤ x := by
  have hu := unit_pos f
  rw [fdiv_eq]
  exact roundNE_le_of_le hf (Nat.lt_of_lt_of_le hu hb) (Nat.mul_le_mul_left _ hb)

theorem fsub_le_self {f : Fmt} (hf : WF f) {x b : Nat} : fsub f x b ≤ x := by
  rw [fsub_eq]
  exact roundNE_le_of_le hf (unit_pos f) (Nat.mul_le_mul_right _ (Nat.sub_le _ _))

/-- what `generate` passes to the integer loops is at most `+∞`, whatever the pattern -/
theorem carried_le {f : Fmt} (hf : WF f) (c : Bool) (bits : Nat) :
    (if c = true then fadd f (ffloor f bits) (one f) else ffloor f bits) ≤ f.infBits := by
  split
  · rw [fadd_eq]; exact roundNE_le_infBits hf _ (unit_pos f)
  · exact roundNE_le_infBits hf _ Nat.one_pos

/-- `integer` after `n` zero-padding steps `integer /= base` -/
def padIter (f : Fmt) (r : Nat) : Nat → Nat → Nat
  | 0, y => y
  | n + 1, y => padIter f r n (fdiv f y (ofNat f r))

theorem padIter_succ' (f : Fmt) (r : Nat) : ∀ (n y : Nat),
    padIter f r (n + 1) y = fdiv f (padIter f r n y) (ofNat f r)
  | 0, _ => rfl
  | n + 1, y => by
    show padIter f r (n + 1) (fdiv f y (ofNat f r)) = _
    rw [padIter_succ' f r n]; rfl

/-- digit and next `integer` of one step of the digit loop -/
def stepDigit (f : Fmt) (r w : Nat) : Nat := asU32 f (fmod f w (ofNat f r))
def stepQuot (f : Fmt) (r w : Nat) : Nat := fdiv f (fsub f w (fmod f w (ofNat f r))) (ofNat f r)

theorem digitLoop_succ (f : Fmt) (r fuel w : Nat) (acc : List Nat) :
    digitLoop f r (ofNat f r) (fuel + 1) w acc =
      if stepQuot f r w = 0 then .ok (digitToCharConst (stepDigit f r w) r :: acc)
      else digitLoop f r (ofNat f r) fuel (stepQuot f r w) (digitToCharConst (stepDigit f r w) r :: acc) := rfl

section
variable {f : Fmt} (h : FOK f) {r : Nat} (hr : 2 ≤ r) (hrp : r < 2 * 2 ^ (f.p - 1))
include h hr hrp

omit hr in
theorem asU32_fmod_lt (hr0 : 0 < r) (a : Nat) : asU32 f (fmod f a (ofNat f r)) < r := by
  obtain ⟨hrv, hrf⟩ := ofNat_ival h hrp
  have hpos : 0 < r * unit f := Nat.mul_pos hr0 (unit_pos f)
  have hv := (fmod_exact h.wf a hrf (by rw [hrv]; exact Nat.ne_of_gt hpos)).1
  unfold asU32
  rw [ival_eq, hv, hrv]
  have : RoundNE.ival f a % (r * unit f) / unit f < r :=
    (Nat.div_lt_iff_lt_mul (unit_pos f)).mpr (Nat.mod_lt _ hpos)
  omega

theorem pad_step {x : Nat} (hxi : x ≤ f.infBits) (hpos : 0 < exponent f (fdiv f x (ofNat f r))) :
    (f.bias + f.p) * 2 ^ (f.p - 1) ≤ fdiv f x (ofNat f r) ∧ fdiv f x (ofNat f r) ≤ x ∧
      fdiv f x (ofNat f r) / 2 ^ (f.p - 1) + 1 ≤ x / 2 ^ (f.p - 1) ∧
      f.bias + f.p ≤ fdiv f x (ofNat f r) / 2 ^ (f.p - 1) := by
  have hT := Nat.two_pow_pos (f.p - 1)
  have hb2 := base_ge h hr hrp
  have hge := le_of_exponent_pos h hpos
  have hself := fdiv_le_self h.wf (x := x) (b := ofNat f r) (by omega)
  have hp := h.wf.hp
  have hx2 : 2 * 2 ^ (f.p - 1) ≤ x := by
    have : 2 * 2 ^ (f.p - 1) ≤ (f.bias + f.p) * 2 ^ (f.p - 1) := Nat.mul_le_mul_right _ (by omega)
    omega
  have hhalf := fdiv_le_half h.wf hx2 hxi (Nat.le_refl x) hb2
  have hd1 := sub_T_div _ x hT (by omega)
  have hd2 : fdiv f x (ofNat f r) / 2 ^ (f.p - 1) ≤ (x - 2 ^ (f.p - 1)) / 2 ^ (f.p - 1) :=
    Nat.div_le_div_right hhalf
  exact ⟨hge, hself, by omega, by rw [Nat.le_div_iff_mul_le hT]; exact hge⟩

theorem padIter_le (y : Nat) : ∀ n, padIter f r n y ≤ y
  | 0 => Nat.le_refl _
  | n + 1 => by
    rw [padIter_succ']
    exact Nat.le_trans (fdiv_le_self h.wf (by have := base_ge h hr hrp; have := unit_pos f; omega)) (padIter_le y n)

/-- the fuel hypothesis lets the exponent field come down to `bias + p`; `z` steps are taken, as many as the quotient by
the base stays `≥ 2^p` -/
theorem padLoop_eq : ∀ (fuel x : Nat) (acc : List Nat), x ≤ f.infBits →
    x / 2 ^ (f.p - 1) ≤ fuel + (f.bias + f.p) →
    ∃ z, z ≤ x / 2 ^ (f.p - 1) - (f.bias + f.p) ∧
      padLoop f (ofNat f r) fuel x acc = .ok (padIter f r z x, List.replicate z 48 ++ acc, fuel - z) ∧
      (∀ i, i < z → (f.bias + f.p) * 2 ^ (f.p - 1) ≤ padIter f r (i + 1) x) ∧
      exponent f (fdiv f (padIter f r z x) (ofNat f r)) ≤ 0 ∧ padIter f r z x ≤ x := by
  intro fuel
  induction fuel with
  | zero =>
    intro x acc hxi hm
    have hstop : ¬ 0 < exponent f (fdiv f x (ofNat f r)) := fun hpos => by
      have := pad_step h hr hrp hxi hpos; omega
    exact ⟨0, Nat.zero_le _, by unfold padLoop; rw [if_neg hstop]; rfl, fun i hi => absurd hi (Nat.not_lt_zero i),
      Int.not_lt.mp hstop, Nat.le_refl _⟩
  | succ fuel ih =>
    intro x acc hxi hm
    by_cases hpos : 0 < exponent f (fdiv f x (ofNat f r))
    · obtain ⟨hge, hself, hdrop, _⟩ := pad_step h hr hrp hxi hpos
      obtain ⟨z, hz, hrun, hno, hex, hle⟩ := ih (fdiv f x (ofNat f r)) (48 :: acc) (Nat.le_trans hself hxi) (by omega)
      refine ⟨z + 1, by omega, ?_, fun i hi => ?_, hex, Nat.le_trans hle hself⟩
      · unfold padLoop
        rw [if_pos hpos, hrun, List.replicate_succ', List.append_assoc, Nat.add_sub_add_right]
        rfl
      · rcases i with _ | i
        · exact hge
        · exact hno i (by omega)
    · exact ⟨0, Nat.zero_le _, by unfold padLoop; rw [if_neg hpos]; rfl, fun i hi => absurd hi (Nat.not_lt_zero i),
        Int.not_lt.mp hpos, Nat.le_refl _⟩

theorem fdiv_lt_infBits {w : Nat} (hw : w ≤ f.infBits) : fdiv f w (ofNat f r) < f.infBits := by
  have hT := Nat.two_pow_pos (f.p - 1)
  have hM := M_eq h.wf
  have hb := bias_pos h.wf
  have h2 : 2 * 2 ^ (f.p - 1) ≤ f.infBits := by rw [infBits_eq]; exact Nat.mul_le_mul_right _ (by omega)
  have := fdiv_le_half h.wf h2 (Nat.le_refl _) hw (base_ge h hr hrp)
  omega

/-- one step, which may round, then the exact loop of `digitLoop_floor` on a float below `2^p` -/
theorem digitLoop_first (hr36 : r ≤ 36) {fl w : Nat} (acc : List Nat) (hfl : f.p ≤ fl) (hw : w ≤ f.infBits)
    (hexp : exponent f (fdiv f w (ofNat f r)) ≤ 0) :
    stepDigit f r w < r ∧ stepQuot f r w < (f.bias + f.p) * 2 ^ (f.p - 1) ∧
    digitLoop f r (ofNat f r) (fl + 1) w acc = .ok
      ((if stepQuot f r w = 0 then []
        else (toDigits r (RoundNE.ival f (stepQuot f r w) / unit f)).map digitChar)
        ++ digitChar (stepDigit f r w) :: acc) := by
  have hu := unit_pos f
  have hr0 : 0 < r := by omega
  have hd0 : stepDigit f r w < r := asU32_fmod_lt h hrp hr0 w
  have hrv := (ofNat_ival h hrp).1
  have hq1le : stepQuot f r w ≤ fdiv f w (ofNat f r) := by
    rw [stepQuot, fdiv_eq, fdiv_eq]
    exact roundNE_mono' h.wf (by rw [hrv]; exact Nat.mul_pos hr0 hu) (by rw [hrv]; exact Nat.mul_pos hr0 hu)
      (Nat.mul_le_mul_right _ (ival_mono f (fsub_le_self h.wf)))
  have hq1 : stepQuot f r w < (f.bias + f.p) * 2 ^ (f.p - 1) := by
    have := (exponent_pos_iff h (fdiv_lt_infBits h hr hrp hw)).mpr
    omega
  refine ⟨hd0, hq1, ?_⟩
  rw [digitLoop_succ, WriteRadixInteger.digitToCharConst_eq hd0 hr36]
  by_cases hq0 : stepQuot f r w = 0
  · rw [if_pos hq0, if_pos hq0]; rfl
  · have hp := h.wf.hp
    have hI : RoundNE.ival f (stepQuot f r w) / unit f < 2 ^ fl := by
      rw [Nat.div_lt_iff_lt_mul hu]
      calc RoundNE.ival f (stepQuot f r w) < 2 * 2 ^ (f.p - 1) * unit f := by
            rw [← ival_two_pow_p h]; exact ival_strictMono f hq1
        _ ≤ 2 ^ fl * unit f := by
          rw [← two_pow_P h.wf]
          exact Nat.mul_le_mul_right _ (Nat.pow_le_pow_right (by decide) hfl)
    rw [if_neg hq0, if_neg hq0, WriteRadixInteger.digitLoop_floor h hr hr36 hrp fl _ _ (by omega) hq1 hI]

theorem genInteger_eq (hr36 : r ≤ 36) (hB : f.bias + 2 ≤ halfSize) {x : Nat} (hxi : x ≤ f.infBits) :
    ∃ z, z + f.p ≤ f.bias + 1 ∧
      (∀ i, i < z → (f.bias + f.p) * 2 ^ (f.p - 1) ≤ padIter f r (i + 1) x) ∧
      exponent f (fdiv f (padIter f r z x) (ofNat f r)) ≤ 0 ∧ padIter f r z x ≤ x ∧
      stepDigit f r (padIter f r z x) < r ∧ stepQuot f r (padIter f r z x) < (f.bias + f.p) * 2 ^ (f.p - 1) ∧
      genInteger f r x = .ok
        ((if stepQuot f r (padIter f r z x) = 0 then []
          else (toDigits r (RoundNE.ival f (stepQuot f r (padIter f r z x)) / unit f)).map digitChar)
          ++ digitChar (stepDigit f r (padIter f r z x)) :: List.replicate z 48) := by
  have hT := Nat.two_pow_pos (f.p - 1)
  have hdiv : x / 2 ^ (f.p - 1) ≤ f.maxExpField := by
    rw [Nat.div_le_iff_le_mul_add_pred hT, Nat.mul_comm, ← infBits_eq]; omega
  have hM := M_eq h.wf
  have hp := h.wf.hp
  have hpb := h.hb
  obtain ⟨z, hz, hrun, hno, hex, hle⟩ := padLoop_eq h hr hrp halfSize x [] hxi (by omega)
  obtain ⟨fl, hfl, hflp⟩ : ∃ fl, halfSize - z = fl + 1 ∧ f.p ≤ fl := ⟨halfSize - z - 1, by omega, by omega⟩
  obtain ⟨hd0, hq1, hdl⟩ := digitLoop_first h hr hrp hr36 (List.replicate z 48 ++ []) hflp (Nat.le_trans hle hxi) hex
  refine ⟨z, by omega, hno, hex, hle, hd0, hq1, ?_⟩
  rw [List.append_nil] at hrun hdl
  unfold genInteger
  simp only [hrun, Res.bind, hfl, hdl]

theorem genInteger_total (hr36 : r ≤ 36) (hB : f.bias + 2 ≤ halfSize) {x : Nat} (hxi : x ≤ f.infBits) :
    ∃ ints, genInteger f r x = .ok ints ∧ ints.length ≤ f.bias + 2 := by
  have hp := h.wf.hp
  obtain ⟨z, hz, _, _, _, _, hq1, hgi⟩ := genInteger_eq h hr hrp hr36 hB hxi
  refine ⟨_, hgi, ?_⟩
  have hlen : (toDigits r (RoundNE.ival f (stepQuot f r (padIter f r z x)) / unit f)).length ≤ f.p := by
    apply toDigits_length_le _ _ f.p hr (by omega)
    rw [Nat.div_lt_iff_lt_mul (unit_pos f)]
    calc _ < 2 * 2 ^ (f.p - 1) * unit f := by rw [← ival_two_pow_p h]; exact ival_strictMono f hq1
      _ ≤ r ^ f.p * unit f := by
        rw [← two_pow_P h.wf]; exact Nat.mul_le_mul_right _ (Nat.pow_le_pow_left hr _)
  simp only [List.length_append, List.length_cons, List.length_replicate]
  split
  · simp only [List.length_nil]; omega
  · simp only [List.length_map]; omega

theorem generate_total (cf : Bool) (hL : L f ≤ halfSize) (hB : f.bias + 2 ≤ halfSize) (hr36 : r ≤ 36) {bits : Nat}
    (hb : bits < f.infBits) : ∃ g, generate cf f r bits = .ok g ∧ g.ints.length ≤ f.bias + 2 := by
  obtain ⟨x, hx⟩ := genFraction_total cf h hL hr hr36 hrp hb
  obtain ⟨ints, hints, hl⟩ := genInteger_total h hr hrp hr36 hB (carried_le h.wf x.2.2 bits)
  exact ⟨⟨ints, x.1, x.2.1⟩, by unfold generate; simp only [hx, Res.bind, hints], hl⟩

end

end LexVerif.Proof.WriteRadixTermInt
