import LexVerif.Proof.GrammarSpecial
import LexVerif.Proof.Validity
import LexVerif.Proof.GrammarComplete
/-!
# Proof.GrammarMain — `parse_complete` (syntax layer) against `Spec.Grammar.grammarFloatSyn`

`parseFloatSyntax_grammar`: inputs with something after the optional sign. The class `(splitSign s).2 = []` (empty input,
bare `+` / `-`) is left out there because of the finding `finding_empty_input` (formats that require neither integer nor
mantissa digits accept `""` and a bare sign); when the format requires integer or mantissa digits — every format when the
`format` feature is off, STANDARD, … — model and grammar agree on it, both reject: `parseFloatSyntax_emptybody`.
`OptionsBuilder::build` (`optionsError o = none`) gives the two hypotheses on the special strings: `SpecialsWF o`
(non-empty, NaN starts with `N`/`n` and the infinities with `I`/`i`, `inf` not longer than `infinity`) and
`LettersOnly o`.
-/
namespace LexVerif.Proof.Grammar
open LexVerif LexVerif.Spec LexVerif.Model

theorem isConsumed_spec {c : Cfg} (b : Bytes) (hn : Sep.NoSep c b.slc) (hk : c.skip .integer ≠ .unreachable)
    (hv : b.index ≤ b.slc.length) : isConsumed c .integer b = .ok ((tl b).isEmpty, b) := by
  have hiff : (tl b).isEmpty = decide (b.index ≥ b.slc.length) := by
    have := tl_length b
    cases h : tl b with
    | nil => rw [h] at this; simp at this; simp; omega
    | cons x xs => rw [h] at this; simp at this; simp; omega
  rw [Sep.isConsumed_nosep c .integer b hn hk]
  split
  · simp [Bytes.isBufferEmpty, hiff]
  · rw [← tl_head]
    cases tl b <;> rfl

/-- the verdict of the model's complete parser, in the grammar's terms -/
inductive Verdict (c : Cfg) (o : POpts) (s : List Nat) : Parsed → Prop
  | number (n : Number) (P : Parts) (hP : P = splitNumber (cfgSyn c) o (splitSign s).1 (splitSign s).2)
      (hok : numberOk (cfgSyn c) P = true)
      (hn : NumberIs n ((splitSign s).1 == some true) ((splitSign s).2.take P.ints.length)
        (if P.point = true then some ((((splitSign s).2.drop P.ints.length).drop 1).take P.fracs.length) else none)
        (if P.hasExp = true then expValue c.exponentRadix P.expSign P.exps else 0)) :
      Verdict c o s (.number n s.length)
  | special (t : Bool)
      (hno : numberOk (cfgSyn c) (splitNumber (cfgSyn c) o (splitSign s).1 (splitSign s).2) = false)
      (hsg : signOk (cfgSyn c).noPosMant (cfgSyn c).reqMantSign (splitSign s).1 = true)
      (hsp : specialOf (cfgSyn c) o (splitSign s).2 = some t) :
      Verdict c o s (.special (if t then .nan else .inf) ((splitSign s).1 == some true) s.length)

theorem grammarFloatSyn_ne_nil (c : Cfg) (o : POpts) (s : List Nat) (hs : s ≠ []) :
    grammarFloatSyn (cfgSyn c) o s =
      (if numberOk (cfgSyn c) (splitNumber (cfgSyn c) o (splitSign s).1 (splitSign s).2) = true then
        .num ((splitNumber (cfgSyn c) o (splitSign s).1 (splitSign s).2).lit (cfgSyn c)) s.length
       else if signOk (cfgSyn c).noPosMant (cfgSyn c).reqMantSign (splitSign s).1 = true then
        (match specialOf (cfgSyn c) o (splitSign s).2 with
          | some true => .nan s.length
          | some false => .inf ((splitSign s).1 == some true) s.length
          | none => .err)
       else .err) := by
  unfold grammarFloatSyn
  have : s.isEmpty = false := by cases s <;> simp_all
  simp only [this, Bool.false_eq_true, if_false]
  rfl

theorem Verdict.grammar {c : Cfg} {o : POpts} {s : List Nat} {p : Parsed} (h : Verdict c o s p) (hs : s ≠ []) :
    grammarFloatComplete c.feats c.fmt o s =
      (match p with
        | .number _ _ => .num ((splitNumber (cfgSyn c) o (splitSign s).1 (splitSign s).2).lit (cfgSyn c)) s.length
        | .special .nan _ _ => .nan s.length
        | .special .inf neg _ => .inf neg s.length
        | .zero _ => .err) := by
  show grammarFloatSyn (cfgSyn c) o s = _
  rw [grammarFloatSyn_ne_nil c o s hs]
  cases h with
  | number n P hP hok hn => subst hP; rw [if_pos hok]
  | special t hno hsg hsp =>
    simp only [hno, Bool.false_eq_true, if_false, hsg, if_true, hsp]
    cases t <;> rfl

/-- **Model vs grammar, complete parse, prefix-free format, input without the separator byte, something after the
sign.**
Accepted ⇒ the grammar derives the input with the same sign / digits and the exponent as the implementation accumulates it
(`expValue`, saturating) (or the same special);
rejected with a proper error ⇒ the grammar rejects. (Panic / fault exits: C10.) -/
theorem parseFloatSyntax_grammar {c : Cfg} (o : POpts) (wf : SpecialsWF o) (hlet : LettersOnly o)
    (s : List Nat) (hs : StdIn c s) (fv : Bool) (hbody : (splitSign s).2 ≠ []) :
    (∀ p, parseFloatSyntax c o false s fv = .ok p → Verdict c o s p) ∧
    (∀ k i, parseFloatSyntax c o false s fv = .error (.err k i) → grammarFloatSyn (cfgSyn c) o s = .err) := by
  -- along `parse_complete`: the sign (`parseSign_spec`), the number (`parseCompleteNumber_sound`) and, when the number
  -- is rejected, the special values (`parseSpecialComplete_grammar`)
  have hs_ne : s ≠ [] := by
    intro h; subst h; exact hbody rfl
  have htl0 : tl (Bytes.new s) = s := by simp [tl, Bytes.new]
  obtain ⟨hsg1, hsg2⟩ := parseSign_spec (c := c) hs.rel.debug c.noPositiveMantissaSign c.requiredMantissaSign
    "InvalidPositiveSign" "MissingSign" (Bytes.new s) (by simp [Bytes.new])
  rw [htl0] at hsg1 hsg2
  have hgram := grammarFloatSyn_ne_nil c o s hs_ne
  unfold parseFloatSyntax parseMantissaSign
  cases hso : signOk c.noPositiveMantissaSign c.requiredMantissaSign (splitSign s).1 with
  | false =>
    obtain ⟨k, i, he⟩ := hsg1 hso
    simp only [he, bind, Except.bind]
    refine ⟨fun p hp => (by cases hp), fun _ _ _ => ?_⟩
    have hsn : (splitNumber (cfgSyn c) o (splitSign s).1 (splitSign s).2).sign = (splitSign s).1 := rfl
    rw [hgram, numberOk_eq, syn_noPosMant, syn_reqMantSign, hsn, hso]
    simp
  | true =>
    obtain ⟨b1, he, hat⟩ := hsg2 hso
    have hv1 := hat.valid
    have htl1 := hat.tl
    have hs1 : StdIn c b1.slc := hs.at hat
    have hcons : (tl b1).isEmpty = false := by
      rw [htl1]; cases h : (splitSign s).2 with
      | nil => exact absurd h hbody
      | cons _ _ => rfl
    simp only [he, bind, Except.bind, isConsumed_spec b1 hs1.nosep (hs.rel.reach _) hv1, hcons, Bool.false_eq_true, if_false]
    have hc := parseCompleteNumber_sound o b1 ((splitSign s).1 == some true) fv (splitSign s).1 hs1 hv1
    rw [htl1] at hc
    have hnum : numberOk (cfgSyn c) (splitNumber (cfgSyn c) o (splitSign s).1 (splitSign s).2) =
        ((splitNumber (cfgSyn c) o (splitSign s).1 (splitSign s).2).rest.isEmpty &&
          bodyOk (cfgSyn c) (splitNumber (cfgSyn c) o (splitSign s).1 (splitSign s).2)) := by
      rw [numberOk_eq, syn_noPosMant, syn_reqMantSign]
      have : (splitNumber (cfgSyn c) o (splitSign s).1 (splitSign s).2).sign = (splitSign s).1 := rfl
      rw [this, hso, Bool.and_true]
    cases hres : parseCompleteNumber c o b1 ((splitSign s).1 == some true) fv with
    | ok n =>
      obtain ⟨hok, hni⟩ := hc.of_eq_ok hres
      simp only [pure, Except.pure]
      refine ⟨fun p hp => ?_, fun k i hh => by cases hh⟩
      simp only [Except.ok.injEq] at hp
      subst hp
      exact Verdict.number n _ rfl (by rw [hnum]; exact hok) hni
    | error e =>
      cases e with
      | err k i =>
        have hno := hc.of_eq_error hres trivial
        rw [← hnum] at hno
        have hsp := parseSpecialComplete_grammar o wf hlet b1 hs1.nosep hv1 (by rw [htl1]; exact hbody)
        rw [htl1] at hsp
        simp only [hsp]
        cases hspo : specialOf (cfgSyn c) o (splitSign s).2 with
        | none =>
          simp only [specialOfBool]
          refine ⟨fun p hp => (by cases hp), fun _ _ _ => ?_⟩
          rw [hgram, hno, hspo]
          simp
        | some t =>
          have hsgy : signOk (cfgSyn c).noPosMant (cfgSyn c).reqMantSign (splitSign s).1 = true := by
            rw [syn_noPosMant, syn_reqMantSign]; exact hso
          refine ⟨fun p hp => ?_, fun k' i' hh => ?_⟩
          · cases t <;> simp only [specialOfBool, pure, Except.pure, Except.ok.injEq] at hp <;> subst hp
            · exact Verdict.special false hno hsgy hspo
            · exact Verdict.special true hno hsgy hspo
          · cases t <;> simp [specialOfBool, pure, Except.pure] at hh
      | panic t => exact ⟨fun p hp => (by cases hp), fun k i hh => by cases hh⟩
      | fault t => exact ⟨fun p hp => (by cases hp), fun k i hh => by cases hh⟩

theorem numberOk_nil (y : Syn) (o : POpts) (sign : Option Bool) (hreq : (y.reqInt || y.reqMant) = true) :
    numberOk y (splitNumber y o sign []) = false := by
  have hP : splitNumber y o sign [] = ⟨sign, false, [], false, [], false, none, [], false, []⟩ := by
    simp [splitNumber, splitPrefix, takeDigits, splitFraction, splitExponent, splitSuffix]
  rw [hP]
  simp only [numberOk, List.isEmpty_nil, Bool.and_true]
  cases hi : y.reqInt <;> cases hm : y.reqMant <;> simp_all

/-- **Empty input / bare sign, integer or mantissa digits required**: the complete parser reports an `Error` and the
grammar rejects (release build, input without the separator byte). -/
theorem parseFloatSyntax_emptybody {c : Cfg} (hd : c.debug = false) (hk : c.skip .integer ≠ .unreachable)
    (o : POpts) (wf : SpecialsWF o) (s : List Nat) (hn : Sep.NoSep c s) (fv : Bool)
    (hbody : (splitSign s).2 = []) (hreq : (c.requiredIntegerDigits || c.requiredMantissaDigits) = true) :
    (∃ k i, parseFloatSyntax c o false s fv = .error (.err k i)) ∧ grammarFloatSyn (cfgSyn c) o s = .err := by
  have hreq2 : ((cfgSyn c).reqInt || (cfgSyn c).reqMant) = true := by rw [syn_reqInt, syn_reqMant]; exact hreq
  constructor
  · have htl0 : tl (Bytes.new s) = s := by simp [tl, Bytes.new]
    obtain ⟨hsg1, hsg2⟩ := parseSign_spec (c := c) hd c.noPositiveMantissaSign c.requiredMantissaSign
      "InvalidPositiveSign" "MissingSign" (Bytes.new s) (by simp [Bytes.new])
    rw [htl0] at hsg1 hsg2
    unfold parseFloatSyntax parseMantissaSign
    cases hso : signOk c.noPositiveMantissaSign c.requiredMantissaSign (splitSign s).1 with
    | false =>
      obtain ⟨k, i, he⟩ := hsg1 hso
      exact ⟨k, i, by simp only [he, bind, Except.bind]⟩
    | true =>
      obtain ⟨b1, he, hat⟩ := hsg2 hso
      have hv1 := hat.valid
      have htl1 := hat.tl
      have hcons : (tl b1).isEmpty = true := by rw [htl1, hbody]; rfl
      refine ⟨"Empty", b1.index, ?_⟩
      simp only [he, bind, Except.bind, isConsumed_spec b1 (by rw [hat.slc]; exact hn) hk hv1, hcons, if_true, hreq]
  · unfold grammarFloatSyn
    split
    · rfl
    · simp only [hbody, numberOk_nil _ o _ hreq2, Bool.false_eq_true, if_false, specialOf_nil _ o wf]
      split <;> rfl

/-- non-vacuity: STANDARD requires mantissa digits; `-` is rejected by both sides -/
example : (Cfg.requiredIntegerDigits ⟨{}, Format.standard, false⟩ || Cfg.requiredMantissaDigits ⟨{}, Format.standard, false⟩)
    = true ∧ (splitSign [45]).2 = [] := by decide

theorem eqUncased_NI (a b : Nat) (ha : a = 78 ∨ a = 110) (hb : b = 73 ∨ b = 105) : eqUncased a b = false := by
  rcases ha with rfl | rfl <;> rcases hb with rfl | rfl <;> decide

theorem specialsWF_of_optionsError (o : POpts) (h : optionsError o = none) : SpecialsWF o := by
  have v := (Validity.optionsError_none_iff o).mp h
  refine ⟨fun e => (v.nan e).ne_nil rfl, fun e => (v.inf e).ne_nil rfl, fun e => (v.infinity e).ne_nil rfl, ?_,
    fun a b ha hb => v.inf_le ha hb⟩
  intro a as b bs h1 h2
  refine eqUncased_NI a b (by simpa using (v.nan h1).head) ?_
  rcases h2 with h2 | h2
  · simpa using (v.inf h2).head
  · simpa using (v.infinity h2).head

theorem lettersOnly_of_optionsError (o : POpts) (h : optionsError o = none) : LettersOnly o := by
  intro t ht y hy
  have : Letter y := ((Validity.optionsError_none_iff o).mp h).letters ht y hy
  simpa [Model.isValidLetter, Letter] using this

/-- non-vacuity: the default options pass the builder -/
example : optionsError {} = none := by decide

end LexVerif.Proof.Grammar
