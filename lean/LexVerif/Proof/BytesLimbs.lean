import LexVerif.Proof.SlowLimbs
import Mathlib.Tactic.Ring
/-!
# Proof.BytesLimbs — the limb-level big-integer operations `byte_comp` uses, specified by the numbers they denote

For **normalised** vectors (64-bit limbs, non-zero top limb; `Proof.SlowLimbs.Normalized`) every operation returns a
normalised vector denoting the expected number, and fails exactly when that number does not fit the capacity (`Computes`
and `pushCarry` of `Proof.SlowLimbs`):
`small_mul` (`smallMulL_spec`), `compare` (`compareL_spec`), `shl_bits` / `shl` (`shlL_refines`: they refine the value-level
`shl`, whence `shlL_spec`), `large_quorem`
(`largeQuoremL_spec`: the single-limb quotient estimate plus one correction is the true quotient when the divisor's top limb
is large enough). `long_mul`, `large_mul` and `pow` follow in `Proof.BytesMul`.
-/
namespace LexVerif.Proof.Slow
open LexVerif.Spec LexVerif.Model LexVerif.Model.Slow LexVerif.Proof.RoundNE

theorem B64_eq : B64 = 2 ^ 64 := rfl

theorem limbsOk_nil : LimbsOk [] := fun _ h => by simp at h
theorem normalized_nil : Normalized [] := ⟨limbsOk_nil, fun l h => by simp at h⟩

theorem limbsOk_cons {a : Nat} {as : Limbs} : LimbsOk (a :: as) ↔ a < B64 ∧ LimbsOk as := by
  unfold LimbsOk
  constructor
  · intro h; exact ⟨h a (List.mem_cons_self ..), fun l hl => h l (List.mem_cons_of_mem _ hl)⟩
  · intro ⟨h1, h2⟩ l hl
    rcases List.mem_cons.mp hl with h | h
    · rw [h]; exact h1
    · exact h2 l h

theorem valL_pos {x : Limbs} (h : Normalized x) (hne : x ≠ []) : 0 < valL x :=
  Nat.lt_of_lt_of_le (Nat.pow_pos B64_pos) (valL_ge h hne)

theorem valL_eq_zero {x : Limbs} (h : Normalized x) : valL x = 0 ↔ x = [] := by
  constructor
  · intro h0
    apply Classical.byContradiction; intro hne
    have := valL_pos h hne; omega
  · intro h0; subst h0; rfl

theorem valL_lt_of_length_lt {x y : Limbs} (ox : LimbsOk x) (hy : Normalized y) (h : x.length < y.length) :
    valL x < valL y :=
  Nat.lt_of_lt_of_le (valL_lt ox) (Nat.le_trans (Nat.pow_le_pow_right B64_pos (Nat.le_sub_one_of_lt h))
    (valL_ge hy (List.ne_nil_of_length_pos (Nat.zero_lt_of_lt h))))

theorem normalized_length_le {x y : Limbs} (hx : Normalized x) (hy : Normalized y) (h : valL x ≤ valL y) :
    x.length ≤ y.length :=
  Nat.le_of_not_lt fun hlt => Nat.lt_irrefl _ (Nat.lt_of_le_of_lt h (valL_lt_of_length_lt hy.1 hx hlt))

theorem ne_nil_of_valL_pos {x : Limbs} (h : 0 < valL x) : x ≠ [] := by
  intro h0
  rw [h0] at h
  exact Nat.lt_irrefl 0 h

theorem smallMulL_spec {cap : Nat} {x : Limbs} (h : Normalized x) (hlen : x.length ≤ cap) {y : Nat} (hy0 : y ≠ 0)
    (hy : y < B64) :
    (∀ z, smallMulL cap x y = some z → Normalized z ∧ valL z = valL x * y) ∧
    (valL x * y < B64 ^ cap → ∃ z, smallMulL cap x y = some z) :=
  Computes.mono (smallMulL_full h hlen hy0 hy) fun _ c => ⟨c.1, c.2.1⟩

theorem eq_nil_or_snoc (l : Limbs) : l = [] ∨ ∃ l' b, l = l' ++ [b] := by
  rcases List.eq_nil_or_concat l with h | ⟨l', b, h⟩
  · exact Or.inl h
  · exact Or.inr ⟨l', b, by rw [h, List.concat_eq_append]⟩

theorem cmp_lt {a b : Nat} (h : a < b) : compare a b = .lt := Nat.compare_eq_lt.mpr h
theorem cmp_gt {a b : Nat} (h : b < a) : compare a b = .gt := Nat.compare_eq_gt.mpr h
theorem cmp_eq {a b : Nat} (h : a = b) : compare a b = .eq := Nat.compare_eq_eq.mpr h

theorem cmp_add_right (a b c : Nat) : compare (a + c) (b + c) = compare a b := by
  rcases Nat.lt_trichotomy a b with h | h | h
  · rw [cmp_lt h, cmp_lt (by omega)]
  · rw [cmp_eq h, cmp_eq (by omega)]
  · rw [cmp_gt h, cmp_gt (by omega)]

theorem cmp_top {Bn x y : Nat} (hx : x < Bn) (hy : y < Bn) (a b : Nat) :
    compare (x + Bn * a) (y + Bn * b) = (compare a b).then (compare x y) := by
  rcases Nat.lt_trichotomy a b with hab | hab | hab
  · have : Bn * (a + 1) ≤ Bn * b := Nat.mul_le_mul_left _ hab
    rw [Nat.mul_add, Nat.mul_one] at this
    rw [cmp_lt hab, cmp_lt (by omega)]
    rfl
  · rw [hab, cmp_eq rfl, cmp_add_right]
    rfl
  · have : Bn * (b + 1) ≤ Bn * a := Nat.mul_le_mul_left _ hab
    rw [Nat.mul_add, Nat.mul_one] at this
    rw [cmp_gt hab, cmp_gt (by omega)]
    rfl

theorem compareTop_cons (a b : Nat) (xs ys : Limbs) :
    compareTop (a :: xs) (b :: ys) = (compare a b).then (compareTop xs ys) := by
  show (match compare a b with | .eq => compareTop xs ys | o => o) = _
  cases compare a b <;> rfl

theorem compareTop_spec : ∀ (n : Nat) (xs ys : Limbs), xs.length = n → ys.length = n → LimbsOk xs → LimbsOk ys →
    compareTop xs.reverse ys.reverse = compare (valL xs) (valL ys)
  | 0, xs, ys, hx, hy, _, _ => by
    have := List.eq_nil_of_length_eq_zero hx
    have := List.eq_nil_of_length_eq_zero hy
    subst_vars
    simp [compareTop, valL]
  | n + 1, xs, ys, hx, hy, ox, oy => by
    rcases eq_nil_or_snoc xs with h | ⟨xs', a, rfl⟩
    · subst h; simp at hx
    rcases eq_nil_or_snoc ys with h | ⟨ys', b, rfl⟩
    · subst h; simp at hy
    simp only [List.length_append, List.length_singleton, Nat.add_right_cancel_iff] at hx hy
    have ox' := (limbsOk_append.mp ox).1
    have oy' := (limbsOk_append.mp oy).1
    have lx := valL_lt ox'
    have ly := valL_lt oy'
    rw [hx] at lx
    rw [hy] at ly
    rw [List.reverse_append, List.reverse_append, List.reverse_singleton, List.reverse_singleton, List.singleton_append,
      List.singleton_append, compareTop_cons, compareTop_spec n xs' ys' hx hy ox' oy', valL_append, valL_append, hx, hy,
      cmp_top lx ly]

theorem compareL_spec {x y : Limbs} (hx : Normalized x) (hy : Normalized y) :
    compareL x y = compare (valL x) (valL y) := by
  unfold compareL
  rcases Nat.lt_trichotomy x.length y.length with h | h | h
  · rw [cmp_lt h, cmp_lt (valL_lt_of_length_lt hx.1 hy h)]
  · rw [cmp_eq h]
    exact compareTop_spec x.length x y rfl h.symm hx.1 hy.1
  · rw [cmp_gt h, cmp_gt (valL_lt_of_length_lt hy.1 hx h)]

theorem shl_limb_split {xi n : Nat} (hn : n < 64) :
    xi * 2 ^ n = xi * 2 ^ n % B64 + B64 * (xi / 2 ^ (64 - n)) := by
  have hB : B64 = 2 ^ (64 - n) * 2 ^ n := by
    unfold B64; rw [← Nat.pow_add]; congr 1; omega
  have h1 : xi * 2 ^ n / B64 = xi / 2 ^ (64 - n) := by
    rw [hB]; exact Nat.mul_div_mul_right _ _ (Nat.two_pow_pos _)
  have := Nat.div_add_mod (xi * 2 ^ n) B64
  rw [h1] at this
  omega

theorem shl_limb_lt {xi prev n : Nat} (hn0 : 0 < n) (hn : n < 64) (hp : prev < B64) :
    xi * 2 ^ n % B64 + prev / 2 ^ (64 - n) < B64 := by
  have hB : B64 = 2 ^ (64 - n) * 2 ^ n := by
    unfold B64; rw [← Nat.pow_add]; congr 1; omega
  have h1 : xi * 2 ^ n % B64 = xi % 2 ^ (64 - n) * 2 ^ n := by
    rw [hB]; exact Nat.mul_mod_mul_right _ _ _
  have h2 : prev / 2 ^ (64 - n) < 2 ^ n := by
    rw [Nat.div_lt_iff_lt_mul (Nat.two_pow_pos _), Nat.mul_comm, ← hB]; exact hp
  have h3 : xi % 2 ^ (64 - n) + 1 ≤ 2 ^ (64 - n) := Nat.mod_lt _ (Nat.two_pow_pos _)
  have h4 := Nat.mul_le_mul_right (2 ^ n) h3
  rw [Nat.add_mul, Nat.one_mul, ← hB] at h4
  omega

theorem shlBitsGo_spec (n : Nat) (hn0 : 0 < n) (hn : n < 64) : ∀ (x : Limbs) (prev : Nat), LimbsOk x → prev < B64 →
    valL (shlBitsGo n x prev).1 + B64 ^ x.length * ((shlBitsGo n x prev).2 / 2 ^ (64 - n)) =
      valL x * 2 ^ n + prev / 2 ^ (64 - n) ∧
    (shlBitsGo n x prev).1.length = x.length ∧ LimbsOk (shlBitsGo n x prev).1 ∧ (shlBitsGo n x prev).2 < B64
  | [], prev, _, hp => by simp [shlBitsGo, valL, limbsOk_nil, hp]
  | xi :: xs, prev, hx, hp => by
    obtain ⟨hxi, hxs⟩ := limbsOk_cons.mp hx
    obtain ⟨h1, h2, h3, h4⟩ := shlBitsGo_spec n hn0 hn xs xi hxs hxi
    simp only [shlBitsGo, valL, List.length_cons]
    refine ⟨?_, by rw [h2], limbsOk_cons.mpr ⟨shl_limb_lt hn0 hn hp, h3⟩, h4⟩
    rw [Nat.pow_succ]
    exact (carry_step B64 (xi * 2 ^ n) (prev / 2 ^ (64 - n)) (xi / 2 ^ (64 - n)) _ _ _ _ _
      (by have := shl_limb_split (xi := xi) hn; omega) h1).trans (by ring)

theorem shlBitsL_carried {cap : Nat} {x : Limbs} (ox : LimbsOk x) (hlen : x.length ≤ cap) {n : Nat} (hn0 : 0 < n)
    (hn : n < 64) :
    Computes (shlBitsL cap x n) cap (valL x * 2 ^ n) (Carried cap x.length (valL x * 2 ^ n)) := by
  obtain ⟨h1, h2, h3, h4⟩ := shlBitsGo_spec n hn0 hn x 0 ox B64_pos
  rw [Nat.zero_div, Nat.add_zero, ← h2] at h1
  have := pushCarry (cap := cap) h3 (Nat.lt_of_le_of_lt (Nat.div_le_self _ (2 ^ (64 - n))) h4) (by rw [h2]; exact hlen)
  rw [h1, h2] at this
  exact this

theorem shlBitsL_spec {cap : Nat} {x : Limbs} (h : Normalized x) (hlen : x.length ≤ cap) {n : Nat} (hn0 : 0 < n)
    (hn : n < 64) :
    (∀ z, shlBitsL cap x n = some z → Normalized z ∧ valL z = valL x * 2 ^ n) ∧
    (valL x * 2 ^ n < B64 ^ cap → ∃ z, shlBitsL cap x n = some z) :=
  (shlBitsL_carried h.1 hlen hn0 hn).mono fun _ c => ⟨c.norm (valL_ge_mul h (Nat.two_pow_pos _)), c.val⟩

theorem normalized_zeros_append {x : Limbs} (h : Normalized x) (hne : x ≠ []) (n : Nat) :
    Normalized (List.replicate n 0 ++ x) := by
  refine ⟨limbsOk_append.mpr ⟨fun l hl => by rw [List.eq_of_mem_replicate hl]; exact B64_pos, h.1⟩, fun l hl => ?_⟩
  have hx := List.getLast?_eq_some_getLast hne
  rw [List.getLast?_append, hx, Option.some_or] at hl
  exact h.2 l (hx.trans hl)

theorem shlLimbsL_spec {cap : Nat} {x : Limbs} (h : Normalized x) (hne : x ≠ []) (n : Nat) :
    Computes (shlLimbsL cap x n) cap (valL x * B64 ^ n)
      (fun z => z = List.replicate n 0 ++ x ∧ n + x.length ≤ cap) := by
  have hemp : x.isEmpty = false := by simpa using hne
  unfold shlLimbsL
  rw [hemp]
  constructor
  · intro z hz
    split at hz
    · exact absurd hz (by simp)
    · rename_i hcap
      injection hz with hz
      exact ⟨hz.symm, Nat.le_of_not_lt hcap⟩
  · intro hfit
    have h2 : B64 ^ (x.length - 1) * B64 ^ n ≤ valL x * B64 ^ n := Nat.mul_le_mul_right _ (valL_ge h hne)
    rw [← Nat.pow_add] at h2
    have := B64_pow_lt (Nat.lt_of_le_of_lt h2 hfit)
    have := List.length_pos_iff.mpr hne
    rw [if_neg (by omega)]
    exact ⟨_, rfl⟩

theorem shlBitsL_refines {cap : Nat} {x : Limbs} {v : Nat} (hx : Rep cap x v) {n : Nat} (hn0 : 0 < n) (hn : n < 64) :
    Refines cap (shlBitsL cap x n) (shlBits cap v n) := by
  rw [shlBits_fit, ← hx.val]
  exact Computes.refines (Nat.mul_ne_zero (hx.val ▸ hx.pos) (Nat.ne_of_gt (Nat.two_pow_pos _)))
    ((shlBitsL_carried hx.norm.1 hx.le hn0 hn).mono fun _ c =>
      ⟨c.norm (valL_ge_mul hx.norm (Nat.two_pow_pos _)), c.val, c.le⟩)

theorem shlLimbsL_refines {cap : Nat} {x : Limbs} {v : Nat} (hx : Rep cap x v) (n : Nat) :
    Refines cap (shlLimbsL cap x n) (shlLimbs cap v n) := by
  have hne := hx.ne_nil
  rw [shlLimbs_fit hx.pos, ← hx.val, ← B64_pow]
  exact Computes.refines (Nat.mul_ne_zero (hx.val ▸ hx.pos) (Nat.ne_of_gt (Nat.pow_pos B64_pos)))
    ((shlLimbsL_spec hx.norm hne n).mono fun z ⟨e, l⟩ => by
      subst e
      exact ⟨normalized_zeros_append hx.norm hne n, by rw [valL_zeros_append, Nat.mul_comm], by simpa using l⟩)

theorem shlL_refines {cap : Nat} {x : Limbs} {v : Nat} (hx : Rep cap x v) (n : Nat) :
    Refines cap (shlL cap x n) (shl cap v n) :=
  (Refines.step hx fun h => shlBitsL_refines hx (Nat.pos_of_ne_zero h) (Nat.mod_lt _ (by decide))).bind fun _ _ hy =>
    Refines.step hy fun _ => shlLimbsL_refines hy _

theorem shlL_spec {cap : Nat} {x : Limbs} (h : Normalized x) (hne : x ≠ []) (hlen : x.length ≤ cap) (n : Nat) :
    (∀ z, shlL cap x n = some z → Normalized z ∧ valL z = valL x * 2 ^ n) ∧
    (valL x * 2 ^ n < B64 ^ cap → ∃ z, shlL cap x n = some z) := by
  have R := Rep.of h hne hlen
  exact (Refines.computes (shl_fit R.pos R.fits n ▸ shlL_refines R n)).mono fun _ c => ⟨c.1, c.2.1⟩

theorem normalizeL_snoc (xs : Limbs) (a : Nat) :
    normalizeL (xs ++ [a]) = if a = 0 then normalizeL xs else xs ++ [a] := by
  unfold normalizeL
  rw [List.reverse_append, List.reverse_singleton, List.singleton_append, List.dropWhile_cons]
  by_cases h : a = 0
  · simp [h]
  · simp [h]

theorem normalizeL_spec : ∀ (n : Nat) (x : Limbs), x.length = n → LimbsOk x →
    Normalized (normalizeL x) ∧ valL (normalizeL x) = valL x ∧ (normalizeL x).length ≤ x.length
  | 0, x, hx, _ => by
    have := List.eq_nil_of_length_eq_zero hx
    subst this
    exact ⟨by unfold normalizeL; simpa using normalized_nil, rfl, Nat.le_refl _⟩
  | n + 1, x, hx, ok => by
    rcases eq_nil_or_snoc x with h | ⟨xs, a, rfl⟩
    · subst h; simp at hx
    simp only [List.length_append, List.length_singleton, Nat.add_right_cancel_iff] at hx
    obtain ⟨oxs, oa⟩ := limbsOk_append.mp ok
    rw [normalizeL_snoc]
    by_cases h : a = 0
    · rw [if_pos h]
      obtain ⟨i1, i2, i3⟩ := normalizeL_spec n xs hx oxs
      refine ⟨i1, ?_, by simp; omega⟩
      rw [i2, valL_append, h, Nat.mul_zero, Nat.add_zero]
    · rw [if_neg h]
      refine ⟨⟨ok, ?_⟩, rfl, Nat.le_refl _⟩
      intro l hl
      simp at hl
      rw [← hl]; exact h

/-- one limb of the multiply-subtract loop, in wrapping 128-bit arithmetic: `xj − P mod 2^64 − bin` is computed with `2^128`
added twice, so its low limb is the difference modulo `2^64` and bit 64 the borrow. Linear over the literals: `omega`. -/
theorem sub_limb (xj P bin : Nat) (hx : xj < 2 ^ 64) (hb : bin ≤ 1) :
    (xj + 2 ^ 128 - P % 2 ^ 64 + 2 ^ 128 - bin) % 2 ^ 128 % 2 ^ 64 + P % 2 ^ 64 + bin =
      xj + 2 ^ 64 * ((xj + 2 ^ 128 - P % 2 ^ 64 + 2 ^ 128 - bin) % 2 ^ 128 / 2 ^ 64 % 2) ∧
    (xj + 2 ^ 128 - P % 2 ^ 64 + 2 ^ 128 - bin) % 2 ^ 128 / 2 ^ 64 % 2 ≤ 1 := by
  have h64 : (2 : Nat) ^ 64 = 18446744073709551616 := by norm_num
  have h128 : (2 : Nat) ^ 128 = 340282366920938463463374607431768211456 := by norm_num
  rw [h64, h128] at *
  omega

def mulOf (mul : Option Nat) : Nat := match mul with | some q => q | none => 1

theorem sub_step (m yj carry xj borrow t R k xsV ysV Bn : Nat)
    (s1 : t % B64 + (yj * m + carry) % B64 + borrow = xj + B64 * (t / B64 % 2))
    (e1 : R + m * ysV + (yj * m + carry) / B64 + t / B64 % 2 = xsV + Bn * k) :
    t % B64 + B64 * R + m * (yj + B64 * ysV) + carry + borrow = xj + B64 * xsV + Bn * B64 * k := by
  have hdm := Nat.div_add_mod (yj * m + carry) B64
  have a1 : B64 * (R + m * ysV + (yj * m + carry) / B64 + t / B64 % 2) = B64 * (xsV + Bn * k) := by rw [e1]
  have a2 : m * (yj + B64 * ysV) = yj * m + B64 * (m * ysV) := by ring
  have a3 : B64 * (R + m * ysV + (yj * m + carry) / B64 + t / B64 % 2) =
      B64 * R + B64 * (m * ysV) + B64 * ((yj * m + carry) / B64) + B64 * (t / B64 % 2) := by ring
  have a4 : B64 * (xsV + Bn * k) = B64 * xsV + Bn * B64 * k := by ring
  omega

theorem subGo_spec (mul : Option Nat) (hm : mulOf mul < B64) : ∀ (xs ys : Limbs) (borrow carry : Nat),
    xs.length = ys.length → LimbsOk xs → LimbsOk ys → borrow ≤ 1 → carry < B64 →
    ∃ k, valL (subGo mul xs ys borrow carry) + mulOf mul * valL ys + carry + borrow =
        valL xs + B64 ^ xs.length * k ∧
      (subGo mul xs ys borrow carry).length = xs.length ∧ LimbsOk (subGo mul xs ys borrow carry)
  | [], [], borrow, carry, _, _, _, _, _ => by
    exact ⟨carry + borrow, by simp [subGo, valL], rfl, limbsOk_nil⟩
  | [], _ :: _, _, _, h, _, _, _, _ => by simp at h
  | _ :: _, [], _, _, h, _, _, _, _ => by simp at h
  | xj :: xs, yj :: ys, borrow, carry, hl, ox, oy, hb, hc => by
    obtain ⟨hxj, oxs⟩ := limbsOk_cons.mp ox
    obtain ⟨hyj, oys⟩ := limbsOk_cons.mp oy
    simp only [List.length_cons, Nat.add_right_cancel_iff] at hl
    have hPlt : yj * mulOf mul + carry < 2 ^ 128 := by
      have h1 : yj * mulOf mul ≤ (B64 - 1) * (B64 - 1) := Nat.mul_le_mul (by omega) (by omega)
      have : (B64 - 1) * (B64 - 1) + B64 ≤ 2 ^ 128 := by unfold B64; decide
      omega
    -- both arms of `mul` take the same step with multiplier `mulOf mul`; the product's `% 2^128` drops by `hPlt`
    have hunf : subGo mul (xj :: xs) (yj :: ys) borrow carry =
        ((xj + 2 ^ 128 - (yj * mulOf mul + carry) % B64 + 2 ^ 128 - borrow) % 2 ^ 128 % B64) ::
          subGo mul xs ys ((xj + 2 ^ 128 - (yj * mulOf mul + carry) % B64 + 2 ^ 128 - borrow) % 2 ^ 128 / B64 % 2)
            ((yj * mulOf mul + carry) / B64) := by
      cases mul with
      | none =>
        have hP' : yj + carry < 2 ^ 128 := by simpa [mulOf] using hPlt
        simp only [subGo, mulOf, Nat.mul_one, Nat.mod_eq_of_lt hP']
      | some q =>
        have hP' : yj * q + carry < 2 ^ 128 := by simpa [mulOf] using hPlt
        simp only [subGo, mulOf, Nat.mod_eq_of_lt hP']
    rw [hunf]
    obtain ⟨s1, s2⟩ := sub_limb xj (yj * mulOf mul + carry) borrow hxj hb
    rw [← B64_eq] at s1 s2
    have hcout : (yj * mulOf mul + carry) / B64 < B64 := by
      rw [Nat.div_lt_iff_lt_mul B64_pos]
      have : B64 * B64 = 2 ^ 128 := by unfold B64; rw [← Nat.pow_add]
      omega
    obtain ⟨k, e1, e2, e3⟩ := subGo_spec mul hm xs ys _ _ hl oxs oys s2 hcout
    refine ⟨k, ?_, by simp only [List.length_cons]; rw [e2], limbsOk_cons.mpr ⟨Nat.mod_lt _ B64_pos, e3⟩⟩
    simp only [valL, List.length_cons]
    rw [Nat.pow_succ]
    exact sub_step _ _ _ _ _ _ _ _ _ _ _ s1 e1

theorem quot_rem_unique (X Y Q R : Nat) (h : X = Q * Y + R) (hR : R < Y) : X / Y = Q ∧ X % Y = R := by
  have hd : X / Y = Q := by
    apply Nat.div_eq_of_lt_le
    · omega
    · rw [Nat.add_mul, Nat.one_mul]; omega
  refine ⟨hd, ?_⟩
  have := Nat.div_add_mod X Y
  rw [hd, Nat.mul_comm] at this
  omega

theorem q_small (q yn1 xm1 : Nat) (hqd : q * (yn1 + 1) ≤ xm1) (hxm : xm1 < B64) (hy57 : 2 ^ 57 ≤ yn1) :
    q + 1 ≤ yn1 := by
  have h1 : q * 2 ^ 57 ≤ q * (yn1 + 1) := Nat.mul_le_mul_left _ (by omega)
  have hB : B64 = 2 ^ 7 * 2 ^ 57 := by unfold B64; norm_num
  have : q * 2 ^ 57 < 2 ^ 7 * 2 ^ 57 := by omega
  have := Nat.lt_of_mul_lt_mul_right this
  have h7 : (2 : Nat) ^ 7 = 128 := by norm_num
  have h57 : (2 : Nat) ^ 57 = 144115188075855872 := by norm_num
  omega

theorem getLast_snoc (xs : Limbs) (a : Nat) : (xs ++ [a]).getLast?.getD 0 = a := by simp

theorem sub_pass (mul : Option Nat) (hm : mulOf mul < B64) {x y : Limbs} (hl : x.length = y.length)
    (ox : LimbsOk x) (oy : LimbsOk y) (hle : mulOf mul * valL y ≤ valL x) :
    Normalized (normalizeL (subGo mul x y 0 0)) ∧
    valL (normalizeL (subGo mul x y 0 0)) + mulOf mul * valL y = valL x ∧
    (normalizeL (subGo mul x y 0 0)).length ≤ x.length := by
  obtain ⟨k, e1, e2, e3⟩ := subGo_spec mul hm x y 0 0 hl ox oy (by omega) B64_pos
  obtain ⟨n1, n2, n3⟩ := normalizeL_spec _ _ rfl e3
  have hs := valL_lt e3
  have hxlt := valL_lt ox
  rw [e2] at hs n3
  refine ⟨n1, ?_, n3⟩
  rw [n2]
  generalize B64 ^ x.length = Bn at *
  have hk : k = 0 := by
    apply Classical.byContradiction; intro hk
    have : Bn * 1 ≤ Bn * k := Nat.mul_le_mul_left _ (by omega)
    omega
  rw [hk] at e1; omega

/-- the single-limb quotient estimate: for `X = xs + Bn·x₁ < K·Y`, `Y = ys + Bn·y₁` with `K < y₁`, the estimate
`q = x₁ / (y₁ + 1)` satisfies `q·Y ≤ X < (q + 2)·Y` (it never exceeds the quotient since `y₁ + 1` over-estimates `Y / Bn`, and
falls short by at most one since `q < K < y₁`) -/
theorem quot_estimate {Bn xs ys xm1 yn1 K : Nat} (hxs : xs < Bn) (hys : ys < Bn)
    (hxK : xs + Bn * xm1 < K * (ys + Bn * yn1)) (hyK : K + 1 ≤ yn1) :
    xm1 / (yn1 + 1) * (ys + Bn * yn1) ≤ xs + Bn * xm1 ∧ xs + Bn * xm1 < (xm1 / (yn1 + 1) + 2) * (ys + Bn * yn1) ∧
    xm1 / (yn1 + 1) + 1 ≤ yn1 := by
  have hqd : xm1 / (yn1 + 1) * (yn1 + 1) ≤ xm1 := Nat.div_mul_le_self _ _
  have hqd2 : xm1 < (xm1 / (yn1 + 1) + 1) * (yn1 + 1) := by
    rw [Nat.mul_comm]; exact Nat.lt_mul_div_succ _ (Nat.succ_pos _)
  generalize xm1 / (yn1 + 1) = q at *
  generalize hY : ys + Bn * yn1 = Y at *
  have hqY : q * Y ≤ xs + Bn * xm1 := by
    have h1 : q * Y ≤ q * (Bn * (yn1 + 1)) := Nat.mul_le_mul_left _ (by rw [← hY, Nat.mul_add, Nat.mul_one]; omega)
    have h2 : q * (Bn * (yn1 + 1)) = Bn * (q * (yn1 + 1)) := Nat.mul_left_comm _ _ _
    have h3 : Bn * (q * (yn1 + 1)) ≤ Bn * xm1 := Nat.mul_le_mul_left _ hqd
    omega
  have hq7 : q + 1 ≤ yn1 := by
    have := Nat.lt_of_mul_lt_mul_right (Nat.lt_of_le_of_lt hqY hxK)
    omega
  refine ⟨hqY, ?_, hq7⟩
  have h1 : xs + Bn * xm1 < Bn * (xm1 + 1) := by rw [Nat.mul_add, Nat.mul_one]; omega
  have h2 : Bn * (xm1 + 1) ≤ Bn * ((q + 1) * (yn1 + 1)) := Nat.mul_le_mul_left _ hqd2
  have h3 : (q + 1) * (yn1 + 1) ≤ (q + 2) * yn1 := by
    have e1 : (q + 1) * (yn1 + 1) = (q + 1) * yn1 + (q + 1) := Nat.mul_succ _ _
    have e2 : (q + 2) * yn1 = (q + 1) * yn1 + yn1 := Nat.succ_mul _ _
    omega
  have h4 : Bn * ((q + 1) * (yn1 + 1)) ≤ Bn * ((q + 2) * yn1) := Nat.mul_le_mul_left _ h3
  have h5 : Bn * ((q + 2) * yn1) ≤ (q + 2) * Y := by
    rw [Nat.mul_left_comm]
    exact Nat.mul_le_mul_left _ (by rw [← hY]; exact Nat.le_add_left _ _)
  omega

/-- **`large_quorem`**: for a numerator below `K` times the divisor, whose top limb exceeds `K` (and is not all ones), the
single-limb quotient estimate `x_top / (y_top + 1)` is the true quotient or one less, and the one correction step makes it exact -/
theorem largeQuoremL_spec {x ys : Limbs} {yn1 : Nat} (hx : Normalized x) (hy : Normalized (ys ++ [yn1]))
    (hlen : x.length ≤ ys.length + 1) (K : Nat) (hxK : valL x < K * valL (ys ++ [yn1])) (hyK : K + 1 ≤ yn1)
    (hyB : yn1 + 1 < B64) :
    ∃ R, largeQuoremL x (ys ++ [yn1]) = some (valL x / valL (ys ++ [yn1]), R) ∧ Normalized R ∧
      valL R = valL x % valL (ys ++ [yn1]) := by
  have hyne : ys ++ [yn1] ≠ [] := by simp
  have hYge := valL_ge hy hyne
  have hylen : (ys ++ [yn1]).length = ys.length + 1 := by simp
  rw [hylen, Nat.add_sub_cancel] at hYge
  have hemp : (ys ++ [yn1]).isEmpty = false := by simp
  unfold largeQuoremL
  rw [hemp]
  simp only [Bool.false_eq_true, if_false]
  rw [if_neg (by rw [hylen]; omega)]
  by_cases hlt : x.length < ys.length + 1
  · rw [if_pos (by rw [hylen]; exact hlt)]
    have hX : valL x < valL (ys ++ [yn1]) := valL_lt_of_length_lt hx.1 hy (by rw [hylen]; exact hlt)
    exact ⟨x, by rw [Nat.div_eq_of_lt hX], hx, (Nat.mod_eq_of_lt hX).symm⟩
  · rw [if_neg (by rw [hylen]; exact hlt)]
    have hxl : x.length = ys.length + 1 := by omega
    rcases eq_nil_or_snoc x with h0 | ⟨xs, xm1, rfl⟩
    · subst h0; simp at hxl
    simp only [List.length_append, List.length_singleton, Nat.add_right_cancel_iff] at hxl
    rw [getLast_snoc, getLast_snoc]
    have hw : wrap64 (yn1 + 1) = yn1 + 1 := Nat.mod_eq_of_lt hyB
    rw [hw, if_neg (by omega)]
    obtain ⟨oxs, _⟩ := limbsOk_append.mp hx.1
    obtain ⟨oys, _⟩ := limbsOk_append.mp hy.1
    have hXs := valL_lt oxs
    have hYs := valL_lt oys
    rw [hxl] at hXs
    have hXv : valL (xs ++ [xm1]) = valL xs + B64 ^ ys.length * xm1 := by rw [valL_append, hxl]
    have hYv : valL (ys ++ [yn1]) = valL ys + B64 ^ ys.length * yn1 := valL_append _ _
    obtain ⟨hqY, hX2, hq7⟩ := quot_estimate (K := K) hXs hYs (by rw [← hXv, ← hYv]; exact hxK) hyK
    rw [← hXv, ← hYv] at hqY hX2
    generalize xm1 / (yn1 + 1) = q at *
    generalize hX : valL (xs ++ [xm1]) = X at *
    generalize hY : valL (ys ++ [yn1]) = Y at *
    obtain ⟨x1, hx1def, nx1, vx1, lx1⟩ : ∃ x1, (if q ≠ 0 then normalizeL (subGo (some q) (xs ++ [xm1]) (ys ++ [yn1]) 0 0)
        else xs ++ [xm1]) = x1 ∧ Normalized x1 ∧ valL x1 + q * Y = X ∧ x1.length ≤ ys.length + 1 := by
      by_cases hq0 : q = 0
      · rw [if_neg (by simpa using hq0)]
        exact ⟨_, rfl, hx, by rw [hX, hq0]; omega, by simp [hxl]⟩
      · rw [if_pos hq0]
        obtain ⟨n1, n2, n3⟩ := sub_pass (some q) (show q < B64 by omega) (x := xs ++ [xm1]) (y := ys ++ [yn1]) (by simp [hxl]) hx.1 hy.1
          (by rw [hX, hY]; exact hqY)
        rw [hX, hY] at n2
        exact ⟨_, rfl, n1, n2, by simpa [hxl] using n3⟩
    rw [hx1def]
    rw [compareL_spec nx1 hy, hY]
    have hX1 : valL x1 < 2 * Y := by
      rw [Nat.add_mul] at hX2
      omega
    by_cases hge : Y ≤ valL x1
    · have hcmp : compare (valL x1) Y ≠ .lt := by
        intro h; have := Nat.compare_eq_lt.mp h; omega
      rw [if_pos hcmp]
      have hl1 : x1.length = ys.length + 1 := by
        have := normalized_length_le hy nx1 (by rw [hY]; exact hge)
        simp at this; omega
      obtain ⟨n1, n2, n3⟩ := sub_pass none one_lt_B64 (x := x1) (y := ys ++ [yn1]) (by simp [hl1]) nx1.1 hy.1
        (by rw [hY]; show 1 * Y ≤ valL x1; omega)
      rw [hY, show mulOf none = 1 from rfl, Nat.one_mul] at n2
      have hw2 : wrap64 (q + 1) = q + 1 := Nat.mod_eq_of_lt (show q + 1 < B64 by omega)
      obtain ⟨d1, d2⟩ := quot_rem_unique X Y (q + 1) (valL x1 - Y) (by rw [Nat.succ_mul]; omega) (by omega)
      refine ⟨_, by rw [hw2, d1], n1, ?_⟩
      rw [d2]; omega
    · have hcmp : compare (valL x1) Y = .lt := Nat.compare_eq_lt.mpr (by omega)
      rw [if_neg (by simp [hcmp])]
      obtain ⟨d1, d2⟩ := quot_rem_unique X Y q (valL x1) (by omega) (by omega)
      exact ⟨_, by rw [d1], nx1, by rw [d2]⟩

end LexVerif.Proof.Slow
