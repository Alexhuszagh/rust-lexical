import LexVerif.Proof.LemireNegSmall
/-!
# Proof.LemireError — `compute_error` is an estimate on every row

`lemire` answers a truncated mantissa whose two roundings differ with `compute_error(q, w)`: the upper word `hi` of the
product, normalised, with the invalid marker — whatever the low word is. For **every** row `−342 ≤ q ≤ 308` and every
`w ≠ 0`, the exact value `w·10^q` lies in `[hi, hi + 2)` units of the upper word (rows truncated down: `hi_bounds_down`;
the reciprocal rows `−27..−1`, rounded up: `hi_bounds_up`, no borrow because the value is a multiple of `2^129`), hence
`EstOK` (`computeError_estOK`; `computeError_estOK_nonneg`, `computeError_estOK_neg` are its two signs of `q`).
-/
namespace LexVerif.Proof.Lemire
open LexVerif.Model LexVerif.Model.Lemire
open LexVerif.Proof.RoundNE LexVerif.Proof.ExtRound

/-- the reciprocal rows rounded up: the same bounds — the value is a multiple of `2^129`, so the one-unit excess of the
product cannot carry into the upper word -/
theorem hi_bounds_up {p wn hi5 lo5 lo hi : Nat} (hp61 : p ≤ 61) (P : Product p wn hi5 lo5 lo hi) {N Dn : Nat}
    (hDn : 0 < Dn) (hDn63 : Dn < 2 ^ 63) (hNlt : N < wn * (hi5 * 2 ^ 64 + lo5) * Dn)
    (hNge : wn * (hi5 * 2 ^ 64 + lo5) * Dn ≤ N + wn * Dn) (hdiv : 2 ^ 129 ∣ N) :
    hi * (2 ^ 64 * (2 ^ 64 * Dn)) ≤ N ∧ N < (hi + 2) * (2 ^ 64 * (2 ^ 64 * Dn)) := by
  obtain ⟨_, hgt⟩ := upper_bits_upper hp61 P hDn hDn63 hNlt hNge hdiv rfl rfl
  obtain ⟨_, hwn2, hlo, _, _, _, hzup⟩ := P
  constructor
  · apply Classical.byContradiction; intro hcon
    have hlt : N < hi * (2 ^ 64 * (2 ^ 64 * Dn)) := Nat.lt_of_not_le hcon
    have h128 : (2 : Nat) ^ 64 * 2 ^ 64 = 2 ^ 128 := by rw [← Nat.pow_add]
    have hY : hi * (2 ^ 64 * (2 ^ 64 * Dn)) = 2 ^ 128 * (hi * Dn) := by rw [← h128]; ring
    obtain ⟨n', hn'⟩ : 2 ^ 128 ∣ N := Nat.dvd_trans (Nat.pow_dvd_pow 2 (by decide)) hdiv
    rw [hY, hn'] at hlt
    have h1 : n' < hi * Dn := Nat.lt_of_mul_lt_mul_left hlt
    have h2 : 2 ^ 128 * (n' + 1) ≤ 2 ^ 128 * (hi * Dn) := Nat.mul_le_mul_left _ h1
    rw [Nat.mul_add, Nat.mul_one, ← hn', ← hY] at h2
    have h3 : 2 ^ 64 * Dn < 2 ^ 128 := by
      calc 2 ^ 64 * Dn < 2 ^ 64 * 2 ^ 63 := Nat.mul_lt_mul_of_pos_left hDn63 (Nat.two_pow_pos _)
        _ ≤ 2 ^ 128 := by rw [← Nat.pow_add]; exact Nat.pow_le_pow_right (by decide) (by decide)
    have h4 : hi * (2 ^ 64 * (2 ^ 64 * Dn)) ≤ (hi * 2 ^ 64 + lo) * (2 ^ 64 * Dn) := by
      calc hi * (2 ^ 64 * (2 ^ 64 * Dn)) = (hi * 2 ^ 64) * (2 ^ 64 * Dn) := by ring
        _ ≤ (hi * 2 ^ 64 + lo) * (2 ^ 64 * Dn) := Nat.mul_le_mul_right _ (Nat.le_add_right _ _)
    generalize hi * (2 ^ 64 * (2 ^ 64 * Dn)) = Y at h2 h4
    generalize (hi * 2 ^ 64 + lo) * (2 ^ 64 * Dn) = Z at h4 hgt
    generalize 2 ^ 64 * Dn = W at h3 hgt
    clear * - h2 h3 h4 hgt
    omega
  · have hXw : wn * (hi5 * 2 ^ 64 + lo5) ≤ (hi + 2) * 2 ^ 64 * 2 ^ 64 := by
      generalize wn * (hi5 * 2 ^ 64 + lo5) = X at *
      generalize 2 ^ 64 = B at hzup hwn2 hlo ⊢
      have e4 : (hi + 2) * B * B = (hi * B + B) * B + B * B := by ring
      rcases hzup with h | ⟨_, _, h⟩
      · have e3 : (hi * B + lo + 1) * B ≤ (hi * B + B) * B := Nat.mul_le_mul_right _ (by omega)
        rw [e4]
        generalize (hi * B + B) * B = Y at e3 ⊢
        generalize (hi * B + lo + 1) * B = Y' at h e3
        omega
      · have e3 : (hi * B + lo + B) * B ≤ (hi * B + 2 * B) * B := Nat.mul_le_mul_right _ (by omega)
        have e7 : (hi * B + 2 * B) * B = (hi + 2) * B * B := by ring
        rw [e7] at e3
        generalize (hi * B + lo + B) * B = Y at h e3
        generalize (hi + 2) * B * B = Z at e3 ⊢
        omega
    calc N < wn * (hi5 * 2 ^ 64 + lo5) * Dn := hNlt
      _ ≤ ((hi + 2) * 2 ^ 64 * 2 ^ 64) * Dn := Nat.mul_le_mul_right _ hXw
      _ = (hi + 2) * (2 ^ 64 * (2 ^ 64 * Dn)) := by ring

theorem computeError_estOK {F p eb} (lay : Layout F p eb) (q : Int) (hq1 : -342 ≤ q) (hq2 : q ≤ 308) (w : Nat)
    (hw0 : w ≠ 0) (hw : w < 2 ^ 64) :
    ∃ fp, computeError F q w = .ok fp ∧ EstOK F p fp (powFrac 10 q w).1 (powFrac 10 q w).2 := by
  by_cases h0 : 0 ≤ q
  · obtain ⟨qn, rfl⟩ : ∃ qn : Nat, q = (qn : Int) := ⟨q.toNat, by omega⟩
    obtain ⟨hi5, lo5, b, hrow, hR⟩ := rows_pos qn (by omega)
    have R := RowDown.of_pos hR (by omega)
    exact computeError_estOK_row lay R.toRow
      (by rw [show ((qn : Int) + 342).toNat = qn + 342 by omega]; exact hrow) w hw0 hw fun lo hi P => R.hi_bounds P
  obtain ⟨e, rfl⟩ : ∃ e : Nat, q = -(e : Int) := ⟨(-q).toNat, by omega⟩
  have hidx : (-(e : Int) + 342).toNat = 342 - e := by omega
  by_cases h27 : e ≤ 27
  · -- rounded up: the value is a multiple of `2^129`
    obtain ⟨hi5, lo5, b, hrow, hhi5, hlo5, hhi5n, hb3, hb63, h5lt, hTgt, hTle, hpow, _⟩ := rows_neg_small e (by omega) h27
    have R : Row (-(e : Int)) ((b + 127 : Nat) : Int) hi5 lo5 :=
      ⟨hhi5, hlo5, hhi5n, by rw [hpow]; omega, by omega, by omega, by omega, by omega⟩
    refine computeError_estOK_row lay R (by rw [hidx]; exact hrow) w hw0 hw fun lo hi P => ?_
    rw [rowA_neg, rowD_neg]
    have hwn0 : 0 < w * 2 ^ clz64 w := by have := P.wn_ge; have := Nat.two_pow_pos 63; omega
    generalize clz64 w = lz at *
    have hNlt : w * 2 ^ lz * 2 ^ (b + 127) < w * 2 ^ lz * (hi5 * 2 ^ 64 + lo5) * 5 ^ e := by
      rw [Nat.mul_assoc (w * 2 ^ lz)]; exact Nat.mul_lt_mul_of_pos_left hTgt hwn0
    have hNge : w * 2 ^ lz * (hi5 * 2 ^ 64 + lo5) * 5 ^ e ≤ w * 2 ^ lz * 2 ^ (b + 127) + w * 2 ^ lz * 5 ^ e := by
      rw [Nat.mul_assoc (w * 2 ^ lz), ← Nat.mul_add]; exact Nat.mul_le_mul_left _ hTle
    have hdiv : 2 ^ 129 ∣ w * 2 ^ lz * 2 ^ (b + 127) :=
      Dvd.dvd.mul_left (Nat.pow_dvd_pow 2 (by omega)) _
    exact hi_bounds_up (p_le_61 lay) P (Nat.pow_pos (by decide)) h5lt hNlt hNge hdiv
  · obtain ⟨hi5, lo5, b, hrow, hR⟩ := rows_neg e (by omega) (by omega)
    have R := RowDown.of_neg hR (by omega)
    exact computeError_estOK_row lay R.toRow (by rw [hidx]; exact hrow) w hw0 hw fun lo hi P => R.hi_bounds P

theorem computeError_estOK_nonneg {F p eb} (lay : Layout F p eb) (q : Nat) (h308 : q ≤ 308) (w : Nat) (hw0 : w ≠ 0)
    (hw : w < 2 ^ 64) :
    ∃ fp, computeError F (q : Int) w = .ok fp ∧ EstOK F p fp (w * 10 ^ q) 1 := by
  have := computeError_estOK lay (q : Int) (by omega) (by omega) w hw0 hw
  rwa [powFrac_natCast] at this

theorem computeError_estOK_neg {F p eb} (lay : Layout F p eb) (e : Nat) (h1 : 1 ≤ e) (h342 : e ≤ 342) (w : Nat)
    (hw0 : w ≠ 0) (hw : w < 2 ^ 64) :
    ∃ fp, computeError F (-(e : Int)) w = .ok fp ∧ EstOK F p fp w (10 ^ e) := by
  have := computeError_estOK lay (-(e : Int)) (by omega) (by omega) w hw0 hw
  rwa [show powFrac 10 (-(e : Int)) w = (w, 10 ^ e) by
    unfold powFrac; rw [if_neg (by omega)]; simp only [Int.neg_neg, Int.toNat_natCast]] at this

end LexVerif.Proof.Lemire
