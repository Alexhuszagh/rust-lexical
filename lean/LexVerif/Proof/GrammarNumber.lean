import LexVerif.Proof.GrammarPhases
import LexVerif.Proof.SepFreeNumber
/-!
# Proof.GrammarNumber — `parse_number` (complete) against `Spec.Grammar.splitNumber` / `numberOk`

`parse_number` is `Sep.numClosed` on this class of inputs. `tailClosed_spec`: what follows the fraction (`Sep.tailClosed`)
against `splitExponent` / `splitSuffix`; `parseNumber_spec` composes it with the integer and fraction components: one
`Wp.bind` per component, each lemma keyed to the splitter of its component, the rest of the input handed on by `At`.
-/
namespace LexVerif.Proof.Grammar
open LexVerif LexVerif.Spec LexVerif.Model

theorem sufClosed_spec {c : Cfg} (b : Bytes) (hv : b.index ≤ b.slc.length) :
    At b (Sep.sufClosed c b) (splitSuffix (cfgSyn c) (tl b)).2 := by
  have hfmt : (c.feats.format && decide (c.baseSuffix ≠ 0)) = decide (c.baseSuffix ≠ 0) := by
    cases hf : c.feats.format <;> simp [Cfg.baseSuffix, hf]
  unfold Sep.sufClosed splitSuffix
  rw [hfmt, firstIs_eq, syn_suf, syn_csSuffix]
  cases htl : tl b with
  | nil =>
    simp only [List.head?_nil, Bool.and_false, Bool.false_eq_true, if_false]
    exact htl ▸ At.refl hv
  | cons x xs =>
    obtain ⟨_, hlt, htl1⟩ := tl_cons htl
    simp only [List.head?_cons]
    by_cases hc : (decide (c.baseSuffix ≠ 0) && matchByte c.caseSensitiveBaseSuffix c.baseSuffix x) = true
    · simp only [hc, if_true]
      exact ⟨rfl, hlt, htl1⟩
    · simp only [hc, Bool.false_eq_true, if_false]
      exact htl ▸ At.refl hv

structure NumberIs (n : Number) (neg : Bool) (intBytes : List Nat) (fracBytes : Option (List Nat)) (e : Int) : Prop where
  neg : n.isNegative = neg
  int : n.integer = intBytes
  frac : n.fraction = fracBytes
  exp : n.explicitExp = e

def tailOk (c : Cfg) (nd : Nat) (frNone : Bool) (E : Bool × Option Bool × List Nat × List Nat) : Bool :=
  !(c.requiredMantissaDigits && decide (nd = 0)) && expOk c frNone E

theorem manyClosed_spec (r : Nat) (scale : Int → Int) (dp : Nat) (s : List Nat) (startIdx : Nat) (ids : List Nat)
    (ipN : Nat) (fraction : Option (List Nat)) (fpMant : Nat) (explicit : Int) (neg : Bool) (nDigits step : Nat)
    (ex0 : Int) (endIdx : Nat) (mode : Bool) :
    Wp (fun x => NumberIs x.1 neg ids fraction explicit ∧ x.2 = endIdx) (fun e => ¬ IsKind e)
      (Sep.manyClosed r scale dp s startIdx ids ipN fraction fpMant explicit neg nDigits step ex0 endIdx mode) := by
  unfold Sep.manyClosed Sep.manyCore
  dsimp only
  refine Wp.ite (fun _ => Wp.ite (fun _ => Wp.ok ⟨⟨rfl, rfl, rfl, rfl⟩, rfl⟩) (fun _ => ?_))
    (fun _ => Wp.ok ⟨⟨rfl, rfl, rfl, rfl⟩, rfl⟩)
  cases fraction with
  | none => exact Wp.error (fun h => h)
  | some fd => exact Wp.ok ⟨⟨rfl, rfl, rfl, rfl⟩, rfl⟩

theorem tailClosed_spec {c : Cfg} (isPartial : Bool) (o : POpts) (neg : Bool) (ip : IntPart) (fp : FracPart)
    (hr : c.exponentRadix ≤ 255) (hb : ∀ x ∈ fp.byte.slc, x < 256) (hv : fp.byte.index ≤ fp.byte.slc.length) :
    Wp (fun r =>
        tailOk c (ip.nDigits + fp.nAfterDot) fp.fraction.isNone (splitExponent (cfgSyn c) o (tl fp.byte)) = true ∧
        NumberIs r.1 neg ip.integerDigits fp.fraction
          (if (splitExponent (cfgSyn c) o (tl fp.byte)).1 = true then
            expValue c.exponentRadix (splitExponent (cfgSyn c) o (tl fp.byte)).2.1
              (splitExponent (cfgSyn c) o (tl fp.byte)).2.2.1 else 0) ∧
        r.2 + (splitSuffix (cfgSyn c) (splitExponent (cfgSyn c) o (tl fp.byte)).2.2.2).2.length = fp.byte.slc.length)
      (Rej (tailOk c (ip.nDigits + fp.nAfterDot) fp.fraction.isNone (splitExponent (cfgSyn c) o (tl fp.byte))))
      (Sep.tailClosed c isPartial o neg ip fp) := by
  unfold Sep.tailClosed
  dsimp only
  by_cases hm : (c.requiredMantissaDigits && decide (ip.nDigits + fp.nAfterDot = 0)) = true
  · simp only [hm, if_true]
    have hbad : tailOk c (ip.nDigits + fp.nAfterDot) fp.fraction.isNone
        (splitExponent (cfgSyn c) o (tl fp.byte)) = false := by unfold tailOk; rw [hm]; rfl
    exact Wp.ite (fun _ => Wp.error (fun _ => hbad)) (fun _ => Wp.error (fun _ => hbad))
  · simp only [hm, Bool.false_eq_true, if_false]
    simp only [Bool.not_eq_true] at hm
    refine Wp.bind (Wp.mono (expClosed_spec o fp.byte fp.fraction fp.exponent hr hb hv) (fun _ _ h => h)
      (fun e he hk => by simp [tailOk, he hk])) ?_
    rintro ep - ⟨hok, hat, hexp⟩
    have hatF := sufClosed_spec (c := c) ep.byte hat.valid
    rw [hat.tl] at hatF
    have hidx := (hat.trans hatF).index
    have htok : tailOk c (ip.nDigits + fp.nAfterDot) fp.fraction.isNone (splitExponent (cfgSyn c) o (tl fp.byte))
        = true := by unfold tailOk; rw [hm, hok]; rfl
    refine Wp.ite (fun _ => Wp.ok ⟨htok, ⟨rfl, rfl, rfl, hexp⟩, hidx⟩) (fun _ => ?_)
    exact Wp.mono (manyClosed_spec _ _ _ _ _ _ _ _ _ _ _ _ _ _ _ _)
      (fun r _ h => ⟨htok, ⟨h.1.neg, h.1.int, h.1.frac, h.1.exp.trans hexp⟩, by rw [h.2]; exact hidx⟩)
      (fun e he hk => absurd hk he)

/-- the flag constraints of `numberOk` that concern the number body (everything but the mantissa sign and
"nothing is left over") -/
def bodyOk (y : Syn) (p : Parts) : Bool :=
  !(y.reqInt && p.ints.isEmpty) && !(y.reqFrac && p.point && p.fracs.isEmpty)
  && !(y.reqMant && p.ints.isEmpty && p.fracs.isEmpty) && !(y.noFloatLZ && !p.pre && leadingZeros p.ints)
  && !(y.noExpNot && p.hasExp) && !(y.reqExpNot && !p.hasExp) && !(y.noExpWoFrac && p.hasExp && !p.point)
  && !(p.hasExp && !signOk y.noPosExp y.reqExpSign p.expSign) && !(y.reqExp && p.hasExp && p.exps.isEmpty)

theorem numberOk_eq (y : Syn) (p : Parts) :
    numberOk y p = (p.rest.isEmpty && signOk y.noPosMant y.reqMantSign p.sign && bodyOk y p) := by
  simp only [numberOk, bodyOk, Bool.and_assoc]

theorem splitNumber_stages (y : Syn) (hp : y.pre = 0) (o : POpts) (sign : Option Bool) (l : List Nat) :
    splitNumber y o sign l =
      ⟨sign, false, (takeDigits y.radix l).1,
        (splitFraction y o (takeDigits y.radix l).2).1, (splitFraction y o (takeDigits y.radix l).2).2.1,
        (splitExponent y o (splitFraction y o (takeDigits y.radix l).2).2.2).1,
        (splitExponent y o (splitFraction y o (takeDigits y.radix l).2).2.2).2.1,
        (splitExponent y o (splitFraction y o (takeDigits y.radix l).2).2.2).2.2.1,
        (splitSuffix y (splitExponent y o (splitFraction y o (takeDigits y.radix l).2).2.2).2.2.2).1,
        (splitSuffix y (splitExponent y o (splitFraction y o (takeDigits y.radix l).2).2.2).2.2.2).2⟩ := by
  simp only [splitNumber, splitPrefix_none y hp]

theorem bodyOk_stages (c : Cfg) (ids fds : List Nat) (point : Bool) (E : Bool × Option Bool × List Nat × List Nat)
    (sign : Option Bool) (sf : Bool) (rest : List Nat) :
    bodyOk (cfgSyn c) ⟨sign, false, ids, point, fds, E.1, E.2.1, E.2.2.1, sf, rest⟩ =
      (!(c.requiredIntegerDigits && ids.isEmpty) && !(c.noFloatLeadingZeros && leadingZeros ids) &&
       !(c.requiredFractionDigits && point && fds.isEmpty) &&
       tailOk c (ids.length + fds.length) (!point) E) := by
  have hz : decide (ids.length + fds.length = 0) = (ids.isEmpty && fds.isEmpty) := by
    cases ids <;> cases fds <;> simp
  simp only [bodyOk, tailOk, expOk, hz, syn_reqInt, syn_reqFrac, syn_reqMant, syn_noFloatLZ, syn_noExpNot,
    syn_reqExpNot, syn_noExpWoFrac, syn_noPosExp, syn_reqExpSign, syn_reqExp, Bool.not_false, Bool.and_true,
    Bool.and_assoc]
  ac_rfl

/-- **`parse_number::<FORMAT, IS_PARTIAL>` against `splitNumber`**, complete or partial (the two differ in the kind of one
error only) -/
theorem parseNumber_spec {c : Cfg} (isPartial : Bool) (o : POpts) (b : Bytes) (neg fv : Bool) (sign : Option Bool)
    (hs : StdIn c b.slc) (hv : b.index ≤ b.slc.length) :
    Wp (fun r =>
        bodyOk (cfgSyn c) (splitNumber (cfgSyn c) o sign (tl b)) = true ∧
        NumberIs r.1 neg ((tl b).take (splitNumber (cfgSyn c) o sign (tl b)).ints.length)
          (if (splitNumber (cfgSyn c) o sign (tl b)).point = true then
            some ((((tl b).drop (splitNumber (cfgSyn c) o sign (tl b)).ints.length).drop 1).take
              (splitNumber (cfgSyn c) o sign (tl b)).fracs.length) else none)
          (if (splitNumber (cfgSyn c) o sign (tl b)).hasExp = true then
            expValue c.exponentRadix (splitNumber (cfgSyn c) o sign (tl b)).expSign
              (splitNumber (cfgSyn c) o sign (tl b)).exps else 0) ∧
        r.2 + (splitNumber (cfgSyn c) o sign (tl b)).rest.length = b.slc.length)
      (Rej (bodyOk (cfgSyn c) (splitNumber (cfgSyn c) o sign (tl b))))
      (parseNumber c isPartial o b neg fv) := by
  -- the three phases composed by `Wp.bind`; the rejection flag of each phase is one factor of `bodyOk` (`bodyOk_stages`)
  have hpre : (cfgSyn c).pre = 0 := by rw [syn_pre]; exact hs.noprefix
  rw [splitNumber_stages (cfgSyn c) hpre o sign (tl b), syn_radix, bodyOk_stages]
  simp only
  rw [takeDigits_rest c.mantissaRadix (tl b)]
  rw [Sep.parseNumber_numClosed c hs.rel isPartial o b neg fv hs.nosep, PrefixRepair.prefixPhase_none c hs.noprefix b]
  show Wp _ _ (Sep.numClosed c isPartial o neg false b)
  unfold Sep.numClosed
  refine Wp.bind (Wp.mono (intClosed_spec b hs.radix hs.bytes hv) (fun _ _ h => h) (fun e he hk => ?_)) ?_
  · have := he hk
    simp only [Bool.and_eq_false_iff] at this ⊢
    exact .inl (.inl this)
  rintro ip - ⟨a1, a2, -, hatI, hnI, hdI⟩
  rw [takeDigits_rest] at hatI
  have hF := fracClosed_spec o ip.byte ip.mantissa hs.radix (hatI.slc ▸ hs.bytes) hatI.valid
  rw [hatI.tl] at hF
  refine Wp.bind (Wp.mono hF (fun _ _ h => h) (fun e he hk => ?_)) ?_
  · have := he hk
    simp only [Bool.and_eq_false_iff] at this ⊢
    exact .inl (.inr (by simpa using this))
  rintro fp - ⟨a3, hatF, hnF, hfrF⟩
  have hT := tailClosed_spec isPartial o neg ip fp hs.expRadix ((hatI.trans hatF).slc ▸ hs.bytes) hatF.valid
  rw [hatF.tl, hnI, hnF] at hT
  have hfn : fp.fraction.isNone = !(splitFraction (cfgSyn c) o
      (List.drop (takeDigits c.mantissaRadix (tl b)).1.length (tl b))).1 := by
    rw [hfrF]; split <;> simp_all
  rw [hfn] at hT
  refine Wp.mono hT (fun r _ h => ⟨?_, ?_, ?_⟩) (fun e he hk => ?_)
  · simp [a1, a2, a3, h.1]
  · rw [← hdI, ← hfrF]; exact h.2.1
  · have := h.2.2; rw [hatF.slc, hatI.slc] at this; exact this
  · have := he hk
    simp only [Bool.and_eq_false_iff]
    exact .inr this
end LexVerif.Proof.Grammar
