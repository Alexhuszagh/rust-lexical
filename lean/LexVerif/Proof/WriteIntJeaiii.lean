import LexVerif.Proof.WriteIntJeaiiiArith
import LexVerif.Proof.WriteIntDigits
/-!
# Proof.WriteIntJeaiii — the forward (checked) writes of `jeaiii.rs` as splices; the `write_digits!` arms write the
canonical decimal numeral
-/
namespace LexVerif.Model.WriteInt
open LexVerif.Spec

theorem digitToCharConst10_lt (n : Nat) (h : n < 10) : digitToCharConst10 n = digitChar n := by
  unfold digitToCharConst10 digitChar
  rw [if_pos h]; omega

theorem wr1_spec (buf : Buf) (i n : Nat) (hn : n < 10) (hi : i < buf.length) :
    wr1 buf i n = .ok (splice buf i [digitChar n], i + 1) := by
  unfold wr1
  rw [digitToCharConst10_lt n hn, setC_splice buf i _ hi]; rfl

theorem wr2_spec (buf : Buf) (i m : Nat) (hm : m < 100) (hi : i + 2 ≤ buf.length) :
    wr2 buf i (2 * m) = .ok (splice buf i (pair 10 m), i + 2) := by
  unfold wr2
  have hu : 2 * m % usz = 2 * m := mod_usz (by omega)
  rw [hu, tableGet_even 10 m (by omega), tableGet_odd 10 m (by omega), bind_ok, setC_splice buf i _ (by omega),
    bind_ok, bind_ok]
  rw [setC_splice _ (i + 1) _ (by rw [splice_length _ _ _ (by simp; omega)]; omega), bind_ok]
  have := splice_append buf i [digitChar (m / 10)] [digitChar (m % 10)] (by simp; omega)
  simp only [List.length_singleton] at this
  rw [this]; rfl

/-- the two-digit values produced by `k` successive `next2` steps -/
def jd : Nat → Nat → List Nat
  | _, 0 => []
  | y, k + 1 => (next2 y).2 :: jd (next2 y).1 k

def pairs (ds : List Nat) : List Nat := ds.flatMap (pair 10)

theorem pairs_length (ds : List Nat) : (pairs ds).length = 2 * ds.length := by
  induction ds with
  | nil => rfl
  | cons d ds ih => simp [pairs, pair] at ih ⊢; omega

theorem jd_length (y k : Nat) : (jd y k).length = k := by
  induction k generalizing y with
  | zero => rfl
  | succ k ih => simp [jd, ih]

theorem print2s_spec : ∀ (k : Nat) (buf : Buf) (i y : Nat), (∀ d ∈ jd y k, d < 100) → i + 2 * k ≤ buf.length →
    print2s k buf i y = .ok (splice buf i (pairs (jd y k)), i + 2 * k) := by
  intro k
  induction k with
  | zero =>
    intro buf i y _ h
    simp [print2s, jd, pairs, splice]
  | succ k ih =>
    intro buf i y hd h
    have hd0 : (next2 y).2 < 100 := hd _ (by simp [jd])
    have e : (next2 y).2 * 2 % 2 ^ 32 = 2 * (next2 y).2 := by
      rw [Nat.mul_comm]; exact Nat.mod_eq_of_lt (by omega)
    rw [print2s, e, wr2_spec buf i _ hd0 (by omega), bind_ok]
    simp only []
    rw [ih _ _ _ (fun d hm => hd d (by simp [jd, hm])) (by rw [splice_length _ _ _ (by simp [pair]; omega)]; omega)]
    have hl : (pair 10 (next2 y).2).length = 2 := rfl
    have := splice_append buf i (pair 10 (next2 y).2) (pairs (jd (next2 y).1 k))
      (by rw [hl, pairs_length, jd_length]; omega)
    rw [hl] at this
    rw [this]
    simp only [jd, pairs, List.flatMap_cons]
    congr 2; omega

theorem next2_eq (y : Nat) : next2 y = (y % 2 ^ 32 * 100 % 2 ^ 64, y % 2 ^ 32 * 100 % 2 ^ 64 / 2 ^ 32 % 2 ^ 32) := rfl

/-- `k` steps of `next2` read off the `k` base-100 digits of the fraction in the low word -/
theorem jd_eq_padDigits : ∀ (k y : Nat), jd y k = padDigits 100 k (y % 2 ^ 32 * 100 ^ k / 2 ^ 32) := by
  intro k
  induction k with
  | zero => intro y; rfl
  | succ k ih =>
    intro y
    generalize hL : y % 2 ^ 32 = L
    have hLb : L < 2 ^ 32 := by rw [← hL]; exact Nat.mod_lt y (by omega)
    have e0 : L * 100 % 2 ^ 64 = L * 100 := by omega
    have e1 : L * 100 / 2 ^ 32 % 2 ^ 32 = L * 100 / 2 ^ 32 := by omega
    obtain ⟨hhi, hlo⟩ := fixed_split (L * 100) (100 ^ k) (L * 100 ^ (k + 1) / 2 ^ 32) (Nat.pow_pos (by omega))
      (by rw [Nat.mul_assoc, ← Nat.pow_succ'])
    have hd : L * 100 / 2 ^ 32 % 100 = L * 100 / 2 ^ 32 := by omega
    have hs := padDigits_split 100 k 1 (L * 100 ^ (k + 1) / 2 ^ 32)
    rw [Nat.add_comm 1 k, ← hhi, ← hlo] at hs
    rw [jd, next2_eq, hL, e0, e1, ih, hs]
    simp only [padDigits, List.nil_append, hd, List.singleton_append]

theorem pairs_append (a b : List Nat) : pairs (a ++ b) = pairs a ++ pairs b := List.flatMap_append

theorem padDigits_pairs : ∀ (k m : Nat), (padDigits 10 (2 * k) m).map digitChar = pairs (padDigits 100 k m) := by
  intro k
  induction k with
  | zero => intro m; rfl
  | succ k ih =>
    intro m
    rw [Nat.mul_succ, padDigits_split 10 2 (2 * k) m, List.map_append, ih,
      padDigits_two 10 _ (Nat.mod_lt m (by omega)), padDigits, pairs_append]
    rfl

theorem numeral_split100 (k n : Nat) (h : 100 ^ k ≤ n) :
    numeral 10 n = numeral 10 (n / 100 ^ k) ++ pairs (padDigits 100 k (n % 100 ^ k)) := by
  have e : (100 : Nat) ^ k = 10 ^ (2 * k) := by rw [Nat.pow_mul]
  rw [e] at h ⊢
  unfold numeral
  rw [toDigits_split 10 (by omega) (2 * k) n h, List.map_append, padDigits_pairs]

def ArmOK (r : Res (Buf × Nat)) (buf : Buf) (n : Nat) : Prop :=
  r = .ok (splice buf 0 (numeral 10 n), (numeral 10 n).length)

/-- once the numeral `lead` of `n / 100^k` stands at offset 0, the `k` pairs printed from `q` complete the
numeral of `n` -/
theorem tail_spec (buf : Buf) (lead : List Nat) (q k n : Nat) (hq : q * 100 ^ k / 2 ^ 32 = n) (hk : 100 ^ k ≤ n)
    (hlead : numeral 10 (n / 100 ^ k) = lead) (hb : (numeral 10 n).length ≤ buf.length) :
    ArmOK (print2s k (splice buf 0 lead) lead.length q) buf n := by
  have hjd : jd q k = padDigits 100 k (n % 100 ^ k) := by
    rw [jd_eq_padDigits, (fixed_split q (100 ^ k) n (Nat.pow_pos (by omega)) hq).2]
  have hnum : numeral 10 n = lead ++ pairs (jd q k) := by rw [hjd, ← hlead]; exact numeral_split100 k n hk
  have hlen : (numeral 10 n).length = lead.length + 2 * k := by
    rw [hnum, List.length_append, pairs_length, jd_length]
  rw [hlen] at hb
  unfold ArmOK
  rw [print2s_spec k _ lead.length q (by rw [hjd]; exact padDigits_lt 100 (by omega) k _)
    (by rw [splice_length _ _ _ (by omega)]; omega)]
  have hm := splice_append buf 0 lead (pairs (jd q k)) (by rw [pairs_length, jd_length]; omega)
  rw [Nat.zero_add] at hm
  rw [hm, ← hnum, hlen]

theorem lead_length_le (k n : Nat) (h : 100 ^ k ≤ n) : (numeral 10 (n / 100 ^ k)).length ≤ (numeral 10 n).length := by
  rw [numeral_split100 k n h, List.length_append]; omega

theorem lead1_spec (buf : Buf) (q k n : Nat) (hq : q * 100 ^ k / 2 ^ 32 = n) (hk : 100 ^ k ≤ n)
    (ha : n / 100 ^ k < 10) (hb : (numeral 10 n).length ≤ buf.length) :
    ArmOK (wr1 buf 0 (q / 2 ^ 32) >>= fun w => print2s k w.1 1 q) buf n := by
  have hlead := lead_length_le k n hk
  rw [numeral_lt 10 _ ha] at hlead
  rw [(fixed_split q (100 ^ k) n (Nat.pow_pos (by omega)) hq).1, wr1_spec buf 0 _ ha (Nat.le_trans hlead hb), bind_ok]
  exact tail_spec buf _ q k n hq hk (numeral_lt 10 _ ha) hb

theorem lead2_spec (buf : Buf) (q k n : Nat) (hq : q * 100 ^ k / 2 ^ 32 = n) (hk : 100 ^ k ≤ n)
    (ha1 : 10 ≤ n / 100 ^ k) (ha : n / 100 ^ k < 100) (hb : (numeral 10 n).length ≤ buf.length) :
    ArmOK (wr2 buf 0 (q / 2 ^ 32 * 2 % 2 ^ 64) >>= fun w => print2s k w.1 2 q) buf n := by
  have hlead := lead_length_le k n hk
  rw [numeral_pair 10 _ (by omega) ha1 ha] at hlead
  rw [(fixed_split q (100 ^ k) n (Nat.pow_pos (by omega)) hq).1, dbl_no_wrap _ 64 ha (by omega), wr2_spec buf 0 _ ha (Nat.le_trans hlead hb), bind_ok]
  exact tail_spec buf _ q k n hq hk (numeral_pair 10 _ (by omega) ha1 ha) hb

/-- `print_n!(@n …)`: one or two lead digits, decided at run time -/
theorem printN_spec (buf : Buf) (n M s k : Nat) (hq : n % 2 ^ 64 * M % 2 ^ 64 / 2 ^ s * 100 ^ k / 2 ^ 32 = n)
    (hk : 100 ^ k ≤ n) (ha : n / 100 ^ k < 100) (hb : (numeral 10 n).length ≤ buf.length) :
    ArmOK (printN buf n M s k) buf n := by
  unfold printN
  generalize n % 2 ^ 64 * M % 2 ^ 64 / 2 ^ s = q at hq ⊢
  have hlead := lead_length_le k n hk
  have ha1 : 1 ≤ n / 100 ^ k := (Nat.le_div_iff_mul_le (Nat.pow_pos (by omega))).2 (by omega)
  simp only [Lit.hi32, (fixed_split q (100 ^ k) n (Nat.pow_pos (by omega)) hq).1,
    Nat.mod_eq_of_lt (show n / 100 ^ k < 2 ^ 32 by omega)]
  by_cases h : n / 100 ^ k < 10
  · rw [numeral_lt 10 _ h] at hlead
    rw [if_pos h, wr1_spec buf 0 _ h (Nat.le_trans hlead hb), bind_ok]
    exact tail_spec buf _ q k n hq hk (numeral_lt 10 _ h) hb
  · rw [numeral_pair 10 _ (by omega) (by omega) ha] at hlead
    rw [if_neg h, dbl_no_wrap _ 32 ha (by omega), wr2_spec buf 0 _ ha (Nat.le_trans hlead hb), bind_ok]
    exact tail_spec buf _ q k n hq hk (numeral_pair 10 _ (by omega) (by omega) ha) hb

end LexVerif.Model.WriteInt
