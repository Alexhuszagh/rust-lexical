import LexVerif.Proof.SepSkipAll
import LexVerif.Proof.SepFreeMany
/-!
# Proof.SepStripLoops — `skip_zeros` and `parse_u64_digits` over an input with separators, read on the stripped input

On a buffer without the separator byte these calls are functions of the bytes under the cursor (`skipZeros_pk`,
`parseU64_pk` of `Proof/SepFree*.lean`: `zerosPrefix`, `u64Spec`). Over an input `s` WITH separators they return the same
values, read at the cursor of the stripped input that corresponds (`StripRel`), as long as the loop does not come to rest on
a separator that `peek` refused to skip: a loop that takes no separator reads the stripped input (`IterSpec.scan_strip`,
`scan_nonSep`). Where a loop rests is known from the digit run it walks along (`scan_mono`): `scan_sub_rest`,
`scan_sub_stop`, `scan_resume`.
-/
namespace LexVerif.Proof.Sep
open LexVerif LexVerif.Model LexVerif.Spec
open LexVerif.Props.C12
open LexVerif.Proof.IterSpec (scan scanAt run mv isDig Clean peekIdx StepOK)

variable {c : Cfg} {k : Comp}

/-! ### a loop with a stronger test along a loop with a weaker one, from the same cursor -/

/-- the stronger loop stops at a byte the weaker loop takes (no separator, by `Clean`), or where that one rests -/
theorem scan_sub_rest (s : List Nat) {p q : Nat → Bool} (hpq : ∀ x, p x = true → q x = true) (hq : Clean c k q)
    (lim : Nat) (f : Bool) (i : Nat)
    (hN : ∀ x, s[(scan c k s q lim f i).2]? = some x → c.isSep x = false) :
    ∀ x, s[(scan c k s p lim f i).2]? = some x → c.isSep x = false := by
  intro x hx
  rcases hq with hk | hs
  · exact IterSpec.scan_rest_iltc hk s p lim f i x hx
  · have hm := IterSpec.scan_mono (c := c) (k := k) s hpq lim lim f i (Nat.le_refl _)
    rcases IterSpec.scanAt_cases (c := c) (k := k) s q (lim - (scan c k s p lim f i).1.length) (scan c k s p lim f i).2 with
      e | ⟨y, hy, hqy, _⟩
    · rw [hm, e] at hN; exact hN x hx
    · rw [hx] at hy; cases hy
      cases h : c.isSep x
      · rfl
      · rw [hs x h] at hqy; cases hqy

theorem scan_sub_stop (s : List Nat) {p q : Nat → Bool} (hpq : ∀ x, p x = true → q x = true) (lim : Nat) (f : Bool)
    (i : Nat) (h : ∀ x, s[(scan c k s p lim f i).2]? = some x → q x = false) :
    scan c k s q lim f i = scan c k s p lim f i := by
  rw [IterSpec.scan_mono (c := c) (k := k) s hpq lim lim f i (Nat.le_refl _)]
  have : scanAt c k s q (lim - (scan c k s p lim f i).1.length) (scan c k s p lim f i).2 = ([], (scan c k s p lim f i).2) := by
    unfold scanAt
    split
    · next l x _ hx => rw [if_neg (by rw [h x hx]; simp)]
    · rfl
  rw [this, List.append_nil]

theorem scan_resume (s : List Nat) {p q : Nat → Bool} (hpq : ∀ x, p x = true → q x = true) (lim : Nat) (f : Bool)
    (i : Nat) (hlt : (scan c k s q lim f i).1.length < lim)
    (hN : ∀ x, s[(scan c k s p lim f i).2]? = some x → c.isSep x = false) (lim2 : Nat) (f2 : Bool)
    (hl2 : (scan c k s q lim f i).1.length < lim2) :
    scan c k s q lim2 f2 (scan c k s p lim f i).2 =
      ((scan c k s q lim f i).1.drop (scan c k s p lim f i).1.length, (scan c k s q lim f i).2) := by
  have hm := IterSpec.scan_mono (c := c) (k := k) s hpq lim lim f i (Nat.le_refl _)
  generalize hA : scanAt c k s q (lim - (scan c k s p lim f i).1.length) (scan c k s p lim f i).2 = A at hm
  have hlen : (scan c k s q lim f i).1.length = (scan c k s p lim f i).1.length + A.1.length := by
    rw [hm, List.length_append]
  rw [IterSpec.scan_eq_scanAt, IterSpec.peekIdx_nonsep c k s f2 _ hN,
    IterSpec.scanAt_lim s q (lim - (scan c k s p lim f i).1.length) lim2 _ (by rw [hA]; omega) (by rw [hA]; omega), hA,
    hm, List.drop_left]

theorem StripRel.mv {s : List Nat} {b b' : Bytes} (h : StripRel c s b b') (k : Comp) {j n : Nat} (hj : b.index ≤ j)
    (hn : (nonSep c (slice s b.index j)).length = n) : StripRel c s (IterSpec.mv c k j n b) (Sep.adv c k n b') := by
  rw [mv_eq_advS c k j n b hj]
  exact h.adv k _ _ (by rw [h.1]; exact hn)

/-- on an iterator without separator flags the count is the cursor, which moved over these bytes only -/
theorem run_iterCount (hks : k ≠ .special) (p : Nat → Bool) (b : Bytes) :
    (mv c k (run c k p b).2 (run c k p b).1.length b).iterCount c k - b.iterCount c k = (run c k p b).1.length := by
  simp only [run]
  cases hct : c.iterContiguous k
  · rw [IterSpec.mv_iterCount c k hct hks]; omega
  · have hk := (IterSpec.skip_noskip_iff c k).mpr hct
    simp only [Bytes.iterCount, hct, if_true, IterSpec.mv_index]
    rw [IterSpec.scan_plain_idx b.slc p (fun _ _ => IterSpec.peekIdx_noskip hk _ _ _)]
    omega

theorem isDig_zero {r : Nat} (h48 : charToDigit 48 r = some 0) (x : Nat) (hx : (x == 48) = true) : isDig r x = true := by
  simp [isDig, beq_iff_eq.mp hx, h48]

theorem Clean.zero {r : Nat} (h48 : charToDigit 48 r = some 0) (h : Clean c k (isDig r)) : Clean c k (· == 48) :=
  h.imp id fun hs x hx => by
    cases hz : x == 48
    · exact hz
    · have := isDig_zero h48 x hz; rw [hs x hx] at this; cases this

theorem parseDigits_end (hd : c.debug = false) {r : Nat} {b e : Bytes} {ds : List Nat}
    (h : parseDigits c k r b = .ok (ds, e)) :
    e = mv c k (run c k (isDig r) b).2 (run c k (isDig r) b).1.length b := by
  rw [Sep.parseDigits_eq c k r hd (reach_of_run h) b] at h
  simp only [Except.ok.injEq, Prod.mk.injEq] at h
  exact h.2.symm

theorem run_stay (p : Nat → Bool) (b : Bytes) (h : ∀ x, b.slc[b.index]? = some x → c.isSep x = false ∧ p x = false) :
    run c k p b = ([], b.index) := by
  simp only [run, scan, IterSpec.peekIdx_nonsep c k b.slc _ b.index fun x hx => (h x hx).1]
  cases hx : b.slc[b.index]? with
  | none => rfl
  | some x => simp [(h x hx).2]

theorem skipZeros_strip (hd : c.debug = false) (hs : c.skip k ≠ .unreachable) (hks : k ≠ .special)
    (hc : Clean c k (· == 48)) {s : List Nat} {b b' : Bytes} (hr : StripRel c s b b')
    (hN : ∀ x, s[(run c k (· == 48) b).2]? = some x → c.isSep x = false) :
    skipZeros c k b = .ok (zerosPrefix (b'.slc.drop b'.index),
      mv c k (run c k (· == 48) b).2 (zerosPrefix (b'.slc.drop b'.index)) b) ∧
    StripRel c s (mv c k (run c k (· == 48) b).2 (zerosPrefix (b'.slc.drop b'.index)) b)
      (adv c k (zerosPrefix (b'.slc.drop b'.index)) b') ∧
    zerosPrefix (b'.slc.drop b'.index) = (run c k (· == 48) b).1.length := by
  have hsl := hr.1
  subst hsl
  have hz : zerosPrefix (b'.slc.drop b'.index) = (run c k (· == 48) b).1.length := by
    rw [hr.drop, zerosPrefix_takeWhile, IterSpec.scan_strip b.slc hc _ _ _ (IterSpec.run_fuel _ b) hN]
  rw [hz, IterSpec.skipZeros_eq hs b (StepOK.release hd k 48), run_iterCount hks]
  exact ⟨rfl, hr.mv k (IterSpec.scan_ge ..) (by rw [IterSpec.scan_nonSep b.slc hc]), rfl⟩

theorem parseU64_strip (hd : c.debug = false) (hs : c.skip k ≠ .unreachable) (hks : k ≠ .special)
    (hct : c.iterContiguous k = false) (hbc : c.bytesContiguous = false)
    (hc : Clean c k (isDig c.mantissaRadix)) {s : List Nat} {b b' : Bytes} (hr : StripRel c s b b')
    (hv : b.index ≤ s.length) (hend : (run c k (isDig c.mantissaRadix) b).2 = s.length) (m st : Nat) :
    ∃ bu, parseU64Digits c k b m st =
        .ok (bu, (u64Spec c.mantissaRadix (b'.slc.drop b'.index) m st).2.1,
          (u64Spec c.mantissaRadix (b'.slc.drop b'.index) m st).2.2) ∧
      bu.currentCount c = b.currentCount c + (u64Spec c.mantissaRadix (b'.slc.drop b'.index) m st).1 := by
  have hf := format_of_iter hct
  have hnb : IterSpec.nblocksU c k b.slc b.index st = 0 := by simp [IterSpec.nblocksU, canMultidigit, hct]
  -- what the loop takes: the first `st` bytes of the digit run, which are the non-separator bytes up to the end
  have hT := scan_all_along b.slc (isDig c.mantissaRadix) _ (b.iterCount c k == 0) b.index
    (IterSpec.run_fuel _ b) (by
      show b.slc[(run c k (isDig c.mantissaRadix) b).2]? = none
      rw [hend, hr.1]; exact List.getElem?_eq_none (Nat.le_refl _)) st
  have hD : (run c k (isDig c.mantissaRadix) b).1 = b'.slc.drop b'.index := by
    have := IterSpec.scan_nonSep b.slc hc (b.slc.length + 1) (b.iterCount c k == 0) b.index
    rw [show (scan c k b.slc (isDig c.mantissaRadix) (b.slc.length + 1) (b.iterCount c k == 0) b.index).2 = s.length from
      hend] at this
    rw [hr.drop, ← this, hr.1, slice, List.take_of_length_le (by simp)]
  have hle := IterSpec.scan_le (c := c) (k := k) b.slc (fun _ => true) st (b.iterCount c k == 0) b.index
    (by rw [hr.1]; exact hv)
  rw [IterSpec.parseU64Digits_eq (fun _ h => by rw [hd] at h; cases h)]
  simp only [hnb, Nat.mul_zero, Nat.add_zero, Nat.sub_zero, IterSpec.mv_zero, IterSpec.cur_self, IterSpec.acc8]
  rw [IterSpec.u64Loop1_eq hs _ b _ st (fun x _ => StepOK.release hd k x) (fun h => by rw [hd] at h; cases h),
    if_pos (by omega), u64Spec_eq, hT, ← hD]
  simp only [run, List.length_take]
  refine ⟨_, rfl, ?_⟩
  simp only [Bytes.currentCount, hbc, Bool.false_eq_true, if_false, IterSpec.mv_sum c k hf hks]

end LexVerif.Proof.Sep
