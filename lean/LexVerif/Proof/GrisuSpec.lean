import LexVerif.Model.Grisu
import LexVerif.Proof.DragonboxSpec
import LexVerif.Spec.Numeral
/-!
# Proof.GrisuSpec — what "Grisu is correct" means per input

`grisuOk t bits`: the model's `grisu` returns digit characters `'0'..'9'`, at most 17 (f64) / 9 (f32) of them, no
leading zero, and `digits · 10^k` is rounded by the exact `roundNE` back to `bits` (C02 demands round trip and the
digit bound of `compact` builds, not minimality).
-/
namespace LexVerif.Proof.GrisuSpec
open LexVerif.Spec LexVerif.Model LexVerif.Model.Dragonbox LexVerif.Proof.DragonboxSpec

def maxDigits : FTy → Nat | .f32 => 9 | .f64 => 17

def decFracN (D : Nat) (E : Int) : Nat × Nat :=
  if E ≥ 0 then (D * 10 ^ E.toNat, 1) else (D, 10 ^ (-E).toNat)

def grisuOk (t : FTy) (bits : Nat) : Bool :=
  match Grisu.grisu t bits with
  | some (ds, k) =>
    let vals := ds.map (· - 48)
    let D := ofDigits 10 vals
    ds.all (fun c => 48 ≤ c ∧ c ≤ 57) && ds.length ≤ maxDigits t && 1 ≤ ds.length && ds.head? != some 48
      && roundNE (fmtOf t) (decFracN D k).1 (decFracN D k).2 == bits
  | none => false

end LexVerif.Proof.GrisuSpec
