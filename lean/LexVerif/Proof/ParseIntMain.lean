import LexVerif.Proof.ParseInt
import LexVerif.Proof.ParseIntPartial
/-!
# Proof.ParseIntMain — `Model.ParseInt.parseInt = Spec.parseInt`, assembled from the loop lemmas
-/
namespace LexVerif.Proof.ParseInt
open LexVerif.Spec LexVerif.Model LexVerif.Model.ParseInt

/-- the part of `algorithm!` after the sign and the empty check (verbatim copy of the model's body) -/
def body (feats : Features) (t : IntTy) (radix : Nat) (partial_ noMulti : Bool)
    (isNegative : Bool) (rest : List Nat) (cursor bufLen : Nat) : MRes :=
  let od := overflowDigits t radix
  let cannotOverflow := decide (rest.length ≤ od)
  let st1 : Flow (List Nat × Nat × Nat) :=
    if cannotOverflow && isNegative then
      match parseDigitsUnchecked t radix feats partial_ noMulti true rest cursor bufLen 0 with
      | .error e => .error e
      | .ok (value, cursor) => .ok ([], value, cursor)
    else .ok (rest, 0, cursor)
  match st1 with
  | .error e => e
  | .ok (rest, value, cursor) =>
    let st2 : Flow (Nat × Nat) :=
      if cannotOverflow then parseDigitsUnchecked t radix feats partial_ noMulti false rest cursor bufLen value
      else if isNegative then parseDigitsChecked t radix feats partial_ noMulti true rest cursor bufLen value od
      else parseDigitsChecked t radix feats partial_ noMulti false rest cursor bufLen value od
    match st2 with
    | .error e => e
    | .ok (value, _) => intoOk t value bufLen

theorem parseInt_unfold (feats : Features) (t : IntTy) (radix : Nat) (p nm : Bool) (s : List Nat) :
    parseInt feats t radix p nm s =
      match parseSign t.signed s 0 with
      | .error e => e
      | .ok (isNegative, rest, cursor) =>
        if cursor ≥ s.length then .done (.empty cursor) else body feats t radix p nm isNegative rest cursor s.length := rfl

theorem finish_eq (t : IntTy) (L : Nat) (x : Flow (Nat × Nat)) :
    (match x with | .error e => e | .ok (value, _) => intoOk t value L) = finish t L x := by
  cases x <;> rfl

theorem IsIntTy.bits_ge {t : IntTy} (ht : IsIntTy t) : 8 ≤ t.bits := by
  unfold IsIntTy at ht; omega

theorem uncheckedAll_spec (t : IntTy) (ht : IsIntTy t) {r : Nat} (h2 : 2 ≤ r) (hr : r ≤ 36) (p neg : Bool)
    (hneg : neg = true → t.signed = true) (rest : List Nat) (cursor : Nat)
    (hbytes : ∀ b ∈ rest, b < 256) (hc : rest.length ≤ overflowDigits t r) :
    (∀ e, parse1Unchecked t r p neg rest 0 cursor = .error e →
      e = .done (scanDigits r (t.maxMag neg) neg p rest 0 cursor)) ∧
    (∀ v c, parse1Unchecked t r p neg rest 0 cursor = .ok (v, c) →
      c = cursor + rest.length ∧ v < 2 ^ t.bits ∧
      intoOk t v (cursor + rest.length) = .done (scanDigits r (t.maxMag neg) neg p rest 0 cursor)) := by
  have hb := ht.bits_ge
  have hsafe := overflowDigits_safe t ht h2 hr
  have hpow : r ^ (0 + rest.length) ≤ t.maxMag false + 1 := by
    rw [Nat.zero_add]; exact Nat.le_trans (Nat.pow_le_pow_right (by omega) hc) hsafe
  have h := parse1Unchecked_spec t (by omega) h2 hr p neg hneg [] rest hbytes 0 cursor 0 (by simp) hpow
  rw [enc_zero, List.append_nil] at h
  refine ⟨h.1, fun v c hvc => ?_⟩
  obtain ⟨acc', hv, hcc, hacc, hscan⟩ := h.2 v c hvc
  refine ⟨hcc, by rw [hv]; exact enc_lt _ _ _, ?_⟩
  rw [hscan, hv, hcc]
  simp only [scanDigits]
  exact intoOk_enc t (by omega) neg hneg hacc _

theorem _root_.LexVerif.Props.C04.hmulti_of {feats : Features} {r : Nat} {nm : Bool} (hfeat : feats.powerOfTwo = true ∨ r = 10)
    (hsw : r ≤ 10 → SwarCorrect r) : (canMulti feats r && !nm) = true → r ≤ 10 ∧ SwarCorrect r := by
  intro h
  have h10 : r ≤ 10 := by
    rcases hfeat with hp | h10
    · simp [canMulti, hp] at h; exact h.1
    · omega
  exact ⟨h10, hsw h10⟩

/-- `algorithm!` behind the sign, in its four branches `cannot_overflow × is_negative`: when the input is at most
`overflow_digits` long the unchecked loop does everything (`uncheckedAll_spec`; for a negative number the first call
consumes the input and the second sees none); otherwise `take_n(overflow_digits)` goes through the unchecked loop and
the rest through the checked one (`parse1Unchecked_spec` with the rest as `tail`, then `parse1Checked_spec`) -/
theorem body_spec (feats : Features) (t : IntTy) (ht : IsIntTy t) {r : Nat} (h2 : 2 ≤ r) (hr : r ≤ 36) (p nm : Bool)
    (hmulti : (canMulti feats r && !nm) = true → r ≤ 10 ∧ SwarCorrect r)
    (neg : Bool) (hneg : neg = true → t.signed = true) (rest : List Nat) (cursor bufLen : Nat)
    (hlen : bufLen = cursor + rest.length) (hbytes : ∀ b ∈ rest, b < 256) :
    body feats t r p nm neg rest cursor bufLen = .done (scanDigits r (t.maxMag neg) neg p rest 0 cursor) := by
  have hb := ht.bits_ge
  have hM := Nat.two_pow_pos t.bits
  unfold body
  simp only
  by_cases hc : rest.length ≤ overflowDigits t r
  · -- cannot_overflow
    have hall := uncheckedAll_spec t ht h2 hr p neg hneg rest cursor hbytes hc
    simp only [hc, decide_true, Bool.true_and, if_true]
    cases neg with
    | true =>
      simp only [if_true]
      rw [parseDigitsUnchecked_eq t feats p nm true hmulti rest cursor bufLen 0 hbytes hM]
      cases hl : parse1Unchecked t r p true rest 0 cursor with
      | error e => simp only; exact hall.1 e hl
      | ok x =>
        obtain ⟨v, c⟩ := x
        obtain ⟨_, hv, hok⟩ := hall.2 v c hl
        simp only
        rw [parseDigitsUnchecked_eq t feats p nm false hmulti [] c bufLen v (by simp) hv]
        simp only [parse1Unchecked]
        rw [hlen]; exact hok
    | false =>
      simp only [Bool.false_eq_true, if_false]
      rw [parseDigitsUnchecked_eq t feats p nm false hmulti rest cursor bufLen 0 hbytes hM]
      cases hl : parse1Unchecked t r p false rest 0 cursor with
      | error e => simp only; exact hall.1 e hl
      | ok x =>
        obtain ⟨v, c⟩ := x
        obtain ⟨_, hv, hok⟩ := hall.2 v c hl
        simp only
        rw [hlen]; exact hok
  · -- checked path: `take_n(overflow_digits)` wrapping prefix, checked tail
    have hgt : overflowDigits t r < rest.length := by omega
    simp only [hc, decide_false, Bool.false_and, Bool.false_eq_true, if_false]
    have hsame : (if neg = true then parseDigitsChecked t r feats p nm true rest cursor bufLen 0 (overflowDigits t r)
        else parseDigitsChecked t r feats p nm false rest cursor bufLen 0 (overflowDigits t r))
        = parseDigitsChecked t r feats p nm neg rest cursor bufLen 0 (overflowDigits t r) := by
      cases neg <;> rfl
    rw [hsame, finish_eq]
    unfold parseDigitsChecked
    have hend : min bufLen (overflowDigits t r + cursor) = overflowDigits t r + cursor := by omega
    simp only [hend]
    rw [if_neg (by omega), if_neg (by omega)]
    have hsub : overflowDigits t r + cursor - cursor = overflowDigits t r := by omega
    rw [hsub]
    have hsmall : ∀ b ∈ rest.take (overflowDigits t r), b < 256 := fun b hb' => hbytes b (List.mem_of_mem_take hb')
    have hrest' : ∀ b ∈ rest.drop (overflowDigits t r), b < 256 := fun b hb' => hbytes b (List.mem_of_mem_drop hb')
    rw [parseDigitsUnchecked_eq t feats p nm neg hmulti _ cursor _ 0 hsmall hM]
    have htl : (rest.take (overflowDigits t r)).length = overflowDigits t r := by
      rw [List.length_take]; omega
    have hsafe := overflowDigits_safe t ht h2 hr
    have h := parse1Unchecked_spec t (by omega) h2 hr p neg hneg (rest.drop (overflowDigits t r))
      (rest.take (overflowDigits t r)) hsmall 0 cursor 0 (by simp) (by rw [Nat.zero_add, htl]; exact hsafe)
    rw [enc_zero, List.take_append_drop] at h
    cases hl : parse1Unchecked t r p neg (rest.take (overflowDigits t r)) 0 cursor with
    | error e => simp only [finish]; exact h.1 e hl
    | ok x =>
      obtain ⟨v, c⟩ := x
      obtain ⟨acc', hv, hcc, hacc, hscan⟩ := h.2 v c hl
      simp only
      rw [hscan, hv, hcc, htl]
      have := parse1Checked_spec t hb hr p neg hneg (rest.drop (overflowDigits t r)) hrest' acc'
        (cursor + overflowDigits t r) hacc
      rw [List.length_drop] at this
      rw [show bufLen = cursor + overflowDigits t r + (rest.length - overflowDigits t r) by omega,
        Nat.add_comm (overflowDigits t r) cursor]
      exact this

open LexVerif.Proof.ParseIntPartial (signLen isNeg) in
theorem parseSign_eq (t : IntTy) (s : List Nat) :
    parseSign t.signed s 0 = .ok (isNeg t s, s.drop (signLen t s), signLen t s) := by
  cases s with
  | nil => simp [parseSign, signLen, isNeg]
  | cons c cs =>
    by_cases h43 : c = 43
    · subst h43; simp [parseSign, signLen, isNeg]
    · by_cases h45 : c = 45
      · subst h45; cases hs : t.signed <;> simp [parseSign, signLen, isNeg, hs]
      · have : parseSign t.signed (c :: cs) 0 = .ok (false, c :: cs, 0) := by
          unfold parseSign
          split
          · rename_i heq; cases heq; exact absurd rfl h43
          · rename_i heq; cases heq; exact absurd rfl h45
          · rfl
        simp [this, signLen, isNeg, h43, h45]

open LexVerif.Proof.ParseIntPartial (signLen isNeg) in
/-- Model and specification read the same sign (`parseSign_eq`, `ParseIntPartial.parseInt_eq`); behind it the
model's body is the specification scan. -/
theorem parseInt_eq_spec_of (feats : Features) (t : IntTy) (ht : IsIntTy t) {r : Nat} (h2 : 2 ≤ r) (hr : r ≤ 36)
    (p nm : Bool) (hmulti : (canMulti feats r && !nm) = true → r ≤ 10 ∧ SwarCorrect r)
    (s : List Nat) (hs : ∀ b ∈ s, b < 256) :
    parseInt feats t r p nm s = .done (Spec.parseInt t r p s) := by
  have hlen := LexVerif.Proof.ParseIntPartial.drop_length_add t s
  rw [parseInt_unfold, parseSign_eq, LexVerif.Proof.ParseIntPartial.parseInt_eq]
  simp only
  by_cases he : s.drop (signLen t s) = []
  · rw [he, List.length_nil] at hlen
    rw [if_pos he, if_pos (by omega)]
  · have hpos := List.length_pos_iff.2 he
    rw [if_neg he, if_neg (by omega)]
    exact body_spec feats t ht h2 hr p nm hmulti (isNeg t s)
      (fun h => (of_decide_eq_true h).2) _ _ _ hlen.symm fun b hb => hs b (List.mem_of_mem_drop hb)

end LexVerif.Proof.ParseInt
