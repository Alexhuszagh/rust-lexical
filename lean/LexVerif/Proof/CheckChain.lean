/-!
# Proof.CheckChain — a validator as a list of checks

Every validator of the crates (`format_error_impl`, the `OptionsBuilder::build`s) is a chain
`if !check₁ { return Err₁ } if !check₂ { return Err₂ } … Ok`. `firstFailed fail ok` is that chain over a list of
`(error name, passes)` pairs, for any way of reporting: `fail = id`, `ok = "Success"` for `format_error_impl`,
`fail = some`, `ok = none` for the transcriptions that return an `Option`, `fail = .error`, `ok = .ok ()` for the
builders. A model function is shown to be such a chain by walking its `if`s with `chain_step`; what the chain
answers is then a fact about lists.
-/
namespace LexVerif.Proof.CheckChain

variable {α : Type}

def firstFailed (fail : String → α) (ok : α) : List (String × Bool) → α
  | [] => ok
  | (name, pass) :: cs => if !pass then fail name else firstFailed fail ok cs

theorem firstFailed_eq_find (fail : String → α) (ok : α) (cs : List (String × Bool)) :
    firstFailed fail ok cs = (match cs.find? (fun c => !c.2) with | some c => fail c.1 | none => ok) := by
  induction cs with
  | nil => rfl
  | cons c cs ih => obtain ⟨name, pass⟩ := c; cases pass <;> simp [firstFailed, ih]

theorem firstFailed_eq_ok_iff {fail : String → α} {ok : α} {cs : List (String × Bool)}
    (hn : ∀ c ∈ cs, fail c.1 ≠ ok) : firstFailed fail ok cs = ok ↔ ∀ c ∈ cs, c.2 = true := by
  induction cs with
  | nil => simp [firstFailed]
  | cons c cs ih =>
    obtain ⟨name, pass⟩ := c
    have hne : fail name ≠ ok := hn _ (List.mem_cons_self ..)
    cases pass <;> simp [firstFailed, hne, ih fun c hc => hn c (List.mem_cons_of_mem _ hc)]

/-- one `if !test { return name }` of a validator. `x` is `fail name`; it is a variable of its own so that the rule
unifies with the `if` of the model function before `fail` is known. -/
theorem chain_step {fail : String → α} {ok rest x : α} {name : String} {a : Bool} {P : Prop} [Decidable P]
    {ds : List (String × Bool)} (ha : a = decide P) (h : P → rest = firstFailed fail ok ds)
    (hx : x = fail name := by rfl) :
    (if !a then x else rest) = firstFailed fail ok ((name, decide P) :: ds) := by
  subst ha hx
  by_cases hp : P
  · simp [firstFailed, hp, h hp]
  · simp [firstFailed, hp]

theorem chain_step_bad {fail : String → α} {ok rest x : α} {name : String} {a : Bool} {P : Prop} [Decidable P]
    {ds : List (String × Bool)} (ha : a = !decide P) (h : P → rest = firstFailed fail ok ds)
    (hx : x = fail name := by rfl) :
    (if a then x else rest) = firstFailed fail ok ((name, decide P) :: ds) := by
  rw [← chain_step rfl h hx, ha]

theorem chain_step_not {fail : String → α} {ok rest x : α} {name : String} {p P : Prop} [Decidable p] [Decidable P]
    {ds : List (String × Bool)} (hp : p ↔ ¬ P) (h : P → rest = firstFailed fail ok ds)
    (hx : x = fail name := by rfl) :
    (if p then x else rest) = firstFailed fail ok ((name, decide P) :: ds) := by
  rw [← chain_step_bad (a := decide p) (by simp [hp]) h hx]
  simp

/-- a block of checks that answers with an `Option` (`if let Some(e) = block { return e }`), followed by the rest.
(`generalizing := false`: otherwise the match takes `hb` along and `rw [hb]` fails on the motive.) -/
theorem chain_block {fail : String → α} {ok rest : α} {b : Option String} {cs ds : List (String × Bool)}
    (hb : b = firstFailed some none cs) (h : rest = firstFailed fail ok ds) :
    (match (generalizing := false) b with | some e => fail e | none => rest) = firstFailed fail ok (cs ++ ds) := by
  rw [hb, h]
  clear hb
  induction cs with
  | nil => rfl
  | cons c cs ih => obtain ⟨name, pass⟩ := c; cases pass <;> simp [firstFailed, ih]

theorem ite_twice {x rest : α} (a b : Bool) :
    (if a then x else if b then x else rest) = if (a || b) then x else rest := by
  cases a <;> rfl

end LexVerif.Proof.CheckChain
