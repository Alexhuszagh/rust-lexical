import LexVerif.Model.ParseNumber
/-!
# Proof.GrammarIter — the vocabulary in which the parser is compared with `Spec.Grammar`

`tl b` is the unread part of the buffer, `Adv b b' n` says that `b'` is `b` moved on by `n` bytes: the splitters of
`Spec.Grammar` consume a list, the model moves a cursor. `NoSep c`: the format has no digit separator at all (every
format when the cargo feature `format` is off).
-/
namespace LexVerif.Proof.Grammar
open LexVerif LexVerif.Spec LexVerif.Model

/-- no digit separator anywhere in the format (`Sep.NoSep c s`, `Proof/SepFree.lean`, is the weaker fact about one input:
`s` does not contain the separator byte) -/
structure NoSep (c : Cfg) : Prop where
  sep0 : c.digitSeparator = 0
  int : c.sepFlags .integer = SepFlags.none
  frac : c.sepFlags .fraction = SepFlags.none
  exp : c.sepFlags .exponent = SepFlags.none
  spec : c.specialSep = false

/-- without the `format` feature every flag that is off in `not_feature_format.rs` is off -/
theorem format_and_flag (c : Cfg) (w : Format → Bool) : (c.feats.format && c.flag w false) = c.flag w false := by
  cases hf : c.feats.format <;> simp [Cfg.flag, hf]

theorem NoSep.of_noformat (c : Cfg) (hf : c.feats.format = false) : NoSep c := by
  constructor <;> simp [Cfg.digitSeparator, Cfg.sepFlags, Cfg.flag, Cfg.specialSep, hf, SepFlags.none]

theorem NoSep.skip {c : Cfg} (h : NoSep c) (k : Comp) : c.skip k = .noskip := by
  cases k <;> simp [Cfg.skip, h.int, h.frac, h.exp, h.spec, SepFlags.none, SepFlags.skip]

def tl (b : Bytes) : List Nat := b.slc.drop b.index

def Adv (b b' : Bytes) (n : Nat) : Prop := b'.slc = b.slc ∧ b'.index = b.index + n

theorem Adv.tl {b b' : Bytes} {n : Nat} (h : Adv b b' n) : tl b' = (tl b).drop n := by
  simp [Grammar.tl, h.1, h.2, List.drop_drop, Nat.add_comm]

theorem Adv.refl (b : Bytes) : Adv b b 0 := ⟨rfl, rfl⟩

theorem Adv.trans {a b c : Bytes} {n m : Nat} (h1 : Adv a b n) (h2 : Adv b c m) : Adv a c (n + m) :=
  ⟨h2.1.trans h1.1, by rw [h2.2, h1.2]; omega⟩

theorem tl_head (b : Bytes) : (tl b).head? = b.slc[b.index]? := by
  simp [tl, List.head?_drop]

theorem tl_cons {b : Bytes} {x : Nat} {xs : List Nat} (h : tl b = x :: xs) :
    b.slc[b.index]? = some x ∧ b.index < b.slc.length ∧ tl { b with index := b.index + 1 } = xs := by
  have h1 : (tl b).head? = some x := by rw [h]; rfl
  rw [tl_head] at h1
  have hlt : b.index < b.slc.length := by
    rcases List.getElem?_eq_some_iff.mp h1 with ⟨hl, _⟩; exact hl
  refine ⟨h1, hlt, ?_⟩
  have : tl { b with index := b.index + 1 } = (tl b).drop 1 := by
    simp [tl, List.drop_drop, Nat.add_comm]
  rw [this, h]; rfl

end LexVerif.Proof.Grammar
