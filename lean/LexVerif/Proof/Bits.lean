/-!
# Proof.Bits — `&&&`/`|||`/`<<<`/`>>>` on `Nat` in terms of div/mod
-/
namespace LexVerif.Proof.Bits

theorem and_shifted_mask (f n s : Nat) : f &&& ((2 ^ n - 1) <<< s) = (f / 2 ^ s % 2 ^ n) * 2 ^ s := by
  apply Nat.eq_of_testBit_eq
  intro i
  rw [Nat.testBit_and, Nat.testBit_shiftLeft, Nat.testBit_two_pow_sub_one, Nat.testBit_mul_two_pow,
    Nat.testBit_mod_two_pow, Nat.testBit_div_two_pow]
  by_cases h : s ≤ i
  · have : i - s + s = i := by omega
    simp [h, this, Bool.and_comm]
  · simp [h]

theorem and_shifted_mask_shr (f n s : Nat) : (f &&& ((2 ^ n - 1) <<< s)) >>> s = f / 2 ^ s % 2 ^ n := by
  rw [and_shifted_mask, Nat.shiftRight_eq_div_pow, Nat.mul_div_cancel _ (Nat.two_pow_pos s)]

theorem and_two_pow (f i : Nat) : f &&& 2 ^ i = (f / 2 ^ i % 2) * 2 ^ i := by
  have := and_shifted_mask f 1 i
  simpa [Nat.shiftLeft_eq] using this

theorem and_two_pow_ne_zero (f i : Nat) : (f &&& 2 ^ i != 0) = decide (f / 2 ^ i % 2 = 1) := by
  rw [and_two_pow]
  have h : f / 2 ^ i % 2 = 0 ∨ f / 2 ^ i % 2 = 1 := by omega
  have hp : 2 ^ i ≠ 0 := Nat.ne_of_gt (Nat.two_pow_pos i)
  rcases h with h | h <;> simp [h]

theorem or_mul_two_pow (x y s : Nat) (h : x < 2 ^ s) : x ||| y * 2 ^ s = x + y * 2 ^ s := by
  rw [Nat.or_comm, ← Nat.shiftLeft_eq, ← Nat.shiftLeft_add_eq_or_of_lt h, Nat.add_comm]

theorem or_shiftLeft (x y s : Nat) (h : x < 2 ^ s) : x ||| y <<< s = x + y * 2 ^ s := by
  rw [Nat.shiftLeft_eq, or_mul_two_pow x y s h]

end LexVerif.Proof.Bits
