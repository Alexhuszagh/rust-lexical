import LexVerif.Proof.WriteBinaryDigits
import LexVerif.Proof.WriteRadixMid
import LexVerif.Model.WriteRadixInt
/-!
# Proof.WriteRadixIntText — on integer digits the full writer's text IS the integer-path model's text

`layoutText_int`: for a scratch buffer that holds only integer digits `ds` (first digit non-zero, at most 64 digits,
no fraction digits) and default `max_significant_digits`, `Model.WriteRadix.layoutText` returns exactly
`WriteBinary.render (WriteRadixInt.layoutInt …)`, the text of the integer-path model, in both notations: such a buffer
fits (`WriteRadixMid.layoutText_all`), and the two finishing functions on all digits are the two layouts rendered.
-/
namespace LexVerif.Proof.WriteRadixIntText
open LexVerif.Spec LexVerif.Model LexVerif.Model.WriteBinary
open LexVerif.Proof.WriteRadixWF
open LexVerif.Model.WriteInt (Res)

theorem digitChar_eq_48 (d : Nat) : digitChar d = 48 ↔ d = 0 := by
  unfold digitChar; split <;> omega

theorem rtrim_general {α : Type} (p : α → Bool) (l : List α) :
    (l.reverse.dropWhile p).reverse = l.take (l.length - (l.reverse.takeWhile p).length) := by
  have hl := WriteBinaryDigits.rtrim_append p l
  have hlen := congrArg List.length hl
  rw [List.length_append, List.length_reverse (as := l.reverse.takeWhile p)] at hlen
  conv => rhs; arg 2; rw [hl]
  exact (List.take_left' (by omega)).symm

theorem chars_rtrimZeros (t : List Nat) :
    chars (rtrimZeros t) = (chars t).take ((chars t).length - WriteRadix.rtrimCount 48 (chars t)) := by
  have hcount : WriteRadix.rtrimCount 48 (chars t) = (t.reverse.takeWhile (· = 0)).length := by
    unfold WriteRadix.rtrimCount chars
    rw [← List.map_reverse, List.takeWhile_map, List.length_map]
    have hfun : ((fun x : Nat => decide (x = 48)) ∘ digitChar) = (fun x : Nat => decide (x = 0)) := by
      funext x
      simp [digitChar_eq_48]
    rw [hfun]
  rw [hcount]
  unfold rtrimZeros chars
  rw [rtrim_general, List.map_take, List.length_map]

theorem ltrimCount_chars_cons {d0 : Nat} (hd0 : d0 ≠ 0) (t : List Nat) (rest : List Nat) :
    WriteRadix.ltrimCount 48 (chars (d0 :: t) ++ rest) = 0 := by
  unfold WriteRadix.ltrimCount chars
  have : digitChar d0 ≠ 48 := fun h => hd0 ((digitChar_eq_48 d0).mp h)
  simp [this]

theorem exponentText_eq (fmt : Format) (feats : Features) (cursor : Nat) (e : Int) (ec : Nat) :
    (WriteRadix.exponentText fmt feats cursor e ec).text = writeExponent fmt feats e ec fmt.exponentRadix := by
  unfold WriteRadix.exponentText writeExponent WriteFloat.expSign
  rfl

theorem sciMant_eq (fmt : Format) (feats : Features) (o : WOpts) (d0 : Nat) (t : List Nat) (e : Int) :
    (WriteRadix.sciMant fmt o (digitChar d0) (chars t)).1 ++ writeExponent fmt feats e o.exp fmt.exponentRadix
      = render fmt feats o (WriteRadixInt.sciLayout fmt o (d0 :: t) e) := by
  have hb := chars_rtrimZeros t
  have hbl : ((chars t).take ((chars t).length - WriteRadix.rtrimCount 48 (chars t))).length
      = (rtrimZeros t).length := by
    rw [← hb]; simp [chars]
  unfold WriteRadix.sciMant
  dsimp only
  rw [hbl, ← hb]
  generalize hL : WriteRadixInt.sciLayout fmt o (d0 :: t) e = L
  unfold WriteRadixInt.sciLayout at hL
  dsimp only [List.headD_cons, List.tail_cons] at hL
  by_cases c1 : ¬ fmt.noExponentWithoutFraction = true ∧ 1 + (rtrimZeros t).length = 1 ∧ o.trim = true
  · rw [if_pos c1] at hL; rw [if_pos c1]; subst hL
    simp [render, chars]
  · rw [if_neg c1] at hL; rw [if_neg c1]
    by_cases c2 : minExactDigits (1 + (rtrimZeros t).length) o < 2
    · rw [if_pos c2] at hL; rw [if_pos c2]; subst hL
      simp [render, chars, digitChar]
    · rw [if_neg c2] at hL; rw [if_neg c2]; subst hL
      by_cases c3 : minExactDigits (1 + (rtrimZeros t).length) o > 1 + (rtrimZeros t).length
      · rw [if_pos c3]
        simp [render, chars, pad, c3, digitChar]
      · rw [if_neg c3]
        simp [render, chars, pad, c3]

theorem sciFinish_eq_render (fmt : Format) (feats : Features) (o : WOpts) (d0 : Nat) (t : List Nat) (e : Int) :
    ∃ hi, WriteRadix.sciFinish fmt feats o (chars (d0 :: t)) e
      = .ok ⟨render fmt feats o (WriteRadixInt.sciLayout fmt o (d0 :: t) e), hi⟩ := by
  refine ⟨max (WriteRadix.sciMant fmt o (digitChar d0) (chars t)).2 (WriteRadix.exponentText fmt feats
    (WriteRadix.sciMant fmt o (digitChar d0) (chars t)).1.length e o.exp).hi, ?_⟩
  show WriteRadix.sciFinish fmt feats o (digitChar d0 :: chars t) e = _
  unfold WriteRadix.sciFinish
  dsimp only
  rw [exponentText_eq, sciMant_eq]

theorem nonsciFinish_eq_render (fmt : Format) (feats : Features) (o : WOpts) (ds : List Nat) :
    (WriteRadix.nonsciFinish o (chars ds) ds.length).text = render fmt feats o (WriteRadixInt.nonsciLayout o ds) := by
  have hl : (chars ds).length = ds.length := by simp [chars]
  generalize hL : WriteRadixInt.nonsciLayout o ds = L
  unfold WriteRadixInt.nonsciLayout at hL
  unfold WriteRadix.nonsciFinish
  dsimp only
  rw [hl, Nat.min_self, Nat.sub_self, if_neg (Nat.lt_irrefl 0), List.take_of_length_le (by omega)]
  by_cases ht : o.trim = true
  · rw [if_pos ht] at hL; rw [if_pos ht]; subst hL; simp [render]
  · rw [if_neg ht] at hL; rw [if_neg ht]; subst hL
    by_cases c : minExactDigits (ds.length + 1) o > ds.length + 1
    · simp [render, chars, pad, c, digitChar]
    · simp [render, chars, pad, c, digitChar]

theorem layoutText_int (fmt : Format) (feats : Features) (o : WOpts) (ho : o.maxDigits = none)
    (ops : WriteRadixInt.FOps) (n : Nat) (d0 : Nat) (t : List Nat)
    (hds : WriteRadixInt.integerDigits ops fmt.mantissaRadix n = d0 :: t) (hd0 : d0 ≠ 0) (hlen : t.length < 64) :
    ∃ hi, WriteRadix.layoutText fmt feats o fmt.mantissaRadix ⟨chars (d0 :: t), [], []⟩
      = .ok ⟨render fmt feats o (WriteRadixInt.layoutInt fmt o ops n), hi⟩ := by
  have hz : WriteRadixInt.ltrimZeroCount (d0 :: t) = 0 := by
    simp [WriteRadixInt.ltrimZeroCount, List.takeWhile, hd0]
  have hcl : (chars (d0 :: t)).length = t.length + 1 := by simp [chars]
  have hsci : WriteRadix.sciExpOf ⟨chars (d0 :: t), [], []⟩ = (t.length : Int) := by
    unfold WriteRadix.sciExpOf
    dsimp only
    rw [List.append_nil, ← List.append_nil (chars (d0 :: t)), ltrimCount_chars_cons hd0, List.append_nil, hcl]
    omega
  have hsci' : Dragonbox.i32 (Dragonbox.i32 (((d0 :: t).length : Int) - ((0 : Nat) : Int)) - 1) = (t.length : Int) := by
    simp only [List.length_cons, Dragonbox.i32]
    omega
  have hfit : WriteRadixMid.PositionalFits ⟨chars (d0 :: t), [], []⟩ := by
    unfold WriteRadixMid.PositionalFits WriteRadix.maxDigitLength
    simp only [hcl, List.length_nil]; omega
  rw [WriteRadixMid.layoutText_all fmt feats o ho _ _ hfit]
  unfold WriteRadixMid.layoutAll WriteRadixInt.layoutInt
  dsimp only
  rw [hds, hz, hsci, hsci', List.append_nil]
  split
  · have hstart : (if (t.length : Int) ≤ 0 then (((chars (d0 :: t)).length : Int) - (t.length : Int) - 1).toNat else 0) = 0 := by
      split
      · rw [hcl]; omega
      · rfl
    rw [hstart, List.drop_zero]
    exact sciFinish_eq_render fmt feats o d0 t _
  · refine ⟨(WriteRadix.nonsciFinish o (chars (d0 :: t)) (chars (d0 :: t)).length).hi, ?_⟩
    have := nonsciFinish_eq_render fmt feats o (d0 :: t)
    rw [show (d0 :: t).length = (chars (d0 :: t)).length by simp [chars]] at this
    exact congrArg Res.ok (Text.ext _ _ this rfl)
where
  Text.ext : ∀ (a b : WriteRadix.Text), a.text = b.text → a.hi = b.hi → a = b
    | ⟨_, _⟩, ⟨_, _⟩, rfl, rfl => rfl

end LexVerif.Proof.WriteRadixIntText
