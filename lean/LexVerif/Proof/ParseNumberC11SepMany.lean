import LexVerif.Proof.ParseNumberC11SepPhases
import LexVerif.Proof.ParseNumberC11Many
/-!
# Proof.ParseNumberC11SepMany — digit separators: `parse_number` under truncation at the returned count

The instance of `parseNumber_cutG` for formats with separator flags (`SepCfg`), cut exactly at the returned count. A
component that stops on a separator ends the number (the separator matches no other punctuation), so that cut is admitted
for every phase (`adm_of_stop`). A zero run of the re-parse that stops early stops on a non-zero digit, which is neither the
separator nor the decimal point: the second run stays there (`skipZeros_stuck`), on the cut buffer too.
-/
namespace LexVerif.Proof.C11
open LexVerif LexVerif.Model LexVerif.Spec
open LexVerif.Props.C12 (Bytes.Valid)
open LexVerif.Proof.PNTotal (manyMid manyTail)

/-- only the cursor and the count of component `k` change -/
def Frame (k : Comp) (b b' : Bytes) : Prop :=
  (k ≠ .integer → b'.ic = b.ic) ∧ (k ≠ .fraction → b'.fc = b.fc) ∧ (k ≠ .exponent → b'.ec = b.ec)

theorem Frame.refl (k : Comp) (b : Bytes) : Frame k b b := ⟨fun _ => rfl, fun _ => rfl, fun _ => rfl⟩

section
variable {c : Cfg} {o : POpts} (H : SepCfg c o)
include H

theorem skipZeros_stuck (k : Comp) (b : Bytes) (x : Nat) (hx : b.slc[b.index]? = some x)
    (hs : c.isSep x = false) (h48 : x ≠ 48) : skipZeros c k b = .ok (0, b) := by
  -- `peek` does not move from a byte that is no separator, and the loop refuses it
  have e : IterSpec.peekIdx c k b.slc (b.iterCount c k == 0) b.index = b.index :=
    IterSpec.peekIdx_nonsep c k _ _ _ fun y hy => by rw [hx] at hy; cases hy; exact hs
  have hq : IterSpec.run c k (· == 48) b = ([], b.index) := by
    simp [IterSpec.run, IterSpec.scan, e, hx, h48]
  rw [IterSpec.skipZeros_eq (H.rel.hs k) b (IterSpec.StepOK.release H.rel.hd _ _), hq]
  simp [IterSpec.cur_self]

set_option linter.unusedSectionVars false in
theorem manyTail_congr (neg : Bool) (ip : IntPart) (fp : FracPart) (ep : ExpPart) (step endIdx n : Nat) :
    manyTail c neg { ip with start := trunc n ip.start, byte := trunc n ip.byte }
      { fp with byte := trunc n fp.byte } { ep with byte := trunc n ep.byte } step endIdx =
    manyTail c neg ip fp ep step endIdx := rfl

set_option linter.unusedSectionVars false in
theorem manyMid_congr (neg : Bool) (ip : IntPart) (fp : FracPart) (ep : ExpPart) (nd step : Nat) (e0 : Int)
    (endIdx zi n : Nat) (zeros : Bytes) :
    manyMid c neg { ip with start := trunc n ip.start, byte := trunc n ip.byte }
      { fp with byte := trunc n fp.byte } { ep with byte := trunc n ep.byte } nd step e0 endIdx zi zeros =
    manyMid c neg ip fp ep nd step e0 endIdx zi zeros := rfl

theorem suffix_on_sep (b sb : Bytes) (x : Nat) (hx : b.slc[b.index]? = some x) (hs : c.isSep x = true)
    (h : suffixPhase c b = .ok sb) : sb = b := by
  unfold suffixPhase at h
  have : b.firstIs c.baseSuffix c.caseSensitiveBaseSuffix = false := by
    rw [firstIs_eq]; simp only [Bytes.first, hx]; exact H.sufSep x hs
  simp only [this, Bool.and_false, Bool.false_eq_true, if_false, pure, Except.pure, Except.ok.injEq] at h
  exact h.symm

theorem parseNumber_truncS (hE : ExpRadixOK c)
    (p : Bool) (b : Bytes) (neg fv : Bool) (r : Number) (count : Nat)
    (hm : c.requiredMantissaDigits = true) (hv : Bytes.Valid b)
    (h : parseNumber c p o b neg fv = .ok (r, count)) :
    b.index < count ∧ count ≤ b.slc.length ∧ parseNumber c p o (trunc count b) neg fv = .ok (r, count) := by
  have ZM : ∀ k, k ≠ Comp.special → ZerosMirror c k fun x => charToDigit x c.mantissaRadix ≠ none := fun k hk =>
    zerosMirror_gen H.rel hk H.radix H.rad (Cut.step_adm k _ fun _ => notSep_of_digit H.sepM)
  obtain ⟨h1, h2, h3⟩ := parseNumber_cutG H.rel (ZM .integer (by decide)) (ZM .fraction (by decide))
    (fun b ip hv h => integerPhase_truncS H b ip hv h) (fun b m fp hv h => fractionPhase_truncS H b m fp hv h)
    (fun he b fr ex ep hv hlt h => exponentPhase_truncS H he b fr ex ep hv hlt h) p b neg fv r count hm hv h
  refine ⟨h1, h2, h3 count (Nat.le_refl _) fun ip fp ep sb hi hfr hep hsf hcnt => ?_⟩
  subst hcnt
  obtain ⟨_, _, i4, i5, i6, _, _, i9, _⟩ := integerPhase_truncS H b ip hv hi
  obtain ⟨f1, f2, f3, _, f5, f6, _⟩ := fractionPhase_truncS H ip.byte ip.mantissa fp i6 hfr
  obtain ⟨x1, x2, x3, x4, x5, _⟩ := exponentPhase_truncS H _ fp.byte fp.fraction fp.exponent ep f3
    (fun hh => PNTotal.firstIs_lt hh) hep
  obtain ⟨_, u2, _⟩ := suffixPhase_trunc H.rel ep.byte sb x3 hsf
  have hfpslc : fp.byte.slc = b.slc := by rw [f1, i4]
  have hepslc : ep.byte.slc = b.slc := by rw [x1, hfpslc]
  -- a digit loop that rests on a separator has ended the number: the separator is no other punctuation
  have tailE : ∀ x, fp.byte.slc[fp.byte.index]? = some x → c.isSep x = true → sb.index = fp.byte.index := by
    intro x hx hs
    have he : fp.byte.firstIs o.exp (c.caseSensitiveExponent && c.feats.format) = false := by
      rw [firstIs_eq]; simp only [Bytes.first, hx]; exact H.expSep x hs
    have := x5 he
    rw [this] at hsf
    rw [suffix_on_sep H fp.byte sb x hx hs hsf]
  refine ⟨Cut.of_adm ?_, fun hdp => Cut.of_adm ?_, fun he => Cut.of_adm ?_,
    fun zb q1 q2 _ ⟨x, q4, q5, q6⟩ zz hzz rr hrr => ?_⟩
  · refine adm_of_stop .integer c.mantissaRadix ip.byte sb.index
      (by intro ch hch; rw [i4] at hch; exact i9 ch hch) (fun _ => H.digM) (by omega) fun x hx hs => ?_
    have hndp : ¬ ip.byte.firstIsCased o.dp = true := by
      simp only [Bytes.firstIsCased, Bytes.first, hx, beq_iff_eq, Option.some.injEq]
      intro e; subst e; rw [H.dpSep] at hs; cases hs
    have e := (f6 hndp).1
    rw [e] at tailE
    exact tailE x hx hs
  · exact adm_of_stop .fraction c.mantissaRadix fp.byte sb.index
      (by intro ch hch; rw [f1] at hch; exact (f5 hdp).2.2.2.2 ch hch) (fun _ => H.digM) (by omega) tailE
  · refine adm_of_stop .exponent c.exponentRadix ep.byte sb.index
      (by intro ch hch; rw [hepslc, ← hfpslc] at hch; exact (x4 he).2 ch hch) hE u2 fun x hx hs => ?_
    rw [suffix_on_sep H ep.byte sb x hx hs hsf]
  · have hxs : c.isSep x = false := notSep_of_digit H.sepM q6
    have hget : zb.slc[zb.index]? = some x := by rw [q2]; exact q4
    have hdp : ¬ zb.firstIsCased o.dp = true := by
      simp only [Bytes.firstIsCased, Bytes.first, hget, beq_iff_eq, Option.some.injEq]
      intro e; subst e; exact q6 H.dpDig
    rw [if_neg hdp] at hzz
    subst hzz
    rw [skipZeros_stuck H .fraction zz x hget hxs q5] at hrr
    cases hrr
    exact ⟨_, skipZeros_stuck H .fraction (trunc sb.index zz) x (by rw [get_trunc, if_pos (by omega), hget]) hxs q5⟩

end
end LexVerif.Proof.C11
