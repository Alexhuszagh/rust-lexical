import LexVerif.Proof.WriteFloatCompact
/-!
# Proof.WriteFloatDragon — the buffer-faithful `algorithm.rs` layout functions, and the decimal back-end as a whole:
what it needs (`needDec`) and that it writes the list-level bytes `writeDecimal` (`decimalB_lays`)
-/
namespace LexVerif.Proof.WriteFloatDragon
open LexVerif.Spec LexVerif.Model LexVerif.Model.WriteFloat LexVerif.Proof.WriteFloatBuf LexVerif.Proof.WriteFloatCompact
open LexVerif.Proof.WriteFloatBound

/-- a carry out of `0.9…` is laid out as the integer `1` -/
theorem writeNegative_flat (ds : List Nat) (e : Int) (o : WOpts) :
    writeNegative ds e o =
      if (truncateAndRound ds o).2 = true ∧ e.natAbs = 1 then posFlat 1 [1] o
      else negFlat (if (truncateAndRound ds o).2 = true then e.natAbs - 2 else e.natAbs - 1) (truncateAndRound ds o).1 o := by
  have hcar := truncateAndRound_carry ds o
  rw [posFlat_one]
  unfold writeNegative
  generalize truncateAndRound ds o = tr at hcar ⊢
  obtain ⟨T, c⟩ := tr
  dsimp only at hcar ⊢
  by_cases h : c = true ∧ e.natAbs = 1
  · obtain rfl : T = [1] := hcar h.1
    rw [if_pos h, if_pos h]
    rfl
  · rw [if_neg h, if_neg h]
    rfl

theorem writePositive_flat (ds : List Nat) (e : Int) (o : WOpts) :
    writePositive ds e o =
      posFlat (e.toNat + 1 + (if (roundPos ds e o).2 = true then 1 else 0)) (roundPos ds e o).1 o := by
  unfold writePositive
  generalize roundPos ds e o = tr
  obtain ⟨a, c⟩ := tr
  rfl

theorem chars_take_drop (l : List Nat) (n : Nat) : chars l = chars (l.take n) ++ chars (l.drop n) := by
  simp [chars]

/-! ## need and text of the `algorithm.rs` layout functions

Each needs the text it writes or the end of the digit writer's fixed window (`nd` = 20 / 10 bytes at the place of the
digits), whichever is larger; scientific notation also the slack of the exponent writer's window. -/

theorem negN_lays (nd : Nat) (ds : List Nat) (e : Int) (o : WOpts) (hneg : e < 0) (hds : 1 ≤ ds.length)
    (hmx : o.maxDigits ≠ some 0) :
    Lays (negN nd ds e o) (max (writeNegative ds e o).length (e.natAbs + 1 + max nd ds.length)) (writeNegative ds e o) := by
  intro b
  obtain ⟨hc1, hc2, _, hcarry⟩ := truncateAndRound_length ds o hds hmx
  rw [writeNegative_flat, posFlat_one]
  unfold negN negFlat pad
  dsimp only
  generalize truncateAndRound ds o = tr at hc1 hc2 hcarry ⊢
  obtain ⟨ds', c⟩ := tr
  dsimp only at hc1 hc2 hcarry ⊢
  obtain ⟨j, hj⟩ : ∃ j, e.natAbs = j + 1 := ⟨e.natAbs - 1, by omega⟩
  rw [hj]
  have hT : (chars ds').length ≤ (chars ds).length := by rw [chars_length, chars_length]; exact hc2
  have hDl : (chars ds).length = ds.length := chars_length _
  generalize chars ds = D at hT hDl
  -- after the zeros and the digit writer: zeros up to the digits, the rounded digits over the generated ones
  have s3 : j + 1 + 1 ≤ b.len → j + 1 + 1 + max nd D.length ≤ b.len →
      Starts (((b.put 0 (List.replicate (j + 1 + 1 - 0) 48)).put (j + 1 + 1) D).put (j + 1 + 1) (chars ds'))
        (48 :: 48 :: (zeros j ++ chars ds' ++ D.drop (chars ds').length)) := fun h1 h2 =>
    (((Starts.nil b).append (off := 0) (xs := List.replicate (j + 1 + 1 - 0) 48)
      (by rw [List.length_replicate]; omega) rfl).append (xs := D) (by simp only [put_len]; omega) (by simp)).put
      (by simp only [put_len]; omega) (by simp) |>.cast (by simp [zeros, List.replicate_succ])
  by_cases c1 : c = true
  · subst c1
    obtain rfl := hcarry rfl
    have h1c : (chars [1]).length = 1 := rfl
    by_cases c2 : j = 0
    · subst c2
      by_cases c3 : o.trim = true
      · simp only [c3, and_self, if_true]
        refine (Sized.fill (Nat.zero_le _) fun h1 => Sized.digits hT fun h2 => Sized.set fun h3 => by
          simp only [put_len] at h1 h2
          have hs := Starts.left (t := [49]) ((s3 h1 h2).put (t := []) (off := 0) (xs := [49]) h3 rfl)
          exact (Sized.ok ⟨hs, rfl⟩).raise (Nat.zero_le _) hs.1).need_eq ?_
        rw [← hDl]
        refine need_steps _ _ [0 + 1 + 1, 0 + 1 + 1 + max nd D.length, 0 + 1] ?_ (by simp)
        simp only [List.forall_mem_cons, List.not_mem_nil, false_imp_iff, implies_true, and_true]
        simp only [List.length_cons, List.length_nil]
        omega
      · simp only [c3, and_self, if_true, Bool.false_eq_true, if_false]
        refine (Sized.fill (Nat.zero_le _) fun h1 => Sized.digits hT fun h2 =>
          Sized.set fun h3 => Sized.set fun h4 => Sized.set fun h5 => by
            simp only [put_len] at h1 h2
            have s6 : Starts _ ([49, o.dp, 48] ++ D.drop 1) :=
              (((s3 h1 h2).put (t := []) (off := 0) (xs := [49]) h3 rfl).put (t := [49]) (u := 48 :: 49 :: D.drop 1)
                (off := 1) (xs := [o.dp]) h4 rfl).put (t := [49, o.dp]) (u := 49 :: D.drop 1) (off := 2) (xs := [48]) h5 rfl
            exact padZeros_lays s6.left rfl).need_eq ?_
        rw [← hDl]
        simp only [List.length_append, List.length_cons, List.length_nil]
        refine need_steps _ _ [0 + 1 + 1, 0 + 1 + 1 + max nd D.length, 0 + 1, 1 + 1, 2 + 1] ?_ (by simp)
        simp only [List.forall_mem_cons, List.not_mem_nil, false_imp_iff, implies_true, and_true]
        omega
    · have hk1 : ¬ (j + 1 + 1 = 2) := by omega
      have hk2 : ¬ (j + 1 = 1) := by omega
      simp only [hk1, hk2, and_false, if_false, if_true]
      obtain ⟨i, rfl⟩ : ∃ i, j = i + 1 := ⟨j - 1, by omega⟩
      refine (Sized.fill (Nat.zero_le _) fun h1 => Sized.digits hT fun h2 =>
        Sized.set fun h6 => Sized.get fun h7 => Sized.set fun h8 => by
          simp only [put_len] at h1 h2
          -- the point goes in, the `1` of the carry moves one place to the left (read back from the buffer)
          have s4 := ((s3 h1 h2).put (t := [48]) (off := 1) (xs := [o.dp]) h6 rfl).cast
            (t' := [48, o.dp] ++ zeros i ++ (48 :: 49 :: D.drop 1)) (by simp [zeros, chars, digitChar, List.replicate_succ'])
          have h49 : ([48, o.dp] ++ zeros i ++ 48 :: 49 :: List.drop 1 D).getD (i + 1 + 1 + 1) 0 = 49 := by simp [zeros]
          rw [(s4.getD (i := i + 1 + 1 + 1) (by simp [zeros])).trans h49]
          have s5 : Starts _ ([48, o.dp] ++ zeros i ++ [49] ++ (49 :: D.drop 1)) :=
            s4.put (t := [48, o.dp] ++ zeros i) (xs := [49]) h8 (by simp [zeros])
          exact (padZeros_lays (count := [1].length) s5.left (by simp [zeros])).imp fun r hr => by
            simpa [chars, digitChar] using hr).need_eq ?_
      rw [← hDl]
      simp only [List.length_append, List.length_cons, List.length_nil, zeros_length, h1c]
      refine need_steps _ _ [i + 1 + 1 + 1, i + 1 + 1 + 1 + max nd D.length, 1 + 1, i + 1 + 1 + 1 + 1,
        i + 1 + 1 + 1 - 1 + 1] ?_ (by simp)
      simp only [List.forall_mem_cons, List.not_mem_nil, false_imp_iff, implies_true, and_true]
      omega
  · have c1' : c = false := by simpa using c1
    subst c1'
    simp only [Bool.false_eq_true, false_and, if_false]
    refine (Sized.fill (Nat.zero_le _) fun h1 => Sized.digits hT fun h2 => Sized.set fun h6 => by
      simp only [put_len] at h1 h2
      have s4 : Starts _ ([48, o.dp] ++ zeros j ++ chars ds' ++ D.drop (chars ds').length) :=
        (s3 h1 h2).put (t := [48]) (off := 1) (xs := [o.dp]) h6 rfl
      exact padZeros_lays s4.left (by simp; omega)).need_eq ?_
    rw [← hDl]
    simp only [List.length_append, List.length_cons, List.length_nil, zeros_length, chars_length]
    refine need_steps _ _ [j + 1 + 1, j + 1 + 1 + max nd D.length, 1 + 1] ?_ (by simp)
    simp only [List.forall_mem_cons, List.not_mem_nil, false_imp_iff, implies_true, and_true]
    omega

theorem posN_lays (nd : Nat) (ds : List Nat) (e : Int) (o : WOpts) (hds : 1 ≤ ds.length) (hmx : o.maxDigits ≠ some 0) :
    Lays (posN nd ds e o) (max (writePositive ds e o).length (max nd ds.length)) (writePositive ds e o) := by
  intro b
  obtain ⟨hc1, hc2, _, _⟩ := truncateAndRound_length ds o hds hmx
  rw [writePositive_flat]
  unfold posN roundPos posFlat pad
  dsimp only
  generalize truncateAndRound ds o = tr at hc1 hc2 ⊢
  obtain ⟨ds', c⟩ := tr
  dsimp only at hc1 hc2 ⊢
  generalize e.toNat + 1 + (if c = true then 1 else 0) = leading
  have hT : (chars ds').length ≤ (chars ds).length := by rw [chars_length, chars_length]; exact hc2
  have hDl : (chars ds).length = ds.length := chars_length _
  -- the kept digits are a prefix of the rounded digits (which are what the buffer holds)
  obtain ⟨suf, hsuf⟩ : ∃ suf, ds' = trimPos o leading ds' ++ suf := by
    rcases trimPos_cases o leading ds' with h' | ⟨h', _⟩
    · exact ⟨[], by rw [h']; simp⟩
    · exact ⟨ds'.drop leading, by rw [h']; simp⟩
  generalize trimPos o leading ds' = K at hsuf ⊢
  subst hsuf
  rw [chars_append] at hT ⊢
  generalize chars ds = D at hT hDl
  -- the rounded digits over the generated ones, and what is left of those
  have s2 : 0 + max nd D.length ≤ b.len →
      Starts ((b.put 0 D).put 0 (chars K ++ chars suf))
        (chars K ++ (chars suf ++ D.drop (chars K ++ chars suf).length)) := fun h =>
    (((Starts.nil b).append (off := 0) (xs := D) (by omega) rfl).put (t := []) (u := D) (off := 0)
      (by simp only [put_len]; omega) rfl).cast
      (by simp)
  have hKl : (chars K).length = K.length := chars_length K
  by_cases c1 : leading ≥ K.length
  · by_cases c3 : o.trim = true
    · simp only [c1, c3, not_true_eq_false, if_true, if_false]
      refine (Sized.digits hT fun h2 => Sized.fill c1 fun h5 => by
        have hs := ((s2 h2).put (off := K.length) (xs := List.replicate (leading - K.length) 48)
          (by rw [List.length_replicate]; simp only [put_len] at h5 ⊢; omega) hKl.symm).left.cast
          (t' := chars K ++ zeros (leading - K.length)) (by simp [zeros])
        exact (Sized.ok ⟨hs, by simp; omega⟩).raise (Nat.zero_le _) hs.1).need_eq ?_
      rw [← hDl]
      simp only [List.length_append, zeros_length, chars_length]
      refine need_steps _ _ [0 + max nd D.length, leading] ?_ (by simp)
      simp only [List.forall_mem_cons, List.not_mem_nil, false_imp_iff, implies_true, and_true]
      omega
    · simp only [c1, c3, Bool.false_eq_true, not_false_eq_true, if_true, if_false]
      refine (Sized.digits hT fun h2 => Sized.fill c1 fun h5 => Sized.set fun h7 => Sized.set fun h8 => by
        have hs := ((s2 h2).put (off := K.length) (xs := List.replicate (leading - K.length) 48)
          (by rw [List.length_replicate]; simp only [put_len] at h5 ⊢; omega) hKl.symm).left
        have hs' := ((hs.set (v := o.dp) h7 (by simp; omega)).set (v := 48) h8 (by simp; omega)).cast
          (t' := chars K ++ zeros (leading - K.length) ++ [o.dp, 48]) (by simp [zeros])
        exact padZeros_lays hs' (by simp; omega)).need_eq ?_
      rw [← hDl]
      simp only [List.length_append, List.length_cons, List.length_nil, zeros_length, chars_length]
      refine need_steps _ _ [0 + max nd D.length, leading, leading + 1, leading + 1 + 1] ?_ (by simp)
      simp only [List.forall_mem_cons, List.not_mem_nil, false_imp_iff, implies_true, and_true]
      omega
  · simp only [c1, if_false]
    have hA : (chars (K.take leading)).length = leading := by simp; omega
    obtain ⟨k0, kt, hK⟩ : ∃ k0 kt, K.drop leading = k0 :: kt := by
      cases hK : K.drop leading with
      | nil => exact absurd (congrArg List.length hK) (by simp; omega)
      | cons k0 kt => exact ⟨k0, kt, rfl⟩
    have hB : (k0 :: kt).length = K.length - leading := by rw [← hK, List.length_drop]
    rw [hK]
    -- the digits after the point move one to the right (over themselves), then the point goes in
    refine (Sized.digits hT fun h2 => Sized.demand fun h5 => Sized.blit fun h6 => Sized.set fun h7 => by
      have s2' := s2 h2
      generalize chars suf ++ D.drop (chars K ++ chars suf).length = W at s2'
      have s3 := (s2'.cast (t' := (chars (K.take leading) ++ [digitChar k0]) ++ (chars kt ++ W))
        (by rw [chars_take_drop K leading, hK]; simp [chars])).put h6 (by simp [hA])
      generalize (chars kt ++ W).drop (chars (k0 :: kt)).length = W' at s3
      have s4 := (s3.cast (t' := chars (K.take leading) ++ ([digitChar k0] ++ (chars (k0 :: kt) ++ W'))) (by simp)).put
        (xs := [o.dp]) h7 (by simp [hA])
      exact padZeros_lays (s4.cast (t' := chars (K.take leading) ++ [o.dp] ++ chars (k0 :: kt) ++ W') (by simp)).left
        (by rw [List.length_append, List.length_append, hA, chars_length, hB, List.length_singleton]; omega)).need_eq ?_
    rw [← hDl]
    simp only [List.length_append, List.length_cons, List.length_nil, hA, chars_length] at hB ⊢
    refine need_steps _ _ [0 + max nd D.length, leading + (K.length + 1 - leading), leading + 1 + (kt.length + 1),
      leading + 1] ?_ (by simp)
    simp only [List.forall_mem_cons, List.not_mem_nil, false_imp_iff, implies_true, and_true]
    omega

theorem writeScientific_flat (fmt : Format) (feats : Features) (ds : List Nat) (e : Int) (o : WOpts) (r : Nat) :
    writeScientific fmt feats ds e o r =
      sciMantissa fmt (roundSci ds o).1.length (digitChar ((roundSci ds o).1.headD 0)) (chars (roundSci ds o).1.tail) o ++
        writeExponent fmt feats (e + (if (roundSci ds o).2 = true then 1 else 0)) o.exp r := by
  unfold writeScientific sciMantissa
  generalize roundSci ds o = tr
  obtain ⟨a, c⟩ := tr
  simp

theorem sciN_lays (fmt : Format) (feats : Features) (nd : Nat) (ds : List Nat) (e : Int) (o : WOpts) (hds : 1 ≤ ds.length)
    (hmx : o.maxDigits ≠ some 0) :
    Lays (sciN fmt feats nd ds e o)
      (max ((writeScientific fmt feats ds e o fmt.exponentRadix).length + expSlack feats fmt.exponentRadix
          (numeral fmt.exponentRadix (e + (if (truncateAndRound ds o).2 = true then 1 else 0)).natAbs).length)
        (1 + max nd ds.length))
      (writeScientific fmt feats ds e o fmt.exponentRadix) := by
  intro b
  obtain ⟨hl1, hl2, _, _⟩ := truncateAndRound_length ds o hds hmx
  rw [writeScientific_flat]
  unfold sciN roundSci
  dsimp only
  generalize truncateAndRound ds o = tr at hl1 hl2 ⊢
  obtain ⟨ds', c⟩ := tr
  dsimp only at hl1 hl2 ⊢
  have hT : (chars ds').length ≤ (chars ds).length := by rw [chars_length, chars_length]; exact hl2
  have hDl : (chars ds).length = ds.length := chars_length _
  -- the kept digits are a non-empty prefix of the rounded digits (which are what the buffer holds)
  have hk1 := (trimSci_length o ds' hl1).1
  obtain ⟨suf, hsuf⟩ : ∃ suf, ds' = trimSci o ds' ++ suf := by
    rcases trimSci_cases o ds' with h' | h'
    · exact ⟨[], by rw [h']; simp⟩
    · exact ⟨ds'.drop 1, by rw [h']; exact (List.take_append_drop 1 ds').symm⟩
  generalize trimSci o ds' = K at hsuf hk1 ⊢
  subst hsuf
  generalize e + (if c = true then 1 else 0) = e'
  cases K with
  | nil => simp at hk1
  | cons d rest =>
    have hcons : chars (d :: rest ++ suf) = digitChar d :: (chars rest ++ chars suf) := by simp [chars]
    simp only [List.headD_cons, List.tail_cons]
    rw [hcons] at hT ⊢
    generalize chars ds = D at hT hDl
    have hM := sciMantissa_length_pos fmt (d :: rest).length (digitChar d) (chars rest) o
    refine (Sized.digits hT fun h2 => Sized.get fun h4 => by
      -- the byte before the digits is whatever the caller left there; it is overwritten by the first digit
      obtain ⟨a, ha⟩ : ∃ a, b.bytes.take 1 = [a] := by
        cases hb : b.bytes with
        | nil => rw [WBuf.len, hb] at h2; exact absurd h2 (by simp)
        | cons a t => exact ⟨a, rfl⟩
      have s0 : Starts b [a] := ⟨by simp only [List.length_cons, List.length_nil]; omega, ha⟩
      have s2 : Starts ((b.put 1 D).put 1 (digitChar d :: (chars rest ++ chars suf)))
          ([a] ++ digitChar d :: (chars rest ++ chars suf) ++ D.drop _) :=
        (s0.append (off := 1) (xs := D) (by omega) rfl).put (t := [a]) (u := D) (off := 1)
          (by simp only [put_len]; simp only [List.length_cons] at hT ⊢; omega) rfl
      rw [s2.getD (i := 1) (by simp)]
      exact Sized.set fun h5 => Sized.set fun h6 => by
        have s4 : Starts _ ([digitChar d, o.dp] ++ chars rest ++
            (chars suf ++ D.drop (digitChar d :: (chars rest ++ chars suf)).length)) :=
          (((s2.put (t := []) (off := 0) (xs := [digitChar d]) h5 rfl).put (t := [digitChar d]) (off := 1) (xs := [o.dp])
            h6 rfl).cast (by simp))
        exact Sized.bind
          (sciBody_lays (T := chars rest) (frac := []) (by simp) (Nat.zero_le _) s4.left.left
            fun hle => s4.left.put (t := [digitChar d, o.dp]) (u := chars rest) (xs := []) hle rfl)
          fun r hr => writeExponentB_lays (e := e') (c := o.exp) hr.1 hr.2).need_eq ?_
    rw [← hDl]
    refine need_steps _ _ [1 + max nd D.length, 1 + 1, 0 + 1, 1 + 1,
      (sciMantissa fmt (d :: rest).length (digitChar d) (chars rest) o).length] ?_ (by simp)
    simp only [List.forall_mem_cons, List.not_mem_nil, false_imp_iff, implies_true, and_true]
    simp only [List.length_append, List.length_cons, writeExponent_length] at hM ⊢
    omega

/-- bytes `algorithm::write_float` claims behind its text: the slack of the exponent writer in scientific notation -/
def slackN (fmt : Format) (feats : Features) (ds : List Nat) (sci : Int) (o : WOpts) : Nat :=
  if ¬ fmt.noExponentNotation = true ∧
      (fmt.requiredExponentNotation = true ∨ sci < o.negBreak.getD (-5) ∨ sci > o.posBreak.getD 9) then
    expSlack feats fmt.exponentRadix
      (numeral fmt.exponentRadix (sci + (if (truncateAndRound ds o).2 = true then 1 else 0)).natAbs).length
  else 0

/-- where the digit writer's window of `nd` bytes ends: the generated digits go behind the place of the point
(scientific), behind `0.00…` (below one), or to the front -/
def digitWinN (fmt : Format) (nd : Nat) (ds : List Nat) (sci : Int) (o : WOpts) : Nat :=
  (if ¬ fmt.noExponentNotation = true ∧
      (fmt.requiredExponentNotation = true ∨ sci < o.negBreak.getD (-5) ∨ sci > o.posBreak.getD 9) then 1
   else if sci < 0 then sci.natAbs + 1 else 0) + max nd ds.length

/-- **`algorithm::write_float`**: it writes the list-level bytes `writeDigitsN`; it needs them with the exponent writer's
slack, or the digit writer's window -/
theorem decimalN_lays (fmt : Format) (feats : Features) (nd : Nat) (ds : List Nat) (sci : Int) (o : WOpts)
    (hds : 1 ≤ ds.length) (hmx : o.maxDigits ≠ some 0) :
    Lays (decimalN fmt feats nd ds sci o)
      (max ((writeDigitsN fmt feats ds sci o).length + slackN fmt feats ds sci o) (digitWinN fmt nd ds sci o))
      (writeDigitsN fmt feats ds sci o) := by
  intro b
  unfold decimalN writeDigitsN slackN digitWinN
  dsimp only
  by_cases c2 : ¬ fmt.noExponentNotation = true ∧
      (fmt.requiredExponentNotation = true ∨ sci < o.negBreak.getD (-5) ∨ sci > o.posBreak.getD 9)
  · simp only [if_pos c2]
    exact sciN_lays fmt feats nd ds sci o hds hmx b
  · simp only [if_neg c2]
    by_cases c3 : sci < 0
    · simp only [if_pos c3]
      exact (negN_lays nd ds sci o c3 hds hmx b).need_eq (by omega)
    · simp only [if_neg c3]
      exact (posN_lays nd ds sci o hds hmx b).need_eq (by omega)

/-- slice length with which the decimal back-end does not panic: its text, and in Dragonbox builds the windows of the
digit writers -/
def needDec (fmt : Format) (feats : Features) (f : Fmt) (ds : List Nat) (sci : Int) (o : WOpts) : Nat :=
  if feats.compact = true then (writeDecimal fmt feats ds sci o).length
  else max ((writeDecimal fmt feats ds sci o).length + slackN (effFmt feats fmt) feats ds sci o)
    (digitWinN (effFmt feats fmt) (mantNeed f) ds sci o)

theorem length_le_needDec (fmt : Format) (feats : Features) (f : Fmt) (ds : List Nat) (sci : Int) (o : WOpts) :
    (writeDecimal fmt feats ds sci o).length ≤ needDec fmt feats f ds sci o := by
  unfold needDec; split <;> omega

/-- **the decimal back-end on a buffer** (either build, no debug assertions): it panics exactly below `needDec` bytes and
otherwise writes exactly the list-level bytes `writeDecimal` -/
theorem decimalB_lays (fmt : Format) (feats : Features) (f : Fmt) (ds : List Nat) (sci : Int) (o : WOpts)
    (hds : 1 ≤ ds.length) (hds32 : feats.compact = true → ds.length ≤ 32) (hmx : o.maxDigits ≠ some 0) :
    Lays (decimalB fmt feats f false ds sci o) (needDec fmt feats f ds sci o) (writeDecimal fmt feats ds sci o) := by
  intro b
  unfold decimalB needDec writeDecimal
  by_cases hc : feats.compact = true
  · simp only [if_pos hc]
    exact decimalC_lays _ feats ds sci o hc hds (hds32 hc) hmx b
  · simp only [if_neg hc]
    exact decimalN_lays _ feats _ ds sci o hds hmx b

end LexVerif.Proof.WriteFloatDragon
