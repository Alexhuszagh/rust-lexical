import LexVerif.Proof.Pipeline
import LexVerif.Proof.LitBits
import LexVerif.Proof.SlowCompose
/-!
# Proof.NumberValue — the value a parsed `Number` stands for

The digit content of a `Number` — its stored integer / fraction slices and its explicit exponent — is a fraction
(`Proof.Pipeline.litFrac` of `numberLit`); its `mantissa` / `exponent` words are another. This file holds what relates the
two, for a mantissa radix `r` and an exponent base `bs`:

* `PlainSlices`: the stored slices are the digit runs themselves, so the digits read off them are their bytes' values;
  `litFrac_plain` then writes the digit content in terms of the significant bytes (`Proof.Slow.sigBytes`);
* `NumberExactAt` (with `RatEq`, `IsI64`): the words of an untruncated `Number` denote the digit content;
* `Reads`: what `parse_number` yields — the statement for both an untruncated and a truncated mantissa — with its
  consequences for the size of the words (`Reads.w64`, `Reads.isI64`). It is proved in `Proof.NumberSyntax`.

The declarations keep the namespaces of the property files that state results with them.
-/

namespace LexVerif.Props.C01

def IsI64 (q : Int) : Prop := -(2 ^ 63 : Int) ≤ q ∧ q < (2 ^ 63 : Int)

end LexVerif.Props.C01

namespace LexVerif.Props.C01Main

open LexVerif.Spec LexVerif.Model LexVerif.Model.ParseFloatAlgo

open LexVerif.Proof.RoundNE LexVerif.Proof.ExtRound LexVerif.Proof.Pipeline

open LexVerif.Props.C01 (IsI64)

def RatEq (x y : Nat × Nat) : Prop := x.1 * y.2 = y.1 * x.2

/-- the `mantissa` / `exponent` words of an untruncated `Number` are exact: they fit their machine types and
`mantissa · base^exponent` is the value of the digit slices with the explicit exponent -/
def NumberExactAt (c : Cfg) (n : Number) : Prop :=
  n.mantissa < 2 ^ 64 ∧ IsI64 n.exponent ∧
  RatEq (powFrac c.exponentBase n.exponent n.mantissa) (litFrac c.mantissaRadix c.exponentBase (numberLit c n))

end LexVerif.Props.C01Main

namespace LexVerif.Props.C01SlowDomain

open LexVerif LexVerif.Spec LexVerif.Model LexVerif.Model.ParseFloatAlgo

open LexVerif.Proof.RoundNE LexVerif.Proof.ExtRound LexVerif.Proof.Pipeline LexVerif.Proof.Slow

theorem powFrac_eq (r : Nat) (x : Int) (m : Nat) : powFrac r x m = (m * r ^ x.toNat, r ^ (-x).toNat) :=
  LexVerif.Proof.RoundNE.powFrac_toNat r x m

/-- the stored digit slices of a `Number` are validated, separator-free digit bytes, and `numberLit` reads their digit
values (true of every `Number` the syntax layer builds from a format without digit separators) -/
structure PlainSlices (c : Cfg) (n : Number) : Prop where
  validInt : ValidDigits c.mantissaRadix n.integer
  validFrac : ∀ fr, n.fraction = some fr → ValidDigits c.mantissaRadix fr
  bytesInt : ∀ x ∈ n.integer, x < 256
  bytesFrac : ∀ fr, n.fraction = some fr → ∀ x ∈ fr, x < 256
  intDigits : (numberLit c n).intDigits = dv c.mantissaRadix n.integer
  fracDigits : (numberLit c n).fracDigits = dv c.mantissaRadix (n.fraction.getD [])

theorem skipZeros_decomp (bs : List Nat) : ∃ z, bs = List.replicate z 48 ++ Binary.skipZeros bs := by
  induction bs with
  | nil => exact ⟨0, by simp [Binary.skipZeros]⟩
  | cons b bs ih =>
    obtain ⟨z, hz⟩ := ih
    unfold Binary.skipZeros at hz ⊢
    rw [List.dropWhile_cons]
    split
    · rename_i hb
      have hb' : b = 48 := by simpa using hb
      exact ⟨z + 1, by rw [List.replicate_succ, List.cons_append, ← hz, hb']⟩
    · exact ⟨0, by simp⟩

theorem sig_decomp (integer : List Nat) (fraction : Option (List Nat)) :
    ∃ z, integer ++ fraction.getD [] = List.replicate z 48 ++ sigBytes integer fraction :=
  sigBytes_eq integer fraction ▸ skipZeros_decomp _

theorem ofDigits_dv_zeros (radix z : Nat) (bs : List Nat) :
    ofDigits radix (dv radix (List.replicate z 48 ++ bs)) = ofDigits radix (dv radix bs) := by
  rw [dv_append, dv_zeros, ofDigits_zeros_append]

theorem valid_sigBytes {radix : Nat} {integer : List Nat} {fraction : Option (List Nat)}
    (hvi : ValidDigits radix integer) (hvf : ∀ fr, fraction = some fr → ValidDigits radix fr) :
    ValidDigits radix (sigBytes integer fraction) := validDigits_sigBytes hvi hvf

theorem mem_sigBytes {integer : List Nat} {fraction : Option (List Nat)} {x : Nat}
    (h : x ∈ sigBytes integer fraction) : x ∈ integer ∨ ∃ fr, fraction = some fr ∧ x ∈ fr := by
  unfold sigBytes at h
  have sub : ∀ bs : List Nat, x ∈ Binary.skipZeros bs → x ∈ bs := fun bs hx =>
    (List.dropWhile_sublist _).subset hx
  cases hfr : fraction with
  | none => rw [hfr] at h; exact Or.inl (sub _ h)
  | some fr =>
    rw [hfr] at h
    simp only at h
    split at h
    · exact Or.inr ⟨fr, rfl, sub _ h⟩
    · rcases List.mem_append.mp h with h | h
      · exact Or.inl (sub _ h)
      · exact Or.inr ⟨fr, rfl, h⟩

end LexVerif.Props.C01SlowDomain

namespace LexVerif.Props.C01Number

open LexVerif LexVerif.Spec LexVerif.Model LexVerif.Model.ParseFloatAlgo

open LexVerif.Proof.RoundNE LexVerif.Proof.ExtRound LexVerif.Proof.Pipeline LexVerif.Proof.Slow

open LexVerif.Props.C01Main LexVerif.Props.C01SlowDomain

open LexVerif.Props.C01 (IsI64)

/-- every comparison of one value written with two different exponents comes down to this identity; each power of an
integer exponent is split into numerator and denominator -/
theorem pow_balance (b : Nat) {x y : Int} {P Q : Nat} (h : x + P = y + Q) (v : Nat) :
    v * b ^ x.toNat * (b ^ P * b ^ (-y).toNat) = v * b ^ y.toNat * (b ^ Q * b ^ (-x).toNat) := by
  have e : x.toNat + (P + (-y).toNat) = y.toNat + (Q + (-x).toNat) := by omega
  calc v * b ^ x.toNat * (b ^ P * b ^ (-y).toNat) = v * b ^ (x.toNat + (P + (-y).toNat)) := by
        rw [Nat.pow_add, Nat.pow_add, Nat.mul_assoc]
    _ = v * b ^ y.toNat * (b ^ Q * b ^ (-x).toNat) := by rw [e, Nat.pow_add, Nat.pow_add, Nat.mul_assoc]

theorem litFrac_bases (r b : Nat) (l : FloatLit) :
    litFrac r b l = (ofDigits r (l.intDigits ++ l.fracDigits) * b ^ l.exp.toNat,
      r ^ l.fracDigits.length * b ^ (-l.exp).toNat) := by
  unfold litFrac
  split
  · have : (-l.exp).toNat = 0 := by omega
    rw [this, Nat.pow_zero, Nat.mul_one]
  · have : l.exp.toNat = 0 := by omega
    rw [this, Nat.pow_zero, Nat.mul_one]

theorem ofDigits_sig (r : Nat) (int : List Nat) (frac : Option (List Nat)) :
    ofDigits r (dv r int ++ dv r (frac.getD [])) = ofDigits r (dv r (sigBytes int frac)) := by
  obtain ⟨z, hz⟩ := sig_decomp int frac
  have : dv r int ++ dv r (frac.getD []) = dv r (int ++ frac.getD []) := by
    unfold dv; rw [List.map_append]
  rw [this, hz, ofDigits_dv_zeros]

theorem sigBytes_length_le (int : List Nat) (frac : Option (List Nat)) :
    (sigBytes int frac).length ≤ int.length + (frac.getD []).length := by
  obtain ⟨z, hz⟩ := sig_decomp int frac
  have := congrArg List.length hz
  rw [List.length_append, List.length_append, List.length_replicate] at this
  omega

theorem litFrac_plain (r b : Nat) (c : Cfg) (hr : c.mantissaRadix = r) (n : Number) (hs : PlainSlices c n) :
    litFrac r b (numberLit c n) =
      (ofDigits r (dv r (sigBytes n.integer n.fraction)) * b ^ n.explicitExp.toNat,
        r ^ (n.fraction.getD []).length * b ^ (-n.explicitExp).toNat) := by
  have hE : (numberLit c n).exp = n.explicitExp := rfl
  rw [litFrac_bases, hs.intDigits, hs.fracDigits, hr, ofDigits_sig, dv_length, hE]

theorem ofDigits_dv_take_drop (radix : Nat) (bs : List Nat) (k : Nat) :
    ofDigits radix (dv radix bs) =
      ofDigits radix (dv radix (bs.take k)) * radix ^ (bs.drop k).length + ofDigits radix (dv radix (bs.drop k)) := by
  conv => lhs; rw [← List.take_append_drop k bs]
  rw [ofDigits_dv_append]

/-- what `parse_number` yields for a mantissa radix `r = bs^k` whose `stp = u64_step(r)` digits fit a `u64`, on an input
of `len` bytes without digit separator and base prefix: the digit slices are plain, and the words read them.
Untruncated (`exact`): the words denote the digit content, which has at most `stp` significant digits; the exponent is
bounded by the input length. Truncated (`trunc`): more than `stp` significant digits; `mantissa` is the value of the first
`stp` of them and `exponent` places it: the digit content lies in `[mantissa, mantissa + 1) · bs^exponent`. -/
structure Reads (c : Cfg) (r stp k len : Nat) (n : Number) : Prop where
  exact : n.manyDigits = false →
    NumberExactAt c n ∧ PlainSlices c n ∧ (sigBytes n.integer n.fraction).length ≤ stp ∧
    (-(5 * (len : Int)) - 2 ^ 40 ≤ n.exponent ∧ n.exponent ≤ 2 ^ 40)
  trunc : n.manyDigits = true →
    PlainSlices c n ∧ stp < (sigBytes n.integer n.fraction).length ∧
    n.mantissa = ofDigits r (dv r ((sigBytes n.integer n.fraction).take stp)) ∧
    r ^ (stp - 1) ≤ n.mantissa ∧ n.mantissa < r ^ stp ∧
    n.exponent = (((sigBytes n.integer n.fraction).length : Int) - stp - ((n.fraction.getD []).length : Int)) * k +
      n.explicitExp ∧
    -(2 ^ 40 : Int) ≤ n.explicitExp ∧ n.explicitExp ≤ 2 ^ 40 ∧
    n.integer.length ≤ len ∧ (n.fraction.getD []).length ≤ len

namespace Reads
variable {c : Cfg} {r stp k len : Nat} {n : Number}

theorem plain (R : Reads c r stp k len n) : PlainSlices c n := by
  cases hmany : n.manyDigits with
  | false => exact (R.exact hmany).2.1
  | true => exact (R.trunc hmany).1

theorem w64 (R : Reads c r stp k len n) (hfit : r ^ stp ≤ 2 ^ 64) : n.mantissa < 2 ^ 64 := by
  cases hmany : n.manyDigits with
  | false => exact (R.exact hmany).1.1
  | true => exact Nat.lt_of_lt_of_le (R.trunc hmany).2.2.2.2.1 hfit

theorem isI64 (R : Reads c r stp k len n) (hk5 : k ≤ 5) (hlen : len < 2 ^ 60) : IsI64 n.exponent := by
  have h40 : (2 : Int) ^ 40 = 1099511627776 := by norm_num
  have h60 : (2 : Nat) ^ 60 = 1152921504606846976 := by norm_num
  have h63 : (2 : Int) ^ 63 = 9223372036854775808 := by norm_num
  unfold IsI64
  cases hmany : n.manyDigits with
  | false => obtain ⟨_, _, _, h1, h2⟩ := R.exact hmany; constructor <;> omega
  | true =>
    obtain ⟨_, hN, _, _, _, hq, hE1, hE2, hl1, hl2⟩ := R.trunc hmany
    have := sigBytes_length_le n.integer n.fraction
    rw [hq]
    -- the implicit exponent counts at most the integer digits upwards and the fraction digits downwards
    have hx1 : ((sigBytes n.integer n.fraction).length : Int) - stp - ((n.fraction.getD []).length : Int) ≤ len := by omega
    have hx2 : -(len : Int) ≤ ((sigBytes n.integer n.fraction).length : Int) - stp - ((n.fraction.getD []).length : Int) := by
      omega
    generalize ((sigBytes n.integer n.fraction).length : Int) - stp - ((n.fraction.getD []).length : Int) = x at *
    have hk : x * k ≤ 5 * len ∧ -(5 * (len : Int)) ≤ x * k := by constructor <;> nlinarith
    constructor <;> omega

end Reads

end LexVerif.Props.C01Number
