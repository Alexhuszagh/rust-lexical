import LexVerif.Model.Dragonbox
/-!
# Proof.DragonboxArith — the arithmetic kernels of algorithm.rs, for ALL inputs in their stated ranges

The `umul*` are slices of the exact products and both magic divisions of `divide_by_pow10` are exact quotients, by
arithmetic; `check_div_pow10` / `div_pow10` have finite precondition ranges and are evaluated.
-/
namespace LexVerif.Proof.DragonboxArith
open LexVerif.Model.Dragonbox

theorem i32_id {x : Int} (h1 : -2 ^ 31 ≤ x) (h2 : x < 2 ^ 31) : i32 x = x := by
  unfold i32; omega
theorem u64_id {n : Nat} (h : n < 2 ^ 64) : u64 n = n := Nat.mod_eq_of_lt h
theorem u32_id {n : Nat} (h : n < 2 ^ 32) : u32 n = n := Nat.mod_eq_of_lt h
theorem u128_id {n : Nat} (h : n < 2 ^ 128) : u128 n = n := Nat.mod_eq_of_lt h

theorem mul_lt_128 {x y : Nat} (hx : x < 2 ^ 64) (hy : y < 2 ^ 64) : x * y < 2 ^ 128 := by
  have : x * y < 2 ^ 64 * 2 ^ 64 := Nat.mul_lt_mul'' hx hy
  simpa [← Nat.pow_add] using this

theorem umul128Upper64_eq {x y : Nat} (hx : x < 2 ^ 64) (hy : y < 2 ^ 64) :
    umul128Upper64 x y = x * y / 2 ^ 64 := by
  have h := mul_lt_128 hx hy
  unfold umul128Upper64
  rw [u128_id h, Nat.shiftRight_eq_div_pow]
  apply u64_id
  apply Nat.div_lt_of_lt_mul
  simpa [← Nat.pow_add] using h

theorem umul192Upper128_eq {x hi lo : Nat} (hx : x < 2 ^ 64) (hh : hi < 2 ^ 64) (hl : lo < 2 ^ 64) :
    umul192Upper128 x hi lo =
      (x * (hi * 2 ^ 64 + lo) / 2 ^ 128, x * (hi * 2 ^ 64 + lo) / 2 ^ 64 % 2 ^ 64) := by
  have h1 := mul_lt_128 hx hh
  have h2 := mul_lt_128 hx hl
  have hP : x * (hi * 2 ^ 64 + lo) / 2 ^ 64 = x * hi + x * lo / 2 ^ 64 := by
    rw [Nat.mul_add, ← Nat.mul_assoc, Nat.add_comm, Nat.add_mul_div_right _ _ (by decide : 0 < 2 ^ 64), Nat.add_comm]
  have hlo : x * lo / 2 ^ 64 < 2 ^ 64 := by
    apply Nat.div_lt_of_lt_mul; simpa [← Nat.pow_add] using h2
  -- x·hi ≤ (2^64-1)^2, so the sum stays below 2^128
  have hx' : x ≤ 2 ^ 64 - 1 := by omega
  have hh' : hi ≤ 2 ^ 64 - 1 := by omega
  have hm : x * hi ≤ (2 ^ 64 - 1) * (2 ^ 64 - 1) := Nat.mul_le_mul hx' hh'
  have hsum : x * hi + x * lo / 2 ^ 64 < 2 ^ 128 := by
    have : (2 ^ 64 - 1) * (2 ^ 64 - 1) + 2 ^ 64 ≤ 2 ^ 128 := by decide
    omega
  unfold umul192Upper128
  simp only [umul128Upper64_eq hx hl]
  unfold u128 u64
  rw [Nat.mod_eq_of_lt h1, Nat.mod_eq_of_lt hsum, Nat.shiftRight_eq_div_pow, ← hP]
  have hdiv : x * (hi * 2 ^ 64 + lo) / 2 ^ 64 / 2 ^ 64 = x * (hi * 2 ^ 64 + lo) / 2 ^ 128 := by
    rw [Nat.div_div_eq_div_mul]
  rw [hdiv]
  congr 1
  apply Nat.mod_eq_of_lt
  rw [← hdiv, hP]
  apply Nat.div_lt_of_lt_mul
  simpa [← Nat.pow_add] using hsum

theorem umul192Lower128_eq {x yhi ylo : Nat} (hx : x < 2 ^ 64) (hl : ylo < 2 ^ 64) :
    (umul192Lower128 x yhi ylo).1 * 2 ^ 64 + (umul192Lower128 x yhi ylo).2
      = x * (yhi * 2 ^ 64 + ylo) % 2 ^ 128 := by
  have h2 := mul_lt_128 hx hl
  unfold umul192Lower128 u128 u64
  simp only [Nat.mod_eq_of_lt h2, Nat.shiftRight_eq_div_pow]
  have hq : x * ylo / 2 ^ 64 < 2 ^ 64 := by
    apply Nat.div_lt_of_lt_mul; simpa [← Nat.pow_add] using h2
  rw [Nat.mod_eq_of_lt hq]
  have hP : x * (yhi * 2 ^ 64 + ylo) = x * yhi * 2 ^ 64 + x * ylo := by
    rw [Nat.mul_add, Nat.mul_assoc]
  rw [hP]
  generalize x * yhi = a
  generalize x * ylo = b at *
  omega

theorem umul192Lower128_lo {x yhi ylo : Nat} (hx : x < 2 ^ 64) (hl : ylo < 2 ^ 64) :
    (umul192Lower128 x yhi ylo).2 = x * ylo % 2 ^ 64 := by
  have h2 := mul_lt_128 hx hl
  unfold umul192Lower128 u128 u64
  simp only [Nat.mod_eq_of_lt h2]

theorem umul96Upper64_eq {x y : Nat} (hx : x < 2 ^ 32) (hy : y < 2 ^ 64) :
    umul96Upper64 x y = x * y / 2 ^ 32 := by
  have hs : shl64 x 32 = x * 2 ^ 32 := by
    unfold shl64 u64
    have : ((32 : Int) % 64).toNat = 32 := by decide
    rw [this, Nat.shiftLeft_eq]
    apply Nat.mod_eq_of_lt; omega
  unfold umul96Upper64
  rw [hs, umul128Upper64_eq (by omega) hy]
  have : x * 2 ^ 32 * y = x * y * 2 ^ 32 := by rw [Nat.mul_right_comm]
  rw [this, show (2:Nat) ^ 64 = 2 ^ 32 * 2 ^ 32 by decide, ← Nat.div_div_eq_div_mul,
    Nat.mul_div_cancel _ (by decide : 0 < 2 ^ 32)]

theorem umul96Lower64_eq (x y : Nat) : umul96Lower64 x y = x * y % 2 ^ 64 := rfl

theorem divideByPow10_32_eq {n : Nat} (hn : n < 2 ^ 32) : divideByPow10_32 n 2 = n / 100 := by
  unfold divideByPow10_32 u32 u64
  simp only [if_true, Nat.shiftRight_eq_div_pow]
  have h1 : n * 1374389535 % 2 ^ 64 = n * 1374389535 := Nat.mod_eq_of_lt (by omega)
  rw [h1]
  have h2 : n * 1374389535 / 2 ^ 37 = n / 100 := by omega
  rw [h2]; omega

/-- f64: `umul128_upper64(n, 2361183241434822607) >> 7 = n / 1000` for every `n ≤ n_max`, for every `n_max`
that passes the source's own guard `n_max <= 15534100272597517998` -/
theorem divideByPow10_64_eq {n nMax : Nat} (hmax : nMax ≤ 15534100272597517998) (hn : n ≤ nMax) :
    divideByPow10_64 n 3 nMax = n / 1000 := by
  unfold divideByPow10_64
  rw [if_pos ⟨rfl, hmax⟩, umul128Upper64_eq (by omega) (by decide), Nat.shiftRight_eq_div_pow,
    Nat.div_div_eq_div_mul]
  apply Nat.div_eq_of_lt_le <;> omega

/-- the `n_max` the callers pass, and the dispatch on the type -/
theorem divideByPow10_f64 {n : Nat} (hn : n ≤ 2 ^ 53 * 1000 - 1) :
    divideByPow10 .f64 n 3 (2 ^ 53 * 1000 - 1) = n / 1000 :=
  divideByPow10_64_eq (by decide) hn

theorem divideByPow10_f32 {n : Nat} (hn : n < 2 ^ 32) (nMax : Nat) :
    divideByPow10 .f32 n 2 nMax = n / 100 := by
  unfold divideByPow10
  simp only [u32, Nat.mod_eq_of_lt hn]
  exact divideByPow10_32_eq hn

/-! ## check_div_pow10 / div_pow10: precondition `n ≤ 10^(N+1)` (N = kappa), finite -/

theorem checkDivPow10_f32 : ∀ n ∈ List.range 101, checkDivPow10 .f32 n = (n / 10, decide (n % 10 = 0)) := by
  decide +kernel
theorem checkDivPow10_f64 : ∀ n ∈ List.range 1001, checkDivPow10 .f64 n = (n / 100, decide (n % 100 = 0)) := by
  decide +kernel
theorem divPow10_f32 : ∀ n ∈ List.range 101, divPow10 .f32 n = n / 10 := by decide +kernel
theorem divPow10_f64 : ∀ n ∈ List.range 1001, divPow10 .f64 n = n / 100 := by decide +kernel

/-! ## is_right_endpoint / is_left_endpoint

The window does not depend on the exponent tested: `count_factors`, `pow64` and `floor_log2` are applied to constants of
the float type, and the upper end is `3` for both types. -/

theorem isRightEndpoint_eq (t : FTy) (e : Int) : isRightEndpoint t e = decide (0 ≤ e ∧ e ≤ 3) := by
  have h : (2 : Int) + floorLog2 (pow64 10 (countFactors 5 (u64 (2 ^ (t.ms + 1)) + 1) + 1) / 3) = 3 := by
    cases t <;> decide
  unfold isRightEndpoint isEndpoint
  simp only [h, Bool.decide_and]

theorem isLeftEndpoint_eq (t : FTy) (e : Int) : isLeftEndpoint t e = decide (2 ≤ e ∧ e ≤ 3) := by
  have h : (2 : Int) + floorLog2 (pow64 10 (countFactors 5 (u64 (2 ^ (t.ms + 2)) - 1) + 1) / 3) = 3 := by
    cases t <;> decide
  unfold isLeftEndpoint isEndpoint
  simp only [h, Bool.decide_and]

end LexVerif.Proof.DragonboxArith
