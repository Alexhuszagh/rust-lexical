import LexVerif.Model.Dragonbox
import LexVerif.Proof.DragonboxBits
import LexVerif.Proof.DragonboxCache
/-!
# Proof.DragonboxExpDefs — the certificate of `compute_nearest_normal`, one per cache entry (executable part)

For a binary exponent `e` (`value = mantissa · 2^e`) the algorithm uses `k = κ − ⌊e·log10 2⌋`, `β = e + ⌊k·log2 10⌋`
and the cache entry `φ̃_k`; everything it computes from the mantissa is a floor / parity / integrality test of
`n · x`, `x = 2^(e−1)·10^k`, evaluated with `ξ = φ̃_k·2^β / 2^Q` in place of `x`.

The 3–4 consecutive exponents that share `k` have `x`, `ξ` that differ by powers of two, so one pair of Farey neighbours —
of the `x` of the first of them — serves them all. `entryData t e0 cnt` recomputes — with the MODEL's own `floor_log*`
functions and the cache dumped from the crate — `k`, `β`, `φ̃`, the reduced fraction `a/b = x` of the first exponent `e0` of
an entry and a pair of Farey neighbours `p1/q1 ≤ x < p2/q2` for the bound `2^(cnt-1)·2^(p+1)`; `entryOk t e0 cnt` checks the
finitely many numeric conditions from which `Proof/DragonboxFarey.lean` and `Proof/DragonboxExact.lean` derive exactness for
EVERY mantissa at each of the exponents `e0, …, e0+cnt-1`, and `Proof/DragonboxExp.lean` evaluates it in the kernel for every
run of exponents of binary32 / binary64.
-/
namespace LexVerif.Proof.DragonboxExp
open LexVerif.Model.Dragonbox LexVerif.Proof.DragonboxBits LexVerif.Proof.DragonboxCache

/-- precision (with hidden bit) -/
def prec : FTy → Nat | .f32 => 24 | .f64 => 53

/-- Stern–Brocot walk with acceleration towards `a/b`, denominators bounded by `N`; only its OUTPUT is checked -/
def fareyGo (a b N : Nat) : Nat → Nat → Nat → Nat → Nat → Nat × Nat × Nat × Nat
  | 0, p1, q1, p2, q2 => (p1, q1, p2, q2)
  | fuel + 1, p1, q1, p2, q2 =>
    let d1 := a * q1 - p1 * b
    let d2 := p2 * b - a * q2
    let t := min (d1 / d2) ((N - q1) / q2)
    let p1 := p1 + t * p2
    let q1 := q1 + t * q2
    let d1 := a * q1 - p1 * b
    if d1 = 0 then
      let s := (N - q2) / q1
      (p1, q1, p2 + s * p1, q2 + s * q1)
    else
      let s := min ((d2 - 1) / d1) ((N - q2) / q1)
      if t = 0 ∧ s = 0 then (p1, q1, p2, q2) else fareyGo a b N fuel p1 q1 (p2 + s * p1) (q2 + s * q1)

def farey (a b N : Nat) : Nat × Nat × Nat × Nat := fareyGo a b N 400 (a / b) 1 (a / b + 1) 1

structure ExpData where
  minusK : Int
  beta : Nat
  pow5 : Nat × Nat
  a : Nat
  b : Nat
  p1 : Nat
  q1 : Nat
  p2 : Nat
  q2 : Nat

def xFrac (e k : Int) : Nat × Nat :=
  (2 ^ (e - 1).toNat * 10 ^ k.toNat, 2 ^ (1 - e).toNat * 10 ^ (-k).toNat)

/-- the data of a single exponent, Farey pair for the bound `2^(p+1)`; used only by `Props.C02.center_flag_wrong_f32` -/
def expData (t : FTy) (e : Int) : Option ExpData :=
  let minusK := i32 (floorLog10Pow2 e - t.kappa)
  let betaI := i32 (e + floorLog2Pow10 (i32 (-minusK)))
  match dragonboxPower t (i32 (-minusK)) with
  | none => none
  | some pow5 =>
    if betaI < 0 then none else
    let x := xFrac e (-minusK)
    let g := Nat.gcd x.1 x.2
    let a := x.1 / g
    let b := x.2 / g
    let f := farey a b (2 ^ (prec t + 1))
    some ⟨minusK, betaI.toNat, pow5, a, b, f.1, f.2.1, f.2.2.1, f.2.2.2⟩

/-- the floats whose centre-integrality flag is wrong (`(exponent, mantissa)`); evaluated separately -/
def excFloats : FTy → List (Int × Nat)
  | .f32 => [(-81, 14855922), (-80, 14855922)]
  | .f64 => []

/-- smallest multiplier `2f_c - 1` that occurs with exponent `e` -/
def nLo (t : FTy) (e : Int) : Nat := if e = t.denormalExponent then 1 else 2 ^ prec t - 1

/-! ## one certificate per cache entry

The exponents `e0, …, e0+cnt-1` that share the cache entry `k` have `x_e = 2^j·x_e0` and `β_e = β_e0 + j` (`j = e - e0`),
so `n·x_e = (2^j·n)·x_e0` and `n·ξ_e = (2^j·n)·ξ_e0`: what the Farey pair of `x_e0` for the bound `2^(cnt-1)·N` says about
the multiplier `2^j·n` is what is needed about `n` at the exponent `e`. -/

/-- `expData` for the first exponent `e0` of an entry, the Farey pair for the bound `2^(cnt-1)·2^(p+1)`, the cache entry
read through `cachePower` -/
def entryData (t : FTy) (e0 : Int) (cnt : Nat) : Option ExpData :=
  let minusK := floorLog10Pow2 e0 - t.kappa
  match cachePower t (-minusK) with
  | none => none
  | some pow5 =>
    let x := xFrac e0 (-minusK)
    let g := Nat.gcd x.1 x.2
    let a := x.1 / g
    let b := x.2 / g
    let f := farey a b (2 ^ (cnt - 1) * 2 ^ (prec t + 1))
    some ⟨minusK, (e0 + floorLog2Pow10 (-minusK)).toNat, pow5, a, b, f.1, f.2.1, f.2.2.1, f.2.2.2⟩

/-- the data of the exponent `e0 + j` from that of `e0`: `β + j`, and `2^j·a/b` reduced (`b` has no factor but `2` in
common with `2^j`) -/
def expOf (d : ExpData) (j : Nat) : ExpData :=
  let g := Nat.gcd (2 ^ j) d.b
  ⟨d.minusK, d.beta + j, d.pow5, 2 ^ j / g * d.a, d.b / g, d.p1, d.q1, d.p2, d.q2⟩

/-- multiples `α·q1 ≤ M` whose fractional part `α·d1/b` is positive but below the flag threshold `1/H` -/
def excMs (t : FTy) (d : ExpData) (M : Nat) : List Nat :=
  let H := 2 ^ (t.qb / 2)
  let d1 := d.a * d.q1 - d.p1 * d.b
  ((List.range (d.b / (d1 * H) + 2)).filter
    (fun α => 1 ≤ α ∧ 0 < d1 ∧ α * d1 * H < d.b ∧ α * d.q1 ≤ M)).map (· * d.q1)

/-- the numeric conditions on the first exponent of an entry: the model's prefix, the Farey certificate at the bound
`M = 2^(cnt-1)·2^(p+1)`, the approximation `x ≤ ξ < p2/q2` with a small error, the neighbour distances -/
def BaseOk (t : FTy) (e0 : Int) (cnt : Nat) (d : ExpData) : Prop :=
  (-1000 ≤ d.minusK ∧ d.minusK ≤ 1000)
  ∧ (d.beta : Int) = e0 + floorLog2Pow10 (-d.minusK)
  ∧ (d.pow5.1 < 2 ^ 64 ∧ d.pow5.2 < 2 ^ 64)
  ∧ (1 ≤ cnt ∧ 1 ≤ d.beta ∧ d.beta + (cnt - 1) ≤ 31
      ∧ 2 ^ (cnt - 1) * 2 ^ (prec t + 1) * 2 ^ d.beta ≤ 2 ^ (t.qb / 2))
  ∧ (0 < d.b ∧ 0 < d.a ∧ d.p1 * d.b ≤ d.a * d.q1 ∧ d.a * d.q2 < d.p2 * d.b
      ∧ d.p2 * d.q1 = d.p1 * d.q2 + 1 ∧ 2 ^ (cnt - 1) * 2 ^ (prec t + 1) < d.q1 + d.q2)
  ∧ (d.a * 2 ^ t.qb ≤ phiOf t d.pow5 * 2 ^ d.beta * d.b
      ∧ phiOf t d.pow5 * 2 ^ d.beta * d.q2 < d.p2 * 2 ^ t.qb
      ∧ 2 ^ (cnt - 1) * 2 ^ (prec t + 1) * (phiOf t d.pow5 * 2 ^ d.beta * d.b - d.a * 2 ^ t.qb) * 2 ^ (t.qb / 2)
          < 2 ^ t.qb * d.b)
  ∧ d.b ≤ ((d.a * d.q1 - d.p1 * d.b) + (d.p2 * d.b - d.a * d.q2)) * 2 ^ (t.qb / 2)

/-- the conditions on the exponents `e0 + j` of the entry: the exceptional multiples, halved `j` times, are exceptional
floats of `e0 + j`; the exponent belongs to the entry; `10^κ ≤ δ < 10^(κ+1)`; endpoints are never integral outside the
exponent window -/
def RunOk (t : FTy) (e0 : Int) (cnt : Nat) (d : ExpData) : Prop :=
  (∀ m ∈ excMs t d (2 ^ (cnt - 1) * 2 ^ (prec t + 1)), ∀ j ∈ List.range cnt,
      m % 2 ^ j = 0 → nLo t (e0 + j) ≤ m / 2 ^ j → m / 2 ^ j ≤ 2 ^ (prec t + 1) →
        m / 2 ^ j % 2 = 0 ∧ (e0 + j, m / 2 ^ j / 2) ∈ excFloats t)
  ∧ (∀ j ∈ List.range cnt,
      floorLog10Pow2 (e0 + j) - t.kappa = d.minusK
      ∧ (10 ^ t.kappa.toNat * (expOf d j).b ≤ 2 * (expOf d j).a
          ∧ 2 * (expOf d j).a < 10 * 10 ^ t.kappa.toNat * (expOf d j).b)
      ∧ ((e0 + j < t.fcPmHalfLower ∨ e0 + j > t.divBy5Threshold) →
          ((expOf d j).b % 2 = 0 ∨ 2 ^ (prec t + 1) < (expOf d j).b)))

instance (t : FTy) (e0 : Int) (cnt : Nat) (d : ExpData) : Decidable (BaseOk t e0 cnt d) := by
  unfold BaseOk
  infer_instance

instance (t : FTy) (e0 : Int) (cnt : Nat) (d : ExpData) : Decidable (RunOk t e0 cnt d) := by
  unfold RunOk
  infer_instance

def entryOk (t : FTy) (e0 : Int) (cnt : Nat) : Bool :=
  match entryData t e0 cnt with
  | none => false
  | some d => decide (BaseOk t e0 cnt d) && decide (RunOk t e0 cnt d)

/-- the sizes of the runs of consecutive exponents `e, e+1, …` (`n` of them) with the same `⌊e·log10 2⌋`, i.e. the same
cache entry -/
def runLengths : Nat → Int → List Nat
  | 0, _ => []
  | n + 1, e =>
    match runLengths n (e + 1) with
    | [] => [1]
    | c :: cs => if floorLog10Pow2 e = floorLog10Pow2 (e + 1) then (c + 1) :: cs else 1 :: c :: cs

def entriesOk (t : FTy) : Int → List Nat → Bool
  | _, [] => true
  | e0, c :: cs => entryOk t e0 c && entriesOk t (e0 + c) cs

theorem entry_of_entriesOk {t : FTy} : ∀ (cs : List Nat) (e0 : Int), entriesOk t e0 cs = true →
    ∀ e, e0 ≤ e → e < e0 + (cs.sum : Nat) → ∃ e1 c, entryOk t e1 c = true ∧ e1 ≤ e ∧ e < e1 + (c : Nat)
  | [], e0, _, e, h1, h2 => by simp at h2; omega
  | c :: cs, e0, h, e, h1, h2 => by
    rw [entriesOk, Bool.and_eq_true] at h
    by_cases hc : e < e0 + (c : Nat)
    · exact ⟨e0, c, h.1, h1, hc⟩
    · refine entry_of_entriesOk cs (e0 + c) h.2 e (by omega) ?_
      rw [List.sum_cons] at h2
      push_cast at h2
      omega

end LexVerif.Proof.DragonboxExp
