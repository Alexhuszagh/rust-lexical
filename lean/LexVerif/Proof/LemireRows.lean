import LexVerif.Proof.LemireBasics
import LexVerif.Proof.Tables.Util
/-!
# Proof.LemireRows — what the proofs need of `POWER_OF_FIVE_128` and of `power`

With `T = hi5·2^64 + lo5` the 128-bit value of a row and `b` the bit length of the power of five:
`q ≥ 0`: `T` is `5^q` normalised to 128 bits, truncated (`RowPos`; exact up to `q = 55`);
`q = −e ≤ −28`: `T` is the reciprocal `2^(b+127)/5^e` truncated **down** (`RowNeg`);
`−27 ≤ q = −e ≤ −1`: the reciprocal rounded **up** (`RowNegSmall`).
In each case `power q` is the binary exponent of the product of two normalised words. All 651 rows are checked in
one kernel pass (`table_rows`).
-/
namespace LexVerif.Proof.Lemire
open LexVerif.Model LexVerif.Model.Lemire

/-- bit length of `5^e`, by the binary search `log2F` (`Nat.log2` is slow in the kernel) -/
def bits5 (e : Nat) : Nat := log2F (5 ^ e) + 1

/-- `716 = bitlen (5^308)`; the thresholds on `b` are where `5^q` crosses `2^63`, `2^64` and `2^128` -/
def RowPos (q b hi5 lo5 : Nat) : Prop :=
  hi5 < 2 ^ 64 ∧ lo5 < 2 ^ 64 ∧ 2 ^ 63 ≤ hi5 ∧
  (hi5 * 2 ^ 64 + lo5) * 2 ^ (b - 128) ≤ 5 ^ q * 2 ^ (128 - b) ∧
  5 ^ q * 2 ^ (128 - b) < (hi5 * 2 ^ 64 + lo5 + 1) * 2 ^ (b - 128) ∧
  power (wrapI32 (q : Int)) = 62 + (q : Int) + (b : Int) ∧ b ≤ 716 ∧
  (q ≤ 27 → b ≤ 63) ∧ (28 ≤ q → 65 ≤ b) ∧ (q ≤ 55 → b ≤ 128) ∧ (55 < q → 129 ≤ b)

/-- `66 = bitlen (5^28)`, `795 = bitlen (5^342)` -/
def RowNeg (e b hi5 lo5 : Nat) : Prop :=
  hi5 < 2 ^ 64 ∧ lo5 < 2 ^ 64 ∧ 2 ^ 63 ≤ hi5 ∧ 66 ≤ b ∧
  (hi5 * 2 ^ 64 + lo5) * 5 ^ e ≤ 2 ^ (b + 127) ∧ 2 ^ (b + 127) < (hi5 * 2 ^ 64 + lo5 + 1) * 5 ^ e ∧
  power (wrapI32 (-(e : Int))) = 63 - (e : Int) - (b : Int) ∧ b ≤ 795

/-- `2`-adic inverse of an odd `a` modulo `2^128` by Newton iteration (only used as a certificate: the check
`a·x ≡ 1` is evaluated) -/
def inv2 (a : Nat) : Nat :=
  (List.range 7).foldl (fun x _ => x * (2 ^ 128 + 2 - a * x % 2 ^ 128) % 2 ^ 128) 1

/-- the inverse certificate for modulus `2^(64+sh)`: the only residue `wn` with `wn·a ≡ 1` is not a normalised `u64` -/
def invOutside (a sh : Nat) : Bool :=
  (a * inv2 a % 2 ^ (64 + sh) == 1) &&
  (decide (inv2 a % 2 ^ (64 + sh) < 2 ^ 63) || decide (2 ^ 64 ≤ inv2 a % 2 ^ (64 + sh)))

/-- **tie check** of a reciprocal row for precision `p`: without the second multiplication the first product
`wn·hi5` cannot look like a tie — `wn·hi5 ≡ 0, 1 (mod 2^(64+sh))`, `sh ∈ {62 − p, 63 − p}`, has no normalised solution:
`hi5` has at most `62 − p` trailing zeros, and it is even or its inverse lies outside `[2^63, 2^64)`. -/
def tieOk (p hi5 : Nat) : Bool :=
  decide (hi5 % 2 ^ (63 - p) ≠ 0) &&
  (decide (hi5 % 2 = 0) || (invOutside hi5 (62 - p) && invOutside hi5 (63 - p)))

/-- the two final conjuncts are the tie check inside the round-to-even windows of `f64` (`e ≤ 4`) and `f32` (`e ≤ 17`) -/
def RowNegSmall (e b hi5 lo5 : Nat) : Prop :=
  hi5 < 2 ^ 64 ∧ lo5 < 2 ^ 64 ∧ 2 ^ 63 ≤ hi5 ∧ 3 ≤ b ∧ b ≤ 63 ∧ 5 ^ e < 2 ^ 63 ∧
  2 ^ (b + 127) < (hi5 * 2 ^ 64 + lo5) * 5 ^ e ∧ (hi5 * 2 ^ 64 + lo5) * 5 ^ e ≤ 2 ^ (b + 127) + 5 ^ e ∧
  power (wrapI32 (-(e : Int))) = 63 - (e : Int) - (b : Int) ∧
  (e ≤ 4 → tieOk 53 hi5 = true) ∧ (e ≤ 17 → tieOk 24 hi5 = true)

def RowOk (i : Nat) (r : Nat × Nat) : Prop :=
  if i < 315 then RowNeg (342 - i) (bits5 (342 - i)) r.1 r.2
  else if i < 342 then RowNegSmall (342 - i) (bits5 (342 - i)) r.1 r.2
  else RowPos (i - 342) (bits5 (i - 342)) r.1 r.2

instance (i : Nat) (r : Nat × Nat) : Decidable (RowOk i r) := by
  unfold RowOk RowNeg RowNegSmall RowPos
  infer_instance

theorem table_rows : Tables.tableAll (fun i r => decide (RowOk i r)) Gen.Lemire.powerOfFive128 = true := by
  decide +kernel

theorem row_ok (i : Nat) (hi : i < 651) :
    ∃ hi5 lo5, Gen.Lemire.powerOfFive128[i]? = some (hi5, lo5) ∧ RowOk i (hi5, lo5) := by
  have hs : i < Gen.Lemire.powerOfFive128.size := by rw [table_size]; exact hi
  exact ⟨_, _, Array.getElem?_eq_getElem hs, of_decide_eq_true (Tables.of_tableAll table_rows i hs)⟩

theorem rows_pos (q : Nat) (h308 : q ≤ 308) :
    ∃ hi5 lo5 b, Gen.Lemire.powerOfFive128[q + 342]? = some (hi5, lo5) ∧ RowPos q b hi5 lo5 := by
  obtain ⟨hi5, lo5, hrow, hok⟩ := row_ok (q + 342) (by omega)
  unfold RowOk at hok
  rw [if_neg (by omega), if_neg (by omega), Nat.add_sub_cancel] at hok
  exact ⟨hi5, lo5, _, hrow, hok⟩

theorem rows_neg (e : Nat) (h28 : 28 ≤ e) (h342 : e ≤ 342) :
    ∃ hi5 lo5 b, Gen.Lemire.powerOfFive128[342 - e]? = some (hi5, lo5) ∧ RowNeg e b hi5 lo5 := by
  obtain ⟨hi5, lo5, hrow, hok⟩ := row_ok (342 - e) (by omega)
  unfold RowOk at hok
  rw [if_pos (by omega), Nat.sub_sub_self h342] at hok
  exact ⟨hi5, lo5, _, hrow, hok⟩

theorem row_norm (i : Nat) (hi : i < 651) :
    ∃ hi5 lo5, Gen.Lemire.powerOfFive128[i]? = some (hi5, lo5) ∧ hi5 < 2 ^ 64 ∧ lo5 < 2 ^ 64 ∧ 2 ^ 63 ≤ hi5 := by
  obtain ⟨hi5, lo5, hrow, hok⟩ := row_ok i hi
  unfold RowOk at hok
  split at hok
  · exact ⟨hi5, lo5, hrow, hok.1, hok.2.1, hok.2.2.1⟩
  · split at hok
    · exact ⟨hi5, lo5, hrow, hok.1, hok.2.1, hok.2.2.1⟩
    · exact ⟨hi5, lo5, hrow, hok.1, hok.2.1, hok.2.2.1⟩

theorem rows_neg_small (e : Nat) (h1 : 1 ≤ e) (h27 : e ≤ 27) :
    ∃ hi5 lo5 b, Gen.Lemire.powerOfFive128[342 - e]? = some (hi5, lo5) ∧ RowNegSmall e b hi5 lo5 := by
  obtain ⟨hi5, lo5, hrow, hok⟩ := row_ok (342 - e) (by omega)
  unfold RowOk at hok
  rw [if_neg (by omega), if_pos (by omega), Nat.sub_sub_self (by omega)] at hok
  exact ⟨hi5, lo5, _, hrow, hok⟩

end LexVerif.Proof.Lemire
