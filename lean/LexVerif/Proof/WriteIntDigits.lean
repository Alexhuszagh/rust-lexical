import LexVerif.Proof.WriteIntSplice
/-!
# Proof.WriteIntDigits — the writers that put digits below a cursor keep `Toward`: `algorithm.rs::write_digits` (4-2-1
digit-pair loop) and `compact.rs` write the numeral; the naive 4-2-1 digit count (`naiveCount_spec`) is exact
-/
namespace LexVerif.Model.WriteInt
open LexVerif.Spec

def pair (r m : Nat) : List Nat := [digitChar (m / r), digitChar (m % r)]

theorem padDigits_two (r m : Nat) (h : m < r * r) : (padDigits r 2 m).map digitChar = pair r m := by
  have hr : 0 < r := by
    rcases Nat.eq_zero_or_pos r with h0 | h0
    · subst h0; simp at h
    · exact h0
  have : m / r < r := Nat.div_lt_of_lt_mul h
  simp [padDigits, pair, Nat.mod_eq_of_lt this]

theorem numeral_pair (r v : Nat) (hr : 2 ≤ r) (h1 : r ≤ v) (h2 : v < r * r) : numeral r v = pair r v := by
  rw [numeral, toDigits_step r v hr h1, toDigits_lt r (v / r) (Nat.div_lt_of_lt_mul h2)]; rfl

theorem pow_two_eq (r : Nat) : r ^ 2 = r * r := by rw [Nat.pow_succ, Nat.pow_one]
theorem pow_four_eq (r : Nat) : r ^ 4 = (r * r) * (r * r) := by
  rw [show 4 = 2 + 2 from rfl, Nat.pow_add, pow_two_eq]

theorem padDigits_four (r m : Nat) (hr : 2 ≤ r) (h : m < (r * r) * (r * r)) :
    (padDigits r 4 m).map digitChar = pair r (m / (r * r)) ++ pair r (m % (r * r)) := by
  have hpos : 0 < r * r := Nat.mul_pos (by omega) (by omega)
  rw [show 4 = 2 + 2 from rfl, padDigits_split r 2 2 m, List.map_append, pow_two_eq]
  rw [padDigits_two r _ (Nat.div_lt_of_lt_mul h), padDigits_two r _ (Nat.mod_lt _ hpos)]

theorem tableLen_gt (r m : Nat) (h : m < r * r) : 2 * m + 1 < tableLen r := by
  rw [tableLen_eq]; omega

theorem tableGet_even (r m : Nat) (h : m < r * r) : tableGet r (2 * m) = .ok (digitChar (m / r)) := by
  have := tableLen_gt r m h
  unfold tableGet
  rw [if_pos (by omega), if_pos (by omega), show 2 * m / 2 = m by omega]
  simp only [digitPairTable]

theorem tableGet_odd (r m : Nat) (h : m < r * r) : tableGet r (2 * m + 1) = .ok (digitChar (m % r)) := by
  unfold tableGet
  rw [if_pos (tableLen_gt r m h), if_neg (by omega), show (2 * m + 1) / 2 = m by omega]
  simp only [digitPairTable]

theorem put2_eq (radix : Nat) (buf : Buf) (index r : Nat) : put2 radix buf index r =
    (tableGet radix (r + 1) >>= fun c => setU buf (subIdx index 1) c >>= fun buf =>
      tableGet radix r >>= fun c2 => setU buf (subIdx (subIdx index 1) 1) c2 >>= fun buf =>
        Res.ok (buf, subIdx (subIdx index 1) 1)) := rfl

theorem put1_eq (buf : Buf) (index r : Nat) : put1 buf index r =
    (digitToChar r >>= fun c => setU buf (subIdx index 1) c >>= fun buf => Res.ok (buf, subIdx index 1)) := rfl

theorem put1_at (d : Nat) (buf : Buf) (i : Nat) (hd : d < 36) (hi : i < buf.length) (h64 : i + 1 < 2 ^ 64) :
    put1 buf (i + 1) d = .ok (splice buf i [digitChar d], i) := by
  rw [put1_eq, subIdx_eq _ _ (by omega) h64, Nat.add_sub_cancel, digitToChar_ok d hd, bind_ok,
    setU_splice buf i _ hi, bind_ok]

theorem put2_at (r m : Nat) (buf : Buf) (i : Nat) (hm : m < r * r) (hi : i + 2 ≤ buf.length)
    (h64 : i + 2 < 2 ^ 64) : put2 r buf (i + 2) (2 * m) = .ok (splice buf i (pair r m), i) := by
  rw [put2_eq, subIdx_eq _ _ (by omega) h64, show i + 2 - 1 = i + 1 from rfl,
    subIdx_eq _ _ (by omega) (by omega), Nat.add_sub_cancel, tableGet_odd r m hm, tableGet_even r m hm, bind_ok,
    setU_splice buf (i + 1) _ (by omega), bind_ok, bind_ok,
    setU_splice _ i _ (by rw [splice_length _ _ _ (by simpa using hi)]; omega), bind_ok,
    splice_prepend_len buf i [_] [_] 1 1 rfl rfl hi]
  rfl

/-- `(2 * m) as usize` for a `bits`-bit `2 * m` -/
theorem pair_index (bits m : Nat) (hb64 : bits ≤ 64) (h : 2 * m < 2 ^ bits) : 2 * m % 2 ^ bits % usz = 2 * m := by
  have h264 : (2:Nat) ^ bits ≤ 2 ^ 64 := Nat.pow_le_pow_right (by omega) hb64
  rw [Nat.mod_eq_of_lt h, mod_usz (by omega)]

theorem loop4_go (bits r : Nat) (hr : 2 ≤ r) (hw : 2 * (r * r) ≤ 2 ^ bits) (hb64 : bits ≤ 64)
    (f v : Nat) (buf : Buf) (i : Nat) (h : r * r * (r * r) ≤ v) (hi : i + 4 ≤ buf.length) (h64 : i + 4 < 2 ^ 64) :
    loop4 bits r (r * r) (r * r * (r * r)) (f + 1) v buf (i + 4) =
      loop4 bits r (r * r) (r * r * (r * r)) f (v / (r * r * (r * r)))
        (splice buf i ((padDigits r 4 (v % (r * r * (r * r)))).map digitChar)) i := by
  have hR2 : 0 < r * r := Nat.mul_pos (by omega) (by omega)
  have hrem : v % (r * r * (r * r)) < r * r * (r * r) := Nat.mod_lt _ (Nat.mul_pos hR2 hR2)
  have ha : v % (r * r * (r * r)) / (r * r) < r * r := Nat.div_lt_of_lt_mul hrem
  have hbm : v % (r * r * (r * r)) % (r * r) < r * r := Nat.mod_lt _ hR2
  have hl : (splice buf (i + 2) (pair r (v % (r * r * (r * r)) % (r * r)))).length = buf.length :=
    splice_length _ _ _ hi
  have hlo := put2_at r _ buf (i + 2) hbm hi h64
  have hhi := put2_at r _ (splice buf (i + 2) (pair r (v % (r * r * (r * r)) % (r * r)))) i ha (by omega) (by omega)
  rw [loop4, if_pos h, if_neg (by omega)]
  simp only [pair_index bits _ hb64 (by omega : 2 * (v % (r * r * (r * r)) / (r * r)) < 2 ^ bits),
    pair_index bits _ hb64 (by omega : 2 * (v % (r * r * (r * r)) % (r * r)) < 2 ^ bits), hlo, hhi, bind_ok,
    splice_prepend_len buf i (pair r _) (pair r _) 2 2 rfl rfl hi, padDigits_four r _ hr hrem]

theorem loop2_go (bits r : Nat) (hr : 2 ≤ r) (hb64 : bits ≤ 64)
    (hw : ∀ v, r * r ≤ v → v < 2 ^ bits → 2 * (v % (r * r)) < 2 ^ bits)
    (f v : Nat) (buf : Buf) (i : Nat) (h : r * r ≤ v) (hv : v < 2 ^ bits) (hi : i + 2 ≤ buf.length)
    (h64 : i + 2 < 2 ^ 64) :
    loop2 bits r (r * r) (f + 1) v buf (i + 2) =
      loop2 bits r (r * r) f (v / (r * r)) (splice buf i ((padDigits r 2 (v % (r * r))).map digitChar)) i := by
  have hbm : v % (r * r) < r * r := Nat.mod_lt _ (Nat.mul_pos (by omega) (by omega))
  rw [loop2, if_pos h, if_neg (by omega)]
  simp only [pair_index bits _ hb64 (hw v h hv), put2_at r _ buf i hbm hi h64, bind_ok, padDigits_two r _ hbm]

theorem sq_le_36 (r : Nat) (h : r ≤ 36) : r * r ≤ 1296 := Nat.mul_le_mul h h
/-- `radix2`, `radix4` as computed in `u32` are `r²`, `r⁴` -/
theorem sq_mod_u32 (r : Nat) (h : r ≤ 36) : r * r % 2 ^ 32 = r * r := Nat.mod_eq_of_lt (by have := sq_le_36 r h; omega)
theorem r4_le (r : Nat) (h : r ≤ 36) : (r * r) * (r * r) ≤ 1679616 := Nat.mul_le_mul (sq_le_36 r h) (sq_le_36 r h)
theorem pow4_mod_u32 (r : Nat) (h : r ≤ 36) : (r * r) * (r * r) % 2 ^ 32 = (r * r) * (r * r) :=
  Nat.mod_eq_of_lt (by have := r4_le r h; omega)

theorem Toward.final {r i0 v i : Nat} {out buf : Buf} (hr : 2 ≤ r) (hr36 : r ≤ 36) (hv : v < r * r)
    (ht : Toward r i0 out v buf i) :
    (if v < r then put1 buf i (v % 2 ^ 32) else put2 r buf i (2 * v % usz)) = .ok (out, i0) := by
  have h64 := ht.idx
  by_cases h : v < r
  · obtain ⟨rfl, hlt, rfl⟩ := ht.lead h
    rw [if_pos h, Nat.mod_eq_of_lt (by omega : v < 2 ^ 32)]
    exact put1_at v buf i0 (by omega) hlt h64
  · obtain ⟨rfl, hle, -, rfl⟩ := ht
    rw [numeral_pair r v hr (by omega) hv] at hle h64 ⊢
    rw [if_neg h, mod_usz (by have := sq_le_36 r hr36; omega)]
    exact put2_at r v buf i0 hv hle h64

/-- on `u8`, `2 * (v % radix2)` does not wrap: either `radix2 ≤ 121`, or `radix2 ≥ 144` and `v % radix2 = v - radix2` -/
theorem u8_pair_no_wrap (r v : Nat) (hr : 0 < r) (hv : v < 256) (hge : r * r ≤ v) : 2 * (v % (r * r)) < 256 := by
  rcases Nat.lt_or_ge r 12 with h | h
  · have h1 : r * r ≤ 11 * 11 := Nat.mul_le_mul (by omega) (by omega)
    have h2 : v % (r * r) < r * r := Nat.mod_lt _ (Nat.mul_pos hr hr)
    omega
  · have h1 : 12 * 12 ≤ r * r := Nat.mul_le_mul h h
    rw [Nat.mod_eq_sub_mod hge, Nat.mod_eq_of_lt (by omega)]
    omega

def SmallBits (b : Nat) : Prop := b = 8 ∨ b = 16 ∨ b = 32 ∨ b = 64

theorem SmallBits.ge {b : Nat} (h : SmallBits b) : 8 ≤ b := by
  rcases h with h | h | h | h <;> omega

theorem SmallBits.le {b : Nat} (h : SmallBits b) : b ≤ 64 := by
  rcases h with h | h | h | h <;> omega

/-- the three guards of `write_digits` (`T::BITS >= 32 || radix4 < T::MAX as u32`, the same with 16 and `radix2`, and
their failure): a loop that is entered has its divisor `r^4` / `r^2` inside the type, and twice a remainder (the table
index) fits it too — for `u8` only because `r^2 ≤ v ≤ 255` leaves `v % r^2 ≤ 127`; a loop that is skipped has a divisor
no value of the type reaches -/
theorem widths_ok (bits r : Nat) (hb : SmallBits bits) (hr : 2 ≤ r) (hr36 : r ≤ 36) :
    ((bits ≥ 32 ∨ (r * r) * (r * r) < maxAsU32 bits) → (r * r) * (r * r) < 2 ^ bits ∧ 2 * (r * r) ≤ 2 ^ bits) ∧
    ((bits ≥ 16 ∨ r * r < maxAsU32 bits) → r * r < 2 ^ bits ∧ ∀ v, r * r ≤ v → v < 2 ^ bits → 2 * (v % (r * r)) < 2 ^ bits) ∧
    (¬ (bits ≥ 16 ∨ r * r < maxAsU32 bits) → 2 ^ bits ≤ r * r) := by
  have h2 := sq_le_36 r hr36
  have h4 := r4_le r hr36
  have hpos : 0 < r * r := Nat.mul_pos (by omega) (by omega)
  have hmod : ∀ v, v % (r * r) < r * r := fun v => Nat.mod_lt v hpos
  rcases hb with h | h | h | h <;> subst h
  · have m8 : maxAsU32 8 = 255 := by decide
    rw [m8]
    have hcase : r ≤ 15 ∨ 16 ≤ r := by omega
    refine ⟨?_, ?_, ?_⟩
    · intro c
      have c' : r * r * (r * r) < 255 := by omega
      have : r * r < 16 := by
        rcases Nat.lt_or_ge (r * r) 16 with h | h
        · exact h
        · have := Nat.mul_le_mul h h; omega
      omega
    · intro c
      have c' : r * r < 255 := by omega
      have hr15 : r < 16 := by
        rcases hcase with h | h
        · omega
        · have := Nat.mul_le_mul h h; omega
      exact ⟨by omega, fun v hge hv => u8_pair_no_wrap r v (by omega) hv hge⟩
    · intro c
      rcases hcase with h | h
      · have := Nat.mul_le_mul h h; omega
      · have := Nat.mul_le_mul h h; omega
  · have m : maxAsU32 16 = 65535 := by decide
    rw [m]
    refine ⟨fun _ => by omega, fun _ => ⟨by omega, fun v _ _ => by have := hmod v; omega⟩, fun c => by omega⟩
  · refine ⟨fun _ => by omega, fun _ => ⟨by omega, fun v _ _ => by have := hmod v; omega⟩, fun c => by omega⟩
  · refine ⟨fun _ => by omega, fun _ => ⟨by omega, fun v _ _ => by have := hmod v; omega⟩, fun c => by omega⟩

/-- `write_digits` from any state of the invariant: the three stages in sequence (`Toward.loop` with `k = 4, 2`,
skipped where `widths_ok` says the chunk does not fit the type; then the one or two leading digits) -/
theorem writeDigits_toward (bits r v : Nat) (hb : SmallBits bits) (hr : 2 ≤ r) (hr36 : r ≤ 36) (hv : v < 2 ^ bits)
    {i0 i : Nat} {out buf : Buf} (ht : Toward r i0 out v buf i) :
    writeDigits bits v r buf i = .ok (out, i0) := by
  obtain ⟨H4, H2, HN2⟩ := widths_ok bits r hb hr hr36
  have hb8 := hb.ge
  have hb64 := hb.le
  have hfuel : v < 2 ^ loopFuel := lt_loopFuel hv (by omega)
  have htab : ¬ tableLen r < r * r * 2 := by rw [tableLen_eq]; omega
  unfold writeDigits
  rw [if_neg (by simp [hr, hr36]), sq_mod_u32 r hr36, pow4_mod_u32 r hr36, if_neg htab, radix_mod_bits hr36 hb8]
  obtain ⟨v1, buf1, i1, hrun1, ht1, -, hv1⟩ :=
    ht.stage (r * r * (r * r)) (bits ≥ 32 ∨ r * r * (r * r) < maxAsU32 bits)
      (loop4 bits r (r * r % 2 ^ bits) (r * r * (r * r) % 2 ^ bits) loopFuel v buf i)
      (fun c4 => by
        obtain ⟨h4a, h4b⟩ := H4 c4
        rw [Nat.mod_eq_of_lt (by omega : r * r < 2 ^ bits), Nat.mod_eq_of_lt h4a]
        exact Toward.loop r 4 _ (2 ^ bits) i0 out hr (by omega) (pow_four_eq r).symm _
          (fun f v buf i h => by rw [loop4, if_neg (Nat.not_le.mpr h)])
          (fun f v buf i h _ => loop4_go bits r hr h4b hb64 f v buf i h) v loopFuel hfuel loopFuel_pos buf i hv ht)
  simp only [hrun1, bind_ok]
  obtain ⟨v2, buf2, i2, hrun2, ht2, hc2, hv2⟩ :=
    ht1.stage (r * r) (bits ≥ 16 ∨ r * r < maxAsU32 bits)
      (loop2 bits r (r * r % 2 ^ bits) loopFuel v1 buf1 i1)
      (fun c2 => by
        obtain ⟨h2a, h2b⟩ := H2 c2
        rw [Nat.mod_eq_of_lt h2a]
        exact Toward.loop r 2 _ (2 ^ bits) i0 out hr (by omega) (pow_two_eq r).symm _
          (fun f v buf i h => by rw [loop2, if_neg (Nat.not_le.mpr h)]) (loop2_go bits r hr hb64 h2b)
          v1 loopFuel (Nat.lt_of_le_of_lt hv1 hfuel) loopFuel_pos buf1 i1 (by omega) ht1)
  simp only [hrun2, bind_ok]
  have hv2' : v2 < r * r := by
    by_cases c2 : bits ≥ 16 ∨ r * r < maxAsU32 bits
    · exact hc2 c2
    · have := HN2 c2; omega
  exact ht2.final hr hr36 hv2'

/-- in the `pre ++ suf` form -/
theorem writeDigits_spec (bits r value : Nat) (hb : SmallBits bits) (hr : 2 ≤ r) (hr36 : r ≤ 36)
    (hv : value < 2 ^ bits) (pre suf : List Nat) (hlen : (toDigits r value).length ≤ pre.length)
    (hp64 : pre.length < 2 ^ 64) :
    ∃ pre', pre'.length + (toDigits r value).length = pre.length ∧
      writeDigits bits value r (pre ++ suf) pre.length = .ok (pre' ++ numeral r value ++ suf, pre'.length) := by
  rw [← numeral_length] at hlen ⊢
  obtain ⟨p, x, rfl, hp⟩ := cut2 pre (pre.length - (numeral r value).length) (by omega)
  rw [List.length_append] at hlen hp hp64 ⊢
  refine ⟨p, by omega, ?_⟩
  have ht := Toward.start r p.length value (p ++ x ++ suf) (by simp only [List.length_append]; omega) (by omega)
  rw [show p.length + (numeral r value).length = p.length + x.length by omega] at ht
  rw [writeDigits_toward bits r value hb hr hr36 hv ht, List.append_assoc, splice_eq p x suf _ _ rfl (by omega),
    List.append_assoc]

/-- `compact.rs`: the `while value >= radix` loop is the invariant's step with `k = 1` -/
theorem compactLoop_toward (r i0 : Nat) (out : Buf) (hr : 2 ≤ r) (hr36 : r ≤ 36) : ∀ (v fuel : Nat),
    v < 2 ^ fuel → 1 ≤ fuel → ∀ (buf : Buf) (i : Nat), Toward r i0 out v buf i →
    ∃ v' buf' i', compactLoop r fuel v i buf = .ok (v', i', buf') ∧ Toward r i0 out v' buf' i' ∧ v' < r := by
  refine radix_fuel_induction r hr ?_ ?_
  · intro n f h buf i ht
    exact ⟨n, buf, i, by rw [compactLoop, if_neg (Nat.not_le.mpr h)], ht, h⟩
  · intro n f h ih buf i ht
    obtain ⟨j, rfl, ht'⟩ := ht.chunk hr (k := 1) (by rwa [Nat.pow_one])
    have hm : n % r < 36 := Nat.lt_of_lt_of_le (Nat.mod_lt n (by omega)) hr36
    have hp : (padDigits r 1 (n % r ^ 1)).map digitChar = [digitChar (n % r)] := by
      simp [padDigits]
    rw [hp, Nat.pow_one] at ht'
    obtain ⟨v', buf', i', hrun, ht'', hv'⟩ := ih _ j ht'
    refine ⟨v', buf', i', ?_, ht'', hv'⟩
    rw [compactLoop, if_pos h, if_neg (by omega)]
    simp only [subIdx_eq _ _ (Nat.le_add_left 1 j) ht.idx, Nat.add_sub_cancel,
      Nat.mod_eq_of_lt (by omega : n % r < 2 ^ 32), digitToChar_ok _ hm, bind_ok,
      setC_splice buf j _ (by have := ht.room; omega), hrun]

theorem compact_spec (bits r value : Nat) (buffer : Buf) (hb8 : 8 ≤ bits) (hb : bits ≤ 128)
    (hr : 2 ≤ r) (hr36 : r ≤ 36) (hv : value < 2 ^ bits)
    (hbuf : (numeral r value).length ≤ buffer.length) :
    compact bits r value buffer =
      .ok (numeral r value ++ buffer.drop (numeral r value).length, (numeral r value).length) := by
  have hlenle : (numeral r value).length ≤ 128 := by
    rw [numeral_length]; exact toDigits_length_le_bits r value 128 hr (by omega)
      (Nat.lt_of_lt_of_le hv (Nat.pow_le_pow_right (by omega) hb))
  have hrT : r % 2 ^ 32 % 2 ^ bits = r := by
    rw [Nat.mod_eq_of_lt (by omega : r < 2 ^ 32), radix_mod_bits hr36 hb8]
  obtain ⟨i0, hi0⟩ : ∃ i0, i0 + (numeral r value).length = 128 := ⟨128 - (numeral r value).length, by omega⟩
  have ht := Toward.start r i0 value (List.replicate 128 0) (by rw [List.length_replicate]; omega) (by omega)
  rw [hi0] at ht
  obtain ⟨v0, buf', i', hrun, ht', hv0⟩ :=
    compactLoop_toward r i0 _ hr hr36 value loopFuel (lt_loopFuel hv hb) loopFuel_pos _ _ ht
  obtain ⟨rfl, hlt, hout⟩ := ht'.lead hv0
  unfold compact
  rw [if_neg (by omega), hrT]
  simp only [hrun, bind_ok]
  rw [subIdx_eq _ _ (Nat.le_add_left 1 i0) (by omega), Nat.add_sub_cancel, Nat.mod_eq_of_lt (by omega : v0 < 2 ^ 32),
    digitToChar_ok _ (by omega), bind_ok, setC_splice _ _ _ hlt, bind_ok, hout,
    if_pos (by rw [splice_length _ _ _ (by rw [List.length_replicate]; omega), List.length_replicate]; omega),
    splice_drop _ _ _ (by rw [List.length_replicate]; exact hi0), copyToDst_ok _ _ hbuf]

/-- `while value >= d { digits += k; value /= d }` with `d = r^k` keeps `digits + (number of digits of value)` -/
theorem countLoop_spec (r k : Nat) (hr : 2 ≤ r) (hk : 1 ≤ k) :
    ∀ (v fuel : Nat), v < 2 ^ fuel → 1 ≤ fuel → ∀ c : Nat,
    ∃ v' c', countLoop (r ^ k) k fuel v c = .ok (v', c') ∧
      c' + (toDigits r v').length = c + (toDigits r v).length ∧ v' < r ^ k ∧ v' ≤ v := by
  refine radix_fuel_induction (r ^ k) (two_le_pow r k hr hk) ?_ ?_
  · intro n f h c
    exact ⟨n, c, by rw [countLoop, if_neg (Nat.not_le.mpr h)], rfl, h, Nat.le_refl _⟩
  · intro n f h ih c
    obtain ⟨v', c', hrun, hl, hv', hle⟩ := ih (c + k)
    refine ⟨v', c', by rw [countLoop, if_pos h, if_neg (by omega), hrun], ?_, hv', Nat.le_trans hle (Nat.div_le_self _ _)⟩
    rw [hl, len_split r n k hr h]; omega

theorem countStage_spec (r k : Nat) (hr : 2 ≤ r) (hk : 1 ≤ k) (p : Prop) [Decidable p] (d v c : Nat)
    (hd : p → d = r ^ k) (hf : v < 2 ^ loopFuel) :
    ∃ v' c', (if p then countLoop d k loopFuel v c else .ok (v, c)) = .ok (v', c') ∧
      c' + (toDigits r v').length = c + (toDigits r v).length ∧ v' ≤ v := by
  by_cases h : p
  · rw [if_pos h, hd h]
    obtain ⟨v', c', hrun, hl, _, hle⟩ := countLoop_spec r k hr hk v loopFuel hf loopFuel_pos c
    exact ⟨v', c', hrun, hl, hle⟩
  · exact ⟨v, c, if_neg h, rfl, Nat.le_refl _⟩

theorem naiveCount_spec (bits r value : Nat) (hb : SmallBits bits) (hr : 2 ≤ r) (hr36 : r ≤ 36)
    (hv : value < 2 ^ bits) : naiveCount bits r value = .ok (toDigits r value).length := by
  obtain ⟨H4, H2, _⟩ := widths_ok bits r hb hr hr36
  have hfuel : ∀ v, v ≤ value → v < 2 ^ loopFuel := fun v hle =>
    lt_loopFuel (Nat.lt_of_le_of_lt hle hv) (Nat.le_trans hb.le (by omega))
  have hr32 : r % 2 ^ 32 = r := Nat.mod_eq_of_lt (by omega)
  unfold naiveCount
  rw [hr32, sq_mod_u32 r hr36, pow4_mod_u32 r hr36, radix_mod_bits hr36 hb.ge]
  obtain ⟨v1, c1, hrun1, hl1, hle1⟩ :=
    countStage_spec r 4 hr (by omega) (bits ≥ 32 ∨ r * r * (r * r) < maxAsU32 bits) (r * r * (r * r) % 2 ^ bits)
      value 1 (fun c => by rw [Nat.mod_eq_of_lt (H4 c).1, pow_four_eq]) (hfuel _ (Nat.le_refl _))
  simp only [hrun1, bind_ok]
  obtain ⟨v2, c2, hrun2, hl2, hle2⟩ :=
    countStage_spec r 2 hr (by omega) (bits ≥ 16 ∨ r * r < maxAsU32 bits) (r * r % 2 ^ bits) v1 c1
      (fun c => by rw [Nat.mod_eq_of_lt (H2 c).1, pow_two_eq]) (hfuel _ hle1)
  simp only [hrun2, bind_ok]
  obtain ⟨v3, c3, hrun3, hl3, hv3, _⟩ :=
    countLoop_spec r 1 hr (by omega) v2 loopFuel (hfuel _ (by omega)) loopFuel_pos c2
  rw [Nat.pow_one] at hrun3 hv3
  simp only [hrun3, bind_ok]
  rw [toDigits_lt r v3 hv3, List.length_singleton] at hl3
  congr 1; omega

end LexVerif.Model.WriteInt
