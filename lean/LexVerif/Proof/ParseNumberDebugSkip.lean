import LexVerif.Proof.ParseNumberTotal
/-!
# Proof.ParseNumberDebugSkip — component iterators that are contiguous or skip *every* separator (I+L+T+C)

`Good c k`: the iterator `k` either never moves in `peek` (`PeekTriv`), or its predicate is `iltc` — then `peek`
skips every run of separators unconditionally, independent of the bytes before and after, so the first pass
and the re-scan of the stored slice agree and `peek` never returns the separator.
-/
namespace LexVerif.Proof.PNDebug
open LexVerif LexVerif.Model
open LexVerif.Proof.IterSpec (peekIdx_of_plain peekIdx_seps)

variable {c : Cfg}

def Skips (c : Cfg) (k : Comp) : Prop := c.skip k = .pred .iltc ∧ c.bytesContiguous = false

def Good (c : Cfg) (k : Comp) : Prop := PeekTriv c k ∨ Skips c k

def DSk (c : Cfg) (k : Comp) (x : Nat) : Prop :=
  IsDig c.mantissaRadix x ∨ (x = c.fmt.digitSeparator ∧ Skips c k)

def DSRange (c : Cfg) (k : Comp) (s : List Nat) (i j : Nat) : Prop :=
  ∀ n, i ≤ n → n < j → ∃ x, s[n]? = some x ∧ DSk c k x

theorem _root_.LexVerif.Proof.PNTotal.Between.toDS {k : Comp} (hg : Good c k) {s : List Nat} {i j : Nat}
    (h : PNTotal.Between c k s i j) : DSRange c k s i j := by
  intro t h1 h2
  obtain ⟨x, hx, hd | ⟨f, i', h3, h4⟩⟩ := h t h1 h2
  · exact ⟨x, hx, .inl hd⟩
  · rcases hg with ht | hs
    · rw [peekIdx_of_plain (fun b _ => ht b)] at h4; omega
    · obtain ⟨y, hy, hsep⟩ := peekIdx_seps c k s f i' t h3 h4
      rw [hx] at hy; cases hy
      exact ⟨x, hx, .inr ⟨isSep_eq hsep, hs⟩⟩

theorem good_of_flags (cx : Ctx c) (k : Comp) (hk : k = .integer ∨ k = .fraction)
    (h : c.iterContiguous k = true ∨ c.sepFlags k = ⟨true, true, true, true⟩) : Good c k := by
  rcases h with h | h
  · exact Or.inl (peek_triv c cx k (Or.inr h))
  · cases hbc : c.bytesContiguous
    · right
      refine ⟨?_, hbc⟩
      rcases hk with rfl | rfl <;> simp [Cfg.skip, h, SepFlags.skip]
    · exact Or.inl (peek_triv c cx k (Or.inl hbc))

theorem allDS_range {k : Comp} {s : List Nat} (h : ∀ x ∈ s, DSk c k x) (i : Nat) : DSRange c k s i s.length := by
  intro n _ hn
  exact ⟨s[n], by simp [hn], h _ (List.getElem_mem hn)⟩

end LexVerif.Proof.PNDebug
