import LexVerif.Proof.ParseNumberTotal
import LexVerif.Proof.PrefixRepair
/-!
# Proof.ParseNumberTotalPhases — the phases of `parse_number` under `Env` (either build mode)

The base-prefix phase is `PrefixRepair.prefixClosed` (`prefixPhase_env`); sign and base prefix only move the cursor (`parseSign_moved`, `prefixPhase_moved`); exponent and suffix phase: the
cursor stays inside the buffer (`ExpOK`, read off `Phase.exponentPhase_eq`; `suffixPhase_env`). Integer and fraction
phase: `integerPhase_env` / `fractionPhase_env` return what the phase did in full (`IntRun`, `FracRun`: the pass as
`PassOk`, the digits counted, the slice stored), read off `Proof/ParsePhases.lean`; the release-build bounds and the
debug-build facts about the stored slices (`Proof/ParseNumberDebugPhases.lean`, `…RescanMain.lean`) are projections.
-/
namespace LexVerif.Proof.PNTotal
open LexVerif LexVerif.Model LexVerif.Spec
open LexVerif.Proof.IterSpec (cur pk)
open LexVerif.Proof.PNDebug (Ctx matchesB matchesB_ne get_lt stepUnchecked_eq zero_ne_sep)

variable {c : Cfg}

theorem firstIsCased_get {b : Bytes} {v : Nat} (h : b.firstIsCased v = true) : b.slc[b.index]? = some v := by
  unfold Bytes.firstIsCased Bytes.first at h
  simpa using h

theorem firstIs_match {b : Bytes} {v : Nat} {cased : Bool} (h : b.firstIs v cased = true) :
    ∃ x, b.slc[b.index]? = some x ∧ matchesB x v cased = true := by
  unfold Bytes.firstIs at h
  split at h
  · next hc =>
    refine ⟨v, firstIsCased_get h, ?_⟩
    simp [matchesB, hc]
  · next hc =>
    unfold Bytes.firstIsUncased at h
    split at h
    · next x hx =>
      refine ⟨x, hx, ?_⟩
      have : cased = false := by simpa using hc
      simp [matchesB, this, h]
    · simp at h

theorem firstIs_lt {b : Bytes} {v : Nat} {cased : Bool} (h : b.firstIs v cased = true) : b.index < b.slc.length := by
  obtain ⟨x, hx, _⟩ := firstIs_match h
  exact get_lt hx

theorem firstIs_ne_sep {b : Bytes} {v : Nat} {cased : Bool} (h : b.firstIs v cased = true)
    (hs : matchesB c.fmt.digitSeparator v cased = false) : b.slc[b.index]? ≠ some c.fmt.digitSeparator := by
  obtain ⟨x, hx, hm⟩ := firstIs_match h
  rw [hx]; intro he
  exact matchesB_ne hm hs (Option.some.inj he)

theorem bstep_eq {b : Bytes} (hlt : b.index < b.slc.length)
    (hns : c.debug = true → c.bytesContiguous = true ∨ b.slc[b.index]? ≠ some c.fmt.digitSeparator) :
    b.step c = .ok { b with index := b.index + 1 } := stepUnchecked_eq _ b hlt hns

theorem parseSign_moved (cx : Env c) (np rq : Bool) (ip ms : String) (b : Bytes) (hv : b.index ≤ b.slc.length) :
    Wp (fun r => Moved b r.2) (ErrOK b.slc.length) (parseSign c np rq ip ms b) := by
  have hstep : ∀ x, b.first = some x → (Ctx c → c.fmt.digitSeparator ≠ x) →
      b.step c = .ok (cur b (b.index + 1)) ∧ Moved b (cur b (b.index + 1)) := by
    intro x hf hx
    refine ⟨bstep_eq (get_lt hf) (fun hd => Or.inr ?_), _, rfl, Nat.le_succ _, get_lt hf⟩
    rw [show b.slc[b.index]? = some x from hf]
    intro he
    exact hx (cx.dbg hd) (Option.some.inj he).symm
  unfold parseSign
  split
  · next hf =>
    split
    · simp only [(hstep _ hf Ctx.sepNotPlus).1, bind, Except.bind, pure, Except.pure]
      exact (hstep _ hf Ctx.sepNotPlus).2
    · exact hv
  · next hf =>
    simp only [(hstep _ hf Ctx.sepNotMinus).1, bind, Except.bind, pure, Except.pure]
    exact (hstep _ hf Ctx.sepNotMinus).2
  · split
    · exact hv
    · exact Moved.refl b hv

theorem parseSign_env (cx : Env c) (np rq : Bool) (ip ms : String) (b : Bytes) (hv : b.index ≤ b.slc.length) :
    TotP Prod.snd b (parseSign c np rq ip ms b) :=
  TotP.iff_wp.2 ((parseSign_moved cx np rq ip ms b hv).mono (fun _ _ h => h.adv) fun _ => id)

set_option linter.unusedVariables false in
theorem readIfValue_csum (hc : Rel c) (k : Comp) (v : Nat) (cased : Bool) (b : Bytes) (hv : b.index ≤ b.slc.length)
    (hit : Bool) (b' : Bytes) (h : readIfValue c k v cased b = .ok (hit, b')) : csum b' = csum b ∧ b'.slc = b.slc := by
  rw [PrefixRepair.readIfValue_eq (hc.hs k) v cased b fun y _ => IterSpec.StepOK.release hc.hd k y] at h
  split at h <;> cases h <;> exact ⟨rfl, rfl⟩

theorem prefixPhase_env (cx : Env c) (b : Bytes) : prefixPhase c b = PrefixRepair.prefixClosed c b :=
  PrefixRepair.prefixPhase_closed (cx.hs _) (cx.stepOK _ zero_ne_sep)
    (fun hne y hy hd => ((cx.dbg hd).prefixOk hne).imp id (matchesB_ne hy)) b

theorem prefixPhase_moved (cx : Env c) (b : Bytes) (hv : b.index ≤ b.slc.length) :
    Wp (fun r => Moved b r.2) (ErrOK b.slc.length) (prefixPhase c b) := by
  rw [prefixPhase_env cx b]
  unfold PrefixRepair.prefixClosed
  split
  · split
    · next h48 =>
      have m1 := moved_pk_succ .integer b h48
      split
      · next hm =>
        cases hy : b.slc[pk c .integer (cur b (pk c .integer b + 1))]? with
        | none => simp [hy] at hm
        | some y =>
          have m2 := m1.trans (moved_pk_succ .integer (cur b (pk c .integer b + 1)) hy)
          split
          · exact m2.adv.valid
          · exact m2
      · split
        · exact Moved.refl b hv
        · exact m1.trans (moved_pk .integer _ m1.adv.valid')
    · exact moved_pk .integer b hv
  · exact Moved.refl b hv

theorem scaleExponent_env (cx : Env c) (i : Int) : ∃ e, scaleExponent c i = .ok e ∧ e.natAbs ≤ 5 * i.natAbs :=
  Phase.scaleExponent_ok (fun hd => (cx.dbg hd).scale) i

structure IntRun (c : Cfg) (b : Bytes) (ip : IntPart) : Prop where
  pre : prefixPhase c b = .ok (ip.isPrefix, ip.start)
  start : Moved b ip.start
  pass : PassOk c .integer ip.start ip.byte
  nDigits : ip.nDigits = ip.byte.currentCount c - ip.start.currentCount c
  digits : ip.integerDigits = (ip.start.slc.drop ip.start.index).take (Phase.storedLen c .integer ip.start ip.byte)

theorem integerPhase_env (cx : Env c) (b : Bytes) (hv : b.index ≤ b.slc.length) :
    Wp (IntRun c b) (ErrOK b.slc.length) (integerPhase c b) := by
  rw [Phase.integerPhase_eq]
  refine Wp.bind (prefixPhase_moved cx b hv) fun r hpp hm => ?_
  obtain ⟨isP, st⟩ := r
  have ha0 : Adv b st := Moved.adv hm
  obtain ⟨m, e, hpass, hp⟩ := digitPass_env cx .integer st 0 ha0.valid'
  simp only [hpass, bind, Except.bind]
  rcases Phase.intTail_cases isP hp.adv m with ⟨t, i, hi, h⟩ | h
  · rw [h]
    rcases hi with rfl | rfl
    · exact (ha0.trans hp.adv).valid
    · exact ha0.valid
  · rw [h]; exact ⟨hpp, hm, hp, rfl, rfl⟩

theorem IntRun.advStart {b : Bytes} {ip : IntPart} (h : IntRun c b ip) : Adv b ip.start := h.start.adv

theorem IntRun.nle {b : Bytes} {ip : IntPart} (h : IntRun c b ip) : ip.nDigits ≤ ip.byte.index - ip.start.index := by
  rw [h.nDigits]; exact count_diff_le h.pass.adv

theorem IntRun.len_le {b : Bytes} {ip : IntPart} (h : IntRun c b ip) :
    ip.integerDigits.length ≤ ip.byte.index - ip.start.index := by
  have := Phase.storedLen_le (c := c) (k := .integer) h.pass.adv
  rw [h.digits, List.length_take]; omega

theorem IntRun.bc {b : Bytes} {ip : IntPart} (h : IntRun c b ip) (hbc : c.bytesContiguous = true) :
    ip.nDigits = ip.byte.index - ip.start.index ∧
      ip.integerDigits = (ip.start.slc.drop ip.start.index).take (ip.byte.index - ip.start.index) := by
  rw [h.nDigits, h.digits, Phase.storedLen_bc hbc]
  simp [Bytes.currentCount, hbc]

structure FracPass (c : Cfg) (byte : Bytes) (fp : FracPart) : Prop where
  pass : PassOk c .fraction (cur byte (byte.index + 1)) fp.byte
  lt : byte.index < byte.slc.length
  nAfterDot : fp.nAfterDot = fp.byte.currentCount c - (cur byte (byte.index + 1)).currentCount c
  exp_le : fp.exponent.natAbs ≤ 5 * fp.nAfterDot
  fraction : fp.fraction = some ((byte.slc.drop (byte.index + 1)).take
    (Phase.storedLen c .fraction (cur byte (byte.index + 1)) fp.byte))

structure FracRun (c : Cfg) (o : POpts) (byte : Bytes) (m : Nat) (fp : FracPart) : Prop where
  noPoint : byte.firstIsCased o.dp = false → fp = ⟨byte, m, 0, 0, none, false⟩
  point : byte.firstIsCased o.dp = true → FracPass c byte fp

/-- `hdp`: the decimal point of valid options is not the separator -/
theorem fractionPhase_env (cx : Env c) (o : POpts) (byte : Bytes) (m : Nat)
    (hdp : c.debug = true → c.bytesContiguous = true ∨ o.dp ≠ c.fmt.digitSeparator) :
    Wp (FracRun c o byte m) (ErrOK byte.slc.length) (fractionPhase c o byte m) := by
  rw [Phase.fractionPhase_eq]
  split
  · next hd =>
    have hx := firstIsCased_get hd
    have hlt := get_lt hx
    rw [bstep_eq hlt fun hdb => (hdp hdb).imp id fun h he => h (Option.some.inj (hx.symm.trans he))]
    have ha0 : Adv byte (cur byte (byte.index + 1)) := step_adv byte 1 hlt
    obtain ⟨m', e, hpass, hp⟩ := digitPass_env cx .fraction (cur byte (byte.index + 1)) m ha0.valid'
    have hpass' : Phase.digitPass c .fraction { byte with index := byte.index + 1 } m = .ok (m', e) := hpass
    simp only [hpass', bind, Except.bind]
    rcases Phase.fracTail_cases hp.adv m' (fun hdb => (cx.dbg hdb).scale) with ⟨t, h⟩ | ⟨x, hx5, h⟩
    · rw [show Phase.fracTail c { byte with index := byte.index + 1 } e m' = _ from h]
      exact (ha0.trans hp.adv).valid
    · rw [show Phase.fracTail c { byte with index := byte.index + 1 } e m' = _ from h]
      exact ⟨fun h0 => (by rw [hd] at h0; cases h0), fun _ => ⟨hp, hlt, rfl, hx5, rfl⟩⟩
  · next hd =>
    exact ⟨fun _ => rfl, fun h1 => absurd h1 hd⟩

theorem FracRun.adv {o : POpts} {byte : Bytes} {m : Nat} {fp : FracPart} (h : FracRun c o byte m fp)
    (hv : byte.index ≤ byte.slc.length) : Adv byte fp.byte := by
  cases hd : byte.firstIsCased o.dp
  · rw [h.noPoint hd]; exact Adv.refl byte hv
  · exact (step_adv byte 1 (h.point hd).lt).trans (h.point hd).pass.adv

theorem FracRun.noFrac {o : POpts} {byte : Bytes} {m : Nat} {fp : FracPart} (h : FracRun c o byte m fp) :
    fp.fraction = none → fp.nAfterDot = 0 := by
  intro hn
  cases hd : byte.firstIsCased o.dp
  · rw [h.noPoint hd]
  · rw [(h.point hd).fraction] at hn; cases hn

theorem FracRun.nle {o : POpts} {byte : Bytes} {m : Nat} {fp : FracPart} (h : FracRun c o byte m fp) :
    fp.nAfterDot ≤ fp.byte.index - byte.index := by
  cases hd : byte.firstIsCased o.dp
  · rw [h.noPoint hd]; exact Nat.zero_le _
  · have := count_diff_le (c := c) (h.point hd).pass.adv
    rw [(h.point hd).nAfterDot]; simp only [cur] at this ⊢; omega

theorem FracRun.exp_le {o : POpts} {byte : Bytes} {m : Nat} {fp : FracPart} (h : FracRun c o byte m fp) :
    fp.exponent.natAbs ≤ 5 * fp.nAfterDot := by
  cases hd : byte.firstIsCased o.dp
  · rw [h.noPoint hd]; simp
  · exact (h.point hd).exp_le

/-- a stored fraction is what the pass behind a decimal point took -/
theorem FracRun.stored {o : POpts} {byte : Bytes} {m : Nat} {fp : FracPart} (h : FracRun c o byte m fp)
    {fd : List Nat} (hfd : fp.fraction = some fd) : byte.firstIsCased o.dp = true ∧
      fd = (byte.slc.drop (byte.index + 1)).take (Phase.storedLen c .fraction (cur byte (byte.index + 1)) fp.byte) := by
  cases hd : byte.firstIsCased o.dp
  · rw [h.noPoint hd] at hfd; cases hfd
  · exact ⟨rfl, Option.some.inj (hfd.symm.trans (h.point hd).fraction)⟩

theorem FracRun.len_le {o : POpts} {byte : Bytes} {m : Nat} {fp : FracPart} (h : FracRun c o byte m fp) :
    ∀ fd, fp.fraction = some fd → fd.length ≤ byte.slc.length := by
  intro fd hfd
  rw [(h.stored hfd).2]
  simp only [List.length_take, List.length_drop]; omega

/-- what `exponentPhase` guarantees (`e0` = the implicit exponent handed in) -/
def ExpOK (c : Cfg) (byte : Bytes) (e0 : Int) (r : Except Err ExpPart) : Prop :=
  Wp (fun ep => Adv byte ep.byte ∧ ep.exponent = e0 + ep.explicit ∧
      ∃ ds : List Nat, (∀ d ∈ ds, d < c.exponentRadix) ∧ ep.explicit.natAbs = foldExponent c.exponentRadix 0 ds)
    (ErrOK byte.slc.length) r

theorem exponentPhase_env (cx : Env c) (hasExp : Bool) (byte : Bytes) (fr : Option (List Nat)) (e0 : Int)
    (hv : byte.index ≤ byte.slc.length) (hlt : hasExp = true → byte.index < byte.slc.length)
    (hns : hasExp = true → c.debug = true →
      c.bytesContiguous = true ∨ byte.slc[byte.index]? ≠ some c.fmt.digitSeparator) :
    ExpOK c byte e0 (exponentPhase c hasExp byte fr e0) := by
  unfold ExpOK
  rw [Phase.exponentPhase_eq]
  split
  · next he =>
    have hlt := hlt he
    have ha0 : Adv byte (cur byte (byte.index + 1)) := step_adv byte 1 hlt
    rw [bstep_eq hlt (hns he)]
    simp only [bind, Except.bind]
    split
    · show byte.index + 1 - 1 ≤ byte.slc.length
      omega
    · split
      · show byte.index + 1 - 1 ≤ byte.slc.length
        omega
      · refine Wp.bind (Wp.mono (parseSign_moved cx _ _ _ _ _ ha0.valid') (fun _ _ h => h) fun _ h => ha0.len ▸ h)
          fun r _ hm => ?_
        have ha1 := ha0.trans hm.adv
        obtain ⟨ds, e, hr, ha2, hds⟩ := parseDigits_env cx .exponent c.exponentRadix
          (fun hd => (cx.dbg hd).sepNotDigE) r.2 ha1.valid'
        simp only [hr]
        rcases Phase.expTail_cases (c := c) r.1 r.2 e ds e0 with ⟨t, h⟩ | ⟨x, hx, h⟩
        · rw [h]; exact (ha1.trans ha2).valid
        · rw [h]; exact ⟨ha1.trans ha2, rfl, ds, hds, hx⟩
  · split
    · exact hv
    · exact ⟨Adv.refl byte hv, by simp, [], by simp, by simp [foldExponent]⟩

theorem suffixPhase_env (cx : Env c) (byte : Bytes) (hv : byte.index ≤ byte.slc.length) :
    ∃ b', suffixPhase c byte = .ok b' ∧ Adv byte b' := by
  unfold suffixPhase
  split
  · next h =>
    simp only [Bool.and_eq_true, ne_eq, decide_eq_true_eq] at h
    rw [bstep_eq (firstIs_lt h.2) (fun hd => ((cx.dbg hd).suffixOk h.1.2).imp id (firstIs_ne_sep h.2))]
    exact ⟨_, rfl, step_adv byte 1 (firstIs_lt h.2)⟩
  · exact ⟨byte, rfl, Adv.refl byte hv⟩

end LexVerif.Proof.PNTotal
