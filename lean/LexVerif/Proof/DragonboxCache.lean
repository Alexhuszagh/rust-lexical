import LexVerif.Model.Dragonbox
/-!
# Proof.DragonboxCache — the power-of-five cache with constant-time rows

`dragonboxPower` indexes the dumped tables (`Array`s built from 78- and 619-element lists). The kernel reaches row `i`
of a list literal in `i` steps, on every lookup, which would dominate the evaluation of a certificate. Here each table
column is folded into one number, 64 bits per row, so that a row is a shift and a mask on a `Nat` the kernel computes
once; `dragonboxPower_eq_cachePower` is the only place where the tables themselves are read.
-/
namespace LexVerif.Proof.DragonboxCache
open LexVerif.Model.Dragonbox LexVerif.Gen.Dragonbox

def pack (l : List Nat) : Nat := l.foldr (fun x acc => x + 2 ^ 64 * acc) 0

def row (P i : Nat) : Nat := P >>> (64 * i) % 2 ^ 64

theorem row_pack {l : List Nat} (hl : ∀ x ∈ l, x < 2 ^ 64) {i : Nat} (hi : i < l.length) :
    l[i]? = some (row (pack l) i) := by
  induction l generalizing i with
  | nil => simp at hi
  | cons x l ih =>
    have hx : x < 2 ^ 64 := hl x (List.mem_cons_self ..)
    cases i with
    | zero =>
      show some x = some ((x + 2 ^ 64 * pack l) >>> (64 * 0) % 2 ^ 64)
      rw [Nat.mul_zero, Nat.shiftRight_zero, Nat.add_mul_mod_self_left, Nat.mod_eq_of_lt hx]
    | succ i =>
      rw [List.getElem?_cons_succ, ih (fun y hy => hl y (List.mem_cons_of_mem _ hy)) (Nat.lt_of_succ_lt_succ hi)]
      show some (pack l >>> (64 * i) % 2 ^ 64) = some ((x + 2 ^ 64 * pack l) >>> (64 * (i + 1)) % 2 ^ 64)
      rw [Nat.mul_succ, Nat.add_comm (64 * i), Nat.shiftRight_add, Nat.shiftRight_eq_div_pow _ 64,
        Nat.add_mul_div_left _ _ (Nat.two_pow_pos 64), Nat.div_eq_of_lt hx, Nat.zero_add]

def pack32 : Nat := pack pow5_32List
def pack64Hi : Nat := pack pow5_64HiList
def pack64Lo : Nat := pack pow5_64LoList

def cachePower (t : FTy) (exponent : Int) : Option (Nat × Nat) :=
  match t with
  | .f32 =>
    let idx := exponent - smallestF32Pow5
    if 0 ≤ idx ∧ idx.toNat < 78 then some (row pack32 idx.toNat, 0) else none
  | .f64 =>
    let idx := exponent - smallestF64Pow5
    if 0 ≤ idx ∧ idx.toNat < 619 then some (row pack64Hi idx.toNat, row pack64Lo idx.toNat) else none

private theorem lookup {l : List Nat} {n : Nat} (hn : l.length = n) (hl : l.all (· < 2 ^ 64) = true) (i : Nat) :
    l.toArray[i]? = if i < n then some (row (pack l) i) else none := by
  rw [List.getElem?_toArray, ← hn]
  split
  · next h => exact row_pack (by simpa using hl) h
  · next h => exact List.getElem?_eq_none (by omega)

theorem dragonboxPower_eq_cachePower (t : FTy) (exponent : Int) :
    dragonboxPower t exponent = cachePower t exponent := by
  have h32 := lookup (l := pow5_32List) (n := 78) (by decide +kernel) (by decide +kernel)
  have hHi := lookup (l := pow5_64HiList) (n := 619) (by decide +kernel) (by decide +kernel)
  have hLo := lookup (l := pow5_64LoList) (n := 619) (by decide +kernel) (by decide +kernel)
  cases t
  · simp only [dragonboxPower, cachePower, pow5_32, pack32, h32]
    by_cases h0 : 0 ≤ exponent - smallestF32Pow5 <;> by_cases h1 : (exponent - smallestF32Pow5).toNat < 78 <;>
      simp [h1]
  · simp only [dragonboxPower, cachePower, pow5_64Hi, pow5_64Lo, pack64Hi, pack64Lo, hHi, hLo]
    by_cases h0 : 0 ≤ exponent - smallestF64Pow5 <;> by_cases h1 : (exponent - smallestF64Pow5).toNat < 619 <;>
      simp [h1]

end LexVerif.Proof.DragonboxCache
