import LexVerif.Proof.WriteIntAlgorithmU128
import LexVerif.Proof.WriteIntDecimal128
/-!
# Proof.WriteIntAssembly — buffer sizes and the radix dispatch: what `writeInt_of_mantissa` needs from the writers
-/
namespace LexVerif.Model.WriteInt
open LexVerif.Spec

theorem dec_len_needDec (bits : Nat) (sg : Bool) (hb : ValidBits bits) (n : Nat) (h1 : n < 2 ^ bits)
    (h2 : sg = true → n ≤ 2 ^ (bits - 1)) : (numeral 10 n).length ≤ needDec bits sg := by
  rcases hb with rfl | rfl | rfl | rfl | rfl
  · exact dec_len_le n 3 (by omega) (by omega)
  · exact dec_len_le n 5 (by omega) (by omega)
  · exact dec_len_le n 10 (by omega) (by omega)
  · cases sg
    · exact dec_len_le n 20 (by omega) (by omega)
    · exact dec_len_le n 19 (by omega) (by have := h2 rfl; omega)
  · exact dec_len_le n 39 (by omega) (by omega)

theorem size_ok (feats : Features) (hwf : FeaturesWF feats) (t : IntTy) (hbits : ValidBits t.bits) (radix : Nat)
    (hvalid : validRadix feats radix = true) (reqSign : Bool) (v : Int) (hv : t.inRange v) :
    (numeral radix v.natAbs).length + (signBytes feats reqSign v).length ≤ requiredSize feats t radix reqSign := by
  by_cases h10 : radix = 10
  · subst h10
    obtain ⟨hlt, _, hs⟩ := inRange_mag t v hbits.pos hv
    exact Nat.le_trans (Nat.add_le_add_right (dec_len_needDec t.bits t.signed hbits _ hlt hs) _)
      (dec_room feats t reqSign v hbits hv)
  · -- `FORMATTED_SIZE` is twice the width
    have hlen := mag_length_le t hbits radix (validRadix_range feats radix hvalid).1 v hv
    have hsl := signBytes_length_le feats reqSign v
    unfold requiredSize bufferSizeConst formattedSize
    rw [if_neg h10, if_pos (validRadix_ne10 feats radix hwf hvalid h10)]
    rcases hbits with h | h | h | h | h <;> simp only [formattedSizeRadix, h] at hlen ⊢ <;> omega

theorem writeInt_of_exact_mantissa (feats : Features) (t : IntTy) (radix : Nat) (reqSign checkValid : Bool)
    (v : Int) (buffer : Buf) (hwf : FeaturesWF feats) (hbits : ValidBits t.bits)
    (hvalid : validRadix feats radix = true) (hv : t.inRange v)
    (hM : MantSpec (writeMantissa feats t.bits radix v.natAbs t.signed) (numeral radix v.natAbs)
      (numeral radix v.natAbs).length)
    (hbuf : requiredSize feats t radix reqSign ≤ buffer.length) :
    writeInt feats t radix reqSign checkValid v buffer =
      .ok (expected feats radix reqSign v ++ buffer.drop (expected feats radix reqSign v).length,
           (expected feats radix reqSign v).length) := by
  have hsize := size_ok feats hwf t hbits radix hvalid reqSign v hv
  exact writeInt_of_mantissa feats t radix reqSign checkValid v buffer _ hbits hvalid hv hM (by omega)

/-- `radix.rs`: `algorithm` for u8..u64, `algorithm_u128` (with its `value <= u64::MAX` shortcut) for u128 -/
theorem radixWrite_spec (feats : Features) (bits radix value : Nat) (hbits : ValidBits bits)
    (hvalid : validRadix feats radix = true) (hp2 : feats.powerOfTwo = true) (h10 : radix ≠ 10)
    (hv : value < 2 ^ bits) :
    MantSpec (radixWrite feats bits value radix) (numeral radix value) (numeral radix value).length := by
  obtain ⟨hr2, hr36⟩ := validRadix_range feats radix hvalid
  have htab := hasTable_of_valid feats radix hvalid hp2
  have hsmall : SmallBits bits ∨ bits = 128 := by
    rcases hbits with h | h | h | h | h
    · exact Or.inl (Or.inl h)
    · exact Or.inl (Or.inr (Or.inl h))
    · exact Or.inl (Or.inr (Or.inr (Or.inl h)))
    · exact Or.inl (Or.inr (Or.inr (Or.inr h)))
    · exact Or.inr h
  rcases hsmall with hb | rfl
  · exact radixWrite_small_spec feats bits radix value hb hr2 hr36 h10 hv htab
  · by_cases hbig : value ≤ 2 ^ 64 - 1
    · exact radixWrite_u128_small_spec feats radix value hr2 hr36 h10 (by omega) htab hvalid
    · intro buf hb
      unfold radixWrite
      rw [if_neg (by simp [htab]), if_pos rfl]
      exact algorithmU128_big_spec feats value radix hvalid h10 hv hbig buf hb

end LexVerif.Model.WriteInt
