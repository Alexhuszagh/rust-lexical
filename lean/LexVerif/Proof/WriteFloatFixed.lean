import LexVerif.Proof.WriteFloatSafe
/-!
# Proof.WriteFloatFixed — `buffer_size_const` as /repo has it (commit fb7040b, `fixes/C09-buffer-size-const.diff`) is
sufficient for ALL valid options, and never smaller than the formula before that commit

`need_le_fixed` is `need_le_general` (`WriteFloatSafe`) at `sizeDigitsFixed`, `sizeExpFixed`.
-/
namespace LexVerif.Proof.WriteFloatBound
open LexVerif.Spec LexVerif.Model LexVerif.Model.WriteFloat LexVerif.Proof.WriteFloatBuf LexVerif.Proof.WriteFloatDragon

theorem sizeDigitsFixed_facts (r : Nat) (o : WOpts) : 28 ≤ sizeDigitsFixed r o ∧ o.minDigits.getD 0 ≤ sizeDigitsFixed r o ∧
    sizeDigits r o ≤ sizeDigitsFixed r o := by
  unfold sizeDigitsFixed sizeDigits
  dsimp only
  have hF : 28 ≤ (if r = 10 then 28 else 64) := by split <;> omega
  generalize (if r = 10 then 28 else 64) = F at hF ⊢
  cases o.minDigits <;> cases o.maxDigits <;> simp <;> omega

theorem sizeExpFixed_facts (feats : Features) (fmt : Format) (o : WOpts) :
    sizeExp feats fmt o ≤ sizeExpFixed feats fmt o ∧
    (¬ (effFmt feats fmt).noExponentNotation = true → 12 ≤ sizeExpFixed feats fmt o) := by
  unfold sizeExp sizeExpFixed
  by_cases hne : (effFmt feats fmt).noExponentNotation = true
  · have hnn : ¬ ¬ (effFmt feats fmt).noExponentNotation = true := fun h => h hne
    simp only [if_neg hnn]
    exact ⟨Nat.le_refl _, fun h => absurd hne h⟩
  · simp only [if_pos hne]
    generalize asUsize (max (absI32 (o.negBreak.getD (-5))) (o.posBreak.getD 9)) = ex
    refine ⟨?_, fun _ => ?_⟩
    all_goals (repeat' split)
    all_goals omega

theorem bufferSizeConst_le_fixed (feats : Features) (f : Fmt) (fmt : Format) (o : WOpts) :
    bufferSizeConstOld feats f fmt o ≤ bufferSizeConst feats f fmt o := by
  have h1 := (sizeExpFixed_facts feats fmt o).1
  have h2 := (sizeDigitsFixed_facts fmt.mantissaRadix o).2.2
  unfold bufferSizeConstOld bufferSizeConst
  dsimp only
  omega

theorem need_le_fixed (feats : Features) (f : Fmt) (fmt : Format) (o : WOpts) (ds : List Nat) (sci : Int) (S : Nat)
    (h10 : fmt.mantissaRadix = 10) (her : (effFmt feats fmt).exponentRadix = 10) (hno : NumOpts o)
    (hds1 : 1 ≤ ds.length) (hdsn : ds.length ≤ mantNeed f) (hrange : -324 ≤ sci ∧ sci ≤ 308) (hS : S ≤ 1) :
    S + needDec fmt feats f ds sci o ≤ bufferSizeConst feats f fmt o := by
  obtain ⟨hE5, hEbr, hEno⟩ := sizeExp_facts feats fmt o hno
  obtain ⟨hle, h12⟩ := sizeExpFixed_facts feats fmt o
  obtain ⟨hD28, hDmn, _⟩ := sizeDigitsFixed_facts 10 o
  obtain ⟨_, hc2, _, _⟩ := truncateAndRound_length ds o hds1 hno.mx
  have hnd := mantNeed_le f
  have hB : 2 + sizeExpFixed feats fmt o + sizeDigitsFixed 10 o ≤ bufferSizeConst feats f fmt o ∧
      64 ≤ bufferSizeConst feats f fmt o := by
    unfold bufferSizeConst
    simp only [h10, if_true, formattedSizeDecimal_float]
    omega
  refine need_le_general feats f fmt o ds sci S (sizeDigitsFixed 10 o) (sizeExpFixed feats fmt o) _ her hno.mx hds1 hdsn
    hrange hS hB.1 hB.2 (by omega) (fun h => ⟨by have := (hEbr h).1; omega, by have := (hEbr h).2; omega⟩)
    (fun h => by have := hEno h; omega) (by omega) hDmn ?_
  by_cases hc : feats.compact = true
  · rw [if_pos hc]; left; omega
  · rw [if_neg hc]
    refine ⟨Or.inl (by omega), ?_, Or.inl (by omega)⟩
    by_cases hne : (effFmt feats fmt).noExponentNotation = true
    · right; have := hEno hne; omega
    · right; exact h12 hne

end LexVerif.Proof.WriteFloatBound
