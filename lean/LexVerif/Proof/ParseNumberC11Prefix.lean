import LexVerif.Proof.ParseNumberC11Many
import LexVerif.Proof.ParseNumberC11Key
import LexVerif.Proof.ParseNumberTotalMain
/-!
# Proof.ParseNumberC11Prefix — the front end under a cut, and `partial_prefix` from what a class of formats supplies

The composition of the front end (`parse_sign!`, emptiness test), `parse_number` and the special-value parser is the
same for every class of formats (`afterSign_cut`, `partial_prefix_number_of`, `partial_prefix_special_of`): a class
supplies why the cut is admitted for the emptiness test, and `parse_number` on the cut buffer. Here the class `NumContig`
for number results and "no digit-separator byte" for special results (release build).
-/
namespace LexVerif.Proof.C11
open LexVerif LexVerif.Model LexVerif.Spec
open LexVerif.Props.C12 (Bytes.Valid)
open LexVerif.Proof.PNTotal (Rel)

section
variable {c : Cfg}

theorem tail_partial_special (o : POpts) (s : List Nat) (fv neg : Bool) (b : Bytes) (sp : Special) (ng : Bool)
    (cnt : Nat) (h : tail c o true s fv neg b = .ok (.special sp ng cnt)) :
    ng = neg ∧ parsePositiveSpecial c o b = .ok (some (sp, cnt)) := by
  unfold tail at h
  simp only [if_true] at h
  cases h1 : parseNumber c true o b neg fv with
  | ok r => rw [h1] at h; cases h
  | error e =>
    rw [h1] at h
    cases e with
    | err k i =>
      simp only at h
      cases h3 : parsePositiveSpecial c o b with
      | error e => rw [h3] at h; cases h
      | ok r =>
        cases r with
        | none => rw [h3] at h; cases h
        | some pr => rw [h3] at h; cases h; exact ⟨rfl, rfl⟩
    | panic t => cases h
    | fault t => cases h

theorem afterSign_cut (hc : Rel c) (s : List Nat) (neg : Bool) (b : Bytes)
    (h : afterSign c s = .ok (neg, false, b)) (n : Nat) (hcut : Cut c .integer n b) (hlt : b.index < n) :
    afterSign c (s.take n) = .ok (neg, false, trunc n b) := by
  unfold afterSign at h ⊢
  simp only [bind, Except.bind, pure, Except.pure] at h ⊢
  cases hs : parseMantissaSign c (Bytes.new s) with
  | error e => rw [hs] at h; cases h
  | ok pr =>
    obtain ⟨n0, b0⟩ := pr
    rw [hs] at h
    simp only at h
    cases hcs : isConsumed c .integer b0 with
    | error e => rw [hcs] at h; cases h
    | ok pr2 =>
      obtain ⟨cs, b1⟩ := pr2
      rw [hcs] at h
      simp only [Except.ok.injEq, Prod.mk.injEq] at h
      obtain ⟨rfl, rfl, rfl⟩ := h
      have hv0 : Bytes.Valid (Bytes.new s) := by simp [Bytes.Valid, Bytes.new]
      obtain ⟨_, _, a3, a4⟩ := parseSign_trunc hc _ _ _ _ (Bytes.new s) b0 n0 hv0 hs
      have hmono := (isConsumed_ok c .integer b0 b1 false a3 hcs).2.2.1
      have := a4 n (by omega)
      have e : trunc n (Bytes.new s) = Bytes.new (s.take n) := rfl
      rw [e] at this
      unfold parseMantissaSign at hs ⊢
      rw [this]
      simp only
      rw [isConsumed_cut hc .integer b0 b1 a3 hcs n hcut hlt]

theorem partial_not_zero (o : POpts) (s : List Nat) (fv : Bool) (n : Nat) (hm : c.requiredMantissaDigits = true) :
    parseFloatSyntax c o true s fv ≠ .ok (.zero n) := by
  intro h
  obtain ⟨neg, consumed, b, _, hor⟩ := parseFloatSyntax_ok c o true s fv _ h
  rcases hor with ⟨_, hz, _⟩ | ⟨_, ht⟩
  · simp [hm] at hz
  · unfold tail at ht
    simp only [if_true] at ht
    split at ht
    · cases ht
    · split at ht <;> cases ht
    · cases ht

theorem partial_prefix_number_of (o : POpts) (s : List Nat) (fv : Bool) (x : Number) (cnt : Nat)
    (h : parseFloatSyntax c o true s fv = .ok (.number x cnt))
    (H : ∀ neg b, afterSign c s = .ok (neg, false, b) → Bytes.Valid b → parseNumber c true o b neg fv = .ok (x, cnt) →
      b.index < cnt ∧ cnt ≤ b.slc.length ∧ parseNumber c true o (trunc cnt b) neg fv = .ok (x, cnt) ∧
      afterSign c (s.take cnt) = .ok (neg, false, trunc cnt b)) :
    parseFloatSyntax c o false (s.take cnt) fv = .ok (.number x cnt) := by
  obtain ⟨neg, consumed, b, ha, hor⟩ := parseFloatSyntax_ok c o true s fv _ h
  rcases hor with ⟨_, _, hq⟩ | ⟨rfl, h⟩
  · cases hq
  · obtain ⟨hslc, hv, _⟩ := afterSign_ok c s neg false b ha
    obtain ⟨p1, p2, p3, p4⟩ := H neg b ha hv (tail_partial_number o s fv neg b x cnt h)
    rw [parseFloatSyntax_eq, p4]
    simp only [Bool.false_eq_true, if_false]
    unfold tail
    simp only [Bool.false_eq_true, if_false]
    rw [parseCompleteNumber_eq, (parseNumber_ok_iff c o _ neg fv _).mp p3]
    have hlen : (trunc cnt b).slc.length = cnt := by
      simp only [trunc_slc, List.length_take]; omega
    have hlen2 : (s.take cnt).length = cnt := by
      rw [← hslc]; simp only [List.length_take]; omega
    simp only [hlen, if_true, hlen2, pure, Except.pure]

theorem partial_prefix_special_of (hc : Rel c) (o : POpts) (s : List Nat) (fv : Bool) (sp : Special) (ng : Bool)
    (cnt : Nat) (h : parseFloatSyntax c o true s fv = .ok (.special sp ng cnt))
    (H : ∀ b, afterSign c s = .ok (ng, false, b) → Bytes.Valid b → parsePositiveSpecial c o b = .ok (some (sp, cnt)) →
      b.index ≤ cnt ∧ afterSign c (s.take cnt) = .ok (ng, false, trunc cnt b) ∧
      ∀ r, parseNumber c false o (trunc cnt b) ng fv ≠ .ok r) :
    parseFloatSyntax c o false (s.take cnt) fv = .ok (.special sp ng cnt) := by
  obtain ⟨neg, consumed, b, ha, hor⟩ := parseFloatSyntax_ok c o true s fv _ h
  rcases hor with ⟨_, _, hq⟩ | ⟨rfl, h⟩
  · cases hq
  · obtain ⟨hslc, hv, _⟩ := afterSign_ok c s neg false b ha
    obtain ⟨rfl, hps⟩ := tail_partial_special o s fv neg b sp ng cnt h
    obtain ⟨hidx, hat, hnot⟩ := H b ha hv hps
    obtain ⟨hle, hpt⟩ := parsePositiveSpecial_truncS o b sp cnt hv hidx hps
    rw [parseFloatSyntax_eq, hat]
    simp only [Bool.false_eq_true, if_false]
    have hvt : Bytes.Valid (trunc cnt b) := by
      simp only [Bytes.Valid, trunc_slc, trunc_index, List.length_take]; omega
    have htot := PNTotal.parseNumber_tot hc false o (trunc cnt b) ng fv hvt
    have hlen : (trunc cnt b).slc.length = cnt := by
      simp only [trunc_slc, List.length_take]; omega
    have hlen2 : (s.take cnt).length = cnt := by
      rw [← hslc]; simp only [List.length_take]; omega
    unfold tail
    simp only [Bool.false_eq_true, if_false]
    rw [parseCompleteNumber_eq, parseSpecialComplete_eq, hpt]
    cases hpn : parseNumber c false o (trunc cnt b) ng fv with
    | ok r => exact absurd hpn (hnot r)
    | error e =>
      rw [hpn] at htot
      cases e with
      | err k i => simp only [hlen, if_true, hlen2, pure, Except.pure]
      | panic t => exact absurd htot (by simp [PNTotal.NumOK, PNTotal.ErrOK, Wp])
      | fault t => exact absurd htot (by simp [PNTotal.NumOK, PNTotal.ErrOK, Wp])

end

section
variable {c : Cfg} (hc : Rel c) (hb : NumContig c)
include hc hb

theorem partial_prefix_number_g (o : POpts) (s : List Nat) (fv : Bool) (x : Number) (cnt : Nat)
    (hr : 1 ≤ c.mantissaRadix) (hm : c.requiredMantissaDigits = true)
    (h : parseFloatSyntax c o true s fv = .ok (.number x cnt)) :
    parseFloatSyntax c o false (s.take cnt) fv = .ok (.number x cnt) := by
  refine partial_prefix_number_of o s fv x cnt h (fun neg b ha hv hpn => ?_)
  obtain ⟨p1, p2, p3⟩ := parseNumber_trunc hc hb true o b neg fv x cnt hr hm hv hpn
  exact ⟨p1, p2, p3 cnt (Nat.le_refl _), afterSign_cut hc s neg b ha cnt (Cut.of_num hb _ (by decide) (by omega)) p1⟩

end

section
variable {c : Cfg} (hc : Rel c) (hb : c.bytesContiguous = true)
include hc hb

theorem partial_prefix_special_g (o : POpts) (s : List Nat) (fv : Bool) (sp : Special) (ng : Bool) (cnt : Nat)
    (hr : 1 ≤ c.mantissaRadix) (hm : c.requiredMantissaDigits = true)
    (hrad : c.feats.powerOfTwo = false → c.mantissaRadix ≤ 10) (hh : SpecialHeadsOK c o)
    (h : parseFloatSyntax c o true s fv = .ok (.special sp ng cnt)) :
    parseFloatSyntax c o false (s.take cnt) fv = .ok (.special sp ng cnt) := by
  refine partial_prefix_special_of hc o s fv sp ng cnt h (fun b ha hv hps => ?_)
  obtain ⟨str, hstr, e, hn0⟩ := parsePositiveSpecial_some o b sp cnt hps
  obtain ⟨y, ys, rfl, _⟩ := hh str hstr
  have hcnt := (IterSpec.spEq_bounds c b (y :: ys) hv (by rw [← e]; exact hn0)).1
  rw [← e, List.length_cons] at hcnt
  obtain ⟨_, hpt⟩ := parsePositiveSpecial_truncS o b sp cnt hv (by omega) hps
  exact ⟨by omega, afterSign_cut hc s ng b ha cnt (Cut.of_num (NumContig.of_bytes hb) _ (by decide) (by omega)) (by omega),
    parseNumber_not_ok_of_special hb false o (trunc cnt b) ng fv sp cnt hh hrad hr hm hpt⟩

/-- **C11 (B), no digit-separator byte, release build** (with or without the `format` feature: base prefix/suffix and
all syntax flags allowed): every successful partial parse is reproduced by the complete parser on exactly the consumed
prefix, provided mantissa digits are required and no special string starts (in either case) with a mantissa digit or
the decimal point. (No `count > 0` hypothesis is needed.) -/
theorem partial_prefix_g (o : POpts) (s : List Nat) (fv : Bool) (p : Parsed)
    (hr : 1 ≤ c.mantissaRadix) (hm : c.requiredMantissaDigits = true)
    (hrad : c.feats.powerOfTwo = false → c.mantissaRadix ≤ 10) (hh : SpecialHeadsOK c o)
    (h : parseFloatSyntax c o true s fv = .ok p) :
    parseFloatSyntax c o false (s.take (pcount p)) fv = .ok p := by
  cases p with
  | number x cnt => exact partial_prefix_number_g hc (NumContig.of_bytes hb) o s fv x cnt hr hm h
  | special sp ng cnt => exact partial_prefix_special_g hc hb o s fv sp ng cnt hr hm hrad hh h
  | zero n => exact absurd h (partial_not_zero o s fv n hm)

end
end LexVerif.Proof.C11
