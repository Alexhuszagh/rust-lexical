import LexVerif.Proof.ParseIntArith
import LexVerif.Proof.CharDigit
import LexVerif.Proof.Numeral
import Mathlib.Tactic.IntervalCases
/-!
# Proof.ParseInt — the loops of `Model.ParseInt` against the specification scan

The digit decoder is `Spec.digitVal` on bytes. The checked loop holds the encoding of an exact magnitude and fails exactly
where the scan reports overflow; the unchecked loop runs only on digits that cannot overflow (`overflowDigits_safe`:
`r ^ overflow_digits ≤ MAX + 1` for the 10 (bits, signed) pairs × 35 radices). A multi-digit loop followed by the
one-digit loop is the one-digit loop, given what `SwarCorrect r` asks of the 4/8-digit kernels.
-/
namespace LexVerif.Proof.ParseInt
open LexVerif.Spec LexVerif.Model LexVerif.Model.ParseInt

theorem charToDigit_eq {c r : Nat} (hc : c < 256) (hr : r ≤ 36) : charToDigit c r = digitVal r c :=
  LexVerif.Proof.CharDigit.charToValidDigit_spec c r hc (by omega)

theorem digitVal_lt {r c d : Nat} (h : digitVal r c = some d) : d < r := by
  unfold digitVal at h
  split at h
  · split at h
    · cases h; assumption
    · cases h
  · cases h

theorem charToDigit_valid {b r : Nat} (hr : r ≤ 10) (hv : 48 ≤ b ∧ b < 48 + r) : charToDigit b r = some (b - 48) := by
  unfold charToDigit
  have : (b + 256 - 48) % 256 = b - 48 := by omega
  simp only [hr, if_true, this]
  rw [if_pos (by omega)]

theorem maxMag_false_le (t : IntTy) (neg : Bool) (hneg : neg = true → t.signed = true) :
    t.maxMag false ≤ t.maxMag neg := by
  cases neg with
  | false => exact Nat.le_refl _
  | true => unfold IntTy.maxMag; simp [hneg rfl]

/-- the ten (bits, signed) pairs behind the twelve integer types -/
def IsIntTy (t : IntTy) : Prop := t.bits = 8 ∨ t.bits = 16 ∨ t.bits = 32 ∨ t.bits = 64 ∨ t.bits = 128

theorem overflowDigits_table :
    ([8, 16, 32, 64, 128].all fun b => [false, true].all fun s => (List.range 37).all fun r =>
      decide (2 ≤ r → r ^ overflowDigits ⟨b, s⟩ r ≤ (IntTy.maxMag ⟨b, s⟩ false) + 1)) = true := by decide +kernel

theorem overflowDigits_safe (t : IntTy) (ht : IsIntTy t) {r : Nat} (h2 : 2 ≤ r) (hr : r ≤ 36) :
    r ^ overflowDigits t r ≤ t.maxMag false + 1 := by
  have h := overflowDigits_table
  obtain ⟨b, s⟩ := t
  simp only [List.all_eq_true] at h
  have hb : b ∈ [8, 16, 32, 64, 128] := by
    unfold IsIntTy at ht; simp only at ht
    simp only [List.mem_cons, List.mem_nil_iff, or_false]; exact ht
  have hs : s ∈ [false, true] := by cases s <;> simp
  exact of_decide_eq_true (h b hb s hs r (List.mem_range.2 (by omega))) h2

/-- how `algorithm!` ends after a digit loop: early return, or `into_ok!(value, buffer_length)` -/
def finish (t : IntTy) (len : Nat) : Flow (Nat × Nat) → MRes
  | .error e => e
  | .ok (v, _) => intoOk t v len

theorem intoOk_enc (t : IntTy) (hb : 1 ≤ t.bits) (neg : Bool) (hneg : neg = true → t.signed = true)
    {acc : Nat} (h : acc ≤ t.maxMag neg) (i : Nat) :
    intoOk t (enc t neg acc) i = .done (.ok (if neg then -(acc : Int) else acc) i) := by
  unfold intoOk; rw [toInt_enc t hb neg hneg h]; rfl

theorem parse1Checked_spec (t : IntTy) (hb : 8 ≤ t.bits) {r : Nat} (hr : r ≤ 36) (p neg : Bool)
    (hneg : neg = true → t.signed = true) :
    ∀ (cs : List Nat), (∀ b ∈ cs, b < 256) → ∀ (acc cur : Nat), acc ≤ t.maxMag neg →
      finish t (cur + cs.length) (parse1Checked t r p neg cs (enc t neg acc) cur)
        = .done (scanDigits r (t.maxMag neg) neg p cs acc cur) := by
  intro cs
  induction cs with
  | nil =>
    intro _ acc cur hacc
    simp only [parse1Checked, finish, scanDigits, List.length_nil, Nat.add_zero]
    exact intoOk_enc t (by omega) neg hneg hacc cur
  | cons c cs ih =>
    intro hbytes acc cur hacc
    have hc : c < 256 := hbytes c (by simp)
    have hcs : ∀ b ∈ cs, b < 256 := fun b hb' => hbytes b (by simp [hb'])
    simp only [parse1Checked, scanDigits]
    rw [charToDigit_eq hc hr]
    cases hd : digitVal r c with
    | none =>
      simp only [finish, invalidDigit, Nat.add_sub_cancel]
      cases p
      · simp
      · simp only [if_true]; exact intoOk_enc t (by omega) neg hneg hacc cur
    | some d =>
      simp only
      rw [mulAddChecked_enc t hb neg hneg hacc hr (digitVal_lt hd)]
      by_cases hov : acc * r + d ≤ t.maxMag neg
      · have hnot : ¬ (acc * r + d > t.maxMag neg) := by omega
        simp only [if_pos hov, if_neg hnot]
        have := ih hcs (acc * r + d) (cur + 1) hov
        rw [List.length_cons, show cur + (cs.length + 1) = cur + 1 + cs.length by omega]
        exact this
      · have hgt : acc * r + d > t.maxMag neg := by omega
        simp only [if_neg hov, if_pos hgt, finish, Nat.add_sub_cancel]

/-- the unchecked loop on digits that cannot overflow: `j` digits are already in `acc` (`acc < r^j`) and `cs` brings the
count to `j + cs.length` with `r^(j + cs.length) ≤ MAX + 1` (`overflow_digits`), so no step wraps and the scan never
reports overflow; `tail` is what the checked loop will see afterwards -/
theorem parse1Unchecked_spec (t : IntTy) (hb : 1 ≤ t.bits) {r : Nat} (h2 : 2 ≤ r) (hr : r ≤ 36) (p neg : Bool)
    (hneg : neg = true → t.signed = true) (tail : List Nat) :
    ∀ (cs : List Nat), (∀ b ∈ cs, b < 256) → ∀ (acc cur j : Nat), acc < r ^ j →
      r ^ (j + cs.length) ≤ t.maxMag false + 1 →
      (∀ e, parse1Unchecked t r p neg cs (enc t neg acc) cur = .error e →
          e = .done (scanDigits r (t.maxMag neg) neg p (cs ++ tail) acc cur)) ∧
      (∀ v c, parse1Unchecked t r p neg cs (enc t neg acc) cur = .ok (v, c) →
          ∃ acc', v = enc t neg acc' ∧ c = cur + cs.length ∧ acc' ≤ t.maxMag neg ∧
            scanDigits r (t.maxMag neg) neg p (cs ++ tail) acc cur
              = scanDigits r (t.maxMag neg) neg p tail acc' c) := by
  intro cs
  induction cs with
  | nil =>
    intro _ acc cur j hacc hpow
    have hle := maxMag_false_le t neg hneg
    simp only [List.length_nil, Nat.add_zero] at hpow
    simp only [parse1Unchecked, List.nil_append, List.length_nil, Nat.add_zero]
    refine ⟨fun e h => (by cases h), fun v c h => ?_⟩
    injection h with h; injection h with hv hc
    exact ⟨acc, hv.symm, hc.symm, by omega, by rw [← hc]⟩
  | cons c cs ih =>
    intro hbytes acc cur j hacc hpow
    have hle := maxMag_false_le t neg hneg
    have hc : c < 256 := hbytes c (by simp)
    have hcs : ∀ b ∈ cs, b < 256 := fun b hb' => hbytes b (by simp [hb'])
    simp only [parse1Unchecked, List.cons_append, scanDigits]
    rw [charToDigit_eq hc hr]
    have hj : r ^ j ≤ t.maxMag false + 1 :=
      Nat.le_trans (Nat.pow_le_pow_right (by omega) (by omega)) hpow
    cases hd : digitVal r c with
    | none =>
      simp only [invalidDigit, Nat.add_sub_cancel]
      refine ⟨fun e h => ?_, fun v c h => (by cases h)⟩
      injection h with h
      rw [← h]
      cases p
      · simp
      · simp only [if_true]; exact intoOk_enc t hb neg hneg (by omega) cur
    | some d =>
      simp only
      rw [mulAddWrapping_enc]
      have hdr : d < r := digitVal_lt hd
      have hlt : acc * r + d < r ^ (j + 1) := by
        have h1 : acc + 1 ≤ r ^ j := hacc
        calc acc * r + d < acc * r + r := by omega
          _ = (acc + 1) * r := by rw [Nat.add_mul]; simp
          _ ≤ r ^ j * r := Nat.mul_le_mul_right r h1
          _ = r ^ (j + 1) := by rw [Nat.pow_succ]
      have hpow' : r ^ (j + 1 + cs.length) ≤ t.maxMag false + 1 := by
        rw [List.length_cons] at hpow
        rwa [show j + 1 + cs.length = j + (cs.length + 1) by omega]
      have hj1 : r ^ (j + 1) ≤ t.maxMag false + 1 :=
        Nat.le_trans (Nat.pow_le_pow_right (by omega) (by omega)) hpow'
      have hnot : ¬ (acc * r + d > t.maxMag neg) := by omega
      simp only [if_neg hnot]
      have := ih hcs (acc * r + d) (cur + 1) (j + 1) hlt hpow'
      rw [List.length_cons, show cur + (cs.length + 1) = cur + 1 + cs.length by omega]
      exact this

/-- What the SWAR kernels have to satisfy for radix `r` (proved in `Proof.ParseIntSwar` for `2 ≤ r ≤ 10`). -/
structure SwarCorrect (r : Nat) : Prop where
  is8 : ∀ bs : List Nat, bs.length = 8 → (∀ b ∈ bs, b < 256) →
    (is8digits r (leWord bs) = true ↔ ∀ b ∈ bs, 48 ≤ b ∧ b < 48 + r)
  parse8 : ∀ bs : List Nat, bs.length = 8 → (∀ b ∈ bs, 48 ≤ b ∧ b < 48 + r) →
    parse8digits r (leWord bs) = ofDigits r (bs.map (· - 48))
  is4 : ∀ bs : List Nat, bs.length = 4 → (∀ b ∈ bs, b < 256) →
    (is4digits r (leWord bs) = true ↔ ∀ b ∈ bs, 48 ≤ b ∧ b < 48 + r)
  parse4 : ∀ bs : List Nat, bs.length = 4 → (∀ b ∈ bs, 48 ≤ b ∧ b < 48 + r) →
    parse4digits r (leWord bs) = ofDigits r (bs.map (· - 48))

theorem parse1Unchecked_digits (t : IntTy) {r : Nat} (h10 : r ≤ 10) (p sub : Bool) (tl : List Nat) :
    ∀ (bs : List Nat), (∀ b ∈ bs, 48 ≤ b ∧ b < 48 + r) → ∀ (v cur : Nat), v < 2 ^ t.bits →
      parse1Unchecked t r p sub (bs ++ tl) v cur =
        parse1Unchecked t r p sub tl
          (ofInt t (if sub then (v : Int) * (r ^ bs.length : Nat) - (ofDigits r (bs.map (· - 48)) : Nat)
                    else (v : Int) * (r ^ bs.length : Nat) + (ofDigits r (bs.map (· - 48)) : Nat)))
          (cur + bs.length) := by
  intro bs
  induction bs with
  | nil =>
    intro _ v cur hv
    have : ofInt t (v : Int) = v := (eq_ofInt t hv (Int.ModEq.refl _)).symm
    cases sub <;> simp [ofDigits, this]
  | cons b bs ih =>
    intro hval v cur hv
    have hb := hval b (by simp)
    have hbs : ∀ x ∈ bs, 48 ≤ x ∧ x < 48 + r := fun x hx => hval x (by simp [hx])
    simp only [List.cons_append, parse1Unchecked]
    rw [charToDigit_valid h10 hb]
    simp only
    rw [mulAddWrapping_eq]
    rw [ih hbs _ _ (ofInt_lt _ _)]
    congr 1
    · apply ofInt_congr
      simp only [List.map_cons, ofDigits_cons, List.length_cons, List.length_map]
      have h1 := ofInt_modEq t (if sub = true then (v : Int) * ((r % 2 ^ t.bits : Nat) : Int) - ((b - 48 : Nat) : Int)
          else (v : Int) * ((r % 2 ^ t.bits : Nat) : Int) + ((b - 48 : Nat) : Int))
      have h2 : ((r % 2 ^ t.bits : Nat) : Int) ≡ (r : Int) [ZMOD ((2 ^ t.bits : Nat) : Int)] := natMod_modEq _ _
      cases sub with
      | false =>
        simp only [Bool.false_eq_true, if_false] at h1 ⊢
        have h3 := (h1.trans (((Int.ModEq.refl (v : Int)).mul h2).add_right _)).mul_right ((r ^ bs.length : Nat) : Int)
        refine (h3.add_right _).trans ?_
        push_cast; rw [pow_succ]; ring_nf; exact Int.ModEq.refl _
      | true =>
        simp only [if_true] at h1 ⊢
        have h3 := (h1.trans (((Int.ModEq.refl (v : Int)).mul h2).sub_right _)).mul_right ((r ^ bs.length : Nat) : Int)
        refine (h3.sub_right _).trans ?_
        push_cast; rw [pow_succ]; ring_nf; exact Int.ModEq.refl _
    · simp only [List.length_cons]; omega

theorem radix8_eq {r : Nat} (h : r ≤ 10) : radix8 r = r ^ 8 := by
  interval_cases r <;> rfl
theorem radix4_eq {r : Nat} (h : r ≤ 10) : radix4 r = r ^ 4 := by
  interval_cases r <;> rfl

theorem chunk_step (t : IntTy) {r : Nat} (h10 : r ≤ 10) (p sub : Bool) (tl bs : List Nat)
    (hvalid : ∀ b ∈ bs, 48 ≤ b ∧ b < 48 + r) (hfit : 10 ^ bs.length < 2 ^ t.bits) {rp pv : Nat}
    (hrp : rp = r ^ bs.length) (hpv : pv = ofDigits r (bs.map (· - 48))) (v cur : Nat) (hv : v < 2 ^ t.bits) :
    parse1Unchecked t r p sub tl (mulAddWrapping t sub v (rp % 2 ^ t.bits) (pv % 2 ^ t.bits)) (cur + bs.length)
      = parse1Unchecked t r p sub (bs ++ tl) v cur := by
  have hpow : r ^ bs.length ≤ 10 ^ bs.length := Nat.pow_le_pow_left h10 _
  have hD : ofDigits r (bs.map (· - 48)) < r ^ bs.length := by
    rw [← List.length_map (· - 48)]
    refine ofDigits_lt r _ fun d hd => ?_
    obtain ⟨b, hb, rfl⟩ := List.mem_map.1 hd
    have := hvalid b hb
    omega
  rw [parse1Unchecked_digits t h10 p sub tl bs hvalid v cur hv, mulAddWrapping_eq, hrp, hpv,
    Nat.mod_eq_of_lt (by omega), Nat.mod_eq_of_lt (by omega)]

theorem mulAddWrapping_lt (t : IntTy) (sub : Bool) (v m x : Nat) : mulAddWrapping t sub v m x < 2 ^ t.bits := by
  rw [mulAddWrapping_eq]; exact ofInt_lt _ _

theorem loop8_spec (t : IntTy) (hb : 64 ≤ t.bits) {r : Nat} (h10 : r ≤ 10) (hsw : SwarCorrect r)
    (p sub : Bool) (rest : List Nat) (v cur : Nat) :
    (∀ b ∈ rest, b < 256) → v < 2 ^ t.bits →
    ∃ rest' v' cur', loop8 t r sub rest v cur = .ok (rest', v', cur') ∧
      parse1Unchecked t r p sub rest' v' cur' = parse1Unchecked t r p sub rest v cur := by
  fun_induction loop8 t r sub rest v cur with
  | case1 b0 b1 b2 b3 b4 b5 b6 b7 tl value cursor bytes h8 hlen =>
    simp only [List.length_cons] at hlen
    omega
  | case2 b0 b1 b2 b3 b4 b5 b6 b7 tl value cursor bytes h8 hlen ih =>
    intro hbytes hv
    have hvalid := (hsw.is8 [b0, b1, b2, b3, b4, b5, b6, b7] rfl
      fun b hb' => hbytes b (List.mem_append_left tl hb')).1 h8
    obtain ⟨rest', v', cur', hl, he⟩ :=
      ih (fun b hb' => hbytes b (List.mem_append_right [b0, b1, b2, b3, b4, b5, b6, b7] hb'))
        (mulAddWrapping_lt _ _ _ _ _)
    refine ⟨rest', v', cur', hl, he.trans ?_⟩
    exact chunk_step t h10 p sub tl [b0, b1, b2, b3, b4, b5, b6, b7] hvalid
      (Nat.lt_of_lt_of_le (by decide : 10 ^ 8 < 2 ^ 64) (Nat.pow_le_pow_right (by decide) hb))
      (radix8_eq h10) (hsw.parse8 _ rfl hvalid) value cursor hv
  | case3 b0 b1 b2 b3 b4 b5 b6 b7 tl value cursor bytes h8 => exact fun _ _ => ⟨_, _, _, rfl, rfl⟩
  | case4 rest value cursor hne => exact fun _ _ => ⟨_, _, _, rfl, rfl⟩

theorem loop4_spec (t : IntTy) (hb : t.bits = 32) {r : Nat} (h10 : r ≤ 10) (hsw : SwarCorrect r)
    (p sub : Bool) (rest : List Nat) (v cur : Nat) :
    (∀ b ∈ rest, b < 256) → v < 2 ^ t.bits →
    ∃ rest' v' cur', loop4 t r sub rest v cur = .ok (rest', v', cur') ∧
      parse1Unchecked t r p sub rest' v' cur' = parse1Unchecked t r p sub rest v cur := by
  fun_induction loop4 t r sub rest v cur with
  | case1 b0 b1 b2 b3 tl value cursor bytes h4 hlen =>
    simp only [List.length_cons] at hlen
    omega
  | case2 b0 b1 b2 b3 tl value cursor bytes h4 hlen ih =>
    intro hbytes hv
    have hvalid := (hsw.is4 [b0, b1, b2, b3] rfl fun b hb' => hbytes b (List.mem_append_left tl hb')).1 h4
    obtain ⟨rest', v', cur', hl, he⟩ :=
      ih (fun b hb' => hbytes b (List.mem_append_right [b0, b1, b2, b3] hb')) (mulAddWrapping_lt _ _ _ _ _)
    refine ⟨rest', v', cur', hl, he.trans ?_⟩
    exact chunk_step t h10 p sub tl [b0, b1, b2, b3] hvalid (hb ▸ (by decide : 10 ^ 4 < 2 ^ 32))
      (radix4_eq h10) (hsw.parse4 _ rfl hvalid) value cursor hv
  | case3 b0 b1 b2 b3 tl value cursor bytes h4 => exact fun _ _ => ⟨_, _, _, rfl, rfl⟩
  | case4 rest value cursor hne => exact fun _ _ => ⟨_, _, _, rfl, rfl⟩

/-- `parse_digits_unchecked!` = the one-digit wrapping loop (the multi-digit loops only batch its steps).
`hmulti` : multi-digit parsing is only entered for a radix whose SWAR kernels are correct
(`can_try_parse_multidigits` guarantees `radix ≤ 10` under `power-of-two`; otherwise the format's radix is 10). -/
theorem parseDigitsUnchecked_eq (t : IntTy) {r : Nat} (feats : Features) (p nm sub : Bool)
    (hmulti : (canMulti feats r && !nm) = true → r ≤ 10 ∧ SwarCorrect r)
    (rest : List Nat) (cur bufLen v : Nat) (hbytes : ∀ b ∈ rest, b < 256) (hv : v < 2 ^ t.bits) :
    parseDigitsUnchecked t r feats p nm sub rest cur bufLen v = parse1Unchecked t r p sub rest v cur := by
  unfold parseDigitsUnchecked
  simp only
  by_cases hm : (canMulti feats r && !nm) = true
  · obtain ⟨h10, hsw⟩ := hmulti hm
    rw [hm]
    simp only [Bool.true_and]
    by_cases h8 : (decide (t.bits ≥ 64) && decide (bufLen ≥ 8)) = true
    · rw [if_pos h8]
      simp only [Bool.and_eq_true, decide_eq_true_eq] at h8
      obtain ⟨rest', v', cur', hl, he⟩ := loop8_spec t h8.1 h10 hsw p sub rest v cur hbytes hv
      rw [hl]
      exact he
    · rw [if_neg h8]
      by_cases h4 : (decide (t.bits = 32) && decide (bufLen ≥ 4)) = true
      · rw [if_pos h4]
        simp only [Bool.and_eq_true, decide_eq_true_eq] at h4
        obtain ⟨rest', v', cur', hl, he⟩ := loop4_spec t h4.1 h10 hsw p sub rest v cur hbytes hv
        rw [hl]
        exact he
      · rw [if_neg h4]
  · have hm' : (canMulti feats r && !nm) = false := by simpa using hm
    rw [hm']
    simp

end LexVerif.Proof.ParseInt
