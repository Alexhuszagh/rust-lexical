import LexVerif.Proof.BinaryCorrect
/-!
# Proof.BinaryWide — `binary` (power-of-two radices) returns `roundNE`, for every exponent in `±2^59`

`calculate_power2` works in `i64` and clamps at `±(i32::MAX / 2)` (/repo commit 220c4cc); `ExpWide` (`±2^59`, five times that is below `2^62`) is a
range on which the `i64` arithmetic neither saturates nor wraps, and there the clamped `power2` falls in the same regime as the unclamped
`lg·e + bias − clz` and agrees with it between the cuts (`power2_facts`).

`BinaryOut`: the four answers of `binary` on a non-zero mantissa — zero cut, overflow cut, undecided (the marker `power2 + INVALID_FP`; the overflow test
precedes it, /repo commit 6cdda4d, `Props.C05.binary_marker_overflow`), rounded — as a relation between the normalised mantissa, `power2` and the answer;
`binary_out` is the one place where `binary` is unfolded. `binary_sticky_wide`: a valid answer is `roundNE` of `(M + r/c)·base^e`; `binary_total_wide`: the
untruncated case `c = 1`, `r = 0`, and validity whenever `many_digits` is off or `lossy` on. `binary_hi`, `binary_lo`, `roundNE_hi`, `roundNE_lo`: the saturated
answers beyond `±2^27` on their own.
-/
namespace LexVerif.Proof.BinaryWide
open LexVerif.Spec LexVerif.Model LexVerif.Model.Bellerophon LexVerif.Model.Binary
open LexVerif.Proof.RoundNE LexVerif.Proof.ExtRound LexVerif.Proof.BinaryCorrect

def ExpWide (e : Int) : Prop := -(2 ^ 59 : Int) ≤ e ∧ e ≤ (2 ^ 59 : Int)

theorem calculatePower2_wide {F p eb} (lay : Layout F p eb) {base lg : Nat} (hb : IsPow2Base base lg)
    (e : Int) (he1 : -(2 ^ 59 : Int) ≤ e) (he2 : e ≤ (2 ^ 59 : Int)) (c : Nat) (hc : c ≤ 64) :
    (1073741823 < (lg : Int) * e + F.C.exponentBias - c → calculatePower2 F base e c = 1073741823) ∧
    ((lg : Int) * e + F.C.exponentBias - c < -1073741823 → calculatePower2 F base e c = -1073741823) ∧
    (-1073741823 ≤ (lg : Int) * e + F.C.exponentBias - c → (lg : Int) * e + F.C.exponentBias - c ≤ 1073741823 →
      calculatePower2 F base e c = (lg : Int) * e + F.C.exponentBias - c) :=
  calculatePower2_clamped lay hb e he1 he2 c hc

theorem infinitePower_le {F p eb} (lay : Layout F p eb) : F.C.infinitePower ≤ 2047 := by
  have h1 := lay.infp
  have h2 : 2 ^ eb = 2 * 2 ^ (eb - 1) := two_pow_pred (by have := lay.heb; omega)
  have := lay.hb1024
  omega

theorem power2_hi {F p eb} (lay : Layout F p eb) {base lg : Nat} (hb : IsPow2Base base lg)
    (e : Int) (he1 : (2 ^ 27 : Int) < e) (he2 : e ≤ (2 ^ 59 : Int)) (c : Nat) (hc : c ≤ 64) :
    F.C.infinitePower ≤ calculatePower2 F base e c ∧ -calculatePower2 F base e c + 1 ≤ 64 ∧
    F.C.infinitePower ≤ (lg : Int) * e + F.C.exponentBias - c := by
  obtain ⟨w1, _, w3⟩ := calculatePower2_wide lay hb e (by omega) he2 c hc
  have hB := bias_bounds lay
  have hinf := infinitePower_le lay
  have hmul : (1 : Int) * e ≤ (lg : Int) * e :=
    Int.mul_le_mul_of_nonneg_right (by have := hb.2.1; omega) (by omega)
  generalize (lg : Int) * e = P at *
  by_cases h1 : 1073741823 < P + F.C.exponentBias - c
  · have := w1 h1; omega
  · have := w3 (by omega) (by omega); omega

theorem power2_lo {F p eb} (lay : Layout F p eb) {base lg : Nat} (hb : IsPow2Base base lg)
    (e : Int) (he1 : -(2 ^ 59 : Int) ≤ e) (he2 : e < -(2 ^ 27 : Int)) (c : Nat) (hc : c ≤ 64) :
    -calculatePower2 F base e c + 1 > 64 ∧ -((lg : Int) * e + F.C.exponentBias - c) + 1 > 64 := by
  obtain ⟨_, w2, w3⟩ := calculatePower2_wide lay hb e he1 (by omega) c hc
  have hB := bias_bounds lay
  have hmul : (lg : Int) * e ≤ (1 : Int) * e :=
    Int.mul_le_mul_of_nonpos_right (by have := hb.2.1; omega) (by omega)
  generalize (lg : Int) * e = P at *
  by_cases h1 : P + F.C.exponentBias - c < -1073741823
  · have := w2 h1; omega
  · have := w3 (by omega) (by omega); omega

theorem binary_hi {F p eb} (lay : Layout F p eb) {base : Nat}
    (hb : base = 2 ∨ base = 4 ∨ base = 8 ∨ base = 16 ∨ base = 32) (n : Num) (lossy : Bool)
    (h0 : n.mantissa ≠ 0) (hm : n.mantissa < 2 ^ 64) (he1 : (2 ^ 27 : Int) < n.exponent) (he2 : n.exponent ≤ (2 ^ 59 : Int)) :
    binary F base n lossy = .ok ⟨0, F.C.infinitePower⟩ := by
  obtain ⟨lg, hlg⟩ := isPow2Base_of base hb
  obtain ⟨hc, _, _, _⟩ := clz_norm h0 hm
  obtain ⟨a1, a2, _⟩ := power2_hi lay hlg n.exponent he1 he2 (clz64 n.mantissa) (by omega)
  rw [binary_eq, if_neg h0]
  simp only
  rw [if_neg (by omega), if_pos a1]

theorem binary_lo {F p eb} (lay : Layout F p eb) {base : Nat}
    (hb : base = 2 ∨ base = 4 ∨ base = 8 ∨ base = 16 ∨ base = 32) (n : Num) (lossy : Bool)
    (h0 : n.mantissa ≠ 0) (hm : n.mantissa < 2 ^ 64) (he1 : -(2 ^ 59 : Int) ≤ n.exponent) (he2 : n.exponent < -(2 ^ 27 : Int)) :
    binary F base n lossy = .ok ⟨0, 0⟩ := by
  obtain ⟨lg, hlg⟩ := isPow2Base_of base hb
  obtain ⟨hc, _, _, _⟩ := clz_norm h0 hm
  obtain ⟨a1, _⟩ := power2_lo lay hlg n.exponent he1 he2 (clz64 n.mantissa) (by omega)
  rw [binary_eq, if_neg h0]
  simp only
  rw [if_pos a1]

theorem roundNE_hi {F p eb} (lay : Layout F p eb) {base lg : Nat} (hb : IsPow2Base base lg) (E : Nat)
    (hE1 : 2 ^ 27 < E) (hE2 : E ≤ 2 ^ 59) (num den : Nat) (hd : 0 < den) (h : base ^ E * den ≤ num) :
    roundNE F.fmt num den = F.fmt.infBits := by
  have hf := lay.wf
  have he1 : (2 ^ 27 : Int) < (E : Int) := by exact_mod_cast hE1
  have he2 : (E : Int) ≤ (2 ^ 59 : Int) := by exact_mod_cast hE2
  obtain ⟨_, _, hinf⟩ := power2_hi lay hb (E : Int) he1 he2 63 (by omega)
  have hbase : base = 2 ^ lg := hb.1
  have h1 := roundNE_norm_inf lay lg 1 63 (E : Int) (by omega) (by
      have : (2 : Nat) ^ 63 < 2 ^ 64 := by decide
      omega) (by omega)
    ((lg : Int) * E + F.C.exponentBias - (63 : Nat)) rfl hinf
  rw [powFrac_natCast] at h1
  simp only at h1
  exact roundNE_inf_of_le hf Nat.one_pos hd (by rw [← hbase, Nat.one_mul, Nat.mul_one]; exact h) h1

theorem roundNE_lo {F p eb} (lay : Layout F p eb) {base lg : Nat} (hb : IsPow2Base base lg) (E : Nat)
    (hE1 : 2 ^ 27 < E) (num den : Nat) (hd : 0 < den) (h : num * base ^ E < 2 ^ 64 * den) :
    roundNE F.fmt num den = 0 := by
  have hf := lay.wf
  obtain ⟨hbase, hl1, _, _⟩ := hb
  apply roundNE_tiny hf (Nat.ne_of_gt hd)
  have hL := L_eq lay
  have hLle : L F.fmt + 65 ≤ E := by
    have := lay.hL1074
    omega
  have hpow : 2 ^ (L F.fmt + 65) ≤ base ^ E := by
    rw [hbase, ← Nat.pow_mul]
    apply Nat.pow_le_pow_right (by decide)
    calc L F.fmt + 65 ≤ E := hLle
      _ = 1 * E := (Nat.one_mul _).symm
      _ ≤ lg * E := Nat.mul_le_mul_right _ hl1
  have h2 : num * 2 ^ (L F.fmt + 65) < 2 ^ 64 * den :=
    Nat.lt_of_le_of_lt (Nat.mul_le_mul_left _ hpow) h
  have e1 : num * 2 ^ (L F.fmt + 65) = 2 ^ 64 * (2 * (num * 2 ^ L F.fmt)) := by
    have h65 : (2 : Nat) ^ 65 = 2 ^ 64 * 2 := by decide
    rw [Nat.pow_add, h65]; ac_rfl
  rw [e1] at h2
  exact Nat.lt_of_mul_lt_mul_left h2

theorem power2_facts {F p eb} (lay : Layout F p eb) {base lg : Nat} (hb : IsPow2Base base lg) {e : Int} (he : ExpWide e)
    (c : Nat) (hc : c ≤ 64) :
    (-calculatePower2 F base e c + 1 > 64 → -((lg : Int) * e + F.C.exponentBias - c) + 1 > 64) ∧
    (calculatePower2 F base e c ≥ F.C.infinitePower → (lg : Int) * e + F.C.exponentBias - c ≥ F.C.infinitePower) ∧
    (-calculatePower2 F base e c + 1 ≤ 64 → calculatePower2 F base e c < F.C.infinitePower →
      calculatePower2 F base e c = (lg : Int) * e + F.C.exponentBias - c) := by
  obtain ⟨w1, w2, w3⟩ := calculatePower2_clamped lay hb e he.1 he.2 c hc
  have hinf := infinitePower_le lay
  have hinf0 : 0 ≤ F.C.infinitePower := by rw [lay.infp]; omega
  generalize (lg : Int) * e + F.C.exponentBias - c = P at *
  by_cases h1 : 1073741823 < P
  · have := w1 h1; omega
  · by_cases h2 : P < -1073741823
    · have := w2 h2; omega
    · have := w3 (by omega) (by omega); omega

theorem marker_neg {F p eb} (lay : Layout F p eb) {pw : Int} (h : pw < F.C.infinitePower) : pw + invalidFp < 0 := by
  have h15 : 2 ^ eb ≤ 2 ^ 15 := Nat.pow_le_pow_right (by decide) lay.heb15
  have : invalidFp = -32768 := rfl
  rw [lay.infp] at h
  omega

inductive BinaryOut (F : FTy) (p mant : Nat) (pw : Int) (lossy many : Bool) : ExtendedFloat80 → Prop
  | zero : -pw + 1 > 64 → BinaryOut F p mant pw lossy many ⟨0, 0⟩
  | inf : -pw + 1 ≤ 64 → pw ≥ F.C.infinitePower → BinaryOut F p mant pw lossy many ⟨0, F.C.infinitePower⟩
  | undecided : -pw + 1 ≤ 64 → pw < F.C.infinitePower → lossy = false → many = true →
      HalfwayEven mant (shiftOf p pw) → BinaryOut F p mant pw lossy many ⟨mant, pw + invalidFp⟩
  | rounded {fp : ExtendedFloat80} : -pw + 1 ≤ 64 → pw < F.C.infinitePower →
      ¬ (lossy = false ∧ HalfwayEven mant (shiftOf p pw) ∧ many = true) → 0 ≤ fp.exp →
      extendedToFloat F fp = encode F.fmt (pw + 64 - p - 1).toNat (rhe mant (2 ^ shiftOf p pw)) →
      BinaryOut F p mant pw lossy many fp

theorem binary_out {F p eb} (lay : Layout F p eb) (base : Nat) (n : Num) (lossy : Bool) (h0 : n.mantissa ≠ 0)
    (hm : n.mantissa < 2 ^ 64) :
    ∃ fp, binary F base n lossy = .ok fp ∧
      BinaryOut F p (n.mantissa * 2 ^ clz64 n.mantissa) (calculatePower2 F base n.exponent (clz64 n.mantissa))
        lossy n.manyDigits fp := by
  obtain ⟨_, hm1, hm2, hshl⟩ := clz_norm h0 hm
  rw [binary_eq, if_neg h0]
  simp only [hshl]
  generalize calculatePower2 F base n.exponent (clz64 n.mantissa) = pw
  generalize n.mantissa * 2 ^ clz64 n.mantissa = mant at hm1 hm2 ⊢
  by_cases hz : -pw + 1 > 64
  · rw [if_pos hz]; exact ⟨_, rfl, .zero hz⟩
  rw [if_neg hz]
  have hp2 : -pw + 1 ≤ 64 := by omega
  by_cases hinf : pw ≥ F.C.infinitePower
  · rw [if_pos hinf]; exact ⟨_, rfl, .inf hp2 hinf⟩
  rw [if_neg hinf, calculateShift_eq lay pw]
  obtain ⟨_, _, hs0, hs64, _⟩ := quot_bounds lay.hp lay.hp62 hm1 hm2 pw hp2
  by_cases hu : binUndecided mant (shiftOf p pw) lossy n.manyDigits = true
  · rw [if_pos hu]
    obtain ⟨a, b, c⟩ := (binUndecided_iff hs0 hs64 hm2 _ _).mp hu
    exact ⟨_, rfl, .undecided hp2 (by omega) a c b⟩
  · rw [if_neg hu]
    obtain ⟨hexp, hbits⟩ := round_bits lay mant pw (fun _ _ _ => binRoundUp mant (shiftOf p pw)) hm1 hm2 hp2
    refine ⟨_, rfl, .rounded hp2 (by omega) (fun h => hu ((binUndecided_iff hs0 hs64 hm2 _ _).mpr h)) hexp ?_⟩
    have hup := binary_up mant (shiftOf p pw) hs0 hs64 hm2
    simp only [] at hup
    rw [hbits]
    unfold binRoundUp
    rw [hup]

/-- a *valid* answer of `binary` is `roundNE x` for every `x = (M + r/c)·base^e`, `0 ≤ r < c`, provided the cut digits
are worth less than the bits shifted out (`hcs`; always so when `M` holds `u64_step` digits) and, without `many_digits`
or when `lossy`, nothing was cut (`c = 1`, `r = 0`: the untruncated mantissa) -/
theorem binary_sticky_wide {F p eb} (lay : Layout F p eb) {base : Nat}
    (hb : base = 2 ∨ base = 4 ∨ base = 8 ∨ base = 16 ∨ base = 32) (n : Num) (lossy : Bool)
    (hm : n.mantissa < 2 ^ 64) (he : ExpWide n.exponent)
    (c r : Nat) (hr : r < c) (hmany : n.manyDigits = false ∨ lossy = true → r = 0)
    (hM0 : n.mantissa ≠ 0)
    (hcs : r ≠ 0 → clz64 n.mantissa < shiftOf p (calculatePower2 F base n.exponent (clz64 n.mantissa)))
    {fp : ExtendedFloat80} (h : binary F base n lossy = .ok fp) (hv : 0 ≤ fp.exp) :
    extendedToFloat F fp =
      roundNE F.fmt (powFrac base n.exponent (n.mantissa * c + r)).1
        ((powFrac base n.exponent (n.mantissa * c + r)).2 * c) := by
  obtain ⟨lg, hlg⟩ := isPow2Base_of base hb
  obtain ⟨hc, hm1, hm2, _⟩ := clz_norm hM0 hm
  obtain ⟨f1, f2, f3⟩ := power2_facts lay hlg he (clz64 n.mantissa) (by omega)
  obtain ⟨fp', e, out⟩ := binary_out lay base n lossy hM0 hm
  rw [e] at h; injection h with h; subst h
  rw [hlg.1]
  cases out with
  | zero hz =>
    rw [ext_zero lay, roundNE_norm_zero_trunc lay lg n.mantissa _ c r n.exponent hm2 hc hr _ rfl (f1 hz)]
  | inf hp2 hinf =>
    rw [ext_infinite lay]
    exact (roundNE_sticky_inf lay.wf (2 ^ lg) n.mantissa c r n.exponent (Nat.two_pow_pos _) (by omega)
      (roundNE_norm_inf lay lg n.mantissa _ n.exponent hm1 hm2 hc _ rfl (f2 hinf))).symm
  | undecided _ hinf => exact absurd hv (by have := marker_neg lay hinf; simp only []; omega)
  | rounded hp2 hinf hu _ hbits =>
    rw [hbits, roundNE_norm_trunc lay lg n.mantissa _ c r n.exponent hm1 hm2 hc hr _ (f3 hp2 hinf) hp2 hcs, if_neg,
      Nat.add_zero]
    -- half-way above an even significand with a non-zero tail would have been undecided
    intro ⟨hh, hev, hr0⟩
    refine hu ⟨?_, ⟨hh, hev⟩, ?_⟩
    · cases hl : lossy
      · rfl
      · exact absurd (hmany (Or.inr hl)) hr0
    · cases hmd : n.manyDigits
      · exact absurd (hmany (Or.inl hmd)) hr0
      · rfl

/-- `binary` never panics; a valid answer is `roundNE (mantissa · base^exponent)` (`binary_sticky_wide` at `c = 1`, `r = 0`); without
`many_digits` (or with `lossy`) the answer is valid: the only invalid answer is the marker of the undecided case -/
theorem binary_total_wide {F p eb} (lay : Layout F p eb) {base : Nat}
    (hb : base = 2 ∨ base = 4 ∨ base = 8 ∨ base = 16 ∨ base = 32) (n : Num) (lossy : Bool)
    (hm : n.mantissa < 2 ^ 64) (he : ExpWide n.exponent) :
    ∃ fp, binary F base n lossy = .ok fp ∧
      (0 ≤ fp.exp → extendedToFloat F fp =
        roundNE F.fmt (powFrac base n.exponent n.mantissa).1 (powFrac base n.exponent n.mantissa).2) ∧
      (n.manyDigits = false ∨ lossy = true → 0 ≤ fp.exp) := by
  by_cases h0 : n.mantissa = 0
  · rw [binary_eq, if_pos h0, h0, powFrac_zero]
    exact ⟨_, rfl, fun _ => ext_zero lay, fun _ => Int.le_refl _⟩
  obtain ⟨fp, e, out⟩ := binary_out lay base n lossy h0 hm
  refine ⟨fp, e, fun hv => ?_, fun hdec => ?_⟩
  · have := binary_sticky_wide lay hb n lossy hm he 1 0 Nat.one_pos (fun _ => rfl) h0 (fun h => absurd rfl h) e hv
    rwa [Nat.mul_one, Nat.add_zero, Nat.mul_one] at this
  · cases out with
    | zero => exact Int.le_refl _
    | inf => show 0 ≤ F.C.infinitePower; rw [lay.infp]; omega
    | undecided _ _ hl hmd => rcases hdec with h | h <;> simp_all
    | rounded _ _ _ hexp => exact hexp

theorem expWide_of {e : Int} (he1 : -(2 ^ 27 : Int) ≤ e) (he2 : e ≤ (2 ^ 27 : Int)) : ExpWide e := by
  unfold ExpWide; omega

end LexVerif.Proof.BinaryWide

namespace LexVerif.Proof.BinaryCorrect
open LexVerif.Spec LexVerif.Model LexVerif.Model.Bellerophon LexVerif.Model.Binary
open LexVerif.Proof.RoundNE LexVerif.Proof.ExtRound

theorem binary_exact {F p eb} (lay : Layout F p eb) {base : Nat}
    (hb : base = 2 ∨ base = 4 ∨ base = 8 ∨ base = 16 ∨ base = 32) (n : Num) (lossy : Bool)
    (hm : n.mantissa < 2 ^ 64) (he1 : -(2 ^ 27 : Int) ≤ n.exponent) (he2 : n.exponent ≤ (2 ^ 27 : Int))
    {fp : ExtendedFloat80}
    (h : binary F base n lossy = .ok fp) (hv : 0 ≤ fp.exp) :
    extendedToFloat F fp =
      roundNE F.fmt (powFrac base n.exponent n.mantissa).1 (powFrac base n.exponent n.mantissa).2 := by
  obtain ⟨fp', e, hx, _⟩ := LexVerif.Proof.BinaryWide.binary_total_wide lay hb n lossy hm (LexVerif.Proof.BinaryWide.expWide_of he1 he2)
  rw [e] at h
  injection h with h
  subst h
  exact hx hv

theorem binary_valid {F p eb} (lay : Layout F p eb) {base : Nat}
    (hb : base = 2 ∨ base = 4 ∨ base = 8 ∨ base = 16 ∨ base = 32) (n : Num) (lossy : Bool)
    (hm : n.mantissa < 2 ^ 64) (he1 : -(2 ^ 27 : Int) ≤ n.exponent) (he2 : n.exponent ≤ (2 ^ 27 : Int))
    (hdec : n.manyDigits = false ∨ lossy = true) :
    ∃ fp, binary F base n lossy = .ok fp ∧ 0 ≤ fp.exp := by
  obtain ⟨fp, e, _, hd⟩ := LexVerif.Proof.BinaryWide.binary_total_wide lay hb n lossy hm (LexVerif.Proof.BinaryWide.expWide_of he1 he2)
  exact ⟨fp, e, hd hdec⟩

theorem binary_truncated {F p eb} (lay : Layout F p eb) {base : Nat}
    (hb : base = 2 ∨ base = 4 ∨ base = 8 ∨ base = 16 ∨ base = 32) (n : Num)
    (hm : n.mantissa < 2 ^ 64) (he1 : -(2 ^ 27 : Int) ≤ n.exponent) (he2 : n.exponent ≤ (2 ^ 27 : Int))
    (c r : Nat) (hr : r < c) (hmany : n.manyDigits = false → r = 0)
    (hM0 : n.mantissa ≠ 0)
    (hcs : clz64 n.mantissa < shiftOf p (calculatePower2 F base n.exponent (clz64 n.mantissa)))
    {fp : ExtendedFloat80} (h : binary F base n false = .ok fp) (hv : 0 ≤ fp.exp) :
    extendedToFloat F fp =
      roundNE F.fmt (powFrac base n.exponent (n.mantissa * c + r)).1
        ((powFrac base n.exponent (n.mantissa * c + r)).2 * c) :=
  LexVerif.Proof.BinaryWide.binary_sticky_wide lay hb n false hm (LexVerif.Proof.BinaryWide.expWide_of he1 he2) c r hr (fun h => h.elim hmany (fun h => absurd h (by decide))) hM0
    (fun _ => hcs) h hv

end LexVerif.Proof.BinaryCorrect

