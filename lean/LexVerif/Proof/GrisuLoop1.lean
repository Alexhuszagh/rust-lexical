import LexVerif.Proof.GrisuDigitStep
/-!
# Proof.GrisuLoop1 — the first loop of `generate_digits` (`kappa = 10 … 1`)
-/
namespace LexVerif.Proof.GrisuDigits
open LexVerif.Model.Grisu LexVerif.Model.Dragonbox
open LexVerif.Proof.DragonboxBits

theorem genLoop1_zero (delta wmant part2 sh fuel part1 div : Nat) (ds : List Nat) (k : Int) :
    genLoop1 delta wmant part2 sh (fuel + 1) part1 div 0 ds k = .inr (ds, 0) := by
  rw [genLoop1]; simp

theorem genLoop1_succ (delta wmant part2 sh fuel part1 div c : Nat) (ds : List Nat) (k : Int) :
    genLoop1 delta wmant part2 sh (fuel + 1) part1 div (c + 1) ds k =
      if u64 (shl64 (sub64 part1 (u64 (part1 / div * div))) sh + part2) ≤ delta then
        .inl (decLast (pushDigit ds (part1 / div))
          (roundDigit delta (shl64 div sh) wmant 20
            (u64 (shl64 (sub64 part1 (u64 (part1 / div * div))) sh + part2)) 0).2, i32 (k + c))
      else genLoop1 delta wmant part2 sh fuel (sub64 part1 (u64 (part1 / div * div))) (div / 10) c
        (pushDigit ds (part1 / div)) k := by
  rw [genLoop1]
  simp only [pushDigit, Nat.add_sub_cancel]
  simp

theorem genLoop1_spec (Um Lm delta wmant part2 sh one : Nat) (k : Int)
    (hsh : sh ≤ 60) (hone : one = 2 ^ sh) (hUm : Um < 2 ^ 64) (hLm : 1 ≤ Lm) (hdelta : delta + Lm = Um) (hp2 : part2 < one)
    (hk : -100000 ≤ k ∧ k ≤ 100000) :
    ∀ (fuel c part1 div N : Nat) (ds : List Nat), c < fuel → c ≤ 10 → (1 ≤ c → div = 10 ^ (c - 1)) →
      DigitsOK ds N → part1 < 10 ^ c → N * 10 ^ c * one + part1 * one + part2 = Um →
      delta < part1 * one + part2 →
      (∃ (ds' : List Nat) (c' V N' : Nat), c' < c ∧
          genLoop1 delta wmant part2 sh fuel part1 div c ds k = .inl (ds', k + (c' : Int)) ∧
          Final ds' V N' ∧ Lm ≤ V * 10 ^ c' * one ∧ V * 10 ^ c' * one ≤ Um ∧
          ∀ n, 10 * Um ≤ 10 ^ n * delta → N' < 10 ^ n)
      ∨ (∃ (ds' : List Nat) (N' : Nat),
          genLoop1 delta wmant part2 sh fuel part1 div c ds k = .inr (ds', 0) ∧
          DigitsOK ds' N' ∧ N' * one + part2 = Um ∧ delta < part2) := by
  have hone1 : 1 ≤ one := by rw [hone]; exact Nat.pow_pos (by omega)
  intro fuel
  induction fuel with
  | zero => intro c _ _ _ _ hc; omega
  | succ fuel ih =>
    intro c part1 div N ds hcf hc10 hdiv hok hp1 hsum hprev
    cases c with
    | zero =>
      right
      refine ⟨ds, N, genLoop1_zero .., hok, ?_, ?_⟩
      · have : part1 = 0 := by simpa using hp1
        subst this; simpa using hsum
      · have : part1 = 0 := by simpa using hp1
        subst this; simpa using hprev
    | succ c =>
      have hD : div = 10 ^ c := by simpa using hdiv (by omega)
      subst hD
      rw [genLoop1_succ]
      generalize hDg : 10 ^ c = D at *
      have hDpos : 1 ≤ D := by rw [← hDg]; exact Nat.pow_pos (by omega)
      have hpow : 10 ^ (c + 1) = D * 10 := by rw [Nat.pow_succ, hDg]
      rw [hpow] at hp1 hsum
      have hd : part1 / D < 10 := Nat.div_lt_of_lt_mul hp1
      have hdm := Nat.div_add_mod part1 D
      have hr : part1 % D < D := Nat.mod_lt _ hDpos
      generalize part1 / D = d at *
      generalize part1 % D = r at *
      have hp1le : part1 ≤ part1 * one := Nat.le_mul_of_pos_right _ hone1
      have hrle : r ≤ r * one := Nat.le_mul_of_pos_right _ hone1
      have hrp : r * one ≤ part1 * one := Nat.mul_le_mul_right _ (by omega)
      have hsub : sub64 part1 (u64 (d * D)) = r := by
        have e4 : d * D = D * d := Nat.mul_comm _ _
        rw [DragonboxArith.u64_id (by omega), sub64_eq (by omega) (by omega)]; omega
      have hshl : shl64 r (sh : Int) = r * one := by
        rw [shl64_nat (by omega), ← hone]; omega
      -- in units `X = D·one` of this digit: the rest `R = part1·one + part2` of `Um` gives the digit `d` and the rest `r·one + part2`
      have hR10 : part1 * one + part2 < 10 * (D * one) := by
        have : (part1 + 1) * one ≤ D * 10 * one := Nat.mul_le_mul_right _ (by omega)
        rw [Nat.add_mul, Nat.one_mul, show D * 10 * one = 10 * (D * one) by ring] at this
        omega
      obtain ⟨hd, hstopF, hokN, hsN⟩ := gen_step (d := d) (r := r * one + part2) (X := D * one) (R := part1 * one + part2) (Δ := delta) (L := Lm) (U := Um)
        hok (Nat.mul_pos hDpos hone1) (by rw [← hdm]; ring) hR10 (by rw [← hsum]; ring) hdelta hLm (by omega)
      have htmp : u64 (r * one + part2) = r * one + part2 := DragonboxArith.u64_id (by omega)
      rw [hsub, hshl, htmp]
      generalize hX : D * one = X at *
      split
      · rename_i hstop
        left
        -- the digit is not `0` (the rest was outside the interval before it), so one unit `X` is at most `Um`
        have hdX : d * X + (r * one + part2) = part1 * one + part2 := by rw [← hX, ← hdm]; ring
        have hd1 : 1 ≤ d := by
          rcases Nat.eq_zero_or_pos d with h | h
          · subst h; omega
          · exact h
        have hXle : X ≤ d * X := Nat.le_mul_of_pos_left _ hd1
        have hshlD : shl64 D (sh : Int) = X := by
          rw [shl64_nat (by omega), ← hone, hX]; omega
        rw [hshlD]
        obtain ⟨e, he1, he2⟩ := roundDigit_spec delta X wmant (by omega) 20 (r * one + part2) 0 hstop
        rw [he1, Nat.zero_add]
        obtain ⟨hfin, hlo, hhi, hcnt⟩ := hstopF e he2
        refine ⟨_, c, 10 * N + d - e, 10 * N + d, by omega, by rw [DragonboxArith.i32_id (by omega) (by omega)], hfin, ?_, ?_, fun n hn => hcnt _ hn⟩
        · rw [Nat.mul_assoc, hDg, hX]; exact hlo
        · rw [Nat.mul_assoc, hDg, hX]; exact hhi
      · rename_i hcont
        have hnext := ih c r (D / 10) (10 * N + d) (pushDigit ds d) (by omega) (by omega)
          (by
            intro h1c
            rw [← hDg]
            obtain ⟨c2, rfl⟩ : ∃ c2, c = c2 + 1 := ⟨c - 1, by omega⟩
            rw [Nat.pow_succ]; simp)
          hokN (by rw [hDg]; exact hr)
          (by rw [Nat.mul_assoc, hDg, hX]; omega) (by omega)
        rcases hnext with ⟨ds', c', V, N', hc', hres, hrest⟩ | hnext
        · left
          exact ⟨ds', c', V, N', by omega, hres, hrest⟩
        · right
          exact hnext

end LexVerif.Proof.GrisuDigits
