import LexVerif.Proof.GrammarIter
import LexVerif.Proof.SepFreePhases
import LexVerif.Proof.ExceptPost
import LexVerif.Proof.GrammarStd
import LexVerif.Proof.CharDigitParser
/-!
# Proof.GrammarPhases — the phases of `parse_number` against the components of `Spec.Grammar`

Release build, no base prefix, an input that does not contain the format's separator byte (`StdIn`; every input of a
format without digit separator: `Std`). There `parse_number` is its closed form `Sep.numClosed`
(`Proof/SepFreeNumber.lean`), built from `intClosed`, `fracClosed`, `signClosed`, `expClosed`, `sufClosed`; the lemmas here
read each closed form in the grammar's terms: the digit runs are `Spec.takeDigits` of the unread input `tl b`, the tests
are the flag constraints of `numberOk`. Of the class they need only what makes the model's digit test the grammar's
(`digitsPrefix_eq_takeDigits`): bytes below 256, radix at most 255.

Shape of a component lemma: `Wp Q (Rej ok) (…Closed … b)`, keyed to the splitter `X = split… (tl b)` of the component —
a result satisfies the component's constraint `ok` and leaves the cursor where `X`'s rest begins (`At b b' rest`); an
`Error::Kind` comes out only where `ok` fails. `parse_number` is then one `Wp.bind` per component
(`Proof/GrammarNumber.lean`).
-/
namespace LexVerif.Proof.Grammar
open LexVerif LexVerif.Spec LexVerif.Model

structure Std (c : Cfg) : Prop where
  nosep : NoSep c
  release : c.debug = false
  noprefix : c.basePrefix = 0
  /-- the 8-digit fast loop is only compiled in for decimal-digit radices (at most 10; `is_valid()` gives radix 10 without `power-of-two`) -/
  radix8 : c.feats.powerOfTwo = false → c.mantissaRadix ≤ 10
  radix : c.mantissaRadix ≤ 255
  expRadix : c.exponentRadix ≤ 255

structure StdIn (c : Cfg) (s : List Nat) : Prop where
  nosep : Sep.NoSep c s
  bytes : ∀ x ∈ s, x < 256
  rel : Sep.RelClass c
  noprefix : c.basePrefix = 0
  radix : c.mantissaRadix ≤ 255
  expRadix : c.exponentRadix ≤ 255

theorem Std.stdIn {c : Cfg} (hs : Std c) {s : List Nat} (hb : ∀ x ∈ s, x < 256) : StdIn c s :=
  ⟨Sep.noSep_of_sep_zero c hs.nosep.sep0 s, hb, ⟨hs.release, fun k => by rw [hs.nosep.skip]; exact Skip.noConfusion,
    hs.radix8⟩, hs.noprefix, hs.radix, hs.expRadix⟩

def cfgSyn (c : Cfg) : Syn := Syn.of c.feats c.fmt

/-- each flag is the model's getter (`no_integer_leading_zeros` has none) -/
theorem cfgSyn_eq (c : Cfg) : cfgSyn c =
    { radix := c.mantissaRadix, expRadix := c.exponentRadix, reqInt := c.requiredIntegerDigits,
      reqFrac := c.requiredFractionDigits, reqExp := c.requiredExponentDigits, reqMant := c.requiredMantissaDigits,
      noPosMant := c.noPositiveMantissaSign, reqMantSign := c.requiredMantissaSign, noExpNot := c.noExponentNotation,
      noPosExp := c.noPositiveExponentSign, reqExpSign := c.requiredExponentSign,
      noExpWoFrac := c.noExponentWithoutFraction, noSpecial := c.noSpecial, csSpecial := c.caseSensitiveSpecial,
      noIntLZ := c.flag Format.noIntegerLeadingZeros false, noFloatLZ := c.noFloatLeadingZeros,
      reqExpNot := c.requiredExponentNotation, csExp := c.caseSensitiveExponent,
      csPrefix := c.caseSensitiveBasePrefix, csSuffix := c.caseSensitiveBaseSuffix, pre := c.basePrefix,
      suf := c.baseSuffix } := by
  unfold cfgSyn Syn.of Cfg.mantissaRadix Cfg.exponentRadix Cfg.requiredIntegerDigits Cfg.requiredFractionDigits
    Cfg.requiredExponentDigits Cfg.requiredMantissaDigits Cfg.noPositiveMantissaSign Cfg.requiredMantissaSign
    Cfg.noExponentNotation Cfg.noPositiveExponentSign Cfg.requiredExponentSign Cfg.noExponentWithoutFraction
    Cfg.noSpecial Cfg.caseSensitiveSpecial Cfg.noFloatLeadingZeros Cfg.requiredExponentNotation
    Cfg.caseSensitiveExponent Cfg.caseSensitiveBasePrefix Cfg.caseSensitiveBaseSuffix Cfg.basePrefix Cfg.baseSuffix
    Cfg.flag
  cases c.feats.format <;> rfl

section fields
variable (c : Cfg)
theorem syn_radix : (cfgSyn c).radix = c.mantissaRadix := by rw [cfgSyn_eq]
theorem syn_expRadix : (cfgSyn c).expRadix = c.exponentRadix := by rw [cfgSyn_eq]
theorem syn_reqInt : (cfgSyn c).reqInt = c.requiredIntegerDigits := by rw [cfgSyn_eq]
theorem syn_reqFrac : (cfgSyn c).reqFrac = c.requiredFractionDigits := by rw [cfgSyn_eq]
theorem syn_reqExp : (cfgSyn c).reqExp = c.requiredExponentDigits := by rw [cfgSyn_eq]
theorem syn_reqMant : (cfgSyn c).reqMant = c.requiredMantissaDigits := by rw [cfgSyn_eq]
theorem syn_noPosMant : (cfgSyn c).noPosMant = c.noPositiveMantissaSign := by rw [cfgSyn_eq]
theorem syn_reqMantSign : (cfgSyn c).reqMantSign = c.requiredMantissaSign := by rw [cfgSyn_eq]
theorem syn_noExpNot : (cfgSyn c).noExpNot = c.noExponentNotation := by rw [cfgSyn_eq]
theorem syn_noPosExp : (cfgSyn c).noPosExp = c.noPositiveExponentSign := by rw [cfgSyn_eq]
theorem syn_reqExpSign : (cfgSyn c).reqExpSign = c.requiredExponentSign := by rw [cfgSyn_eq]
theorem syn_noExpWoFrac : (cfgSyn c).noExpWoFrac = c.noExponentWithoutFraction := by rw [cfgSyn_eq]
theorem syn_noSpecial : (cfgSyn c).noSpecial = c.noSpecial := by rw [cfgSyn_eq]
theorem syn_csSpecial : (cfgSyn c).csSpecial = c.caseSensitiveSpecial := by rw [cfgSyn_eq]
theorem syn_noFloatLZ : (cfgSyn c).noFloatLZ = c.noFloatLeadingZeros := by rw [cfgSyn_eq]
theorem syn_reqExpNot : (cfgSyn c).reqExpNot = c.requiredExponentNotation := by rw [cfgSyn_eq]
theorem syn_csExp : (cfgSyn c).csExp = c.caseSensitiveExponent := by rw [cfgSyn_eq]
theorem syn_csSuffix : (cfgSyn c).csSuffix = c.caseSensitiveBaseSuffix := by rw [cfgSyn_eq]
theorem syn_pre : (cfgSyn c).pre = c.basePrefix := by rw [cfgSyn_eq]
theorem syn_suf : (cfgSyn c).suf = c.baseSuffix := by rw [cfgSyn_eq]
end fields

structure At (b b' : Bytes) (r : List Nat) : Prop where
  slc : b'.slc = b.slc
  valid : b'.index ≤ b'.slc.length
  tl : tl b' = r

theorem tl_length (b : Bytes) : (tl b).length = b.slc.length - b.index := by simp [tl]

theorem At.refl {b : Bytes} (hv : b.index ≤ b.slc.length) : At b b (Grammar.tl b) := ⟨rfl, hv, rfl⟩

theorem At.trans {a b c : Bytes} {r r' : List Nat} (h1 : At a b r) (h2 : At b c r') : At a c r' :=
  ⟨h2.slc.trans h1.slc, h2.valid, h2.tl⟩

theorem At.of_Adv {b b' : Bytes} {n : Nat} {r : List Nat} (h : Adv b b' n) (hv : b.index ≤ b.slc.length)
    (hn : n ≤ (Grammar.tl b).length) (hr : (Grammar.tl b).drop n = r) : At b b' r := by
  refine ⟨h.1, ?_, by rw [h.tl, hr]⟩
  rw [tl_length] at hn
  rw [h.1, h.2]; omega

theorem At.index {b b' : Bytes} {r : List Nat} (h : At b b' r) : b'.index + r.length = b.slc.length := by
  have := tl_length b'
  rw [h.tl, h.slc] at this
  have := h.valid
  rw [h.slc] at this
  omega

theorem StdIn.at {c : Cfg} {b b' : Bytes} {r : List Nat} (hs : StdIn c b.slc) (h : At b b' r) : StdIn c b'.slc :=
  h.slc ▸ hs

/-- what a phase lemma says of an error: an `Error::Kind` comes out only where the grammar's constraint `ok` fails
(`panic` and `fault` exits are C10's subject) -/
abbrev Rej (ok : Bool) : Err → Prop := fun e => IsKind e → ok = false

theorem digitsPrefix_eq_takeDigits (r : Nat) (hr : r ≤ 255) : ∀ l : List Nat, (∀ x ∈ l, x < 256) →
    Sep.digitsPrefix r l = (takeDigits r l).1 := by
  intro l
  induction l with
  | nil => intro _; rfl
  | cons x xs ih =>
    intro hl
    have hx : x < 256 := hl x List.mem_cons_self
    simp only [Sep.digitsPrefix, takeDigits, CharDigit.charToDigit_eq x r hx hr]
    cases digitVal r x with
    | none => rfl
    | some d => simp only [ih (fun y hy => hl y (List.mem_cons_of_mem _ hy))]

theorem adv_Adv (c : Cfg) (k : Comp) (n : Nat) (b : Bytes) : Adv b (Sep.adv c k n b) n :=
  ⟨Sep.adv_slc c k n b, Sep.adv_index c k n b⟩

theorem takeDigits_le (r : Nat) (l : List Nat) : (takeDigits r l).1.length ≤ l.length := by
  have := takeDigits_length r l; omega

theorem digitVal_zero (r x : Nat) : digitVal r x = some 0 ↔ (x = 48 ∧ 0 < r) := by
  unfold digitVal digitVal36
  by_cases h1 : 48 ≤ x ∧ x ≤ 57
  · simp only [h1, and_self, if_true]
    constructor
    · intro h; split at h
      · simp only [Option.some.injEq] at h; exact ⟨by omega, by omega⟩
      · cases h
    · rintro ⟨rfl, hr⟩; simp [hr]
  · by_cases h2 : 65 ≤ x ∧ x ≤ 90
    · simp only [h1, h2, and_self, if_true, if_false]
      constructor
      · intro h; split at h
        · simp only [Option.some.injEq] at h; omega
        · cases h
      · rintro ⟨rfl, _⟩; omega
    · by_cases h3 : 97 ≤ x ∧ x ≤ 122
      · simp only [h1, h2, h3, and_self, if_true, if_false]
        constructor
        · intro h; split at h
          · simp only [Option.some.injEq] at h; omega
          · cases h
        · rintro ⟨rfl, _⟩; omega
      · simp only [h1, h2, h3, if_false]
        constructor
        · intro h; cases h
        · rintro ⟨rfl, _⟩; omega

theorem takeDigits_head_zero (r : Nat) (l : List Nat) (h : 0 < (takeDigits r l).1.length) :
    ((takeDigits r l).1.head? = some 0) ↔ (l.head? = some 48) := by
  cases l with
  | nil => simp [takeDigits] at h
  | cons x xs =>
    cases hd : digitVal r x with
    | none => simp [takeDigits, hd] at h
    | some d =>
      simp only [takeDigits, hd, List.head?_cons, Option.some.injEq]
      constructor
      · rintro rfl; exact ((digitVal_zero r x).mp hd).1
      · rintro rfl
        have : 0 < r := by
          unfold digitVal digitVal36 at hd
          simp at hd
          omega
        have := (digitVal_zero r 48).mpr ⟨rfl, this⟩
        rw [this] at hd; simpa using hd.symm

/-- `no_float_leading_zeros` looks at the stored bytes, the grammar at the digit values -/
theorem take_head_leadingZeros (r : Nat) (l : List Nat) :
    (decide ((l.take (takeDigits r l).1.length).length > 1) &&
      decide ((l.take (takeDigits r l).1.length).head? = some 48)) = leadingZeros (takeDigits r l).1 := by
  have hle := takeDigits_le r l
  unfold leadingZeros
  have hl : (l.take (takeDigits r l).1.length).length = (takeDigits r l).1.length := by
    simp only [List.length_take]; omega
  rw [hl]
  by_cases h1 : (takeDigits r l).1.length > 1
  · have hh : (l.take (takeDigits r l).1.length).head? = l.head? := by
      cases l with
      | nil => simp
      | cons x xs => cases hi : (takeDigits r (x :: xs)).1.length with
        | zero => omega
        | succ n => simp
    have := takeDigits_head_zero r l (by omega)
    rw [hh]
    by_cases h2 : l.head? = some 48
    · simp [h1, h2, this.mpr h2]
    · have h3 : ¬ ((takeDigits r l).1.head? = some 0) := fun h => h2 (this.mp h)
      have e1 : decide (l.head? = some 48) = false := by simpa using h2
      have e2 : ((takeDigits r l).1.head? == some 0) = false := by simpa using h3
      simp [h1, e1, e2]
  · simp [h1]

theorem decide_length_zero {α : Type} (l : List α) : decide (l.length = 0) = l.isEmpty := by cases l <;> simp

theorem takeDigits_rest (r : Nat) : ∀ l : List Nat, (takeDigits r l).2 = l.drop (takeDigits r l).1.length := by
  intro l
  induction l with
  | nil => simp [takeDigits]
  | cons x xs ih =>
    unfold takeDigits
    split
    · simp only [List.length_cons, List.drop_succ_cons]; exact ih
    · simp

theorem intClosed_spec {c : Cfg} (b : Bytes) (hr : c.mantissaRadix ≤ 255) (hb : ∀ x ∈ b.slc, x < 256)
    (hv : b.index ≤ b.slc.length) :
    Wp (fun ip =>
        (c.requiredIntegerDigits && (takeDigits c.mantissaRadix (tl b)).1.isEmpty) = false ∧
        (c.noFloatLeadingZeros && leadingZeros (takeDigits c.mantissaRadix (tl b)).1) = false ∧
        ip.start = b ∧ At b ip.byte (takeDigits c.mantissaRadix (tl b)).2 ∧
        ip.nDigits = (takeDigits c.mantissaRadix (tl b)).1.length ∧
        ip.integerDigits = (tl b).take (takeDigits c.mantissaRadix (tl b)).1.length)
      (Rej (!(c.requiredIntegerDigits && (takeDigits c.mantissaRadix (tl b)).1.isEmpty) &&
        !(c.noFloatLeadingZeros && leadingZeros (takeDigits c.mantissaRadix (tl b)).1)))
      (Sep.intClosed c false b
        (Sep.adv c .integer (Sep.digitsPrefix c.mantissaRadix (b.slc.drop b.index)).length b)) := by
  -- the closed form `Sep.intClosed` reads `digitsPrefix`, which is the grammar's `takeDigits` (`hdp`); each of its two
  -- guards is one conjunct
  have hdp : Sep.digitsPrefix c.mantissaRadix (b.slc.drop b.index) = (takeDigits c.mantissaRadix (tl b)).1 :=
    digitsPrefix_eq_takeDigits _ hr _ (fun x hx => hb x (List.mem_of_mem_drop hx))
  have hfmt_ri : (c.feats.format && c.requiredIntegerDigits) = c.requiredIntegerDigits := format_and_flag c _
  have hfmt_lz : (c.feats.format && c.noFloatLeadingZeros) = c.noFloatLeadingZeros := format_and_flag c _
  have hlz : (c.feats.format && c.noFloatLeadingZeros &&
      decide ((List.take (takeDigits c.mantissaRadix (tl b)).1.length (List.drop b.index b.slc)).length > 1) &&
      decide ((List.take (takeDigits c.mantissaRadix (tl b)).1.length (List.drop b.index b.slc)).head? = some 48))
        = (c.noFloatLeadingZeros && leadingZeros (takeDigits c.mantissaRadix (tl b)).1) := by
    rw [hfmt_lz, Bool.and_assoc]; exact congrArg _ (take_head_leadingZeros c.mantissaRadix (tl b))
  unfold Sep.intClosed
  simp only [hdp, hfmt_ri, Bool.not_false, Bool.and_true, decide_length_zero, hlz]
  split
  · next h => exact Wp.error (fun _ => by simp [h])
  · next h =>
    split
    · next h2 => exact Wp.error (fun _ => by simp [h2])
    · next h2 =>
      exact Wp.ok ⟨by simpa using h, by simpa using h2, rfl,
        At.of_Adv (adv_Adv _ _ _ _) hv (takeDigits_le _ _) (takeDigits_rest _ _).symm, rfl, rfl⟩

theorem first_eq_head (b : Bytes) : b.first = (tl b).head? := by
  simp [Bytes.first, tl_head]

theorem firstIs_eq (b : Bytes) (v : Nat) (cased : Bool) :
    b.firstIs v cased = (match (tl b).head? with | some x => matchByte cased v x | none => false) := by
  unfold Bytes.firstIs Bytes.firstIsCased Bytes.firstIsUncased matchByte
  rw [first_eq_head]
  cases (tl b).head? with
  | none => cases cased <;> simp
  | some x =>
    cases cased
    · simp only [Bool.false_eq_true, if_false]; rfl
    · simp only [if_true]
      show (some x == some v) = decide (x = v)
      by_cases h : x = v <;> simp [h]

theorem firstIsCased_ne {b : Bytes} {v : Nat} (h : (tl b).head? ≠ some v) : b.firstIsCased v = false := by
  simp only [Bytes.firstIsCased, first_eq_head]
  cases hh : (tl b).head? with
  | none => rfl
  | some x =>
    have : x ≠ v := fun e => h (by rw [hh, e])
    simp [this]

theorem fractionPhase_nopoint {c : Cfg} (o : POpts) (b : Bytes) (m : Nat) (h : (tl b).head? ≠ some o.dp) :
    fractionPhase c o b m = .ok ⟨b, m, 0, 0, none, false⟩ := by
  unfold fractionPhase
  simp only [firstIsCased_ne h, Bool.false_eq_true, if_false, pure, Except.pure]

theorem fracClosed_nopoint {c : Cfg} (o : POpts) (b : Bytes) (m : Nat) (h : (tl b).head? ≠ some o.dp) :
    Sep.fracClosed c o b m = .ok ⟨b, m, 0, 0, none, false⟩ := by
  unfold Sep.fracClosed
  simp only [firstIsCased_ne h, Bool.false_eq_true, if_false]

theorem fracClosed_spec {c : Cfg} (o : POpts) (b : Bytes) (m : Nat) (hr : c.mantissaRadix ≤ 255)
    (hb : ∀ x ∈ b.slc, x < 256) (hv : b.index ≤ b.slc.length) :
    Wp (fun fp =>
        (c.requiredFractionDigits && (splitFraction (cfgSyn c) o (tl b)).1 &&
          (splitFraction (cfgSyn c) o (tl b)).2.1.isEmpty) = false ∧
        At b fp.byte (splitFraction (cfgSyn c) o (tl b)).2.2 ∧
        fp.nAfterDot = (splitFraction (cfgSyn c) o (tl b)).2.1.length ∧
        fp.fraction = (if (splitFraction (cfgSyn c) o (tl b)).1 = true then
          some (((tl b).drop 1).take (splitFraction (cfgSyn c) o (tl b)).2.1.length) else none))
      (Rej (!(c.requiredFractionDigits && (splitFraction (cfgSyn c) o (tl b)).1 &&
        (splitFraction (cfgSyn c) o (tl b)).2.1.isEmpty)))
      (Sep.fracClosed c o b m) := by
  -- by the byte under the cursor: the decimal point (the digits after the point are `takeDigits`), or any other byte /
  -- none (`fracClosed_nopoint`, `splitFraction` takes nothing)
  cases htl : tl b with
  | nil =>
    rw [fracClosed_nopoint o b m (by rw [htl]; simp)]
    exact Wp.ok ⟨by simp [splitFraction], by simpa [splitFraction, htl] using At.refl hv, rfl, rfl⟩
  | cons x xs =>
    by_cases hx : x = o.dp
    · subst hx
      have hdrop : b.slc.drop (b.index + 1) = xs := (tl_cons htl).2.2
      have hfirst : b.firstIsCased o.dp = true := by simp [Bytes.firstIsCased, first_eq_head, htl]
      have hdp : Sep.digitsPrefix c.mantissaRadix xs = (takeDigits c.mantissaRadix xs).1 :=
        digitsPrefix_eq_takeDigits _ hr _ (fun x hx => hb x (List.mem_of_mem_drop (hdrop ▸ hx)))
      have hfmt : (c.feats.format && c.requiredFractionDigits) = c.requiredFractionDigits := format_and_flag c _
      have hF : splitFraction (cfgSyn c) o (o.dp :: xs) =
          (true, (takeDigits c.mantissaRadix xs).1, (takeDigits c.mantissaRadix xs).2) := by
        simp [splitFraction, syn_radix]
      rw [hF]
      unfold Sep.fracClosed
      simp only [hfirst, if_true, hdrop, hdp, hfmt, decide_length_zero, Bool.and_true, List.drop_succ_cons,
        List.drop_zero]
      have hle := takeDigits_le c.mantissaRadix xs
      split
      · next h => exact Wp.error (fun _ => by simp [h])
      · next h =>
        refine Wp.ok ⟨by simpa using h, ?_, rfl, rfl⟩
        · refine At.of_Adv (Adv.trans (⟨rfl, rfl⟩ : Adv b { b with index := b.index + 1 } 1)
            (adv_Adv c .fraction _ _)) hv (by rw [htl]; simp only [List.length_cons]; omega) ?_
          rw [htl, Nat.add_comm, List.drop_succ_cons, takeDigits_rest]
    · rw [fracClosed_nopoint o b m (by rw [htl]; simpa using hx)]
      have hF : splitFraction (cfgSyn c) o (x :: xs) = (false, [], x :: xs) := by simp [splitFraction, hx]
      rw [hF]
      exact Wp.ok ⟨by simp, htl ▸ At.refl hv, rfl, rfl⟩

theorem splitSign_rest (l : List Nat) : (splitSign l).2 = l.drop (l.length - (splitSign l).2.length) := by
  unfold splitSign
  split <;> simp

theorem signClosed_other (np rq : Bool) (ip ms : String) (b : Bytes)
    (h43 : b.first ≠ some 43) (h45 : b.first ≠ some 45) :
    Sep.signClosed np rq ip ms b = if rq = true then .error (.err ms b.index) else .ok (false, b) := by
  unfold Sep.signClosed
  split
  · next h => exact absurd h h43
  · next h => exact absurd h h45
  · rfl

theorem signClosed_spec (np rq : Bool) (ip ms : String) (b : Bytes) (hv : b.index ≤ b.slc.length) :
    (signOk np rq (splitSign (tl b)).1 = false → ∃ k i, Sep.signClosed np rq ip ms b = .error (.err k i)) ∧
    (signOk np rq (splitSign (tl b)).1 = true →
      ∃ b', Sep.signClosed np rq ip ms b = .ok ((splitSign (tl b)).1 == some true, b') ∧
        At b b' (splitSign (tl b)).2) := by
  cases htl : tl b with
  | nil =>
    have hf : b.first = none := by rw [first_eq_head, htl]; rfl
    rw [signClosed_other np rq ip ms b (by rw [hf]; simp) (by rw [hf]; simp)]
    simp only [splitSign, signOk]
    cases rq <;> simp [htl ▸ At.refl hv]
  | cons x xs =>
    have hf : b.first = some x := by rw [first_eq_head, htl]; rfl
    have hstep : At b { b with index := b.index + 1 } xs := ⟨rfl, (tl_cons htl).2.1, (tl_cons htl).2.2⟩
    by_cases h43 : x = 43
    · subst h43
      unfold Sep.signClosed
      rw [hf]
      simp only [splitSign, signOk]
      cases np <;> simp [hstep]
    · by_cases h45 : x = 45
      · subst h45
        unfold Sep.signClosed
        rw [hf]
        simp [splitSign, signOk, hstep]
      · have hsp : splitSign (x :: xs) = (none, x :: xs) := by
          unfold splitSign; split <;> simp_all
        rw [signClosed_other np rq ip ms b (by rw [hf]; simpa using h43) (by rw [hf]; simpa using h45)]
        simp only [hsp, signOk]
        cases rq <;> simp [htl ▸ At.refl hv]

theorem parseSign_spec {c : Cfg} (hd : c.debug = false) (np rq : Bool) (ip ms : String) (b : Bytes)
    (hv : b.index ≤ b.slc.length) :
    (signOk np rq (splitSign (tl b)).1 = false → ∃ k i, parseSign c np rq ip ms b = .error (.err k i)) ∧
    (signOk np rq (splitSign (tl b)).1 = true →
      ∃ b', parseSign c np rq ip ms b = .ok ((splitSign (tl b)).1 == some true, b') ∧
        At b b' (splitSign (tl b)).2) := by
  rw [Sep.parseSign_release c hd]
  exact signClosed_spec np rq ip ms b hv

/-- the value the exponent digits denote to the implementation (saturating accumulation) -/
def expValue (er : Nat) (sg : Option Bool) (eds : List Nat) : Int :=
  if (sg == some true) = true then -((foldExponent er 0 eds : Nat) : Int) else ((foldExponent er 0 eds : Nat) : Int)

def expOk (c : Cfg) (frNone : Bool) (E : Bool × Option Bool × List Nat × List Nat) : Bool :=
  !(c.noExponentNotation && E.1) && !(c.requiredExponentNotation && !E.1) &&
  !(c.noExponentWithoutFraction && E.1 && frNone) &&
  !(E.1 && !signOk c.noPositiveExponentSign c.requiredExponentSign E.2.1) &&
  !(c.requiredExponentDigits && E.1 && E.2.2.1.isEmpty)

theorem expOk_noexp (c : Cfg) (fr : Bool) (r : List Nat) :
    expOk c fr (false, none, [], r) = !c.requiredExponentNotation := by
  simp [expOk]

theorem expOk_exp (c : Cfg) (fr : Bool) (sg : Option Bool) (eds r : List Nat) :
    expOk c fr (true, sg, eds, r) =
      !(c.noExponentNotation || (c.noExponentWithoutFraction && fr) ||
        !signOk c.noPositiveExponentSign c.requiredExponentSign sg || (c.requiredExponentDigits && eds.isEmpty)) := by
  simp [expOk, Bool.and_assoc]

theorem expClosed_spec {c : Cfg} (o : POpts) (b : Bytes) (fr : Option (List Nat)) (e : Int)
    (hr : c.exponentRadix ≤ 255) (hb : ∀ x ∈ b.slc, x < 256) (hv : b.index ≤ b.slc.length) :
    Wp (fun ep =>
        expOk c fr.isNone (splitExponent (cfgSyn c) o (tl b)) = true ∧
        At b ep.byte (splitExponent (cfgSyn c) o (tl b)).2.2.2 ∧
        ep.explicit = (if (splitExponent (cfgSyn c) o (tl b)).1 = true then
          expValue c.exponentRadix (splitExponent (cfgSyn c) o (tl b)).2.1 (splitExponent (cfgSyn c) o (tl b)).2.2.1
          else 0))
      (Rej (expOk c fr.isNone (splitExponent (cfgSyn c) o (tl b))))
      (Sep.expClosed c (b.firstIs o.exp (c.caseSensitiveExponent && c.feats.format)) b fr e) := by
  have hcs : (c.caseSensitiveExponent && c.feats.format) = c.caseSensitiveExponent := by
    cases hf : c.feats.format <;> simp [Cfg.caseSensitiveExponent, Cfg.flag, hf]
  have hfmt0 : (c.feats.format && c.requiredExponentNotation) = c.requiredExponentNotation := format_and_flag c _
  -- no exponent character under the cursor: `splitExponent` gives `(false, none, [], rest)`
  have habs : ∀ rest, tl b = rest →
      Wp (fun ep => expOk c fr.isNone (false, none, [], rest) = true ∧ At b ep.byte rest ∧ ep.explicit = 0)
        (Rej (expOk c fr.isNone (false, none, [], rest))) (Sep.expClosed c false b fr e) := by
    intro rest htl
    unfold Sep.expClosed
    simp only [Bool.false_eq_true, if_false, hfmt0, expOk_noexp]
    split
    · next h => exact Wp.error (fun _ => by simp [h])
    · next h => exact Wp.ok ⟨by simpa using h, htl ▸ At.refl hv, rfl⟩
  rw [hcs, firstIs_eq]
  cases htl : tl b with
  | nil => simpa [splitExponent] using habs [] htl
  | cons x xs =>
    simp only [List.head?_cons]
    by_cases hx : matchByte c.caseSensitiveExponent o.exp x = true
    · have hE : splitExponent (cfgSyn c) o (x :: xs) = (true, (splitSign xs).1,
          (takeDigits c.exponentRadix (splitSign xs).2).1, (takeDigits c.exponentRadix (splitSign xs).2).2) := by
        simp [splitExponent, syn_csExp, syn_expRadix, hx]
      rw [hx, hE, expOk_exp]
      simp only [if_true]
      have hstep : At b { b with index := b.index + 1 } xs := ⟨rfl, (tl_cons htl).2.1, (tl_cons htl).2.2⟩
      have hfmt1 : (c.feats.format && c.noExponentNotation) = c.noExponentNotation := format_and_flag c _
      have hfmt2 : (c.feats.format && c.noExponentWithoutFraction) = c.noExponentWithoutFraction :=
        format_and_flag c _
      obtain ⟨hsg1, hsg2⟩ := signClosed_spec c.noPositiveExponentSign c.requiredExponentSign
        "InvalidPositiveExponentSign" "MissingExponentSign" { b with index := b.index + 1 } hstep.valid
      rw [hstep.tl] at hsg1 hsg2
      unfold Sep.expClosed
      simp only [if_true, hfmt1, hfmt2]
      split
      · next h1 => exact Wp.error (fun _ => by simp [h1])
      · next h1 =>
        split
        · next h2 => exact Wp.error (fun _ => by simp [h2])
        · next h2 =>
          cases h3 : signOk c.noPositiveExponentSign c.requiredExponentSign (splitSign xs).1 with
          | false =>
            obtain ⟨k, i, he⟩ := hsg1 h3
            simp only [he, bind, Except.bind]
            exact Wp.error (fun _ => by simp)
          | true =>
            obtain ⟨b1, he, hat1⟩ := hsg2 h3
            have htl2 : b1.slc.drop b1.index = (splitSign xs).2 := hat1.tl
            have hdp : Sep.digitsPrefix c.exponentRadix (splitSign xs).2 =
                (takeDigits c.exponentRadix (splitSign xs).2).1 :=
              digitsPrefix_eq_takeDigits _ hr _ (fun y hy => hb y (by
                rw [← htl2, (hstep.trans hat1).slc] at hy; exact List.mem_of_mem_drop hy))
            simp only [he, bind, Except.bind, htl2, hdp, decide_length_zero]
            split
            · next h4 => exact Wp.error (fun _ => by simp [h4])
            · next h4 =>
              simp only [Bool.not_eq_true] at h1 h2 h4
              refine Wp.ok ⟨by simp [h1, h2, h4], (hstep.trans hat1).trans ?_, by simp only [expValue]⟩
              exact At.of_Adv (adv_Adv c .exponent _ b1) (hat1.slc ▸ hat1.valid)
                (by rw [hat1.tl]; exact takeDigits_le _ _) (by rw [hat1.tl, takeDigits_rest])
    · simp only [Bool.not_eq_true] at hx
      have hE : splitExponent (cfgSyn c) o (x :: xs) = (false, none, [], x :: xs) := by
        simp [splitExponent, syn_csExp, hx]
      rw [hx, hE]
      simpa using habs (x :: xs) htl
end LexVerif.Proof.Grammar
