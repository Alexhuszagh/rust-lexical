import LexVerif.Model.Grisu
import LexVerif.Proof.DragonboxBits
import LexVerif.Proof.MulHi
import Mathlib.Tactic.Ring
/-!
# Proof.GrisuArith — the arithmetic of `compact.rs` Grisu: `mul`, `normalize`, `normalized_boundaries`

* `mul_spec`: `mul` is the half-up rounded high 64 bits of the 64×64 product, no `u64` reduction in it wraps
  (`MulHi.schoolbook_eq`, shared with `bellerophon::mul`);
  `mul_bounds`: `|mul − x·y/2^64| ≤ 1/2`.
* `boundaries_spec`: closed forms of `normalize` and `normalizedBoundaries` on a significand `m ≥ 1`, `2m+1 < 2^63`,
  all in units of `2^s`, `s + 1` the number of leading zeros of `2m+1`.
-/
namespace LexVerif.Proof.GrisuArith
open LexVerif.Model.Grisu LexVerif.Model.Dragonbox
open LexVerif.Proof.DragonboxBits

/-- `mul` is `MulHi.schoolbook` on the significands, written with `>>>`, `&&&` and `u64` -/
theorem mul_spec (x y : Fp) (hx : x.mant < 2 ^ 64) (hy : y.mant < 2 ^ 64) :
    (mul x y).mant = (x.mant * y.mant + 2 ^ 63) / 2 ^ 64 ∧ (mul x y).exp = i32 (i32 (x.exp + y.exp) + 64) := by
  refine ⟨?_, rfl⟩
  rw [← MulHi.schoolbook_eq hx hy]
  simp only [mul, u64, Nat.shiftRight_eq_div_pow, Nat.and_two_pow_sub_one_eq_mod, MulHi.schoolbook]

theorem mul_bounds (x y : Fp) (hx : x.mant < 2 ^ 64) (hy : y.mant < 2 ^ 64) :
    2 * (mul x y).mant * 2 ^ 64 ≤ 2 * (x.mant * y.mant) + 2 ^ 64
    ∧ 2 * (x.mant * y.mant) < 2 * (mul x y).mant * 2 ^ 64 + 2 ^ 64 := by
  rw [(mul_spec x y hx hy).1]
  generalize x.mant * y.mant = P
  omega

theorem mul_lt (x y : Fp) (hx : x.mant < 2 ^ 64) (hy : y.mant < 2 ^ 64) : (mul x y).mant < 2 ^ 64 := by
  rw [(mul_spec x y hx hy).1]
  exact MulHi.round_hi_lt hx hy

example : (mul ⟨0xFFFFFFFFFFFFFFFF, -5⟩ ⟨0xFFFFFFFFFFFFFFFF, 7⟩) = ⟨0xFFFFFFFFFFFFFFFE, 66⟩ := by decide
example : (mul ⟨0x8000000000000000, -63⟩ ⟨0x8000000000000001, -63⟩) = ⟨0x4000000000000001, -62⟩ := by decide
example : (0x8000000000000000 * 0x8000000000000001 + 2 ^ 63) / 2 ^ 64 = 0x4000000000000001 := by decide

theorem log2_two_mul_add_one {m : Nat} (hm : 1 ≤ m) : Nat.log2 (2 * m + 1) = Nat.log2 m + 1 := by
  rw [Nat.log2_def (2 * m + 1)]
  have h : (2 * m + 1) / 2 = m := by omega
  rw [if_pos (by omega), h]

theorem clz64_eq {n : Nat} (hn : n ≠ 0) : clz64 n = 63 - Nat.log2 n := by
  unfold clz64; rw [if_neg hn]

theorem normalize_eq (n : Nat) (e : Int) (hn1 : 1 ≤ n) (hn2 : n < 2 ^ 64) :
    63 - Nat.log2 n ≤ 63 ∧ 2 ^ 63 ≤ n * 2 ^ (63 - Nat.log2 n) ∧ n * 2 ^ (63 - Nat.log2 n) < 2 ^ 64
    ∧ normalize ⟨n, e⟩ = ⟨n * 2 ^ (63 - Nat.log2 n), i32 (e - ((63 - Nat.log2 n : Nat) : Int))⟩ := by
  have hn0 : n ≠ 0 := by omega
  have hk : Nat.log2 n < 64 := (Nat.log2_lt hn0).2 hn2
  have hlo : 2 ^ Nat.log2 n ≤ n := Nat.log2_self_le hn0
  have hhi : n < 2 ^ (Nat.log2 n + 1) := Nat.lt_log2_self
  have hc := clz64_eq hn0
  generalize Nat.log2 n = k at *
  have hs : 63 - k ≤ 63 := by omega
  have e1 : 2 ^ k * 2 ^ (63 - k) = 2 ^ 63 := by rw [← Nat.pow_add]; congr 1; omega
  have e2 : 2 ^ (k + 1) * 2 ^ (63 - k) = 2 ^ 64 := by rw [← Nat.pow_add]; congr 1; omega
  have hp : 0 < 2 ^ (63 - k) := Nat.two_pow_pos _
  have b1 : 2 ^ 63 ≤ n * 2 ^ (63 - k) := by rw [← e1]; exact Nat.mul_le_mul_right _ hlo
  have b2 : n * 2 ^ (63 - k) < 2 ^ 64 := by rw [← e2]; exact Nat.mul_lt_mul_of_pos_right hhi hp
  refine ⟨hs, b1, b2, ?_⟩
  unfold normalize
  simp only [ne_eq, hn0, not_false_eq_true, if_true]
  rw [hc, shl64_nat hs, Nat.mod_eq_of_lt b2]

/-- The bound on `e` only keeps the `i32` exponent arithmetic from wrapping (any bound well inside `±2^31` would do; float
exponents lie within `±1100`). -/
theorem boundaries_spec (t : FTy) (m : Nat) (e : Int) (hm1 : 1 ≤ m) (hm2 : 2 * m + 1 < 2 ^ 63)
    (he : -100000 ≤ e ∧ e ≤ 100000) :
    let s := 62 - Nat.log2 (2 * m + 1)
    s ≤ 61 ∧ 2 ^ 63 ≤ (4 * m + 2) * 2 ^ s ∧ (4 * m + 2) * 2 ^ s < 2 ^ 64
    ∧ normalize ⟨m, e⟩ = ⟨4 * m * 2 ^ s, e - 2 - s⟩
    ∧ normalizedBoundaries t ⟨m, e⟩ =
        (⟨(if m = t.hiddenBit then 4 * m - 1 else 4 * m - 2) * 2 ^ s, e - 2 - s⟩, ⟨(4 * m + 2) * 2 ^ s, e - 2 - s⟩) := by
  intro s
  have hlog := log2_two_mul_add_one hm1
  have hk1 : 1 ≤ Nat.log2 (2 * m + 1) := by omega
  have hk2 : Nat.log2 (2 * m + 1) < 63 := (Nat.log2_lt (by omega)).2 hm2
  obtain ⟨-, hU1, hU2, hU3⟩ := normalize_eq (2 * m + 1) (e - 1) (by omega) (by omega)
  obtain ⟨-, -, -, hM3⟩ := normalize_eq m e hm1 (by omega)
  rw [show 63 - Nat.log2 (2 * m + 1) = s + 1 by omega] at hU1 hU2 hU3
  rw [show 63 - Nat.log2 m = s + 2 by omega] at hM3
  have hs : s ≤ 61 := by omega
  clear_value s
  have hUm : (2 * m + 1) * 2 ^ (s + 1) = (4 * m + 2) * 2 ^ s := by rw [Nat.pow_succ]; ring
  have hMm : m * 2 ^ (s + 2) = 4 * m * 2 ^ s := by rw [Nat.pow_add]; ring
  rw [hUm] at hU1 hU2 hU3
  rw [hMm] at hM3
  refine ⟨hs, hU1, hU2, ?_, ?_⟩
  · rw [hM3, DragonboxArith.i32_id (by omega) (by omega)]
    congr 1; omega
  · have hup : normalize ⟨2 * m + 1, e - 1⟩ = ⟨(4 * m + 2) * 2 ^ s, e - 2 - s⟩ := by
      rw [hU3, DragonboxArith.i32_id (by omega) (by omega)]; congr 1; omega
    unfold normalizedBoundaries
    simp only []
    rw [shl64_one (by omega), DragonboxArith.u64_id (by omega), DragonboxArith.i32_id (x := e - 1) (by omega) (by omega), hup]
    simp only []
    by_cases hh : m = t.hiddenBit
    · simp only [if_pos hh]
      have h2 : ((1 : Int) + 1) = ((2 : Nat) : Int) := rfl
      have hsh : i32 (i32 (e - ((2 : Nat) : Int)) - (e - 2 - (s : Int))) = (s : Int) := by
        rw [DragonboxArith.i32_id (x := e - ((2 : Nat) : Int)) (by omega) (by omega), DragonboxArith.i32_id (by omega) (by omega)]; omega
      have hlt : (4 * m - 1) * 2 ^ s < 2 ^ 64 :=
        Nat.lt_of_le_of_lt (Nat.mul_le_mul_right _ (by omega)) hU2
      have h4 : m * 2 ^ 2 % 2 ^ 64 = 4 * m := by omega
      rw [h2, hsh, shl64_nat (x := m) (by omega : 2 ≤ 63), h4, sub64_one (by omega) (by omega),
        shl64_nat (by omega), Nat.mod_eq_of_lt hlt]
    · simp only [if_neg hh]
      have h1 : ((0 : Int) + 1) = ((1 : Nat) : Int) := rfl
      have hsh : i32 (i32 (e - ((1 : Nat) : Int)) - (e - 2 - (s : Int))) = ((s + 1 : Nat) : Int) := by
        rw [DragonboxArith.i32_id (x := e - ((1 : Nat) : Int)) (by omega) (by omega), DragonboxArith.i32_id (by omega) (by omega)]; omega
      have hLm : (2 * m - 1) * 2 ^ (s + 1) = (4 * m - 2) * 2 ^ s := by
        rw [Nat.pow_succ, show 4 * m - 2 = (2 * m - 1) * 2 by omega]; ring
      have hlt : (4 * m - 2) * 2 ^ s < 2 ^ 64 :=
        Nat.lt_of_le_of_lt (Nat.mul_le_mul_right _ (by omega)) hU2
      have h4 : m * 2 ^ 1 % 2 ^ 64 = 2 * m := by omega
      rw [h1, hsh, shl64_nat (x := m) (by omega : 1 ≤ 63), h4, sub64_one (by omega) (by omega),
        shl64_nat (by omega), hLm, Nat.mod_eq_of_lt hlt]
/-- non-vacuity: the hypotheses hold for the f64 value `1.0` (`m = 2^52 = hiddenBit`, `e = -52`) and for `m = 3` -/
example := boundaries_spec .f64 (2 ^ 52) (-52) (by decide) (by decide) (by decide)
example : normalizedBoundaries .f64 ⟨2 ^ 52, -52⟩
    = (⟨(4 * 2 ^ 52 - 1) * 2 ^ 9, -63⟩, ⟨(2 * 2 ^ 52 + 1) * 2 ^ 10, -63⟩) := by decide +kernel
example : normalizedBoundaries .f32 ⟨3, -149⟩ = (⟨5 * 2 ^ 61, -211⟩, ⟨7 * 2 ^ 61, -211⟩) := by decide +kernel
example : normalize ⟨3, -149⟩ = ⟨2 * 3 * 2 ^ 61, -211⟩ := by decide +kernel

end LexVerif.Proof.GrisuArith
