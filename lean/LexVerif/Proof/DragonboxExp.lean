import LexVerif.Proof.DragonboxExpDefs
/-!
# Proof.DragonboxExp — the certificate of every cache entry, evaluated

The 254 binary exponents of binary32 and the 2046 of binary64 fall into runs that share a cache entry (`runLengths`);
`entryOk` is evaluated by the kernel once for every run. (binary64 in two parts, at the sign change of the exponent:
`runLengths` recurses once per exponent, and 2046 levels exceed the kernel's recursion depth.)
-/
namespace LexVerif.Proof.DragonboxExp

theorem entries32 : entriesOk .f32 (-149) (runLengths 254 (-149)) = true := by decide +kernel
theorem entries64_neg : entriesOk .f64 (-1074) (runLengths 1074 (-1074)) = true := by decide +kernel
theorem entries64_nonneg : entriesOk .f64 0 (runLengths 972 0) = true := by decide +kernel

theorem runLengths_sum : (runLengths 254 (-149)).sum = 254 ∧ (runLengths 1074 (-1074)).sum = 1074
    ∧ (runLengths 972 0).sum = 972 := by decide +kernel

end LexVerif.Proof.DragonboxExp
