import LexVerif.Proof.WriteFloatAscii
import LexVerif.Proof.RoundNECore
import Mathlib.Tactic.IntervalCases
import Mathlib.Tactic.Ring
/-!
# Proof.WriteFloatRound — string-level rounding of `truncate_and_round_decimal` = numeric round-half-even

`ofDigits 10 ds` is the number denoted by a decimal digit list.  Main result `truncateAndRound_numeric`:
the kept digits, scaled back to `max` places (one more after a carry), are `⌊n / 10^k⌉` rounded half-to-even, where
`k` digits were cut.
-/
namespace LexVerif.Proof.WriteFloatRound
open LexVerif.Spec LexVerif.Model LexVerif.Proof.WriteFloatAscii

theorem ofDigits_nines (s : List Nat) (h1 : Digs 10 s) (h2 : ∀ x ∈ s, ¬ x + 1 < 10) : ofDigits 10 s + 1 = 10 ^ s.length := by
  induction s with
  | nil => rfl
  | cons x t ih =>
    have hx : x = 9 := by
      have := h1 x (List.mem_cons_self ..); have := h2 x (List.mem_cons_self ..); omega
    have := ih (fun y hy => h1 y (List.mem_cons_of_mem _ hy)) (fun y hy => h2 y (List.mem_cons_of_mem _ hy))
    have hv : ofDigits 10 [x] = x := by simp [ofDigits]
    rw [show x :: t = [x] ++ t from rfl, ofDigits_append_pow, hv, List.length_append, List.length_singleton, hx,
      Nat.add_comm 1, Nat.pow_succ]
    omega

theorem roundUp_numeric (l : List Nat) (hd : Digs 10 l) :
    (roundUp 10 l).1.length ≤ l.length + (if (roundUp 10 l).2 = true then 1 else 0) ∧
    ofDigits 10 (roundUp 10 l).1 * 10 ^ (l.length + (if (roundUp 10 l).2 = true then 1 else 0) - (roundUp 10 l).1.length)
      = ofDigits 10 l + 1 := by
  rcases LexVerif.Proof.WriteFloatBuf.roundUp_cases 10 l with ⟨p, d, s, rfl, _, h2, h⟩ | ⟨h2, h⟩ <;> rw [h]
  · -- `p d 99…9` becomes `p (d+1)`, to be scaled by the length of the nines
    have hs := ofDigits_nines s (fun y hy => hd y (by simp [hy])) h2
    refine ⟨by simp, ?_⟩
    have e1 : (p ++ d :: s).length + (if (false : Bool) = true then 1 else 0) - (p ++ [d + 1]).length = s.length := by
      simp; omega
    rw [e1, ofDigits_snoc, show p ++ d :: s = (p ++ [d]) ++ s by simp, ofDigits_append_pow, ofDigits_snoc]
    calc (ofDigits 10 p * 10 + (d + 1)) * 10 ^ s.length = (ofDigits 10 p * 10 + d) * 10 ^ s.length + 10 ^ s.length := by ring
      _ = (ofDigits 10 p * 10 + d) * 10 ^ s.length + ofDigits 10 s + 1 := by omega
  · have hs := ofDigits_nines l hd h2
    refine ⟨by simp, ?_⟩
    simp only [if_true, List.length_singleton, Nat.add_sub_cancel]
    rw [hs]; simp [ofDigits]

theorem tail_half (t : Nat) (rest : List Nat) (ht : t < 10) (hrest : Digs 10 rest) :
    (t < 5 → 2 * ofDigits 10 (t :: rest) < 10 ^ (rest.length + 1)) ∧
    (t > 5 → 2 * ofDigits 10 (t :: rest) > 10 ^ (rest.length + 1)) ∧
    (t = 5 → (2 * ofDigits 10 (t :: rest) > 10 ^ (rest.length + 1) ↔ rest.any (· ≠ 0) = true) ∧
             (2 * ofDigits 10 (t :: rest) = 10 ^ (rest.length + 1) ↔ rest.any (· ≠ 0) = false)) := by
  have hv := ofDigits_lt 10 rest hrest
  rw [ofDigits_cons, Nat.pow_succ]
  generalize 10 ^ rest.length = P at hv ⊢
  have hany : rest.any (· ≠ 0) = true ↔ ofDigits 10 rest ≠ 0 := by
    simp only [List.any_eq_true, decide_eq_true_eq]
    constructor
    · intro h; exact Nat.pos_iff_ne_zero.mp (ofDigits_pos (by omega) rest h)
    · intro hn
      by_contra hc
      exact hn (ofDigits_zeros 10 rest fun x hx => by_contra fun hx0 => hc ⟨x, hx, hx0⟩)
  have hany' : rest.any (· ≠ 0) = false ↔ ofDigits 10 rest = 0 := by
    rw [← Bool.not_eq_true, hany]; simp
  generalize ofDigits 10 rest = v at hv hany hany' ⊢
  refine ⟨?_, ?_, ?_⟩
  · intro h; interval_cases t <;> omega
  · intro h; interval_cases t <;> omega
  · intro h; subst h
    rw [hany, hany']
    constructor <;> constructor <;> intro h <;> omega

def roundHalfEven (n m : Nat) : Nat :=
  if 2 * (n % m) > m ∨ (2 * (n % m) = m ∧ (n / m) % 2 = 1) then n / m + 1 else n / m

/-- the same function as the oracle's rounding step -/
theorem roundHalfEven_eq_rhe : roundHalfEven = LexVerif.Proof.RoundNE.rhe := rfl

theorem take_snoc_getD (ds : List Nat) (mx : Nat) (h1 : 1 ≤ mx) (h2 : mx ≤ ds.length) :
    ds.take mx = ds.take (mx - 1) ++ [ds.getD (mx - 1) 0] := by
  have hlt : mx - 1 < ds.length := by omega
  have : ds.take mx = ds.take (mx - 1 + 1) := by congr 1; omega
  rw [this, List.take_add_one, List.getD_eq_getElem?_getD, List.getElem?_eq_getElem hlt]
  simp

theorem truncateAndRound_numeric (ds : List Nat) (o : WOpts) (mx : Nat) (hd : Digs 10 ds) (hmx : o.maxDigits = some mx)
    (h1 : 1 ≤ mx) (h2 : mx < ds.length) (hround : o.truncate = false) :
    ofDigits 10 (truncateAndRound ds o).1 *
        10 ^ (mx + (if (truncateAndRound ds o).2 = true then 1 else 0) - (truncateAndRound ds o).1.length)
      = roundHalfEven (ofDigits 10 ds) (10 ^ (ds.length - mx)) := by
  have hsplit : ds = ds.take mx ++ ds.drop mx := (List.take_append_drop mx ds).symm
  have hdl : (ds.drop mx).length = ds.length - mx := List.length_drop ..
  have htl : (ds.take mx).length = mx := by simp; omega
  have hvd := ofDigits_lt 10 (ds.drop mx) (digs_drop mx hd)
  rw [hdl] at hvd
  have hval : ofDigits 10 ds = ofDigits 10 (ds.take mx) * 10 ^ (ds.length - mx) + ofDigits 10 (ds.drop mx) := by
    conv => lhs; rw [hsplit]
    rw [ofDigits_append_pow, hdl]
  -- with `n = q * P + v` split at the cut, half-even compares `2 * v` with `P` and looks at the parity of `q`; `tail_half`
  -- reads the comparison off the first cut digit and the rest, which is what the Rust code inspects
  have hrhe := LexVerif.Proof.RoundNE.rhe_of_split (ofDigits 10 (ds.take mx)) _ _ hvd
  rw [Nat.mul_comm, ← hval, ← roundHalfEven_eq_rhe] at hrhe
  have hne : ds.drop mx ≠ [] := by
    intro h; rw [h] at hdl; simp at hdl; omega
  obtain ⟨t, rest, htr⟩ := List.exists_cons_of_ne_nil hne
  have ht : t = ds.getD mx 0 := by
    have : (ds.drop mx).getD 0 0 = ds.getD mx 0 := by
      simp [List.getD_eq_getElem?_getD]
    rw [htr] at this; simpa using this
  have hrest : rest = ds.drop (mx + 1) := by
    have : (ds.drop mx).drop 1 = ds.drop (mx + 1) := by rw [List.drop_drop]
    rw [htr] at this; simpa using this
  have htd : Digs 10 (t :: rest) := htr ▸ digs_drop mx hd
  have hrl : rest.length + 1 = ds.length - mx := by rw [← hdl, htr]; simp
  obtain ⟨hlt5, hgt5, heq5⟩ := tail_half t rest (htd t (List.mem_cons_self ..))
    (fun x hx => htd x (List.mem_cons_of_mem _ hx))
  rw [← htr, hrl] at hlt5 hgt5 heq5
  -- parity of the last kept digit
  have hpar : ofDigits 10 (ds.take mx) % 2 = ds.getD (mx - 1) 0 % 2 := by
    rw [take_snoc_getD ds mx h1 (by omega), ofDigits_snoc]; omega
  obtain ⟨hul, hun⟩ := roundUp_numeric (ds.take mx) (digs_take mx hd)
  rw [htl] at hul hun
  rw [hrhe]
  unfold truncateAndRound
  rw [hmx]
  have hge : ¬ (mx ≥ ds.length) := by omega
  simp only [hround, Bool.false_eq_true, if_false, hge]
  rw [← ht, ← hrest]
  generalize hP : 10 ^ (ds.length - mx) = P at *
  generalize hv : ofDigits 10 (ds.drop mx) = v at *
  generalize hqv : ofDigits 10 (ds.take mx) = q at *
  have hkeep : ofDigits 10 (ds.take mx) * 10 ^ (mx + 0 - (ds.take mx).length) = q := by
    rw [htl, hqv]; simp
  by_cases c1 : t < 5
  · rw [if_pos c1]
    have := hlt5 c1
    have hnc : ¬ (2 * v > P ∨ 2 * v = P ∧ q % 2 = 1) := by omega
    rw [if_neg hnc]
    simpa using hkeep
  · rw [if_neg c1]
    by_cases c2 : t > 5
    · rw [if_pos c2]
      have := hgt5 c2
      rw [if_pos (Or.inl this)]
      exact hun
    · rw [if_neg c2]
      have ht5 : t = 5 := by omega
      obtain ⟨hgt, heq⟩ := heq5 ht5
      by_cases c3 : ds.getD (mx - 1) 0 % 2 = 1 ∨ rest.any (fun x => decide (x ≠ 0)) = true
      · rw [if_pos c3]
        have hcond : 2 * v > P ∨ 2 * v = P ∧ q % 2 = 1 := by
          rcases c3 with c3 | c3
          · by_cases hany : rest.any (fun x => decide (x ≠ 0)) = true
            · exact Or.inl (hgt.mpr hany)
            · exact Or.inr ⟨heq.mpr (by simpa using hany), by omega⟩
          · exact Or.inl (hgt.mpr c3)
        rw [if_pos hcond]
        exact hun
      · rw [if_neg c3]
        have hcond : ¬ (2 * v > P ∨ 2 * v = P ∧ q % 2 = 1) := by
          intro h
          rcases h with h | ⟨_, h⟩
          · exact c3 (Or.inr (hgt.mp h))
          · exact c3 (Or.inl (by omega))
        rw [if_neg hcond]
        simpa using hkeep

end LexVerif.Proof.WriteFloatRound
