import LexVerif.Proof.WriteIntBasic
/-!
# Proof.WriteIntApi — `api.rs` glue: from a correct mantissa writer to a correct `writeInt`
-/
namespace LexVerif.Model.WriteInt
open LexVerif.Spec

/-- the mantissa writer `f` puts exactly `digits` at the start of any buffer of at least `need` bytes
and leaves the rest untouched -/
def MantSpec (f : Buf → Res (Buf × Nat)) (digits : List Nat) (need : Nat) : Prop :=
  ∀ buffer : Buf, need ≤ buffer.length → f buffer = .ok (digits ++ buffer.drop digits.length, digits.length)

theorem withSign_spec (c : Nat) (f : Buf → Res (Buf × Nat)) (digits : List Nat) (need : Nat)
    (h : MantSpec f digits need) (buffer : Buf) (hb : need + 1 ≤ buffer.length) (hd : digits.length + 1 < 2 ^ 64) :
    withSign c buffer f = .ok (c :: digits ++ buffer.drop (digits.length + 1), digits.length + 1) := by
  cases buffer with
  | nil => simp at hb
  | cons x rest =>
    have hrest : need ≤ rest.length := by simpa using hb
    simp only [withSign, setC, List.length_cons, Nat.zero_lt_succ, if_true, List.set_cons_zero, bind_ok,
      List.drop_succ_cons, List.drop_zero, h rest hrest, pure_eq]
    rw [mod_usz hd]
    simp

def signBytes (feats : Features) (reqSign : Bool) (v : Int) : List Nat :=
  if v < 0 then [45] else if feats.format ∧ reqSign then [43] else []

def expected (feats : Features) (radix : Nat) (reqSign : Bool) (v : Int) : List Nat :=
  signBytes feats reqSign v ++ numeral radix v.natAbs

def ValidBits (b : Nat) : Prop := b = 8 ∨ b = 16 ∨ b = 32 ∨ b = 64 ∨ b = 128

/-- buffer size under which the theorem holds: `FORMATTED_SIZE(_DECIMAL)` (`bufferSizeConst`), plus one byte when an
unsigned type is written with a required `+`; never above /repo's `buffer_size_const` (`bufferSizeConstFmt`, which
adds the byte for every type). -/
def requiredSize (feats : Features) (t : IntTy) (radix : Nat) (reqSign : Bool) : Nat :=
  bufferSizeConst feats t radix + (if ¬ t.signed ∧ feats.format ∧ reqSign then 1 else 0)

theorem ValidBits.ge {b : Nat} (h : ValidBits b) : 8 ≤ b := by
  rcases h with h | h | h | h | h <;> omega

theorem ValidBits.pos {b : Nat} (h : ValidBits b) : 1 ≤ b := Nat.le_trans (by omega) h.ge

theorem ValidBits.le {b : Nat} (h : ValidBits b) : b ≤ 128 := by
  rcases h with h | h | h | h | h <;> omega

theorem inRange_mag (t : IntTy) (v : Int) (hb : 1 ≤ t.bits) (hv : t.inRange v) :
    v.natAbs < 2 ^ t.bits ∧ (t.signed = false → 0 ≤ v) ∧ (t.signed = true → v.natAbs ≤ 2 ^ (t.bits - 1)) := by
  obtain ⟨bits, sg⟩ := t
  obtain ⟨hlo, hhi⟩ := hv
  simp only at hb ⊢
  have hpos : 0 < 2 ^ (bits - 1) := Nat.pow_pos (by omega)
  have h2 : 2 ^ bits = 2 * 2 ^ (bits - 1) := by
    obtain ⟨b, rfl⟩ : ∃ b, bits = b + 1 := ⟨bits - 1, by omega⟩
    rw [Nat.pow_succ, Nat.add_sub_cancel, Nat.mul_comm]
  cases sg
  · simp only [IntTy.minVal, IntTy.maxVal, IntTy.maxMag, Bool.false_eq_true, if_false, if_true] at hlo hhi
    exact ⟨by omega, fun _ => by omega, fun h => Bool.noConfusion h⟩
  · simp only [IntTy.minVal, IntTy.maxVal, IntTy.maxMag, if_true, Bool.false_eq_true, if_false] at hlo hhi
    exact ⟨by omega, fun h => Bool.noConfusion h, fun _ => by omega⟩

theorem validRadix_range (feats : Features) (radix : Nat) (h : validRadix feats radix = true) :
    2 ≤ radix ∧ radix ≤ 36 := by
  unfold validRadix at h
  split at h
  · simp at h; omega
  · split at h
    · simp at h; omega
    · simp at h; omega

theorem mag_length_le (t : IntTy) (hbits : ValidBits t.bits) (radix : Nat) (hr : 2 ≤ radix) (v : Int)
    (hv : t.inRange v) : (numeral radix v.natAbs).length ≤ t.bits := by
  rw [numeral_length]
  exact toDigits_length_le_bits radix v.natAbs t.bits hr hbits.pos (inRange_mag t v hbits.pos hv).1

/-- `value as Unsigned` of a non-negative value -/
theorem toNat_emod_of_nonneg (N : Nat) (v : Int) (h0 : 0 ≤ v) (h : v.natAbs < N) :
    (v % (N : Int)).toNat = v.natAbs := by
  rw [Int.emod_eq_of_lt h0 (by omega)]; omega

/-- `Unsigned::as_cast(value.wrapping_neg())` of a negative value -/
theorem wrappingNeg_of_neg (N : Nat) (v : Int) (h0 : v < 0) (h : v.natAbs < N) :
    (N - (v % (N : Int)).toNat) % N = v.natAbs := by
  have hmod : v % (N : Int) = v + (N : Int) := by
    rw [← Int.add_emod_right]; exact Int.emod_eq_of_lt (by omega) (by omega)
  rw [hmod, show (v + (N : Int)).toNat = N - v.natAbs by omega, Nat.mod_eq_of_lt (by omega)]
  omega

theorem signBytes_neg (feats : Features) (reqSign : Bool) (v : Int) (h : v < 0) : signBytes feats reqSign v = [45] :=
  if_pos h

theorem signBytes_nonneg (feats : Features) (reqSign : Bool) (v : Int) (h : 0 ≤ v) :
    signBytes feats reqSign v = if feats.format ∧ reqSign then [43] else [] :=
  if_neg (by omega)

theorem signBytes_length_le (feats : Features) (reqSign : Bool) (v : Int) : (signBytes feats reqSign v).length ≤ 1 := by
  unfold signBytes
  split
  · exact Nat.le_refl _
  · split
    · exact Nat.le_refl _
    · exact Nat.zero_le _

theorem ite_bind {α β : Type} (c : Prop) [Decidable c] (x y : Res α) (k : α → Res β) :
    (if c then x >>= k else y >>= k) = (if c then x else y) >>= k := by
  split <;> rfl

/-- the final `&mut bytes[..len]` of `writeInt` -/
theorem sliceLen_ok (e rest : List Nat) :
    (if e.length ≤ (e ++ rest).length then Res.ok (e ++ rest, e.length) else Res.panic : Res (Buf × Nat)) =
      .ok (e ++ rest, e.length) :=
  if_pos (by rw [List.length_append]; omega)

theorem minus_spec (feats : Features) (radix : Nat) (reqSign : Bool) (v : Int) (h0 : v < 0)
    (f : Buf → Res (Buf × Nat)) (need : Nat) (hM : MantSpec f (numeral radix v.natAbs) need) (buffer : Buf)
    (hneed : need + (signBytes feats reqSign v).length ≤ buffer.length)
    (hd : (numeral radix v.natAbs).length + 1 < 2 ^ 64) :
    withSign 45 buffer f = .ok (expected feats radix reqSign v ++ buffer.drop (expected feats radix reqSign v).length,
      (expected feats radix reqSign v).length) := by
  unfold expected
  rw [signBytes_neg feats reqSign v h0] at hneed ⊢
  exact withSign_spec 45 f _ need hM buffer hneed hd

theorem plus_spec (feats : Features) (radix : Nat) (reqSign : Bool) (v : Int) (h0 : 0 ≤ v)
    (f : Buf → Res (Buf × Nat)) (need : Nat) (hM : MantSpec f (numeral radix v.natAbs) need) (buffer : Buf)
    (hneed : need + (signBytes feats reqSign v).length ≤ buffer.length)
    (hd : (numeral radix v.natAbs).length + 1 < 2 ^ 64) :
    (if feats.format = true ∧ reqSign = true then withSign 43 buffer f else f buffer) =
      .ok (expected feats radix reqSign v ++ buffer.drop (expected feats radix reqSign v).length,
        (expected feats radix reqSign v).length) := by
  unfold expected
  rw [signBytes_nonneg feats reqSign v h0] at hneed ⊢
  by_cases hs : feats.format = true ∧ reqSign = true
  · rw [if_pos hs] at hneed ⊢
    rw [if_pos hs]
    exact withSign_spec 43 f _ need hM buffer hneed hd
  · rw [if_neg hs] at hneed ⊢
    rw [if_neg hs]
    exact hM buffer hneed

theorem writeInt_of_mantissa (feats : Features) (t : IntTy) (radix : Nat) (reqSign checkValid : Bool) (v : Int)
    (buffer : Buf) (need : Nat) (hbits : ValidBits t.bits) (hvalid : validRadix feats radix = true)
    (hv : t.inRange v)
    (hM : MantSpec (writeMantissa feats t.bits radix v.natAbs t.signed) (numeral radix v.natAbs) need)
    (hneed : need + (signBytes feats reqSign v).length ≤ buffer.length) :
    writeInt feats t radix reqSign checkValid v buffer =
      .ok (expected feats radix reqSign v ++ buffer.drop (expected feats radix reqSign v).length,
           (expected feats radix reqSign v).length) := by
  obtain ⟨hlt, hu, hs⟩ := inRange_mag t v hbits.pos hv
  have hd : (numeral radix v.natAbs).length + 1 < 2 ^ 64 := by
    have := mag_length_le t hbits radix (validRadix_range feats radix hvalid).1 v hv
    have := hbits.le
    omega
  unfold writeInt
  rw [if_neg (by simp [hvalid])]
  cases hsg : t.signed with
  | false =>
    rw [hsg] at hM
    have h0 := hu hsg
    simp only [Bool.false_eq_true, not_false_eq_true, if_true, toNat_emod_of_nonneg _ v h0 hlt]
    rw [ite_bind, plus_spec feats radix reqSign v h0 _ need hM buffer hneed hd, bind_ok]
    exact sliceLen_ok _ _
  | true =>
    rw [hsg] at hM
    simp only [not_true_eq_false, if_false]
    by_cases hneg : v < 0
    · rw [if_pos hneg, wrappingNeg_of_neg _ v hneg hlt,
        minus_spec feats radix reqSign v hneg _ need hM buffer hneed hd, bind_ok]
      exact sliceLen_ok _ _
    · have h0 : 0 ≤ v := by omega
      rw [if_neg hneg, toNat_emod_of_nonneg _ v h0 hlt, ite_bind,
        plus_spec feats radix reqSign v h0 _ need hM buffer hneed hd, bind_ok]
      exact sliceLen_ok _ _

/-- cargo: `radix` implies `power-of-two` -/
def FeaturesWF (feats : Features) : Prop := feats.radix = true → feats.powerOfTwo = true

theorem validRadix_ne10 (feats : Features) (radix : Nat) (hwf : FeaturesWF feats)
    (h : validRadix feats radix = true) (h10 : radix ≠ 10) : feats.powerOfTwo = true := by
  unfold validRadix at h
  split at h
  · rename_i hr; exact hwf hr
  · split at h
    · rename_i hp; exact hp
    · simp at h; omega

theorem hasTable_of_valid (feats : Features) (radix : Nat) (hvalid : validRadix feats radix = true)
    (hp2 : feats.powerOfTwo = true) : hasTable feats radix = true := by
  unfold hasTable; unfold validRadix at hvalid
  by_cases hrx : feats.radix = true
  · rw [if_pos hrx] at hvalid ⊢; exact hvalid
  · rw [if_neg hrx] at hvalid ⊢; rw [if_pos hp2] at hvalid; exact hvalid

theorem writeMantissa_compact (feats : Features) (bits radix value : Nat) (sg : Bool) (hc : feats.compact = true) :
    writeMantissa feats bits radix value sg = compact bits radix value := by
  funext buffer
  rw [writeMantissa, if_pos hc]

theorem writeMantissa_decimal (feats : Features) (bits value : Nat) (sg : Bool) (hc : feats.compact = false) :
    writeMantissa feats bits 10 value sg = decimal bits value sg := by
  funext buffer
  rw [writeMantissa, if_neg (by simp [hc]), if_pos rfl]
  split <;> rfl

theorem writeMantissa_radix (feats : Features) (bits radix value : Nat) (sg : Bool) (hc : feats.compact = false)
    (hp2 : feats.powerOfTwo = true) (h10 : radix ≠ 10) :
    writeMantissa feats bits radix value sg = radixWrite feats bits value radix := by
  funext buffer
  rw [writeMantissa, if_neg (by simp [hc]), if_neg (by simp [hp2]), if_neg h10]

end LexVerif.Model.WriteInt
