import LexVerif.Proof.WriteBinaryBits
import LexVerif.Proof.WriteBinaryWF
/-!
# Proof.WriteBinaryBytes — byte level: `parseStdComplete (writeFloat f)` is a literal that `litBits` maps back to `f`
-/
namespace LexVerif.Proof.WriteBinaryBytes
open LexVerif LexVerif.Spec LexVerif.Model LexVerif.Model.WriteBinary LexVerif.Model.Dragonbox
open LexVerif.Proof.RoundNE LexVerif.Proof.DragonboxSpec LexVerif.Proof.WriteBinaryExact LexVerif.Proof.WriteBinaryBits
open LexVerif.Proof.WriteBinaryArith LexVerif.Proof.WriteBinaryShape LexVerif.Proof.WriteBinaryParse LexVerif.Proof.WriteBinaryWF
open LexVerif.Proof.Bits

theorem litRange_two (t : FTy) : LitRange (fmtOf t) 2 := by
  cases t
  · exact litRange_f32
  · exact litRange_f64

/-- binary32 and binary64 lie inside `(2^-1200, 2^1100)`: whatever its exponent, a written layout is read as the
rounding of its fraction (`RoundNE.litBits_exact_of_range`) -/
theorem litBits_of_layout (t : FTy) {r b : Nat} (hr : 0 < r) (hb : 2 ≤ b) (hrb : r ≤ b ^ 6) (neg : Bool) (l : Layout)
    (hw : WFL r l) (mag : Nat) (hrt : roundNE (fmtOf t) (layoutFrac r b l).1 (layoutFrac r b l).2 = mag) :
    litBits (fmtOf t) r b ⟨neg, l.int, l.frac, l.exp.getD 0⟩ = mag + (if neg then (fmtOf t).signBit else 0) := by
  have hf := DragonboxShortest.wf_fmtOf t
  rw [litBits_exact_of_range hf hr (by omega) hrb ((litRange_two t).mono hf (by omega) hb) _
      hw.digits_lt,
    litFrac_layout, roundSigned, hrt]

theorem flags_plain {fmt : Format} (h : fmt.flagBits = 12) :
    fmt.requiredMantissaSign = false ∧ fmt.requiredExponentSign = false := by
  unfold Format.flagBits at h
  unfold Format.requiredMantissaSign Format.requiredExponentSign Format.bit
  constructor <;> (simp only [decide_eq_false_iff_not]; omega)

/-- sign / magnitude split of a bit pattern by the masks `write.rs` uses -/
theorem sign_split (t : FTy) {bits : Nat} (hlt : bits < 2 ^ t.bits) :
    bits &&& (t.signMask - 1) = bits % (fmtOf t).signBit
    ∧ bits = bits % (fmtOf t).signBit + (if bits &&& t.signMask ≠ 0 then (fmtOf t).signBit else 0) := by
  have hs : (fmtOf t).signBit = 2 ^ (t.bits - 1) := by cases t <;> rfl
  have hb : t.bits = t.bits - 1 + 1 := by cases t <;> rfl
  rw [hs, FTy.signMask, Nat.and_two_pow_sub_one_eq_mod, and_two_pow]
  refine ⟨rfl, ?_⟩
  rw [hb, Nat.pow_succ] at hlt
  generalize 2 ^ (t.bits - 1) = P at hlt ⊢
  have hdm := Nat.div_add_mod bits P
  have hq : bits / P < 2 := Nat.div_lt_of_lt_mul (by omega)
  generalize bits / P = q at hdm hq
  have : q = 0 ∨ q = 1 := by omega
  rcases this with rfl | rfl
  · simpa using hdm.symm
  · have hP : P ≠ 0 := by rintro rfl; omega
    simp only [Nat.one_mod, Nat.one_mul, ne_eq, hP, not_false_eq_true, if_true]
    omega

theorem not_special (t : FTy) {mag : Nat} (hfin : mag < (fmtOf t).infBits) :
    ¬ (mag &&& t.exponentMask = t.exponentMask) := by
  have hinf : t.exponentMask = (fmtOf t).infBits := by cases t <;> rfl
  rw [DragonboxShortest.and_exponentMask, hinf]
  unfold Fmt.infBits Fmt.expField at *
  intro h
  have h' := Nat.eq_of_mul_eq_mul_right (Nat.two_pow_pos _) h
  have := (Nat.div_lt_iff_lt_mul (Nat.two_pow_pos ((fmtOf t).p - 1))).mpr hfin
  have := Nat.mod_le (mag / 2 ^ ((fmtOf t).p - 1)) (2 ^ (fmtOf t).ebits)
  omega

/-- for every finite float (either sign, zero included), every power-of-two radix with a documented exponent
base, any valid exponent radix, plain flags, punctuation that is not a digit: the bytes written by the model are accepted
completely by the specification parser of the same format, as a literal that `litBits` maps back to the same bits -/
theorem writeFloat_parses_back (fmt : Format) (feats : Features) (o : WOpts) (t : FTy) {bits bpd bpb : Nat}
    (hr : fmt.mantissaRadix = 2 ^ bpd) (hb : fmt.exponentBase = 2 ^ bpb) (hp : IsPair bpd bpb)
    (her2 : 2 ≤ fmt.exponentRadix) (her : fmt.exponentRadix ≤ 36) (hflags : fmt.flagBits = 12)
    (hexp : (digitVal (2 ^ bpd) o.exp).isNone) (hdp : (digitVal (2 ^ bpd) o.dp).isNone) (hne : o.exp ≠ o.dp)
    (hfin : bits % (fmtOf t).signBit < (fmtOf t).infBits) (hlt : bits < 2 ^ t.bits) :
    ∃ bytes l n, writeFloat fmt feats o t bits = some bytes
      ∧ parseStdComplete (2 ^ bpd) fmt.exponentRadix { exp := o.exp, dp := o.dp, nan := o.nan, inf := o.inf } bytes
          = .num l n
      ∧ n = bytes.length
      ∧ litBits (fmtOf t) (2 ^ bpd) (2 ^ bpb) l = bits := by
  obtain ⟨hmag, hbits⟩ := sign_split t hlt
  obtain ⟨hf1, hf2⟩ := flags_plain hflags
  have hnsp := not_special t hfin
  have hr36 : 2 ^ bpd ≤ 36 :=
    Nat.le_trans (Nat.pow_le_pow_right (by decide) hp.2.1) (by decide)
  have hr2 : 2 ≤ fmt.mantissaRadix := by
    rw [hr]; exact Nat.one_lt_two_pow (by have := hp.1; omega)
  have hbpb : 1 ≤ bpb := by have := hp.1; rcases hp.2.2 with h | h | h <;> omega
  let neg : Bool := decide (bits &&& t.signMask ≠ 0)
  let l := layoutBits fmt o t (bits % (fmtOf t).signBit)
  have hwrite : writeFloat fmt feats o t bits = some ((if neg then [45] else []) ++ render fmt feats o l) := by
    unfold writeFloat
    simp only [hmag, hnsp, false_and, if_false, hf1, Bool.false_eq_true, and_false, not_false_eq_true, and_true]
    simp only [neg, l, decide_eq_true_eq]
  have hw : WFL (2 ^ bpd) l := by
    have := layoutME_wf fmt o t.bits (t.mantissa (bits % (fmtOf t).signBit)) (t.exponent (bits % (fmtOf t).signBit)) hr2
    rw [hr] at this; exact this
  have hparse := parseComplete_render fmt feats o { exp := o.exp, dp := o.dp, nan := o.nan, inf := o.inf } l neg (2 ^ bpd)
    hr36 hw rfl rfl (Option.isNone_iff_eq_none.mp hdp) (Option.isNone_iff_eq_none.mp hexp) hne her2 her
  have hlit := litBits_of_layout t (Nat.two_pow_pos bpd) (Nat.one_lt_two_pow (by omega))
    (by rw [← Nat.pow_mul]; exact Nat.pow_le_pow_right (by decide) (by have := hp.2.1; omega)) neg l hw _
    (layoutBits_roundtrip fmt o t hr hb hp hfin)
  refine ⟨_, _, _, hwrite, hparse, rfl, ?_⟩
  rw [hlit]
  conv_rhs => rw [hbits]
  simp only [neg, decide_eq_true_eq]

end LexVerif.Proof.WriteBinaryBytes
