import LexVerif.Proof.SlowPositive
/-!
# Proof.SlowNegative — `negative_digit_comp` returns `roundNE (M / radix^j)`

`negative_digit_comp` rounds the error float `fp` down to a float `b = k·2^(p−1) + q`, compares the big mantissa with the
half-way point `b + h`, and rounds `fp` again with the outcome.

`bh(b) = (2q + 1)·2^(k − bias)` (`bhOf_kq`); the two big integers compared are `M·2^a` and `(2q+1)·(radix/2)^j·2^c` with
`c − a = k + j − EXPONENT_BIAS`, i.e. the value against `b + h`, **exactly** (`cmp_scale`). `negativeDigitComp_fit` is the
computation as one equation over `fit` (`Proof.SlowBigint`): it answers iff both integers fit the big integer, with the
estimate rounded by their comparison; `negativeDigitComp_abstract` reads the total correctness off it. `RoundFacts` is what
they need to know about `fp`, `k`, `q`: `fp` rounds down to `b`; the final `round`
re-derives `q` and adds what the callback says; `roundNE` of the value is `b` plus the increment the comparison dictates.
`roundFacts_tiny`, `_finite`, `_inf` establish it for an estimate that weakly brackets the value (`b ≤ roundNE x ≤ b + 1`
as bit patterns) below the underflow cut, for a finite `b`, and for `b = +∞`.
-/
namespace LexVerif.Proof.Slow
open LexVerif.Spec LexVerif.Proof.Tables LexVerif.Model LexVerif.Model.Slow LexVerif.Model.Bellerophon
open LexVerif.Proof.RoundNE LexVerif.Proof.ExtRound LexVerif.Proof.BinaryCorrect LexVerif.Proof.Wrap

theorem rnte_false (fp : ExtendedFloat80) (s : Nat) (h : fp.mant < 2 ^ 64) :
    roundNearestTieEven fp s (fun _ _ _ => false) = roundDown fp s := by
  unfold roundNearestTieEven roundDown
  have : (if s = 64 then 0 else shr64m fp.mant s) < 2 ^ 64 := by
    split
    · exact Nat.two_pow_pos _
    · unfold shr64m shr
      exact Nat.lt_of_le_of_lt (Nat.div_le_self _ _) h
  simp only [Bool.false_eq_true, if_false, Nat.add_zero]
  unfold wrap64
  rw [Nat.mod_eq_of_lt this]

theorem round_roundDown (F : FTy) (fp : ExtendedFloat80) (h : fp.mant < 2 ^ 64) :
    round F fp roundDown = round F fp (fun f s => roundNearestTieEven f s (fun _ _ _ => false)) := by
  unfold round
  simp only [rnte_false fp _ h]

theorem upOf_false (mant s : Nat) : upOf mant s (fun _ _ _ => false) = 0 := by
  unfold upOf; simp

theorem round_down_bits {F p eb} (lay : Layout F p eb) (fp : ExtendedFloat80) (hm1 : 2 ^ 63 ≤ fp.mant)
    (hm2 : fp.mant < 2 ^ 64) (hp2 : -fp.exp + 1 ≤ 64) :
    extendedToFloat F (round F fp roundDown) =
      encode F.fmt (fp.exp + 64 - p - 1).toNat (fp.mant / 2 ^ shiftOf p fp.exp) := by
  rw [round_roundDown F fp hm2]
  have := (round_bits lay fp.mant fp.exp (fun _ _ _ => false) hm1 hm2 hp2).2
  rw [upOf_false, Nat.add_zero] at this
  exact this

/-- `shared::round` of an estimate more than 64 bits below the least subnormal's exponent: only the callback's
increment survives -/
theorem round_tiny {F p eb} (lay : Layout F p eb) (mant : Nat) (e : Int) (cb : Bool → Bool → Bool → Bool)
    (hm2 : mant < 2 ^ 64) (he : -e + 1 > 64) :
    round F ⟨mant, e⟩ (fun f s => roundNearestTieEven f s cb) = ⟨upOf mant 64 cb, 0⟩ := by
  have hp := lay.hp; have hp64 := lay.hp64; have heb := lay.heb
  unfold round
  rw [lay.ms, lay.hidden]
  have hden : -e ≥ 64 - ((p - 1 : Nat) : Int) - 1 := by omega
  rw [if_pos hden]
  have hmin : (min (-e + 1) 64).toNat = 64 := by
    rw [Int.min_eq_right (by omega)]; rfl
  simp only [hmin, rnte_eq mant e 64 cb hm2 (by decide) (Nat.le_refl _)]
  have hdiv : mant / 2 ^ 64 = 0 := Nat.div_eq_of_lt hm2
  rw [hdiv, Nat.zero_add]
  have hu := upOf_le mant 64 cb
  have hT : 2 ≤ 2 ^ (p - 1) := Nat.pow_le_pow_right (n := 2) (by decide) (show 1 ≤ p - 1 by omega)
  have : ¬ (((upOf mant 64 cb : Nat) : Int) ≥ ((2 ^ (p - 1) : Nat) : Int)) := by omega
  rw [if_neg this]

theorem ext_small {F p eb} (lay : Layout F p eb) (u : Nat) (hu : u ≤ 1) : extendedToFloat F ⟨u, 0⟩ = u := by
  have hp := lay.hp; have hp64 := lay.hp64; have heb := lay.heb
  have hbits : F.C.bits.toNat = p + eb := by rw [lay.bits]; rfl
  have hT : 2 ≤ 2 ^ (p - 1) := Nat.pow_le_pow_right (n := 2) (by decide) (show 1 ≤ p - 1 by omega)
  have hbig : 2 ^ (p - 1) ≤ 2 ^ (p + eb) := Nat.pow_le_pow_right (by decide) (by omega)
  have := ext_of_fields F (p - 1) (p + eb) lay.msNat hbits u 0 (by omega) (by omega) hp64
  simpa using this


theorem roundDown_tiny {F p eb} (lay : Layout F p eb) (fp : ExtendedFloat80) (hm2 : fp.mant < 2 ^ 64)
    (hp2 : -fp.exp + 1 > 64) : extendedToFloat F (round F fp roundDown) = 0 := by
  rw [round_roundDown F fp hm2, round_tiny lay fp.mant fp.exp _ hm2 hp2, upOf_false]
  exact ext_zero lay

theorem kq_tiny {F p eb} (lay : Layout F p eb) (fp : ExtendedFloat80) (hm2 : fp.mant < 2 ^ 64)
    (hp2 : -fp.exp + 1 > 64) :
    (fp.exp + 64 - p - 1).toNat = 0 ∧ fp.mant / 2 ^ shiftOf p fp.exp = 0 := by
  have hp := lay.hp; have hp64 := lay.hp64
  refine ⟨by omega, Nat.div_eq_of_lt (Nat.lt_of_lt_of_le hm2 (Nat.pow_le_pow_right (by decide) ?_))⟩
  unfold shiftOf
  split <;> omega

/-- fields of a finite pattern `k·2^(p−1) + q` (`q` carries the hidden bit when `k > 0` or `q ≥ 2^(p−1)`). `hden`: `Layout` does not
speak of `F.C.denormalExponent`, which `Float::exponent` reads for a subnormal; for `f32`/`f64` it is supplied by
`Props.C01Slow.layout_of`, and it travels beside `lay` wherever `b`/`bh` are decoded. -/
theorem decode_kq {F p eb} (lay : Layout F p eb) (hden : F.C.denormalExponent = 1 - F.C.exponentBias)
    (k q : Nat) (h1 : 0 < k → 2 ^ (p - 1) ≤ q) (h2 : q < 2 * 2 ^ (p - 1))
    (hfin : k * 2 ^ (p - 1) + q ≤ F.fmt.infBits) :
    floatMantissa F (k * 2 ^ (p - 1) + q) = q ∧
    floatExponent F (k * 2 ^ (p - 1) + q) = (k : Int) + 1 - F.C.exponentBias := by
  have hfp : F.fmt.p = p := by rw [lay.fmt]
  have hfe : F.fmt.ebits = eb := by rw [lay.fmt]
  have hinf : F.fmt.infBits = (2 ^ eb - 1) * 2 ^ (p - 1) := by rw [lay.fmt]; rfl
  unfold floatMantissa floatExponent isDenormal Fmt.expField Fmt.manField
  rw [hfp, hfe, lay.hidden]
  rw [hinf] at hfin
  generalize hT : 2 ^ (p - 1) = T at *
  have hTpos : 0 < T := by rw [← hT]; exact Nat.two_pow_pos _
  by_cases hq : q < T
  · have hk0 : k = 0 := by
      apply Classical.byContradiction; intro hk; have := h1 (by omega); omega
    subst hk0
    simp only [Nat.zero_mul, Nat.zero_add]
    rw [Nat.div_eq_of_lt hq, Nat.zero_mod, Nat.mod_eq_of_lt hq]
    simp [hden]
  · have e1 : k * T + q = (k + 1) * T + (q - T) := by rw [Nat.add_mul]; omega
    have hqT : q - T < T := by omega
    have hdiv : (k * T + q) / T = k + 1 := by
      rw [e1, Nat.add_comm, Nat.add_mul_div_right _ _ hTpos, Nat.div_eq_of_lt hqT]; omega
    have hmod : (k * T + q) % T = q - T := by
      rw [e1, Nat.add_comm, Nat.add_mul_mod_self_right, Nat.mod_eq_of_lt hqT]
    have hk1 : k + 1 < 2 ^ eb := by
      apply Classical.byContradiction; intro hc
      have : 2 ^ eb * T ≤ (k + 1) * T := Nat.mul_le_mul_right T (by omega)
      have e2 : (2 ^ eb - 1) * T + T = 2 ^ eb * T := by
        have := Nat.two_pow_pos eb
        rw [← Nat.succ_mul]; congr 1; omega
      rw [e1] at hfin; omega
    rw [hdiv, hmod, Nat.mod_eq_of_lt (by omega)]
    have hne : ¬ (k + 1 = 0) := by omega
    simp only [hne, decide_false, Bool.false_eq_true, if_false]
    constructor
    · have : ((T : Nat) : Int).toNat = T := Int.toNat_natCast _
      rw [this]; omega
    · push_cast; ring

theorem cmp_mul_right (a b c : Nat) (hc : 0 < c) : compare (a * c) (b * c) = compare a b := by
  rcases Nat.lt_trichotomy a b with h | h | h
  · rw [Nat.compare_eq_lt.mpr h, Nat.compare_eq_lt.mpr (Nat.mul_lt_mul_of_pos_right h hc)]
  · subst h; rw [Nat.compare_eq_eq.mpr rfl, Nat.compare_eq_eq.mpr rfl]
  · rw [Nat.compare_eq_gt.mpr h, Nat.compare_eq_gt.mpr (Nat.mul_lt_mul_of_pos_right h hc)]

theorem cmp_scale (M t k j L : Nat) (be : Int) (hbe : be = (k : Int) + j - (L + 1)) :
    compare (M * 2 ^ (-be).toNat) (t * 2 ^ be.toNat) = compare (2 * (M * 2 ^ L)) (t * 2 ^ (k + j)) := by
  -- both sides times `2^x`, `x = L + 1 − a = k + j − c`
  have hx1 : (-be).toNat + (L + 1 - (-be).toNat) = L + 1 := by omega
  have hx2 : be.toNat + (L + 1 - (-be).toNat) = k + j := by omega
  rw [show 2 * (M * 2 ^ L) = M * 2 ^ (-be).toNat * 2 ^ (L + 1 - (-be).toNat) by
      rw [Nat.mul_assoc M, ← Nat.pow_add, hx1, Nat.pow_succ]; ring,
    show t * 2 ^ (k + j) = t * 2 ^ be.toNat * 2 ^ (L + 1 - (-be).toNat) by rw [Nat.mul_assoc t, ← Nat.pow_add, hx2],
    cmp_mul_right _ _ _ (Nat.two_pow_pos _)]

theorem bhOf_kq {F p eb} (lay : Layout F p eb) (hden : F.C.denormalExponent = 1 - F.C.exponentBias)
    (k q : Nat) (h1 : 0 < k → 2 ^ (p - 1) ≤ q) (h2 : q < 2 * 2 ^ (p - 1))
    (hfin : k * 2 ^ (p - 1) + q ≤ F.fmt.infBits) :
    bhOf F (k * 2 ^ (p - 1) + q) = ⟨2 * q + 1, (k : Int) - F.C.exponentBias⟩ := by
  obtain ⟨dm, de⟩ := decode_kq lay hden k q h1 h2 hfin
  unfold bhOf bOf
  rw [dm, de]
  dsimp only
  have hp64 := lay.hp64; have heb := lay.heb; have hp := lay.hp
  have hq : q < 2 ^ 62 := by
    have : 2 * 2 ^ (p - 1) ≤ 2 ^ 62 := by
      rw [← Nat.pow_succ']; exact Nat.pow_le_pow_right (by decide) (by omega)
    omega
  congr 1
  · unfold wrap64 shl64
    omega
  · omega


theorem ordUp_compare (a b : Nat) (isOdd : Bool) : ordUp (compare a b) isOdd = true ↔ b < a ∨ (b = a ∧ isOdd = true) := by
  rcases Nat.lt_trichotomy a b with h | h | h
  · rw [Nat.compare_eq_lt.mpr h]; simp only [ordUp, Bool.false_eq_true, false_iff]; omega
  · rw [Nat.compare_eq_eq.mpr h]; simp only [ordUp]; constructor
    · exact fun ho => Or.inr ⟨h.symm, ho⟩
    · rintro (hlt | ⟨_, ho⟩)
      · omega
      · exact ho
  · rw [Nat.compare_eq_gt.mpr h]; simp only [ordUp, true_iff]; exact Or.inl h

/-- under the **weak** bracket of the pipeline (`Props.C01.Bracket`) the correctly rounded value is `b` or its successor
(as bit patterns); it is the successor iff the value passes the threshold of `b + 1` (`le_roundNE_iff`), the midpoint
`(2q+1)·2^k` of the two — which is what the exact comparison with `b + h` and the parity of `q` say -/
theorem roundNE_of_weak_bracket {f : Fmt} (hf : WF f) {num den : Nat} (hd : 0 < den) (k q : Nat)
    (h1 : 0 < k → 2 ^ (f.p - 1) ≤ q) (h2 : q < 2 * 2 ^ (f.p - 1))
    (hfin : k * 2 ^ (f.p - 1) + q < f.infBits)
    (hlo : k * 2 ^ (f.p - 1) + q ≤ roundNE f num den) (hhi : roundNE f num den ≤ k * 2 ^ (f.p - 1) + q + 1) :
    roundNE f num den = encode f k
      (q + if ordUp (compare (2 * (num * 2 ^ L f)) ((2 * q + 1) * 2 ^ k * den)) (decide (q % 2 = 1)) then 1 else 0) := by
  have hi1 : ival f (k * 2 ^ (f.p - 1) + q) = q * 2 ^ k := ival_kq f k q h1 (by omega)
  have hi2 : ival f (k * 2 ^ (f.p - 1) + q + 1) = (q + 1) * 2 ^ k := by
    rw [Nat.add_assoc]; exact ival_kq f k (q + 1) (fun h0 => by have := h1 h0; omega) (by omega)
  have hmid : den * (ival f (k * 2 ^ (f.p - 1) + q) + ival f (k * 2 ^ (f.p - 1) + q + 1)) =
      (2 * q + 1) * 2 ^ k * den := by rw [hi1, hi2]; ring
  obtain ⟨t, hT, _⟩ := T_even hf
  have hpar : (k * 2 ^ (f.p - 1) + q + 1) % 2 = 0 ↔ q % 2 = 1 := by
    rw [hT, show k * (2 * t) = 2 * (k * t) by ring]; omega
  have enc0 : encode f k q = k * 2 ^ (f.p - 1) + q := encode_of_le_inf (Nat.le_of_lt hfin)
  have enc1 : encode f k (q + 1) = k * 2 ^ (f.p - 1) + q + 1 := encode_of_le_inf (show _ + (q + 1) ≤ _ from hfin)
  have key : k * 2 ^ (f.p - 1) + q + 1 ≤ roundNE f num den ↔
      ordUp (compare (2 * (num * 2 ^ L f)) ((2 * q + 1) * 2 ^ k * den)) (decide (q % 2 = 1)) = true := by
    rw [le_roundNE_iff hf num hd (b := k * 2 ^ (f.p - 1) + q + 1) (by omega) (by omega), Nat.add_sub_cancel, hmid,
      ordUp_compare, decide_eq_true_eq, hpar]
  split
  · rw [enc1]; have := key.mpr ‹_›; omega
  · rw [Nat.add_zero, enc0]; have := mt key.mp ‹_›; omega

/-- what `negative_digit_comp` and `byte_comp` use of the estimate `fp` and the value `num/den`: `fp` rounds down to the pattern
`b = k·2^(p−1) + q` (`bits`, `h1`, `qb`, `fin`); rounding `fp` with the outcome `ord` of a comparison gives `b` plus the increment `ord`
dictates (`round`); and `roundNE` of the value is `b` plus the increment of the comparison with `b + h` (`final`). `kb`: `k` comes from
`fp.exp < 2^20`, so the `i32` exponent `k − bias − e` does not wrap. Established by `roundFacts_of_weak` (`Proof.SlowRegimes`). -/
structure RoundFacts (F : FTy) (p : Nat) (fp : ExtendedFloat80) (num den k q : Nat) : Prop where
  bits : extendedToFloat F (round F fp roundDown) = k * 2 ^ (p - 1) + q
  h1 : 0 < k → 2 ^ (p - 1) ≤ q
  qb : q < 2 * 2 ^ (p - 1)
  fin : k * 2 ^ (p - 1) + q ≤ F.fmt.infBits
  kb : (k : Int) < 2 ^ 20 + 64
  round : ∀ ord : Ordering,
    0 ≤ (round F fp (fun f s => roundNearestTieEven f s (fun isOdd _ _ => ordUp ord isOdd))).exp ∧
    extendedToFloat F (round F fp (fun f s => roundNearestTieEven f s (fun isOdd _ _ => ordUp ord isOdd))) =
      encode F.fmt k (q + if ordUp ord (decide (q % 2 = 1)) then 1 else 0)
  final : roundNE F.fmt num den = encode F.fmt k
    (q + if ordUp (compare (2 * (num * 2 ^ L F.fmt)) ((2 * q + 1) * 2 ^ k * den)) (decide (q % 2 = 1)) then 1 else 0)

theorem encode_eq_min {F p eb} (lay : Layout F p eb) (k q : Nat) :
    encode F.fmt k q = min F.fmt.infBits (k * 2 ^ (p - 1) + q) := by
  unfold encode
  rw [lay.fmt]
  exact (Nat.min_def ..).symm

theorem roundFacts_tiny {F p eb} (lay : Layout F p eb) (fp : ExtendedFloat80) (hm2 : fp.mant < 2 ^ 64)
    (hp2 : -fp.exp + 1 > 64) {num den : Nat} (hd : 0 < den)
    (hhi : roundNE F.fmt num den ≤ extendedToFloat F (round F fp roundDown) + 1) :
    RoundFacts F p fp num den 0 0 := by
  have hp := lay.hp
  have hfp : F.fmt.p = p := by rw [lay.fmt]
  have hb := roundDown_tiny lay fp hm2 hp2
  have hT : 2 ≤ 2 ^ (p - 1) := Nat.pow_le_pow_right (n := 2) (by decide) (show 1 ≤ p - 1 by omega)
  have hinf : 2 ^ (p - 1) ≤ F.fmt.infBits := by
    rw [infBits_eq, hfp]
    exact Nat.le_mul_of_pos_left _ (by have := M_ge lay.wf; omega)
  rw [hb] at hhi
  refine ⟨by rw [hb, Nat.zero_mul], by omega, by omega, by omega, by omega, fun ord => ?_, ?_⟩
  · rw [round_tiny lay fp.mant fp.exp _ hm2 hp2]
    refine ⟨Int.le_refl _, ?_⟩
    have hu : upOf fp.mant 64 (fun isOdd _ _ => ordUp ord isOdd) = if ordUp ord (decide (0 % 2 = 1)) then 1 else 0 := by
      unfold upOf
      rw [Nat.div_eq_of_lt hm2]
    have hule := upOf_le fp.mant 64 (fun isOdd _ _ => ordUp ord isOdd)
    rw [hu] at hule ⊢
    generalize (if ordUp ord (decide (0 % 2 = 1)) then 1 else 0) = u at hule ⊢
    rw [ext_small lay u hule, encode_eq_min lay]
    omega
  · exact roundNE_of_weak_bracket lay.wf hd 0 0 (by omega) (by rw [hfp]; omega) (by rw [hfp]; omega) (by omega)
      (by omega)

theorem roundFacts_finite {F p eb} (lay : Layout F p eb) (fp : ExtendedFloat80) (hm1 : 2 ^ 63 ≤ fp.mant)
    (hm2 : fp.mant < 2 ^ 64) (hp2 : -fp.exp + 1 ≤ 64) (hfe : fp.exp < 2 ^ 20) {num den : Nat} (hd : 0 < den)
    (hfin : extendedToFloat F (round F fp roundDown) < F.fmt.infBits)
    (hlo : extendedToFloat F (round F fp roundDown) ≤ roundNE F.fmt num den)
    (hhi : roundNE F.fmt num den ≤ extendedToFloat F (round F fp roundDown) + 1) :
    RoundFacts F p fp num den (fp.exp + 64 - p - 1).toNat (fp.mant / 2 ^ shiftOf p fp.exp) := by
  have hp := lay.hp; have hp64 := lay.hp64; have heb := lay.heb
  have hfp : F.fmt.p = p := by rw [lay.fmt]
  obtain ⟨qa, qb, _, _, _⟩ := quot_bounds hp (by omega) hm1 hm2 fp.exp hp2
  have hb := round_down_bits lay fp hm1 hm2 hp2
  rw [encode_eq_min lay] at hb
  have hbits : extendedToFloat F (round F fp roundDown) =
      (fp.exp + 64 - p - 1).toNat * 2 ^ (p - 1) + fp.mant / 2 ^ shiftOf p fp.exp := by omega
  rw [hbits] at hfin hlo hhi
  refine ⟨hbits, fun h0 => (qa h0).2.1, qb, Nat.le_of_lt hfin, by omega, fun ord => ?_, ?_⟩
  · exact round_bits lay fp.mant fp.exp (fun isOdd _ _ => ordUp ord isOdd) hm1 hm2 hp2
  · have hw := roundNE_of_weak_bracket (num := num) lay.wf hd (fp.exp + 64 - p - 1).toNat (fp.mant / 2 ^ shiftOf p fp.exp)
    rw [hfp] at hw
    exact hw (fun h0 => (qa h0).2.1) qb hfin hlo hhi

/-- `b = +∞`: `bh(+∞)` is the hidden bit with the all-ones exponent field, `(2·2^(p−1) + 1)·2^(2^eb − 2 − bias)`
(`k = 2^eb − 2`, `q = 2^(p−1)`); whatever the comparison says, the final `round` overflows again -/
theorem roundFacts_inf {F p eb} (lay : Layout F p eb) (fp : ExtendedFloat80) (hm1 : 2 ^ 63 ≤ fp.mant)
    (hm2 : fp.mant < 2 ^ 64) (hp2 : -fp.exp + 1 ≤ 64) {num den : Nat} (hd : 0 < den)
    (hinf : extendedToFloat F (round F fp roundDown) = F.fmt.infBits)
    (hlo : extendedToFloat F (round F fp roundDown) ≤ roundNE F.fmt num den) :
    RoundFacts F p fp num den (2 ^ eb - 2) (2 ^ (p - 1)) := by
  have hT := Nat.two_pow_pos (p - 1)
  have heb4 : 2 ^ 2 ≤ 2 ^ eb := Nat.pow_le_pow_right (by decide) lay.heb
  have heb15' : 2 ^ eb ≤ 2 ^ 15 := Nat.pow_le_pow_right (by decide) lay.heb15
  have hkq : (2 ^ eb - 2) * 2 ^ (p - 1) + 2 ^ (p - 1) = F.fmt.infBits := by
    rw [lay.fmt, ← Nat.succ_mul]
    show _ = (2 ^ eb - 1) * 2 ^ (p - 1)
    congr 1
    omega
  have henc : ∀ x, encode F.fmt (2 ^ eb - 2) (2 ^ (p - 1) + x) = F.fmt.infBits := by
    intro x
    rw [encode_eq_min lay]
    omega
  have hval : roundNE F.fmt num den = F.fmt.infBits := by
    have := roundNE_le_infBits lay.wf num hd
    omega
  have hb := round_down_bits lay fp hm1 hm2 hp2
  rw [hinf, encode_eq_min lay] at hb
  refine ⟨by rw [hinf, hkq], fun _ => Nat.le_refl _, by omega, Nat.le_of_eq hkq, by omega, fun ord => ?_,
    by rw [hval, henc]⟩
  obtain ⟨r1, r2⟩ := round_bits lay fp.mant fp.exp (fun isOdd _ _ => ordUp ord isOdd) hm1 hm2 hp2
  refine ⟨r1, ?_⟩
  rw [r2, henc, encode_eq_min lay]
  omega

theorem roundFacts_final {F : FTy} {p : Nat} {fp : ExtendedFloat80} {num den k q : Nat} (rf : RoundFacts F p fp num den k q)
    {ord : Ordering} (h : ord = compare (2 * (num * 2 ^ L F.fmt)) ((2 * q + 1) * 2 ^ k * den)) :
    0 ≤ (Bellerophon.round F fp fun f s => roundNearestTieEven f s fun isOdd _ _ => ordUp ord isOdd).exp ∧
    extendedToFloat F (Bellerophon.round F fp fun f s => roundNearestTieEven f s fun isOdd _ _ => ordUp ord isOdd) =
      roundNE F.fmt num den := by
  obtain ⟨r1, r2⟩ := rf.round ord
  exact ⟨r1, by rw [r2, rf.final, h]⟩

/-- **`negative_digit_comp` as one equation**, even radix `radix = 2·h` (the radices with a digit limit): it computes the two
integers `T = (2q+1)·h^j·2^be⁺` and `R = M·2^be⁻` (`j = −e`, `be = k − bias − e`), each under the capacity check, compares
them and rounds the estimate accordingly. `hdbg`: a release build (with `debug_assertions` the model answers `none` where
a `debug_assert!` of `negative_digit_comp` fires); `hcap`, `hMfit`: `Bigint::from_u64(2q+1)` and `bigmant` are vectors. -/
theorem negativeDigitComp_fit {F p eb} (lay : Layout F p eb)
    (hden : F.C.denormalExponent = 1 - F.C.exponentBias) {E : Env} (hdbg : E.debug = false)
    {radix h : Nat} (hr : radix = 2 * h) (Th : BigPowOk E h) (T2 : BigPowOk E 2) (hcap : 1 ≤ E.L.bigintLimbs)
    {M : Nat} (hM : M ≠ 0) (hMfit : M < 2 ^ (64 * E.L.bigintLimbs)) (fp : ExtendedFloat80) {e : Int} (he : e < 0)
    (he' : -(2 ^ 28 : Int) < e) {k q : Nat} (rf : RoundFacts F p fp M (radix ^ (-e).toNat) k q) :
    negativeDigitComp E F radix M fp e =
      (fit E.L.bigintLimbs ((2 * q + 1) * h ^ (-e).toNat * 2 ^ ((k : Int) - F.C.exponentBias - e).toNat)).bind fun t =>
        (fit E.L.bigintLimbs (M * 2 ^ (-((k : Int) - F.C.exponentBias - e)).toNat)).map fun r =>
          round F fp fun f s => roundNearestTieEven f s fun isOdd _ _ => ordUp (compare r t) isOdd := by
  obtain ⟨hbits, h1, qb, hfin, hkb, -, -⟩ := rf
  have hp := lay.hp; have hp64 := lay.hp64
  have hbh := bhOf_kq lay hden k q h1 qb hfin
  have hB := lay.bias
  have hb1024 := lay.hb1024
  obtain ⟨j, hj⟩ : ∃ j : Nat, -e = (j : Int) := ⟨(-e).toNat, by omega⟩
  have hjn : (-e).toNat = j := by omega
  rw [hjn]
  generalize hbe : (k : Int) - F.C.exponentBias - e = be at *
  have hhalf : radix / 2 = h := by omega
  have hhpos : 0 < h := Th.pos
  have w1 : wrapI32 (-e) = (j : Int) := by rw [hj]; apply wrapI32_eq <;> omega
  have w2 : wrapI32 ((k : Int) - F.C.exponentBias - e) = be := by rw [hbe]; apply wrapI32_eq <;> omega
  have hq64 : 2 * q + 1 < 2 ^ (64 * E.L.bigintLimbs) := by
    have a : 2 * 2 ^ (p - 1) ≤ 2 ^ 62 := by
      rw [← Nat.pow_succ']; exact Nat.pow_le_pow_right (by decide) (by have := lay.heb; omega)
    have b : 2 ^ 64 ≤ 2 ^ (64 * E.L.bigintLimbs) := Nat.pow_le_pow_right (by decide) (by omega)
    omega
  unfold negativeDigitComp compareBig
  rw [hdbg]
  dsimp only
  rw [hbits, hbh]
  dsimp only
  simp only [Bool.false_and, Bool.false_eq_true, if_false, show radix % 2 = 0 by omega, if_true, w1, w2,
    show ¬ ((j : Int) = 0) by omega, not_false_eq_true, ne_eq, not_true_eq_false, hhalf, Option.bind_some]
  rw [asU32_ofNat (by omega) (by omega), Int.toNat_natCast, bigintPow_fit Th (by omega) hq64 j (by omega)]
  have hT0 : (2 * q + 1) * h ^ j ≠ 0 := Nat.mul_ne_zero (by omega) (Nat.ne_of_gt (Nat.pow_pos hhpos))
  -- `T` is built in two steps, `(2q+1)·h^j` first; of `T` and `R` one is shifted, by `|be|`
  refine fit_bind (Nat.le_mul_of_pos_right _ (Nat.two_pow_pos _)) fun hy => ?_
  by_cases hpos : be > 0
  · rw [if_pos hpos, asU32_ofNat (by omega) (by omega), bigintPow_fit T2 hT0 hy be.toNat (by omega),
      show (-be).toNat = 0 by omega, Nat.pow_zero, Nat.mul_one, fit_some hMfit]
    cases fit E.L.bigintLimbs ((2 * q + 1) * h ^ j * 2 ^ be.toNat) <;> rfl
  · rw [if_neg hpos, show be.toNat = 0 by omega, Nat.pow_zero, Nat.mul_one, fit_some hy, Option.bind_some]
    by_cases hneg : be < 0
    · rw [if_pos hneg, wrapI32_eq (by omega) (by omega), asU32_ofNat (by omega) (by omega),
        bigintPow_fit T2 hM hMfit _ (by omega)]
      cases fit E.L.bigintLimbs (M * 2 ^ (-be).toNat) <;> rfl
    · rw [if_neg hneg, show (-be).toNat = 0 by omega, Nat.pow_zero, Nat.mul_one, fit_some hMfit]
      rfl

/-- `hfitT`, `hfitR`: the capacity guard — both integers fit, so `negative_digit_comp` answers, and rightly: the comparison of
`R` with `T` is the comparison of the value with the midpoint (`cmp_scale`) -/
theorem negativeDigitComp_abstract {F p eb} (lay : Layout F p eb)
    (hden : F.C.denormalExponent = 1 - F.C.exponentBias) {E : Env} (hdbg : E.debug = false)
    {radix h : Nat} (hr : radix = 2 * h) (Th : BigPowOk E h) (T2 : BigPowOk E 2)
    {M : Nat} (hM : M ≠ 0) (fp : ExtendedFloat80) {e : Int} (he : e < 0) (he' : -(2 ^ 28 : Int) < e)
    {k q : Nat} (rf : RoundFacts F p fp M (radix ^ (-e).toNat) k q)
    (hfitT : (2 * q + 1) * h ^ (-e).toNat * 2 ^ ((k : Int) - F.C.exponentBias - e).toNat < 2 ^ (64 * E.L.bigintLimbs))
    (hfitR : M * 2 ^ (-((k : Int) - F.C.exponentBias - e)).toNat < 2 ^ (64 * E.L.bigintLimbs)) :
    ∃ r, negativeDigitComp E F radix M fp e = some r ∧ 0 ≤ r.exp ∧
      extendedToFloat F r = roundNE F.fmt M (radix ^ (-e).toNat) := by
  have hcap : 1 ≤ E.L.bigintLimbs := by
    apply Classical.byContradiction; intro hc
    rw [show E.L.bigintLimbs = 0 by omega] at hfitR
    have := Nat.mul_pos (Nat.pos_of_ne_zero hM) (Nat.two_pow_pos (-((k : Int) - F.C.exponentBias - e)).toNat)
    omega
  rw [negativeDigitComp_fit lay hden hdbg hr Th T2 hcap hM
    (Nat.lt_of_le_of_lt (Nat.le_mul_of_pos_right _ (Nat.two_pow_pos _)) hfitR) fp he he' rf, fit_some hfitT, fit_some hfitR]
  refine ⟨_, rfl, roundFacts_final rf ?_⟩
  obtain ⟨j, hj⟩ : ∃ j : Nat, -e = (j : Int) := ⟨(-e).toNat, by omega⟩
  rw [show (-e).toNat = j by omega, cmp_scale M ((2 * q + 1) * h ^ j) k j (L F.fmt) ((k : Int) - F.C.exponentBias - e)
    (by rw [lay.bias, L_eq lay]; have := lay.hb1024; have := lay.hp; omega), hr, Nat.mul_pow, Nat.pow_add]
  congr 1
  ring

/-- `b = +∞`: an estimate of a value of at least `2^(emax+1)` that `lemire` did not answer itself -/
theorem negativeDigitComp_inf {F p eb} (lay : Layout F p eb)
    (hden : F.C.denormalExponent = 1 - F.C.exponentBias) {E : Env} (hdbg : E.debug = false)
    {radix h : Nat} (hr : radix = 2 * h) (Th : BigPowOk E h) (T2 : BigPowOk E 2)
    {M : Nat} (hM : M ≠ 0) (fp : ExtendedFloat80) (hm1 : 2 ^ 63 ≤ fp.mant) (hm2 : fp.mant < 2 ^ 64)
    (hp2 : -fp.exp + 1 ≤ 64) {e : Int} (he : e < 0) (he' : -(2 ^ 28 : Int) < e)
    (hov : F.fmt.infBits ≤ (fp.exp + 64 - p - 1).toNat * 2 ^ (p - 1) + fp.mant / 2 ^ shiftOf p fp.exp)
    (hval : roundNE F.fmt M (radix ^ (-e).toNat) = F.fmt.infBits)
    (hfitT : (2 * 2 ^ (p - 1) + 1) * h ^ (-e).toNat * 2 ^ (((2 ^ eb - 2 : Nat) : Int) - F.C.exponentBias - e).toNat <
      2 ^ (64 * E.L.bigintLimbs))
    (hfitR : M * 2 ^ (-(((2 ^ eb - 2 : Nat) : Int) - F.C.exponentBias - e)).toNat < 2 ^ (64 * E.L.bigintLimbs)) :
    ∃ r, negativeDigitComp E F radix M fp e = some r ∧ 0 ≤ r.exp ∧
      extendedToFloat F r = roundNE F.fmt M (radix ^ (-e).toNat) := by
  have hinf : extendedToFloat F (round F fp roundDown) = F.fmt.infBits := by
    rw [round_down_bits lay fp hm1 hm2 hp2, encode_eq_min lay]
    omega
  have hrad : 0 < radix := by have := Th.pos; omega
  exact negativeDigitComp_abstract lay hden hdbg hr Th T2 hM fp he he'
    (roundFacts_inf lay fp hm1 hm2 hp2 (Nat.pow_pos hrad) hinf (by rw [hinf, hval])) hfitT hfitR

end LexVerif.Proof.Slow
