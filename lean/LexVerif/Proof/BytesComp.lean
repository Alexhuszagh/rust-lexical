import LexVerif.Proof.BytesCompare
import LexVerif.Proof.BytesMul
import LexVerif.Proof.SlowRegimes
/-!
# Proof.BytesComp — `byte_comp` composed

`byte_comp(number, fp, sci_exp)`: round the estimate down to `b`, take `b + h = m·2^te`, build `num/den = (b + h) / radix^sci`
as two big integers with exponents (`Bigfloat::pow`, `large_mul`), shift the denominator so that its top limb has
`integral_binary_factor(radix)` leading zeros **modulo 32** (`den_top`: its top limb then lies in `[2^25, 2^(64−wlz))`), align
the exponents by shifting the numerator, or the numerator by bits and the denominator by whole limbs (`alignL_spec`), run
`compare_bytes`, and round the estimate with the outcome.
-/

namespace LexVerif.Proof.Slow

open LexVerif.Spec LexVerif.Model LexVerif.Model.Slow LexVerif.Model.Bellerophon

open LexVerif.Proof.RoundNE LexVerif.Proof.ExtRound LexVerif.Proof.BinaryCorrect LexVerif.Proof.Wrap

theorem bitlen_valL_snoc {zs : Limbs} {t : Nat} (hz : Normalized (zs ++ [t])) :
    bitlen (valL (zs ++ [t])) = 64 * zs.length + bitlen t := by
  have hzs := valL_lt (limbsOk_append.mp hz.1).1
  have ht0 : t ≠ 0 := hz.2 t (by simp)
  have l := bitlen_lower ht0
  have u := bitlen_upper t
  have p := bitlen_pos ht0
  rw [valL_append]
  rw [B64_pow] at hzs ⊢
  apply bitlen_unique (by omega)
  · rw [show 64 * zs.length + bitlen t - 1 = 64 * zs.length + (bitlen t - 1) by omega, Nat.pow_add]
    exact Nat.le_trans (Nat.mul_le_mul_left _ l) (Nat.le_add_left _ _)
  · rw [Nat.pow_add]
    have : 2 ^ (64 * zs.length) * (t + 1) ≤ 2 ^ (64 * zs.length) * 2 ^ bitlen t := Nat.mul_le_mul_left _ u
    rw [Nat.mul_add, Nat.mul_one] at this
    omega

/-- **the normalisation shift of the denominator**: after `shl_bits((clz(top) − wlz) & 31)` the top limb has `wlz` or
`wlz + 32` leading zeros -/
theorem den_top {ds : Limbs} {t : Nat} (hD : Normalized (ds ++ [t])) (wlz : Nat) (hw1 : 1 ≤ wlz) (hw6 : wlz ≤ 6)
    (D1 : Limbs) (hD1 : Normalized D1)
    (hv : valL D1 = valL (ds ++ [t]) * 2 ^ ((clz64 t + 2 ^ 32 - wlz) % 2 ^ 32 % 32)) :
    ∃ ds1 t1, D1 = ds1 ++ [t1] ∧ 2 ^ 25 ≤ t1 ∧ t1 + 1 ≤ 2 ^ (64 - wlz) := by
  have ht : t < 2 ^ 64 := hD.1 t (by simp)
  have ht0 : t ≠ 0 := hD.2 t (by simp)
  have hpos := valL_pos hD (by simp)
  have hb := congrArg bitlen hv
  rw [bitlen_mul_pow (Nat.ne_of_gt hpos), bitlen_valL_snoc hD] at hb
  have hclz : clz64 t = 64 - bitlen t := by unfold clz64; rw [Nat.mod_eq_of_lt ht]
  have hbt := (bitlen_le_iff _ _).mpr ht
  have hbt0 := bitlen_pos ht0
  rcases eq_nil_or_snoc D1 with h0 | ⟨ds1, t1, rfl⟩
  · rw [h0] at hv
    have := Nat.mul_pos hpos (Nat.two_pow_pos ((clz64 t + 2 ^ 32 - wlz) % 2 ^ 32 % 32))
    simp only [valL] at hv
    omega
  have ht1 : t1 < 2 ^ 64 := hD1.1 t1 (by simp)
  have ht10 : t1 ≠ 0 := hD1.2 t1 (by simp)
  rw [bitlen_valL_snoc hD1] at hb
  have h1 := (bitlen_le_iff _ _).mpr ht1
  have h0 := bitlen_pos ht10
  have l := bitlen_lower ht10
  have u := bitlen_upper t1
  -- the top limb of the result has `64 − wlz` or `32 − wlz` bits
  have hcase : bitlen t1 = 64 - wlz ∨ bitlen t1 = 32 - wlz := by omega
  refine ⟨ds1, t1, rfl, ?_, ?_⟩
  · have : 2 ^ 25 ≤ 2 ^ (bitlen t1 - 1) := Nat.pow_le_pow_right (by decide) (by omega)
    omega
  · have : 2 ^ bitlen t1 ≤ 2 ^ (64 - wlz) := Nat.pow_le_pow_right (by decide) (by omega)
    omega

theorem cmp_scale2 (a b a' b' U W : Nat) (hU : 0 < U) (hW : 0 < W) (ha : a * U = a' * W) (hb : b * U = b' * W) :
    compare a b = compare a' b' := by
  rw [← cmp_mul_right a b U hU, ha, hb, cmp_mul_right a' b' W hW]

theorem pow_scale (S r a u b v : Nat) : S * r ^ a * 2 ^ b * (r ^ u * 2 ^ v) = S * r ^ (a + u) * 2 ^ (b + v) := by
  rw [Nat.pow_add, Nat.pow_add]; ring

theorem cmp_pow_shift {r : Nat} (hr : 0 < r) (A B a1 a2 b1 b2 c1 c2 d1 d2 : Nat) (ha : a1 + c2 = c1 + a2)
    (hb : b1 + d2 = d1 + b2) :
    compare (A * r ^ a1 * 2 ^ b1) (B * r ^ a2 * 2 ^ b2) = compare (A * r ^ c1 * 2 ^ d1) (B * r ^ c2 * 2 ^ d2) := by
  apply cmp_scale2 _ _ _ _ (r ^ (c1 + c2) * 2 ^ (d1 + d2)) (r ^ (a1 + c2) * 2 ^ (b1 + d2))
    (Nat.mul_pos (Nat.pow_pos hr) (Nat.two_pow_pos _)) (Nat.mul_pos (Nat.pow_pos hr) (Nat.two_pow_pos _))
  · rw [pow_scale, pow_scale, show a1 + (c1 + c2) = c1 + (a1 + c2) by omega,
      show b1 + (d1 + d2) = d1 + (b1 + d2) by omega]
  · rw [pow_scale, pow_scale, show a2 + (c1 + c2) = c2 + (a1 + c2) by omega,
      show b2 + (d1 + d2) = d2 + (b1 + d2) by omega]

/-- **the digit comparison is the comparison of the value with `b + h`**: `X/Y = m·2^te / r^sci` (cross-multiplied,
`hXY`, with `sci = s1 − s2`, `te = t1 − t2 = k − (L + 1)`), the value is `S·r^(sci + 1 − N)` -/
theorem cmp_transfer (S r m N k L X Y s1 s2 t1 t2 : Nat) (sci : Int) (hr : 0 < r) (hY : 0 < Y)
    (hs : (s1 : Int) - s2 = sci) (ht : (t1 : Int) - t2 = (k : Int) - (L + 1))
    (hXY : X * (r ^ s1 * 2 ^ t2) = Y * (m * 2 ^ t1 * r ^ s2)) :
    compare (S * Y * r) (X * r ^ N) =
      compare (2 * ((powFrac r (sci + 1 - N) S).1 * 2 ^ L)) (m * 2 ^ k * (powFrac r (sci + 1 - N) S).2) := by
  rw [powFrac_toNat]
  dsimp only
  -- of the positive and negative part of `sci + 1 − N` only the difference matters
  have q1 := Int.toNat_sub_toNat_neg (sci + 1 - (N : Int))
  generalize (sci + 1 - (N : Int)).toNat = e1 at q1 ⊢
  generalize (-(sci + 1 - (N : Int))).toNat = e2 at q1 ⊢
  -- first `X`, `Y` are eliminated: both sides times `r^s1·2^t2`, which turns `X` into a multiple of `Y`
  have step1 : compare (S * Y * r) (X * r ^ N) = compare (S * r ^ (1 + s1) * 2 ^ t2) (m * r ^ (s2 + N) * 2 ^ t1) := by
    apply cmp_scale2 _ _ _ _ (r ^ s1 * 2 ^ t2) Y (Nat.mul_pos (Nat.pow_pos hr) (Nat.two_pow_pos _)) hY
    · rw [Nat.pow_add, Nat.pow_one]; ring
    · calc X * r ^ N * (r ^ s1 * 2 ^ t2) = (X * (r ^ s1 * 2 ^ t2)) * r ^ N := by ring
        _ = (Y * (m * 2 ^ t1 * r ^ s2)) * r ^ N := by rw [hXY]
        _ = _ := by rw [Nat.pow_add]; ring
  rw [step1, Nat.mul_comm 2, Nat.mul_assoc _ (2 ^ L), ← Nat.pow_succ, Nat.mul_right_comm m (2 ^ k)]
  refine cmp_pow_shift hr S m _ _ _ _ _ _ _ _ ?_ ?_ <;> omega

/-- The `let` blocks of `Model.Slow.byteComp` under names (`byteComp_eq` is `rfl`), so that each has its own lemma.
Numerator and denominator of `(b + h) / radix^sci`: -/
def pairL (cap : Nat) (sciExp : Int) (theor factor : BF) : Option (BF × BF) :=
  if sciExp < 0 then
    (largeMulL cap factor.data theor.data).map fun d => (⟨d, factor.exp⟩, ⟨fromU64L 1, -theor.exp⟩)
  else some (theor, factor)

def normDenL (cap wlz : Nat) (den : BF) : Option BF :=
  let nlz := (leadingZerosL den.data + 2 ^ 32 - wlz) % 2 ^ 32 % 32
  if nlz ≠ 0 then (shlBitsL cap den.data nlz).map fun d => ⟨d, den.exp - nlz⟩ else some den

def alignL (cap : Nat) (num den : BF) : Option (BF × BF) :=
  let diff := wrapI32 (den.exp - num.exp)
  let shift := diff.natAbs
  if diff < 0 then (shlL cap num.data shift).map fun d => (⟨d, num.exp - shift⟩, den)
  else if diff > 0 then
    let q := if shift % 64 = 0 then shift / 64 else shift / 64 + 1
    let r := if shift % 64 = 0 then 0 else 64 - shift % 64
    let num1 : Option BF := if r ≠ 0 then (shlBitsL cap num.data r).map fun d => ⟨d, num.exp - r⟩ else some num
    num1.bind fun num =>
      if q ≠ 0 then (shlLimbsL cap den.data q).map fun d => (num, ⟨d, den.exp - 64 * q⟩) else some (num, den)
  else some (num, den)

theorem byteComp_eq (E : Env) (F : FTy) (radix : Nat) (integer : List Nat) (fraction : Option (List Nat))
    (fp : ExtendedFloat80) (sciExp : Int) :
    byteComp E F radix integer fraction fp sciExp =
      if E.debug && fp.mant / 2 ^ 63 % 2 = 0 then none else
      let cap := E.L.bigfloatBits / E.L.limbBits
      let bh := bhOf F (extendedToFloat F (round F fp roundDown))
      (bigfloatPow E cap ⟨fromU64L 1, 0⟩ radix sciExp.natAbs).bind fun factor =>
        (pairL cap sciExp ⟨fromU64L bh.mant, bh.exp⟩ factor).bind fun nd =>
          (normDenL cap (E.L.integralBinaryFactor radix) nd.2).bind fun den =>
            (alignL cap nd.1 den).bind fun nd2 =>
              (compareBytes cap radix integer fraction nd2.1.data nd2.2.data).map fun ord =>
                round F fp fun f s => roundNearestTieEven f s fun isOdd _ _ => ordUp ord isOdd := rfl

theorem leadingZerosL_snoc (ds : Limbs) (t : Nat) : leadingZerosL (ds ++ [t]) = clz64 t := by
  unfold leadingZerosL; simp

theorem normDenL_spec {cap wlz : Nat} (hw1 : 1 ≤ wlz) (hw6 : wlz ≤ 6) {den d1 : BF} (hn : Normalized den.data)
    (hne : den.data ≠ []) (hl : den.data.length ≤ cap) (h : normDenL cap wlz den = some d1) :
    ∃ nlz : Nat, nlz < 32 ∧ d1.exp = den.exp - nlz ∧ Normalized d1.data ∧ valL d1.data = valL den.data * 2 ^ nlz ∧
      d1.data.length ≤ cap ∧ ∃ ds1 t1, d1.data = ds1 ++ [t1] ∧ 2 ^ 25 ≤ t1 ∧ t1 + 1 ≤ 2 ^ (64 - wlz) := by
  rcases eq_nil_or_snoc den.data with h0 | ⟨ds, t, hdt⟩
  · exact absurd h0 hne
  unfold normDenL at h
  rw [hdt, leadingZerosL_snoc] at h
  dsimp only at h
  generalize hnlz : (clz64 t + 2 ^ 32 - wlz) % 2 ^ 32 % 32 = nlz at h
  have hlt : nlz < 32 := by rw [← hnlz]; exact Nat.mod_lt _ (by decide)
  refine ⟨nlz, hlt, ?_⟩
  by_cases h0 : nlz = 0
  · rw [if_neg (by simpa using h0)] at h
    injection h with h; subst h
    refine ⟨by rw [h0]; simp, hn, by rw [h0]; simp, hl, ?_⟩
    exact den_top (by rw [← hdt]; exact hn) wlz hw1 hw6 den.data hn (by rw [hnlz, h0, hdt]; simp)
  · rw [if_pos h0] at h
    obtain ⟨D1, hD1, hd1⟩ := Option.map_eq_some_iff.mp h
    subst hd1
    rw [← hdt] at hD1
    have c := (shlBitsL_carried (cap := cap) hn.1 hl (Nat.pos_of_ne_zero h0) (by omega : nlz < 64)).1 D1 hD1
    have n1 := c.norm (valL_ge_mul hn (Nat.two_pow_pos _))
    refine ⟨rfl, n1, c.val, c.le, ?_⟩
    exact den_top (by rw [← hdt]; exact hn) wlz hw1 hw6 D1 n1 (by rw [hnlz, c.val, hdt])

/-- the aligned pair: the numerator shifted by `s1` bits, the denominator by `s2` bits (whole limbs: its top limb is
kept), `s1 − s2` the difference of the exponents -/
theorem alignL_spec {cap : Nat} {num den : BF} {nd2 : BF × BF} (hN : Normalized num.data) (hNne : num.data ≠ [])
    (hNl : num.data.length ≤ cap) (hD : Normalized den.data) (hDne : den.data ≠ [])
    (he1 : -(2 ^ 30 : Int) < num.exp ∧ num.exp < 2 ^ 30) (he2 : -(2 ^ 30 : Int) < den.exp ∧ den.exp < 2 ^ 30)
    (h : alignL cap num den = some nd2) :
    ∃ s1 s2 qq : Nat, Normalized nd2.1.data ∧ valL nd2.1.data = valL num.data * 2 ^ s1 ∧
      nd2.2.data = List.replicate qq 0 ++ den.data ∧ valL nd2.2.data = valL den.data * 2 ^ s2 ∧
      (qq ≠ 0 → qq + den.data.length ≤ cap) ∧ (s1 : Int) - s2 = num.exp - den.exp := by
  have hw : wrapI32 (den.exp - num.exp) = den.exp - num.exp := wrapI32_eq (by omega) (by omega)
  unfold alignL at h
  rw [hw] at h
  dsimp only at h
  by_cases hneg : den.exp - num.exp < 0
  · rw [if_pos hneg] at h
    obtain ⟨d, hd, rfl⟩ := Option.map_eq_some_iff.mp h
    obtain ⟨n1, v1⟩ := (shlL_spec (cap := cap) hN hNne hNl (den.exp - num.exp).natAbs).1 d hd
    exact ⟨(den.exp - num.exp).natAbs, 0, 0, n1, v1, by simp, by simp, fun h => absurd rfl h, by omega⟩
  · rw [if_neg hneg] at h
    by_cases hpos : den.exp - num.exp > 0
    · rw [if_pos hpos] at h
      generalize hsh : (den.exp - num.exp).natAbs = shift at h
      have hshift : (shift : Int) = den.exp - num.exp := by omega
      generalize hq : (if shift % 64 = 0 then shift / 64 else shift / 64 + 1) = qq at h
      generalize hr : (if shift % 64 = 0 then 0 else 64 - shift % 64) = rr at h
      have hqr : 64 * qq = shift + rr ∧ rr < 64 := by
        have := Nat.div_add_mod shift 64
        by_cases hm : shift % 64 = 0
        · rw [if_pos hm] at hq hr; omega
        · rw [if_neg hm] at hq hr
          have := Nat.mod_lt shift (show 0 < 64 by decide)
          omega
      obtain ⟨num1, hn1, h⟩ := Option.bind_eq_some_iff.mp h
      have hnum1 : Normalized num1.data ∧ valL num1.data = valL num.data * 2 ^ rr := by
        by_cases hr0 : rr = 0
        · rw [if_neg (by simpa using hr0)] at hn1
          injection hn1 with hn1; subst hn1
          exact ⟨hN, by rw [hr0]; simp⟩
        · rw [if_pos hr0] at hn1
          obtain ⟨d, hd, rfl⟩ := Option.map_eq_some_iff.mp hn1
          exact (shlBitsL_spec (cap := cap) hN hNl (Nat.pos_of_ne_zero hr0) hqr.2).1 d hd
      by_cases hq0 : qq = 0
      · rw [if_neg (by simpa using hq0)] at h
        injection h with h; subst h
        exact ⟨rr, 0, 0, hnum1.1, hnum1.2, by simp, by simp, fun h => absurd rfl h, by omega⟩
      · rw [if_pos hq0] at h
        obtain ⟨d, hd, rfl⟩ := Option.map_eq_some_iff.mp h
        obtain ⟨hd, hcap⟩ := (shlLimbsL_spec hD hDne qq).1 d hd
        refine ⟨rr, 64 * qq, qq, hnum1.1, hnum1.2, hd, ?_, fun _ => hcap, by omega⟩
        rw [hd, valL_zeros_append, B64_pow, Nat.mul_comm]
    · rw [if_neg hpos] at h
      injection h with h; subst h
      exact ⟨0, 0, 0, hN, by simp, by simp, by simp, fun h => absurd rfl h, by omega⟩

structure ByteTables (E : Env) (r : Nat) : Prop where
  dbg : E.debug = false
  r2 : 2 ≤ r
  split : E.L.splitRadix r = (r, 0)
  pow : PowOkL E (E.L.bigfloatBits / E.L.limbBits) r
  cap1 : 1 ≤ E.L.bigfloatBits / E.L.limbBits
  w1 : 1 ≤ E.L.integralBinaryFactor r
  w6 : E.L.integralBinaryFactor r ≤ 6
  wr : r + 1 ≤ 2 ^ E.L.integralBinaryFactor r

theorem normalized_single {m : Nat} (h0 : m ≠ 0) (hB : m < B64) : Normalized [m] :=
  ⟨fun l hl => by simp at hl; rw [hl]; exact hB, fun l hl => by simp at hl; rw [← hl]; exact h0⟩

theorem fromU64L_ne {m : Nat} (h0 : m ≠ 0) : fromU64L m = [m] := by unfold fromU64L; rw [if_neg h0]

theorem bigfloatPow_one {E : Env} {r : Nat} (T : ByteTables E r) (j : Nat) {f : BF}
    (h : bigfloatPow E (E.L.bigfloatBits / E.L.limbBits) ⟨fromU64L 1, 0⟩ r j = some f) :
    f.exp = 0 ∧ Normalized f.data ∧ valL f.data = r ^ j ∧ f.data.length ≤ E.L.bigfloatBits / E.L.limbBits ∧
      f.data ≠ [] := by
  unfold bigfloatPow at h
  rw [T.split] at h
  have hr0 : r ≠ 0 := by have := T.r2; omega
  simp only [hr0, ne_eq, not_false_eq_true, if_true, not_true_eq_false, if_false] at h
  obtain ⟨d, hd, rfl⟩ := Option.map_eq_some_iff.mp h
  rw [fromU64L_ne (by decide : (1 : Nat) ≠ 0)] at hd
  obtain ⟨n1, v1, l1, ne1⟩ := (powOddL_spec T.pow (x := [1]) (normalized_single (by decide) one_lt_B64)
    (by simp) (by simpa using T.cap1) j).1 d hd
  exact ⟨rfl, n1, by rw [v1]; simp [valL], l1, ne1⟩

/-- numerator and denominator of `m·2^te / r^sci`, given the power `r^|sci|`: two normalised non-empty vectors with
`num/den · 2^(num.exp − den.exp) = m·2^te / r^sci`, one of the two exponents zero -/
theorem pairL_spec {cap r m : Nat} {sci te : Int} {factor : BF} {nd : BF × BF} (hm0 : m ≠ 0) (hmB : m < B64)
    (hc1 : 1 ≤ cap) (fe : factor.exp = 0) (fn : Normalized factor.data) (fne : factor.data ≠ [])
    (fl : factor.data.length ≤ cap) (fv : valL factor.data = r ^ sci.natAbs)
    (h : pairL cap sci ⟨[m], te⟩ factor = some nd) :
    Normalized nd.1.data ∧ nd.1.data ≠ [] ∧ nd.1.data.length ≤ cap ∧
    Normalized nd.2.data ∧ nd.2.data ≠ [] ∧ nd.2.data.length ≤ cap ∧
    nd.1.exp - nd.2.exp = te ∧ (nd.1.exp = 0 ∨ nd.2.exp = 0) ∧
    valL nd.1.data * r ^ sci.toNat = valL nd.2.data * (m * r ^ (-sci).toNat) := by
  unfold pairL at h
  by_cases hneg : sci < 0
  · rw [if_pos hneg] at h
    obtain ⟨d, hd, rfl⟩ := Option.map_eq_some_iff.mp h
    obtain ⟨nd1, vd, ld⟩ := (smallMulL_full fn fl hm0 hmB).1 d hd
    have hpos : 0 < valL d := by rw [vd]; exact Nat.mul_pos (valL_pos fn fne) (Nat.pos_of_ne_zero hm0)
    rw [fromU64L_ne (by decide : (1 : Nat) ≠ 0)]
    refine ⟨nd1, ne_nil_of_valL_pos hpos, ld, normalized_single (by decide) one_lt_B64, by simp, hc1,
      by simp only [fe]; omega, Or.inl fe, ?_⟩
    rw [vd, fv, show sci.toNat = 0 by omega, show (-sci).toNat = sci.natAbs by omega]
    simp only [valL, Nat.mul_zero, Nat.add_zero, Nat.pow_zero, Nat.mul_one, Nat.mul_comm]
  · rw [if_neg hneg] at h
    injection h with h
    subst h
    refine ⟨normalized_single hm0 hmB, by simp, hc1, fn, fne, fl, by simp only [fe]; omega, Or.inr fe, ?_⟩
    rw [fv, show sci.toNat = sci.natAbs by omega, show (-sci).toNat = 0 by omega]
    simp only [valL, Nat.mul_zero, Nat.add_zero, Nat.pow_zero, Nat.mul_one, Nat.mul_comm]

/-- **`byte_comp`**: if it returns (no capacity panic), it returns the estimate rounded according to the exact comparison
of the digits with `b + h`, i.e. `roundNE` of the value. `RF`: the facts about the estimate (`roundFacts_of_weak`);
`hX`: `(b + h) / r^sci < r + 1` — the first generated "digit" is at most `r`. -/
theorem byteComp_spec {E : Env} {F : FTy} {p eb : Nat} (lay : Layout F p eb)
    (hden : F.C.denormalExponent = 1 - F.C.exponentBias) {r : Nat} (T : ByteTables E r)
    (integer : List Nat) (fraction : Option (List Nat)) (hbi : ∀ c ∈ integer, c < 256)
    (hbf : ∀ fr, fraction = some fr → ∀ c ∈ fr, c < 256) (hne : sigBytes integer fraction ≠ [])
    (hvd : ValidDigits r (sigBytes integer fraction))
    (fp : ExtendedFloat80) (sci : Int) (k q : Nat)
    (RF : RoundFacts F p fp
      (powFrac r (sci + 1 - ((sigBytes integer fraction).length : Int)) (ofDigits r (dv r (sigBytes integer fraction)))).1
      (powFrac r (sci + 1 - ((sigBytes integer fraction).length : Int)) (ofDigits r (dv r (sigBytes integer fraction)))).2
      k q)
    (hX : (2 * q + 1) * 2 ^ ((k : Int) - F.C.exponentBias).toNat * r ^ (-sci).toNat <
      (r + 1) * (r ^ sci.toNat * 2 ^ (-((k : Int) - F.C.exponentBias)).toNat))
    {res : ExtendedFloat80} (h : byteComp E F r integer fraction fp sci = some res) :
    0 ≤ res.exp ∧ extendedToFloat F res = roundNE F.fmt
      (powFrac r (sci + 1 - ((sigBytes integer fraction).length : Int)) (ofDigits r (dv r (sigBytes integer fraction)))).1
      (powFrac r (sci + 1 - ((sigBytes integer fraction).length : Int)) (ofDigits r (dv r (sigBytes integer fraction)))).2 := by
  have hr2 := T.r2
  have hr0 : 0 < r := by omega
  have hw6 := T.w6
  have hbiasL : (F.C.exponentBias : Int) = (L F.fmt : Int) + 1 := by
    rw [lay.bias, L_eq lay]
    have := lay.hL127
    omega
  have hbias := bias_bounds lay
  rw [byteComp_eq, T.dbg] at h
  simp only [Bool.false_and, Bool.false_eq_true, if_false] at h
  rw [RF.bits, bhOf_kq lay hden k q RF.h1 RF.qb RF.fin] at h
  dsimp only at h
  have hc1 := T.cap1
  generalize hcap : E.L.bigfloatBits / E.L.limbBits = cap at *
  generalize hte : (k : Int) - F.C.exponentBias = te at *
  have htb : -(2 ^ 11 : Int) < te ∧ te < 2 ^ 21 := by have := RF.kb; omega
  have hm0 : 2 * q + 1 ≠ 0 := Nat.succ_ne_zero _
  have hmB : 2 * q + 1 < B64 := by
    have : 2 * 2 ^ (p - 1) ≤ 2 ^ 62 := by
      rw [← Nat.pow_succ']; exact Nat.pow_le_pow_right (by decide) (by have := lay.hp64; have := lay.heb; omega)
    have := RF.qb
    rw [B64_eq]
    omega
  rw [fromU64L_ne hm0] at h
  obtain ⟨factor, hf, h⟩ := Option.bind_eq_some_iff.mp h
  obtain ⟨nd, hnd, h⟩ := Option.bind_eq_some_iff.mp h
  obtain ⟨d1, hd1, h⟩ := Option.bind_eq_some_iff.mp h
  obtain ⟨nd2, hal, h⟩ := Option.bind_eq_some_iff.mp h
  obtain ⟨ord, hcb, hres⟩ := Option.map_eq_some_iff.mp h
  obtain ⟨fe, fn, fv, fl, fne⟩ := bigfloatPow_one T sci.natAbs (by rw [hcap]; exact hf)
  rw [hcap] at fl
  obtain ⟨pN, pNne, pNl, pD, pDne, pDl, pexp, pz, prel⟩ := pairL_spec hm0 hmB hc1 fe fn fne fl fv hnd
  -- of the positive and negative parts of `sci` and `te` only the differences matter
  have qs := Int.toNat_sub_toNat_neg sci
  have qt := Int.toNat_sub_toNat_neg te
  generalize sci.toNat = sp at qs hX prel
  generalize (-sci).toNat = sn at qs hX prel
  generalize te.toNat = tp at qt hX
  generalize (-te).toNat = tn at qt hX
  obtain ⟨nlz, hnlz, d1e, d1n, d1v, d1l, ds1, t1, hd1s, ht25, ht64⟩ := normDenL_spec T.w1 hw6 pD pDne pDl hd1
  have d1ne : d1.data ≠ [] := by rw [hd1s]; simp
  obtain ⟨s1, s2, qq, aN, aNv, aD, aDv, aDl, hs⟩ := alignL_spec (num := nd.1) (den := d1) pN pNne pNl d1n d1ne
    (by rcases pz with h | h <;> constructor <;> omega) (by rcases pz with h | h <;> constructor <;> omega) hal
  -- the divisor is in the range `compare_bytes` needs
  have hwpow : 2 ^ E.L.integralBinaryFactor r * 2 ^ (64 - E.L.integralBinaryFactor r) = B64 := by
    unfold B64; rw [← Nat.pow_add]; congr 1; omega
  have hr64 : r + 1 ≤ 64 := by
    have : 2 ^ E.L.integralBinaryFactor r ≤ 2 ^ 6 := Nat.pow_le_pow_right (by decide) hw6
    have := T.wr
    omega
  have D : DenOk cap r nd2.2.data := by
    refine ⟨?_, ⟨List.replicate qq 0 ++ ds1, t1, by rw [aD, hd1s, List.append_assoc], by omega, ?_⟩, ?_, hr2⟩
    · rw [aD]
      exact normalized_zeros_append d1n d1ne qq
    · calc (r + 1) * (t1 + 1) ≤ 2 ^ E.L.integralBinaryFactor r * 2 ^ (64 - E.L.integralBinaryFactor r) :=
            Nat.mul_le_mul T.wr ht64
        _ = B64 := hwpow
    · rw [aD]
      simp only [List.length_append, List.length_replicate]
      by_cases hq0 : qq = 0
      · rw [hq0]; omega
      · exact aDl hq0
  -- the ratio: the shifts `s1`, `s2 + nlz` differ by `te`
  have hexp : s1 + tn = s2 + nlz + tp := by omega
  have hXY : valL nd2.1.data * (r ^ sp * 2 ^ tn) = valL nd2.2.data * ((2 * q + 1) * 2 ^ tp * r ^ sn) := by
    rw [aNv, aDv, d1v]
    calc valL nd.1.data * 2 ^ s1 * (r ^ sp * 2 ^ tn)
        = valL nd.1.data * r ^ sp * 2 ^ (s1 + tn) := by rw [Nat.pow_add]; ring
      _ = valL nd.2.data * ((2 * q + 1) * r ^ sn) * 2 ^ (s2 + nlz + tp) := by rw [prel, hexp]
      _ = _ := by rw [Nat.pow_add, Nat.pow_add]; ring
  have hYpos : 0 < valL nd2.2.data := (denOk_facts D).1
  have N : NumOk r nd2.2.data nd2.1.data := by
    refine ⟨aN, ?_⟩
    apply Nat.lt_of_mul_lt_mul_right (a := r ^ sp * 2 ^ tn)
    rw [hXY]
    calc valL nd2.2.data * ((2 * q + 1) * 2 ^ tp * r ^ sn) <
          valL nd2.2.data * ((r + 1) * (r ^ sp * 2 ^ tn)) := Nat.mul_lt_mul_of_pos_left hX hYpos
      _ = (r + 1) * valL nd2.2.data * (r ^ sp * 2 ^ tn) := by ring
  rw [compareBytes_spec D N integer fraction hbi hbf hne] at hcb
  injection hcb with hcb
  rw [cmpDigits_spec hr0 hYpos _ _ (dv_lt hvd), dv_length] at hcb
  rw [cmp_transfer _ r (2 * q + 1) _ k (L F.fmt) _ _ sp sn tp tn sci hr0 hYpos qs (by omega) hXY] at hcb
  rw [← hres]
  exact roundFacts_final RF hcb.symm

end LexVerif.Proof.Slow
