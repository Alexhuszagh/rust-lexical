import LexVerif.Model.WriteRadix
import LexVerif.Proof.RoundNEDecode
import LexVerif.Proof.WriteFloatBuf
/-!
# Proof.WriteRadixF — the `F` layer of `Model.WriteRadix`: which hardware operations are exact (Mathlib-free)

Values are `ival f b` (units of `2^-L`); formats are well-formed with `p ≤ bias + 1` (`FOK`: binary32, binary64).
`%` and `floor` are exact for every operand (`fmod_exact`, `ffloor_exact`: the result is a multiple of the operand's
last place not exceeding it, hence representable), so is `x - floor(x)`; on integers below `2^p` also `-`, `/` of a
multiple, and `as_cast` — the `IeeeExact` assumption of the integer-path model as a theorem about the model's arithmetic.
-/
namespace LexVerif.Proof.WriteRadixF
open LexVerif.Spec LexVerif.Proof.RoundNE
open LexVerif.Model.WriteRadix (unit unitExp fmul fadd fsub fdiv fmod ffloor asU32 ofNat half one exponent)

structure FOK (f : Fmt) : Prop where
  wf : WF f
  hb : f.p ≤ f.bias + 1

theorem fok_f64 : FOK f64 := ⟨wf_f64, by decide⟩
theorem fok_f32 : FOK f32 := ⟨wf_f32, by decide⟩

theorem ival_eq (f : Fmt) (b : Nat) : LexVerif.Model.WriteRadix.ival f b = ival f b := rfl
theorem fmul_eq (f : Fmt) (a b : Nat) : fmul f a b = roundNE f (ival f a * ival f b) (unit f * unit f) := rfl
theorem fsub_eq (f : Fmt) (a b : Nat) : fsub f a b = roundNE f (ival f a - ival f b) (unit f) := rfl
theorem fdiv_eq (f : Fmt) (a b : Nat) : fdiv f a b = roundNE f (ival f a) (ival f b) := rfl
theorem fadd_eq (f : Fmt) (a b : Nat) : fadd f a b = roundNE f (ival f a + ival f b) (unit f) := rfl
theorem fmod_eq (f : Fmt) (a b : Nat) : fmod f a b = roundNE f (ival f a % ival f b) (unit f) := rfl
theorem unit_eq (f : Fmt) : unit f = 2 ^ L f := rfl
theorem unit_pos (f : Fmt) : 0 < unit f := Nat.two_pow_pos _

open LexVerif.Model.WriteInt (Res) in
theorem bind_eq_ok {α β : Type} {x : Res α} {k : α → Res β} {b : β} (h : x.bind k = .ok b) :
    ∃ a, x = .ok a ∧ k a = .ok b :=
  (WriteFloatBuf.bind_ok_iff x k b).mp h

theorem ival_inj (f : Fmt) {a b : Nat} (h : ival f a = ival f b) : a = b := by
  rcases Nat.lt_trichotomy a b with h1 | h1 | h1
  · have := ival_strictMono f h1; omega
  · exact h1
  · have := ival_strictMono f h1; omega

theorem lt_of_ival_lt (f : Fmt) {a b : Nat} (h : ival f a < ival f b) : a < b := by
  apply Nat.lt_of_not_le; intro hle; have := ival_mono f hle; omega

theorem le_of_ival_le (f : Fmt) {a b : Nat} (h : ival f a ≤ ival f b) : a ≤ b := by
  apply Nat.le_of_not_lt; intro hlt; have := ival_strictMono f hlt; omega

theorem lt_iff_ival_lt (f : Fmt) {a b : Nat} : a < b ↔ ival f a < ival f b :=
  ⟨ival_strictMono f, lt_of_ival_lt f⟩

theorem exists_pattern (f : Fmt) : ∀ (k m : Nat), m < 2 * 2 ^ (f.p - 1) → ∃ c, ival f c = m * 2 ^ k
  | 0, m, hm => ⟨m, by
      have := ival_kq f 0 m (fun h => absurd h (Nat.lt_irrefl 0)) (Nat.le_of_lt hm)
      simpa using this⟩
  | k + 1, m, hm => by
    by_cases hT : 2 ^ (f.p - 1) ≤ m
    · exact ⟨(k + 1) * 2 ^ (f.p - 1) + m, ival_kq f (k + 1) m (fun _ => hT) (Nat.le_of_lt hm)⟩
    · obtain ⟨c, hc⟩ := exists_pattern f k (2 * m) (by omega)
      exact ⟨c, by rw [hc, Nat.pow_succ]; ac_rfl⟩

theorem ival_decomp (f : Fmt) (b : Nat) : ∃ k q, ival f b = q * 2 ^ k ∧ q < 2 * 2 ^ (f.p - 1) := by
  obtain ⟨k, q, rfl, h1, h2⟩ := decomp f b
  exact ⟨k, q, ival_kq f k q h1 (Nat.le_of_lt h2), h2⟩

theorem representable (f : Fmt) {a k q n : Nat} (ha : ival f a = q * 2 ^ k) (hq : q < 2 * 2 ^ (f.p - 1))
    (hdvd : 2 ^ k ∣ n) (hle : n ≤ ival f a) : ∃ c, c ≤ a ∧ ival f c = n := by
  obtain ⟨m, rfl⟩ := hdvd
  have hm : m ≤ q := by
    rw [ha, Nat.mul_comm] at hle
    exact Nat.le_of_mul_le_mul_right hle (Nat.two_pow_pos k)
  obtain ⟨c, hc⟩ := exists_pattern f k m (by omega)
  refine ⟨c, le_of_ival_le f ?_, by rw [hc, Nat.mul_comm]⟩
  rw [hc, Nat.mul_comm]; exact hle

theorem fmod_exact {f : Fmt} (hf : WF f) (a : Nat) {b : Nat} (hb : b < f.infBits) (hb0 : ival f b ≠ 0) :
    ival f (fmod f a b) = ival f a % ival f b ∧ fmod f a b < b := by
  obtain ⟨ka, qa, ha, hqa⟩ := ival_decomp f a
  obtain ⟨kb, qb, hbb, hqb⟩ := ival_decomp f b
  have hlt : ival f a % ival f b < ival f b := Nat.mod_lt _ (Nat.pos_of_ne_zero hb0)
  have hex : ∃ c, ival f c = ival f a % ival f b := by
    by_cases hk : ka ≤ kb
    · have d1 : 2 ^ ka ∣ ival f a := ⟨qa, by rw [ha, Nat.mul_comm]⟩
      have d2 : 2 ^ ka ∣ ival f b :=
        Nat.dvd_trans (Nat.pow_dvd_pow 2 hk) ⟨qb, by rw [hbb, Nat.mul_comm]⟩
      obtain ⟨c, _, hc⟩ := representable f ha hqa ((Nat.dvd_mod_iff d2).mpr d1) (Nat.mod_le _ _)
      exact ⟨c, hc⟩
    · have d1 : 2 ^ kb ∣ ival f a :=
        Nat.dvd_trans (Nat.pow_dvd_pow 2 (Nat.le_of_lt (Nat.lt_of_not_le hk))) ⟨qa, by rw [ha, Nat.mul_comm]⟩
      have d2 : 2 ^ kb ∣ ival f b := ⟨qb, by rw [hbb, Nat.mul_comm]⟩
      obtain ⟨c, _, hc⟩ := representable f hbb hqb ((Nat.dvd_mod_iff d2).mpr d1) (Nat.le_of_lt hlt)
      exact ⟨c, hc⟩
  obtain ⟨c, hc⟩ := hex
  have hcb : c < b := lt_of_ival_lt f (by rw [hc]; exact hlt)
  have : fmod f a b = c := by
    rw [fmod_eq, unit_eq]
    exact roundNE_of_ival hf (Nat.lt_trans hcb hb) (Nat.two_pow_pos _) (by rw [hc])
  rw [this]; exact ⟨hc, hcb⟩

theorem dvd_floor_part (f : Fmt) {a k q : Nat} (hq : ival f a = q * 2 ^ k) :
    2 ^ k ∣ ival f a / unit f * unit f := by
  by_cases hk : k ≤ L f
  · exact Nat.dvd_trans (Nat.pow_dvd_pow 2 hk) ⟨ival f a / unit f, by rw [unit_eq, Nat.mul_comm]⟩
  · have : unit f ∣ ival f a := by
      rw [unit_eq, hq]
      exact Nat.dvd_trans (Nat.pow_dvd_pow 2 (by omega : L f ≤ k)) ⟨q, Nat.mul_comm _ _⟩
    rw [Nat.div_mul_cancel this, hq]; exact ⟨q, Nat.mul_comm _ _⟩

theorem ffloor_exact {f : Fmt} (hf : WF f) {a : Nat} (ha : a < f.infBits) :
    ival f (ffloor f a) = ival f a / unit f * unit f ∧ ffloor f a ≤ a := by
  obtain ⟨k, q, hq, hq2⟩ := ival_decomp f a
  have hle : ival f a / unit f * unit f ≤ ival f a := Nat.div_mul_le_self _ _
  have hdvd := dvd_floor_part f hq
  obtain ⟨c, hca, hc⟩ := representable f hq hq2 hdvd hle
  have : ffloor f a = c := by
    unfold ffloor
    rw [ival_eq]
    exact roundNE_of_ival hf (Nat.lt_of_le_of_lt hca ha) Nat.one_pos (by rw [hc, Nat.mul_one, unit_eq])
  rw [this]; exact ⟨hc, hca⟩

/-- `2^k` is the last place of `a`; used for `float - floor(float)` and `fraction - digit` -/
theorem fsub_exact {f : Fmt} (hf : WF f) {a b : Nat} (ha : a < f.infBits) {k q : Nat}
    (hq : ival f a = q * 2 ^ k) (hq2 : q < 2 * 2 ^ (f.p - 1)) (hdvd : 2 ^ k ∣ ival f b) :
    ival f (fsub f a b) = ival f a - ival f b ∧ fsub f a b ≤ a := by
  have d1 : 2 ^ k ∣ ival f a := ⟨q, by rw [hq, Nat.mul_comm]⟩
  obtain ⟨c, hca, hc⟩ := representable f hq hq2 (Nat.dvd_sub d1 hdvd) (Nat.sub_le _ _)
  have : fsub f a b = c := by
    rw [fsub_eq, unit_eq]
    exact roundNE_of_ival hf (Nat.lt_of_le_of_lt hca ha) (Nat.two_pow_pos _) (by rw [hc])
  rw [this]; exact ⟨hc, hca⟩

theorem fsub_ffloor_exact {f : Fmt} (hf : WF f) {a : Nat} (ha : a < f.infBits) :
    ival f (fsub f a (ffloor f a)) = ival f a % unit f := by
  obtain ⟨k, q, hq, hq2⟩ := ival_decomp f a
  obtain ⟨hfl, _⟩ := ffloor_exact hf ha
  have hdvd : 2 ^ k ∣ ival f (ffloor f a) := by rw [hfl]; exact dvd_floor_part f hq
  rw [(fsub_exact hf ha hq hq2 hdvd).1, hfl]
  have := Nat.div_add_mod (ival f a) (unit f)
  rw [Nat.mul_comm] at this
  omega

theorem infBits_ival_ge {f : Fmt} (h : FOK f) : 2 * 2 ^ (f.p - 1) * 2 ^ (L f) ≤ ival f f.infBits := by
  rw [(ival_infBits h.wf).1]
  apply Nat.mul_le_mul_left
  apply Nat.pow_le_pow_right (by decide)
  have := M_eq h.wf
  have := h.hb
  have := h.wf.hp
  unfold L
  omega

theorem ofNat_ival {f : Fmt} (h : FOK f) {n : Nat} (hn : n < 2 * 2 ^ (f.p - 1)) :
    ival f (ofNat f n) = n * unit f ∧ ofNat f n < f.infBits := by
  obtain ⟨c, hc⟩ := exists_pattern f (L f) n hn
  have hfin : c < f.infBits := by
    apply lt_of_ival_lt f
    rw [hc]
    exact Nat.lt_of_lt_of_le (Nat.mul_lt_mul_of_pos_right hn (Nat.two_pow_pos _)) (infBits_ival_ge h)
  have : ofNat f n = c := by
    unfold ofNat
    exact roundNE_of_ival h.wf hfin Nat.one_pos (by rw [hc, Nat.mul_one])
  rw [this, unit_eq]; exact ⟨hc, hfin⟩

theorem two_le_two_pow {f : Fmt} (hf : WF f) : 2 ≤ 2 ^ (f.p - 1) :=
  Nat.le_self_pow (by have := hf.hp; omega) 2

theorem two_le_T (f : Fmt) : 2 ≤ 2 * 2 ^ (f.p - 1) := by
  have := Nat.two_pow_pos (f.p - 1); omega

theorem one_ival {f : Fmt} (h : FOK f) : ival f (one f) = unit f ∧ one f < f.infBits := by
  have := ofNat_ival h (n := 1) (by have := Nat.two_pow_pos (f.p - 1); omega)
  rw [Nat.one_mul] at this
  exact this

theorem L_add_two {f : Fmt} (hf : WF f) : L f + 2 = f.bias + f.p := by
  have := hf.hp; have := bias_pos hf; unfold L; omega

theorem L_pos {f : Fmt} (hf : WF f) : 1 ≤ L f := by
  have := hf.hp; have := bias_pos hf; unfold L; omega

theorem half_ival {f : Fmt} (h : FOK f) : 2 * ival f (half f) = unit f ∧ half f < one f := by
  obtain ⟨c, hc⟩ := exists_pattern f (L f - 1) 1 (by have := Nat.two_pow_pos (f.p - 1); omega)
  have hL := L_pos h.wf
  have e : 2 * 2 ^ (L f - 1) = 2 ^ L f := by
    rw [show L f = (L f - 1) + 1 by omega, Nat.pow_succ]; simp; ac_rfl
  have h1 := one_ival h
  have hlt : c < one f := by
    apply lt_of_ival_lt f; rw [hc, h1.1, unit_eq, ← e]
    have := Nat.two_pow_pos (L f - 1); omega
  have : half f = c := by
    unfold half
    exact roundNE_of_ival h.wf (Nat.lt_trans hlt h1.2) (by decide) (by rw [hc, ← e]; ac_rfl)
  refine ⟨?_, by rw [this]; exact hlt⟩
  rw [this, hc, unit_eq, ← e]; omega

theorem fmul_mono {f : Fmt} (hf : WF f) {a a' b b' : Nat} (ha : a ≤ a') (hb : b ≤ b') :
    fmul f a b ≤ fmul f a' b' := by
  rw [fmul_eq, fmul_eq]
  have hu := Nat.mul_pos (unit_pos f) (unit_pos f)
  apply roundNE_mono' hf hu hu
  exact Nat.mul_le_mul_right _ (Nat.mul_le_mul (ival_mono f ha) (ival_mono f hb))

theorem roundNE_le_of_le {f : Fmt} (hf : WF f) {x N D : Nat} (hD : 0 < D) (h : N * unit f ≤ ival f x * D) :
    roundNE f N D ≤ x := by
  have hu := unit_pos f
  have hle := roundNE_mono' hf hD hu h
  rcases Nat.lt_or_ge x f.infBits with hlt | hge
  · rwa [roundNE_of_ival hf hlt hu (by rw [unit_eq])] at hle
  · exact Nat.le_trans (roundNE_le_infBits hf _ hD) hge

/-- a product with a factor `≥ 2` at least doubles (pattern of `2·a` given as `c`) -/
theorem fmul_ge_double {f : Fmt} (hf : WF f) {a b c : Nat} (hc : c < f.infBits) (hcv : ival f c = 2 * ival f a)
    (hb : 2 * unit f ≤ ival f b) : c ≤ fmul f a b := by
  have hu := Nat.mul_pos (unit_pos f) (unit_pos f)
  have e : roundNE f (2 * ival f a * unit f) (unit f * unit f) = c := by
    apply roundNE_of_ival hf hc hu
    rw [hcv, unit_eq]; ac_rfl
  rw [← e, fmul_eq]
  apply roundNE_mono' hf hu hu
  apply Nat.mul_le_mul_right
  calc 2 * ival f a * unit f = ival f a * (2 * unit f) := by ac_rfl
    _ ≤ ival f a * ival f b := Nat.mul_le_mul_left _ hb

section Integers
variable {f : Fmt}

theorem ofNat_inj (h : FOK f) {m n : Nat} (hm : m < 2 * 2 ^ (f.p - 1)) (hn : n < 2 * 2 ^ (f.p - 1))
    (e : ofNat f m = ofNat f n) : m = n := by
  have h1 := (ofNat_ival h hm).1
  have h2 := (ofNat_ival h hn).1
  rw [e, h2] at h1
  exact (Nat.eq_of_mul_eq_mul_right (unit_pos f) h1).symm

theorem ofNat_zero (f : Fmt) : ofNat f 0 = 0 := roundNE_zero f 1

theorem ofNat_eq_zero (h : FOK f) {n : Nat} (hn : n < 2 * 2 ^ (f.p - 1)) : ofNat f n = 0 ↔ n = 0 := by
  constructor
  · intro e
    exact ofNat_inj h hn (by have := Nat.two_pow_pos (f.p - 1); omega) (by rw [e, ofNat_zero])
  · intro e; rw [e, ofNat_zero]

theorem asU32_ofNat (h : FOK f) {n : Nat} (hn : n < 2 * 2 ^ (f.p - 1)) (h32 : n < 2 ^ 32) :
    asU32 f (ofNat f n) = n := by
  unfold asU32
  rw [ival_eq, (ofNat_ival h hn).1, Nat.mul_div_cancel _ (unit_pos f)]
  omega

theorem fmod_ofNat (h : FOK f) {m r : Nat} (hm : m < 2 * 2 ^ (f.p - 1)) (hr : r < 2 * 2 ^ (f.p - 1)) (hr0 : 0 < r) :
    fmod f (ofNat f m) (ofNat f r) = ofNat f (m % r) := by
  obtain ⟨hrv, hrf⟩ := ofNat_ival h hr
  have hmr : m % r < 2 * 2 ^ (f.p - 1) := Nat.lt_trans (Nat.mod_lt _ hr0) hr
  apply ival_inj f
  rw [(fmod_exact h.wf _ hrf (by rw [hrv]; exact Nat.ne_of_gt (Nat.mul_pos hr0 (unit_pos f)))).1,
    (ofNat_ival h hm).1, hrv, (ofNat_ival h hmr).1, Nat.mul_mod_mul_right]

theorem fsub_ofNat (h : FOK f) {m d : Nat} (hm : m < 2 * 2 ^ (f.p - 1)) (hd : d ≤ m) :
    fsub f (ofNat f m) (ofNat f d) = ofNat f (m - d) := by
  have hdl : d < 2 * 2 ^ (f.p - 1) := by omega
  have hml : m - d < 2 * 2 ^ (f.p - 1) := by omega
  obtain ⟨hv, hfin⟩ := ofNat_ival h hml
  rw [fsub_eq, (ofNat_ival h hm).1, (ofNat_ival h hdl).1, ← Nat.sub_mul, unit_eq]
  apply roundNE_of_ival h.wf hfin (Nat.two_pow_pos _)
  rw [hv, unit_eq, Nat.sub_mul]

theorem fdiv_ofNat (h : FOK f) {m r : Nat} (hm : m < 2 * 2 ^ (f.p - 1)) (hr : r < 2 * 2 ^ (f.p - 1)) (hr0 : 0 < r)
    (hdvd : r ∣ m) : fdiv f (ofNat f m) (ofNat f r) = ofNat f (m / r) := by
  have hq : m / r < 2 * 2 ^ (f.p - 1) := Nat.lt_of_le_of_lt (Nat.div_le_self _ _) hm
  obtain ⟨hv, hfin⟩ := ofNat_ival h hq
  rw [fdiv_eq, (ofNat_ival h hm).1, (ofNat_ival h hr).1]
  apply roundNE_of_ival h.wf hfin (Nat.mul_pos hr0 (unit_pos f))
  rw [hv, unit_eq]
  obtain ⟨t, rfl⟩ := hdvd
  rw [Nat.mul_div_cancel_left _ hr0]
  ac_rfl

theorem exponent_pos_iff (h : FOK f) {x : Nat} (hfin : x < f.infBits) :
    0 < exponent f x ↔ (f.bias + f.p) * 2 ^ (f.p - 1) ≤ x := by
  have hp := h.wf.hp
  rw [← Nat.le_div_iff_mul_le (Nat.two_pow_pos _)]
  unfold exponent
  rw [expField_eq hfin]
  split
  · rw [eminLsb_eq h.wf]; omega
  · omega

theorem exponent_le_zero (h : FOK f) {x : Nat} (hx : x < (f.bias + f.p) * 2 ^ (f.p - 1)) (hfin : x < f.infBits) :
    exponent f x ≤ 0 := by
  have := (exponent_pos_iff h hfin).mp
  omega

theorem ival_pow_two (hf : WF f) (k : Nat) : ival f ((f.bias + k) * 2 ^ (f.p - 1)) = 2 ^ k * unit f := by
  have hp := hf.hp
  have hb := bias_pos hf
  have hT := Nat.two_pow_pos (f.p - 1)
  have e : (f.bias + k) * 2 ^ (f.p - 1) = (f.bias + k - 1) * 2 ^ (f.p - 1) + 2 ^ (f.p - 1) := by
    rw [← Nat.succ_mul]; congr 1; omega
  rw [e, ival_kq f (f.bias + k - 1) _ (fun _ => Nat.le_refl _) (by omega), unit_eq, ← Nat.pow_add, ← Nat.pow_add]
  congr 1; have := L_add_two hf; omega

theorem ival_two_pow_p (h : FOK f) : ival f ((f.bias + f.p) * 2 ^ (f.p - 1)) = 2 * 2 ^ (f.p - 1) * unit f := by
  rw [ival_pow_two h.wf, two_pow_P h.wf]

theorem lt_two_pow_p_finite (h : FOK f) {y : Nat} (hy : y < (f.bias + f.p) * 2 ^ (f.p - 1)) : y < f.infBits := by
  apply Nat.lt_of_lt_of_le hy
  rw [infBits_eq, M_eq h.wf]
  exact Nat.mul_le_mul_right _ (by have := h.hb; omega)

/-- dividing a float below `2^p` by the base gives `exponent() ≤ 0`: the zero-padding loop is not entered -/
theorem exponent_fdiv_le_zero (h : FOK f) {y r : Nat} (hy : y < (f.bias + f.p) * 2 ^ (f.p - 1))
    (hr : r < 2 * 2 ^ (f.p - 1)) (hr0 : 0 < r) : exponent f (fdiv f y (ofNat f r)) ≤ 0 := by
  have hfin := lt_two_pow_p_finite h hy
  have hu := unit_pos f
  have hle : fdiv f y (ofNat f r) ≤ y := by
    rw [fdiv_eq, (ofNat_ival h hr).1]
    exact roundNE_le_of_le h.wf (Nat.mul_pos hr0 hu) (Nat.mul_le_mul_left _ (Nat.le_mul_of_pos_left _ hr0))
  exact exponent_le_zero h (Nat.lt_of_le_of_lt hle hy) (Nat.lt_of_le_of_lt hle hfin)

theorem ofNat_lt_two_pow_p (h : FOK f) {n : Nat} (hn : n < 2 * 2 ^ (f.p - 1)) :
    ofNat f n < (f.bias + f.p) * 2 ^ (f.p - 1) := by
  apply lt_of_ival_lt f
  rw [(ofNat_ival h hn).1, ival_two_pow_p h]
  exact Nat.mul_lt_mul_of_pos_right hn (unit_pos f)

end Integers

end LexVerif.Proof.WriteRadixF
