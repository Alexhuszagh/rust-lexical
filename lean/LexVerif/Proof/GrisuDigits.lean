import LexVerif.Proof.GrisuLoop1
import LexVerif.Proof.GrisuLoop2
/-!
# Proof.GrisuDigits — specification of `generate_digits` (digit generation + weeding) of the Grisu2 writer

`generateDigits_spec`: for `upper = Um·2^-sh`, `lower = Lm·2^-sh` (`32 ≤ sh ≤ 60`, `1 ≤ Lm < Um < 2^64`) the loops
never fault, return a non-empty digit string without leading `'0'` and an exponent `k + κ`, `-20 ≤ κ ≤ 9`, such that
`lower ≤ digits·10^κ ≤ upper`, and the number of digits is at most `n` whenever `10·upper ≤ 10^n·(upper − lower)`.
Of `w` (only used to steer the weeding) only `w ≤ upper` matters, so that `upper − w` does not borrow. The bound `|k| ≤ 100000` (here and in
`genLoop1_spec`, `genLoop2_spec`) only keeps `i32 (k + κ)` from wrapping; `grisu` calls with `|k| ≤ 348`.
-/
namespace LexVerif.Proof.GrisuDigits
open LexVerif.Model.Grisu LexVerif.Model.Dragonbox LexVerif.Spec
open LexVerif.Proof.DragonboxBits

/-- unfolding of `generateDigits` (as an equation between functions: checking it for applied arguments makes the kernel
evaluate `genLoop1 … 11 … 1000000000 …`) -/
theorem generateDigits_fun : generateDigits = fun (fp upper lower : Fp) (k : Int) =>
    (let wmant := sub64 upper.mant fp.mant
    let delta := sub64 upper.mant lower.mant
    let shift : Nat := ((-upper.exp) % 64).toNat
    let oneMant := shl64 1 (-upper.exp)
    let part1 := upper.mant >>> shift
    let part2 := upper.mant &&& (oneMant - 1)
    match genLoop1 delta wmant part2 shift 11 part1 1000000000 10 [] k with
    | .inl r => some r
    | .inr (ds, kappa) => genLoop2 wmant oneMant shift 64 part2 delta (kappa : Int) 10 ds k :
      Option (List Nat × Int)) := rfl

theorem generateDigits_spec (w upper lower : Fp) (k : Int) (sh : Nat)
    (h1 : 32 ≤ sh) (h2 : sh ≤ 60) (hexp : upper.exp = -(sh : Int))
    (hU : upper.mant < 2 ^ 64) (hL : 1 ≤ lower.mant) (hLU : lower.mant < upper.mant)
    (hW : w.mant ≤ upper.mant) (hk : -100000 ≤ k ∧ k ≤ 100000) :
    ∃ (ds : List Nat) (κ : Int),
      generateDigits w upper lower k = some (ds, k + κ)
      ∧ -20 ≤ κ ∧ κ ≤ 9
      ∧ (∀ c ∈ ds, 48 ≤ c ∧ c ≤ 57) ∧ ds ≠ [] ∧ ds.head? ≠ some 48
      ∧ lower.mant * 10 ^ (-κ).toNat ≤ ofDigits 10 (ds.map (· - 48)) * 10 ^ κ.toNat * 2 ^ sh
      ∧ ofDigits 10 (ds.map (· - 48)) * 10 ^ κ.toNat * 2 ^ sh ≤ upper.mant * 10 ^ (-κ).toNat
      ∧ ∀ n, 1 ≤ n → 10 * upper.mant ≤ 10 ^ n * (upper.mant - lower.mant) → ds.length ≤ n := by
  obtain ⟨Um, ue⟩ := upper
  obtain ⟨Lm, le⟩ := lower
  obtain ⟨wm, we⟩ := w
  simp only at hexp hU hL hLU hW ⊢
  subst hexp
  have hshift : ((-(-(sh : Int))) % 64).toNat = sh := by omega
  have hpowlt : 2 ^ sh < 2 ^ 64 := Nat.pow_lt_pow_right (by omega) (by omega)
  have hone : shl64 1 (-(-(sh : Int))) = 2 ^ sh := by
    rw [Int.neg_neg, shl64_nat (by omega), Nat.one_mul, Nat.mod_eq_of_lt hpowlt]
  have hdelta : sub64 Um Lm = Um - Lm := sub64_eq (by omega) hU
  have hwmant : sub64 Um wm = Um - wm := sub64_eq hW hU
  have hand : Um &&& (2 ^ sh - 1) = Um % 2 ^ sh := Nat.and_two_pow_sub_one_eq_mod _ _
  have hshr : Um >>> sh = Um / 2 ^ sh := Nat.shiftRight_eq_div_pow _ _
  rw [generateDigits_fun]
  simp only [hshift, hone, hdelta, hwmant, hand, hshr]
  have hone1 : 1 ≤ 2 ^ sh := Nat.pow_pos (by omega)
  have hp2 : Um % 2 ^ sh < 2 ^ sh := Nat.mod_lt _ hone1
  have hp1 : Um / 2 ^ sh < 10 ^ 10 := by
    have h32 : 2 ^ 64 ≤ 2 ^ sh * 2 ^ 32 := by
      rw [← Nat.pow_add]; exact Nat.pow_le_pow_right (by omega) (by omega)
    have : Um / 2 ^ sh < 2 ^ 32 := Nat.div_lt_of_lt_mul (by omega)
    omega
  have hdm : Um / 2 ^ sh * 2 ^ sh + Um % 2 ^ sh = Um := by
    rw [Nat.mul_comm]; exact Nat.div_add_mod _ _
  have hl1 := genLoop1_spec Um Lm (Um - Lm) (Um - wm) (Um % 2 ^ sh) sh (2 ^ sh) k h2 rfl hU hL (by omega) hp2 hk
    11 10 (Um / 2 ^ sh) 1000000000 0 [] (by omega) (by omega) (fun _ => by norm_num) digitsOK_nil hp1
    (by rw [Nat.zero_mul, Nat.zero_mul, Nat.zero_add]; exact hdm) (by omega)
  rcases hl1 with ⟨ds', c', V, N', hc', hres, hfin, hlo, hhi, hcnt⟩ | ⟨ds', N', hres, hok, hsum, hprev⟩
  · rw [hres]
    refine ⟨ds', (c' : Int), rfl, by omega, by omega, hfin.chars, hfin.ne, hfin.head, ?_, ?_, ?_⟩
    · rw [hfin.val]
      have : (-(c' : Int)).toNat = 0 := by omega
      rw [this, Int.toNat_natCast]; omega
    · rw [hfin.val]
      have : (-(c' : Int)).toNat = 0 := by omega
      rw [this, Int.toNat_natCast]; omega
    · intro n _ hn
      exact hfin.len n (hcnt n hn)
  · rw [hres]
    obtain ⟨ds2, j', V, N2, hj0, hj19, hres2, hfin, hlo, hhi, hcnt⟩ :=
      genLoop2_spec Um Lm (Um - Lm) (Um - wm) sh (2 ^ sh) k h2 rfl hL (by omega) (by omega) hk
        64 0 (Um % 2 ^ sh) 10 N' ds' (by omega) hok hp2 (by omega) (by omega)
    simp only [Nat.pow_zero, Nat.mul_one, Nat.cast_zero, Int.neg_zero] at hres2
    simp only [Nat.cast_zero]
    rw [hres2]
    refine ⟨ds2, -(j' : Int), rfl, by omega, by omega, hfin.chars, hfin.ne, hfin.head, ?_, ?_, ?_⟩
    · rw [hfin.val]
      have : (-(j' : Int)).toNat = 0 := by omega
      rw [this, Int.neg_neg, Int.toNat_natCast, Nat.pow_zero, Nat.mul_one]; omega
    · rw [hfin.val]
      have : (-(j' : Int)).toNat = 0 := by omega
      rw [this, Int.neg_neg, Int.toNat_natCast, Nat.pow_zero, Nat.mul_one]; omega
    · intro n _ hn
      exact hfin.len n (hcnt n hn)

end LexVerif.Proof.GrisuDigits
