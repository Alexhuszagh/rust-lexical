import LexVerif.Props.C01
import LexVerif.Proof.Pipeline
/-!
# Proof.Compose — `numberToFloat` by its equations, and what its stages owe for a value

`Model.ParseFloatAlgo.numberToFloat` is `try_fast_path`, else `moderate_path`, else (`fp.exp < 0`) `slow_path`, then
`to_native!`. It has two equations (`numberToFloat_fast`, `numberToFloat_moderate`); every statement about it follows
from them through `numberToFloat_cases`, for any value `num/den`, any radix, `lossy` or not.

The value the pipeline must round is `valueOf c n`, the digit content of the `Number` as a fraction. The words of the
`Number` stand for it in the sense of `Proof.Bell.TrueValue`: equal to `mantissa · base^exponent` for an untruncated
mantissa, in `[mantissa, mantissa + 1) · base^exponent` for a truncated one. `ModerateOK` is what a moderate-path
algorithm owes for such a value — with what it hands to the slow path as a parameter — and `numberToFloat_of_moderateOK`
composes it with the fast path's and the slow path's contracts. The algorithms meet it in `Proof.ComposeBell`
(Bellerophon), `Props.C01Final` (Eisel–Lemire).
-/
namespace LexVerif.Proof.Bell
open LexVerif.Spec LexVerif.Model LexVerif.Proof.RoundNE LexVerif.Proof.ExtRound

theorem trueValue_iff_exact {r : Nat} {n : Num} (h : n.manyDigits = false) (num den : Nat) :
    TrueValue r n num den ↔ (powFrac r n.exponent n.mantissa).1 * den = num * (powFrac r n.exponent n.mantissa).2 := by
  unfold TrueValue
  simp only [h, Bool.false_eq_true, if_false]
  exact ⟨fun ⟨h1, h2⟩ => Nat.le_antisymm h1 h2, fun e => ⟨Nat.le_of_eq e, Nat.le_of_eq e.symm⟩⟩

/-- the third form, relative to `w · r^q`, is the one `estW_widen` and `rel_compose` take -/
theorem TrueValue.truncated {r : Nat} {n : Num} {num den : Nat} (h : n.manyDigits = true) (htv : TrueValue r n num den) :
    (powFrac r n.exponent n.mantissa).1 * den ≤ num * (powFrac r n.exponent n.mantissa).2 ∧
    num * (powFrac r n.exponent (n.mantissa + 1)).2 < (powFrac r n.exponent (n.mantissa + 1)).1 * den ∧
    (0 < n.mantissa → num * (powFrac r n.exponent n.mantissa).2 * n.mantissa <
      (powFrac r n.exponent n.mantissa).1 * den * (n.mantissa + 1)) := by
  obtain ⟨t1, t2⟩ := htv
  rw [h, if_pos rfl] at t2
  refine ⟨t1, t2, fun hw0 => ?_⟩
  rw [powFrac_succ_den] at t2
  calc num * (powFrac r n.exponent n.mantissa).2 * n.mantissa
      < (powFrac r n.exponent (n.mantissa + 1)).1 * den * n.mantissa := Nat.mul_lt_mul_of_pos_right t2 hw0
    _ = (powFrac r n.exponent n.mantissa).1 * den * (n.mantissa + 1) := by
        rw [Nat.mul_right_comm, powFrac_succ_num, Nat.mul_right_comm]

end LexVerif.Proof.Bell

namespace LexVerif.Proof.Compose
open LexVerif.Spec LexVerif.Model LexVerif.Model.ParseFloatAlgo
open LexVerif.Proof.RoundNE LexVerif.Proof.ExtRound LexVerif.Proof.Pipeline LexVerif.Proof.Bell
open LexVerif.Props.C01 (Bracket)

theorem moderatePath_of_lemire {c : Cfg} (h : backend c.feats c.mantissaRadix = .lemire) (F : FTy) (n : Num) (lossy : Bool) :
    moderatePath c F n lossy = Lemire.lemire F n lossy := by
  unfold moderatePath; rw [h]

theorem moderatePath_of_bellerophon {c : Cfg} (h : backend c.feats c.mantissaRadix = .bellerophon) (F : FTy) (n : Num)
    (lossy : Bool) :
    moderatePath c F n lossy = Bellerophon.bellerophon F (Bellerophon.powersOf c.feats c.mantissaRadix) n lossy := by
  unfold moderatePath; rw [h]

theorem moderatePath_of_binary {c : Cfg} (h : backend c.feats c.mantissaRadix = .binary) (F : FTy) (n : Num) (lossy : Bool) :
    moderatePath c F n lossy = Binary.binary F c.exponentBase n lossy := by
  unfold moderatePath; rw [h]

theorem numberToFloat_fast (slow : SlowRadix) (c : Cfg) (F : FTy) (n : Number) (lossy : Bool) {v : Nat}
    (h : FastPath.tryFastPath (smallSetOf c.feats) F c.mantissaRadix c.exponentBase (numOf n) = .some v) :
    numberToFloat slow c F n lossy = some v := by
  unfold numberToFloat; rw [h]

/-- the extended float `to_native!` is applied to: the moderate path's answer, or the slow path's when that is
invalid-marked -/
def resolve (slow : SlowRadix) (c : Cfg) (F : FTy) (n : Number) (fp : ExtendedFloat80) : ExtendedFloat80 :=
  if fp.exp < 0 then slowPath slow c F n { fp with exp := fp.exp - invalidFp } else fp

theorem resolve_valid {slow : SlowRadix} {c : Cfg} {F : FTy} {n : Number} {fp : ExtendedFloat80} (h : 0 ≤ fp.exp) :
    resolve slow c F n fp = fp := by
  unfold resolve; rw [if_neg (by omega)]

theorem resolve_invalid {slow : SlowRadix} {c : Cfg} {F : FTy} {n : Number} {fp : ExtendedFloat80} (h : fp.exp < 0) :
    resolve slow c F n fp = slowPath slow c F n { fp with exp := fp.exp - invalidFp } := by
  unfold resolve; rw [if_pos h]

theorem numberToFloat_moderate (slow : SlowRadix) (c : Cfg) (F : FTy) (n : Number) (lossy : Bool) {fp : ExtendedFloat80}
    (h0 : FastPath.tryFastPath (smallSetOf c.feats) F c.mantissaRadix c.exponentBase (numOf n) = .none)
    (hm : moderatePath c F (numOf n) lossy = .ok fp) :
    numberToFloat slow c F n lossy = some (toNative F (resolve slow c F n fp) n.isNegative) := by
  unfold numberToFloat resolve; rw [h0]; simp only; rw [hm]; simp only; split <;> rfl

theorem fast_none_of_many (S : Proof.Tables.SmallSet) (F : FTy) (r b : Nat) (n : Num) (h : n.manyDigits = true) :
    FastPath.tryFastPath S F r b n = .none := by
  unfold FastPath.tryFastPath FastPath.isFastPath
  rw [h]
  simp

theorem numberToFloat_cases (slow : SlowRadix) {c : Cfg} {F : FTy} {n : Number} {lossy : Bool} {num den : Nat}
    {fp : ExtendedFloat80}
    (hnp : FastPath.tryFastPath (smallSetOf c.feats) F c.mantissaRadix c.exponentBase (numOf n) ≠ .panic)
    (hfast : ∀ v, FastPath.tryFastPath (smallSetOf c.feats) F c.mantissaRadix c.exponentBase (numOf n) = .some v →
      v = roundSigned F.fmt n.isNegative num den)
    (hm : moderatePath c F (numOf n) lossy = .ok fp) :
    numberToFloat slow c F n lossy = some (roundSigned F.fmt n.isNegative num den) ∨
    numberToFloat slow c F n lossy = some (toNative F (resolve slow c F n fp) n.isNegative) := by
  cases h : FastPath.tryFastPath (smallSetOf c.feats) F c.mantissaRadix c.exponentBase (numOf n) with
  | some v => exact .inl (by rw [numberToFloat_fast slow c F n lossy h, hfast v h])
  | panic => exact absurd h hnp
  | none => exact .inr (numberToFloat_moderate slow c F n lossy h hm)

theorem numberToFloat_round (slow : SlowRadix) {c : Cfg} {F : FTy} {n : Number} {lossy : Bool} {num den : Nat}
    {fp : ExtendedFloat80}
    (hnp : FastPath.tryFastPath (smallSetOf c.feats) F c.mantissaRadix c.exponentBase (numOf n) ≠ .panic)
    (hfast : ∀ v, FastPath.tryFastPath (smallSetOf c.feats) F c.mantissaRadix c.exponentBase (numOf n) = .some v →
      v = roundSigned F.fmt n.isNegative num den)
    (hm : moderatePath c F (numOf n) lossy = .ok fp)
    (hres : extendedToFloat F (resolve slow c F n fp) = roundNE F.fmt num den) :
    numberToFloat slow c F n lossy = some (roundSigned F.fmt n.isNegative num den) := by
  rcases numberToFloat_cases slow hnp hfast hm with h | h
  · exact h
  · rw [h, toNative_eq F _ _ hres]

/-- the digit content of a `Number` as a fraction -/
abbrev valueOf (c : Cfg) (n : Number) : Nat × Nat := litFrac c.mantissaRadix c.exponentBase (numberLit c n)

theorem valueOf_eq {c : Cfg} {r b : Nat} (hr : c.mantissaRadix = r) (hb : c.exponentBase = b) (n : Number) :
    valueOf c n = litFrac r b (numberLit c n) := by
  unfold valueOf; rw [hr, hb]

theorem valueOf_den_pos (c : Cfg) (hr : 0 < c.mantissaRadix) (hb : 0 < c.exponentBase) (n : Number) :
    0 < (valueOf c n).2 :=
  litFrac_den_pos hr hb _

/-- what the moderate path owes for the value `num/den`: it answers; a valid answer is the rounded value; an
invalid-marked one satisfies `H`, what the slow path is handed — `Props.C01.Bracket` for the contract `SlowPathCorrect`,
`HandOff` (`Proof.ComposeBell`) for the slow-path model, nothing for `slow_binary` -/
def ModerateOK (c : Cfg) (F : FTy) (n : Number) (num den : Nat) (H : ExtendedFloat80 → Prop) : Prop :=
  ∃ fp, moderatePath c F (numOf n) false = .ok fp ∧
    (0 ≤ fp.exp → extendedToFloat F fp = roundNE F.fmt num den) ∧
    (fp.exp < 0 → H fp)

theorem ModerateOK.imp {c : Cfg} {F : FTy} {n : Number} {a b a' b' : Nat} {H H' : ExtendedFloat80 → Prop}
    (h : ModerateOK c F n a b H) (hr : roundNE F.fmt a b = roundNE F.fmt a' b') (hH : ∀ fp, H fp → H' fp) :
    ModerateOK c F n a' b' H' := by
  obtain ⟨fp, hm, hv, hi⟩ := h
  exact ⟨fp, hm, fun h => by rw [hv h, hr], fun h => hH fp (hi h)⟩

theorem numberToFloat_of_moderateOK (slow : SlowRadix) {c : Cfg} {F : FTy} {n : Number} {num den : Nat}
    {H : ExtendedFloat80 → Prop}
    (hnp : FastPath.tryFastPath (smallSetOf c.feats) F c.mantissaRadix c.exponentBase (numOf n) ≠ .panic)
    (hfast : ∀ v, FastPath.tryFastPath (smallSetOf c.feats) F c.mantissaRadix c.exponentBase (numOf n) = .some v →
      v = roundSigned F.fmt n.isNegative num den)
    (hmod : ModerateOK c F n num den H)
    (hslow : ∀ fp, moderatePath c F (numOf n) false = .ok fp → fp.exp < 0 → H fp →
      extendedToFloat F (slowPath slow c F n { fp with exp := fp.exp - invalidFp }) = roundNE F.fmt num den) :
    numberToFloat slow c F n false = some (roundSigned F.fmt n.isNegative num den) := by
  obtain ⟨fp, hm, hvalid, hinv⟩ := hmod
  apply numberToFloat_round slow hnp hfast hm
  by_cases h : fp.exp < 0
  · rw [resolve_invalid h]; exact hslow fp hm h (hinv h)
  · rw [resolve_valid (by omega)]; exact hvalid (by omega)

end LexVerif.Proof.Compose
