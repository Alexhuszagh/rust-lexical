import LexVerif.Proof.WriteBinaryArith
import LexVerif.Proof.WriteBinaryDigits
import LexVerif.Proof.WriteBinaryParse
import LexVerif.Proof.Layouts
import LexVerif.Model.WriteRadixInt
/-!
# Proof.WriteBinaryShape — the digit strings of the three layouts of binary.rs

Each layout's digits (`int ++ frac`) are `0…0 ++ core ++ 0…0` where `core` is the trimmed mantissa digit string, with
an explicit relation between the number of appended zeros, the fraction length and the layout parameters.
-/
namespace LexVerif.Proof.WriteBinaryShape
open LexVerif.Spec LexVerif.Model LexVerif.Model.WriteBinary LexVerif.Proof.WriteBinaryDigits
open LexVerif.Proof.WriteBinaryParse LexVerif.Proof.RoundTrip
open LexVerif.Model.Dragonbox (i32)

theorem pad_eq (e c : Nat) : pad e c = List.replicate (e - c) 0 := by
  unfold pad
  by_cases h : e > c
  · rw [if_pos h]
  · rw [if_neg h]
    have : e - c = 0 := by omega
    rw [this]; rfl

theorem minExactDigits_ge (c : Nat) (o : WOpts) : c ≤ minExactDigits c o := by
  unfold minExactDigits
  cases o.minDigits with
  | none => exact Nat.le_refl _
  | some m => exact Nat.le_max_right _ _

theorem sciLayout_eq (fmt : Format) (o : WOpts) (w r m : Nat) (exp scaled : Int) :
    sciLayout fmt o w r m exp scaled = WriteRadixInt.sciLayout fmt o (mantissaDigits w r m exp) scaled := rfl

theorem sciLayout_exp (fmt : Format) (o : WOpts) (w r m : Nat) (e scaled : Int) :
    (sciLayout fmt o w r m e scaled).exp = some scaled := by
  unfold sciLayout; dsimp only; split
  · rfl
  · split <;> rfl

theorem negLayout_exp (o : WOpts) (w r m : Nat) (e s : Int) : (negLayout o w r m e s).exp = none := rfl

theorem posLayout_exp (o : WOpts) (w r m : Nat) (e s : Int) : (posLayout o w r m e s).exp = none := by
  unfold posLayout
  simp only
  split
  · split <;> rfl
  · rfl

/-! ## the three layouts are those of `Proof.Layouts`, of the trimmed mantissa digits -/

/-- `exact < 2` here is `count = 1` there, since `count ≤ exact` -/
theorem sciLayout_toShape (fmt : Format) (o : WOpts) (d0 : Nat) (tail : List Nat) (e : Int) :
    toShape (WriteRadixInt.sciLayout fmt o (d0 :: tail) e)
      = sciOf fmt.noExponentWithoutFraction (d0 :: rtrimZeros tail) e o := by
  unfold WriteRadixInt.sciLayout sciOf toShape
  simp only [List.headD_cons, List.tail_cons, List.length_cons, pad_eq, padZ, Nat.add_comm (rtrimZeros tail).length 1]
  generalize rtrimZeros tail = rest
  have hge := minExactDigits_ge (1 + rest.length) o
  split
  · rfl
  · split
    · have hl : rest = [] := List.eq_nil_of_length_eq_zero (by omega)
      subst hl
      have : ¬ (1 < minExactDigits 1 o) := by simp at *; omega
      simp [this]
    · by_cases c3 : 1 + rest.length < minExactDigits (1 + rest.length) o
      · simp [c3]
      · have : minExactDigits (1 + rest.length) o - (1 + rest.length) = 0 := by omega
        have h1 : rest ≠ [] := by rintro rfl; simp at *; omega
        simp [c3, this, h1]

theorem negLayout_toShape (o : WOpts) (w r m : Nat) (exp sciExp : Int) :
    toShape (negLayout o w r m exp sciExp)
      = negOf ((fastCeildiv (i32 (-sciExp)) (fastLog2 r)).toNat - 1) (rtrimZeros (mantissaDigits w r m exp)) o := by
  simp [toShape, negLayout, negOf, pad_eq, padZ]

theorem posLayout_toShape (o : WOpts) (w r m : Nat) (exp sciExp : Int) :
    toShape (posLayout o w r m exp sciExp)
      = posOf ((Int.tdiv sciExp (fastLog2 r)).toNat + 1) ((rtrimZeros (mantissaDigits w r m exp)).length + 1)
          (rtrimZeros (mantissaDigits w r m exp)) o := by
  unfold posLayout posOf toShape
  simp only [pad_eq, padZ]
  split
  · split <;> simp
  · simp

theorem sciLayout_nopoint (fmt : Format) (o : WOpts) (ds : List Nat) (e : Int) :
    (WriteRadixInt.sciLayout fmt o ds e).point = false → (WriteRadixInt.sciLayout fmt o ds e).frac = [] := by
  unfold WriteRadixInt.sciLayout; dsimp only; split
  · simp
  · split <;> simp

theorem posLayout_nopoint (o : WOpts) (w r m : Nat) (e s : Int) :
    (posLayout o w r m e s).point = false → (posLayout o w r m e s).frac = [] := by
  unfold posLayout; dsimp only; split
  · split <;> simp
  · simp

theorem toShape_digits (l : Layout) (h : l.point = false → l.frac = []) :
    (toShape l).ints ++ (toShape l).frac.getD [] = l.int ++ l.frac ∧ (toShape l).frac.getD [] = l.frac := by
  unfold toShape; cases hp : l.point <;> simp [h, hp]

/-- `Placed` in terms of the layout's own fields -/
def PlacedL (l : Layout) (lz : Nat) (R : List Nat) (P : Int) : Prop :=
  ∃ j : Nat, l.int ++ l.frac = List.replicate lz 0 ++ R ++ List.replicate j 0 ∧ (j : Int) - (l.frac.length : Nat) = P

theorem placed_layout {l : Layout} {lz : Nat} {R : List Nat} {P : Int} (hp : l.point = false → l.frac = [])
    (h : Placed (toShape l) lz R P) : PlacedL l lz R P := by
  obtain ⟨h1, h2⟩ := toShape_digits l hp
  obtain ⟨j, hd, hj⟩ := h
  exact ⟨j, h1 ▸ hd, h2 ▸ hj⟩

/-- the empty run of zeros in front (here and in `pos_shape`) gives all three layouts the form `0…0 ++ core ++ 0…0` that
`layoutQ_of_shape` takes -/
theorem sciLayout_placed (fmt : Format) (o : WOpts) (d0 : Nat) (tail : List Nat) (e : Int) :
    PlacedL (WriteRadixInt.sciLayout fmt o (d0 :: tail) e) 0 (d0 :: rtrimZeros tail)
      (-((rtrimZeros tail).length : Nat)) := by
  obtain ⟨j, hd, hj⟩ := placed_layout (sciLayout_nopoint fmt o _ e)
    (sciLayout_toShape fmt o d0 tail e ▸ sciOf_placed _ (List.cons_ne_nil d0 _) e o)
  exact ⟨j, hd, by simp only [List.length_cons] at hj; omega⟩

theorem sci_shape (fmt : Format) (o : WOpts) (w r m : Nat) (exp scaled : Int) (d0 : Nat) (tail : List Nat)
    (hds : mantissaDigits w r m exp = d0 :: tail) :
    PlacedL (sciLayout fmt o w r m exp scaled) 0 (d0 :: rtrimZeros tail) (-((rtrimZeros tail).length : Nat)) := by
  rw [sciLayout_eq, hds]
  exact sciLayout_placed fmt o d0 tail scaled

/-- `z` counts the `0.` digit and the padding -/
theorem neg_shape (o : WOpts) (w r m : Nat) (exp sciExp : Int) {z : Int}
    (hz : fastCeildiv (i32 (-sciExp)) (fastLog2 r) = z) (hpos : 1 ≤ z) :
    PlacedL (negLayout o w r m exp sciExp) z.toNat (rtrimZeros (mantissaDigits w r m exp))
      (1 - z - ((rtrimZeros (mantissaDigits w r m exp)).length : Nat)) := by
  obtain ⟨j, hd, hj⟩ := placed_layout (by intro h; cases h)
    (negLayout_toShape o w r m exp sciExp ▸ negOf_placed _ _ o)
  rw [hz] at hd hj
  have hlz : 1 + (z.toNat - 1) = z.toNat := by omega
  exact ⟨j, hlz ▸ hd, by omega⟩

theorem pos_shape (o : WOpts) (w r m : Nat) (exp sciExp : Int) {q : Int}
    (hq : Int.tdiv sciExp (fastLog2 r) = q) (hpos : 0 ≤ q) :
    PlacedL (posLayout o w r m exp sciExp) 0 (rtrimZeros (mantissaDigits w r m exp))
      (q + 1 - ((rtrimZeros (mantissaDigits w r m exp)).length : Nat)) := by
  obtain ⟨j, hd, hj⟩ := placed_layout (posLayout_nopoint o w r m exp sciExp)
    (posLayout_toShape o w r m exp sciExp ▸ posOf_placed _ _ _ o)
  rw [hq] at hj
  exact ⟨j, hd, by omega⟩

/-- the notation choice of `write_float!`; `S` is the binary scientific exponent it is made on -/
theorem layoutME_cases (fmt : Format) (o : WOpts) (w m : Nat) (e : Int) {P : Layout → Prop} {r b : Nat} {S : Int}
    (hr : fmt.mantissaRadix = r) (hb : fmt.exponentBase = b)
    (hS : (if m = 0 then (0 : Int) else i32 (i32 (e + (significantBits m : Int)) - 1)) = S)
    (sci : P (sciLayout fmt o w r m e
      (if r ≠ b then scaleSciExpHex S (fastLog2 r) (fastLog2 b) else scaleSciExp S (fastLog2 r))))
    (neg : S < 0 → P (negLayout o w r m e S)) (pos : 0 ≤ S → P (posLayout o w r m e S)) :
    P (layoutME fmt o w m e) := by
  unfold layoutME
  simp only [hr, hb, hS]
  split
  · exact sci
  · split
    · exact neg ‹S < 0›
    · exact pos (Int.not_lt.mp ‹¬ S < 0›)

end LexVerif.Proof.WriteBinaryShape
