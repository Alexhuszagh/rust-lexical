import LexVerif.Proof.SepSkipAllLoops
import LexVerif.Proof.GrammarPhases
/-!
# Proof.SepSkipAll — the class `SkipAll` (every digit component skips every separator), and what the walk of the parser
over an input `s` against the stripped input shares between all classes

The two runs read the sign alike unless a sign stands behind separators (`parseSign_strip`), which `NoSepBeforeSign`
excludes. `ImpE` / `BiE`: success on one side gives success on the other with related results; nothing is said of failures,
since the two runs report an error at different indices (`Sep.RelE`, which asks for equal errors, does not hold here).
-/
namespace LexVerif.Proof.Sep
open LexVerif LexVerif.Model LexVerif.Spec
open LexVerif.Props.C12

structure SkipAll (c : Cfg) : Prop where
  debug : c.debug = false
  sep : c.digitSeparator ≠ 0
  int : c.skip .integer = .pred .iltc
  frac : c.skip .fraction = .pred .iltc
  exp : c.skip .exponent = .pred .iltc
  noPrefix : c.basePrefix = 0
  noSuffix : c.baseSuffix = 0
  noLz : c.noFloatLeadingZeros = false
  reqExp : c.requiredExponentDigits = true
  reqMant : c.requiredMantissaDigits = true
  sepPlus : c.isSep 43 = false
  sepMinus : c.isSep 45 = false
  radixM : c.mantissaRadix ≤ 36
  radixE : c.exponentRadix ≤ 36

theorem skip_iltc_any (f : SepFlags) (h : f.skip = .pred .iltc) : f.any = true := by
  obtain ⟨i, l, t, cc⟩ := f
  cases i <;> cases l <;> cases t <;> cases cc <;> simp [SepFlags.skip] at h <;> rfl

theorem SkipAll.sepClass {c : Cfg} (h : SkipAll c) : SepClass c := by
  refine ⟨h.debug, h.sep, ?_, ?_, ?_⟩
  · have := skip_iltc_any (c.sepFlags .integer) h.int
    simp [Cfg.iterContiguous, this]
  · have := skip_iltc_any (c.sepFlags .fraction) h.frac
    simp [Cfg.iterContiguous, this]
  · intro k
    cases k with
    | integer => rw [h.int]; simp
    | fraction => rw [h.frac]; simp
    | exponent => rw [h.exp]; simp
    | special => simp only [Cfg.skip]; split <;> simp

def ImpE {α β : Type} (R : α → β → Prop) (x : Except Err α) (y : Except Err β) : Prop :=
  ∀ a, x = .ok a → ∃ b, y = .ok b ∧ R a b

def BiE {α β : Type} (R : α → β → Prop) (x : Except Err α) (y : Except Err β) : Prop :=
  ImpE R x y ∧ ImpE (fun b a => R a b) y x

theorem biE_ite {α β : Type} {R : α → β → Prop} {p : Prop} [Decidable p] {e1 e2 : Err} {a : α} {b : β} (h : R a b) :
    BiE R (if p then .error e1 else .ok a) (if p then .error e2 else .ok b) := by
  by_cases hp : p
  · simp only [hp, if_true]
    exact ⟨fun _ h => (by cases h), fun _ h => (by cases h)⟩
  · simp only [hp, if_false]
    exact ⟨fun x hx => (by cases hx; exact ⟨b, rfl, h⟩), fun x hx => (by cases hx; exact ⟨a, rfl, h⟩)⟩

theorem biE_ok {α β : Type} {R : α → β → Prop} {a : α} {b : β} (h : R a b) :
    BiE R (Except.ok a) (Except.ok b) :=
  ⟨fun x hx => (by cases hx; exact ⟨b, rfl, h⟩), fun x hx => (by cases hx; exact ⟨a, rfl, h⟩)⟩

theorem biE_err {α β : Type} {R : α → β → Prop} {e1 e2 : Err} :
    BiE R (Except.error e1 : Except Err α) (Except.error e2 : Except Err β) :=
  ⟨fun _ h => (by cases h), fun _ h => (by cases h)⟩

/-- the continuations are compared on the results the two computations did return (a hypothesis such as `ExpOK` speaks
of the sign `parse_exponent_sign` returned, not of any related pair) -/
theorem BiE.bind_ok {α β γ δ : Type} {R : α → β → Prop} {Q : γ → δ → Prop} {x : Except Err α} {y : Except Err β}
    {f : α → Except Err γ} {g : β → Except Err δ} (h : BiE R x y)
    (hf : ∀ a b, x = .ok a → y = .ok b → R a b → BiE Q (f a) (g b)) : BiE Q (x >>= f) (y >>= g) := by
  cases x with
  | error e =>
    cases y with
    | error e' => exact biE_err
    | ok b => obtain ⟨a, ha, _⟩ := h.2 b rfl; cases ha
  | ok a =>
    obtain ⟨b, rfl, hab⟩ := h.1 a rfl
    exact hf a b rfl rfl hab

theorem BiE.bind {α β γ δ : Type} {R : α → β → Prop} {Q : γ → δ → Prop} {x : Except Err α} {y : Except Err β}
    {f : α → Except Err γ} {g : β → Except Err δ} (h : BiE R x y) (hf : ∀ a b, R a b → BiE Q (f a) (g b)) :
    BiE Q (x >>= f) (y >>= g) :=
  h.bind_ok fun a b _ _ => hf a b

theorem biE_fail {α β : Type} {R : α → β → Prop} {x : Except Err α} {y : Except Err β} (hx : ∀ a, x ≠ .ok a)
    (hy : ∀ b, y ≠ .ok b) : BiE R x y :=
  ⟨fun a h => absurd h (hx a), fun b h => absurd h (hy b)⟩

def Normal (c : Cfg) (b : Bytes) : Prop := ∀ x, b.slc[b.index]? = some x → c.isSep x = false

theorem advS_count (c : Cfg) (k : Comp) (di dc : Nat) (b : Bytes) (hf : c.feats.format = true) (hk : k ≠ .special) :
    (advS c k di dc b).ic + (advS c k di dc b).fc + (advS c k di dc b).ec = b.ic + b.fc + b.ec + dc := by
  cases k <;> simp [advS, hf] at hk ⊢ <;> omega

theorem StripRel.adv {c : Cfg} {s : List Nat} {b b' : Bytes} (h : StripRel c s b b') (k : Comp) (di dc : Nat)
    (hlen : (nonSep c ((b.slc.drop b.index).take di)).length = dc) :
    StripRel c s (advS c k di dc b) (adv c k dc b') := by
  obtain ⟨h1, h2, h3, h4, h5, h6⟩ := h
  refine ⟨by simp [h1], by simp [h2], ?_, ?_, ?_, ?_⟩
  · simp only [adv_index, advS_index, h3]
    rw [nonSep_take_add, ← h1, hlen]
  all_goals (cases k <;> simp [advS, Sep.adv, h4, h5, h6])

theorem StripRel.step1 {c : Cfg} {s : List Nat} {b b' : Bytes} (h : StripRel c s b b') (x : Nat)
    (hx : b.slc[b.index]? = some x) (hs : c.isSep x = false) :
    StripRel c s { b with index := b.index + 1 } { b' with index := b'.index + 1 } := by
  obtain ⟨h1, h2, h3, h4, h5, h6⟩ := h
  refine ⟨h1, h2, ?_, h4, h5, h6⟩
  simp only
  rw [nonSep_take_add, ← h1, IterSpec.drop_eq_cons hx, List.take_succ_cons, List.take_zero, nonSep_cons_non c x _ hs, h3, h1]
  simp [nonSep]

theorem StripRel.first {c : Cfg} {s : List Nat} {b b' : Bytes} (h : StripRel c s b b') (hN : Normal c b) :
    b'.first = b.first := by
  simp only [Bytes.first]; exact h.get hN

theorem charToDigit_sign (r : Nat) (hr : r ≤ 36) : charToDigit 43 r = none ∧ charToDigit 45 r = none := by
  constructor <;>
  · simp only [charToDigit, charToValidDigit]
    split
    · split
      · omega
      · rfl
    · simp; omega

theorem StripRel.head {c : Cfg} {s : List Nat} {b b' : Bytes} (h : StripRel c s b b') :
    b'.first = (nonSep c (b.slc.drop b.index)).head? := by
  simp only [Bytes.first, ← h.drop, List.head?_drop]

theorem normal_or_sep (c : Cfg) (b : Bytes) : Normal c b ∨ ∃ x, b.slc[b.index]? = some x ∧ c.isSep x = true := by
  cases hv : b.slc[b.index]? with
  | none => exact Or.inl (fun x hx => by rw [hv] at hx; cases hx)
  | some x =>
    cases hs : c.isSep x with
    | false => exact Or.inl (fun y hy => by rw [hv] at hy; cases hy; exact hs)
    | true => exact Or.inr ⟨x, rfl, hs⟩

theorem parseSign_normal (c : Cfg) (hd : c.debug = false) (s : List Nat) (np rq : Bool) (ip ms : String) (b b' : Bytes)
    (hr : StripRel c s b b') (hN : Normal c b) :
    BiE (fun r r' => r'.1 = r.1 ∧ StripRel c s r.2 r'.2 ∧ (b.index ≤ b.slc.length → r.2.index ≤ b.slc.length))
      (parseSign c np rq ip ms b) (parseSign c np rq ip ms b') := by
  have hf := hr.first hN
  rw [parseSign_release c hd, parseSign_release c hd]
  by_cases h43 : b.first = some 43
  · have hv : b.slc[b.index]? = some 43 := h43
    have hlt : b.index < b.slc.length := (List.getElem?_eq_some_iff.mp hv).1
    simp only [signClosed, hf, h43]
    cases np
    · exact biE_ok ⟨rfl, hr.step1 43 hv (hN 43 hv), fun _ => hlt⟩
    · exact biE_err
  · by_cases h45 : b.first = some 45
    · have hv : b.slc[b.index]? = some 45 := h45
      have hlt : b.index < b.slc.length := (List.getElem?_eq_some_iff.mp hv).1
      simp only [signClosed, hf, h45]
      exact biE_ok ⟨rfl, hr.step1 45 hv (hN 45 hv), fun _ => hlt⟩
    · rw [Grammar.signClosed_other np rq ip ms b h43 h45,
        Grammar.signClosed_other np rq ip ms b' (by rw [hf]; exact h43) (by rw [hf]; exact h45)]
      exact biE_ite ⟨rfl, hr, fun h => h⟩

theorem parseSign_strip (c : Cfg) (hd : c.debug = false) (hsp : c.isSep 43 = false) (hsm : c.isSep 45 = false)
    (s : List Nat) (np rq : Bool) (ip ms : String) (b b' : Bytes)
    (hr : StripRel c s b b') (r : Bool × Bytes) (h : parseSign c np rq ip ms b = .ok r) :
    (∃ r', parseSign c np rq ip ms b' = .ok r' ∧ r'.1 = r.1 ∧ StripRel c s r.2 r'.2 ∧
      (b.index ≤ b.slc.length → r.2.index ≤ b.slc.length)) ∨
    (r.2 = b ∧ ∃ y, (nonSep c (b.slc.drop b.index)).head? = some y ∧ (y = 43 ∨ y = 45)) := by
  rcases normal_or_sep c b with hN | ⟨x, hv, hs⟩
  · exact Or.inl ((parseSign_normal c hd s np rq ip ms b b' hr hN).1 r h)
  · -- the left cursor stands on a separator, which is no sign: the left run saw no sign
    have hb : b.first = some x := hv
    rw [parseSign_release c hd,
      Grammar.signClosed_other np rq ip ms b (by rw [hb]; intro e; cases e; rw [hsp] at hs; cases hs)
      (by rw [hb]; intro e; cases e; rw [hsm] at hs; cases hs)] at h
    cases rq
    · simp only [Bool.false_eq_true, if_false, Except.ok.injEq] at h
      subst h
      by_cases hsg : b'.first = some 43 ∨ b'.first = some 45
      · right
        rw [hr.head] at hsg
        rcases hsg with h1 | h1
        · exact ⟨rfl, 43, h1, Or.inl rfl⟩
        · exact ⟨rfl, 45, h1, Or.inr rfl⟩
      · left
        refine ⟨(false, b'), ?_, rfl, hr, fun h => h⟩
        rw [parseSign_release c hd,
          Grammar.signClosed_other np false ip ms b' (fun e => hsg (Or.inl e)) (fun e => hsg (Or.inr e))]
        rfl
    · simp at h

def NoSignAfterSep (c : Cfg) (b : Bytes) : Prop :=
  ∀ x, b.slc[b.index]? = some x → c.isSep x = true →
    ∀ y, (nonSep c (b.slc.drop b.index)).head? = some y → y ≠ 43 ∧ y ≠ 45

theorem parseSign_strip_rev (c : Cfg) (hd : c.debug = false) (hsp : c.isSep 43 = false) (hsm : c.isSep 45 = false)
    (s : List Nat) (np rq : Bool) (ip ms : String) (b b' : Bytes)
    (hr : StripRel c s b b') (hP : NoSignAfterSep c b) (r' : Bool × Bytes) (h : parseSign c np rq ip ms b' = .ok r') :
    ∃ r, parseSign c np rq ip ms b = .ok r ∧ r'.1 = r.1 ∧ StripRel c s r.2 r'.2 ∧
      (b.index ≤ b.slc.length → r.2.index ≤ b.slc.length) := by
  rcases normal_or_sep c b with hN | ⟨x, hv, hs⟩
  · exact (parseSign_normal c hd s np rq ip ms b b' hr hN).2 r' h
  · -- the left cursor stands on a separator not followed by a sign: neither run sees a sign
    have hb : b.first = some x := hv
    have hy : ∀ y, b'.first = some y → y ≠ 43 ∧ y ≠ 45 := fun y hy => hP x hv hs y (by rw [← hr.head]; exact hy)
    rw [parseSign_release c hd,
      Grammar.signClosed_other np rq ip ms b' (fun e => (hy 43 e).1 rfl) (fun e => (hy 45 e).2 rfl)] at h
    rw [parseSign_release c hd,
      Grammar.signClosed_other np rq ip ms b (by rw [hb]; intro e; cases e; rw [hsp] at hs; cases hs)
      (by rw [hb]; intro e; cases e; rw [hsm] at hs; cases hs)]
    cases rq
    · simp only [Bool.false_eq_true, if_false, Except.ok.injEq] at h ⊢
      subst h
      exact ⟨_, rfl, rfl, hr, fun h => h⟩
    · simp at h

theorem parseSign_bi (c : Cfg) (hd : c.debug = false) (hsp : c.isSep 43 = false) (hsm : c.isSep 45 = false)
    (s : List Nat) (np rq : Bool) (ip ms : String) (b b' : Bytes) (hr : StripRel c s b b') (hP : NoSignAfterSep c b) :
    BiE (fun r r' => r'.1 = r.1 ∧ StripRel c s r.2 r'.2 ∧ (b.index ≤ b.slc.length → r.2.index ≤ b.slc.length))
      (parseSign c np rq ip ms b) (parseSign c np rq ip ms b') := by
  rcases normal_or_sep c b with hN | ⟨x, hv, hs⟩
  · exact parseSign_normal c hd s np rq ip ms b b' hr hN
  · refine ⟨fun r h => ?_, fun r' h => parseSign_strip_rev c hd hsp hsm s np rq ip ms b b' hr hP r' h⟩
    rcases parseSign_strip c hd hsp hsm s np rq ip ms b b' hr r h with h1 | ⟨_, y, hy, hsg⟩
    · exact h1
    · have := hP x hv hs y hy
      rcases hsg with rfl | rfl
      · exact absurd rfl this.1
      · exact absurd rfl this.2

@[simp] theorem advS_first (g : Cfg) (k : Comp) (n m : Nat) (b : Bytes) :
    (advS g k n m b).first = b.slc[b.index + n]? := by
  simp [Bytes.first]

def NumRel (c : Cfg) (n n' : Number) : Prop :=
  n'.mantissa = n.mantissa ∧ n'.exponent = n.exponent ∧ n'.isNegative = n.isNegative ∧ n'.manyDigits = n.manyDigits ∧
  n'.integer = nonSep c n.integer ∧ n'.fraction = n.fraction.map (nonSep c) ∧ n'.explicitExp = n.explicitExp

theorem firstIs_some (b : Bytes) (v : Nat) (cased : Bool) (h : b.firstIs v cased = true) :
    ∃ x, b.slc[b.index]? = some x := by
  unfold Bytes.firstIs Bytes.firstIsCased Bytes.firstIsUncased Bytes.first at h
  cases hv : b.slc[b.index]? with
  | none => simp [hv] at h
  | some x => exact ⟨x, rfl⟩

theorem suffixPhase_none (c : Cfg) (h : c.baseSuffix = 0) (b : Bytes) : suffixPhase c b = .ok b := by
  simp [suffixPhase, h, pure, Except.pure]

def NoSepBeforeSign (c : Cfg) (s : List Nat) : Prop :=
  ∀ i x, s[i]? = some x → c.isSep x = true → ∀ y, (nonSep c (s.drop i)).head? = some y → y ≠ 43 ∧ y ≠ 45

theorem NoSepBeforeSign.at {c : Cfg} {s : List Nat} (h : NoSepBeforeSign c s) (b : Bytes) (hb : b.slc = s) :
    NoSignAfterSep c b := by
  intro x hx hs y hy
  rw [hb] at hx hy
  exact h b.index x hx hs y hy

theorem stripRel_new (c : Cfg) (s : List Nat) : StripRel c s (Bytes.new s) (Bytes.new (nonSep c s)) := by
  refine ⟨rfl, rfl, ?_, rfl, rfl, rfl⟩
  simp [Bytes.new, nonSep]

theorem parseCompleteNumber_ok_iff (c : Cfg) (o : POpts) (b : Bytes) (neg fv : Bool) (n : Number) :
    parseCompleteNumber c o b neg fv = .ok n ↔ parseNumber c false o b neg fv = .ok (n, b.slc.length) := by
  unfold parseCompleteNumber
  cases parseNumber c false o b neg fv with
  | error e => simp [bind, Except.bind]
  | ok r =>
    obtain ⟨m, count⟩ := r
    simp only [bind, Except.bind, Bytes.bufferLength, pure, Except.pure, Except.ok.injEq, Prod.mk.injEq]
    by_cases h : count = b.slc.length <;> simp [h]

theorem parseFloatSyntax_number_iff (c : Cfg) (o : POpts) (s : List Nat) (fv : Bool) (n : Number) (cnt : Nat) :
    parseFloatSyntax c o false s fv = .ok (.number n cnt) ↔
      ∃ neg b1 b2, parseMantissaSign c (Bytes.new s) = .ok (neg, b1) ∧ isConsumed c .integer b1 = .ok (false, b2) ∧
        parseNumber c false o b2 neg fv = .ok (n, b2.slc.length) ∧ cnt = s.length := by
  unfold parseFloatSyntax
  simp only [bind, Except.bind, Bool.false_eq_true, if_false, ← parseCompleteNumber_ok_iff]
  cases parseMantissaSign c (Bytes.new s) with
  | error e => simp
  | ok r =>
    obtain ⟨neg, b1⟩ := r
    simp only [Except.ok.injEq, Prod.mk.injEq, and_assoc, exists_and_left, exists_eq_left']
    cases isConsumed c .integer b1 with
    | error e => simp
    | ok r2 =>
      obtain ⟨consumed, b2⟩ := r2
      simp only [Except.ok.injEq, Prod.mk.injEq, and_assoc, exists_and_left, exists_eq_left']
      cases consumed with
      | true =>
        simp only [if_true]
        split <;> simp [pure, Except.pure]
      | false =>
        simp only [Bool.false_eq_true, if_false]
        cases parseCompleteNumber c o b2 neg fv with
        | ok n0 => simp [pure, Except.pure, eq_comm]
        | error e =>
          cases e with
          | err k i =>
            simp only
            cases parseSpecialComplete c o b2 with
            | error e2 => simp
            | ok sp => cases sp <;> simp [pure, Except.pure]
          | panic t => simp
          | fault t => simp

theorem nonSep_take_length_le (c : Cfg) (s : List Nat) (k : Nat) : (nonSep c (s.take k)).length ≤ (nonSep c s).length := by
  have h : nonSep c s = nonSep c (s.take k) ++ nonSep c (s.drop k) := by rw [← nonSep_append, List.take_append_drop]
  rw [h, List.length_append]; omega

theorem end_of_strip (c : Cfg) (s : List Nat) (k : Nat) (hk : k ≤ s.length)
    (hN : ∀ x, s[k]? = some x → c.isSep x = false) (h : (nonSep c (s.take k)).length = (nonSep c s).length) :
    k = s.length := by
  by_cases hlt : k < s.length
  · exfalso
    have hx : s[k]? = some s[k] := List.getElem?_eq_getElem hlt
    have h1 := nonSep_take_add c s k 1
    rw [IterSpec.drop_eq_cons hx, List.take_succ_cons, List.take_zero, nonSep_cons_non c _ _ (hN _ hx)] at h1
    have h2 := nonSep_take_length_le c s (k + 1)
    simp only [nonSep, List.filter_nil, List.length_cons, List.length_nil] at h1
    simp only [nonSep] at h h2
    omega
  · omega

def noSepBeforeSignB (c : Cfg) (s : List Nat) : Bool :=
  (List.range s.length).all fun i =>
    match s[i]? with
    | some x =>
      !c.isSep x ||
        (match (nonSep c (s.drop i)).head? with
         | some y => y != 43 && y != 45
         | none => true)
    | none => true

theorem noSepBeforeSign_of_B (c : Cfg) (s : List Nat) (h : noSepBeforeSignB c s = true) : NoSepBeforeSign c s := by
  intro i x hx hs y hy
  have hi : i < s.length := (List.getElem?_eq_some_iff.mp hx).1
  have := List.all_eq_true.mp h i (List.mem_range.mpr hi)
  simp only [hx, hs, Bool.not_true, Bool.false_or, hy, Bool.and_eq_true, bne_iff_ne, ne_eq] at this
  exact this

end LexVerif.Proof.Sep
