import LexVerif.Proof.ShortestUp
import LexVerif.Proof.DragonboxSpec
import LexVerif.Proof.Bits
import Mathlib.Tactic.Ring
import Mathlib.Tactic.Linarith
/-!
# Proof.DragonboxShortest — from the model's `Float::mantissa`/`Float::exponent` to `Spec.interval`, and the
characterisation of `Spec.shortest` (`Proof/ShortestUp.lean`) at the two float types
-/
namespace LexVerif.Proof.DragonboxShortest
open LexVerif.Spec LexVerif.Proof.RoundNE LexVerif.Model.Dragonbox LexVerif.Proof.DragonboxSpec

open LexVerif.Proof.Bits

theorem wf_fmtOf (t : FTy) : WF (fmtOf t) := by
  cases t
  · exact wf_f32
  · exact wf_f64

theorem consts (t : FTy) :
    t.ms = (fmtOf t).p - 1 ∧ t.exponentSize.toNat = (fmtOf t).ebits
    ∧ t.denormalExponent = (fmtOf t).eminLsb
    ∧ t.exponentBias = ((fmtOf t).bias : Int) + (((fmtOf t).p : Int) - 1)
    ∧ t.bits - 1 = (fmtOf t).ebits + ((fmtOf t).p - 1) := by
  cases t <;> decide

theorem and_exponentMask (t : FTy) (bits : Nat) :
    bits &&& t.exponentMask = (fmtOf t).expField bits * 2 ^ ((fmtOf t).p - 1) := by
  obtain ⟨c1, c2, _⟩ := consts t
  unfold FTy.exponentMask Fmt.expField
  rw [← Nat.shiftLeft_eq, and_shifted_mask, c1, c2]

/-- `Float::mantissa`, `Float::exponent` and the mantissa mask (mask-and-shift, as in lexical-util) are the fields of
`Spec.Fmt.decode`, for every bit pattern -/
theorem accessors_decode (t : FTy) (bits : Nat) :
    t.mantissa bits = ((fmtOf t).decode bits).m ∧ t.exponent bits = ((fmtOf t).decode bits).e
    ∧ bits &&& t.mantissaMask = (fmtOf t).manField bits := by
  obtain ⟨c1, _, c3, c4, _⟩ := consts t
  have hpos : 0 < 2 ^ ((fmtOf t).p - 1) := Nat.two_pow_pos _
  have hden : t.isDenormal bits = decide ((fmtOf t).expField bits = 0) := by
    unfold FTy.isDenormal
    rw [and_exponentMask]
    simp only [Nat.mul_eq_zero, Nat.ne_of_gt hpos, or_false]
  unfold FTy.mantissa FTy.exponent FTy.mantissaMask FTy.hiddenBit Fmt.decode Fmt.manField
  rw [hden, and_exponentMask, c1, Nat.shiftRight_eq_div_pow, Nat.mul_div_cancel _ hpos,
    Nat.and_two_pow_sub_one_eq_mod, c3, c4]
  by_cases h : (fmtOf t).expField bits = 0
  · simp only [h, decide_true, if_true, and_self]
  · simp only [h, decide_false, Bool.false_eq_true, if_false, true_and, and_true]
    omega

/-- the oracle's rounding interval of a finite non-zero float, written with the model's accessors: the lower end is the
near one, `4m - 1`, exactly at the start of a binade above the lowest one -/
theorem interval_accessors (t : FTy) (bits : Nat) (h0 : 0 < bits) (hfin : bits < (fmtOf t).infBits) :
    interval (fmtOf t) bits =
      { v := 4 * t.mantissa bits,
        lo := if t.mantissa bits = 2 ^ ((fmtOf t).p - 1) ∧ t.denormalExponent < t.exponent bits
          then 4 * t.mantissa bits - 1 else 4 * t.mantissa bits - 2,
        hi := 4 * t.mantissa bits + 2, e2 := t.exponent bits - 2, incl := decide (t.mantissa bits % 2 = 0) }
    ∧ 1 ≤ t.mantissa bits ∧ t.mantissa bits < 2 ^ (fmtOf t).p
    ∧ t.denormalExponent ≤ t.exponent bits
    ∧ t.exponent bits ≤ ((2 ^ t.exponentSize.toNat - 2 : Nat) : Int) - t.exponentBias
    ∧ (t.exponent bits ≠ t.denormalExponent → 2 ^ ((fmtOf t).p - 1) ≤ t.mantissa bits)
    ∧ bits &&& t.mantissaMask = t.mantissa bits % 2 ^ ((fmtOf t).p - 1) := by
  have hf := wf_fmtOf t
  obtain ⟨k, q, hb, h1, h2, hdec, hk⟩ := decode_kq hf hfin
  obtain ⟨hM, hE, hmask⟩ := accessors_decode t bits
  obtain ⟨_, c2, c3, c4, _⟩ := consts t
  simp only [hdec] at hM hE
  have hp : 2 * 2 ^ ((fmtOf t).p - 1) = 2 ^ (fmtOf t).p := by
    rw [← Nat.pow_succ']
    congr 1
    have := hf.hp
    omega
  have hq1 : 1 ≤ q := kq_pos h1 (by omega)
  have hes : 2 ^ 2 ≤ 2 ^ (fmtOf t).ebits := Nat.pow_le_pow_right (by decide) hf.he
  -- the exponent field `k` or `k + 1` is below the all-ones field
  have hkmax : k + 3 ≤ 2 ^ (fmtOf t).ebits := by
    have hef : bits / 2 ^ ((fmtOf t).p - 1) < 2 ^ (fmtOf t).ebits - 1 :=
      Nat.div_lt_of_lt_mul (by rw [Nat.mul_comm]; exact hfin)
    rcases Nat.eq_zero_or_pos k with rfl | hk0
    · omega
    · have : k + 1 ≤ bits / 2 ^ ((fmtOf t).p - 1) := by
        rw [Nat.le_div_iff_mul_le (Nat.two_pow_pos _), hb, Nat.add_mul, Nat.one_mul]
        exact Nat.add_le_add_left (h1 hk0) _
      omega
  have hL : L (fmtOf t) + 1 = (fmtOf t).bias + ((fmtOf t).p - 1) := by
    unfold L
    have := bias_pos hf
    omega
  rw [hM, hE, hmask, c2, c3, c4, eminLsb_eq hf, ← hp]
  refine ⟨?_, hq1, h2, by omega, by have := hf.hp; omega, fun hk0 => h1 (by omega), ?_⟩
  · unfold interval
    simp only [hdec, hk, show (-(L (fmtOf t) : Int) < (k : Int) - (L (fmtOf t) : Int)) ↔ 0 < k by omega]
  · unfold Fmt.manField
    rw [hb, Nat.mul_comm, Nat.mul_add_mod]

theorem interval_normal (t : FTy) (bits : Nat) (h0 : 0 < bits) (hfin : bits < (fmtOf t).infBits)
    (hm : bits &&& t.mantissaMask ≠ 0) :
    interval (fmtOf t) bits =
      { v := 4 * t.mantissa bits, lo := 4 * t.mantissa bits - 2, hi := 4 * t.mantissa bits + 2,
        e2 := t.exponent bits - 2, incl := decide (t.mantissa bits % 2 = 0) }
    ∧ 1 ≤ t.mantissa bits ∧ t.mantissa bits < 2 ^ (fmtOf t).p
    ∧ t.denormalExponent ≤ t.exponent bits
    ∧ t.exponent bits ≤ ((2 ^ t.exponentSize.toNat - 2 : Nat) : Int) - t.exponentBias
    ∧ (t.exponent bits ≠ t.denormalExponent → 2 ^ ((fmtOf t).p - 1) ≤ t.mantissa bits) := by
  obtain ⟨hiv, hq1, hq2, he1, he2, hqn, hmask⟩ := interval_accessors t bits h0 hfin
  have hqT : t.mantissa bits ≠ 2 ^ ((fmtOf t).p - 1) := fun h => hm (by rw [hmask, h, Nat.mod_self])
  rw [if_neg (fun h => hqT h.1)] at hiv
  exact ⟨hiv, hq1, hq2, he1, he2, hqn⟩

theorem signless_ne_zero (t : FTy) (bits : Nat) (h0 : 0 < bits) (hfin : bits < (fmtOf t).infBits) :
    bits &&& (t.signMask - 1) ≠ 0 := by
  obtain ⟨_, _, _, _, c5⟩ := consts t
  have hlt : bits < 2 ^ (t.bits - 1) := by
    rw [c5, Nat.pow_add]
    exact Nat.lt_of_lt_of_le hfin (Nat.mul_le_mul_right _ (Nat.sub_le _ _))
  unfold FTy.signMask
  rw [Nat.and_two_pow_sub_one_eq_mod, Nat.mod_eq_of_lt hlt]
  exact Nat.ne_of_gt h0

theorem toDecimal_normal (t : FTy) (bits : Nat) (h0 : 0 < bits) (hfin : bits < (fmtOf t).infBits)
    (hm : bits &&& t.mantissaMask ≠ 0) : toDecimal t bits = computeNearestNormal t bits := by
  unfold toDecimal
  simp only []
  rw [if_neg (signless_ne_zero t bits h0 hfin), if_neg hm]

theorem zero_mantissa_form (t : FTy) (bits : Nat) (h0 : 0 < bits) (hfin : bits < (fmtOf t).infBits)
    (hm : bits &&& t.mantissaMask = 0) :
    ∃ e, 0 < e ∧ e < 2 ^ t.exponentSize.toNat - 1 ∧ bits = e * 2 ^ t.ms
     ∧ toDecimal t bits = computeNearestShorter t bits := by
  have htd : toDecimal t bits = computeNearestShorter t bits := by
    unfold toDecimal
    simp only []
    rw [if_neg (signless_ne_zero t bits h0 hfin), if_pos hm]
  obtain ⟨c1, c2, _⟩ := consts t
  rw [(accessors_decode t bits).2.2, Fmt.manField, ← c1] at hm
  have hd := Nat.div_add_mod bits (2 ^ t.ms)
  rw [hm, Nat.add_zero, Nat.mul_comm] at hd
  refine ⟨bits / 2 ^ t.ms, Nat.pos_of_ne_zero fun h => ?_, ?_, hd.symm, htd⟩
  · rw [h, Nat.zero_mul] at hd
    omega
  · rw [c1, c2]
    exact Nat.div_lt_of_lt_mul (by rw [Nat.mul_comm]; exact hfin)

theorem fmtOf_small (t : FTy) : (fmtOf t).p ≤ 1000 ∧ (fmtOf t).maxExpField ≤ 100000 ∧ L (fmtOf t) + 2 ≤ 200000 := by
  cases t <;> decide

theorem mem_shortest_fmtOf (t : FTy) {bits : Nat} (h0 : 0 < bits) (hfin : bits < (fmtOf t).infBits) (D : Nat) (E : Int) :
    (D, E) ∈ shortest (fmtOf t) bits ↔
      Cand (interval (fmtOf t) bits) E D ∧ (∀ D', ¬ Cand (interval (fmtOf t) bits) (E + 1) D')
      ∧ ∀ D', Cand (interval (fmtOf t) bits) E D' →
          dist (interval (fmtOf t) bits) E D ≤ dist (interval (fmtOf t) bits) E D' :=
  mem_shortest_iff (wf_fmtOf t) (fmtOf_small t).1 (fmtOf_small t).2.1 (fmtOf_small t).2.2 h0 hfin D E

theorem mem_shortest_fmtOf_of_unique (t : FTy) {bits : Nat} (h0 : 0 < bits) (hfin : bits < (fmtOf t).infBits) {E : Int}
    {s m j : Nat} (hc : Cand (interval (fmtOf t) bits) E s) (huniq : ∀ D, Cand (interval (fmtOf t) bits) E D → D = s)
    (hs : s = m * 10 ^ j) (hm : m % 10 ≠ 0) : (m, E + j) ∈ shortest (fmtOf t) bits :=
  mem_shortest_of_unique (wf_fmtOf t) (fmtOf_small t).1 (fmtOf_small t).2.1 (fmtOf_small t).2.2 h0 hfin hc huniq hs hm

/-! ## the introduction rule of the search on two small intervals

The interval `[9.5, 10.5]` around `10` (unit `2^-2`): at scale `1` the only candidate is `1`, none at scale `2`.
The open interval `(11.75, 12.75)` around `12.25`: no candidate at scale `1`, `12` is the nearest at scale `0`. -/

example : (1, 1) ∈ shortestGo ⟨40, 38, 42, -2, true⟩ 420 5 := by
  have hr1 : candRange ⟨40, 38, 42, -2, true⟩ 1 = (1, 1) := by decide +kernel
  have hr2 : candRange ⟨40, 38, 42, -2, true⟩ (1 + 1) = (1, 0) := by decide +kernel
  refine mem_shortestGo_of_best (by unfold Cand; rw [hr1]; exact ⟨le_refl _, le_refl _⟩)
    (by intro D hD; unfold Cand at hD; rw [hr2] at hD; dsimp only at hD; omega) (fun D' hD' => ?_)
    (by norm_num) (by norm_num)
  unfold Cand at hD'
  rw [hr1] at hD'
  rw [show D' = 1 by dsimp only at hD'; omega]

example : (12, 0) ∈ shortestGo ⟨49, 47, 51, -2, false⟩ 420 5 := by
  have hr0 : candRange ⟨49, 47, 51, -2, false⟩ 0 = (12, 12) := by decide +kernel
  have hr1 : candRange ⟨49, 47, 51, -2, false⟩ (0 + 1) = (2, 1) := by decide +kernel
  exact mem_shortestGo_of_best (by unfold Cand; rw [hr0]; exact ⟨le_refl _, le_refl _⟩)
    (by intro D hD; unfold Cand at hD; rw [hr1] at hD; dsimp only at hD; omega)
    (fun D' _ => best_of_close (by decide +kernel) D') (by norm_num) (by norm_num)

end LexVerif.Proof.DragonboxShortest
