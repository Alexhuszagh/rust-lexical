import LexVerif.Proof.BytesLimbs
/-!
# Proof.BytesMul — `large_add_from`, `long_mul`, `large_mul`, `pow` on limbs

`long_mul(x, y)` is the schoolbook product: `z = x·y[0]`, then `z += (x·y[i]) << 64·i` for every non-zero limb of `y`
(`small_mul`, `large_add_from`, `small_add_from` for the last carry), normalised at the end. Between the steps `z` is a
vector of 64-bit limbs that may carry zero limbs at the top, so the steps are specified on `LimbsOk` vectors
(`largeAddFromL_spec`, `longMulGo_spec`); `largeMulL_spec`: the product of two normalised vectors is normalised, denotes
the product, and is computed whenever it fits the capacity. `large_mul` and the free function `pow` refine their value-level
models (`largeMulL_refines`, `powOddL_refines`), whence `powOddL_spec`.
-/
namespace LexVerif.Proof.Slow
open LexVerif.Spec LexVerif.Model LexVerif.Model.Slow LexVerif.Proof.RoundNE

theorem smallAddFromGo_spec : ∀ (x : Limbs) (start c : Nat), LimbsOk x → c ≤ 1 → start ≤ x.length →
    valL (smallAddFromGo x start c).1 + B64 ^ x.length * (smallAddFromGo x start c).2 = valL x + B64 ^ start * c ∧
    (smallAddFromGo x start c).1.length = x.length ∧ LimbsOk (smallAddFromGo x start c).1 ∧
    (smallAddFromGo x start c).2 ≤ 1
  | [], start, c, _, hc, hs => by
    have : start = 0 := by simpa using hs
    subst this
    simp only [smallAddFromGo, valL, List.length_nil, Nat.pow_zero, Nat.one_mul, Nat.zero_add]
    exact ⟨True.intro, True.intro, limbsOk_nil, hc⟩
  | xi :: xs, 0, c, ox, hc, _ => by
    obtain ⟨hxi, oxs⟩ := limbsOk_cons.mp ox
    by_cases hc0 : c = 0
    · subst hc0
      have : smallAddFromGo (xi :: xs) 0 0 = (xi :: xs, 0) := by simp [smallAddFromGo]
      rw [this]
      exact ⟨by simp, rfl, ox, Nat.zero_le _⟩
    · have hun : smallAddFromGo (xi :: xs) 0 c =
          (((xi + c) % B64) :: (smallAddFromGo xs 0 ((xi + c) / B64)).1, (smallAddFromGo xs 0 ((xi + c) / B64)).2) := by
        simp [smallAddFromGo, hc0]
      rw [hun]
      have hcar : (xi + c) / B64 ≤ 1 := by
        have : (xi + c) / B64 < 2 := by
          rw [Nat.div_lt_iff_lt_mul B64_pos]; omega
        omega
      obtain ⟨e1, e2, e3, e4⟩ := smallAddFromGo_spec xs 0 ((xi + c) / B64) oxs hcar (Nat.zero_le _)
      simp only [valL, List.length_cons, Nat.pow_zero, Nat.one_mul] at e1 ⊢
      refine ⟨?_, by rw [e2], limbsOk_cons.mpr ⟨Nat.mod_lt _ B64_pos, e3⟩, e4⟩
      rw [Nat.pow_succ]
      exact carry_step B64 xi c _ _ _ _ _ _ (Nat.div_add_mod (xi + c) B64) e1
  | xi :: xs, s + 1, c, ox, hc, hs => by
    obtain ⟨hxi, oxs⟩ := limbsOk_cons.mp ox
    simp only [List.length_cons, Nat.add_le_add_iff_right] at hs
    obtain ⟨e1, e2, e3, e4⟩ := smallAddFromGo_spec xs s c oxs hc hs
    simp only [smallAddFromGo, valL, List.length_cons]
    refine ⟨?_, by rw [e2], limbsOk_cons.mpr ⟨hxi, e3⟩, e4⟩
    rw [Nat.pow_succ, Nat.pow_succ]
    -- the limb passes unchanged: no carry in, none out
    exact (carry_step B64 xi 0 0 xi _ _ (valL xs + B64 ^ s * c) _ (by omega) e1).trans (by ring)

theorem smallAddFromL_carried {cap : Nat} {x : Limbs} (ox : LimbsOk x) (hlen : x.length ≤ cap) {start : Nat}
    (hs : start ≤ x.length) :
    Computes (smallAddFromL cap x 1 start) cap (valL x + B64 ^ start) (Carried cap x.length (valL x + B64 ^ start)) := by
  obtain ⟨e1, e2, e3, e4⟩ := smallAddFromGo_spec x start 1 ox (Nat.le_refl _) hs
  rw [Nat.mul_one, ← e2] at e1
  have := pushCarry (cap := cap) e3 (Nat.lt_of_le_of_lt e4 one_lt_B64) (by rw [e2]; exact hlen)
  rw [e1, e2] at this
  exact this

/-- the limbs of `xs` above `ys` are kept: the sum with them put back is `xs + ys`, up to the carry at position `|ys|` -/
theorem addGo_spec : ∀ (xs ys : Limbs) (c : Nat), LimbsOk xs → LimbsOk ys → c ≤ 1 → ys.length ≤ xs.length →
    valL ((addGo xs ys c).1 ++ xs.drop ys.length) + B64 ^ ys.length * (addGo xs ys c).2 = valL xs + valL ys + c ∧
    (addGo xs ys c).1.length = ys.length ∧ LimbsOk (addGo xs ys c).1 ∧ (addGo xs ys c).2 ≤ 1
  | xs, [], c, _, _, hc, _ => by
    cases xs <;> simp [addGo, valL, limbsOk_nil, hc]
  | [], _ :: _, _, _, _, _, h => by simp at h
  | xi :: xs, yi :: ys, c, ox, oy, hc, hl => by
    obtain ⟨hxi, oxs⟩ := limbsOk_cons.mp ox
    obtain ⟨hyi, oys⟩ := limbsOk_cons.mp oy
    simp only [List.length_cons, Nat.add_le_add_iff_right] at hl
    have hcar : (xi + yi + c) / B64 ≤ 1 := by
      have : (xi + yi + c) / B64 < 2 := by
        rw [Nat.div_lt_iff_lt_mul B64_pos]; omega
      omega
    obtain ⟨e1, e2, e3, e4⟩ := addGo_spec xs ys ((xi + yi + c) / B64) oxs oys hcar hl
    simp only [addGo, valL, List.length_cons, List.drop_succ_cons, List.cons_append]
    refine ⟨?_, by rw [e2], limbsOk_cons.mpr ⟨Nat.mod_lt _ B64_pos, e3⟩, e4⟩
    rw [Nat.pow_succ]
    have := carry_step B64 (xi + yi) c _ _ _ _ _ _ (Nat.div_add_mod (xi + yi + c) B64)
      (show valL ((addGo xs ys ((xi + yi + c) / B64)).1 ++ xs.drop ys.length) +
          B64 ^ ys.length * (addGo xs ys ((xi + yi + c) / B64)).2 = (valL xs + valL ys) + (xi + yi + c) / B64 from e1)
    have a : B64 * (valL xs + valL ys) = B64 * valL xs + B64 * valL ys := Nat.mul_add _ _ _
    omega

/-- the body of `large_add_from` once `x` is long enough: add `y` into the limbs from `start`, then propagate the carry -/
theorem addAt_spec {cap : Nat} {x y : Limbs} {start : Nat} (ox : LimbsOk x) (oy : LimbsOk y)
    (hl : y.length + start ≤ x.length) (hcap : x.length ≤ cap) :
    Computes
      (let r := addGo (x.drop start) y 0
       let x' := x.take start ++ r.1 ++ x.drop (start + y.length)
       if r.2 ≠ 0 then smallAddFromL cap x' 1 (y.length + start) else some x')
      cap (valL x + B64 ^ start * valL y)
      (fun z => LimbsOk z ∧ valL z = valL x + B64 ^ start * valL y ∧ x.length ≤ z.length ∧ z.length ≤ cap) := by
  obtain ⟨e1, e2, e3, e4⟩ := addGo_spec (x.drop start) y 0 (fun l h => ox l (List.mem_of_mem_drop h)) oy (Nat.zero_le 1)
    (by rw [List.length_drop]; omega)
  rw [Nat.add_zero, List.drop_drop] at e1
  dsimp only
  generalize addGo (x.drop start) y 0 = r at *
  have ox' : LimbsOk (x.take start ++ r.1 ++ x.drop (start + y.length)) :=
    limbsOk_append.mpr ⟨limbsOk_append.mpr ⟨fun l h => ox l (List.mem_of_mem_take h), e3⟩,
      fun l h => ox l (List.mem_of_mem_drop h)⟩
  have hl' : (x.take start ++ r.1 ++ x.drop (start + y.length)).length = x.length := by
    simp only [List.length_append, List.length_take, List.length_drop, e2]; omega
  have hv : valL (x.take start ++ r.1 ++ x.drop (start + y.length)) + B64 ^ (y.length + start) * r.2 =
      valL x + B64 ^ start * valL y := by
    have hx := valL_append_pow (x.take start) (x.drop start)
    rw [List.take_append_drop, List.length_take, Nat.min_eq_left (by omega)] at hx
    rw [List.append_assoc, valL_append_pow, List.length_take, Nat.min_eq_left (by omega), hx, Nat.pow_add]
    calc valL (x.take start) + B64 ^ start * valL (r.1 ++ x.drop (start + y.length)) + B64 ^ y.length * B64 ^ start * r.2
        = valL (x.take start) + B64 ^ start * (valL (r.1 ++ x.drop (start + y.length)) + B64 ^ y.length * r.2) := by ring
      _ = valL (x.take start) + B64 ^ start * (valL (x.drop start) + valL y) := by rw [e1]
      _ = _ := by ring
  rw [← hv]
  by_cases h0 : r.2 = 0
  · rw [if_neg (not_not_intro h0), h0, Nat.mul_zero, Nat.add_zero]
    exact Computes.pure ⟨ox', rfl, Nat.le_of_eq hl'.symm, Nat.le_trans (Nat.le_of_eq hl') hcap⟩
  · rw [if_pos h0, show r.2 = 1 by omega, Nat.mul_one]
    exact Computes.mono (smallAddFromL_carried ox' (Nat.le_trans (Nat.le_of_eq hl') hcap) (by rw [hl']; exact hl))
      fun z c => ⟨c.ok, c.val, by rw [← hl']; exact c.ge, c.le⟩

theorem largeAddFromL_spec {cap : Nat} {x y : Limbs} (ox : LimbsOk x) (hy : Normalized y) (hyne : y ≠ [])
    (start : Nat) (hlen : x.length ≤ cap) :
    Computes (largeAddFromL cap x y start) cap (valL x + B64 ^ start * valL y)
      (fun z => LimbsOk z ∧ valL z = valL x + B64 ^ start * valL y ∧ x.length ≤ z.length ∧ z.length ≤ cap) := by
  have hypos := List.length_pos_iff.mpr hyne
  -- the resize fails only if `y·B^start` alone does not fit
  have hres : Computes
      (if y.length > x.length - start then
        (if y.length + start > cap then none else some (x ++ List.replicate (y.length + start - x.length) 0))
      else some x) cap (B64 ^ (start + (y.length - 1)))
      (fun x1 => LimbsOk x1 ∧ valL x1 = valL x ∧ y.length + start ≤ x1.length ∧ x.length ≤ x1.length ∧ x1.length ≤ cap) := by
    split
    · constructor
      · intro x1 h
        split at h
        · exact absurd h (by simp)
        · injection h with h
          subst h
          refine ⟨limbsOk_append.mpr ⟨ox, fun l hl => by rw [List.eq_of_mem_replicate hl]; exact B64_pos⟩, ?_, ?_, ?_, ?_⟩
          · rw [valL_append_pow, valL_zeros, Nat.mul_zero, Nat.add_zero]
          all_goals simp only [List.length_append, List.length_replicate]; omega
      · intro hfit
        have := B64_pow_lt hfit
        rw [if_neg (by omega)]
        exact ⟨_, rfl⟩
    · exact Computes.pure ⟨ox, rfl, by omega, Nat.le_refl _, hlen⟩
  unfold largeAddFromL
  refine Computes.bind hres ?_ fun x1 ⟨o1, v1, l1, _, l3⟩ => ?_
  · rw [Nat.pow_add]
    exact Nat.le_trans (Nat.mul_le_mul_left _ (valL_ge hy hyne)) (Nat.le_add_left _ _)
  · rw [← v1]
    exact Computes.mono (addAt_spec o1 hy.1 l1 l3) fun z ⟨a, b, c, d⟩ => ⟨a, b, by omega, d⟩

theorem longMulGo_spec {cap : Nat} {x : Limbs} (hx : Normalized x) (hxne : x ≠ []) (hxl : x.length ≤ cap) :
    ∀ (ys : Limbs) (index : Nat) (z : Limbs), LimbsOk ys → LimbsOk z → z.length ≤ cap →
      Computes (longMulGo cap x ys index z) cap (valL z + B64 ^ index * (valL x * valL ys))
        (fun z' => LimbsOk z' ∧ valL z' = valL z + B64 ^ index * (valL x * valL ys) ∧ z'.length ≤ cap)
  | [], index, z, _, oz, hz => by
    simp only [longMulGo, valL, Nat.mul_zero, Nat.add_zero]
    exact Computes.pure ⟨oz, rfl, hz⟩
  | yi :: ys, index, z, oys, oz, hz => by
    obtain ⟨hyi, oys'⟩ := limbsOk_cons.mp oys
    have hsplit : valL z + B64 ^ index * (valL x * valL (yi :: ys)) =
        (valL z + B64 ^ index * (valL x * yi)) + B64 ^ (index + 1) * (valL x * valL ys) := by
      simp only [valL]; rw [Nat.pow_succ]; ring
    rw [hsplit]
    unfold longMulGo
    by_cases h0 : yi = 0
    · rw [if_neg (not_not_intro h0), h0, Nat.mul_zero, Nat.mul_zero, Nat.add_zero]
      exact longMulGo_spec hx hxne hxl ys (index + 1) z oys' oz hz
    · rw [if_pos h0]
      have hpos : 0 < valL x * yi := Nat.mul_pos (valL_pos hx hxne) (Nat.pos_of_ne_zero h0)
      have hle : valL x * yi ≤ B64 ^ index * (valL x * yi) := Nat.le_mul_of_pos_left _ (Nat.pow_pos B64_pos)
      refine Computes.bind (smallMulL_spec hx hxl h0 hyi) (by omega) fun zi ⟨nzi, vzi⟩ => ?_
      rw [← vzi] at hpos ⊢
      refine Computes.bind (largeAddFromL_spec oz nzi (ne_nil_of_valL_pos hpos) index hz) (Nat.le_add_right _ _)
        fun z2 ⟨oz2, vz2, _, lz2⟩ => ?_
      rw [← vz2]
      exact longMulGo_spec hx hxne hxl ys (index + 1) z2 oys' oz2 lz2

theorem longMulL_spec {cap : Nat} {x y : Limbs} (hx : Normalized x) (hxne : x ≠ []) (hxl : x.length ≤ cap)
    (oy : LimbsOk y) (hyne : y ≠ []) :
    Computes (longMulL cap x y) cap (valL x * valL y)
      (fun z => Normalized z ∧ valL z = valL x * valL y ∧ z.length ≤ cap) := by
  cases y with
  | nil => exact absurd rfl hyne
  | cons y0 ys =>
    obtain ⟨hy0, oys⟩ := limbsOk_cons.mp oy
    have hval : valL x * valL (y0 :: ys) = valL x * y0 + B64 ^ 1 * (valL x * valL ys) := by
      simp only [valL, Nat.pow_one]; ring
    rw [hval]
    unfold longMulL
    rw [if_neg (Nat.not_lt.mpr hxl)]
    refine Computes.bind (smallMulL_carried hx.1 hxl hy0) (Nat.le_add_right _ _) fun z0 c => ?_
    rw [← c.val]
    refine Computes.map (longMulGo_spec hx hxne hxl ys 1 z0 oys c.ok c.le) fun z1 ⟨oz1, vz1, lz1⟩ => ?_
    obtain ⟨n1, n2, n3⟩ := normalizeL_spec _ z1 rfl oz1
    exact ⟨n1, n2.trans vz1, Nat.le_trans n3 lz1⟩

theorem largeMulL_spec {cap : Nat} {x y : Limbs} (hx : Normalized x) (hxne : x ≠ []) (hxl : x.length ≤ cap)
    (hy : Normalized y) (hyne : y ≠ []) (hyl : y.length ≤ cap) :
    Computes (largeMulL cap x y) cap (valL x * valL y)
      (fun z => Normalized z ∧ valL z = valL x * valL y ∧ z.length ≤ cap) := by
  cases y with
  | nil => exact absurd rfl hyne
  | cons y0 ys =>
    cases ys with
    | nil =>
      show Computes (smallMulL cap x y0) cap _ _
      simp only [valL, Nat.mul_zero, Nat.add_zero]
      exact smallMulL_full hx hxl (hy.2 y0 rfl) (hy.1 y0 (List.mem_singleton.mpr rfl))
    | cons y1 ys' =>
      show Computes (longMulL cap (y0 :: y1 :: ys') x) cap _ _
      rw [Nat.mul_comm (valL x)]
      exact longMulL_spec hy hyne hyl hx.1 hxne

theorem limbsVal_eq_valL : ∀ (l : Limbs), PowerTables.limbsVal 64 l = valL l
  | [] => rfl
  | a :: as => by
    have := limbsVal_eq_valL as
    simp only [PowerTables.limbsVal, List.foldr_cons, valL] at this ⊢
    rw [this]; rfl

structure PowOkL (E : Env) (cap base : Nat) : Prop where
  ok : PowOk E cap base
  norm : E.L.hasLarge = true → Normalized (E.L.largeLimbs base).toList ∧ (E.L.largeLimbs base).toList ≠ []

theorem largeMulL_refines {cap : Nat} {x : Limbs} {v V : Nat} (hx : Rep cap x v) (hV : V ≠ 0) {Y : Array Nat}
    (hY : LargeEntry cap Y V) (nY : Normalized Y.toList) (Yne : Y.toList ≠ []) :
    Refines cap (largeMulL cap x Y.toList) (largeMul cap v Y) := by
  rw [largeMul_fit hY hx.pos, ← hx.val, ← hY.val, limbsVal_eq_valL]
  exact Computes.refines (Nat.mul_ne_zero (hx.val ▸ hx.pos) (by rw [← limbsVal_eq_valL, hY.val]; exact hV))
    (largeMulL_spec hx.norm hx.ne_nil hx.le nY Yne (by simpa using hY.size))

/-- `pow` on limbs is `pow` on numbers, statement by statement: the iterated `large_mul` by the large power, the iterated
`small_mul` by `base^u64_power_limit`, the last `small_mul` by a small power (`wrap64`: the table entries are `u64`s) -/
theorem powOddL_refines {E : Env} {cap base : Nat} (T : PowOkL E cap base) {x : Limbs} {v : Nat} (hx : Rep cap x v)
    (exp : Nat) : Refines cap (powOddL E cap x base exp) (powOdd E cap v base exp) := by
  have hb := T.ok.base_pos
  have hs := T.ok.small_pos
  have hlt : base ^ E.S.u64PowerLimit base < B64 := T.ok.small_lt
  have hw : wrap64 (base ^ E.S.u64PowerLimit base) = base ^ E.S.u64PowerLimit base := Nat.mod_eq_of_lt hlt
  have hip := T.ok.intpow
  have small : ∀ (x : Limbs) (v e : Nat), Rep cap x v →
      Refines cap
        (if E.S.u64PowerLimit base = 0 then none
         else (iterOptL (fun x => smallMulL cap x (wrap64 (base ^ E.S.u64PowerLimit base)))
                (e / E.S.u64PowerLimit base) x).bind fun x =>
              if e % E.S.u64PowerLimit base ≠ 0 then
                (intPowFastPath E (e % E.S.u64PowerLimit base) base).bind fun sp => smallMulL cap x (wrap64 sp)
              else some x)
        (if E.S.u64PowerLimit base = 0 then none
         else (iterOpt (fun x => smallMul cap x (wrap64 (base ^ E.S.u64PowerLimit base)))
                (e / E.S.u64PowerLimit base) v).bind fun x =>
              if e % E.S.u64PowerLimit base ≠ 0 then
                (intPowFastPath E (e % E.S.u64PowerLimit base) base).bind fun sp => smallMul cap x sp
              else some x) := by
    intro x v e hx
    rw [if_neg (Nat.ne_of_gt hs), if_neg (Nat.ne_of_gt hs), hw]
    refine (Refines.iter (fun _ _ h => smallMulL_refines h (Nat.ne_of_gt (Nat.pow_pos hb)) hlt) _ x v hx).bind
      fun y w hy => Refines.step hy fun _ => ?_
    have hrb : base ^ (e % E.S.u64PowerLimit base) < B64 :=
      Nat.lt_of_le_of_lt (Nat.pow_le_pow_right hb (Nat.le_of_lt (Nat.mod_lt e hs))) hlt
    rw [hip _ (Nat.mod_lt e hs), Option.bind_some, Option.bind_some,
      show wrap64 (base ^ (e % E.S.u64PowerLimit base)) = _ from Nat.mod_eq_of_lt hrb]
    exact smallMulL_refines hy (Nat.ne_of_gt (Nat.pow_pos hb)) hrb
  unfold powOddL powOdd
  by_cases hL : E.L.hasLarge = true
  · obtain ⟨hst, hY⟩ := T.ok.large hL
    obtain ⟨nY, Yne⟩ := T.norm hL
    simp only [hL, if_true, if_neg (Nat.ne_of_gt hst), Option.bind_map]
    exact (Refines.iter (fun _ _ h => largeMulL_refines h (Nat.ne_of_gt (Nat.pow_pos hb)) hY nY Yne) _ x v hx).bind
      fun y w hy => small y w _ hy
  · simp only [hL, Bool.false_eq_true, if_false, Option.bind_some]
    exact small x v exp hx

theorem powOddL_spec {E : Env} {cap base : Nat} (T : PowOkL E cap base) {x : Limbs} (hx : Normalized x) (hne : x ≠ [])
    (hl : x.length ≤ cap) (exp : Nat) :
    (∀ z, powOddL E cap x base exp = some z → Normalized z ∧ valL z = valL x * base ^ exp ∧ z.length ≤ cap ∧ z ≠ []) ∧
    (valL x * base ^ exp < B64 ^ cap → ∃ z, powOddL E cap x base exp = some z) := by
  have R := Rep.of hx hne hl
  exact Refines.computes (powOdd_fit T.ok R.pos R.fits exp ▸ powOddL_refines T R exp)

end LexVerif.Proof.Slow
