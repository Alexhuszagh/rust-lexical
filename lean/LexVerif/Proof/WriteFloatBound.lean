import LexVerif.Proof.WriteFloatBuf
/-!
# Proof.WriteFloatBound — what the buffer-faithful layout functions need and write, in one walk

`Sized need b (f b) Q`: the layout function `f` panics exactly on buffers shorter than `need` (so `need` is the minimal
slice length), never faults, and on success leaves the length alone, writes below `max b.hi need` and establishes `Q`.
One rule per checked primitive (`Sized.set`, `.blit`, `.fill`, `.demand`, `.get`) and `Sized.bind` walk a layout
function once; the need they compute is a `max` over the steps, compared with the closed form at the end.
`Lays g need t`: `Sized` with "the buffer begins with the text `t`, the cursor stands behind it" as `Q`; the rules
`Lay.set`, `.blit`, `.fill` carry the text written so far.  A layout function needs the text it writes, or the end of a
fixed window that a digit writer claims, whichever is larger.
`sciMantissa`, `negFlat`, `posFlat`: the text of each notation as a function of the kept digits, with its length.
-/
namespace LexVerif.Proof.WriteFloatBound
open LexVerif.Spec LexVerif.Model LexVerif.Model.WriteFloat LexVerif.Proof.WriteFloatBuf
open LexVerif.Model.WriteInt (Res)

/-- the simp set that turns `f … = .panic` / `f … = .ok r` into arithmetic -/
macro "res_simp" " at " h:ident : tactic => `(tactic|
  simp only [bind_panic_iff, bind_ok_iff, set_panic_iff, set_ok_iff, get_panic_iff, get_ok_iff, blit_panic_iff, blit_ok_iff,
    fill_panic_iff, fill_ok_iff, demand_panic_iff, demand_ok_iff, ex_elim, ex_elim_unit, put_len, chars_length,
    List.length_replicate, List.length_cons, List.length_nil, reduceCtorEq, and_false, or_false, false_or, false_and,
    exists_false, exists_const, Res.ok.injEq, Nat.sub_zero, Nat.zero_add] at $h:ident)

/-- second-stage simp set: also padding, exponent and fraction part -/
macro "fn_simp" " at " h:ident : tactic => `(tactic|
  simp only [bind_panic_iff, bind_ok_iff, set_panic_iff, set_ok_iff, get_panic_iff, get_ok_iff, blit_panic_iff, blit_ok_iff,
    fill_panic_iff, fill_ok_iff, demand_panic_iff, demand_ok_iff, padZeros_panic_iff, padZeros_ok_iff2,
    ex_elim, ex_elim_unit, put_len, padBuf_len, chars_length,
    List.length_replicate, List.length_cons, List.length_nil, reduceCtorEq, and_false, or_false, false_or, false_and,
    exists_false, exists_const, Res.ok.injEq, Nat.sub_zero, Nat.zero_add] at $h:ident)

def Sized (need : Nat) (b : WBuf) (x : Res Out) (Q : Out → Prop) : Prop :=
  (b.len < need → x = .panic) ∧
  (need ≤ b.len → ∃ r, x = .ok r ∧ r.buf.len = b.len ∧ r.buf.hi ≤ max b.hi need ∧ Q r)

namespace Sized
variable {b : WBuf} {Q : Out → Prop} {n : Nat}

theorem ok {c : Nat} (h : Q ⟨b, c⟩) : Sized 0 b (.ok ⟨b, c⟩) Q :=
  ⟨fun h0 => absurd h0 (Nat.not_lt_zero _), fun _ => ⟨_, rfl, rfl, Nat.le_max_left _ _, h⟩⟩

theorem need_eq {x : Res Out} {n' : Nat} (h : Sized n b x Q) (hn : n = n') : Sized n' b x Q := hn ▸ h

theorem imp {x : Res Out} {Q' : Out → Prop} (h : Sized n b x Q) (hQ : ∀ r, Q r → Q' r) : Sized n b x Q' := by
  refine ⟨h.1, fun hle => ?_⟩
  obtain ⟨r, hr, hl, hh, hq⟩ := h.2 hle
  exact ⟨r, hr, hl, hh, hQ r hq⟩

theorem step {α} {y : Res α} {k : Nat} {a : α} {b' : WBuf} {f : α → Res Out}
    (hy : y = if k ≤ b.len then .ok a else .panic) (hlen : b'.len = b.len) (hhi : b'.hi ≤ max b.hi k)
    (h : k ≤ b.len → Sized n b' (f a) Q) : Sized (max k n) b (y >>= f) Q := by
  subst hy
  by_cases hk : k ≤ b.len
  · rw [if_pos hk]
    obtain ⟨h1, h2⟩ := h hk
    refine ⟨fun hlt => h1 (by omega), fun hle => ?_⟩
    obtain ⟨r, hr, hl, hh, hq⟩ := h2 (by omega)
    clear h2 -- `omega` trips over a hypothesis of the form `_ → ∃ _`
    exact ⟨r, hr, by omega, by omega, hq⟩
  · rw [if_neg hk]
    exact ⟨fun _ => rfl, fun hle => by omega⟩

theorem set {i v : Nat} {f : WBuf → Res Out} (h : i < b.len → Sized n (b.put i [v]) (f (b.put i [v])) Q) :
    Sized (max (i + 1) n) b (b.set i v >>= f) Q :=
  step rfl (put_len ..) (Nat.le_refl _) h

theorem blit {off : Nat} {xs : List Nat} {f : WBuf → Res Out}
    (h : off + xs.length ≤ b.len → Sized n (b.put off xs) (f (b.put off xs)) Q) :
    Sized (max (off + xs.length) n) b (b.blit off xs >>= f) Q :=
  step rfl (put_len ..) (Nat.le_refl _) h

theorem fill {i j v : Nat} {f : WBuf → Res Out} (hij : i ≤ j)
    (h : j ≤ b.len → Sized n (b.put i (List.replicate (j - i) v)) (f (b.put i (List.replicate (j - i) v))) Q) :
    Sized (max j n) b (b.fill i j v >>= f) Q := by
  refine step ?_ (put_len ..) ?_ h
  · unfold WBuf.fill; simp only [hij, true_and]
  · rw [put_hi, List.length_replicate]; omega

theorem demand {k m : Nat} {f : Unit → Res Out} (h : k + m ≤ b.len → Sized n b (f ()) Q) :
    Sized (max (k + m) n) b (b.demand k m >>= f) Q := by
  refine step ?_ rfl (Nat.le_max_left _ _) h
  unfold WBuf.demand
  by_cases hk : k + m ≤ b.len
  · rw [if_pos hk, if_pos (by omega)]
  · rw [if_neg hk, if_neg (by omega)]

theorem get {i : Nat} {f : Nat → Res Out} (h : i < b.len → Sized n b (f (b.bytes.getD i 0)) Q) :
    Sized (max (i + 1) n) b (b.get i >>= f) Q :=
  step rfl rfl (Nat.le_max_left _ _) h

/-- the digit writer of `algorithm.rs`: it claims `nd` bytes at `k`, writes the generated digits there, and the rounded
digits go over them -/
theorem digits {k nd : Nat} {D T : List Nat} {f : WBuf → Res Out} (hT : T.length ≤ D.length)
    (h : k + max nd D.length ≤ b.len → Sized n ((b.put k D).put k T) (f ((b.put k D).put k T)) Q) :
    Sized (max (k + max nd D.length) n) b (b.demand k nd >>= fun _ => b.blit k D >>= fun b' => b'.blit k T >>= f) Q :=
  (demand fun _ => blit fun _ => blit fun _ => h (by omega)).need_eq (by omega)

theorem bind {x : Res Out} {f : Out → Res Out} {Q₁ : Out → Prop} {n₁ : Nat} (hx : Sized n₁ b x Q₁)
    (hf : ∀ r, Q₁ r → Sized n r.buf (f r) Q) : Sized (max n₁ n) b (x >>= f) Q := by
  by_cases h1 : n₁ ≤ b.len
  · obtain ⟨r, rfl, hl, hh, hq⟩ := hx.2 h1
    obtain ⟨g1, g2⟩ := hf r hq
    refine ⟨fun hlt => g1 (by omega), fun hle => ?_⟩
    obtain ⟨r', hr', hl', hh', hq'⟩ := g2 (by omega)
    clear g2
    exact ⟨r', hr', by omega, by omega, hq'⟩
  · rw [hx.1 (by omega)]
    exact ⟨fun _ => rfl, fun hle => by omega⟩

theorem raise {x : Res Out} {n' : Nat} (h : Sized n b x Q) (hn : n ≤ n') (hb : n' ≤ b.len) : Sized n' b x Q := by
  refine ⟨fun hlt => absurd hlt (by omega), fun _ => ?_⟩
  obtain ⟨r, hr, hl, hh, hq⟩ := h.2 (by omega)
  exact ⟨r, hr, hl, by omega, hq⟩

end Sized

/-- **the need a walk computes**: the `max` over what its steps need, the last of them the text `T`.  When every step
lies within the text or within the window `W` that one of them claims, it is `max T W`.  (The walks end with this lemma:
a nested `max` of lengths costs `omega` a case split per level.) -/
theorem need_steps (T W : Nat) (l : List Nat) (h : ∀ x ∈ l, x ≤ max T W) (hW : W ∈ l) : l.foldr max T = max T W := by
  have hle : ∀ l : List Nat, (∀ x ∈ l, x ≤ max T W) → l.foldr max T ≤ max T W := by
    intro l
    induction l with
    | nil => intro _; exact Nat.le_max_left _ _
    | cons a l ih =>
      intro h
      exact Nat.max_le.mpr ⟨h a (List.mem_cons_self ..), ih fun x hx => h x (List.mem_cons_of_mem _ hx)⟩
  have hT : ∀ l : List Nat, T ≤ l.foldr max T := by
    intro l
    induction l with
    | nil => exact Nat.le_refl _
    | cons a l ih => exact Nat.le_trans ih (Nat.le_max_right _ _)
  have hmem : ∀ l : List Nat, W ∈ l → W ≤ l.foldr max T := by
    intro l
    induction l with
    | nil => intro h; cases h
    | cons a l ih =>
      intro h
      rcases List.mem_cons.mp h with rfl | h
      · exact Nat.le_max_left _ _
      · exact Nat.le_trans (ih h) (Nat.le_max_right _ _)
  exact Nat.le_antisymm (hle l h) (Nat.max_le.mpr ⟨hT l, hmem l hW⟩)

def Lays (g : WBuf → Res Out) (need : Nat) (t : List Nat) : Prop :=
  ∀ b, Sized need b (g b) (fun r => Wrote r t)

/-! The rules of `Sized` with the text carried along: the buffer begins with `t`, the step writes behind it.
(Where a step writes over known text, `Starts.put` is applied under the plain rule.) -/
namespace Lay
variable {b : WBuf} {Q : Out → Prop} {n : Nat} {t : List Nat}

theorem set {i v : Nat} {f : WBuf → Res Out} (hs : Starts b t) (hoff : i = t.length)
    (h : Starts (b.put i [v]) (t ++ [v]) → Sized n (b.put i [v]) (f (b.put i [v])) Q) :
    Sized (max (i + 1) n) b (b.set i v >>= f) Q :=
  Sized.set fun hlt => h (hs.set hlt hoff)

theorem blit {off : Nat} {xs : List Nat} {f : WBuf → Res Out} (hs : Starts b t) (hoff : off = t.length)
    (h : Starts (b.put off xs) (t ++ xs) → Sized n (b.put off xs) (f (b.put off xs)) Q) :
    Sized (max (off + xs.length) n) b (b.blit off xs >>= f) Q :=
  Sized.blit fun hle => h (hs.append hle hoff)

theorem fill {i j v : Nat} {f : WBuf → Res Out} (hs : Starts b t) (hoff : i = t.length) (hij : i ≤ j)
    (h : Starts (b.put i (List.replicate (j - i) v)) (t ++ List.replicate (j - i) v) →
      Sized n (b.put i (List.replicate (j - i) v)) (f (b.put i (List.replicate (j - i) v))) Q) :
    Sized (max j n) b (b.fill i j v >>= f) Q :=
  Sized.fill hij fun hle => h (hs.append (by rw [List.length_replicate]; omega) hoff)

end Lay

theorem padZeros_lays {b : WBuf} {c count exact : Nat} {t : List Nat} (hs : Starts b t) (hc : c = t.length) :
    Sized (t ++ (if count < exact then zeros (exact - count) else [])).length b (padZeros b c count exact)
      (fun r => Wrote r (t ++ (if count < exact then zeros (exact - count) else []))) := by
  unfold padZeros
  split
  · refine (Lay.fill hs hc (Nat.le_add_right _ _) fun s => Sized.ok ?_).need_eq ?_
    · rw [Nat.add_sub_cancel_left] at s ⊢
      exact ⟨s, by simp [zeros, hc]⟩
    · simp only [List.length_append, zeros_length]; omega
  · rw [List.append_nil]
    exact (Sized.ok ⟨hs, hc⟩).raise (Nat.zero_le _) hs.1

/-- bytes the exponent writer claims beyond the exponent digits it writes (`jeaiii::from_u32`: a fixed 10-byte window) -/
def expSlack (feats : Features) (radix n : Nat) : Nat := expNeed feats radix n - n

theorem writeExponentB_lays {fmt : Format} {feats : Features} {b : WBuf} {cursor : Nat} {e : Int} {c : Nat} {t : List Nat}
    (hs : Starts b t) (hc : cursor = t.length) :
    Sized ((t ++ writeExponent fmt feats e c fmt.exponentRadix).length +
        expSlack feats fmt.exponentRadix (numeral fmt.exponentRadix e.natAbs).length) b
      (writeExponentB fmt feats b cursor e c) (fun r => Wrote r (t ++ writeExponent fmt feats e c fmt.exponentRadix)) := by
  unfold writeExponentB expSlack
  rw [writeExponent_eq, ← List.append_assoc, ← List.append_assoc]
  refine (Lay.set hs hc fun s1 => Lay.blit s1 (by simp [hc]) fun s2 => Sized.demand fun _ =>
    Lay.blit s2 (by simp [hc]; omega) fun s3 => Sized.ok ⟨s3, by simp [hc]; omega⟩).need_eq ?_
  simp only [List.length_append, List.length_cons, List.length_nil]
  omega

/-- the text of `write_float_scientific` before the exponent: first digit `d0`, the digits `T` after it (`n` in all) -/
def sciMantissa (fmt : Format) (n d0 : Nat) (T : List Nat) (o : WOpts) : List Nat :=
  if ¬ fmt.noExponentWithoutFraction = true ∧ n = 1 ∧ o.trim = true then [d0]
  else if n < minExactDigits n o then [d0, o.dp] ++ T ++ zeros (minExactDigits n o - n)
  else if n = 1 then [d0, o.dp, 48]
  else [d0, o.dp] ++ T

theorem sciMantissa_length_pos (fmt : Format) (n d0 : Nat) (T : List Nat) (o : WOpts) :
    1 ≤ (sciMantissa fmt n d0 T o).length := by
  unfold sciMantissa
  repeat' split
  all_goals simp

/-! The positional texts as functions of the kept digits, like `sciMantissa`: what `compact.rs` lays out, and what
`algorithm.rs` lays out once it has rounded (`writeNegative_flat`, `writePositive_flat`). -/

/-- the zeros that pad `count` written digits to `min_significant_digits` -/
def pad (count : Nat) (o : WOpts) : List Nat :=
  if count < minExactDigits count o then zeros (minExactDigits count o - count) else []

/-- `0.00ddd`: `lead` zeros between the point and the kept digits `T` -/
def negFlat (lead : Nat) (T : List Nat) (o : WOpts) : List Nat :=
  [48, o.dp] ++ zeros lead ++ chars T ++ pad T.length o

/-- `ddd00`, `ddd00.0`, `dd.ddd`: `leading` digits before the point, kept digits `K`; the `0` of `.0` counts as a
written digit -/
def posFlat (leading : Nat) (K : List Nat) (o : WOpts) : List Nat :=
  if leading ≥ K.length then
    (if o.trim then chars K ++ zeros (leading - K.length)
     else chars K ++ zeros (leading - K.length) ++ [o.dp, 48] ++ pad (leading + 1) o)
  else chars (K.take leading) ++ [o.dp] ++ chars (K.drop leading) ++ pad K.length o

theorem pad_length (count : Nat) (o : WOpts) : (pad count o).length = max (o.minDigits.getD 0) count - count := by
  unfold pad
  rw [minExactDigits_eq]
  split
  · rw [zeros_length]
  · rw [List.length_nil]; omega

theorem negFlat_length (lead : Nat) (T : List Nat) (o : WOpts) :
    (negFlat lead T o).length = 2 + lead + max (o.minDigits.getD 0) T.length := by
  simp only [negFlat, List.length_append, List.length_cons, List.length_nil, zeros_length, chars_length, pad_length]
  omega

theorem posFlat_length (leading : Nat) (K : List Nat) (o : WOpts) :
    (posFlat leading K o).length =
      if leading ≥ K.length then
        (if o.trim = true then leading else leading + 2 + (max (o.minDigits.getD 0) (leading + 1) - (leading + 1)))
      else 1 + max (o.minDigits.getD 0) K.length := by
  unfold posFlat
  repeat' split
  all_goals simp only [List.length_append, List.length_cons, List.length_nil, zeros_length, chars_length, pad_length,
    List.length_take, List.length_drop]
  all_goals omega

/-- a carry out of `0.9…` leaves the integer `1` -/
theorem posFlat_one (o : WOpts) : posFlat 1 [1] o = if o.trim = true then [49] else [49, o.dp, 48] ++ pad 2 o := by
  unfold posFlat
  rw [if_pos (show 1 ≥ [1].length from Nat.le_refl 1)]
  split <;> rfl

theorem writeExponent_length (fmt : Format) (feats : Features) (e : Int) (c r : Nat) :
    (writeExponent fmt feats e c r).length = 1 + (expSign fmt feats e).length + (numeral r e.natAbs).length := by
  simp only [writeExponent_eq, List.length_append, List.length_cons, List.length_nil]

/-- the mantissa part of scientific notation, entered with the first digit and the point written.  `hT`: once the digits
after the first are in place (`compact.rs` copies them: `frac`; in `algorithm.rs` they are there already: `frac = []`) they
follow the point. -/
theorem sciBody_lays {fmt : Format} {n : Nat} {frac T : List Nat} {o : WOpts} {b : WBuf} {d0 : Nat}
    (hn : T.length + 1 = n) (hfl : frac.length ≤ T.length) (h0 : Starts b [d0, o.dp])
    (hT : 2 + frac.length ≤ b.len → Starts (b.put 2 frac) ([d0, o.dp] ++ T)) :
    Sized (sciMantissa fmt n d0 T o).length b (sciBody fmt n frac o b) (fun r => Wrote r (sciMantissa fmt n d0 T o)) := by
  unfold sciBody sciMantissa
  dsimp only
  by_cases c1 : ¬ fmt.noExponentWithoutFraction = true ∧ n = 1 ∧ o.trim = true
  · simp only [if_pos c1]
    exact (Sized.ok ⟨Starts.left (t := [d0]) (u := [o.dp]) h0, rfl⟩).raise (Nat.zero_le _)
      (by have := h0.1; simp at this ⊢; omega)
  · simp only [if_neg c1]
    by_cases c2 : n < minExactDigits n o
    · simp only [if_pos c2]
      refine ((Sized.blit fun h5 => padZeros_lays (count := n) (exact := minExactDigits n o) (hT h5)
        (by simp; omega)).need_eq ?_).imp fun r hr => ?_
      · simp only [if_pos c2, List.length_append, List.length_cons, List.length_nil, zeros_length]; omega
      · simpa only [if_pos c2] using hr
    · simp only [if_neg c2]
      by_cases c3 : n = 1
      · simp only [if_pos c3]
        exact (Lay.set h0 rfl fun s => Sized.ok ⟨s, rfl⟩).need_eq rfl
      · simp only [if_neg c3]
        refine (Sized.blit fun h5 => (Sized.ok ⟨hT h5, by simp; omega⟩).raise (Nat.zero_le _) (hT h5).1).need_eq ?_
        simp only [List.length_append, List.length_cons, List.length_nil]; omega

end LexVerif.Proof.WriteFloatBound
