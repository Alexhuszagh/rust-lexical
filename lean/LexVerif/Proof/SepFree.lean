import LexVerif.Proof.IterSpec
/-!
# Proof.SepFree — the iterators on inputs that do not contain the separator byte, and of components without separator flags

Canonical forms: there `peek` never moves (`PlainPeek`), `parse_digits` consumes the longest prefix of digit bytes,
`skip_zeros` the leading `'0'` bytes, and both add what they consumed to the cursor and to the component's count. They
are the equations of `Proof/IterSpec.lean` where the scan is a `takeWhile` (`PlainPeek.scan`, `PlainPeek.scan_true`),
written with `digitsPrefix`, `zerosPrefix` and `adv` (`adv_eq_mv`).
-/
namespace LexVerif.Proof.Sep
open LexVerif LexVerif.Model
open LexVerif.Props.C12 LexVerif.Proof.IterSpec

/-- the input does not contain the digit-separator byte of the format (every input, if the format has none:
`Grammar.NoSep c`, `Proof/GrammarIter.lean`) -/
def NoSep (c : Cfg) (s : List Nat) : Prop := ∀ x ∈ s, c.isSep x = false

theorem NoSep.drop {c : Cfg} {s : List Nat} (h : NoSep c s) (n : Nat) : NoSep c (s.drop n) :=
  fun x hx => h x (List.mem_of_mem_drop hx)

theorem NoSep.take {c : Cfg} {s : List Nat} (h : NoSep c s) (n : Nat) : NoSep c (s.take n) :=
  fun x hx => h x (List.mem_of_mem_take hx)

theorem noSep_of_sep_zero (c : Cfg) (h : c.digitSeparator = 0) (s : List Nat) : NoSep c s := by
  intro x _; simp [Cfg.isSep, h]

theorem peek_nosep (c : Cfg) (k : Comp) (b : Bytes) (hn : NoSep c b.slc) (hk : c.skip k ≠ .unreachable) :
    peek c k b = .ok (b.slc[b.index]?, b) := by
  have : pk c k b = b.index :=
    peekIdx_nonsep c k b.slc _ b.index (fun x hx => hn x (List.mem_of_getElem? hx))
  rw [peek_eq hk b, this]; rfl

/-- `peek` of component `k` never skips on buffer `slc`: so on a buffer without the separator byte, and on any buffer for
a component without separator flags, which treats the separator byte as an ordinary non-digit -/
def PlainPeek (c : Cfg) (k : Comp) (slc : List Nat) : Prop :=
  ∀ b : Bytes, b.slc = slc → peek c k b = .ok (b.slc[b.index]?, b)

theorem plainPeek_nosep (c : Cfg) (k : Comp) (slc : List Nat) (hn : NoSep c slc) (hk : c.skip k ≠ .unreachable) :
    PlainPeek c k slc := fun b hb => peek_nosep c k b (by rw [hb]; exact hn) hk

theorem plainPeek_noskip (c : Cfg) (k : Comp) (slc : List Nat) (hk : c.skip k = .noskip) : PlainPeek c k slc := by
  intro b _; simp [Model.peek, hk]

theorem skip_of_contig (c : Cfg) (k : Comp) (h : c.iterContiguous k = true) : c.skip k = .noskip :=
  (IterSpec.skip_noskip_iff c k).mpr h

theorem contig_of_noskip (c : Cfg) (k : Comp) (h : c.skip k = .noskip) : c.iterContiguous k = true :=
  (IterSpec.skip_noskip_iff c k).mp h

def adv (c : Cfg) (k : Comp) (n : Nat) (b : Bytes) : Bytes :=
  let f := if c.feats.format then n else 0
  match k with
  | .integer => { b with index := b.index + n, ic := b.ic + f }
  | .fraction => { b with index := b.index + n, fc := b.fc + f }
  | .exponent => { b with index := b.index + n, ec := b.ec + f }
  | .special => { b with index := b.index + n }

theorem adv_zero (c : Cfg) (k : Comp) (b : Bytes) : adv c k 0 b = b := by
  cases k <;> simp [adv]

@[simp] theorem adv_slc (c : Cfg) (k : Comp) (n : Nat) (b : Bytes) : (adv c k n b).slc = b.slc := by
  cases k <;> rfl

@[simp] theorem adv_index (c : Cfg) (k : Comp) (n : Nat) (b : Bytes) : (adv c k n b).index = b.index + n := by
  cases k <;> rfl

def digitsPrefix (radix : Nat) : List Nat → List Nat
  | [] => []
  | x :: xs =>
    match charToDigit x radix with
    | some d => d :: digitsPrefix radix xs
    | none => []

theorem digitsPrefix_length_le (radix : Nat) (l : List Nat) : (digitsPrefix radix l).length ≤ l.length := by
  induction l with
  | nil => simp [digitsPrefix]
  | cons x xs ih =>
    simp only [digitsPrefix]
    split <;> simp <;> omega

/-- `adv` moves by a number of bytes, `IterSpec.mv` to a position -/
theorem adv_eq_mv (c : Cfg) (k : Comp) (n : Nat) (b : Bytes) : adv c k n b = mv c k (b.index + n) n b := by
  cases k <;> rfl

theorem PlainPeek.reach {c : Cfg} {k : Comp} {slc : List Nat} (hp : PlainPeek c k slc) : c.skip k ≠ .unreachable := by
  intro h
  have := hp ⟨slc, 0, 0, 0, 0⟩ rfl
  simp [peek, h] at this

theorem PlainPeek.pk {c : Cfg} {k : Comp} {b : Bytes} (hp : PlainPeek c k b.slc) : pk c k b = b.index :=
  peekIdx_of_plain hp _ _

theorem PlainPeek.scan {c : Cfg} {k : Comp} {slc : List Nat} (hp : PlainPeek c k slc) (p : Nat → Bool)
    (lim : Nat) (f : Bool) (i : Nat) (hl : slc.length - i < lim) :
    (IterSpec.scan c k slc p lim f i).1 = (slc.drop i).takeWhile p ∧
    (IterSpec.scan c k slc p lim f i).2 = i + ((slc.drop i).takeWhile p).length :=
  scan_plain slc p (fun _ => peekIdx_of_plain hp _ _) lim f i (peekIdx_of_plain hp _ _) hl

theorem PlainPeek.scan_true {c : Cfg} {k : Comp} {slc : List Nat} (hp : PlainPeek c k slc) :
    ∀ (lim : Nat) (f : Bool) (i : Nat),
      IterSpec.scan c k slc (fun _ => true) lim f i = ((slc.drop i).take lim, i + min lim (slc.length - i))
  | 0, f, i => by simp [IterSpec.scan, peekIdx_of_plain hp]
  | lim + 1, f, i => by
    unfold IterSpec.scan
    rw [peekIdx_of_plain hp]
    cases hx : slc[i]? with
    | none =>
      have := List.getElem?_eq_none_iff.mp hx
      simp [drop_of_none hx]; omega
    | some x =>
      have hlt : i < slc.length := (List.getElem?_eq_some_iff.mp hx).1
      simp only [if_true, hp.scan_true lim false (i + 1), IterSpec.drop_eq_cons hx, List.take_succ_cons]
      congr 1; omega

theorem digitsPrefix_takeWhile (r : Nat) : ∀ l : List Nat,
    digitsPrefix r l = (l.takeWhile (isDig r)).filterMap (charToDigit · r) ∧
    (digitsPrefix r l).length = (l.takeWhile (isDig r)).length
  | [] => ⟨rfl, rfl⟩
  | x :: xs => by
    obtain ⟨h1, h2⟩ := digitsPrefix_takeWhile r xs
    cases hd : charToDigit x r with
    | none => simp [digitsPrefix, List.takeWhile, isDig, hd]
    | some d => simp [digitsPrefix, List.takeWhile, isDig, hd, ← h1, h2]

theorem parseDigitsLoop_pk (c : Cfg) (k : Comp) (radix : Nat) (hd : c.debug = false) (slc : List Nat)
    (hp : PlainPeek c k slc) :
    ∀ (fuel : Nat) (b : Bytes), b.slc = slc → b.slc.length - b.index < fuel →
      parseDigitsLoop c k radix fuel b =
        .ok (digitsPrefix radix (b.slc.drop b.index),
             adv c k (digitsPrefix radix (b.slc.drop b.index)).length b) := by
  intro fuel b hb hf
  subst hb
  obtain ⟨h1, h2⟩ := hp.scan (isDig radix) fuel (b.iterCount c k == 0) b.index hf
  obtain ⟨h3, h4⟩ := digitsPrefix_takeWhile radix (b.slc.drop b.index)
  rw [parseDigitsLoop_ok hp.reach radix fuel b hf (fun x _ => StepOK.release hd k x), h1, h2, adv_eq_mv, h4, h3]

theorem parseDigits_pk (c : Cfg) (k : Comp) (radix : Nat) (hd : c.debug = false) (b : Bytes)
    (hp : PlainPeek c k b.slc) :
    parseDigits c k radix b =
      .ok (digitsPrefix radix (b.slc.drop b.index), adv c k (digitsPrefix radix (b.slc.drop b.index)).length b) :=
  parseDigitsLoop_pk c k radix hd _ hp _ b rfl (by omega)

theorem parseDigits_nosep (c : Cfg) (k : Comp) (radix : Nat) (hd : c.debug = false)
    (hk : c.skip k ≠ .unreachable) (b : Bytes) (hn : NoSep c b.slc) :
    parseDigits c k radix b =
      .ok (digitsPrefix radix (b.slc.drop b.index), adv c k (digitsPrefix radix (b.slc.drop b.index)).length b) :=
  parseDigits_pk c k radix hd b (plainPeek_nosep c k _ hn hk)

def zerosPrefix : List Nat → Nat
  | [] => 0
  | x :: xs => if x = 48 then zerosPrefix xs + 1 else 0

theorem zerosPrefix_le (l : List Nat) : zerosPrefix l ≤ l.length := by
  induction l with
  | nil => simp [zerosPrefix]
  | cons x t ih => simp only [zerosPrefix, List.length_cons]; split <;> omega

theorem zerosPrefix_take (l : List Nat) : ∀ n, zerosPrefix l ≤ n → zerosPrefix (l.take n) = zerosPrefix l := by
  induction l with
  | nil => intro n _; simp [zerosPrefix]
  | cons x xs ih =>
    intro n hn
    by_cases hx : x = 48
    · simp only [zerosPrefix, hx, if_true] at hn ⊢
      obtain ⟨m, rfl⟩ : ∃ m, n = m + 1 := ⟨n - 1, by omega⟩
      simp only [List.take_succ_cons, zerosPrefix, if_true]
      rw [ih m (by omega)]
    · cases n with
      | zero => simp [zerosPrefix, hx]
      | succ m => simp [List.take_succ_cons, zerosPrefix, hx]

theorem zerosPrefix_take_le (n : Nat) (l : List Nat) : zerosPrefix (l.take n) ≤ zerosPrefix l := by
  induction l generalizing n with
  | nil => simp [zerosPrefix]
  | cons x xs ih =>
    cases n with
    | zero => simp [zerosPrefix]
    | succ k =>
      simp only [List.take_succ_cons, zerosPrefix]
      split
      · have := ih k; omega
      · omega

theorem zerosPrefix_takeWhile : ∀ l : List Nat, zerosPrefix l = (l.takeWhile (· == 48)).length
  | [] => rfl
  | x :: xs => by
    by_cases h : x = 48 <;> simp [zerosPrefix, h, zerosPrefix_takeWhile xs]

theorem skipZeros_pk (c : Cfg) (k : Comp) (hd : c.debug = false) (b : Bytes) (hp : PlainPeek c k b.slc) :
    skipZeros c k b = .ok (Bytes.iterCount c k (adv c k (zerosPrefix (b.slc.drop b.index)) b) - Bytes.iterCount c k b,
      adv c k (zerosPrefix (b.slc.drop b.index)) b) := by
  obtain ⟨h1, h2⟩ := hp.scan (· == 48) (b.slc.length + 1) (b.iterCount c k == 0) b.index (by omega)
  rw [skipZeros_eq hp.reach b (StepOK.release hd k 48)]
  simp only [run, h1, h2, adv_eq_mv, zerosPrefix_takeWhile]

theorem isConsumed_nosep (c : Cfg) (k : Comp) (b : Bytes) (hn : NoSep c b.slc) (hk : c.skip k ≠ .unreachable) :
    isConsumed c k b = .ok (if !c.feats.format then b.isBufferEmpty else (b.slc[b.index]?).isNone, b) := by
  rw [isConsumed_eq hk b, (plainPeek_nosep c k _ hn hk).pk]
  cases c.feats.format <;> rfl

end LexVerif.Proof.Sep
