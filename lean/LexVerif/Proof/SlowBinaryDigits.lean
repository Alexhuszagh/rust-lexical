import LexVerif.Proof.BinaryWide
import LexVerif.Proof.Numeral
/-!
# Proof.SlowBinaryDigits — `slow_binary`: its rounding, then the digit loops of `parse_u64_digits` / `slow_binary`

The rounding:
`slowTail`: what `slow_binary` does once the digits are accumulated. `slowBinary_core`: when `binary` was undecided — the accumulated digits exactly
half-way above an even significand — rounding **up iff some later digit is non-zero** is `roundNE` of the whole literal (`round_sticky`).

`LoopInv s k`: no overflow so far, `k` digits accumulated, room for `s.step` more (`radix^(k + step) ≤ 2^64`).
Under it the single-digit loop accumulates exactly the next `step` digits and `zero` records whether all later
digits are `0` (`loop_spec`), the invariant survives the run (`LoopInv.loop`), and the 8-digit loop is eight
single steps at a time (`parseU64Digits_eq`). The integer run followed by the fraction run of `slow_binary`
is one run over the significant bytes of the whole literal (`loop_two_runs`, `slowBinary_loop`), so the mantissa
is the value of the first `step` significant digits and `zero` says that all later digits are `0`.
-/
namespace LexVerif.Proof.SlowBinary

open LexVerif.Spec LexVerif.Model LexVerif.Model.Bellerophon LexVerif.Model.Binary

open LexVerif.Proof.RoundNE LexVerif.Proof.ExtRound LexVerif.Proof.BinaryCorrect LexVerif.Proof.BinaryWide

/-- what `slow_binary` does once the digits are accumulated: `Ms` = the first `u64_step` significant digits,
`zero` = "every later digit is `0`" -/
def slowTail (F : FTy) (base : Nat) (e : Int) (Ms : Nat) (zero : Bool) : ExtendedFloat80 :=
  let ctlz := clz64 Ms
  let mantissa := shl64m Ms ctlz
  let power2 := calculatePower2 F base e ctlz
  round F { mant := mantissa, exp := power2 } fun f sh => roundNearestTieEven f sh fun _ _ _ => !zero

/-- the later digits amount to `r/c ∈ [0, 1)` of a unit of `Ms`, with `zero ↔ r = 0` -/
theorem slowBinary_core {F p eb} (lay : Layout F p eb) {base : Nat}
    (hb : base = 2 ∨ base = 4 ∨ base = 8 ∨ base = 16 ∨ base = 32) (e : Int) (he : ExpWide e)
    (Ms : Nat) (zero : Bool) (c r : Nat)
    (hMs0 : Ms ≠ 0) (hMs : Ms < 2 ^ 64) (hr : r < c) (hz : zero = true ↔ r = 0)
    (hp2 : -(calculatePower2 F base e (clz64 Ms)) + 1 ≤ 64)
    (hinf : calculatePower2 F base e (clz64 Ms) < F.C.infinitePower)
    (hhe : HalfwayEven (Ms * 2 ^ clz64 Ms) (shiftOf p (calculatePower2 F base e (clz64 Ms)))) :
    extendedToFloat F (slowTail F base e Ms zero) =
      roundNE F.fmt (powFrac base e (Ms * c + r)).1 ((powFrac base e (Ms * c + r)).2 * c) := by
  obtain ⟨lg, hlg⟩ := isPow2Base_of base hb
  obtain ⟨hc, hm1, hm2, hshl⟩ := clz_norm hMs0 hMs
  have hpw := (power2_facts lay hlg he (clz64 Ms) (by omega)).2.2 hp2 hinf
  unfold slowTail
  simp only [hshl]
  generalize calculatePower2 F base e (clz64 Ms) = pw at *
  rw [hlg.1]
  refine (round_sticky lay lg Ms _ c r e hm1 hm2 hc hr _ hpw hp2 (fun _ => hhe.clz_lt) _ ?_).2
  -- at an even half: up iff the tail is non-zero
  unfold upOf
  have hr0 : (!zero) = true ↔ r ≠ 0 := by cases zero <;> simp [← hz]
  simp only [hr0, hhe.1, hhe.2]
  simp

theorem slowBinary_eq (F : FTy) (compact : Bool) (radix base step : Nat) (e : Int) (integer : List Nat)
    (fraction : Option (List Nat)) :
    slowBinary F compact radix base step e integer fraction =
      let s0 : DigitState := { mantissa := 0, step := step, overflowed := false, zero := true }
      let s1 := parseU64Digits compact radix (skipZeros integer) s0
      let s2 := match fraction with
        | some fr => parseU64Digits compact radix (if s1.mantissa = 0 then skipZeros fr else fr) s1
        | none => s1
      slowTail F base e s2.mantissa s2.zero := rfl

end LexVerif.Proof.SlowBinary


namespace LexVerif.Proof.SlowBinary

open LexVerif.Spec hiding digitVal

open LexVerif.Model LexVerif.Model.Binary

def valOf (radix acc : Nat) (ds : List Nat) : Nat := ds.foldl (fun a d => a * radix + d) acc

def allZero (ds : List Nat) : Bool := ds.all (· == 0)

theorem valOf_cons (radix acc d : Nat) (ds : List Nat) :
    valOf radix acc (d :: ds) = valOf radix (acc * radix + d) ds := rfl

theorem valOf_append (radix acc : Nat) (a b : List Nat) :
    valOf radix acc (a ++ b) = valOf radix (valOf radix acc a) b := List.foldl_append ..

theorem valOf_split (radix : Nat) (b : List Nat) (acc : Nat) :
    valOf radix acc b = acc * radix ^ b.length + valOf radix 0 b := foldl_horner radix b acc

theorem mul_add_lt_pow_succ {radix acc k d : Nat} (h : acc < radix ^ k) (hd : d < radix) :
    acc * radix + d < radix ^ (k + 1) := by
  have : (acc + 1) * radix ≤ radix ^ k * radix := Nat.mul_le_mul_right radix h
  rw [Nat.add_one_mul] at this
  rw [Nat.pow_succ]; omega

theorem valOf_lt (radix : Nat) (ds : List Nat) (hds : ∀ d ∈ ds, d < radix) (acc k : Nat) (h : acc < radix ^ k) :
    valOf radix acc ds < radix ^ (k + ds.length) := by
  have h1 : valOf radix 0 ds < radix ^ ds.length := ofDigits_lt radix ds hds
  have h2 : (acc + 1) * radix ^ ds.length ≤ radix ^ k * radix ^ ds.length := Nat.mul_le_mul_right _ h
  rw [valOf_split, Nat.pow_add]
  rw [Nat.add_mul, Nat.one_mul] at h2
  omega

theorem valOf_take_drop (radix : Nat) (ds : List Nat) (hds : ∀ d ∈ ds, d < radix) (k : Nat) :
    valOf radix 0 ds = valOf radix 0 (ds.take k) * radix ^ (ds.length - k) + valOf radix 0 (ds.drop k) ∧
    valOf radix 0 (ds.drop k) < radix ^ (ds.length - k) := by
  constructor
  · conv => lhs; rw [← List.take_append_drop k ds]
    rw [valOf_append, valOf_split, List.length_drop]
  · have := valOf_lt radix (ds.drop k) (fun d hd => hds d (List.mem_of_mem_drop hd)) 0 0 (by rw [Nat.pow_zero]; exact Nat.one_pos)
    rwa [Nat.zero_add, List.length_drop] at this

theorem valOf_ge_head (radix d : Nat) (ds : List Nat) : d * radix ^ ds.length ≤ valOf radix 0 (d :: ds) :=
  ofDigits_ge_head radix d ds

theorem valOf_zero_iff (radix : Nat) (hr : 0 < radix) (ds : List Nat) :
    valOf radix 0 ds = 0 ↔ allZero ds = true := by
  rw [allZero, List.all_eq_true]
  constructor
  · intro h d hd
    refine beq_iff_eq.2 (Classical.byContradiction fun hd0 => ?_)
    exact Nat.ne_of_gt (ofDigits_pos hr ds ⟨d, hd, hd0⟩) h
  · exact fun h => ofDigits_zeros radix ds fun d hd => beq_iff_eq.1 (h d hd)

theorem digitVal_zero_iff (c radix : Nat) (hc : c < 256) : digitVal c radix = 0 ↔ c = 48 := by
  unfold digitVal
  repeat' split
  all_goals omega

theorem map_skipZeros (radix : Nat) (bytes : List Nat) (hb : ∀ c ∈ bytes, c < 256) :
    (skipZeros bytes).map (fun c => digitVal c radix) =
      (bytes.map fun c => digitVal c radix).dropWhile (· == 0) := by
  induction bytes with
  | nil => rfl
  | cons c cs ih =>
    have ih := ih fun x hx => hb x (List.mem_cons_of_mem _ hx)
    have hc := digitVal_zero_iff c radix (hb c (List.mem_cons_self ..))
    unfold skipZeros at ih ⊢
    simp only [List.map_cons, List.dropWhile_cons, beq_iff_eq, decide_eq_true_eq, hc]
    split
    · exact ih
    · rfl

theorem mem_of_mem_skipZeros {bytes : List Nat} {c : Nat} (h : c ∈ skipZeros bytes) : c ∈ bytes :=
  (List.dropWhile_sublist _).subset h

theorem valOf_sig_pos (radix : Nat) (hr : 0 < radix) (L : List Nat) (n : Nat) (hn : 1 ≤ n)
    (h : L.dropWhile (· == 0) ≠ []) : 0 < valOf radix 0 ((L.dropWhile (· == 0)).take n) := by
  have hd := List.head_dropWhile_not (· == 0) h
  obtain ⟨j, rfl⟩ : ∃ j, n = j + 1 := ⟨n - 1, by omega⟩
  cases hL : L.dropWhile (· == 0) with
  | nil => exact absurd hL h
  | cons d ds =>
    simp only [hL, List.head_cons, beq_eq_false_iff_ne, ne_eq] at hd
    exact Nat.lt_of_lt_of_le (Nat.mul_pos (Nat.pos_of_ne_zero hd) (Nat.pow_pos hr))
      (valOf_ge_head radix d (ds.take j))

structure LoopInv (radix : Nat) (s : DigitState) (k : Nat) : Prop where
  ov : s.overflowed = false
  lt : s.mantissa < radix ^ k
  fit : radix ^ (k + s.step) ≤ 2 ^ 64

theorem loop_spec (radix : Nat) (bytes : List Nat) :
    ∀ (s : DigitState) (k : Nat), LoopInv radix s k → (∀ c ∈ bytes, digitVal c radix < radix) →
      parseDigitsLoop radix bytes s =
        { mantissa := valOf radix s.mantissa ((bytes.take s.step).map fun c => digitVal c radix),
          step := s.step - bytes.length, overflowed := false,
          zero := s.zero && allZero ((bytes.drop s.step).map fun c => digitVal c radix) } := by
  induction bytes with
  | nil =>
    intro ⟨m, st, ov, z⟩ k inv _
    cases inv.ov
    simp only [parseDigitsLoop, List.take_nil, List.drop_nil, List.map_nil, valOf, List.foldl_nil, allZero,
      List.all_nil, Bool.and_true, List.length_nil, Nat.sub_zero]
  | cons c cs ih =>
    intro ⟨m, st, ov, z⟩ k inv hd
    obtain ⟨ho, hm, hk⟩ : ov = false ∧ m < radix ^ k ∧ radix ^ (k + st) ≤ 2 ^ 64 := ⟨inv.ov, inv.lt, inv.fit⟩
    have hdc : digitVal c radix < radix := hd c (List.mem_cons_self ..)
    have hdcs : ∀ x ∈ cs, digitVal x radix < radix := fun x hx => hd x (List.mem_cons_of_mem _ hx)
    cases ho
    unfold parseDigitsLoop
    cases st with
    | zero =>
      simp only [Nat.lt_irrefl, decide_false, Bool.and_false, Bool.false_eq_true, if_false, Nat.zero_sub]
      rw [ih ⟨m, 0, false, z && digitVal c radix == 0⟩ k ⟨rfl, hm, hk⟩ hdcs]
      simp only [List.take_zero, List.map_nil, valOf, List.foldl_nil, List.drop_zero, List.map_cons,
        allZero, List.all_cons, Nat.zero_sub, Bool.and_assoc]
    | succ j =>
      -- a digit is accumulated: `k + 1` digits fit because `k + (j + 1)` do
      have hnew : m * radix + digitVal c radix < radix ^ (k + 1) := mul_add_lt_pow_succ hm hdc
      have hfit : m * radix + digitVal c radix < 2 ^ 64 :=
        Nat.lt_of_lt_of_le hnew (Nat.le_trans (Nat.pow_le_pow_right (by omega) (by omega)) hk)
      simp only [Bool.not_false, Nat.zero_lt_succ, decide_true, Bool.and_self, if_true, hfit,
        Nat.add_sub_cancel]
      rw [ih ⟨m * radix + digitVal c radix, j, false, z⟩ (k + 1) ⟨rfl, hnew, by
        rw [Nat.add_assoc, Nat.add_comm 1]; exact hk⟩ hdcs]
      simp only [List.take_succ_cons, List.map_cons, valOf_cons, List.drop_succ_cons, List.length_cons,
        Nat.add_sub_add_right]

theorem LoopInv.init {radix step : Nat} (hr : 0 < radix) (hfit : radix ^ step ≤ 2 ^ 64) :
    LoopInv radix ⟨0, step, false, true⟩ 0 :=
  ⟨rfl, Nat.pow_pos hr, by rw [Nat.zero_add]; exact hfit⟩

theorem LoopInv.loop {radix : Nat} {s : DigitState} {k : Nat} (inv : LoopInv radix s k) (bytes : List Nat)
    (hv : ∀ c ∈ bytes, digitVal c radix < radix) :
    LoopInv radix (parseDigitsLoop radix bytes s) (k + (bytes.take s.step).length) := by
  rw [loop_spec radix bytes s k inv hv]
  refine ⟨rfl, ?_, ?_⟩
  · have := valOf_lt radix ((bytes.take s.step).map fun c => digitVal c radix)
      (List.forall_mem_map.mpr fun c hc => hv c (List.mem_of_mem_take hc)) s.mantissa k inv.lt
    rwa [List.length_map] at this
  · show radix ^ (k + (bytes.take s.step).length + (s.step - bytes.length)) ≤ 2 ^ 64
    rw [List.length_take, show k + min s.step bytes.length + (s.step - bytes.length) = k + s.step by omega]
    exact inv.fit

theorem LoopInv.mantissa_lt {radix : Nat} {s : DigitState} {k : Nat} (inv : LoopInv radix s k)
    (hr : 0 < radix) : s.mantissa < 2 ^ 64 :=
  Nat.lt_of_lt_of_le inv.lt (Nat.le_trans (Nat.pow_le_pow_right hr (Nat.le_add_right ..)) inv.fit)

theorem loop_append (radix : Nat) (a : List Nat) : ∀ (b : List Nat) (s : DigitState),
    parseDigitsLoop radix (a ++ b) s = parseDigitsLoop radix b (parseDigitsLoop radix a s) := by
  induction a with
  | nil => intro b s; rfl
  | cons c cs ih =>
    intro b s
    rw [List.cons_append]
    simp only [parseDigitsLoop]
    exact ih b _

theorem parse8_some {radix : Nat} (hr10 : radix ≤ 10) {bytes : List Nat} {v : Nat}
    (h : parse8 radix bytes = some v) :
    8 ≤ bytes.length ∧ v = valOf radix 0 ((bytes.take 8).map fun c => digitVal c radix) := by
  unfold parse8 at h
  split at h
  · cases h
  · dsimp only at h
    split at h
    · injection h with h
      refine ⟨by omega, ?_⟩
      rw [← h]
      unfold valOf digitVal
      simp only [if_pos hr10]
    · cases h

/-- the bulk step (`mantissa * radix^8 + v`, wrapping) does not wrap and is eight single steps -/
theorem parse8_step (radix : Nat) (hr0 : 0 < radix) (bytes : List Nat) (s : DigitState) (k : Nat)
    (inv : LoopInv radix s k) (hv : ∀ c ∈ bytes, digitVal c radix < radix) (hst : 8 < s.step)
    (hlen : 8 ≤ bytes.length) :
    { s with mantissa := wrap64 (wrap64 (s.mantissa * radix ^ 8) +
        valOf radix 0 ((bytes.take 8).map fun c => digitVal c radix)), step := s.step - 8 } =
      parseDigitsLoop radix (bytes.take 8) s := by
  have hv8 : ∀ c ∈ bytes.take 8, digitVal c radix < radix := fun c hc => hv c (List.mem_of_mem_take hc)
  have hlt := (inv.loop (bytes.take 8) hv8).mantissa_lt hr0
  have hl8 : (bytes.take 8).length = 8 := by rw [List.length_take]; omega
  have ht : (bytes.take 8).take s.step = bytes.take 8 := List.take_of_length_le (by omega)
  have hd : (bytes.take 8).drop s.step = [] := List.drop_eq_nil_of_le (by omega)
  rw [loop_spec radix (bytes.take 8) s k inv hv8, ht] at hlt
  rw [loop_spec radix (bytes.take 8) s k inv hv8, ht, hd, hl8]
  have hsplit := valOf_split radix ((bytes.take 8).map fun c => digitVal c radix) s.mantissa
  rw [List.length_map, hl8] at hsplit
  simp only [] at hlt
  unfold wrap64
  rw [Nat.mod_eq_of_lt (a := s.mantissa * radix ^ 8) (by omega), ← hsplit, Nat.mod_eq_of_lt hlt]
  have hov := inv.ov
  cases s
  cases hov
  simp only [List.map_nil, allZero, List.all_nil, Bool.and_true]

theorem parse8Loop_eq (radix : Nat) (hr0 : 0 < radix) (hr10 : radix ≤ 10) :
    ∀ (fuel : Nat) (bytes : List Nat) (s : DigitState) (k : Nat),
    LoopInv radix s k → (∀ c ∈ bytes, digitVal c radix < radix) →
    parseDigitsLoop radix (parse8Loop radix fuel bytes s).1 (parse8Loop radix fuel bytes s).2 =
      parseDigitsLoop radix bytes s
  | 0, _, _, _, _, _ => rfl
  | fuel + 1, bytes, s, k, inv, hv => by
    unfold parse8Loop
    split
    · rename_i hst
      cases hp : parse8 radix bytes with
      | none => rfl
      | some v =>
        obtain ⟨hlen, rfl⟩ := parse8_some hr10 hp
        have hv8 : ∀ c ∈ bytes.take 8, digitVal c radix < radix := fun c hc => hv c (List.mem_of_mem_take hc)
        simp only []
        rw [parse8_step radix hr0 bytes s k inv hv hst hlen,
          parse8Loop_eq radix hr0 hr10 fuel _ _ _ (inv.loop _ hv8) fun c hc => hv c (List.mem_of_mem_drop hc),
          ← loop_append, List.take_append_drop]
    · rfl

theorem parseU64Digits_eq (compact : Bool) (radix : Nat) (hr0 : 0 < radix) (bytes : List Nat) (s : DigitState)
    (k : Nat) (inv : LoopInv radix s k) (hv : ∀ c ∈ bytes, digitVal c radix < radix) :
    parseU64Digits compact radix bytes s = parseDigitsLoop radix bytes s := by
  unfold parseU64Digits
  split
  · rename_i hc
    simp only [Bool.and_eq_true, decide_eq_true_eq] at hc
    exact parse8Loop_eq radix hr0 hc.2 _ bytes s k inv hv
  · rfl

/-- **the integer run followed by the fraction run is one run over the significant bytes**: the leading zeros of
the fraction are skipped exactly when the integer run accumulated nothing, i.e. had no significant digit -/
theorem loop_two_runs {radix : Nat} (hr : 2 ≤ radix) {s : DigitState} (inv : LoopInv radix s 0)
    (hstep : 1 ≤ s.step) (integer fr : List Nat)
    (hvalid : ∀ c ∈ integer, c < 256 ∧ digitVal c radix < radix) :
    parseDigitsLoop radix
        (if (parseDigitsLoop radix (skipZeros integer) s).mantissa = 0 then skipZeros fr else fr)
        (parseDigitsLoop radix (skipZeros integer) s) =
      parseDigitsLoop radix (skipZeros (integer ++ fr)) s := by
  have hs0 : s.mantissa = 0 := Nat.lt_one_iff.mp inv.lt
  have hmap := map_skipZeros radix integer fun c hc => (hvalid c hc).1
  conv => rhs; unfold skipZeros; rw [List.dropWhile_append]
  cases hI : skipZeros integer with
  | nil =>
    unfold skipZeros at hI
    rw [hI, List.isEmpty_nil, if_pos rfl]
    show parseDigitsLoop radix (if s.mantissa = 0 then _ else _) s = _
    rw [if_pos hs0, skipZeros]
  | cons c cs =>
    have hm : (parseDigitsLoop radix (skipZeros integer) s).mantissa ≠ 0 := by
      rw [loop_spec radix _ s 0 inv fun c hc => (hvalid c (mem_of_mem_skipZeros hc)).2, List.map_take, hmap, hs0]
      exact Nat.ne_of_gt (valOf_sig_pos radix (by omega) _ _ hstep (by rw [← hmap, hI]; exact List.cons_ne_nil _ _))
    rw [← hI, if_neg hm]
    unfold skipZeros at hI ⊢
    rw [hI, List.isEmpty_cons, if_neg Bool.false_ne_true, ← hI, loop_append]

theorem slowBinary_loop (F : FTy) (compact : Bool) (radix base step : Nat) (e : Int) (integer : List Nat)
    (fraction : Option (List Nat)) (hr : 2 ≤ radix) (hstep : 1 ≤ step) (hfit : radix ^ step ≤ 2 ^ 64)
    (hvalid : ∀ c ∈ integer ++ fraction.getD [], c < 256 ∧ digitVal c radix < radix) :
    slowBinary F compact radix base step e integer fraction =
      slowTail F base e
        (parseDigitsLoop radix (skipZeros (integer ++ fraction.getD [])) ⟨0, step, false, true⟩).mantissa
        (parseDigitsLoop radix (skipZeros (integer ++ fraction.getD [])) ⟨0, step, false, true⟩).zero := by
  have inv0 := LoopInv.init (step := step) (show 0 < radix by omega) hfit
  have hi : ∀ c ∈ skipZeros integer, digitVal c radix < radix :=
    fun c hc => (hvalid c (List.mem_append_left _ (mem_of_mem_skipZeros hc))).2
  rw [slowBinary_eq]
  simp only [parseU64Digits_eq compact radix (by omega) _ _ 0 inv0 hi]
  cases fraction with
  | none => rw [Option.getD_none, List.append_nil]
  | some fr =>
    have hf : ∀ c ∈ fr, digitVal c radix < radix := fun c hc => (hvalid c (List.mem_append_right _ hc)).2
    simp only [Option.getD_some]
    rw [parseU64Digits_eq compact radix (by omega) _ _ _ (inv0.loop _ hi) (by
      intro c hc
      split at hc
      · exact hf c (mem_of_mem_skipZeros hc)
      · exact hf c hc),
      loop_two_runs hr inv0 hstep integer fr fun c hc => hvalid c (List.mem_append_left _ hc)]

open LexVerif.Proof.BinaryCorrect LexVerif.Proof.ExtRound LexVerif.Proof.BinaryWide in
/-- an invalid answer of `binary` is its undecided case -/
theorem undecided_facts {F p eb} (lay : Layout F p eb) {base : Nat} (M : Nat) (e : Int) (hM : M < 2 ^ 64)
    {fp : ExtendedFloat80} (h : binary F base ⟨M, e, false, true⟩ false = .ok fp) (hv : fp.exp < 0) :
    M ≠ 0 ∧ -(calculatePower2 F base e (clz64 M)) + 1 ≤ 64 ∧ calculatePower2 F base e (clz64 M) < F.C.infinitePower ∧
    HalfwayEven (M * 2 ^ clz64 M) (shiftOf p (calculatePower2 F base e (clz64 M))) := by
  have h0 : M ≠ 0 := fun h0 => by
    rw [binary_eq, if_pos h0] at h; injection h with h; subst h; exact absurd hv (by decide)
  obtain ⟨fp', e', out⟩ := binary_out lay base ⟨M, e, false, true⟩ false h0 hM
  rw [e'] at h; injection h with h; subst h
  cases out with
  | zero => exact absurd hv (by decide)
  | inf => exact absurd hv (by show ¬ F.C.infinitePower < 0; rw [lay.infp]; omega)
  | undecided hp2 hinf _ _ hhe => exact ⟨h0, hp2, hinf, hhe⟩
  | rounded _ _ _ hexp => omega

open LexVerif.Proof.BinaryCorrect LexVerif.Proof.ExtRound LexVerif.Proof.BinaryWide in
/-- digit loops (single-digit and 8-digit), leading-zero skipping, sticky bit, rounding: what
`Props.C05.slowBinary_correct` states for the two float types, for every exponent of `ExpWide` -/
theorem slowBinary_digits_correct {F p eb} (lay : Layout F p eb)
    (compact : Bool) (radix : Nat)
    (hradix : radix = 2 ∨ radix = 4 ∨ radix = 8 ∨ radix = 16 ∨ radix = 32) {base : Nat}
    (hb : base = 2 ∨ base = 4 ∨ base = 8 ∨ base = 16 ∨ base = 32) (step : Nat)
    (hfit : radix ^ step ≤ 2 ^ 64) (hmax : 2 ^ 64 < radix ^ (step + 1)) (e : Int) (he : ExpWide e)
    (integer : List Nat) (fraction : Option (List Nat))
    (hvalid : ∀ c ∈ integer ++ fraction.getD [], c < 256 ∧ Binary.digitVal c radix < radix) :
    let sig := ((integer ++ fraction.getD []).map fun c => Binary.digitVal c radix).dropWhile (· == 0)
    let first := valOf radix 0 (sig.take step)
    (∃ fp, binary F base ⟨first, e, false, true⟩ false = .ok fp ∧ fp.exp < 0) →
    extendedToFloat F (slowBinary F compact radix base step e integer fraction) =
      roundNE F.fmt (LexVerif.Proof.RoundNE.powFrac base e (valOf radix 0 sig)).1
        ((LexVerif.Proof.RoundNE.powFrac base e (valOf radix 0 sig)).2 * radix ^ (sig.length - step)) := by
  intro sig first ⟨fp, hfp, hneg⟩
  have hr2 : 2 ≤ radix := by rcases hradix with h | h | h | h | h <;> omega
  have hstep1 : 1 ≤ step := by
    apply Classical.byContradiction; intro hc
    rw [show step = 0 by omega, Nat.zero_add, Nat.pow_one] at hmax
    rcases hradix with h | h | h | h | h <;> omega
  have hv : ∀ c ∈ skipZeros (integer ++ fraction.getD []), Binary.digitVal c radix < radix :=
    fun c hc => (hvalid c (mem_of_mem_skipZeros hc)).2
  have inv0 := LoopInv.init (step := step) (show 0 < radix by omega) hfit
  have hfirst_lt := (inv0.loop _ hv).mantissa_lt (by omega)
  rw [slowBinary_loop F compact radix base step e integer fraction hr2 hstep1 hfit hvalid]
  simp only [loop_spec radix _ _ 0 inv0 hv, List.map_take, List.map_drop,
    map_skipZeros radix _ fun c hc => (hvalid c hc).1, Bool.true_and] at hfirst_lt ⊢
  have hsiglt : ∀ d ∈ sig, d < radix := by
    intro d hd
    obtain ⟨c, hc, rfl⟩ := List.mem_map.mp ((List.dropWhile_sublist _).subset hd)
    exact (hvalid c hc).2
  obtain ⟨hsplit, hrlt⟩ := valOf_take_drop radix sig hsiglt step
  obtain ⟨hM0, hp2, hinf, hhe⟩ := undecided_facts lay first e hfirst_lt hfp hneg
  rw [hsplit]
  exact slowBinary_core lay hb e he first _ _ _ hM0 hfirst_lt hrlt (valOf_zero_iff radix (by omega) _).symm
    hp2 hinf hhe

end LexVerif.Proof.SlowBinary
