import LexVerif.Proof.ParseNumberDebugBasic
import LexVerif.Proof.Validity
import LexVerif.Proof.PrefixRepair
/-!
# Proof.ParseNumberDebugCtx — what format validity gives the parser (`Ctx`)
-/
namespace LexVerif.Proof.PNDebug
open LexVerif LexVerif.Model

/-- the cargo feature `radix` enables `power-of-two` -/
def FeatsOk (f : Features) : Prop := f.radix = true → f.powerOfTwo = true

/-- `c.fmt.digitSeparator` is the byte `step_unchecked` asserts on -/
structure Ctx (c : Cfg) : Prop where
  skipOk : ∀ k, c.skip k ≠ .unreachable
  nfbc : c.feats.format = false → c.bytesContiguous = true
  nfContig : c.feats.format = false → ∀ k, c.iterContiguous k = true
  sepNotDigM : ¬ IsDig c.mantissaRadix c.fmt.digitSeparator
  sepNotDigE : ¬ IsDig c.exponentRadix c.fmt.digitSeparator
  sepNotPlus : c.fmt.digitSeparator ≠ 43
  sepNotMinus : c.fmt.digitSeparator ≠ 45
  prefixOk : c.basePrefix ≠ 0 → c.iterContiguous .integer = true ∨
    matchesB c.fmt.digitSeparator c.basePrefix c.caseSensitiveBasePrefix = false
  suffixOk : c.baseSuffix ≠ 0 → c.bytesContiguous = true ∨
    matchesB c.fmt.digitSeparator c.baseSuffix c.caseSensitiveBaseSuffix = false
  r2 : 2 ≤ c.mantissaRadix
  r36 : c.mantissaRadix ≤ 36
  er36 : c.exponentRadix ≤ 36
  multi : ∀ k, canMultidigit c k = true → c.mantissaRadix ≤ 10
  pow : c.mantissaRadix ^ u64Step c.feats c.mantissaRadix ≤ pow2_64
  scale : c.mantissaRadix = c.exponentBase ∨ log2Radix c.mantissaRadix % log2Radix c.exponentBase = 0

/-- what `is_valid_options_punctuation` (plus the case-insensitive exclusion) gives -/
structure OCtx (c : Cfg) (o : Spec.POpts) : Prop where
  dpOk : c.bytesContiguous = true ∨ o.dp ≠ c.fmt.digitSeparator
  expOk : c.bytesContiguous = true ∨
    matchesB c.fmt.digitSeparator o.exp (c.caseSensitiveExponent && c.feats.format) = false

theorem isDig_iff {r x : Nat} (hx : x < 256) (hr : r ≤ 255) : IsDig r x ↔ (Spec.digitVal r x).isSome = true := by
  rw [← CharDigit.charToDigit_eq x r hx hr]
  unfold IsDig charToDigit
  simp only
  split <;> simp [*]

/-- a byte `parse_digits` stopped at is no digit in the sense of the separator predicates — also for "bytes" ≥ 256 of
the model's `List Nat` inputs (`char_to_digit_const` wraps modulo 256, `is_digit` of the model does not) -/
theorem isDigit_of_stop (c : Cfg) (x : Nat) (hr : c.mantissaRadix ≤ 36)
    (h : charToDigit x c.mantissaRadix = none) : c.isDigit x = false := by
  by_cases hx : x < 256
  · cases hd : c.isDigit x
    · rfl
    · have := (isDig_iff hx (by omega)).mpr hd
      unfold charToDigit at h
      simp only at h
      rw [if_pos (show charToValidDigit x c.mantissaRadix < c.mantissaRadix from this)] at h; cases h
  · unfold Cfg.isDigit Spec.digitVal Spec.digitVal36
    have h1 : ¬ (48 ≤ x ∧ x ≤ 57) := by omega
    have h2 : ¬ (65 ≤ x ∧ x ≤ 90) := by omega
    have h3 : ¬ (97 ≤ x ∧ x ≤ 122) := by omega
    simp [h1, h2, h3]

theorem optControl_facts {en : Bool} {R x r : Nat} (h : Spec.OptionalControl en R x) (hx : x < 256) (hr : r ≤ R)
    (hR : R ≤ 255) : ¬ IsDig r x ∧ x ≠ 43 ∧ x ≠ 45 := by
  rw [isDig_iff hx (by omega)]
  rcases h.cases with rfl | ⟨-, hd, h1, h2⟩
  · exact ⟨by rw [show Spec.digitVal r 0 = none from by unfold Spec.digitVal; rfl]; simp, by decide, by decide⟩
  · exact ⟨by rw [CharDigit.digitVal_none_mono hd hr]; simp, h1, h2⟩

section validity
variable {feats : Features} {fmt : Format}

theorem fe_mantissa (h : (formatError feats fmt).isNone = true) : isValidRadix feats fmt.mantissaRadix = true := by
  rw [Validity.isValidRadix_spec]; exact decide_eq_true (Validity.valid_of h).mantissaRadix

theorem fe_base (h : (formatError feats fmt).isNone = true) : isValidRadix feats fmt.exponentBase = true := by
  rw [Validity.isValidRadix_spec]; exact decide_eq_true (Validity.valid_of h).exponentBase

theorem fe_expRadix (h : (formatError feats fmt).isNone = true) : isValidRadix feats fmt.exponentRadix = true := by
  rw [Validity.isValidRadix_spec]; exact decide_eq_true (Validity.valid_of h).exponentRadix

theorem fe_sep (h : (formatError feats fmt).isNone = true) :
    (if feats.format then isValidOptionalControl fmt fmt.digitSeparator else decide (fmt.digitSeparator = 0)) = true :=
  (Validity.optControl_spec fmt _ _).trans
    (decide_eq_true (Validity.valid_of h).separator)

theorem isValidRadix_le {r : Nat} (h : isValidRadix feats r = true) : 2 ≤ r ∧ r ≤ 36 :=
  Props.C18.radixSupported_range (of_decide_eq_true (Validity.isValidRadix_spec feats r ▸ h))

theorem isValidRadix_ten {r : Nat} (h : isValidRadix feats r = true) (hp : feats.powerOfTwo = false) (hf : FeatsOk feats) :
    r = 10 := by
  have hr : feats.radix = false := by
    cases hrr : feats.radix
    · rfl
    · have := hf hrr; simp [hp] at this
  unfold isValidRadix at h
  simpa [hr, hp] using h

end validity

/-- `peek`'s `unreachable!()` arm is the consecutive flag alone, which the documentation forbids -/
theorem SepFlags.skip_ne_unreachable (f : SepFlags) (h : f.c = true → f.i = true ∨ f.l = true ∨ f.t = true) :
    f.skip ≠ .unreachable := by
  obtain ⟨i, l, t, c⟩ := f
  revert h
  cases i <;> cases l <;> cases t <;> cases c <;> simp [SepFlags.skip]

theorem skip_ne_unreachable (c : Cfg) (h : (formatError c.feats c.fmt).isNone = true) (k : Comp) :
    c.skip k ≠ .unreachable := by
  cases hf : c.feats.format
  · cases k <;> simp [Cfg.skip, Cfg.sepFlags, Cfg.flag, Cfg.specialSep, hf, SepFlags.skip]
  · -- with `format` the flags of `c.sepFlags k` are the fields of the unpacked format
    obtain ⟨hi, hq, he⟩ := (Validity.valid_of h).consecutive hf
    cases k
    · exact SepFlags.skip_ne_unreachable _ (by simp only [Cfg.sepFlags, Cfg.flag, hf, if_true]; exact hi)
    · exact SepFlags.skip_ne_unreachable _ (by simp only [Cfg.sepFlags, Cfg.flag, hf, if_true]; exact hq)
    · exact SepFlags.skip_ne_unreachable _ (by simp only [Cfg.sepFlags, Cfg.flag, hf, if_true]; exact he)
    · simp only [Cfg.skip]; split <;> simp

theorem peek_of_bc {c : Cfg} {k : Comp} (hs : c.skip k ≠ .unreachable) (hbc : c.bytesContiguous = true) (b : Bytes) :
    peek c k b = .ok (b.slc[b.index]?, b) := by
  rw [IterSpec.peek_eq hs, IterSpec.pk, IterSpec.peekIdx_bc hbc]
  rfl

theorem peek_contig (c : Cfg) (h : (formatError c.feats c.fmt).isNone = true) (hbc : c.bytesContiguous = true)
    (k : Comp) (b : Bytes) : peek c k b = .ok (b.slc[b.index]?, b) :=
  peek_of_bc (skip_ne_unreachable c h k) hbc b

theorem scale_of_checkRadix (c : Cfg) (h : (formatError c.feats c.fmt).isNone = true)
    (hcr : checkRadix c.feats c.fmt = true) (hf : FeatsOk c.feats) :
    c.mantissaRadix = c.exponentBase ∨ log2Radix c.mantissaRadix % log2Radix c.exponentBase = 0 := by
  unfold Cfg.mantissaRadix Cfg.exponentBase
  by_cases heq : c.fmt.mantissaRadix = c.fmt.exponentBase
  · exact Or.inl heq
  · right
    cases hp : c.feats.powerOfTwo
    · have h1 := isValidRadix_ten (fe_mantissa h) hp hf
      have h2 := isValidRadix_ten (fe_base h) hp hf
      omega
    · unfold checkRadix at hcr
      have hn : (formatError c.feats c.fmt).isSome = false := by
        cases hx : formatError c.feats c.fmt <;> simp_all
      simp only [hn, hp, Bool.false_eq_true, if_false, Bool.true_and, ne_eq, heq, not_false_eq_true, decide_true,
        if_true, Bool.or_eq_true, Bool.and_eq_true, decide_eq_true_eq] at hcr
      rcases hcr with (((⟨h1, h2⟩ | ⟨h1, h2⟩) | ⟨h1, h2⟩) | ⟨h1, h2⟩) | ⟨h1, h2⟩ <;> rw [h1, h2] <;> decide

theorem matchesB_zero {v : Nat} (hv : v ≠ 0) (cased : Bool) : matchesB 0 v cased = false := by
  unfold matchesB
  cases cased
  · simp only [Bool.false_eq_true, if_false]
    cases h : eqIgnoreCase 0 v
    · rfl
    · unfold eqIgnoreCase lowerAscii at h
      simp at h
      split at h <;> omega
  · simp only [if_true]
    simp; omega

theorem Ctx.of_valid_gen (c : Cfg) (h : (formatError c.feats c.fmt).isNone = true)
    (hcr : checkRadix c.feats c.fmt = true) (hf : FeatsOk c.feats)
    (hpre : c.basePrefix ≠ 0 → c.iterContiguous .integer = true ∨
      matchesB c.fmt.digitSeparator c.basePrefix c.caseSensitiveBasePrefix = false)
    (hsuf : c.baseSuffix ≠ 0 → c.bytesContiguous = true ∨
      matchesB c.fmt.digitSeparator c.baseSuffix c.caseSensitiveBaseSuffix = false) : Ctx c := by
  have hm := fe_mantissa h
  have he := fe_expRadix h
  have v := Validity.valid_of h
  have hR := Validity.digitRadix_lt h
  have hx : c.fmt.digitSeparator < 256 := (Props.C18.unpack_bytes_lt c.fmt.raw).1
  have sm := optControl_facts v.separator hx (Nat.le_max_left c.fmt.mantissaRadix c.fmt.exponentRadix) (by omega)
  have se := optControl_facts v.separator hx (Nat.le_max_right c.fmt.mantissaRadix c.fmt.exponentRadix) (by omega)
  refine ⟨skip_ne_unreachable c h, ?_, ?_, sm.1, se.1, sm.2.1, sm.2.2, hpre, hsuf,
    (isValidRadix_le hm).1, (isValidRadix_le hm).2,
    (isValidRadix_le he).2, ?_, pow_u64Step _ _ hm, scale_of_checkRadix c h hcr hf⟩
  · intro hnf; simp [Cfg.bytesContiguous, Cfg.digitSeparator, hnf]
  · intro hnf k
    cases k <;> simp [Cfg.iterContiguous, Cfg.sepFlags, Cfg.flag, Cfg.specialSep, hnf, SepFlags.any]
  · intro k hk
    unfold canMultidigit at hk
    simp only [Bool.and_eq_true, Bool.or_eq_true, Bool.not_eq_true', decide_eq_true_eq] at hk
    rcases hk.2 with hp | hle
    · have := isValidRadix_ten hm hp hf
      unfold Cfg.mantissaRadix; omega
    · exact hle

theorem sep_zero_of_bc (c : Cfg) (h : (formatError c.feats c.fmt).isNone = true) (hbc : c.bytesContiguous = true) :
    c.fmt.digitSeparator = 0 := by
  have := fe_sep h
  cases hfo : c.feats.format
  · simpa [hfo] using this
  · simpa [Cfg.bytesContiguous, Cfg.digitSeparator, hfo] using hbc

theorem Ctx.of_valid (c : Cfg) (h : (formatError c.feats c.fmt).isNone = true)
    (hcr : checkRadix c.feats c.fmt = true) (hf : FeatsOk c.feats) (hbc : c.bytesContiguous = true) : Ctx c := by
  have hs := sep_zero_of_bc c h hbc
  refine Ctx.of_valid_gen c h hcr hf ?_ ?_
  · intro hp; right; rw [hs]; exact matchesB_zero hp _
  · intro _; exact Or.inl hbc

theorem OCtx.of_bc (c : Cfg) (o : Spec.POpts) (hbc : c.bytesContiguous = true) : OCtx c o :=
  ⟨Or.inl hbc, Or.inl hbc⟩

theorem OCtx.of_opts {c : Cfg} {o : Spec.POpts} (cx : Ctx c)
    (hopt : isValidOptionsPunctuation c.feats c.fmt o.exp o.dp = true)
    (hexp : c.bytesContiguous = true ∨
      matchesB c.fmt.digitSeparator o.exp (c.caseSensitiveExponent && c.feats.format) = false) : OCtx c o := by
  refine ⟨?_, hexp⟩
  cases hf : c.feats.format
  · exact Or.inl (cx.nfbc hf)
  · right
    intro hdp
    exact (Validity.punctuation_of hopt).separator_ne hf hdp.symm

theorem isSep_eq {c : Cfg} {x : Nat} (h : c.isSep x = true) : x = c.fmt.digitSeparator := by
  have hf := IterSpec.format_of_sep (c := c) (by
    cases hbc : c.bytesContiguous
    · rfl
    · rw [IterSpec.isSep_bc hbc] at h; cases h)
  unfold Cfg.isSep at h
  simp only [Bool.and_eq_true, decide_eq_true_eq] at h
  rw [h.2]; simp [Cfg.digitSeparator, hf]

theorem sep_isSep {c : Cfg} (hbc : c.bytesContiguous = false) : c.isSep c.fmt.digitSeparator = true := by
  have hf := IterSpec.format_of_sep hbc
  unfold Cfg.bytesContiguous at hbc
  have hne : c.digitSeparator ≠ 0 := by simpa using hbc
  have : c.digitSeparator = c.fmt.digitSeparator := by simp [Cfg.digitSeparator, hf]
  unfold Cfg.isSep
  simp [this ▸ hne, this]

def PeekTriv (c : Cfg) (k : Comp) : Prop := ∀ b, peek c k b = .ok (b.slc[b.index]?, b)

theorem peek_triv (c : Cfg) (cx : Ctx c) (k : Comp) (hk : c.bytesContiguous = true ∨ c.iterContiguous k = true)
    (b : Bytes) : peek c k b = .ok (b.slc[b.index]?, b) := by
  rcases hk with hbc | hic
  · exact peek_of_bc (cx.skipOk k) hbc b
  · simp [peek, (IterSpec.skip_noskip_iff c k).mpr hic]

theorem zero_ne_sep {c : Cfg} (cx : Ctx c) : (48 : Nat) ≠ c.fmt.digitSeparator := by
  intro h
  apply cx.sepNotDigM
  rw [← h]
  unfold IsDig charToValidDigit
  have := cx.r2
  split <;> simp <;> omega

end LexVerif.Proof.PNDebug
