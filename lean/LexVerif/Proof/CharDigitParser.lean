import LexVerif.Proof.CharDigit
import LexVerif.Model.ParseNumber
/-!
# Proof.CharDigitParser — the float parser's `char_to_digit_const` is the documented digit value

`Model/ParseNumber.lean` carries its own copy of `char_to_valid_digit_const`; it is the one of
`Model/FormatError.lean`, for which `Proof.CharDigit` has the specification. (A module of its own because the
parser model puts a second `formatError`, `isValidRadix` … into `LexVerif.Model`, which the modules about
`Model.FormatError` must not see.)
-/
namespace LexVerif.Proof.CharDigit
open LexVerif.Spec

theorem charToValidDigit_eq (ch r : Nat) :
    LexVerif.Model.charToValidDigit ch r = LexVerif.Model.FormatError.charToValidDigit ch r := by
  unfold LexVerif.Model.charToValidDigit LexVerif.Model.FormatError.charToValidDigit
  split
  · rfl
  · split
    · rfl
    · split
      · omega
      · split
        · omega
        · rfl

theorem charToDigit_eq (ch r : Nat) (h : ch < 256) (hr255 : r ≤ 255) :
    LexVerif.Model.charToDigit ch r = digitVal r ch := by
  unfold LexVerif.Model.charToDigit
  simp only [charToValidDigit_eq]
  exact charToValidDigit_spec ch r h hr255

theorem charToDigit_48 (r : Nat) (h : 1 ≤ r) : LexVerif.Model.charToDigit 48 r = some 0 := by
  unfold LexVerif.Model.charToDigit LexVerif.Model.charToValidDigit
  split <;> simp <;> omega

end LexVerif.Proof.CharDigit
