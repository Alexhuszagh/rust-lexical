import LexVerif.Proof.ParseNumberC11SepMany
import LexVerif.Proof.ParseNumberC11Prefix
/-!
# Proof.ParseNumberC11SepPrefix — `partial_prefix`, number results, formats with digit-separator flags

Front end (`parse_sign!`, `is_consumed` of the integer iterator — which may already skip leading separators) under the
cut at the returned count, then the composition with `parseNumber_truncS`.
-/
namespace LexVerif.Proof.C11
open LexVerif LexVerif.Model LexVerif.Spec

section
variable {c : Cfg} {o : POpts} (H : SepCfg c o)
include H

theorem afterSign_nonsep (s : List Nat) (neg : Bool) (b : Bytes) (h : afterSign c s = .ok (neg, false, b))
    (p : Bool) (ng fv : Bool) (r : Number × Nat) (hm : c.requiredMantissaDigits = true)
    (hpn : parseNumber c p o b ng fv = .ok r) : ∀ x, b.slc[b.index]? = some x → c.isSep x = false := by
  intro x hx
  cases hsx : c.isSep x with
  | false => rfl
  | true =>
    exfalso
    unfold afterSign at h
    simp only [bind, Except.bind, pure, Except.pure] at h
    cases hs : parseMantissaSign c (Bytes.new s) with
    | error e => rw [hs] at h; cases h
    | ok pr =>
      obtain ⟨n0, b0⟩ := pr
      rw [hs] at h
      simp only at h
      cases hc : isConsumed c .integer b0 with
      | error e => rw [hc] at h; cases h
      | ok pr2 =>
        obtain ⟨cs, b1⟩ := pr2
        rw [hc] at h
        simp only [Except.ok.injEq, Prod.mk.injEq] at h
        obtain ⟨rfl, rfl, rfl⟩ := h
        -- `b` is where `peek` left `b0`: `peek` stays there, on the separator `x`, and `parse_number` is stuck
        rw [IterSpec.isConsumed_eq (H.rel.hs .integer), if_pos H.fmt] at hc
        simp only [Except.ok.injEq, Prod.mk.injEq] at hc
        obtain ⟨-, rfl⟩ := hc
        have hr := IterSpec.pk_rest c .integer (isDigit_sep H) b0
        simp only [IterSpec.cur_slc, IterSpec.cur_index] at hx
        refine parseNumber_stuck p o _ ng fv x (by rw [hr]; exact hx) (H.sepM x hsx)
          (fun e => by subst e; rw [H.dpSep] at hsx; cases hsx) ?_ H.rad H.radix hm r hpn
        rw [hr, IterSpec.cur_cur, hr]

/-- **`partial_prefix`, number results, formats with digit-separator flags** (release build): every
input, under `SepCfg` and the radix condition `ExpRadixOK` -/
theorem partial_prefix_sep_number_g (hE : ExpRadixOK c) (s : List Nat) (fv : Bool) (x : Number) (cnt : Nat)
    (hm : c.requiredMantissaDigits = true)
    (h : parseFloatSyntax c o true s fv = .ok (.number x cnt)) :
    parseFloatSyntax c o false (s.take cnt) fv = .ok (.number x cnt) := by
  refine partial_prefix_number_of o s fv x cnt h (fun neg b ha hv hpn => ?_)
  obtain ⟨p1, p2, p3⟩ := parseNumber_truncS H hE true b neg fv x cnt hm hv hpn
  exact ⟨p1, p2, p3, afterSign_cut H.rel s neg b ha cnt
    (Cut.of_adm (Adm.of_lt p1 (afterSign_nonsep H s neg b ha true neg fv _ hm hpn))) p1⟩

end
end LexVerif.Proof.C11
