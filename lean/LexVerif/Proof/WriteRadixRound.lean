import LexVerif.Proof.WriteRadixFrac
/-!
# Proof.WriteRadixRound — `truncate_and_round` / `round_up` of radix.rs on valid digits (code as of /repo 2de23fc)

`truncateAndRound_spec`: on a window `start..end` of the scratch buffer that holds digits of the radix, for EVERY option
set `truncate_and_round` returns (never PANICs): the kept count is at most the window, the
kept bytes are again digits of the radix (`round_up` only turns a digit `d < radix - 1` into `d + 1`, or writes `'1'`
on a full carry, in which case the count is 1), and the count is at least 1 when the window is non-empty and
`max_significant_digits` is a `NonZero`. On top of it the two notations: `sciText_wf_all`, `sciText_total`, and the
positional writer with its window and tail as parameters (`positional_wf`, `positional_total`).
-/
namespace LexVerif.Proof.WriteRadixRound
open LexVerif.Spec LexVerif.Model LexVerif.Proof.WriteRadixWF LexVerif.Proof.WriteRadixInteger
open LexVerif.Model.WriteRadix
open LexVerif.Model.WriteInt (Res)

def Win (r : Nat) (buf : List Nat) (s k : Nat) : Prop := ∀ j, j < k → DigitByte r (buf.getD (s + j) 0)

theorem Win.mono {r : Nat} {buf : List Nat} {s k k' : Nat} (h : Win r buf s k) (hk : k' ≤ k) : Win r buf s k' :=
  fun j hj => h j (by omega)

theorem getD_set_eq (l : List Nat) {i : Nat} (a d : Nat) (hi : i < l.length) : (l.set i a).getD i d = a := by
  simp [List.getD_eq_getElem?_getD, hi]

theorem getD_set_ne (l : List Nat) {i j : Nat} (a d : Nat) (h : i ≠ j) : (l.set i a).getD j d = l.getD j d := by
  simp [List.getD_eq_getElem?_getD, h]

theorem mem_drop_take {l : List Nat} {s n c : Nat} (hc : c ∈ (l.drop s).take n) : ∃ j, j < n ∧ c = l.getD (s + j) 0 := by
  obtain ⟨j, hj, rfl⟩ := List.mem_iff_getElem.mp hc
  simp only [List.length_take, List.length_drop] at hj
  refine ⟨j, by omega, ?_⟩
  simp [List.getD_eq_getElem?_getD, List.getElem_take, List.getElem_drop, List.getElem?_eq_getElem (show s + j < l.length by omega)]

theorem getD_mem_drop_take {l : List Nat} {s k j : Nat} (hj : j < k) (hl : s + k ≤ l.length) :
    l.getD (s + j) 0 ∈ (l.drop s).take k := by
  apply List.mem_iff_getElem.mpr
  refine ⟨j, by simp only [List.length_take, List.length_drop]; omega, ?_⟩
  simp [List.getD_eq_getElem?_getD, List.getElem_take, List.getElem_drop, List.getElem?_eq_getElem (show s + j < l.length by omega)]

theorem lt_of_digitChar_lt {a b : Nat} (hb : b < 36) (h : digitChar a < digitChar b) : a < b := by
  unfold digitChar at h
  split at h <;> split at h <;> omega

theorem charToValidDigitConst_digitChar {d r : Nat} (hd : d < r) (hr : r ≤ 36) :
    charToValidDigitConst (digitChar d) r = d := by
  unfold charToValidDigitConst digitChar
  split
  · rw [if_pos (by omega)]; omega
  · by_cases h10 : d < 10
    · rw [if_pos h10, if_pos (by omega)]; omega
    · rw [if_neg h10, if_neg (by omega), if_pos (by omega)]; omega

/-- `shared::round_up` on a window of valid digits -/
theorem roundUpGo_spec {r : Nat} (hr2 : 2 ≤ r) (hr36 : r ≤ 36) (s : Nat) (buf : List Nat) {k : Nat}
    (hlen : s + k ≤ buf.length) (hk : 1 ≤ k) (hwin : Win r buf s k) : ∀ idx, idx ≤ k →
      (roundUpGo r s buf idx).2.1 ≤ k ∧ 1 ≤ (roundUpGo r s buf idx).2.1 ∧
      Win r (roundUpGo r s buf idx).1 s (roundUpGo r s buf idx).2.1 ∧
      ((roundUpGo r s buf idx).2.2 = true → (roundUpGo r s buf idx).2.1 = 1) ∧
      (roundUpGo r s buf idx).1.length = buf.length
  | 0, _ => by
    unfold roundUpGo
    refine ⟨hk, Nat.le_refl _, ?_, fun _ => rfl, by simp⟩
    intro j hj
    have : j = 0 := by dsimp only at hj; omega
    subst this
    rw [Nat.add_zero, getD_set_eq _ _ _ (by omega)]
    exact ⟨1, by omega, rfl⟩
  | idx + 1, hidx => by
    unfold roundUpGo
    dsimp only
    split
    · rename_i hlt
      dsimp only
      refine ⟨hidx, by omega, ?_, fun h => by simp at h, by simp⟩
      obtain ⟨d, hd, hc⟩ := hwin idx (by omega)
      rw [hc, digitToCharConst_eq (show r - 1 < r by omega) hr36] at hlt
      have hd1 : d < r - 1 := lt_of_digitChar_lt (by omega) hlt
      intro j hj
      by_cases hji : j = idx
      · subst hji
        rw [getD_set_eq _ _ _ (by omega), hc, charToValidDigitConst_digitChar hd hr36]
        exact ⟨d + 1, by omega, digitToCharConst_eq (by omega) hr36⟩
      · rw [getD_set_ne _ _ _ (by omega)]
        exact hwin j (by omega)
    · exact roundUpGo_spec hr2 hr36 s buf hlen hk hwin idx (by omega)

theorem truncateAndRound_spec {r : Nat} (hr2 : 2 ≤ r) (hr36 : r ≤ 36) (o : WOpts) (buf : List Nat) {s e : Nat}
    (hle : s ≤ e) (hlen : e ≤ buf.length) (hwin : Win r buf s (e - s)) :
    ∃ x, WriteRadix.truncateAndRound r o buf s e = .ok x ∧ x.2.1 ≤ e - s ∧ Win r x.1 s x.2.1 ∧
      (x.2.2 = true → x.2.1 = 1) ∧ (s < e → o.maxDigits ≠ some 0 → 1 ≤ x.2.1) ∧ x.1.length = buf.length := by
  unfold WriteRadix.truncateAndRound WriteRadix.truncateAndRoundP
  cases hm : o.maxDigits with
  | none => exact ⟨_, rfl, Nat.le_refl _, hwin, fun h => by simp at h, fun h _ => by show 1 ≤ e - s; omega, rfl⟩
  | some mx =>
    dsimp only
    rw [if_neg (by omega)]
    generalize hmx : mx + ltrimCount 48 ((buf.drop s).take (e - s)) = mx'
    have keep : ∀ n, n ≤ e - s → (s < e → some mx ≠ some 0 → 1 ≤ n) →
        ∃ x, (Res.ok (buf, n, false) : Res (List Nat × Nat × Bool)) = .ok x ∧ x.2.1 ≤ e - s ∧ Win r x.1 s x.2.1 ∧
          (x.2.2 = true → x.2.1 = 1) ∧ (s < e → some mx ≠ some 0 → 1 ≤ x.2.1) ∧ x.1.length = buf.length :=
      fun n hn h1 => ⟨_, rfl, hn, hwin.mono hn, fun h => by simp at h, h1, rfl⟩
    by_cases h1 : mx' ≥ e - s
    · rw [if_pos h1]
      exact keep _ (Nat.le_refl _) (fun h _ => by omega)
    · rw [if_neg h1]
      have hmx1 : s < e → some mx ≠ some 0 → 1 ≤ mx' := by
        intro _ h0
        have : mx ≠ 0 := fun h => h0 (by rw [h])
        omega
      have up : ∃ x, (Res.ok (roundUpGo r s buf mx') : Res (List Nat × Nat × Bool)) = .ok x ∧ x.2.1 ≤ e - s ∧
          Win r x.1 s x.2.1 ∧ (x.2.2 = true → x.2.1 = 1) ∧ (s < e → some mx ≠ some 0 → 1 ≤ x.2.1) ∧
          x.1.length = buf.length := by
        obtain ⟨a, b, c, d, l⟩ := roundUpGo_spec hr2 hr36 s buf (k := e - s) (by omega) (by omega) hwin mx' (by omega)
        exact ⟨_, rfl, a, c, d, fun _ _ => b, l⟩
      have kp := keep mx' (by omega) hmx1
      -- every branch of the rounding decision keeps `mx'` digits (`kp`) or calls `round_up` (`up`)
      split
      · exact kp
      · split
        · exact kp
        · split
          · exact up
          · split
            · split
              · exact kp
              · exact up
            · split
              · exact kp
              · split
                · exact kp
                · exact up

theorem buf_length (g : Gen) : g.ints.length + g.fracs.length ≤ g.buf.length := by
  unfold Gen.buf; simp

theorem win_of_gen {r : Nat} (g : Gen) (hg : ∀ c ∈ g.ints ++ g.fracs, DigitByte r c) {s k : Nat}
    (hk : s + k ≤ g.ints.length + g.fracs.length) : Win r g.buf s k := by
  intro j hj
  have := buf_length g
  exact hg _ (mem_window g (Or.inr hk) (getD_mem_drop_take hj (by omega)))

theorem win_mem {r : Nat} {buf : List Nat} {s n : Nat} (hw : Win r buf s n) :
    ∀ c ∈ (buf.drop s).take n, DigitByte r c := by
  intro c hc
  obtain ⟨j, hj, rfl⟩ := mem_drop_take hc
  exact hw j hj

/-- `49 :: x.1`: the carry digit `'1'` in front when `round_up` carried out of the window -/
theorem truncateAndRound_kept {r : Nat} (hr2 : 2 ≤ r) (hr36 : r ≤ 36) (o : WOpts) (g : Gen)
    (hg : ∀ c ∈ g.ints ++ g.fracs, DigitByte r c) {e : Nat} (he : e ≤ g.ints.length + g.fracs.length) :
    ∃ x, WriteRadix.truncateAndRound r o g.buf 0 e = .ok x ∧
      ∀ c ∈ (if x.2.2 = true then 49 :: x.1 else x.1).take x.2.1, DigitByte r c := by
  have hbl := buf_length g
  obtain ⟨x, hx, _, hw, hc, _, _⟩ := truncateAndRound_spec hr2 hr36 o g.buf (Nat.zero_le e) (by omega)
    (win_of_gen g hg (by omega))
  refine ⟨x, hx, ?_⟩
  by_cases hcar : x.2.2 = true
  · rw [if_pos hcar, hc hcar]
    intro c hc'
    simp at hc'
    rw [hc']
    exact ⟨1, by omega, rfl⟩
  · rw [if_neg hcar]
    have := win_mem hw
    rwa [List.drop_zero] at this

theorem sciText_wf_all (fmt : Format) (feats : Features) (o : WOpts) {r : Nat} (hr2 : 2 ≤ r) (hr36 : r ≤ 36)
    (her : 2 ≤ fmt.exponentRadix) (g : Gen) (hg : ∀ c ∈ g.ints ++ g.fracs, DigitByte r c) (sciExp : Int) {t : Text}
    (h : sciText fmt feats o r g sciExp = .ok t) : WellFormed r fmt.exponentRadix o.dp o.exp t.text := by
  unfold sciText at h
  dsimp only at h
  generalize (if sciExp ≤ 0 then ((g.ints.length : Int) - sciExp - 1).toNat else 0) = start at h
  generalize hend : min (g.ints.length + g.fracs.length) (start + maxDigitLength + 1) = end_ at h
  have hbl := buf_length g
  by_cases hle : start ≤ end_
  · obtain ⟨x, hx, _, hw, _, _, _⟩ := truncateAndRound_spec hr2 hr36 o g.buf hle (by omega)
      (win_of_gen g hg (by omega))
    rw [hx] at h
    simp only [Res.bind] at h
    exact sciFinish_wf fmt feats o (by omega) her _ (win_mem hw) _ h
  · -- `start > end_`: without `max_significant_digits` the window is empty and `sciFinish []` PANICs; with it the
    -- slice `&buffer[start..end]` PANICs
    exfalso
    unfold WriteRadix.truncateAndRound WriteRadix.truncateAndRoundP at h
    cases hm : o.maxDigits with
    | none =>
      rw [hm] at h
      simp only [Res.bind] at h
      rw [show end_ - start = 0 by omega] at h
      simp [sciFinish] at h
    | some mx =>
      rw [hm] at h
      dsimp only at h
      rw [if_pos (by omega)] at h
      simp [Res.bind] at h

/-- the scientific layout at the exponent `write_float!` passes returns: its window starts inside the digits, so at least
one digit is kept -/
theorem sciText_total (fmt : Format) (feats : Features) (o : WOpts) (ho : o.maxDigits ≠ some 0) {r : Nat}
    (hr2 : 2 ≤ r) (hr36 : r ≤ 36) (g : Gen) (hg : ∀ c ∈ g.ints ++ g.fracs, DigitByte r c) (hne : g.ints ≠ []) :
    ∃ t, sciText fmt feats o r g (sciExpOf g) = .ok t := by
  have hpos := List.length_pos_iff.mpr hne
  have hbl := buf_length g
  unfold sciText
  dsimp only
  have hstart : (if sciExpOf g ≤ 0 then ((g.ints.length : Int) - sciExpOf g - 1).toNat else 0)
      < g.ints.length + g.fracs.length := by
    unfold sciExpOf
    simp only [List.length_append]
    split <;> omega
  generalize (if sciExpOf g ≤ 0 then ((g.ints.length : Int) - sciExpOf g - 1).toNat else 0) = start at hstart
  generalize hend : min (g.ints.length + g.fracs.length) (start + maxDigitLength + 1) = end_
  obtain ⟨x, hx, _, _, _, h1, hl⟩ := truncateAndRound_spec hr2 hr36 o g.buf (show start ≤ end_ by omega) (by omega)
    (win_of_gen g hg (by omega))
  rw [hx]
  simp only [Res.bind]
  have hn := h1 (by omega) ho
  cases hd : (x.1.drop start).take x.2.1 with
  | nil =>
    have := congrArg List.length hd
    simp only [List.length_take, List.length_drop, List.length_nil] at this
    omega
  | cons d0 rest => exact ⟨_, rfl⟩

/-- `write_float_nonscientific` with its digit window `0..end_` and its tail `fin` as parameters: round the window, put
the carry digit in front, hand the kept digits to `fin`. `nonsciText` and `nonsciTextW` are instances. -/
def positional (o : WOpts) (r : Nat) (g : Gen) (end_ : Nat) (fin : List Nat → Nat → Text) : Res Text :=
  (WriteRadix.truncateAndRound r o g.buf 0 end_).bind fun tr =>
    if tr.2.2 ∧ g.ints.length ≥ halfSize then .panic else
    .ok (fin ((if tr.2.2 then 49 :: tr.1 else tr.1).take tr.2.1) (g.ints.length + (if tr.2.2 then 1 else 0)))

theorem positional_wf (o : WOpts) {r er : Nat} (hr2 : 2 ≤ r) (hr36 : r ≤ 36) (g : Gen)
    (hg : ∀ c ∈ g.ints ++ g.fracs, DigitByte r c) (hne : g.ints ≠ []) {end_ : Nat}
    (he : end_ ≤ g.ints.length + g.fracs.length) {fin : List Nat → Nat → Text}
    (hfin : ∀ digits il, (∀ c ∈ digits, DigitByte r c) → 0 < il → WellFormed r er o.dp o.exp (fin digits il).text)
    {t : Text} (h : positional o r g end_ fin = .ok t) : WellFormed r er o.dp o.exp t.text := by
  unfold positional at h
  obtain ⟨x, hx, hdig⟩ := truncateAndRound_kept hr2 hr36 o g hg he
  simp only [hx, Res.bind] at h
  split at h
  · cases h
  · cases Res.ok.inj h
    have hpos := List.length_pos_iff.mpr hne
    exact hfin _ _ hdig (by omega)

/-- with fewer than 1100 integer digits there is room for the carry digit -/
theorem positional_total (o : WOpts) {r : Nat} (hr2 : 2 ≤ r) (hr36 : r ≤ 36) (g : Gen)
    (hg : ∀ c ∈ g.ints ++ g.fracs, DigitByte r c) (hil : g.ints.length < halfSize) {end_ : Nat}
    (he : end_ ≤ g.ints.length + g.fracs.length) (fin : List Nat → Nat → Text) :
    ∃ t, positional o r g end_ fin = .ok t := by
  unfold positional
  obtain ⟨x, hx, _⟩ := truncateAndRound_kept hr2 hr36 o g hg he
  simp only [hx, Res.bind]
  rw [if_neg (by omega)]
  exact ⟨_, rfl⟩

/-- the layout stage with the positional writer `pos` as a parameter: the `write_float!` choice between it and
`sciText` -/
def layoutWith (pos : Res Text) (fmt : Format) (feats : Features) (o : WOpts) (r : Nat) (g : Gen) : Res Text :=
  if ¬ fmt.noExponentNotation ∧ (fmt.requiredExponentNotation ∨
      (sciExpOf g < o.negBreak.getD (-5) ∨ sciExpOf g > o.posBreak.getD 9))
  then sciText fmt feats o r g (sciExpOf g) else pos

end LexVerif.Proof.WriteRadixRound
