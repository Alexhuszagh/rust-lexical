import LexVerif.Proof.RoundTripForm
import LexVerif.Proof.FormatValid
/-!
# Proof.RoundTripFlags — the writer's view of the format flags vs the grammar's (C08)

The writer reads the flags of the *effective* format (`effFmt`: every flag off without the `format` feature), the
grammar reads `Syn.of`.  Both agree on the flags the writer honours; the documented validity of the format
(`Spec.FormatValid`) excludes the contradictory pairs; the documented validity of the option characters
(`Spec.OptionsPunctuationValid`) makes the decimal point and the exponent character non-digits.
`PrefixClear`: the base prefix letter of the format, if any, matches neither the decimal point nor the exponent character —
the one hypothesis beyond validity, since `0` followed by such a character is read as the prefix (`splitPrefix_render`;
`C08.finding_prefix_case` shows that it cannot be dropped).
`writeDecimal_accepted` assembles the round trip on the shape level.
-/
namespace LexVerif.Proof.RoundTrip
open LexVerif.Spec LexVerif.Model LexVerif.Model.WriteFloat
open LexVerif.Proof.WriteFloatBuf (effFmt_format effFmt_bit effFmt_exponentRadix)

theorem syn_radix (feats : Features) (fmt : Format) : (Syn.of feats fmt).radix = fmt.mantissaRadix := by
  unfold Syn.of; split <;> rfl

theorem syn_expRadix (feats : Features) (fmt : Format) : (Syn.of feats fmt).expRadix = fmt.exponentRadix := by
  unfold Syn.of; split <;> rfl

theorem effFmt_flag (feats : Features) (fmt : Format) (i : Nat) (hi : i < 64) :
    (effFmt feats fmt).bit i = (feats.format && fmt.bit i) := by
  cases h : feats.format
  · rw [effFmt_bit feats fmt h i hi]; rfl
  · rw [effFmt_format feats fmt h]; rfl

theorem syn_noExpNot (feats : Features) (fmt : Format) :
    (Syn.of feats fmt).noExpNot = (effFmt feats fmt).noExponentNotation := by
  rw [Format.noExponentNotation, effFmt_flag feats fmt 6 (by omega)]
  unfold Syn.of
  cases feats.format <;> rfl

theorem syn_reqExpNot (feats : Features) (fmt : Format) :
    (Syn.of feats fmt).reqExpNot = (effFmt feats fmt).requiredExponentNotation := by
  rw [Format.requiredExponentNotation, effFmt_flag feats fmt 14 (by omega)]
  unfold Syn.of
  cases feats.format <;> rfl

theorem syn_noExpWoFrac (feats : Features) (fmt : Format) :
    (Syn.of feats fmt).noExpWoFrac = (effFmt feats fmt).noExponentWithoutFraction := by
  rw [Format.noExponentWithoutFraction, effFmt_flag feats fmt 9 (by omega)]
  unfold Syn.of
  cases feats.format <;> rfl

theorem syn_reqExpSign (feats : Features) (fmt : Format) :
    (Syn.of feats fmt).reqExpSign = plusReqOf (effFmt feats fmt) feats := by
  cases h : feats.format
  · simp [Syn.of, h, plusReqOf]
  · simp [Syn.of, h, plusReqOf, effFmt_format feats fmt h]

/-- `+` on a non-negative mantissa is written exactly when required (`write.rs`) -/
def mantPlus (feats : Features) (fmt : Format) : Bool := feats.format && fmt.requiredMantissaSign

theorem syn_reqMantSign (feats : Features) (fmt : Format) :
    (Syn.of feats fmt).reqMantSign = mantPlus feats fmt := by
  cases h : feats.format <;> simp [Syn.of, h, mantPlus]

def mantSign (feats : Features) (fmt : Format) (neg : Bool) : Option Bool :=
  if neg then some true else if mantPlus feats fmt then some false else none

theorem mantSign_neg (feats : Features) (fmt : Format) (neg : Bool) : (mantSign feats fmt neg == some true) = neg := by
  unfold mantSign
  cases neg <;> cases mantPlus feats fmt <;> rfl

/-- every field of `unpack fmt.raw` is the `Format` accessor of the same name by `rfl`; so is the digit radix -/
theorem digitRadix_eq (fmt : Format) : (unpack fmt.raw).digitRadix = max fmt.mantissaRadix fmt.exponentRadix := rfl

theorem digitRadix_decimal (fmt : Format) (h10 : fmt.mantissaRadix = 10) : 10 ≤ (unpack fmt.raw).digitRadix := by
  rw [digitRadix_eq, h10]; exact Nat.le_max_left _ _

structure SynFacts (y : Syn) : Prop where
  expRadix2 : 2 ≤ y.expRadix
  expRadix36 : y.expRadix ≤ 36
  expFlags : ¬ (y.noExpNot = true ∧ y.reqExpNot = true)
  mantSign : ¬ (y.noPosMant = true ∧ y.reqMantSign = true)
  expSign : ¬ (y.noPosExp = true ∧ y.reqExpSign = true)

theorem synFacts_of_valid (feats : Features) (fmt : Format) (hv : FormatValid feats (unpack fmt.raw)) :
    SynFacts (Syn.of feats fmt) := by
  obtain ⟨_, _, hr3, _, _, _, _, hfl⟩ := hv
  have hr : 2 ≤ fmt.exponentRadix ∧ fmt.exponentRadix ≤ 36 := LexVerif.Props.C18.radixSupported_range hr3
  cases h : feats.format
  · refine ⟨?_, ?_, ?_, ?_, ?_⟩ <;> simp [Syn.of, h, hr.1, hr.2]
  · simp only [h, if_true] at hfl
    obtain ⟨h1, h2, h3, _⟩ := hfl
    have h1 : ¬ (fmt.noExponentNotation = true ∧ fmt.requiredExponentNotation = true) := h1
    have h2 : ¬ (fmt.noPositiveMantissaSign = true ∧ fmt.requiredMantissaSign = true) := h2
    have h3 : ¬ (fmt.noPositiveExponentSign = true ∧ fmt.requiredExponentSign = true) := h3
    refine ⟨?_, ?_, ?_, ?_, ?_⟩
    · simp [Syn.of, h, hr.1]
    · simp [Syn.of, h, hr.2]
    · simpa [Syn.of, h] using h1
    · simpa [Syn.of, h] using h2
    · simpa [Syn.of, h] using h3

theorem matchByte_digit_false (cased : Bool) (pre d R : Nat) (hd : d < 10) (hR : 10 ≤ R)
    (h : digitVal R pre = none) : matchByte cased pre (digitChar d) = false := by
  have hne : pre ≠ 48 + d := by
    intro h'
    subst h'
    have h1 : 48 ≤ 48 + d ∧ 48 + d ≤ 57 := by omega
    have h2 : d < R := by omega
    simp [digitVal, digitVal36, h1, h2] at h
  unfold matchByte eqUncased lower digitChar
  simp only [hd, if_true]
  cases cased
  · simp only [Bool.false_eq_true, if_false, decide_eq_false_iff_not]
    have h1 : ¬ (65 ≤ 48 + d ∧ 48 + d ≤ 90) := by omega
    simp only [h1, if_false]
    split <;> omega
  · simp only [if_true, decide_eq_false_iff_not]; omega

theorem render_second (dp expc er : Nat) (plusReq : Bool) (s : Shape) (hints : ∀ d ∈ s.ints, d < 10) (hne : s.ints ≠ []) :
    ∀ c, (s.render dp expc er plusReq).tail.head? = some c →
      (∃ d, d < 10 ∧ c = digitChar d) ∨ c = dp ∨ c = expc := by
  obtain ⟨ints, frac, exp⟩ := s
  intro c hc
  cases ints with
  | nil => exact absurd rfl hne
  | cons a rest =>
    cases rest with
    | cons b rest' =>
      simp [Shape.render, chars] at hc
      exact Or.inl ⟨b, hints b (by simp), hc.symm⟩
    | nil =>
      cases frac with
      | some fs =>
        simp [Shape.render, chars, fracText] at hc
        exact Or.inr (Or.inl hc.symm)
      | none =>
        cases exp with
        | some e =>
          simp [Shape.render, chars, fracText, expPart, expText] at hc
          exact Or.inr (Or.inr hc.symm)
        | none => simp [Shape.render, chars, fracText, expPart] at hc

theorem splitPrefix_none (y : Syn) (text : List Nat)
    (h : ∀ c, text.tail.head? = some c → (y.pre ≠ 0 && matchByte y.csPrefix y.pre c) = false) :
    splitPrefix y text = (false, text) := by
  unfold splitPrefix
  split
  · rename_i c cs
    have := h c (by simp)
    simp only [this]
    simp
  · rfl

/-- the base prefix does not match the decimal point or the exponent character under the prefix's case rule.
With a case-sensitive prefix this is part of the documented punctuation validity; with a case-insensitive prefix
(`x` vs decimal point `X`) it is **not** — see `Props.C08.finding_prefix_case`. -/
def PrefixClear (feats : Features) (fmt : Format) (dp expc : Nat) : Prop :=
  (Syn.of feats fmt).pre = 0 ∨
    (matchByte (Syn.of feats fmt).csPrefix (Syn.of feats fmt).pre dp = false ∧
     matchByte (Syn.of feats fmt).csPrefix (Syn.of feats fmt).pre expc = false)
instance (feats : Features) (fmt : Format) (dp expc : Nat) : Decidable (PrefixClear feats fmt dp expc) := by
  unfold PrefixClear; infer_instance

theorem syn_pre (feats : Features) (fmt : Format) :
    (Syn.of feats fmt).pre = 0 ∨ (feats.format = true ∧ (Syn.of feats fmt).pre = fmt.basePrefix) := by
  cases h : feats.format
  · left; simp [Syn.of, h]
  · right; simp [Syn.of, h]

theorem prefixClear_of_cased (feats : Features) (fmt : Format) (dp expc : Nat)
    (hp : OptionsPunctuationValid feats (unpack fmt.raw) expc dp) (hcs : (Syn.of feats fmt).csPrefix = true) :
    PrefixClear feats fmt dp expc := by
  rcases syn_pre feats fmt with h | ⟨hf, h⟩
  · exact Or.inl h
  · right
    obtain ⟨_, _, _, h4⟩ := hp
    obtain ⟨_, _, h5, h6, _, _⟩ := h4 hf
    have h5 : fmt.basePrefix ≠ dp := h5
    have h6 : fmt.basePrefix ≠ expc := h6
    rw [h, hcs]
    simp only [matchByte, if_true, decide_eq_false_iff_not]
    exact ⟨fun e => h5 e.symm, fun e => h6 e.symm⟩

theorem prefix_not_digit (feats : Features) (fmt : Format) (hv : FormatValid feats (unpack fmt.raw))
    (h10 : fmt.mantissaRadix = 10) (hpre : (Syn.of feats fmt).pre ≠ 0) :
    ∃ R, 10 ≤ R ∧ digitVal R (Syn.of feats fmt).pre = none := by
  rcases syn_pre feats fmt with h | ⟨hf, h⟩
  · exact absurd h hpre
  · refine ⟨(unpack fmt.raw).digitRadix, digitRadix_decimal fmt h10, ?_⟩
    rw [h] at hpre ⊢
    rcases hv.basePrefix.cases with h0 | hc
    · exact absurd h0 hpre
    · exact hc.2.1

theorem splitPrefix_render (feats : Features) (fmt : Format) (hv : FormatValid feats (unpack fmt.raw))
    (h10 : fmt.mantissaRadix = 10) (dp expc er : Nat) (plusReq : Bool) (s : Shape)
    (hints : ∀ d ∈ s.ints, d < 10) (hne : s.ints ≠ []) (hclear : PrefixClear feats fmt dp expc) :
    splitPrefix (Syn.of feats fmt) (s.render dp expc er plusReq) = (false, s.render dp expc er plusReq) := by
  apply splitPrefix_none
  intro c hc
  by_cases hp : (Syn.of feats fmt).pre = 0
  · simp [hp]
  · have hcl : matchByte (Syn.of feats fmt).csPrefix (Syn.of feats fmt).pre dp = false ∧
        matchByte (Syn.of feats fmt).csPrefix (Syn.of feats fmt).pre expc = false := by
      rcases hclear with h | h
      · exact absurd h hp
      · exact h
    obtain ⟨R, hR, hdig⟩ := prefix_not_digit feats fmt hv h10 hp
    rcases render_second dp expc er plusReq s hints hne c hc with ⟨d, hd, rfl⟩ | rfl | rfl
    · simp [matchByte_digit_false _ _ d R hd hR hdig]
    · simp [hcl.1]
    · simp [hcl.2]

theorem signOk_mant (y : Syn) (feats : Features) (fmt : Format) (neg : Bool)
    (h1 : y.reqMantSign = mantPlus feats fmt) (h2 : ¬ (y.noPosMant = true ∧ y.reqMantSign = true)) :
    signOk y.noPosMant y.reqMantSign (mantSign feats fmt neg) = true := by
  unfold signOk mantSign
  rw [h1] at h2 ⊢
  cases neg <;> cases hp : mantPlus feats fmt <;> cases hn : y.noPosMant <;> simp_all

theorem signOk_exp (y : Syn) (plusReq : Bool) (e : Int)
    (h1 : y.reqExpSign = plusReq) (h2 : ¬ (y.noPosExp = true ∧ y.reqExpSign = true)) :
    signOk y.noPosExp y.reqExpSign (expSignOf plusReq e) = true := by
  unfold signOk expSignOf
  rw [h1] at h2 ⊢
  by_cases he : e < 0
  · simp [he]
  · simp only [he, if_false]
    cases hp : plusReq <;> cases hn : y.noPosExp <;> simp_all

theorem writeDecimal_accepted (feats : Features) (fmt : Format) (wo : WOpts) (po : POpts) (ds : List Nat) (sci : Int)
    (neg : Bool) (hv : FormatValid feats (unpack fmt.raw)) (h10 : fmt.mantissaRadix = 10)
    (hdp : wo.dp = po.dp) (hexp : wo.exp = po.exp)
    (hpunct : OptionsPunctuationValid feats (unpack fmt.raw) po.exp po.dp)
    (hmx : wo.maxDigits ≠ some 0) (hin : WriterInput ds sci) (hclear : PrefixClear feats fmt po.dp po.exp) :
    ∃ l : FloatLit,
      grammarFloatComplete feats fmt po (signBytes (mantSign feats fmt neg) ++ writeDecimal fmt feats ds sci wo) =
        .num l (signBytes (mantSign feats fmt neg) ++ writeDecimal fmt feats ds sci wo).length ∧
      l.neg = neg ∧
      DigitsForm l.intDigits l.fracDigits l.exp (keptOf fmt feats ds sci wo)
        (sci + (if (truncateAndRound ds wo).2 then 1 else 0)) := by
  have hy := synFacts_of_valid feats fmt hv
  have hsd := shapeOf_digits fmt feats ds sci wo hin hmx
  have hsf := shapeOf_flags fmt feats ds sci wo
  have hR10 : (Syn.of feats fmt).radix = 10 := by rw [syn_radix, h10]
  -- decimal point / exponent character are not decimal digits
  obtain ⟨hc1, hc2, hne, _⟩ := hpunct
  have hRle := digitRadix_decimal fmt h10
  have hdpd : digitVal (Syn.of feats fmt).radix po.dp = none := by rw [hR10]; exact CharDigit.digitVal_none_mono hc1.2.1 hRle
  have hexd : digitVal (Syn.of feats fmt).radix po.exp = none := by rw [hR10]; exact CharDigit.digitVal_none_mono hc2.2.1 hRle
  rw [writeDecimal_shape, effFmt_exponentRadix, ← syn_expRadix feats fmt, hdp, hexp]
  have hpre := splitPrefix_render feats fmt hv h10 po.dp po.exp (Syn.of feats fmt).expRadix
    (plusReqOf (effFmt feats fmt) feats) (shapeOf fmt feats ds sci wo) hsd.below.1 hsd.full.1 hclear
  have hok : ShapeOk (Syn.of feats fmt) (plusReqOf (effFmt feats fmt) feats) (mantSign feats fmt neg)
      (shapeOf fmt feats ds sci wo) := by
    refine ⟨signOk_mant _ feats fmt neg (syn_reqMantSign feats fmt) hy.mantSign, hsd.full.1, fun _ => hsd.full.2,
      fun _ => hsd.noLZ, ?_, ?_, ?_, ?_⟩
    · intro h; rw [syn_noExpNot] at h; exact hsf.noExp h
    · intro h
      have h' := h
      rw [syn_reqExpNot] at h'
      apply hsf.reqExp h'
      rw [← syn_noExpNot]
      cases hn : (Syn.of feats fmt).noExpNot
      · rfl
      · exact absurd ⟨hn, h⟩ hy.expFlags
    · intro h; rw [syn_noExpWoFrac] at h; exact hsf.expFrac h
    · intro e _; exact signOk_exp _ _ e (syn_reqExpSign feats fmt) hy.expSign
  have key := grammarFloatSyn_render (Syn.of feats fmt) po (mantSign feats fmt neg) (shapeOf fmt feats ds sci wo)
    (plusReqOf (effFmt feats fmt) feats) (by rw [hR10]; omega) hy.expRadix2 hy.expRadix36 (hR10 ▸ hsd.below) hdpd hexd hne
    hpre hok
  exact ⟨_, key, mantSign_neg feats fmt neg, hsd.form⟩

end LexVerif.Proof.RoundTrip
