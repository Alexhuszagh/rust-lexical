import LexVerif.Proof.SlowBigint
import LexVerif.Proof.Numeral
import LexVerif.Proof.SlowBinaryDigits
/-!
# Proof.SlowMantissa — `parse_mantissa` accumulates exactly the digit string

The inner loops (`try_parse_8digits!`, the single-digit `while`) move digits from the bytes into the native
`value` (`Took`) and keep it below `radix ^ counter` (`LoopOk`). A component loop (`'integer:` / `'fraction:`) is
described by the digits read so far and not by where the flushes into the big integer fell: `Read sig st` says that
the number `acc` the state stands for is the value of `sig`. So the `'fraction:` loop just continues the
`'integer:` loop (`digitsLoop_leaves`: from `Read a`, over the bytes `b`, to `Leaves (a ++ b)`), and
`result_of_leaves` turns either way a loop can end into the answer (`parseMantissa_value`).
-/
namespace LexVerif.Proof.Slow
open LexVerif.Spec LexVerif.Proof.Tables LexVerif.Model LexVerif.Model.Slow

def dv (radix : Nat) (bs : List Nat) : List Nat := bs.map fun c => Binary.digitVal c radix

/-- what `parse_number` validated -/
def ValidDigits (radix : Nat) (bs : List Nat) : Prop := ∀ c ∈ bs, Binary.digitVal c radix < radix

theorem mul_pow_add_lt {r v c d k : Nat} (hv : v < r ^ c) (hd : d < r ^ k) : v * r ^ k + d < r ^ (c + k) :=
  calc v * r ^ k + d < v * r ^ k + r ^ k := Nat.add_lt_add_left hd _
    _ = (v + 1) * r ^ k := (Nat.succ_mul _ _).symm
    _ ≤ r ^ c * r ^ k := Nat.mul_le_mul_right _ hv
    _ = r ^ (c + k) := (Nat.pow_add _ _ _).symm

theorem dv_lt {radix : Nat} {bs : List Nat} (h : ValidDigits radix bs) : ∀ d ∈ dv radix bs, d < radix :=
  List.forall_mem_map.mpr h

theorem valid_take {radix : Nat} {bs : List Nat} (h : ValidDigits radix bs) (n : Nat) : ValidDigits radix (bs.take n) :=
  fun c hc => h c (List.mem_of_mem_take hc)
theorem valid_drop {radix : Nat} {bs : List Nat} (h : ValidDigits radix bs) (n : Nat) : ValidDigits radix (bs.drop n) :=
  fun c hc => h c (List.mem_of_mem_drop hc)

theorem valid_skipZeros {radix : Nat} {bs : List Nat} (h : ValidDigits radix bs) :
    ValidDigits radix (Binary.skipZeros bs) :=
  fun c hc => h c ((List.dropWhile_sublist _).subset hc)

theorem valid_append {radix : Nat} {a b : List Nat} (ha : ValidDigits radix a) (hb : ValidDigits radix b) :
    ValidDigits radix (a ++ b) :=
  fun c hc => (List.mem_append.mp hc).elim (ha c) (hb c)

theorem dv_length (radix : Nat) (bs : List Nat) : (dv radix bs).length = bs.length := List.length_map _
theorem dv_append (radix : Nat) (a b : List Nat) : dv radix (a ++ b) = dv radix a ++ dv radix b := List.map_append ..

theorem digitVal_48 (radix : Nat) : Binary.digitVal 48 radix = 0 :=
  (LexVerif.Proof.SlowBinary.digitVal_zero_iff 48 radix (by decide)).mpr rfl

theorem dv_zeros (radix z : Nat) : dv radix (List.replicate z 48) = List.replicate z 0 := by
  rw [dv, List.map_replicate, digitVal_48]

theorem ofDigits_dv_lt {radix : Nat} {bs : List Nat} (h : ValidDigits radix bs) :
    ofDigits radix (dv radix bs) < radix ^ bs.length := by
  have := ofDigits_lt radix (dv radix bs) (dv_lt h)
  rwa [dv_length] at this

theorem ofDigits_dv_take_lt {radix : Nat} {bs : List Nat} (h : ValidDigits radix bs) {m : Nat} (hm : m ≤ bs.length) :
    ofDigits radix (dv radix (bs.take m)) < radix ^ m := by
  have := ofDigits_dv_lt (valid_take h m)
  rwa [List.length_take, Nat.min_eq_left hm] at this

theorem ofDigits_dv_append (radix : Nat) (a b : List Nat) :
    ofDigits radix (dv radix (a ++ b)) = ofDigits radix (dv radix a) * radix ^ b.length + ofDigits radix (dv radix b) := by
  rw [dv_append, ofDigits_append_pow, dv_length]

structure Took (radix : Nat) (bs : List Nat) (st : PM) (m : Nat) (bs' : List Nat) (st' : PM) : Prop where
  le : m ≤ bs.length
  rest : bs' = bs.drop m
  result : st'.result = st.result
  counter : st'.counter = st.counter + m
  count : st'.count = st.count + m
  value : st'.value = st.value * radix ^ m + ofDigits radix (dv radix (bs.take m))

theorem Took.refl (radix : Nat) (bs : List Nat) (st : PM) : Took radix bs st 0 bs st :=
  ⟨Nat.zero_le _, rfl, rfl, rfl, rfl, by simp [dv, ofDigits]⟩

theorem Took.trans {radix : Nat} {bs bs1 bs2 : List Nat} {st st1 st2 : PM} {m1 m2 : Nat}
    (a : Took radix bs st m1 bs1 st1) (b : Took radix bs1 st1 m2 bs2 st2) :
    Took radix bs st (m1 + m2) bs2 st2 := by
  have hle2 : m2 ≤ bs.length - m1 := by have := b.le; rwa [a.rest, List.length_drop] at this
  refine ⟨Nat.add_le_of_le_sub' a.le hle2, by rw [b.rest, a.rest, List.drop_drop], by rw [b.result, a.result],
    by rw [b.counter, a.counter, Nat.add_assoc], by rw [b.count, a.count, Nat.add_assoc], ?_⟩
  rw [b.value, a.value, a.rest, List.take_add, ofDigits_dv_append, List.length_take, List.length_drop,
    Nat.min_eq_left hle2, Nat.pow_add, Nat.add_mul, Nat.mul_assoc, Nat.add_assoc]

structure MantOk (E : Env) (radix : Nat) : Prop where
  radix_pos : 0 < radix
  step_pos : 0 < E.S.u64PowerLimit radix
  step_lt : radix ^ E.S.u64PowerLimit radix < 2 ^ 64
  intpow : ∀ e, e ≤ E.S.u64PowerLimit radix → intPowFastPath E e radix = some (radix ^ e)
  multi : multidigit E radix = true → radix ≤ 10

theorem wrap64_id {x : Nat} (h : x < 2 ^ 64) : wrap64 x = x := by unfold wrap64; exact Nat.mod_eq_of_lt h

/-- what the inner loops keep: the native `value` holds `counter ≤ step` digits, and no more than `max_digits`
digits are counted -/
structure LoopOk (radix step maxDigits : Nat) (st : PM) : Prop where
  counter : st.counter ≤ step
  value : st.value < radix ^ st.counter
  count : st.count ≤ maxDigits

theorem LoopOk.push {radix step maxDigits : Nat} (hr : 0 < radix) (hstep : radix ^ step < 2 ^ 64) {st : PM}
    (ok : LoopOk radix step maxDigits st) {k p d : Nat} (hp : p = radix ^ k) (hd : d < p)
    (hc : st.counter + k ≤ step) (hn : st.count + k ≤ maxDigits) :
    wrap64 (wrap64 (st.value * p) + d) = st.value * p + d ∧
      LoopOk radix step maxDigits
        { st with value := st.value * p + d, counter := st.counter + k, count := st.count + k } := by
  subst hp
  have hb := mul_pow_add_lt ok.value hd
  have hb64 := Nat.lt_of_lt_of_le hb (Nat.le_trans (Nat.pow_le_pow_right hr hc) (Nat.le_of_lt hstep))
  exact ⟨by rw [wrap64_id (Nat.lt_of_le_of_lt (Nat.le_add_right _ _) hb64), wrap64_id hb64], hc, hb, hn⟩

theorem LoopOk.stop {radix step maxDigits : Nat} {st : PM} (ok : LoopOk radix step maxDigits st)
    (h : ¬(st.counter < step ∧ st.count < maxDigits)) : st.counter = step ∨ st.count = maxDigits := by
  have := ok.counter
  have := ok.count
  omega

/-- the single-digit loop: it stops at the end of the bytes (flag set, unless a limit is reached there too) or
at `step` or `max_digits` -/
theorem singleLoop_spec {radix step maxDigits : Nat} (hr : 0 < radix) (hstep : radix ^ step < 2 ^ 64)
    {bs' : List Nat} {st' : PM} {ex : Bool} :
    ∀ (bs : List Nat) (st : PM), ValidDigits radix bs → LoopOk radix step maxDigits st →
      singleLoop radix step maxDigits bs st = (bs', st', ex) →
      ∃ m, Took radix bs st m bs' st' ∧ LoopOk radix step maxDigits st' ∧
        (ex = true → bs' = [] ∧ st'.counter < step ∧ st'.count < maxDigits) ∧
        (ex = false → st'.counter = step ∨ st'.count = maxDigits)
  | [], st, _, ok, e => by
    rw [singleLoop] at e
    cases e
    exact ⟨0, Took.refl _ _ _, ok, fun h => ⟨rfl, of_decide_eq_true h⟩, fun h => ok.stop (of_decide_eq_false h)⟩
  | c :: cs, st, hv, ok, e => by
    rw [singleLoop] at e
    by_cases hcond : st.counter < step ∧ st.count < maxDigits
    · obtain ⟨hw, ok'⟩ := ok.push hr hstep (Nat.pow_one radix).symm (hv c (List.mem_cons_self ..)) hcond.1 hcond.2
      rw [if_pos hcond, hw] at e
      obtain ⟨m, tk, h⟩ := singleLoop_spec hr hstep cs _ (fun x hx => hv x (List.mem_cons_of_mem _ hx)) ok' e
      refine ⟨1 + m, Took.trans ?_ tk, h⟩
      exact ⟨Nat.le_add_left _ _, rfl, rfl, rfl, rfl, by simp [dv, ofDigits]⟩
    · rw [if_neg hcond] at e
      cases e
      exact ⟨0, Took.refl _ _ _, ok, fun h => absurd h Bool.false_ne_true, fun _ => ok.stop hcond⟩

theorem parse8_some {radix : Nat} (h10 : radix ≤ 10) {bs : List Nat} {v : Nat}
    (h : Binary.parse8 radix bs = some v) : 8 ≤ bs.length ∧ v = ofDigits radix (dv radix (bs.take 8)) :=
  LexVerif.Proof.SlowBinary.parse8_some h10 h

theorem parse8Loop_spec {radix step maxDigits : Nat} (hr : 0 < radix) (h10 : radix ≤ 10)
    (hstep : radix ^ step < 2 ^ 64) {bs' : List Nat} {st' : PM} :
    ∀ (fuel : Nat) (bs : List Nat) (st : PM), ValidDigits radix bs → LoopOk radix step maxDigits st →
      parse8Loop radix step maxDigits fuel bs st = (bs', st') →
      ∃ m, Took radix bs st m bs' st' ∧ LoopOk radix step maxDigits st'
  | 0, bs, st, _, ok, e => by
    rw [parse8Loop] at e
    cases e
    exact ⟨0, Took.refl _ _ _, ok⟩
  | fuel + 1, bs, st, hv, ok, e => by
    rw [parse8Loop] at e
    by_cases hcond : step - st.counter ≥ 8 ∧ maxDigits - st.count ≥ 8
    · rw [if_pos hcond] at e
      cases hp : Binary.parse8 radix bs with
      | none =>
        simp only [hp] at e
        cases e
        exact ⟨0, Took.refl _ _ _, ok⟩
      | some v =>
        obtain ⟨hl, rfl⟩ := parse8_some h10 hp
        have h8 : radix ^ 8 < 2 ^ 64 :=
          Nat.lt_of_le_of_lt (Nat.pow_le_pow_right hr (Nat.le_trans hcond.1 (Nat.sub_le _ _))) hstep
        obtain ⟨hw, ok'⟩ := ok.push hr hstep rfl (ofDigits_dv_take_lt hv hl)
          (Nat.add_le_of_le_sub' ok.counter hcond.1) (Nat.add_le_of_le_sub' ok.count hcond.2)
        simp only [hp, wrap64_id h8, hw] at e
        obtain ⟨m, tk, h⟩ := parse8Loop_spec hr h10 hstep fuel _ _ (valid_drop hv 8) ok' e
        refine ⟨8 + m, Took.trans ?_ tk, h⟩
        exact ⟨hl, rfl, rfl, rfl, rfl, rfl⟩
    · rw [if_neg hcond] at e
      cases e
      exact ⟨0, Took.refl _ _ _, ok⟩

/-- the number accumulated so far: big integer and the pending native chunk -/
def acc (radix : Nat) (st : PM) : Nat := st.result * radix ^ st.counter + st.value

theorem Took.reads {radix : Nat} {a b b' : List Nat} {st st' : PM} {m : Nat} (t : Took radix b st m b' st')
    (hc : st.count = a.length) (ha : acc radix st = ofDigits radix (dv radix a)) :
    a ++ b = (a ++ b.take m) ++ b' ∧ st'.count = (a ++ b.take m).length ∧
      acc radix st' = ofDigits radix (dv radix (a ++ b.take m)) := by
  have hl : (b.take m).length = m := by rw [List.length_take, Nat.min_eq_left t.le]
  refine ⟨by rw [t.rest, List.append_assoc, List.take_append_drop],
    by rw [t.count, hc, List.length_append, hl], ?_⟩
  rw [ofDigits_dv_append, hl, ← ha]
  unfold acc
  rw [t.value, t.counter, t.result, Nat.pow_add, Nat.add_mul, Nat.mul_assoc, Nat.add_assoc]

theorem addTemporaryEnd_eq {E : Env} {radix : Nat} (H : MantOk E radix) (st : PM)
    (hc : st.counter ≤ E.S.u64PowerLimit radix) (hval : st.value < radix ^ st.counter)
    (hfit : acc radix st < 2 ^ (64 * E.L.bigintLimbs)) : addTemporaryEnd E radix st = some (acc radix st) := by
  unfold addTemporaryEnd acc at *
  by_cases h0 : st.counter = 0
  · rw [h0, Nat.pow_zero] at hval
    rw [if_neg (not_not.mpr h0), h0, Nat.lt_one_iff.mp hval, Nat.pow_zero, Nat.mul_one, Nat.add_zero]
  · rw [if_pos h0, H.intpow _ hc]
    simp only [Option.bind_some]
    have hlt : radix ^ st.counter < 2 ^ 64 :=
      Nat.lt_of_le_of_lt (Nat.pow_le_pow_right H.radix_pos hc) H.step_lt
    rw [wrap64_id hlt, addTemporary_fit]
    exact fit_some hfit

theorem ofDigits_dv_fits {radix maxDigits cap : Nat} (hr : 0 < radix) (hfit : radix ^ maxDigits ≤ cap)
    {sig : List Nat} (hv : ValidDigits radix sig) (hlen : sig.length ≤ maxDigits) :
    ofDigits radix (dv radix sig) < cap :=
  Nat.lt_of_lt_of_le (ofDigits_dv_lt hv) (Nat.le_trans (Nat.pow_le_pow_right hr hlen) hfit)

/-- the state of a component loop, at the head of a round, that has read the digits `sig` so far (fewer than
`max_digits`, else the loop would have left) -/
structure Read (radix step maxDigits : Nat) (sig : List Nat) (st : PM) : Prop where
  counter : st.counter < step
  value : st.value < radix ^ st.counter
  count : st.count = sig.length
  room : sig.length < maxDigits
  acc_eq : acc radix st = ofDigits radix (dv radix sig)

theorem Read.flushed {radix step maxDigits : Nat} (hs : 0 < step) (hr : 0 < radix) {sig : List Nat}
    (h : sig.length < maxDigits) :
    Read radix step maxDigits sig ⟨ofDigits radix (dv radix sig), 0, 0, sig.length⟩ :=
  ⟨hs, Nat.pow_pos hr, rfl, h, by simp [acc]⟩

/-- how a component loop leaves after the significant digits `sig` in all: at their end, before `max_digits`,
with the temporaries pending; or with exactly the first `max_digits` of them in `result` and the others unread -/
inductive Leaves (radix step maxDigits : Nat) (sig : List Nat) : LoopOut → Prop
  | exhausted {st : PM} : Read radix step maxDigits sig st → Leaves radix step maxDigits sig (.exhausted st)
  | full {st : PM} {rest : List Nat} : maxDigits ≤ sig.length → rest = sig.drop maxDigits →
      st.count = maxDigits → st.result = ofDigits radix (dv radix (sig.take maxDigits)) →
      Leaves radix step maxDigits sig (.full st rest)

/-- bytes after a cut are only looked at, whichever component they belong to -/
theorem Leaves.full_append {radix step maxDigits : Nat} {sig : List Nat} {st : PM} {rest : List Nat}
    (h : Leaves radix step maxDigits sig (.full st rest)) (b : List Nat) :
    Leaves radix step maxDigits (sig ++ b) (.full st (rest ++ b)) := by
  cases h with
  | full hl hrest hc hres =>
    exact .full (by rw [List.length_append]; exact Nat.le_trans hl (Nat.le_add_right _ _))
      (by rw [hrest, List.drop_append_of_le_length hl]) hc (by rw [hres, List.take_append_of_le_length hl])

/-- **one component loop** (`'integer:` / `'fraction:`) continues from the digits `a` read before it with its
own bytes `b`; no capacity check fails while `radix ^ max_digits` fits. Each round ends in one of three ways:
bytes exhausted; `max_digits` reached (`@end` flush); or `counter = step`, where the flush leaves the state
`Read.flushed` of the digits so far. -/
theorem digitsLoop_leaves {E : Env} {radix maxDigits : Nat} (H : MantOk E radix)
    (hfit : radix ^ maxDigits ≤ 2 ^ (64 * E.L.bigintLimbs)) :
    ∀ (fuel : Nat) (a b : List Nat) (st : PM), b.length < fuel → ValidDigits radix a → ValidDigits radix b →
      Read radix (E.S.u64PowerLimit radix) maxDigits a st →
      Leaves radix (E.S.u64PowerLimit radix) maxDigits (a ++ b)
        (digitsLoop E radix maxDigits (E.S.u64PowerLimit radix) (wrap64 (radix ^ E.S.u64PowerLimit radix))
          fuel b st)
  | 0, _, _, _, hf, _, _, _ => absurd hf (Nat.not_lt_zero _)
  | fuel + 1, a, b, st, hf, hva, hvb, rd => by
    have hr := H.radix_pos
    have ok : LoopOk radix (E.S.u64PowerLimit radix) maxDigits st :=
      ⟨Nat.le_of_lt rd.counter, rd.value, rd.count ▸ Nat.le_of_lt rd.room⟩
    rw [digitsLoop]
    dsimp only
    rcases hr8 : (if multidigit E radix then
      parse8Loop radix (E.S.u64PowerLimit radix) maxDigits b.length b st else (b, st)) with ⟨b8, st8⟩
    obtain ⟨m8, tk8, ok8⟩ : ∃ m, Took radix b st m b8 st8 ∧
        LoopOk radix (E.S.u64PowerLimit radix) maxDigits st8 := by
      by_cases hmd : multidigit E radix = true
      · rw [if_pos hmd] at hr8
        exact parse8Loop_spec hr (H.multi hmd) H.step_lt _ b st hvb ok hr8
      · rw [if_neg hmd] at hr8
        cases hr8
        exact ⟨0, Took.refl _ _ _, ok⟩
    dsimp only
    rcases hr1 : singleLoop radix (E.S.u64PowerLimit radix) maxDigits b8 st8 with ⟨rbs, st1, ex⟩
    obtain ⟨m1, tk1, ok1, hex, hnex⟩ := singleLoop_spec hr H.step_lt b8 st8
      (by rw [tk8.rest]; exact valid_drop hvb m8) ok8 hr1
    have tk := tk8.trans tk1
    dsimp only
    obtain ⟨hab, hcnt, hacc⟩ := tk.reads rd.count rd.acc_eq
    have hva' := valid_append hva (valid_take hvb (m8 + m1))
    have hvr : ValidDigits radix rbs := by rw [tk.rest]; exact valid_drop hvb _
    -- from here only `a'`, the digits read when the round ends, and the unread `rbs` matter: `a ++ b = a' ++ rbs`
    generalize a ++ b.take (m8 + m1) = a' at hab hcnt hacc hva'
    rw [hab]
    have hlt : acc radix st1 < 2 ^ (64 * E.L.bigintLimbs) :=
      hacc ▸ ofDigits_dv_fits hr hfit hva' (hcnt ▸ ok1.count)
    cases ex with
    | true =>
      obtain ⟨hnil, hc1, hn1⟩ := hex rfl
      rw [if_pos rfl, hnil, List.append_nil]
      exact .exhausted ⟨hc1, ok1.value, hcnt, hcnt ▸ hn1, hacc⟩
    | false =>
      rw [if_neg Bool.false_ne_true]
      by_cases hfull : st1.count = maxDigits
      · rw [if_pos hfull, addTemporaryEnd_eq H st1 ok1.counter ok1.value hlt]
        have hl : a'.length = maxDigits := hcnt.symm.trans hfull
        exact .full (by rw [List.length_append, hl]; exact Nat.le_add_right _ _) (List.drop_left' hl).symm hfull
          (by rw [List.take_left' hl]; exact hacc)
      · rw [if_neg hfull]
        have hcs : st1.counter = E.S.u64PowerLimit radix := (hnex rfl).resolve_right hfull
        have hflush : addTemporary E.L.bigintLimbs st1.result (wrap64 (radix ^ E.S.u64PowerLimit radix))
            st1.value = some (acc radix st1) := by
          rw [wrap64_id H.step_lt, ← hcs]
          rw [addTemporary_fit]
          exact fit_some hlt
        rw [hflush]
        dsimp only
        rw [hacc, hcnt]
        have hpos : 0 < m8 + m1 := by
          have := rd.counter
          rw [← hcs, tk.counter] at this
          exact Nat.pos_of_lt_add_right this
        have hlen : rbs.length < fuel := by
          rw [tk.rest, List.length_drop]
          exact Nat.lt_of_lt_of_le (Nat.sub_lt_of_pos_le hpos tk.le) (Nat.le_of_lt_succ hf)
        exact digitsLoop_leaves H hfit fuel a' rbs _ hlen hva' hvr
          (Read.flushed H.step_pos hr (hcnt ▸ Nat.lt_of_le_of_ne ok1.count hfull))

/-- the significant digit bytes `parse_mantissa` reads: leading zeros of the integer part are skipped, and those
of the fraction too when the integer part has no other digit -/
def sigBytes (integer : List Nat) (fraction : Option (List Nat)) : List Nat :=
  match fraction with
  | none => Binary.skipZeros integer
  | some fr => if Binary.skipZeros integer = [] then Binary.skipZeros fr else Binary.skipZeros integer ++ fr

/-- the form in which the `'fraction:` loop meets it: `count == 0` is the test for "no digit yet" -/
theorem sigBytes_some (integer fr : List Nat) :
    sigBytes integer (some fr) =
      Binary.skipZeros integer ++ if (Binary.skipZeros integer).length = 0 then Binary.skipZeros fr else fr := by
  unfold sigBytes
  cases Binary.skipZeros integer with
  | nil => simp
  | cons c cs => simp

theorem anyNonzero_append (a b : List Nat) : anyNonzero (a ++ b) = (anyNonzero a || anyNonzero b) := by
  unfold anyNonzero; rw [List.any_append]

theorem roundUpTruncated_eq {E : Env} {radix : Nat} (st : PM)
    (h : st.result * radix + 1 < 2 ^ (64 * E.L.bigintLimbs)) :
    roundUpTruncated E radix st = some (st.result * radix + 1, st.count + 1) := by
  unfold roundUpTruncated
  rw [addTemporary_fit, fit_some h]; rfl

theorem result_of_leaves {E : Env} {radix maxDigits : Nat} (H : MantOk E radix) (hr : 2 ≤ radix)
    (hfit : radix ^ (maxDigits + 1) ≤ 2 ^ (64 * E.L.bigintLimbs)) {sig : List Nat} (hv : ValidDigits radix sig)
    {out : LoopOut} (h : Leaves radix (E.S.u64PowerLimit radix) maxDigits sig out) :
    (match (generalizing := false) out with
      | .panic => none
      | .full st rest => if anyNonzero rest then roundUpTruncated E radix st else some (st.result, st.count)
      | .exhausted st => (addTemporaryEnd E radix st).map fun r => (r, st.count)) =
      if sig.length ≤ maxDigits then some (ofDigits radix (dv radix sig), sig.length)
      else if anyNonzero (sig.drop maxDigits) then
        some (ofDigits radix (dv radix (sig.take maxDigits)) * radix + 1, maxDigits + 1)
      else some (ofDigits radix (dv radix (sig.take maxDigits)), maxDigits) := by
  have hrp : 0 < radix := Nat.lt_of_lt_of_le Nat.zero_lt_two hr
  cases h with
  | exhausted rd =>
    dsimp only
    have hle := Nat.le_of_lt rd.room
    rw [addTemporaryEnd_eq H _ (Nat.le_of_lt rd.counter) rd.value
      (rd.acc_eq ▸ ofDigits_dv_fits hrp (Nat.le_trans (Nat.pow_le_pow_right hrp (Nat.le_succ _)) hfit) hv hle),
      if_pos hle, rd.acc_eq, rd.count]
    rfl
  | full hl hrest hc hres =>
    subst hrest
    dsimp only
    by_cases hle : sig.length ≤ maxDigits
    · rw [if_pos hle, List.drop_of_length_le hle, hres, hc, List.take_of_length_le hle, Nat.le_antisymm hle hl]
      rfl
    · rw [if_neg hle]
      by_cases ha : anyNonzero (sig.drop maxDigits) = true
      · have hb := mul_pow_add_lt (k := 1) (d := 1) (hres ▸ ofDigits_dv_take_lt hv hl)
          (by rw [Nat.pow_one]; exact hr)
        rw [Nat.pow_one] at hb
        rw [if_pos ha, if_pos ha, roundUpTruncated_eq _ (Nat.lt_of_lt_of_le hb hfit), hres, hc]
      · rw [if_neg ha, if_neg ha, hres, hc]

/-- For validated digit bytes and a build whose big integer holds `radix^(max_digits+1)`,
`parse_mantissa` does not panic and returns
* all `n ≤ max_digits` significant digits: their value and `n`;
* more than `max_digits`: the value `P` of the first `max_digits` and `max_digits` when every cut digit is `0`,
  else `P·radix + 1` and `max_digits + 1` (the flag "a non-zero digit was cut" is exactly the `+1`). -/
theorem parseMantissa_value {E : Env} {radix maxDigits : Nat} (H : MantOk E radix) (hr : 2 ≤ radix)
    (hmax : 0 < maxDigits) (integer : List Nat) (fraction : Option (List Nat))
    (hvi : ValidDigits radix integer) (hvf : ∀ fr, fraction = some fr → ValidDigits radix fr)
    (hfit : radix ^ (maxDigits + 1) ≤ 2 ^ (64 * E.L.bigintLimbs)) :
    parseMantissa E radix maxDigits integer fraction =
      if (sigBytes integer fraction).length ≤ maxDigits then
        some (ofDigits radix (dv radix (sigBytes integer fraction)), (sigBytes integer fraction).length)
      else if anyNonzero ((sigBytes integer fraction).drop maxDigits) then
        some (ofDigits radix (dv radix ((sigBytes integer fraction).take maxDigits)) * radix + 1, maxDigits + 1)
      else some (ofDigits radix (dv radix ((sigBytes integer fraction).take maxDigits)), maxDigits) := by
  have hrp : 0 < radix := H.radix_pos
  have hfit' : radix ^ maxDigits ≤ 2 ^ (64 * E.L.bigintLimbs) :=
    Nat.le_trans (Nat.pow_le_pow_right hrp (Nat.le_succ _)) hfit
  have hvii := valid_skipZeros hvi
  have h1 := digitsLoop_leaves H hfit' _ [] _ _ (Nat.lt_add_one _) (fun _ h => nomatch h) hvii
    (show Read radix _ maxDigits [] ⟨0, 0, 0, 0⟩ from Read.flushed H.step_pos hrp hmax)
  rw [List.nil_append] at h1
  unfold parseMantissa
  dsimp only
  generalize digitsLoop _ _ _ _ _ _ _ _ = out at h1 ⊢
  cases fraction with
  | none => exact result_of_leaves H hr hfit hvii h1
  | some fr =>
    have hvfr := hvf fr rfl
    rw [sigBytes_some]
    cases h1 with
    | exhausted rd =>
      dsimp only
      rw [rd.count]
      have hvfr' : ValidDigits radix
          (if (Binary.skipZeros integer).length = 0 then Binary.skipZeros fr else fr) := by
        split
        · exact valid_skipZeros hvfr
        · exact hvfr
      exact result_of_leaves H hr hfit (valid_append hvii hvfr')
        (digitsLoop_leaves H hfit' _ _ _ _ (Nat.lt_add_one _) hvii hvfr' rd)
    | @full st rest hl hrest hc hres =>
      rw [if_neg (Nat.ne_of_gt (Nat.lt_of_lt_of_le hmax hl)),
        ← result_of_leaves H hr hfit (valid_append hvii hvfr) ((Leaves.full hl hrest hc hres).full_append fr)]
      dsimp only
      rw [anyNonzero_append]
      cases anyNonzero rest with
      | true => rfl
      | false => rfl

end LexVerif.Proof.Slow
