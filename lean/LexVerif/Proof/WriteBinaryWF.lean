import LexVerif.Proof.WriteBinaryParse
import LexVerif.Proof.WriteBinaryShape
/-!
# Proof.WriteBinaryWF — every layout `binary.rs` / `hex.rs` produce is well formed: digits below the radix, a non-empty
integer part, no fraction digits without a point.
-/
namespace LexVerif.Proof.WriteBinaryWF
open LexVerif LexVerif.Spec LexVerif.Model LexVerif.Model.WriteBinary
open LexVerif.Proof.WriteBinaryParse LexVerif.Proof.WriteBinaryDigits LexVerif.Proof.WriteBinaryShape
open LexVerif.Proof.RoundTrip LexVerif.Proof

theorem mem_rtrimZeros {ds : List Nat} {d : Nat} (h : d ∈ rtrimZeros ds) : d ∈ ds := by
  obtain ⟨k, hk, _⟩ := rtrimZeros_spec ds
  rw [hk]; exact List.mem_append_left _ h

theorem mantissaDigits_lt (w r m : Nat) (e : Int) (hr : 2 ≤ r) : ∀ d ∈ mantissaDigits w r m e, d < r := by
  unfold mantissaDigits; exact toDigits_digit_lt _ _ hr

theorem mantissaDigits_ne (w r m : Nat) (e : Int) (hr : 2 ≤ r) : mantissaDigits w r m e ≠ [] := by
  unfold mantissaDigits; exact toDigits_ne_nil _ _ hr

theorem digs_trim {w r m : Nat} {e : Int} (hr : 2 ≤ r) :
    WriteFloatAscii.Digs r (rtrimZeros (mantissaDigits w r m e)) :=
  fun d hd => mantissaDigits_lt w r m e hr d (mem_rtrimZeros hd)

theorem sci_wf (fmt : Format) (o : WOpts) (w r m : Nat) (e scaled : Int) (hr : 2 ≤ r) :
    WFL r (sciLayout fmt o w r m e scaled) := by
  have hlt := mantissaDigits_lt w r m e hr
  rw [sciLayout_eq]
  cases hds : mantissaDigits w r m e with
  | nil => exact absurd hds (mantissaDigits_ne w r m e hr)
  | cons d0 tail =>
    rw [hds] at hlt
    have hR : WriteFloatAscii.Digs r (d0 :: rtrimZeros tail) := fun d hd => by
      rcases List.mem_cons.mp hd with rfl | h
      · exact hlt _ (by simp)
      · exact hlt d (by simp [mem_rtrimZeros h])
    have hb := sciLayout_toShape fmt o d0 tail scaled ▸ sciOf_below (by omega) fmt.noExponentWithoutFraction hR scaled o
    have hf := sciLayout_toShape fmt o d0 tail scaled ▸
      sciOf_full fmt.noExponentWithoutFraction (List.cons_ne_nil d0 (rtrimZeros tail)) scaled o
    exact ⟨hb, hf.1, sciLayout_nopoint fmt o _ scaled⟩

theorem neg_wf (o : WOpts) (w r m : Nat) (e sciExp : Int) (hr : 2 ≤ r) : WFL r (negLayout o w r m e sciExp) :=
  ⟨negLayout_toShape o w r m e sciExp ▸ negOf_below (by omega) _ (digs_trim hr) o, by simp [negLayout],
    by intro h; cases h⟩

theorem pos_wf (o : WOpts) (w r m : Nat) (e sciExp : Int) (hr : 2 ≤ r) : WFL r (posLayout o w r m e sciExp) := by
  have hb := posLayout_toShape o w r m e sciExp ▸ posOf_below (r := r) (by omega) _ _ (digs_trim hr) o
  have hf := posLayout_toShape o w r m e sciExp ▸
    posOf_full (Nat.succ_pos _) ((rtrimZeros (mantissaDigits w r m e)).length + 1) (rtrimZeros (mantissaDigits w r m e)) o
  exact ⟨hb, hf.1, posLayout_nopoint o w r m e sciExp⟩

theorem layoutME_wf (fmt : Format) (o : WOpts) (w m : Nat) (e : Int) (hr : 2 ≤ fmt.mantissaRadix) :
    WFL fmt.mantissaRadix (layoutME fmt o w m e) :=
  layoutME_cases fmt o w m e rfl rfl rfl (sci_wf _ _ _ _ _ _ _ hr) (fun _ => neg_wf _ _ _ _ _ _ hr)
    (fun _ => pos_wf _ _ _ _ _ _ hr)

end LexVerif.Proof.WriteBinaryWF
