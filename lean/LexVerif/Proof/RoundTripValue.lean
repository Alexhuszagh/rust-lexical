import LexVerif.Proof.RoundTripForm
import LexVerif.Proof.LitValue
/-!
# Proof.RoundTripValue — the exact value of a literal in `DigitsForm` (C08)

A literal whose digits are `zeros ++ R ++ zeros` at scientific exponent `sci` denotes `R · 10^(sci + 1 − |R|)`
(`digitsForm_value`); `Spec.litBits` of it is `roundNE` of that decimal plus the sign bit (`litBits_of_form`, through
`RoundNE.litBits_of_value`: `FmtRange` makes the two short-circuits of `litBits` exact).
-/
namespace LexVerif.Proof.RoundTrip
open LexVerif.Spec LexVerif.Proof.RoundNE LexVerif.Props.RoundNE

theorem digitsForm_value (ints frac : List Nat) (e : Int) (R : List Nat) (sci : Int)
    (h : DigitsForm ints frac e R sci) :
    (ofDigits 10 (ints ++ frac) : ℚ) * (10 : ℚ) ^ (e - (frac.length : Int)) =
      (ofDigits 10 R : ℚ) * (10 : ℚ) ^ (sci + 1 - (R.length : Int)) := by
  obtain ⟨lz, z, hcat, hexp⟩ := h
  have hE : sci + 1 - (R.length : Int) = (z : Int) + (e - (frac.length : Int)) := by omega
  have h10 : (10 : ℚ) ≠ 0 := by norm_num
  rw [hcat, ofDigits_shape, hE, zpow_add₀ h10, zpow_natCast]
  push_cast
  ring

theorem trailing_zeros_value (K : List Nat) (m : Nat) (sci : Int) :
    (ofDigits 10 (K ++ List.replicate m 0) : ℚ) * (10 : ℚ) ^ (sci + 1 - ((K ++ List.replicate m 0).length : Int)) =
      (ofDigits 10 K : ℚ) * (10 : ℚ) ^ (sci + 1 - (K.length : Int)) := by
  have h10 : (10 : ℚ) ≠ 0 := by norm_num
  have hE : sci + 1 - (K.length : Int) = (m : Int) + (sci + 1 - ((K.length + m : Nat) : Int)) := by push_cast; omega
  rw [ofDigits_append_zeros, List.length_append, List.length_replicate, hE, zpow_add₀ h10, zpow_natCast]
  push_cast
  ring

/-- the finite range of the float type lies inside `(10^-1200, 10^1100)` — what makes the two short-circuits of
`Spec.litBits` irrelevant for a decimal that rounds to a finite non-zero float -/
structure FmtRange (f : Fmt) : Prop where
  over : roundNE f (10 ^ 1100) 1 = f.infBits
  under : roundNE f 1 (10 ^ 1200) = 0

theorem FmtRange.of_two {f : Fmt} (hf : WF f) (h : LitRange f 2) : FmtRange f :=
  ⟨(h.mono hf (by decide) (by decide)).over, (h.mono hf (by decide) (by decide)).under⟩

theorem fmtRange_f64 : FmtRange f64 := .of_two wf_f64 litRange_f64
theorem fmtRange_f32 : FmtRange f32 := .of_two wf_f32 litRange_f32

theorem litQ_decimal (l : FloatLit) :
    litQ 10 10 l = (ofDigits 10 (l.intDigits ++ l.fracDigits) : ℚ) * (10 : ℚ) ^ (l.exp - (l.fracDigits.length : Int)) := by
  unfold litQ
  rw [zpow_sub₀ (by norm_num : (10 : ℚ) ≠ 0), zpow_natCast]
  push_cast
  ring

/-- a literal in `DigitsForm` is read as the rounding of `R · 10^(sci + 1 − |R|)`, given as any fraction -/
theorem litBits_of_form {f : Fmt} (hf : WF f) (hrange : FmtRange f) (l : FloatLit) (R : List Nat) (sci : Int)
    (hform : DigitsForm l.intDigits l.fracDigits l.exp R sci) (hRd : ∀ d ∈ R, d < 10) {N D : Nat} (hD : 0 < D)
    (hval : (N : ℚ) / D = (ofDigits 10 R : ℚ) * (10 : ℚ) ^ (sci + 1 - (R.length : Int))) :
    litBits f 10 10 l = roundSigned f l.neg N D := by
  have hdig : ∀ d ∈ l.intDigits ++ l.fracDigits, d < 10 := by
    obtain ⟨lz, z, hcat, _⟩ := hform
    intro d hd
    rw [hcat] at hd
    simp only [List.mem_append, List.mem_replicate] at hd
    rcases hd with (hd | hd) | hd
    · omega
    · exact hRd d hd
    · omega
  exact litBits_of_value hf (by omega) (by omega) (by decide) ⟨hrange.over, hrange.under⟩ l hdig hD
    (by rw [hval, litQ_decimal, digitsForm_value _ _ _ _ _ hform])

end LexVerif.Proof.RoundTrip
