import LexVerif.Proof.ParseNumberC11Trunc
import LexVerif.Proof.IterSpecial
/-!
# Proof.ParseNumberC11Special — the special-value parser under truncation, every format

`is_special_eq` is `IterSpec.spEq`: what the special iterator hands out against the pattern, and the cursor it comes to rest
at. The special iterator never looks behind that cursor, so a match that ends at or before the cut is reproduced on the cut
buffer; a cut can only shorten what the iterator hands out, so a mismatch stays a mismatch (`spEq_trunc`).
-/
namespace LexVerif.Proof.C11
open LexVerif.Proof.IterSpec (yield spCmp spEq spEq_bounds tryVal specialVal)
open LexVerif LexVerif.Model LexVerif.Spec
open LexVerif.Props.C12 (Bytes.Valid)

theorem spEq_trunc (c : Cfg) (b : Bytes) (str : List Nat) (n : Nat) (hv : Bytes.Valid b) :
    (spEq c b str = 0 → spEq c (trunc n b) str = 0) ∧
    (spEq c b str ≠ 0 → spEq c b str ≤ n → spEq c (trunc n b) str = spEq c b str) := by
  have take : (yield c b str.length).2 ≤ n → yield c (trunc n b) str.length = yield c b str.length :=
    IterSpec.scan_special_take c b.slc _ n _ false b.index hv
  unfold spEq
  by_cases hp : Grammar.pfx (spCmp c) (yield c b str.length).1 str = true
  · simp only [hp, if_true]
    exact ⟨fun h0 => by rw [take (by omega), hp]; simpa using h0, fun _ hle => by rw [take hle, hp]; rfl⟩
  · -- the cut buffer hands out a prefix of what the whole buffer hands out, and a match needs all `|str|` bytes
    simp only [hp, Bool.false_eq_true, if_false, ne_eq, not_true_eq_false, false_implies, and_true]
    intro _
    rw [if_neg]
    intro hq
    have hpre := IterSpec.scan_special_take_prefix c b.slc n str.length false b.index
    have h1 := Grammar.pfx_length _ _ _ hq
    have h2 := IterSpec.scan_len_le (c := c) (k := .special) b.slc (fun _ => true) str.length false b.index
    rw [show (yield c (trunc n b) str.length).1 = (yield c b str.length).1 from
      hpre.eq_of_length (by have := hpre.length_le; simp only [yield, trunc_slc, trunc_index] at h1 ⊢; omega)] at hq
    exact hp hq

theorem tryVal_trunc (c : Cfg) (b : Bytes) (so : Option (List Nat)) (n : Nat) (hv : Bytes.Valid b) (hn : b.index ≤ n) :
    (tryVal c b so ≠ 0 → tryVal c b so ≤ b.slc.length) ∧ (tryVal c b so = 0 → tryVal c (trunc n b) so = 0) ∧
    (tryVal c b so ≠ 0 → tryVal c b so ≤ n → tryVal c (trunc n b) so = tryVal c b so) := by
  cases so with
  | none => exact ⟨fun h => absurd rfl h, fun _ => rfl, fun h => absurd rfl h⟩
  | some s =>
    obtain ⟨q1, q2⟩ := spEq_trunc c b s n hv
    simp only [tryVal, trunc_slc, trunc_index, List.length_take]
    by_cases hl : b.slc.length - b.index ≥ s.length
    · simp only [if_pos hl]
      refine ⟨fun h => (spEq_bounds c b s hv h).2, fun h => ?_, fun h hle => ?_⟩
      · split
        · exact q1 h
        · rfl
      · have := (spEq_bounds c b s hv h).1
        rw [if_pos (by omega)]
        exact q2 h hle
    · simp only [if_neg hl]
      refine ⟨fun h => absurd rfl h, fun _ => ?_, fun h => absurd rfl h⟩
      rw [if_neg (by omega)]

/-- the attempts before the one that matched stay mismatches, and that one matches again -/
theorem specialVal_trunc (c : Cfg) (o : POpts) (b : Bytes) (sp : Special) (cnt : Nat) (hv : Bytes.Valid b)
    (hidx : b.index ≤ cnt) (h : specialVal c o b = some (sp, cnt)) : specialVal c o (trunc cnt b) = some (sp, cnt) := by
  unfold specialVal at h ⊢
  split at h
  · cases h
  · next hns =>
    rw [if_neg hns]
    obtain ⟨a, ha, e⟩ := Option.map_eq_some_iff.mp h
    have hn : tryVal c b a.2 ≠ 0 := by simpa using List.find?_some ha
    simp only [Prod.mk.injEq] at e
    have ht : tryVal c (trunc cnt b) a.2 = cnt := by
      rw [(tryVal_trunc c b a.2 cnt hv hidx).2.2 hn (by omega), e.2]
    rw [IterSpec.find?_of_agree ha (by rw [bne_iff_ne, ht, ← e.2]; exact hn) fun x _ hx =>
      by simpa using (tryVal_trunc c b x.2 cnt hv hidx).2.1 (by simpa using hx)]
    simp [ht, e.1]

theorem parsePositiveSpecial_truncS {c : Cfg} (o : POpts) (b : Bytes) (sp : Special) (cnt : Nat) (hv : Bytes.Valid b)
    (hidx : b.index ≤ cnt) (h : parsePositiveSpecial c o b = .ok (some (sp, cnt))) :
    cnt ≤ b.slc.length ∧ parsePositiveSpecial c o (trunc cnt b) = .ok (some (sp, cnt)) := by
  rw [IterSpec.parsePositiveSpecial_closed, Except.ok.injEq] at h
  rw [IterSpec.parsePositiveSpecial_closed, specialVal_trunc c o b sp cnt hv hidx h]
  exact ⟨(IterSpec.specialVal_bounds hv h).2, rfl⟩

theorem spCmp_match (c : Cfg) (x y : Nat) (h : spCmp c x y = true) : Nat.xor x y = 0 ∨ Nat.xor x y = 32 := by
  unfold spCmp at h
  split at h
  · have : x = y := by simpa using h
    subst this
    left
    show x ^^^ x = 0
    exact Nat.xor_self x
  · simpa [Grammar.xorEq] using h

end LexVerif.Proof.C11
