import Mathlib.Tactic.Ring
import Mathlib.Tactic.Linarith
import Mathlib.Tactic.LinearCombination
import LexVerif.Proof.FloorLogCert
/-!
# Proof.DragonboxFarey — "the cache is precise enough" from a pair of Farey neighbours

For a positive rational `x = a/b` and a bound `N`, let `p1/q1 ≤ x < p2/q2` be fractions with
`p2·q1 − p1·q2 = 1` and `q1 + q2 > N` (a `Cert`).  Every `n ≤ N` with `m = ⌊n·x⌋` is
`(n, m) = α·(q1, p1) − γ·(q2, p2)` with integers `α ≥ 1`, `γ ≥ 0`, hence

* `(m+1)/n ≥ p2/q2`: an approximation `ξ = c/d` with `x ≤ ξ < p2/q2` has `⌊n·ξ⌋ = ⌊n·x⌋` for all `1 ≤ n ≤ N`
  (`floor_eq`);
* `n·x − m = α·(q1·x − p1) + γ·(p2 − q2·x)`: the fractional part of `n·x` is at least the sum of the two neighbour
  distances, except at the multiples `n = α·q1`, where it is `α·(q1·x − p1)` (`frac_ge`).

This is the argument of the Dragonbox paper (best rational approximations from below / above); the pair is
*computed* once per cache entry (`DragonboxExp.entryData`) and checked by the kernel.
-/
namespace LexVerif.Proof.DragonboxFarey

structure Cert (a b N p1 q1 p2 q2 : Nat) : Prop where
  hb : 0 < b
  lo : p1 * b ≤ a * q1
  hi : a * q2 < p2 * b
  det : p2 * q1 = p1 * q2 + 1
  big : N < q1 + q2

theorem int_decomp {a b p1 q1 p2 q2 n m : ℤ} (hb : 0 < b) (hq1 : 0 ≤ q1) (hq2 : 0 ≤ q2)
    (hi : a * q2 < p2 * b) (det : p2 * q1 = p1 * q2 + 1)
    (hn : 0 < n) (hbig : n < q1 + q2) (hm : m * b ≤ n * a) :
    1 ≤ n * p2 - m * q2 ∧ 0 ≤ n * p1 - m * q1
      ∧ n * a - m * b = (n * p2 - m * q2) * (a * q1 - p1 * b) + (n * p1 - m * q1) * (p2 * b - a * q2) := by
  have hα : 1 ≤ n * p2 - m * q2 := by
    -- m b q2 ≤ n a q2 < n p2 b
    have h1 : m * b * q2 ≤ n * a * q2 := mul_le_mul_of_nonneg_right hm hq2
    have h2 : n * (a * q2) < n * (p2 * b) := mul_lt_mul_of_pos_left hi hn
    have h3 : (m * q2) * b < (n * p2) * b := by linear_combination h1 + h2
    have := lt_of_mul_lt_mul_right h3 (le_of_lt hb)
    omega
  refine ⟨hα, ?_, by linear_combination (b * m - a * n) * det⟩
  by_contra hneg
  have := FloorLog.lattice_big hq1 hq2 det hα (by omega)
  omega

variable {a b N p1 q1 p2 q2 : Nat}

theorem upper (h : Cert a b N p1 q1 p2 q2) {n : Nat} (hn : n ≤ N) :
    n * p2 ≤ (n * a / b + 1) * q2 := by
  rcases Nat.eq_zero_or_pos n with rfl | h1
  · simp
  · exact (FloorLog.floor_between h.det (Nat.lt_of_le_of_lt hn h.big) h1 h.hb h.lo h.hi).2

theorem floor_eq (h : Cert a b N p1 q1 p2 q2) {c d : Nat} (hd : 0 < d) (hge : a * d ≤ c * b)
    (hlt : c * q2 < p2 * d) {n : Nat} (h1 : 1 ≤ n) (hn : n ≤ N) : n * c / d = n * a / b := by
  have hup := upper h hn
  apply Nat.le_antisymm
  · have : n * c / d < n * a / b + 1 := by
      rw [Nat.div_lt_iff_lt_mul hd]
      have s1 : n * c * q2 < n * p2 * d := by
        calc n * c * q2 = n * (c * q2) := by ring
          _ < n * (p2 * d) := Nat.mul_lt_mul_of_pos_left hlt (Nat.lt_of_lt_of_le Nat.zero_lt_one h1)
          _ = n * p2 * d := by ring
      have s2 : n * p2 * d ≤ (n * a / b + 1) * q2 * d := Nat.mul_le_mul_right d hup
      have s3 : (n * c) * q2 < ((n * a / b + 1) * d) * q2 := by
        calc n * c * q2 < n * p2 * d := s1
          _ ≤ (n * a / b + 1) * q2 * d := s2
          _ = (n * a / b + 1) * d * q2 := by ring
      exact Nat.lt_of_mul_lt_mul_right s3
    omega
  · rw [Nat.le_div_iff_mul_le hd]
    have hm : n * a / b * b ≤ n * a := Nat.div_mul_le_self _ _
    have s : (n * a / b * d) * b ≤ (n * c) * b := by
      calc n * a / b * d * b = (n * a / b * b) * d := by ring
        _ ≤ n * a * d := Nat.mul_le_mul_right d hm
        _ = n * (a * d) := by ring
        _ ≤ n * (c * b) := Nat.mul_le_mul_left n hge
        _ = n * c * b := by ring
    exact Nat.le_of_mul_le_mul_right s h.hb

theorem frac_ge (h : Cert a b N p1 q1 p2 q2) {n : Nat} (h1 : 1 ≤ n) (hn : n ≤ N) :
    (a * q1 - p1 * b) + (p2 * b - a * q2) ≤ n * a % b
      ∨ ∃ α, 1 ≤ α ∧ n = α * q1 ∧ n * a % b = α * (a * q1 - p1 * b) := by
  have hmod : n * a % b = n * a - n * a / b * b := by
    have := Nat.div_add_mod (n * a) b
    rw [Nat.mul_comm b] at this; omega
  have hm : n * a / b * b ≤ n * a := Nat.div_mul_le_self _ _
  have hbig := h.big
  obtain ⟨hα, hγ, hid⟩ := int_decomp (a := a) (b := b) (p1 := p1) (q1 := q1) (p2 := p2) (q2 := q2)
    (n := n) (m := (n * a / b : ℕ)) (by exact_mod_cast h.hb) (by positivity) (by positivity)
    (by exact_mod_cast h.hi) (by exact_mod_cast h.det) (by exact_mod_cast h1)
    (by have : ((n : ℕ) : ℤ) < ((q1 + q2 : ℕ) : ℤ) := by exact_mod_cast (by omega : n < q1 + q2)
        push_cast at this; exact this)
    (by exact_mod_cast hm)
  have hD1 : ((a * q1 - p1 * b : ℕ) : ℤ) = a * q1 - p1 * b := by
    rw [Nat.cast_sub h.lo]; push_cast; ring
  have hD2 : ((p2 * b - a * q2 : ℕ) : ℤ) = p2 * b - a * q2 := by
    rw [Nat.cast_sub (Nat.le_of_lt h.hi)]; push_cast; ring
  have hfr : ((n * a % b : ℕ) : ℤ) = n * a - (n * a / b : ℕ) * b := by
    rw [hmod, Nat.cast_sub hm]; push_cast; ring
  generalize hA : (n : ℤ) * p2 - ((n * a / b : ℕ) : ℤ) * q2 = α at *
  generalize hG : (n : ℤ) * p1 - ((n * a / b : ℕ) : ℤ) * q1 = γ at *
  have hD1n : (0 : ℤ) ≤ ((a * q1 - p1 * b : ℕ) : ℤ) := by positivity
  have hD2n : (0 : ℤ) ≤ ((p2 * b - a * q2 : ℕ) : ℤ) := by positivity
  rw [← hD1, ← hD2] at hid
  rw [← hfr] at hid
  -- `hid`: the fractional part is `α·D1 + γ·D2` with `α ≥ 1`, `γ ≥ 0`; `γ = 0` is the multiple `n = α·q1`
  by_cases hg0 : γ = 0
  · right
    obtain ⟨αn, rfl⟩ := Int.eq_ofNat_of_zero_le (by omega : 0 ≤ α)
    refine ⟨αn, by exact_mod_cast hα, ?_, ?_⟩
    · have hd : (p2 * q1 : ℤ) = p1 * q2 + 1 := by exact_mod_cast h.det
      have : (αn : ℤ) * q1 - γ * q2 = n := by
        rw [← hA, ← hG]; linear_combination ((n : ℤ)) * hd
      rw [hg0] at this
      have : ((αn * q1 : ℕ) : ℤ) = n := by push_cast; linarith
      exact_mod_cast this.symm
    · rw [hg0] at hid
      have : ((n * a % b : ℕ) : ℤ) = (αn : ℤ) * ((a * q1 - p1 * b : ℕ) : ℤ) := by
        rw [hid]; ring
      exact_mod_cast this
  · left
    have hγ1 : 1 ≤ γ := by omega
    have : ((a * q1 - p1 * b : ℕ) : ℤ) + ((p2 * b - a * q2 : ℕ) : ℤ) ≤ ((n * a % b : ℕ) : ℤ) := by
      rw [hid]
      exact add_le_add (le_mul_of_one_le_left hD1n hα) (le_mul_of_one_le_left hD2n hγ1)
    exact_mod_cast this

/-- **the "fractional part is tiny" test is an integrality test**: with threshold `1/H`, `frac(n·c/d) < 1/H ↔ n·a/b ∈ ℤ`
for `1 ≤ n ≤ N`, provided the approximation error is small (`hint`), the neighbour distances are not tiny (`hfrac`) and
`n` is not one of the few multiples `α·q1` with `α·D1/b < 1/H` (`hexc`) -/
theorem flag_iff (h : Cert a b N p1 q1 p2 q2) {c d H : Nat} (hd : 0 < d) (hge : a * d ≤ c * b)
    (hlt : c * q2 < p2 * d) (hint : N * (c * b - a * d) * H < d * b)
    (hfrac : b ≤ ((a * q1 - p1 * b) + (p2 * b - a * q2)) * H)
    {n : Nat} (h1 : 1 ≤ n) (hn : n ≤ N)
    (hexc : ∀ α, 1 ≤ α → n = α * q1 → 0 < a * q1 - p1 * b → b ≤ α * (a * q1 - p1 * b) * H) :
    n * c % d * H < d ↔ b ∣ n * a := by
  have hfl := floor_eq h hd hge hlt h1 hn
  have e1 := Nat.div_add_mod (n * c) d
  have e2 := Nat.div_add_mod (n * a) b
  rw [hfl] at e1
  have hb := h.hb
  have hrb : n * a % b < b := Nat.mod_lt _ hb
  have hdv : b ∣ n * a ↔ n * a % b = 0 := Nat.dvd_iff_mod_eq_zero
  have hfr := frac_ge h h1 hn
  rw [hdv]
  generalize n * c % d = R at *
  generalize n * a % b = r at *
  generalize n * a / b = m at *
  have hcb : ((c * b - a * d : ℕ) : ℤ) = c * b - a * d := by
    rw [Nat.cast_sub hge]; push_cast; ring
  have e1z : (n : ℤ) * c = d * m + R := by exact_mod_cast e1.symm
  have e2z : (n : ℤ) * a = b * m + r := by exact_mod_cast e2.symm
  have hgez : (a : ℤ) * d ≤ c * b := by exact_mod_cast hge
  -- `R/d − r/b = n·(c/d − a/b) ≥ 0`: a positive `r/b` is at least `1/H` (`frac_ge`) and so is `R/d`; with `r = 0`, `R/d` is `n` times
  -- the approximation error, below `1/H` by `hint`
  constructor
  · intro hR
    by_contra hnd
    have hr : 0 < r := Nat.pos_of_ne_zero hnd
    have hrH : b ≤ r * H := by
      rcases hfr with hA | ⟨α, hα1, hαn, hαr⟩
      · exact le_trans hfrac (Nat.mul_le_mul_right H hA)
      · rw [hαr]; exact hexc α hα1 hαn (by
          rcases Nat.eq_zero_or_pos (a * q1 - p1 * b) with h0 | h0
          · rw [hαr, h0] at hr; simp at hr
          · exact h0)
    have hRb : (r : ℤ) * d ≤ R * b := by linear_combination (n : ℤ) * hgez - (d : ℤ) * e2z + (b : ℤ) * e1z
    have hRb' : r * d ≤ R * b := by exact_mod_cast hRb
    have : b * d ≤ R * H * b := by
      calc b * d ≤ r * H * d := Nat.mul_le_mul_right d hrH
        _ = r * d * H := by ring
        _ ≤ R * b * H := Nat.mul_le_mul_right H hRb'
        _ = R * H * b := by ring
    have hlt' : R * H * b < d * b := Nat.mul_lt_mul_of_pos_right hR hb
    have : b * d < d * b := lt_of_le_of_lt this hlt'
    rw [Nat.mul_comm] at this
    exact lt_irrefl _ this
  · intro hr0
    rw [hr0, Nat.cast_zero, add_zero] at e2z
    have hRb : (R : ℤ) * b = n * ((c * b - a * d : ℕ) : ℤ) := by
      rw [hcb]; linear_combination (-(b : ℤ)) * e1z + (d : ℤ) * e2z
    have hRb' : R * b = n * (c * b - a * d) := by exact_mod_cast hRb
    have : R * H * b < d * b := by
      calc R * H * b = R * b * H := by ring
        _ = n * (c * b - a * d) * H := by rw [hRb']
        _ ≤ N * (c * b - a * d) * H :=
            Nat.mul_le_mul_right H (Nat.mul_le_mul_right _ hn)
        _ < d * b := hint
    exact Nat.lt_of_mul_lt_mul_right this

/-! ## homogeneity: one pair of neighbours for `x`, `2x`, `4x`, …

If `a'/b' = 2^j·a/b` then `n·a'/b' = (2^j·n)·a/b`, and likewise for the approximation `2^j·c/d`: the floor and the
integrality test at the multiplier `n` for `2^j·x` are those at the multiplier `2^j·n` for `x`. -/

theorem div_eq_of_cross {X Y b c : Nat} (hb : 0 < b) (hc : 0 < c) (h : X * c = Y * b) : X / b = Y / c := by
  rw [← Nat.mul_div_mul_right X b hc, h, Nat.mul_comm b c, Nat.mul_div_mul_right Y c hb]

theorem dvd_iff_of_cross {X Y b c : Nat} (hb : 0 < b) (hc : 0 < c) (h : X * c = Y * b) : b ∣ X ↔ c ∣ Y := by
  constructor
  · rintro ⟨k, rfl⟩
    exact ⟨k, Nat.eq_of_mul_eq_mul_left hb (by rw [Nat.mul_comm b Y, ← h]; ring)⟩
  · rintro ⟨k, rfl⟩
    exact ⟨k, Nat.eq_of_mul_eq_mul_right hc (by rw [h]; ring)⟩

theorem scaled (h : Cert a b N p1 q1 p2 q2) {a' b' j c d H : Nat} (hb' : 0 < b') (hrel : a' * b = 2 ^ j * a * b')
    (hd : 0 < d) (hge : a * d ≤ c * b) (hlt : c * q2 < p2 * d) {n : Nat} (h1 : 1 ≤ n) (hn : 2 ^ j * n ≤ N) :
    n * (c * 2 ^ j) / d = n * a' / b'
    ∧ (N * (c * b - a * d) * H < d * b → b ≤ ((a * q1 - p1 * b) + (p2 * b - a * q2)) * H →
        (∀ α, 1 ≤ α → 2 ^ j * n = α * q1 → 0 < a * q1 - p1 * b → b ≤ α * (a * q1 - p1 * b) * H) →
        (n * (c * 2 ^ j) % d * H < d ↔ b' ∣ n * a')) := by
  have hm1 : 1 ≤ 2 ^ j * n := Nat.mul_pos (Nat.two_pow_pos j) h1
  have ec : n * (c * 2 ^ j) = 2 ^ j * n * c := by ring
  have ex : n * a' * b = 2 ^ j * n * a * b' := by rw [Nat.mul_assoc, hrel]; ring
  rw [ec]
  refine ⟨?_, fun hint hfrac hexc => ?_⟩
  · rw [floor_eq h hd hge hlt hm1 hn]
    exact (div_eq_of_cross hb' h.hb ex).symm
  · rw [flag_iff h hd hge hlt hint hfrac hm1 hn hexc]
    exact (dvd_iff_of_cross hb' h.hb ex).symm

end LexVerif.Proof.DragonboxFarey
