import LexVerif.Proof.RoundTripSplit
import LexVerif.Proof.WriteFloatAscii
/-!
# Proof.Layouts — the three layouts of `write_float!` as functions of the kept digits

`write_float_scientific`, `write_float_negative_exponent` and `write_float_positive_exponent` of lexical-write-float exist
once per writer (`algorithm.rs`/`compact.rs`, `binary.rs`/`hex.rs`, `radix.rs`); what differs is where the kept digits `R`
come from (rounded decimal digits and a carry; the trimmed digits of the shifted mantissa; the integer digits). As
`Shape`s of `R` they are `sciOf`, `negOf`, `posOf`; each writer's layout is one of them (`RoundTripShape`,
`WriteBinaryShape`). Proved here once: the digits are `R` between zeros with the last digit of `R` at a known place
(`Placed`), every digit is below the radix (`Shape.Below`), the integer part and a present fraction are non-empty.
-/
namespace LexVerif.Proof.RoundTrip
open LexVerif.Spec LexVerif.Model LexVerif.Proof.WriteFloatAscii

def padZ (count exact : Nat) : List Nat := List.replicate (exact - count) 0

def sciOf (noEWF : Bool) (R : List Nat) (e : Int) (o : WOpts) : Shape :=
  ⟨[R.headD 0],
   if ¬ noEWF = true ∧ R.length = 1 ∧ o.trim = true then none
   else if R.length < minExactDigits R.length o then some (R.tail ++ padZ R.length (minExactDigits R.length o))
   else if R.length = 1 then some [0]
   else some R.tail,
   some e⟩

/-- `lead`: the zeros between the point and the digits -/
def negOf (lead : Nat) (R : List Nat) (o : WOpts) : Shape :=
  ⟨[0], some (List.replicate lead 0 ++ R ++ padZ R.length (minExactDigits R.length o)), none⟩

/-- `leading`: the digits before the point; `cnt`: the digit count `min_significant_digits` is compared with when every
digit is an integer digit (`leading + 1` in algorithm.rs and compact.rs, `|R| + 1` in binary.rs and radix.rs) -/
def posOf (leading cnt : Nat) (R : List Nat) (o : WOpts) : Shape :=
  if leading ≥ R.length then
    if o.trim then ⟨R ++ List.replicate (leading - R.length) 0, none, none⟩
    else ⟨R ++ List.replicate (leading - R.length) 0, some (0 :: padZ cnt (minExactDigits cnt o)), none⟩
  else ⟨R.take leading, some (R.drop leading ++ padZ R.length (minExactDigits R.length o)), none⟩

theorem posOf_exp (leading cnt : Nat) (R : List Nat) (o : WOpts) : (posOf leading cnt R o).exp = none := by
  unfold posOf; split
  · split <;> rfl
  · rfl

/-- the digits of `s` are `lz` zeros, `R`, and further zeros; the last digit of `R` stands `P` places left of the point -/
def Placed (s : Shape) (lz : Nat) (R : List Nat) (P : Int) : Prop :=
  ∃ z : Nat, s.ints ++ s.frac.getD [] = List.replicate lz 0 ++ R ++ List.replicate z 0 ∧
    (z : Int) - ((s.frac.getD []).length : Int) = P

theorem cons_rep (n : Nat) : 0 :: List.replicate n 0 = List.replicate (1 + n) 0 := by
  rw [Nat.add_comm]; rfl

theorem rep_app (a b : Nat) : List.replicate a 0 ++ List.replicate b 0 = List.replicate (a + b) 0 :=
  List.replicate_append_replicate

theorem sciOf_placed (noEWF : Bool) {R : List Nat} (hR : R ≠ []) (e : Int) (o : WOpts) :
    Placed (sciOf noEWF R e o) 0 R (1 - (R.length : Int)) := by
  obtain ⟨d, t, rfl⟩ := List.exists_cons_of_ne_nil hR
  unfold sciOf Placed
  simp only [List.headD_cons, List.tail_cons, List.length_cons]
  split
  · have : t = [] := List.eq_nil_of_length_eq_zero (by omega)
    exact ⟨0, by simp [this], by simp [this]⟩
  · split
    · -- behind the digits the zeros that pad to the minimum
      exact ⟨minExactDigits (t.length + 1) o - (t.length + 1), by simp [padZ], by simp [padZ]; omega⟩
    · split
      · have : t = [] := List.eq_nil_of_length_eq_zero (by omega)
        exact ⟨1, by simp [this], by simp [this]⟩
      · exact ⟨0, by simp, by simp; omega⟩

/-- in front the `0` before the point and the `lead` zeros behind it; behind, the padding -/
theorem negOf_placed (lead : Nat) (R : List Nat) (o : WOpts) :
    Placed (negOf lead R o) (1 + lead) R (-(lead : Int) - (R.length : Int)) :=
  ⟨minExactDigits R.length o - R.length, by simp [negOf, padZ, ← cons_rep], by simp [negOf, padZ]; omega⟩

theorem posOf_placed (leading cnt : Nat) (R : List Nat) (o : WOpts) :
    Placed (posOf leading cnt R o) 0 R ((leading : Int) - (R.length : Int)) := by
  unfold posOf Placed
  split
  · split
    · exact ⟨leading - R.length, by simp, by simp; omega⟩
    · exact ⟨leading - R.length + (1 + (minExactDigits cnt o - cnt)), by simp [padZ, ← rep_app, ← cons_rep],
        by simp [padZ]; omega⟩
  · -- the point falls inside the digits
    exact ⟨minExactDigits R.length o - R.length, by simp [padZ, ← List.append_assoc], by simp [padZ]; omega⟩

theorem digs_rep {r : Nat} (hr : 0 < r) (n : Nat) : Digs r (List.replicate n 0) := by
  intro d hd; rw [List.mem_replicate] at hd; omega

theorem digs_padZ {r : Nat} (hr : 0 < r) (count exact : Nat) : Digs r (padZ count exact) := digs_rep hr _

theorem sciOf_below {r : Nat} (hr : 0 < r) (noEWF : Bool) {R : List Nat} (hR : Digs r R) (e : Int) (o : WOpts) :
    (sciOf noEWF R e o).Below r := by
  have h0 : Digs r [R.headD 0] := by
    cases R with
    | nil => simpa using hr
    | cons d t => simpa using ((allP_cons_iff d t).mp hR).1
  refine ⟨h0, fun fs hfs => ?_⟩
  unfold sciOf at hfs
  dsimp only at hfs
  split at hfs
  · cases hfs
  · split at hfs
    · cases hfs; exact allP_append (digs_tail hR) (digs_padZ hr _ _)
    · split at hfs <;> cases hfs
      · exact digs_rep hr 1
      · exact digs_tail hR

theorem negOf_below {r : Nat} (hr : 0 < r) (lead : Nat) {R : List Nat} (hR : Digs r R) (o : WOpts) :
    (negOf lead R o).Below r :=
  ⟨digs_rep hr 1, by rintro fs ⟨⟩; exact allP_append (allP_append (digs_rep hr _) hR) (digs_padZ hr _ _)⟩

theorem posOf_below {r : Nat} (hr : 0 < r) (leading cnt : Nat) {R : List Nat} (hR : Digs r R) (o : WOpts) :
    (posOf leading cnt R o).Below r := by
  unfold posOf
  split
  · split
    · exact ⟨allP_append hR (digs_rep hr _), by rintro fs ⟨⟩⟩
    · exact ⟨allP_append hR (digs_rep hr _), by rintro fs ⟨⟩; exact (allP_cons_iff _ _).mpr ⟨hr, digs_padZ hr _ _⟩⟩
  · exact ⟨digs_take _ hR, by rintro fs ⟨⟩; exact allP_append (digs_drop _ hR) (digs_padZ hr _ _)⟩

theorem sciOf_full (noEWF : Bool) {R : List Nat} (hR : R ≠ []) (e : Int) (o : WOpts) : (sciOf noEWF R e o).Full := by
  obtain ⟨d, t, rfl⟩ := List.exists_cons_of_ne_nil hR
  refine ⟨by simp [sciOf], fun fs hfs => ?_⟩
  unfold sciOf at hfs
  simp only [List.tail_cons, List.length_cons] at hfs
  split at hfs
  · cases hfs
  · split at hfs
    · cases hfs; intro h; simp [padZ] at h; omega
    · split at hfs <;> cases hfs
      · simp
      · rintro rfl; simp_all

theorem negOf_full (lead : Nat) {R : List Nat} (hR : R ≠ []) (o : WOpts) : (negOf lead R o).Full :=
  ⟨by simp [negOf], by rintro fs ⟨⟩; simp [hR]⟩

theorem posOf_full {leading : Nat} (hl : 0 < leading) (cnt : Nat) (R : List Nat) (o : WOpts) :
    (posOf leading cnt R o).Full := by
  have hne : ∀ n, leading ≤ R.length + n → R ++ List.replicate n 0 ≠ [] := by
    intro n hn h; have := congrArg List.length h
    simp only [List.length_append, List.length_replicate, List.length_nil] at this; omega
  unfold posOf
  split
  · split
    · exact ⟨hne _ (by omega), by rintro fs ⟨⟩⟩
    · exact ⟨hne _ (by omega), by rintro fs ⟨⟩; simp⟩
  · refine ⟨?_, ?_⟩
    · intro h; have := congrArg List.length h; simp only [List.length_take, List.length_nil] at this; omega
    · rintro fs ⟨⟩ h; have := congrArg List.length h
      simp only [List.length_append, List.length_drop, List.length_nil] at this; omega

/-- the integer part begins with the first kept digit; a kept `0` is the number zero -/
theorem posOf_noLZ {leading : Nat} (hl : 0 < leading) (cnt : Nat) {R : List Nat} (hne : R ≠ [])
    (h0 : R.head? = some 0 → R = [0] ∧ leading = 1) (o : WOpts) : leadingZeros (posOf leading cnt R o).ints = false := by
  obtain ⟨d, t, rfl⟩ := List.exists_cons_of_ne_nil hne
  obtain ⟨m, rfl⟩ : ∃ m, leading = m + 1 := ⟨leading - 1, by omega⟩
  have hh : ((posOf (m + 1) cnt (d :: t) o).ints).head? = some d := by
    unfold posOf; split
    · split <;> rfl
    · rfl
  unfold leadingZeros
  rw [hh]
  by_cases hd : d = 0
  · subst hd
    obtain ⟨ht, hm⟩ := h0 rfl
    simp only [List.cons.injEq, true_and] at ht
    subst ht
    have : m = 0 := by omega
    subst this
    unfold posOf; cases o.trim <;> simp
  · simp [hd]

end LexVerif.Proof.RoundTrip
