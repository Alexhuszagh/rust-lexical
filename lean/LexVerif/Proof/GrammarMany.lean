import LexVerif.Proof.IterSpec
import LexVerif.Proof.ExceptPost
/-!
# Proof.GrammarMany — the many-digits re-parse changes neither the verdict nor the syntactic content

`manyDigitsPhase` (the re-parse when more than `u64_step` digits were seen) only recomputes `mantissa` /
`exponent`: when it returns, sign, stored integer / fraction slices, explicit exponent and count are the ones
already determined; and it has no `Error::Kind(idx)` exit of its own (its only failure exits are the
`unwrap()` panic and the unchecked-access faults, which are C10's subject). Both are postconditions `Proof.Wp`, followed
through the `do` blocks by its rules.
-/
namespace LexVerif.Proof.Grammar
open LexVerif LexVerif.Spec LexVerif.Model

structure NoErr {α : Type} (x : Except Err α) : Prop where
  h : ∀ k i, x ≠ .error (.err k i)

theorem NoErr.pure {α : Type} (a : α) : NoErr (pure a : Except Err α) := ⟨by intro k i h; cases h⟩

theorem NoErr.dite {α : Type} {p : Prop} [Decidable p] {x : p → Except Err α} {y : ¬p → Except Err α}
    (hx : ∀ h, NoErr (x h)) (hy : ∀ h, NoErr (y h)) : NoErr (if h : p then x h else y h) := by
  split
  · exact hx _
  · exact hy _

abbrev NoKind {α : Type} (x : Except Err α) : Prop := Wp (fun _ => True) (fun e => ¬ IsKind e) x

theorem stepBy_noErr (c : Cfg) (contig : Bool) (n : Nat) (b : Bytes) : NoKind (b.stepBy c contig n) := by
  unfold Bytes.stepBy
  repeat (first | exact Wp.error id | exact Wp.ok trivial | apply Wp.ite | intro _)

theorem stepUnchecked_noErr (c : Cfg) (contig : Bool) (b : Bytes) : NoKind (b.stepUnchecked c contig) := by
  unfold Bytes.stepUnchecked
  exact Wp.ite (fun _ => Wp.error id) (fun _ => stepBy_noErr c contig 1 b)

theorem step_noErr (c : Cfg) (b : Bytes) : NoKind (b.step c) := stepUnchecked_noErr c _ b

theorem iterStep_noErr (c : Cfg) (k : Comp) (b : Bytes) : NoKind (iterStep c k b) := stepUnchecked_noErr c _ b

theorem peek_noErr (c : Cfg) (k : Comp) (b : Bytes) : NoKind (peek c k b) := by
  unfold peek
  split
  · exact Wp.ok trivial
  · exact Wp.ok trivial
  · exact Wp.error id

/-- structural walk over a `do` block: every leaf is `pure`, a panic / fault, or a call already known to be `NoKind` -/
macro "noerr_step" : tactic => `(tactic| first
  | exact Wp.ok trivial | exact Wp.pure trivial | exact Wp.error id
  | assumption
  | apply peek_noErr | apply iterStep_noErr | apply step_noErr | apply stepUnchecked_noErr | apply stepBy_noErr
  | apply Wp.ite
  | apply Wp.bind (Q := fun _ => True)
  | intro _
  | split)

theorem readIfValueCased_noErr (c : Cfg) (k : Comp) (v : Nat) (b : Bytes) : NoKind (readIfValueCased c k v b) := by
  unfold readIfValueCased
  repeat noerr_step

theorem skipZerosLoop_noErr (c : Cfg) (k : Comp) : ∀ (fuel : Nat) (b : Bytes), NoKind (skipZerosLoop c k fuel b) := by
  intro fuel
  induction fuel with
  | zero => intro b; exact Wp.error id
  | succ n ih =>
    intro b
    unfold skipZerosLoop
    refine Wp.bind (readIfValueCased_noErr c k 48 b) ?_
    repeat (first | apply ih | noerr_step)

theorem skipZeros_noErr (c : Cfg) (k : Comp) (b : Bytes) : NoKind (skipZeros c k b) := by
  unfold skipZeros
  refine Wp.bind (skipZerosLoop_noErr c k _ b) ?_
  repeat noerr_step

theorem tryParse8_noErr (c : Cfg) (k : Comp) (b : Bytes) : NoKind (tryParse8 c k b) := by
  unfold tryParse8
  repeat noerr_step

theorem u64Loop8_noErr (c : Cfg) (k : Comp) : ∀ (fuel : Nat) (b : Bytes) (m step : Nat),
    NoKind (u64Loop8 c k fuel b m step) := by
  intro fuel
  induction fuel with
  | zero => intro b m step; exact Wp.error id
  | succ n ih =>
    intro b m step
    unfold u64Loop8
    repeat (first | apply ih | apply tryParse8_noErr | noerr_step)

theorem u64Loop1_noErr (c : Cfg) (k : Comp) : ∀ (fuel : Nat) (b : Bytes) (m step : Nat),
    NoKind (u64Loop1 c k fuel b m step) := by
  intro fuel
  induction fuel with
  | zero => intro b m step; exact Wp.error id
  | succ n ih =>
    intro b m step
    unfold u64Loop1
    repeat (first | apply ih | noerr_step)

theorem parseU64Digits_noErr (c : Cfg) (k : Comp) (b : Bytes) (m step : Nat) :
    NoKind (parseU64Digits c k b m step) := by
  unfold parseU64Digits
  repeat (first | apply u64Loop1_noErr | apply u64Loop8_noErr | noerr_step)

theorem scaleExponent_noErr (c : Cfg) (x : Int) : NoKind (scaleExponent c x) := by
  unfold scaleExponent
  repeat noerr_step

theorem manyDigitsPhase_spec (c : Cfg) (o : POpts) (neg : Bool) (ip : IntPart) (fp : FracPart) (ep : ExpPart)
    (nDigits step : Nat) (e0 : Int) (endIdx : Nat) :
    Wp (fun r : Number × Nat => r.1.isNegative = neg ∧ r.1.integer = ip.integerDigits ∧
        r.1.fraction = fp.fraction ∧ r.1.explicitExp = ep.explicit ∧ r.2 = endIdx) (fun e => ¬ IsKind e)
      (manyDigitsPhase c o neg ip fp ep nDigits step e0 endIdx) := by
  unfold manyDigitsPhase
  repeat (first
    | exact Wp.pure ⟨rfl, rfl, rfl, rfl, rfl⟩
    | exact Wp.pure trivial
    | exact Wp.error id
    | apply skipZeros_noErr | apply parseU64Digits_noErr | apply scaleExponent_noErr | apply step_noErr
    | apply Wp.bind (Q := fun _ => True)
    | apply Wp.ite
    | intro _
    | split)

end LexVerif.Proof.Grammar
