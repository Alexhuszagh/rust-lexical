import LexVerif.Proof.WriteFloatDragon
/-!
# Proof.WriteFloatRun — what a call of the buffer-faithful `write_float` does

`Runs buf need t out`: the call needs `need` bytes — it panics on a shorter buffer — and otherwise returns the text `t`
at the front of a buffer of the same length of which no index at or beyond `need` was written.  (The bytes between the
text and `need` are not determined by `t`: `algorithm.rs` leaves generated digits there.)
`writeFloatB_runs_decimal`, `writeFloatB_runs_special`: a call that passes the checks at the top of `write_float` runs
with the sign and `writeDecimal` / the configured string as text and the sign and `needDec` / the string as need;
buffer size, text, alphabet and round trip are statements about these two pure functions.
-/
namespace LexVerif.Proof.WriteFloatRun
open LexVerif.Spec LexVerif.Model LexVerif.Model.WriteFloat LexVerif.Proof.WriteFloatBuf
open LexVerif.Proof.WriteFloatBound
open LexVerif.Proof.WriteFloatDragon (needDec decimalB_lays)
open LexVerif.Model.WriteInt (Res)

def Runs (buf : List Nat) (need : Nat) (t : List Nat) (out : Outcome) : Prop :=
  (buf.length < need → out = .panic) ∧
  (need ≤ buf.length → ∃ w, out = .done w ∧ w.bytes.take w.len = t ∧ w.len = t.length ∧
    w.bytes.length = buf.length ∧ w.hi ≤ need)

theorem Runs.of_done {buf : List Nat} {need : Nat} {t : List Nat} {out : Outcome} {w : Written} (h : Runs buf need t out)
    (hw : out = .done w) :
    need ≤ buf.length ∧ w.bytes.take w.len = t ∧ w.len = t.length ∧ w.bytes.length = buf.length ∧ w.hi ≤ need := by
  by_cases hn : need ≤ buf.length
  · obtain ⟨w', hw', h1⟩ := h.2 hn
    obtain rfl : w' = w := Outcome.done.inj (hw'.symm.trans hw)
    exact ⟨hn, h1⟩
  · rw [h.1 (by omega)] at hw; cases hw

theorem Runs.inside {buf : List Nat} {need : Nat} {t : List Nat} {out : Outcome} (h : Runs buf need t out) :
    out ≠ .fault ∧ ∀ w, out = .done w → w.bytes.length = buf.length ∧ w.len ≤ buf.length ∧ w.hi ≤ buf.length := by
  by_cases hn : need ≤ buf.length
  · obtain ⟨w, hw, ht, _, hb, hh⟩ := h.2 hn
    rw [hw]
    refine ⟨Outcome.noConfusion, ?_⟩
    rintro w' ⟨⟩
    have := congrArg List.length ht
    rw [List.length_take] at this
    exact ⟨hb, by omega, by omega⟩
  · rw [h.1 (by omega)]
    exact ⟨Outcome.noConfusion, fun w hw => by cases hw⟩

theorem writeSpecial_lays (s : List Nat) : Lays (writeSpecial (some s)) s.length s := by
  intro b
  unfold writeSpecial
  exact (Lay.blit (off := 0) (Starts.nil b) rfl fun h => Sized.ok ⟨h, rfl⟩).need_eq (by omega)

/-- a layout function run behind the sign, and the caller's `&mut bytes[..count]` -/
theorem onTail_runs {g : WBuf → Res Out} {need : Nat} {t : List Nat} (h : Lays g need t) (sign buf : List Nat)
    (hS : sign.length ≤ buf.length) :
    Runs buf (sign.length + need) (sign ++ t) (finalCheck (onTail sign (buf.drop sign.length) g)) := by
  have hlen : (⟨buf.drop sign.length, 0⟩ : WBuf).len = buf.length - sign.length := List.length_drop
  obtain ⟨h1, h2⟩ := h ⟨buf.drop sign.length, 0⟩
  unfold onTail
  refine ⟨fun hlt => by rw [h1 (by omega)]; rfl, fun hle => ?_⟩
  obtain ⟨r, hr, hl, hhi, hs, hc⟩ := h2 (by omega)
  clear h2 -- `omega` trips over a hypothesis of the form `_ → ∃ _`
  have hbl : r.buf.bytes.length = buf.length - sign.length := hl.trans hlen
  have ht : t.length ≤ buf.length - sign.length := hbl ▸ hs.1
  rw [hr]
  dsimp only [finalCheck] at hhi ⊢
  rw [if_pos (by rw [List.length_append, hbl, hc]; omega)]
  refine ⟨_, rfl, ?_, ?_, ?_, ?_⟩
  · dsimp only; rw [hc, List.take_length_add_append, hs.2]
  · dsimp only; rw [hc, List.length_append]
  · dsimp only; rw [List.length_append, hbl]; omega
  · dsimp only; split <;> omega

theorem writeFloatB_refused {bound : Nat} {feats : Features} {f : Fmt} {fmt : Format} {bits : Nat} {buf : List Nat}
    (h : Refused bound feats f fmt bits buf) (o : WOpts) (debug : Bool) (dg : List Nat × Int) :
    writeFloatB bound feats f fmt o debug bits dg buf = .panic := by
  rw [writeFloatB_eq]; exact if_pos h

theorem writeFloatB_admitted {bound : Nat} {feats : Features} {f : Fmt} {fmt : Format} {bits : Nat} {buf : List Nat}
    (h : ¬ Refused bound feats f fmt bits buf) (o : WOpts) (debug : Bool) (dg : List Nat × Int) :
    writeFloatB bound feats f fmt o debug bits dg buf =
      finalCheck
        (if f.isSpecial bits = true then
          onTail (floatSign feats f fmt bits) (buf.drop (floatSign feats f fmt bits).length)
            (writeSpecial (if f.isNaN bits = true then o.nan else o.inf))
        else if backend feats fmt = .decimal then
          onTail (floatSign feats f fmt bits) (buf.drop (floatSign feats f fmt bits).length)
            (decimalB fmt feats f debug dg.1 dg.2 o)
        else .other (backend feats fmt) (floatSign feats f fmt bits).length) := by
  rw [writeFloatB_eq]; exact if_neg h

theorem writeFloatB_runs_decimal {bound : Nat} {feats : Features} {f : Fmt} {fmt : Format} {bits : Nat} {buf : List Nat}
    (hr : ¬ Refused bound feats f fmt bits buf) (o : WOpts) (ds : List Nat) (sci : Int)
    (hfin : f.isSpecial bits = false) (hbe : backend feats fmt = .decimal)
    (hds : 1 ≤ ds.length) (hds32 : feats.compact = true → ds.length ≤ 32) (hmx : o.maxDigits ≠ some 0) :
    Runs buf ((floatSign feats f fmt bits).length + needDec fmt feats f ds sci o)
      (floatSign feats f fmt bits ++ writeDecimal fmt feats ds sci o)
      (writeFloatB bound feats f fmt o false bits (ds, sci) buf) := by
  rw [writeFloatB_admitted hr, if_neg (by rw [hfin]; exact Bool.false_ne_true), if_pos hbe]
  exact onTail_runs (decimalB_lays fmt feats f ds sci o hds hds32 hmx) _ buf
    (Nat.le_of_not_lt fun hlt => hr (.inr (.inr (.inr hlt))))

theorem writeFloatB_runs_special {bound : Nat} {feats : Features} {f : Fmt} {fmt : Format} {bits : Nat} {buf : List Nat}
    (hr : ¬ Refused bound feats f fmt bits buf) (o : WOpts) (debug : Bool) (dg : List Nat × Int)
    (hsp : f.isSpecial bits = true) {s : List Nat} (hs : (if f.isNaN bits = true then o.nan else o.inf) = some s) :
    Runs buf ((floatSign feats f fmt bits).length + s.length) (floatSign feats f fmt bits ++ s)
      (writeFloatB bound feats f fmt o debug bits dg buf) := by
  rw [writeFloatB_admitted hr, if_pos hsp, hs]
  exact onTail_runs (writeSpecial_lays s) _ buf (Nat.le_of_not_lt fun hlt => hr (.inr (.inr (.inr hlt))))

theorem writeFloatB_disabled (bound : Nat) (feats : Features) (f : Fmt) (fmt : Format) (o : WOpts) (debug : Bool)
    (bits : Nat) (dg : List Nat × Int) (buf : List Nat) (hsp : f.isSpecial bits = true)
    (hnone : (if f.isNaN bits = true then o.nan else o.inf) = none) :
    writeFloatB bound feats f fmt o debug bits dg buf = .panic := by
  by_cases hr : Refused bound feats f fmt bits buf
  · exact writeFloatB_refused hr o debug dg
  · rw [writeFloatB_admitted hr, if_pos hsp, hnone]; rfl

theorem writeFloatB_other {bound : Nat} {feats : Features} {f : Fmt} {fmt : Format} {bits : Nat} {buf : List Nat}
    (hr : ¬ Refused bound feats f fmt bits buf) (o : WOpts) (debug : Bool) (dg : List Nat × Int)
    (hfin : f.isSpecial bits = false) (hbe : backend feats fmt ≠ .decimal) :
    writeFloatB bound feats f fmt o debug bits dg buf = .other (backend feats fmt) (floatSign feats f fmt bits).length := by
  rw [writeFloatB_admitted hr, if_neg (by rw [hfin]; exact Bool.false_ne_true), if_neg hbe]; rfl

/-- the model's `debug` flag (the trailing-zero `debug_assert!`s that `compact.rs` had before /repo commit 5e574ce) only
adds panics -/
theorem done_of_debug {bound : Nat} {feats : Features} {f : Fmt} {fmt : Format} {o : WOpts} {debug : Bool} {bits : Nat}
    {dg : List Nat × Int} {buf : List Nat} {w : Written}
    (h : writeFloatB bound feats f fmt o debug bits dg buf = .done w) :
    writeFloatB bound feats f fmt o false bits dg buf = .done w := by
  cases debug with
  | false => exact h
  | true =>
    have key : ∀ b, decimalB fmt feats f true dg.1 dg.2 o b = decimalB fmt feats f false dg.1 dg.2 o b ∨
        decimalB fmt feats f true dg.1 dg.2 o b = .panic := by
      intro b
      unfold decimalB decimalC
      dsimp only
      split
      · split
        · exact .inl rfl
        · by_cases he : endsInZero (truncateAndRound dg.1 o).1 = true
          · exact .inr (by simp [he])
          · exact .inl (by simp [he])
      · exact .inl rfl
    by_cases hr : Refused bound feats f fmt bits buf
    · rw [writeFloatB_refused hr] at h; cases h
    rw [writeFloatB_admitted hr] at h ⊢
    by_cases hsp : f.isSpecial bits = true
    · rw [if_pos hsp] at h ⊢; exact h
    by_cases hbe : backend feats fmt = .decimal
    · rw [if_neg hsp, if_pos hbe] at h ⊢
      unfold onTail at h ⊢
      rcases key ⟨buf.drop (floatSign feats f fmt bits).length, 0⟩ with hk | hk
      · rw [← hk]; exact h
      · rw [hk] at h; cases h
    · rw [if_neg hsp, if_neg hbe] at h ⊢; exact h

/-- more than 32 digits overflow the temporary of `compact.rs` -/
theorem decimalB_long (fmt : Format) (feats : Features) (f : Fmt) (debug : Bool) (ds : List Nat) (sci : Int) (o : WOpts)
    (b : WBuf) (hc : feats.compact = true) (h : 32 < ds.length) : decimalB fmt feats f debug ds sci o b = .panic := by
  unfold decimalB decimalC
  rw [if_pos hc, if_pos h]

end LexVerif.Proof.WriteFloatRun
