import LexVerif.Proof.WriteBinaryShape
import Mathlib.Tactic.Ring
import Mathlib.Tactic.LinearCombination
import Mathlib.Tactic.FieldSimp
import Mathlib.Algebra.Order.Field.Rat
import Mathlib.Algebra.Order.Field.Power
/-!
# Proof.WriteBinaryExact — the digits laid out by binary.rs / hex.rs denote exactly `mantissa · 2^exponent`
-/
namespace LexVerif.Proof.WriteBinaryExact
open LexVerif.Spec LexVerif.Model LexVerif.Model.WriteBinary
open LexVerif.Proof.WriteBinaryDigits LexVerif.Proof.WriteBinaryShape LexVerif.Proof.WriteBinaryArith
open LexVerif.Model.Dragonbox (i32)

def expFactor (b : Nat) : Option Int → ℚ
  | some x => (b : ℚ) ^ x
  | none => 1

/-- the rational number a layout denotes -/
def layoutQ (r b : Nat) (l : Layout) : ℚ :=
  (ofDigits r (l.int ++ l.frac) : ℚ) / (r : ℚ) ^ l.frac.length * expFactor b l.exp

theorem two_ne : (2 : ℚ) ≠ 0 := by norm_num

theorem pow_pow_zpow (bpd j : Nat) : ((2 : ℚ) ^ bpd) ^ j = (2 : ℚ) ^ ((bpd : ℤ) * (j : ℤ)) := by
  rw [zpow_mul, zpow_natCast, zpow_natCast]

theorem layoutQ_of_shape {bpd b : Nat} {l : Layout} {tr : List Nat} {a j : Nat} {X : ℤ}
    (hs : l.int ++ l.frac = List.replicate a 0 ++ tr ++ List.replicate j 0)
    (hx : expFactor b l.exp = (2 : ℚ) ^ X) :
    layoutQ (2 ^ bpd) b l
      = (ofDigits (2 ^ bpd) tr : ℚ) * (2 : ℚ) ^ ((bpd : ℤ) * ((j : ℤ) - (l.frac.length : ℤ)) + X) := by
  unfold layoutQ
  rw [hs, ofDigits_shape, hx]
  push_cast
  rw [pow_pow_zpow, pow_pow_zpow, mul_sub, zpow_add₀ two_ne, zpow_sub₀ two_ne]
  field_simp

theorem target_eq {bpd m s k : Nat} {tr : List Nat} (e : ℤ)
    (hv : m * 2 ^ s = ofDigits (2 ^ bpd) tr * (2 ^ bpd) ^ k) :
    (m : ℚ) * (2 : ℚ) ^ e = (ofDigits (2 ^ bpd) tr : ℚ) * (2 : ℚ) ^ ((bpd : ℤ) * (k : ℤ) + e - (s : ℤ)) := by
  have hq : (m : ℚ) * (2 : ℚ) ^ s = (ofDigits (2 ^ bpd) tr : ℚ) * ((2 : ℚ) ^ bpd) ^ k := by exact_mod_cast hv
  rw [pow_pow_zpow] at hq
  rw [add_sub_assoc, zpow_add₀ two_ne, ← mul_assoc, ← hq, zpow_sub₀ two_ne, zpow_natCast]
  field_simp

theorem layoutQ_eq {bpd b m s k a j : Nat} {l : Layout} {tr : List Nat} {e X : ℤ}
    (hs : l.int ++ l.frac = List.replicate a 0 ++ tr ++ List.replicate j 0)
    (hx : expFactor b l.exp = (2 : ℚ) ^ X)
    (hv : m * 2 ^ s = ofDigits (2 ^ bpd) tr * (2 ^ bpd) ^ k)
    (hexp : (bpd : ℤ) * ((j : ℤ) - (l.frac.length : ℤ)) + X = (bpd : ℤ) * (k : ℤ) + e - (s : ℤ)) :
    layoutQ (2 ^ bpd) b l = (m : ℚ) * (2 : ℚ) ^ e := by
  rw [layoutQ_of_shape hs hx, target_eq e hv, hexp]

theorem expFactor_none (b : Nat) : expFactor b none = (2 : ℚ) ^ (0 : ℤ) := (zpow_zero _).symm

theorem expFactor_two_pow (bpb : Nat) (x : ℤ) : expFactor (2 ^ bpb) (some x) = (2 : ℚ) ^ (x * (bpb : ℤ)) := by
  unfold expFactor
  push_cast
  rw [← zpow_natCast, ← zpow_mul, mul_comm]

theorem significantBits_spec {m : Nat} (hm : 0 < m) :
    1 ≤ significantBits m ∧ 2 ^ (significantBits m - 1) ≤ m ∧ m < 2 ^ significantBits m := by
  unfold significantBits
  rw [if_neg (by omega)]
  exact ⟨by omega, by simpa using Nat.log2_self_le (by omega), Nat.lt_log2_self⟩

theorem significantBits_le {m k : Nat} (h : m < 2 ^ k) : significantBits m ≤ k := by
  unfold significantBits
  split
  · exact Nat.zero_le k
  · exact (Nat.log2_lt ‹m ≠ 0›).mpr h

/-- `(e + mb - 1) / bpd` is the scaled scientific exponent, `(mb + s - 1) / bpd + 1` the digit count -/
theorem core_arith (e : ℤ) (mb s bpd : Nat) (h1 : 1 ≤ bpd) (h5 : bpd ≤ 5) (hmb : 1 ≤ mb)
    (hs : (s : ℤ) = e % (bpd : ℤ)) :
    (bpd : ℤ) * ((e + mb - 1) / (bpd : ℤ) + 1 - (((mb + s - 1) / bpd + 1 : Nat) : ℤ)) = e - s := by
  have : bpd = 1 ∨ bpd = 2 ∨ bpd = 3 ∨ bpd = 4 ∨ bpd = 5 := by omega
  rcases this with h | h | h | h | h <;> subst h <;> push_cast at hs ⊢ <;> omega

theorem mantissaDigits_eq {w bpd m s : Nat} {e : ℤ} (h1 : 1 ≤ bpd) (h5 : bpd ≤ 5) (he1 : -4000 ≤ e) (he2 : e ≤ 4000)
    (hs : (s : ℤ) = e % (bpd : ℤ)) (hsw : s < w) (hlt : m * 2 ^ s < 2 ^ w) :
    mantissaDigits w (2 ^ bpd) m e = toDigits (2 ^ bpd) (m * 2 ^ s) := by
  have hb1 : (1 : ℤ) ≤ (bpd : ℤ) := by exact_mod_cast h1
  have hb5 : ((bpd : ℤ)) ≤ 5 := by exact_mod_cast h5
  have hmodlt : e % (bpd : ℤ) < bpd := Int.emod_lt_of_pos _ (by omega)
  unfold mantissaDigits
  rw [fastLog2_pow h1 h5, calculateShl_eq he1 he2 hb1 hb5, ← hs]
  unfold shlW
  rw [Int.emod_eq_of_lt (by omega) (by omega), Int.toNat_natCast, Nat.shiftLeft_eq, Nat.mod_eq_of_lt hlt]

/-- what the three layouts share; the last conjunct says where the core's last digit stands relative to `2^e` -/
theorem mantissa_core {w bpd m : Nat} {e : ℤ} (h1 : 1 ≤ bpd) (h5 : bpd ≤ 5) (hm : 0 < m) (hw : 5 ≤ w)
    (hmw : m * 16 < 2 ^ w) (he1 : -4000 ≤ e) (he2 : e ≤ 4000) :
    ∃ (s k d0 : Nat) (tail : List Nat), mantissaDigits w (2 ^ bpd) m e = d0 :: tail
      ∧ rtrimZeros (mantissaDigits w (2 ^ bpd) m e) = d0 :: rtrimZeros tail
      ∧ m * 2 ^ s = ofDigits (2 ^ bpd) (d0 :: rtrimZeros tail) * (2 ^ bpd) ^ k
      ∧ (bpd : ℤ) * (k : ℤ) + e - (s : ℤ)
          = (bpd : ℤ) * ((e + (significantBits m : ℤ) - 1) / (bpd : ℤ) - ((rtrimZeros tail).length : ℤ)) := by
  have hb1 : (1 : ℤ) ≤ (bpd : ℤ) := by exact_mod_cast h1
  have hb5 : ((bpd : ℤ)) ≤ 5 := by exact_mod_cast h5
  have hmod0 : 0 ≤ e % (bpd : ℤ) := Int.emod_nonneg _ (by omega)
  have hmodlt : e % (bpd : ℤ) < bpd := Int.emod_lt_of_pos _ (by omega)
  obtain ⟨s, hs⟩ : ∃ s : Nat, (s : ℤ) = e % (bpd : ℤ) := ⟨(e % (bpd : ℤ)).toNat, by omega⟩
  have hs4 : s ≤ 4 := by omega
  have hr : 2 ≤ 2 ^ bpd := Nat.one_lt_two_pow (by omega)
  -- the shifted mantissa does not overflow the unsigned type
  have hpow : 2 ^ s ≤ 2 ^ 4 := Nat.pow_le_pow_right (by decide) hs4
  have hvlt : m * 2 ^ s < 2 ^ w := Nat.lt_of_le_of_lt (Nat.mul_le_mul_left m hpow) hmw
  have hds := mantissaDigits_eq h1 h5 he1 he2 hs (by omega) hvlt
  have hvpos : 0 < m * 2 ^ s := Nat.mul_pos hm (Nat.two_pow_pos s)
  obtain ⟨d0, tail, hdt, hd0⟩ := toDigits_head_pos (2 ^ bpd) (m * 2 ^ s) hr hvpos
  obtain ⟨mb1, mb2, mb3⟩ := significantBits_spec hm
  -- bit length of the shifted mantissa, hence its digit count
  have hL1 : 2 ^ (significantBits m + s - 1) ≤ m * 2 ^ s := by
    have : significantBits m + s - 1 = (significantBits m - 1) + s := by omega
    rw [this, Nat.pow_add]
    exact Nat.mul_le_mul_right _ mb2
  have hL2 : m * 2 ^ s < 2 ^ (significantBits m + s) := by
    rw [Nat.pow_add]
    exact Nat.mul_lt_mul_of_pos_right mb3 (Nat.two_pow_pos s)
  have hlen := toDigits_length_pow2 bpd (m * 2 ^ s) (significantBits m + s) h1 (by omega) hL1 hL2
  have htr : rtrimZeros (d0 :: tail) = d0 :: rtrimZeros tail := rtrimZeros_cons_ne_zero d0 tail hd0
  obtain ⟨k, hk1, hk2⟩ := rtrimZeros_spec (d0 :: tail)
  rw [htr] at hk1 hk2
  refine ⟨s, k, d0, tail, by rw [hds, hdt], by rw [hds, hdt, htr], ?_, ?_⟩
  · have := ofDigits_toDigits (2 ^ bpd) (m * 2 ^ s) hr
    rw [hdt, hk1, ofDigits_append_zeros] at this
    exact this.symm
  · rw [hdt] at hlen
    have hk : (k : ℤ) + (1 + ((rtrimZeros tail).length : ℤ))
        = (((significantBits m + s - 1) / bpd + 1 : Nat) : ℤ) := by
      rw [← hlen]; simp only [List.length_cons] at hk2 ⊢; omega
    linear_combination (bpd : ℤ) * hk - core_arith e (significantBits m) s bpd h1 h5 mb1 hs

/-- for a non-zero mantissa `m` (that fits the unsigned type with 4 spare bits) and exponent `e`, whatever
notation `write_float!` chooses, the layout denotes exactly `m · 2^e`. Radix `2^bpd` (`bpd = 1..5`), exponent base
`2^bpb` with `bpb = bpd` (binary.rs) or one of hex.rs' documented pairs. Any break points, any `min_significant_digits`,
trim on or off. -/
theorem layoutME_exact (fmt : Format) (o : WOpts) {w bpd bpb m : Nat} {e : ℤ}
    (hr : fmt.mantissaRadix = 2 ^ bpd) (hb : fmt.exponentBase = 2 ^ bpb)
    (h1 : 1 ≤ bpd) (h5 : bpd ≤ 5) (hpair : bpb = 1 ∨ (bpb = 2 ∧ bpd = 4) ∨ bpb = bpd)
    (hm : 0 < m) (hw : 5 ≤ w) (hmw : m * 16 < 2 ^ w) (hm64 : m < 2 ^ 64) (he1 : -2000 ≤ e) (he2 : e ≤ 2000) :
    layoutQ (2 ^ bpd) (2 ^ bpb) (layoutME fmt o w m e) = (m : ℚ) * (2 : ℚ) ^ e := by
  obtain ⟨s, k, d0, tail, hds, htr, hv, hE⟩ := mantissa_core (w := w) (e := e) h1 h5 hm hw hmw (by omega) (by omega)
  have hmb64 : significantBits m ≤ 64 := significantBits_le hm64
  have hb1 : (1 : ℤ) ≤ (bpd : ℤ) := by exact_mod_cast h1
  have hb5 : ((bpd : ℤ)) ≤ 5 := by exact_mod_cast h5
  have hlog : fastLog2 (2 ^ bpd) = (bpd : ℤ) := fastLog2_pow h1 h5
  -- the binary scientific exponent `S` and `F = ⌊S / bpd⌋`
  generalize hSdef : e + (significantBits m : ℤ) - 1 = S at hE
  have hS : (if m = 0 then (0 : ℤ) else i32 (i32 (e + (significantBits m : ℤ)) - 1)) = S := by
    rw [if_neg (by omega), DragonboxArith.i32_id (x := e + (significantBits m : ℤ)) (by omega) (by omega), DragonboxArith.i32_id (by omega) (by omega),
      hSdef]
  obtain ⟨hF1, hF2, hFneg, hFpos⟩ := ediv_bounds (s := S) (L := (bpd : ℤ)) (by omega) (by omega) hb1 hb5
  generalize hFdef : S / (bpd : ℤ) = F at hE hF1 hF2 hFneg hFpos
  refine layoutME_cases (P := fun l => layoutQ (2 ^ bpd) (2 ^ bpb) l = (m : ℚ) * (2 : ℚ) ^ e) fmt o w m e hr hb hS
    ?_ (fun hneg => ?_) (fun hpos => ?_)
  · -- scientific: the exponent part is worth `F` digits
    obtain ⟨j, hsh, hjf⟩ := sci_shape fmt o w (2 ^ bpd) m e
      (if 2 ^ bpd ≠ 2 ^ bpb then scaleSciExpHex S (fastLog2 (2 ^ bpd)) (fastLog2 (2 ^ bpb))
        else scaleSciExp S (fastLog2 (2 ^ bpd))) d0 tail hds
    refine layoutQ_eq hsh (X := F * (bpd : ℤ)) ?_ hv ?_
    · rw [sciLayout_exp, expFactor_two_pow, scaled_mul (by omega) (by omega) h1 h5 hpair, hFdef]
    · linear_combination (bpd : ℤ) * hjf - hE
  · -- negative positional: `-F` zeros
    have hz : fastCeildiv (i32 (-S)) (fastLog2 (2 ^ bpd)) = -F := by
      rw [hlog, DragonboxArith.i32_id (by omega) (by omega), fastCeildiv_eq (by omega) (by omega) hb1 hb5, Int.neg_neg, hFdef]
    obtain ⟨j, hsh, hjf⟩ := neg_shape o w (2 ^ bpd) m e S hz (by have := hFneg hneg; omega)
    rw [htr] at hsh hjf
    refine layoutQ_eq hsh (by rw [negLayout_exp]; exact expFactor_none _) hv ?_
    simp only [List.length_cons] at hjf
    push_cast at hjf
    linear_combination (bpd : ℤ) * hjf - hE
  · -- positive positional: `F + 1` digits before the point
    have hq : Int.tdiv S (fastLog2 (2 ^ bpd)) = F := by
      rw [hlog, Int.tdiv_eq_ediv_of_nonneg hpos, hFdef]
    obtain ⟨j, hsh, hjf⟩ := pos_shape o w (2 ^ bpd) m e S hq (hFpos hpos)
    rw [htr] at hsh hjf
    refine layoutQ_eq hsh (by rw [posLayout_exp]; exact expFactor_none _) hv ?_
    simp only [List.length_cons] at hjf
    push_cast at hjf
    linear_combination (bpd : ℤ) * hjf - hE

theorem layoutQ_zero {r b : Nat} {l : Layout} (h : ofDigits r (l.int ++ l.frac) = 0) : layoutQ r b l = 0 := by
  unfold layoutQ
  rw [h, Nat.cast_zero, zero_div, zero_mul]

theorem layoutME_zero (fmt : Format) (o : WOpts) {w bpd bpb : Nat} (e : ℤ)
    (hr : fmt.mantissaRadix = 2 ^ bpd) (hb : fmt.exponentBase = 2 ^ bpb) (h1 : 1 ≤ bpd) :
    layoutQ (2 ^ bpd) (2 ^ bpb) (layoutME fmt o w 0 e) = 0 := by
  have hr2 : 2 ≤ 2 ^ bpd := Nat.one_lt_two_pow (by omega)
  have hds : mantissaDigits w (2 ^ bpd) 0 e = [0] := by
    unfold mantissaDigits shlW
    rw [Nat.zero_shiftLeft, Nat.zero_mod]
    exact toDigits_zero _ hr2
  have htr : rtrimZeros (mantissaDigits w (2 ^ bpd) 0 e) = [] := by rw [hds]; rfl
  refine layoutME_cases (P := fun l => layoutQ (2 ^ bpd) (2 ^ bpb) l = 0) fmt o w 0 e hr hb (if_pos rfl)
    ?_ (fun hneg => absurd hneg (by decide)) (fun _ => ?_)
  · obtain ⟨j, hsh, _⟩ := sci_shape fmt o w (2 ^ bpd) 0 e
      (if 2 ^ bpd ≠ 2 ^ bpb then scaleSciExpHex 0 (fastLog2 (2 ^ bpd)) (fastLog2 (2 ^ bpb))
        else scaleSciExp 0 (fastLog2 (2 ^ bpd))) 0 [] hds
    apply layoutQ_zero
    rw [hsh, ofDigits_shape]
    simp [rtrimZeros, ofDigits]
  · obtain ⟨j, hsh, _⟩ := pos_shape o w (2 ^ bpd) 0 e 0 (q := 0) (by simp) (Int.le_refl 0)
    apply layoutQ_zero
    rw [hsh, htr, ofDigits_shape]
    simp [ofDigits]

end LexVerif.Proof.WriteBinaryExact
