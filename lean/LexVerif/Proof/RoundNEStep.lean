import Mathlib.Tactic.Ring
import Mathlib.Tactic.Linarith
import LexVerif.Proof.RoundNECell
/-!
# Proof.RoundNEStep — a relative change of at most `2^−p` moves `roundNE` by at most one pattern

`roundNE_step`: if `v ≤ v' ≤ v·(M+1)/M` with `M ≥ 2^p`, then `roundNE v' ≤ roundNE v + 1`.
(Neighbouring rounding cells are spread by a factor of more than `1 + 2^−p`.)
-/
namespace LexVerif.Proof.RoundNE
open LexVerif.Spec

theorem cells_spread {f : Fmt} (hf : WF f) (b : Nat) :
    ival f b + ival f (b + 1) < 2 ^ f.p * (ival f (b + 2) - ival f b) := by
  have hTT := two_pow_P hf
  obtain ⟨k, q, rfl, h1, h2⟩ := decomp f b
  generalize hT : 2 ^ (f.p - 1) = T at *
  have hTpos : 0 < T := by rw [← hT]; exact Nat.two_pow_pos _
  have i0 : ival f (k * T + q) = q * 2 ^ k := by rw [← hT]; exact ival_kq f k q (by rw [hT]; exact h1) (by rw [hT]; omega)
  have i1 : ival f (k * T + q + 1) = (q + 1) * 2 ^ k := by
    rw [← hT]; exact ival_kq_succ f k q (by rw [hT]; exact h1) (by rw [hT]; exact h2)
  have i2 : (q + 2) * 2 ^ k ≤ ival f (k * T + q + 2) := by
    by_cases hq : q + 2 ≤ 2 * T
    · rw [Nat.add_assoc, ← hT, ival_kq f k (q + 2) (by rw [hT]; omega) (by rw [hT]; omega)]
    · -- `q` is the last significand of its binade: two steps on, the spacing has doubled
      have hqe : q + 2 = 2 * T + 1 := by omega
      rw [Nat.add_assoc, hqe, ← Nat.add_assoc, ← hT, ival_kq_succ_top]
      exact Nat.mul_le_mul_right _ (Nat.le_succ _)
  rw [i0, i1, hTT]
  have hp := Nat.two_pow_pos k
  have hge : 2 * 2 ^ k ≤ ival f (k * T + q + 2) - q * 2 ^ k := by
    have : (q + 2) * 2 ^ k = q * 2 ^ k + 2 * 2 ^ k := by ring
    omega
  have h3 : 2 * T * (2 * 2 ^ k) ≤ 2 * T * (ival f (k * T + q + 2) - q * 2 ^ k) := Nat.mul_le_mul_left _ hge
  have h4 : q * 2 ^ k + (q + 1) * 2 ^ k < 2 * T * (2 * 2 ^ k) := by
    have m : (q + 1) * 2 ^ k ≤ 2 * T * 2 ^ k := Nat.mul_le_mul_right _ h2
    rw [← Nat.mul_assoc, Nat.mul_right_comm (2 * T)]
    rw [Nat.add_mul] at m ⊢
    omega
  omega

theorem roundNE_step {f : Fmt} (hf : WF f) {n1 d1 n2 d2 M : Nat} (hd1 : 0 < d1) (hd2 : 0 < d2)
    (hM : 2 ^ f.p ≤ M) (hrel : n2 * d1 * M ≤ n1 * d2 * (M + 1)) :
    roundNE f n2 d2 ≤ roundNE f n1 d1 + 1 := by
  apply Classical.byContradiction; intro hcon
  have c1 := inCell_roundNE hf n1 (Nat.ne_of_gt hd1)
  have c2 := inCell_roundNE hf n2 (Nat.ne_of_gt hd2)
  generalize roundNE f n1 d1 = a at *
  generalize roundNE f n2 d2 = c at *
  have hca : a + 2 ≤ c := by omega
  have ha_fin : a < f.infBits := by have := c2.le_inf; omega
  have hU := c1.upper ha_fin
  have hLo := c2.lower (by omega)
  have m1 : ival f (a + 1) ≤ ival f (c - 1) := ival_mono f (by omega)
  have m2 : ival f (a + 2) ≤ ival f c := ival_mono f hca
  have hsp := cells_spread hf a
  have hmono : ival f a ≤ ival f (a + 2) := ival_mono f (by omega)
  generalize ival f a = I0 at *
  generalize ival f (a + 1) = I1 at *
  generalize ival f (a + 2) = I2 at *
  generalize ival f (c - 1) = J1 at *
  generalize ival f c = J2 at *
  generalize hN1 : n1 * 2 ^ L f = N1 at *
  generalize hN2 : n2 * 2 ^ L f = N2 at *
  have hrel' : N2 * d1 * M ≤ N1 * d2 * (M + 1) := by
    have := Nat.mul_le_mul_right (2 ^ L f) hrel
    rw [← hN1, ← hN2]
    calc n2 * 2 ^ L f * d1 * M = n2 * d1 * M * 2 ^ L f := by ring
      _ ≤ n1 * d2 * (M + 1) * 2 ^ L f := this
      _ = n1 * 2 ^ L f * d2 * (M + 1) := by ring
  -- D1·D2·M·(I1 + I2) ≤ 2·N2·D1·M ≤ 2·N1·D2·(M+1) ≤ D1·D2·(M+1)·(I0 + I1)
  have k1 : d2 * (I1 + I2) ≤ 2 * N2 := by
    have : d2 * (I1 + I2) ≤ d2 * (J1 + J2) := Nat.mul_le_mul_left _ (by omega)
    omega
  have k2 : d1 * M * (d2 * (I1 + I2)) ≤ d1 * M * (2 * N2) := Nat.mul_le_mul_left _ k1
  have k3 : d2 * (M + 1) * (2 * N1) ≤ d2 * (M + 1) * (d1 * (I0 + I1)) := Nat.mul_le_mul_left _ hU
  have k4 : d1 * M * (2 * N2) = 2 * (N2 * d1 * M) := by ring
  have k5 : d2 * (M + 1) * (2 * N1) = 2 * (N1 * d2 * (M + 1)) := by ring
  have k6 : d1 * M * (d2 * (I1 + I2)) ≤ d2 * (M + 1) * (d1 * (I0 + I1)) := by omega
  have k7 : d1 * M * (d2 * (I1 + I2)) = (d1 * d2) * (M * (I1 + I2)) := by ring
  have k8 : d2 * (M + 1) * (d1 * (I0 + I1)) = (d1 * d2) * ((M + 1) * (I0 + I1)) := by ring
  rw [k7, k8] at k6
  have k9 : M * (I1 + I2) ≤ (M + 1) * (I0 + I1) := Nat.le_of_mul_le_mul_left k6 (Nat.mul_pos hd1 hd2)
  -- M·(I2 − I0) ≤ I0 + I1 < 2^p·(I2 − I0) ≤ M·(I2 − I0)
  have k10 : 2 ^ f.p * (I2 - I0) ≤ M * (I2 - I0) := Nat.mul_le_mul_right _ hM
  have k11 : M * (I2 - I0) + M * I0 = M * I2 := by
    rw [← Nat.mul_add]; congr 1; omega
  rw [Nat.mul_add, Nat.add_mul, Nat.one_mul, Nat.mul_add] at k9
  omega

end LexVerif.Proof.RoundNE
