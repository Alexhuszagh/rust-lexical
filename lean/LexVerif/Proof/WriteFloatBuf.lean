import LexVerif.Model.WriteFloat
/-!
# Proof.WriteFloatBuf — calculus of the buffer primitives of `Model.WriteFloat`

`Starts b t` (the buffer begins with the text `t`) with its one pointwise lemma `Starts.put` says what a chain of `WBuf.put`s
leaves in the buffer.  `roundUp_cases` and `truncateAndRound_cases` say what `round_up` and `truncate_and_round_decimal` return;
`writeFloatB_eq` splits `write_float` into its asserts and sign and the writer that runs on the rest of the buffer.
The inversion lemmas of the checked primitives (`… = .ok r ↔ side conditions ∧ r = …`) characterise the model; the layout proofs
do not go through them but walk a writer with the rules of `WriteFloatBound.Sized`.
-/
namespace LexVerif.Proof.WriteFloatBuf
open LexVerif.Spec LexVerif.Model LexVerif.Model.WriteFloat
open LexVerif.Model.WriteInt (Res)

@[simp] theorem bind_ok_iff {α β} (x : Res α) (f : α → Res β) (r : β) :
    (x >>= f) = .ok r ↔ ∃ a, x = .ok a ∧ f a = .ok r := by
  cases x <;> simp [bind, Res.bind]

theorem bind_fault_iff {α β} (x : Res α) (f : α → Res β) :
    (x >>= f) = .fault ↔ x = .fault ∨ ∃ a, x = .ok a ∧ f a = .fault := by
  cases x <;> simp [bind, Res.bind]

@[simp] theorem length_upd (l : List Nat) (off : Nat) (xs : List Nat) : (upd l off xs).length = l.length := by
  simp [upd]

theorem getD_upd (l : List Nat) (off : Nat) (xs : List Nat) (i : Nat) :
    (upd l off xs).getD i 0 =
      if off ≤ i ∧ i < off + xs.length ∧ i < l.length then xs.getD (i - off) 0 else l.getD i 0 := by
  simp only [upd, List.getD_eq_getElem?_getD, List.getElem?_mapIdx]
  by_cases hi : i < l.length
  · simp only [List.getElem?_eq_getElem hi, Option.map_some, Option.getD_some, hi, and_true]
  · simp [hi]

@[simp] theorem put_length (b : WBuf) (off : Nat) (xs : List Nat) : (b.put off xs).bytes.length = b.bytes.length := by
  simp [WBuf.put]
@[simp] theorem put_len (b : WBuf) (off : Nat) (xs : List Nat) : (b.put off xs).len = b.len := by
  simp [WBuf.len]
theorem put_getD (b : WBuf) (off : Nat) (xs : List Nat) (i : Nat) :
    (b.put off xs).bytes.getD i 0 =
      if off ≤ i ∧ i < off + xs.length ∧ i < b.bytes.length then xs.getD (i - off) 0 else b.bytes.getD i 0 := by
  simp only [WBuf.put]; exact getD_upd ..
theorem put_hi (b : WBuf) (off : Nat) (xs : List Nat) :
    (b.put off xs).hi = max b.hi (off + xs.length) := rfl

theorem set_ok_iff (b b' : WBuf) (i v : Nat) : b.set i v = .ok b' ↔ i < b.len ∧ b' = b.put i [v] := by
  unfold WBuf.set; split
  · simp [*, eq_comm]
  · simp [*]
theorem get_ok_iff (b : WBuf) (i x : Nat) : b.get i = .ok x ↔ i < b.len ∧ x = b.bytes.getD i 0 := by
  unfold WBuf.get; split
  · simp [*, eq_comm]
  · simp [*]
theorem blit_ok_iff (b b' : WBuf) (off : Nat) (xs : List Nat) :
    b.blit off xs = .ok b' ↔ off + xs.length ≤ b.len ∧ b' = b.put off xs := by
  unfold WBuf.blit; split
  · simp [*, eq_comm]
  · simp [*]
theorem fill_ok_iff (b b' : WBuf) (i j v : Nat) :
    b.fill i j v = .ok b' ↔ (i ≤ j ∧ j ≤ b.len) ∧ b' = b.put i (List.replicate (j - i) v) := by
  unfold WBuf.fill; split
  · simp [*, eq_comm]
  · simp [*]
theorem demand_ok_iff (b : WBuf) (k need : Nat) (u : Unit) :
    b.demand k need = .ok u ↔ k ≤ b.len ∧ need ≤ b.len - k := by
  unfold WBuf.demand; split
  · simp [*]
  · simp [*]

theorem set_nofault (b : WBuf) (i v : Nat) : b.set i v ≠ .fault := by unfold WBuf.set; split <;> simp
theorem get_nofault (b : WBuf) (i : Nat) : b.get i ≠ .fault := by unfold WBuf.get; split <;> simp
theorem blit_nofault (b : WBuf) (off : Nat) (xs : List Nat) : b.blit off xs ≠ .fault := by
  unfold WBuf.blit; split <;> simp
theorem fill_nofault (b : WBuf) (i j v : Nat) : b.fill i j v ≠ .fault := by unfold WBuf.fill; split <;> simp
theorem demand_nofault (b : WBuf) (k need : Nat) : b.demand k need ≠ .fault := by
  unfold WBuf.demand; split <;> simp

@[simp] theorem chars_length (ds : List Nat) : (chars ds).length = ds.length := by simp [chars]
theorem chars_append (a b : List Nat) : chars (a ++ b) = chars a ++ chars b := by simp [chars]
@[simp] theorem zeros_length (n : Nat) : (zeros n).length = n := by simp [zeros]

theorem minExactDigits_eq (c : Nat) (o : WOpts) : minExactDigits c o = max (o.minDigits.getD 0) c := by
  unfold minExactDigits; split <;> rename_i h <;> simp [h]

@[simp] theorem minExact_noMax (c : Nat) (o : WOpts) :
    minExactDigits c { o with maxDigits := none } = minExactDigits c o := rfl
@[simp] theorem tr_noMax (ds : List Nat) (o : WOpts) : truncateAndRound ds { o with maxDigits := none } = (ds, false) := rfl

theorem padZeros_ok_iff (b : WBuf) (cursor count exact : Nat) (r : Out) :
    padZeros b cursor count exact = .ok r ↔
      if count < exact then cursor + (exact - count) ≤ b.len ∧
        r = ⟨b.put cursor (List.replicate (exact - count) 48), cursor + (exact - count)⟩
      else r = ⟨b, cursor⟩ := by
  unfold padZeros
  split
  · have h1 : cursor + (exact - count) - cursor = exact - count := by omega
    simp only [bind_ok_iff, fill_ok_iff, Res.ok.injEq, h1]
    constructor
    · rintro ⟨a, ⟨⟨_, h3⟩, rfl⟩, rfl⟩; exact ⟨h3, rfl⟩
    · rintro ⟨h3, rfl⟩; exact ⟨_, ⟨⟨by omega, h3⟩, rfl⟩, rfl⟩
  · simp [eq_comm]

theorem writeExponentB_ok_iff (fmt : Format) (feats : Features) (b : WBuf) (cursor : Nat) (e : Int) (c : Nat) (r : Out) :
    writeExponentB fmt feats b cursor e c = .ok r ↔
      cursor < b.len ∧ cursor + 1 + (expSign fmt feats e).length ≤ b.len ∧
      (cursor + 1 + (expSign fmt feats e).length ≤ b.len ∧
        expNeed feats fmt.exponentRadix (numeral fmt.exponentRadix e.natAbs).length
          ≤ b.len - (cursor + 1 + (expSign fmt feats e).length)) ∧
      cursor + 1 + (expSign fmt feats e).length + (numeral fmt.exponentRadix e.natAbs).length ≤ b.len ∧
      r = ⟨((b.put cursor [c]).put (cursor + 1) (expSign fmt feats e)).put (cursor + 1 + (expSign fmt feats e).length)
              (numeral fmt.exponentRadix e.natAbs),
           cursor + 1 + (expSign fmt feats e).length + (numeral fmt.exponentRadix e.natAbs).length⟩ := by
  unfold writeExponentB
  simp only [bind_ok_iff, set_ok_iff, blit_ok_iff, demand_ok_iff, Res.ok.injEq]
  constructor
  · rintro ⟨b1, ⟨h1, rfl⟩, b2, ⟨h2, rfl⟩, u, h3, b3, ⟨h4, rfl⟩, rfl⟩
    simp only [put_len] at h2 h3 h4
    exact ⟨h1, h2, h3, h4, rfl⟩
  · rintro ⟨h1, h2, h3, h4, rfl⟩
    exact ⟨_, ⟨h1, rfl⟩, _, ⟨by simpa using h2, rfl⟩, (), by simpa using h3, _, ⟨by simpa using h4, rfl⟩, rfl⟩

theorem roundUp_go_cases (r : Nat) : ∀ rl : List Nat,
    (∃ s d p, rl = s ++ d :: p ∧ d + 1 < r ∧ (∀ x ∈ s, ¬ x + 1 < r) ∧ roundUp.go r rl = ((d + 1) :: p, false)) ∨
    ((∀ x ∈ rl, ¬ x + 1 < r) ∧ roundUp.go r rl = ([1], true))
  | [] => .inr ⟨by simp, rfl⟩
  | d :: rest => by
    unfold roundUp.go
    by_cases h : d + 1 < r
    · rw [if_pos h]; exact .inl ⟨[], d, rest, rfl, h, by simp, rfl⟩
    · rw [if_neg h]
      rcases roundUp_go_cases r rest with ⟨s, d', p, rfl, h1, h2, h3⟩ | ⟨h1, h2⟩
      · exact .inl ⟨d :: s, d', p, rfl, h1, fun x hx => (List.mem_cons.mp hx).elim (fun e => e ▸ h) (h2 x), h3⟩
      · exact .inr ⟨fun x hx => (List.mem_cons.mp hx).elim (fun e => e ▸ h) (h1 x), h2⟩

theorem roundUp_cases (r : Nat) (ds : List Nat) :
    (∃ p d s, ds = p ++ d :: s ∧ d + 1 < r ∧ (∀ x ∈ s, ¬ x + 1 < r) ∧ roundUp r ds = (p ++ [d + 1], false)) ∨
    ((∀ x ∈ ds, ¬ x + 1 < r) ∧ roundUp r ds = ([1], true)) := by
  unfold roundUp
  rcases roundUp_go_cases r ds.reverse with ⟨s, d, p, h0, h1, h2, h3⟩ | ⟨h1, h2⟩
  · refine .inl ⟨p.reverse, d, s.reverse, ?_, h1, by simpa using h2, by rw [h3]; simp⟩
    have := congrArg List.reverse h0
    simpa using this
  · exact .inr ⟨by simpa using h1, by rw [h2]; rfl⟩

theorem roundUp_length (r : Nat) (ds : List Nat) :
    1 ≤ (roundUp r ds).1.length ∧ (roundUp r ds).1.length ≤ max 1 ds.length := by
  rcases roundUp_cases r ds with ⟨p, d, s, rfl, _, _, h⟩ | ⟨_, h⟩ <;> rw [h] <;> simp <;> omega

theorem roundUp_carry (r : Nat) (ds : List Nat) (h : (roundUp r ds).2 = true) : (roundUp r ds).1 = [1] := by
  rcases roundUp_cases r ds with ⟨p, d, s, _, _, _, h'⟩ | ⟨_, h'⟩ <;> rw [h'] at h ⊢ <;> simp at h ⊢

theorem truncateAndRound_cases (ds : List Nat) (o : WOpts) :
    ((∀ mx, o.maxDigits = some mx → ds.length ≤ mx) ∧ truncateAndRound ds o = (ds, false)) ∨
    ∃ mx, o.maxDigits = some mx ∧ mx < ds.length ∧
      (truncateAndRound ds o = (ds.take mx, false) ∨ truncateAndRound ds o = roundUp 10 (ds.take mx)) := by
  unfold truncateAndRound
  cases hm : o.maxDigits with
  | none => exact Or.inl ⟨(fun _ h => nomatch h), rfl⟩
  | some mx =>
    simp only []
    by_cases c1 : mx ≥ ds.length
    · rw [if_pos c1]; exact Or.inl ⟨fun m h => (Option.some.inj h) ▸ c1, rfl⟩
    · rw [if_neg c1]
      refine Or.inr ⟨mx, rfl, by omega, ?_⟩
      split
      · exact Or.inl rfl
      · split
        · exact Or.inl rfl
        · split
          · exact Or.inr rfl
          · split
            · exact Or.inr rfl
            · exact Or.inl rfl

theorem truncateAndRound_carry (ds : List Nat) (o : WOpts) (h : (truncateAndRound ds o).2 = true) :
    (truncateAndRound ds o).1 = [1] := by
  rcases truncateAndRound_cases ds o with ⟨_, e⟩ | ⟨mx, _, _, e | e⟩
  · rw [e] at h; cases h
  · rw [e] at h; cases h
  · rw [e] at h ⊢; exact roundUp_carry 10 _ h

theorem truncateAndRound_length (ds : List Nat) (o : WOpts) (hds : 1 ≤ ds.length) (hmx : o.maxDigits ≠ some 0) :
    1 ≤ (truncateAndRound ds o).1.length ∧ (truncateAndRound ds o).1.length ≤ ds.length ∧
    (∀ mx, o.maxDigits = some mx → (truncateAndRound ds o).1.length ≤ mx) ∧
    ((truncateAndRound ds o).2 = true → (truncateAndRound ds o).1 = [1]) := by
  rcases truncateAndRound_cases ds o with ⟨hle, e⟩ | ⟨mx, hm, hlen, e⟩
  · rw [e]; exact ⟨hds, Nat.le_refl _, hle, fun h => by cases h⟩
  · have h1 : 1 ≤ mx := Nat.pos_of_ne_zero fun h0 => hmx (by rw [hm, h0])
    have htl : (ds.take mx).length = mx := by simp; omega
    have hmx' : ∀ m, o.maxDigits = some m → mx ≤ m := fun m h => by rw [hm] at h; cases h; exact Nat.le_refl _
    rcases e with e | e
    · rw [e]
      show 1 ≤ (ds.take mx).length ∧ (ds.take mx).length ≤ ds.length ∧
        (∀ m, o.maxDigits = some m → (ds.take mx).length ≤ m) ∧ (false = true → ds.take mx = [1])
      rw [htl]
      exact ⟨h1, by omega, hmx', fun h => by cases h⟩
    · have hru := roundUp_length 10 (ds.take mx)
      rw [htl] at hru
      rw [e]; exact ⟨hru.1, by omega, fun m h => by have := hmx' m h; omega, roundUp_carry 10 _⟩

theorem trimPos_cases (o : WOpts) (leading : Nat) (ds : List Nat) :
    trimPos o leading ds = ds ∨ (trimPos o leading ds = ds.take leading ∧ leading < ds.length) := by
  unfold trimPos; split
  · rename_i h; exact Or.inr ⟨rfl, h.2.1⟩
  · exact Or.inl rfl

theorem trimPos_length (o : WOpts) (leading : Nat) (ds : List Nat) (h : 1 ≤ ds.length) (hl : 1 ≤ leading) :
    1 ≤ (trimPos o leading ds).length ∧ (trimPos o leading ds).length ≤ ds.length := by
  rcases trimPos_cases o leading ds with h' | ⟨h', h2⟩ <;> rw [h'] <;> simp <;> omega

theorem trimPos_one (o : WOpts) (leading : Nat) (hl : 1 ≤ leading) : trimPos o leading [1] = [1] := by
  unfold trimPos; rw [if_neg]; simp; omega

theorem trimSci_eq_trimPos (o : WOpts) (ds : List Nat) : trimSci o ds = trimPos o 1 ds := by
  unfold trimSci trimPos
  cases ds with
  | nil => simp
  | cons d t =>
    cases t with
    | nil => simp
    | cons x y => simp

theorem trimSci_cases (o : WOpts) (ds : List Nat) : trimSci o ds = ds ∨ trimSci o ds = ds.take 1 := by
  rw [trimSci_eq_trimPos]; exact (trimPos_cases o 1 ds).imp id And.left

theorem trimSci_length (o : WOpts) (ds : List Nat) (h : 1 ≤ ds.length) :
    1 ≤ (trimSci o ds).length ∧ (trimSci o ds).length ≤ ds.length := by
  rw [trimSci_eq_trimPos]; exact trimPos_length o 1 ds h (Nat.le_refl _)

theorem trimSci_one (o : WOpts) : trimSci o [1] = [1] := by
  rw [trimSci_eq_trimPos]; exact trimPos_one o 1 (Nat.le_refl _)

@[simp] theorem trimSci_noMax (o : WOpts) (ds : List Nat) : trimSci { o with maxDigits := none } ds = trimSci o ds := rfl
@[simp] theorem trimPos_noMax (o : WOpts) (l : Nat) (ds : List Nat) :
    trimPos { o with maxDigits := none } l ds = trimPos o l ds := rfl

theorem roundSci_length (ds : List Nat) (o : WOpts) (hds : 1 ≤ ds.length) (hmx : o.maxDigits ≠ some 0) :
    1 ≤ (roundSci ds o).1.length ∧ (roundSci ds o).1.length ≤ ds.length ∧
    (∀ mx, o.maxDigits = some mx → (roundSci ds o).1.length ≤ mx) ∧
    ((roundSci ds o).2 = true → (roundSci ds o).1 = [1]) ∧
    (roundSci ds o).1.length ≤ (truncateAndRound ds o).1.length := by
  obtain ⟨h1, h2, h3, h4⟩ := truncateAndRound_length ds o hds hmx
  have ht := trimSci_length o (truncateAndRound ds o).1 h1
  unfold roundSci
  dsimp only
  refine ⟨ht.1, by omega, fun mx hm => by have := h3 mx hm; omega, fun hc => ?_, ht.2⟩
  rw [h4 hc]; exact trimSci_one o

theorem roundPos_length (ds : List Nat) (e : Int) (o : WOpts) (hds : 1 ≤ ds.length) (hmx : o.maxDigits ≠ some 0) :
    1 ≤ (roundPos ds e o).1.length ∧ (roundPos ds e o).1.length ≤ ds.length ∧
    (∀ mx, o.maxDigits = some mx → (roundPos ds e o).1.length ≤ mx) ∧
    ((roundPos ds e o).2 = true → (roundPos ds e o).1 = [1]) ∧
    (roundPos ds e o).1.length ≤ (truncateAndRound ds o).1.length := by
  obtain ⟨h1, h2, h3, h4⟩ := truncateAndRound_length ds o hds hmx
  have ht := trimPos_length o (e.toNat + 1 + (if (truncateAndRound ds o).2 = true then 1 else 0))
    (truncateAndRound ds o).1 h1 (by omega)
  unfold roundPos
  dsimp only
  refine ⟨ht.1, by omega, fun mx hm => by have := h3 mx hm; omega, fun hc => ?_, ht.2⟩
  rw [h4 hc]; exact trimPos_one o _ (by omega)

@[simp] theorem roundSci_noMax (ds : List Nat) (o : WOpts) :
    roundSci ds { o with maxDigits := none } = (trimSci o ds, false) := rfl
@[simp] theorem roundPos_noMax (ds : List Nat) (e : Int) (o : WOpts) :
    roundPos ds e { o with maxDigits := none } = (trimPos o (e.toNat + 1) ds, false) := rfl

theorem ext_getD (a b : List Nat) (hl : a.length = b.length) (h : ∀ i, i < a.length → a.getD i 0 = b.getD i 0) : a = b := by
  apply List.ext_getElem hl
  intro i h1 h2
  have := h i h1
  simpa [List.getD_eq_getElem?_getD, List.getElem?_eq_getElem h1, List.getElem?_eq_getElem h2] using this

theorem take_eq_of_getD (l t : List Nat) (n : Nat) (hn : n ≤ l.length) (hl : t.length = n)
    (h : ∀ i, i < n → l.getD i 0 = t.getD i 0) : l.take n = t := by
  apply ext_getD
  · simp [hl]; omega
  · intro i hi
    simp only [List.length_take] at hi
    have hi' : i < n := by omega
    rw [← h i hi']
    simp [List.getD_eq_getElem?_getD, hi']

def Starts (b : WBuf) (t : List Nat) : Prop := t.length ≤ b.len ∧ b.bytes.take t.length = t

theorem Starts.nil (b : WBuf) : Starts b [] := ⟨Nat.zero_le _, rfl⟩

/-- The one pointwise argument about buffer contents; the layout proofs compose it. -/
theorem Starts.put {b : WBuf} {t u xs : List Nat} {off : Nat} (h : Starts b (t ++ u)) (hle : off + xs.length ≤ b.len)
    (hoff : off = t.length) : Starts (b.put off xs) (t ++ xs ++ u.drop xs.length) := by
  subst hoff
  obtain ⟨h1, h2⟩ := h
  have hlen : (t ++ xs ++ u.drop xs.length).length ≤ b.len := by
    simp only [List.length_append, List.length_drop] at h1 ⊢; omega
  refine ⟨by rw [put_len]; exact hlen, ?_⟩
  apply take_eq_of_getD _ _ _ (by rw [put_length]; exact hlen) rfl
  intro i hi
  have h3 : b.bytes.getD i 0 = (t ++ u).getD i 0 ∨ (t ++ u).length ≤ i := by
    by_cases hiu : i < (t ++ u).length
    · left; rw [← h2, List.getD_eq_getElem?_getD, List.getD_eq_getElem?_getD, List.getElem?_take_of_lt hiu]
    · right; omega
  simp only [List.length_append, List.length_drop] at hi h3
  rw [put_getD]
  simp only [List.getD_eq_getElem?_getD, List.getElem?_append, List.getElem?_drop, List.length_append] at h3 ⊢
  simp only [WBuf.len] at hle
  -- `i` lies in `t`, in `xs`, or in what is left of `u`: both sides are `getElem?` of appends, compared range by range
  grind

theorem Starts.append {b : WBuf} {t xs : List Nat} {off : Nat} (h : Starts b t) (hle : off + xs.length ≤ b.len)
    (hoff : off = t.length) : Starts (b.put off xs) (t ++ xs) := by
  have := Starts.put (u := []) (by rwa [List.append_nil]) hle hoff
  rwa [List.drop_nil, List.append_nil] at this

theorem Starts.set {b : WBuf} {t : List Nat} {i v : Nat} (h : Starts b t) (hlt : i < b.len) (hoff : i = t.length) :
    Starts (b.put i [v]) (t ++ [v]) := h.append hlt hoff

theorem Starts.left {b : WBuf} {t u : List Nat} (h : Starts b (t ++ u)) : Starts b t := by
  refine ⟨Nat.le_trans (by rw [List.length_append]; omega) h.1, ?_⟩
  have := congrArg (List.take t.length) h.2
  rwa [List.take_take, Nat.min_eq_left (by rw [List.length_append]; omega), List.take_left'  rfl] at this

theorem Starts.cast {b : WBuf} {t t' : List Nat} (h : Starts b t) (e : t = t') : Starts b t' := e ▸ h

theorem Starts.getD {b : WBuf} {t : List Nat} {i : Nat} (h : Starts b t) (hi : i < t.length) :
    b.bytes.getD i 0 = t.getD i 0 := by
  rw [← h.2, List.getD_eq_getElem?_getD, List.getD_eq_getElem?_getD, List.getElem?_take_of_lt hi]

def Wrote (r : Out) (t : List Nat) : Prop := Starts r.buf t ∧ r.cursor = t.length

theorem writeExponent_eq (fmt : Format) (feats : Features) (e : Int) (c r : Nat) :
    writeExponent fmt feats e c r = [c] ++ expSign fmt feats e ++ numeral r e.natAbs := rfl

def floatSign (feats : Features) (f : Fmt) (fmt : Format) (bits : Nat) : List Nat :=
  if f.isNeg bits ∧ ¬ f.isNaN bits then [45] else if feats.format ∧ fmt.requiredMantissaSign then [43] else []

theorem floatSign_nan {f : Fmt} {bits : Nat} (feats : Features) (fmt : Format) (h : f.isNaN bits = true) :
    floatSign feats f fmt bits = if feats.format = true ∧ fmt.requiredMantissaSign = true then [43] else [] := by
  unfold floatSign; simp [h]

theorem floatSign_not_nan {f : Fmt} {bits : Nat} (feats : Features) (fmt : Format) (h : f.isNaN bits = false) :
    floatSign feats f fmt bits =
      if f.isNeg bits = true then [45] else if feats.format = true ∧ fmt.requiredMantissaSign = true then [43] else [] := by
  unfold floatSign; simp [h]

theorem mem_floatSign {feats : Features} {f : Fmt} {fmt : Format} {bits b : Nat} (h : b ∈ floatSign feats f fmt bits) :
    b = 45 ∨ b = 43 := by
  unfold floatSign at h
  repeat' split at h
  all_goals simp at h
  all_goals omega

theorem floatSign_length_le (feats : Features) (f : Fmt) (fmt : Format) (bits : Nat) :
    (floatSign feats f fmt bits).length ≤ 1 := by
  unfold floatSign; repeat' split
  all_goals simp

/-- `check_buffer`, one of the format asserts or the sign byte fails -/
abbrev Refused (bound : Nat) (feats : Features) (f : Fmt) (fmt : Format) (bits : Nat) (buf : List Nat) : Prop :=
  buf.length < bound ∨ ¬ FormatError.isValid feats fmt.raw = true ∨ ¬ mixedRadixOk feats fmt = true ∨
    (floatSign feats f fmt bits).length > buf.length

theorem writeFloatB_eq (bound : Nat) (feats : Features) (f : Fmt) (fmt : Format) (o : WOpts) (debug : Bool) (bits : Nat)
    (digits : List Nat × Int) (buf : List Nat) :
    writeFloatB bound feats f fmt o debug bits digits buf =
      if Refused bound feats f fmt bits buf then .panic
      else finalCheck
        (if f.isSpecial bits = true then
          onTail (floatSign feats f fmt bits) (buf.drop (floatSign feats f fmt bits).length)
            (writeSpecial (if f.isNaN bits = true then o.nan else o.inf))
        else if backend feats fmt = .decimal then
          onTail (floatSign feats f fmt bits) (buf.drop (floatSign feats f fmt bits).length)
            (decimalB fmt feats f debug digits.1 digits.2 o)
        else .other (backend feats fmt) (floatSign feats f fmt bits).length) := by
  unfold writeFloatB Refused floatSign
  dsimp only
  generalize (if f.isNeg bits = true ∧ ¬f.isNaN bits = true then [45]
    else if feats.format = true ∧ fmt.requiredMantissaSign = true then [43] else []) = sign
  by_cases h1 : buf.length < bound
  · simp only [h1, true_or, if_true]
  by_cases h2 : FormatError.isValid feats fmt.raw = true
  · by_cases h3 : mixedRadixOk feats fmt = true
    · by_cases h4 : sign.length > buf.length
      · simp only [h1, h2, h3, h4, not_true_eq_false, or_true, if_true, if_false]
      · simp only [h1, h2, h3, h4, not_true_eq_false, or_self, if_false]
        congr 1
        by_cases hs : f.isSpecial bits = true
        · simp only [hs, not_true_eq_false, if_true, if_false]
          split <;> rfl
        · simp only [hs]
          cases backend feats fmt <;> rfl
    · simp only [h1, h2, h3, Bool.false_eq_true, not_true_eq_false, not_false_eq_true, true_or, or_true, if_true, if_false]
  · simp only [h1, h2, Bool.false_eq_true, not_false_eq_true, true_or, or_true, if_true, if_false]

/-! ## the effective format: without the `format` feature the flag bits (0–63) are cleared, the bytes above them stay -/

theorem clr_eq (raw : Nat) : raw - raw % 2 ^ 64 = 2 ^ 64 * (raw / 2 ^ 64) := by
  have := Nat.div_add_mod raw (2 ^ 64); omega

theorem clr_bit (raw i : Nat) (hi : i < 64) : (raw - raw % 2 ^ 64) / 2 ^ i % 2 = 0 := by
  rw [clr_eq]
  generalize raw / 2 ^ 64 = q
  have h2 : (2:Nat) ^ 64 = 2 ^ i * (2 * 2 ^ (63 - i)) := by
    rw [← Nat.pow_succ', ← Nat.pow_add]; congr 1; omega
  rw [h2, Nat.mul_assoc, Nat.mul_div_cancel_left _ (Nat.pow_pos (by omega)), Nat.mul_assoc]
  exact Nat.mul_mod_right 2 _

theorem clr_byte (raw k : Nat) (hk : 64 ≤ k) : (raw - raw % 2 ^ 64) / 2 ^ k % 256 = raw / 2 ^ k % 256 := by
  have h2 : (2:Nat) ^ k = 2 ^ 64 * 2 ^ (k - 64) := by rw [← Nat.pow_add]; congr 1; omega
  rw [clr_eq, h2, ← Nat.div_div_eq_div_mul, Nat.mul_div_cancel_left _ (Nat.pow_pos (by omega)),
    Nat.div_div_eq_div_mul]

theorem effFmt_format (feats : Features) (fmt : Format) (h : feats.format = true) : effFmt feats fmt = fmt := by
  simp [effFmt, h]

theorem effFmt_bit (feats : Features) (fmt : Format) (h : feats.format = false) (i : Nat) (hi : i < 64) :
    (effFmt feats fmt).bit i = false := by
  simp [effFmt, h, Format.bit, clr_bit fmt.raw i hi]

theorem effFmt_byte (feats : Features) (fmt : Format) (k : Nat) (hk : 64 ≤ k) :
    (effFmt feats fmt).byteAt k = fmt.byteAt k := by
  unfold effFmt
  split
  · rfl
  · exact clr_byte fmt.raw k hk

theorem effFmt_exponentRadix (feats : Features) (fmt : Format) :
    (effFmt feats fmt).exponentRadix = fmt.exponentRadix := by
  unfold Format.exponentRadix Format.exponentRadixRaw Format.mantissaRadix
  rw [effFmt_byte _ _ 120 (by omega), effFmt_byte _ _ 104 (by omega)]

end LexVerif.Proof.WriteFloatBuf
