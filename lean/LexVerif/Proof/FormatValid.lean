import LexVerif.Model.FormatError
import LexVerif.Spec.FormatValid
import LexVerif.Proof.Bits
import LexVerif.Proof.CharDigit
import LexVerif.Proof.CheckChain
/-!
# Proof.FormatValid — `format_error_impl` walks the documented checks

The lemmas under `Props/C18`, in its namespace: the bit layout of the packed format, one lemma per test of the
validator saying that it decides the documented predicate of `Spec.FormatValid` (the `*_spec`), and the walk itself:
`formatError_chain`, the validator is `firstFailed` over `Spec.checks`.
-/
namespace LexVerif.Props.C18
open LexVerif.Model LexVerif.Model.FormatError LexVerif.Spec LexVerif.Proof.Bits LexVerif.Proof.CheckChain
namespace G
export LexVerif.Gen.FormatFlags (REQUIRED_INTEGER_DIGITS REQUIRED_FRACTION_DIGITS REQUIRED_EXPONENT_DIGITS
  REQUIRED_MANTISSA_DIGITS REQUIRED_DIGITS NO_POSITIVE_MANTISSA_SIGN REQUIRED_MANTISSA_SIGN NO_EXPONENT_NOTATION
  NO_POSITIVE_EXPONENT_SIGN REQUIRED_EXPONENT_SIGN NO_EXPONENT_WITHOUT_FRACTION NO_SPECIAL CASE_SENSITIVE_SPECIAL
  NO_INTEGER_LEADING_ZEROS NO_FLOAT_LEADING_ZEROS REQUIRED_EXPONENT_NOTATION CASE_SENSITIVE_EXPONENT
  CASE_SENSITIVE_BASE_PREFIX CASE_SENSITIVE_BASE_SUFFIX INTEGER_INTERNAL_DIGIT_SEPARATOR
  FRACTION_INTERNAL_DIGIT_SEPARATOR EXPONENT_INTERNAL_DIGIT_SEPARATOR INTEGER_LEADING_DIGIT_SEPARATOR
  FRACTION_LEADING_DIGIT_SEPARATOR EXPONENT_LEADING_DIGIT_SEPARATOR INTEGER_TRAILING_DIGIT_SEPARATOR
  FRACTION_TRAILING_DIGIT_SEPARATOR EXPONENT_TRAILING_DIGIT_SEPARATOR INTEGER_CONSECUTIVE_DIGIT_SEPARATOR
  FRACTION_CONSECUTIVE_DIGIT_SEPARATOR EXPONENT_CONSECUTIVE_DIGIT_SEPARATOR SPECIAL_DIGIT_SEPARATOR
  INTERNAL_DIGIT_SEPARATOR LEADING_DIGIT_SEPARATOR TRAILING_DIGIT_SEPARATOR CONSECUTIVE_DIGIT_SEPARATOR
  DIGIT_SEPARATOR_SHIFT DIGIT_SEPARATOR BASE_PREFIX_SHIFT BASE_PREFIX BASE_SUFFIX_SHIFT BASE_SUFFIX
  MANTISSA_RADIX_SHIFT MANTISSA_RADIX RADIX_SHIFT RADIX EXPONENT_BASE_SHIFT EXPONENT_BASE EXPONENT_RADIX_SHIFT
  EXPONENT_RADIX RADIX_MASK FLAG_MASK INTERFACE_FLAG_MASK DIGIT_SEPARATOR_FLAG_MASK EXPONENT_FLAG_MASK
  INTEGER_DIGIT_SEPARATOR_FLAG_MASK FRACTION_DIGIT_SEPARATOR_FLAG_MASK EXPONENT_DIGIT_SEPARATOR_FLAG_MASK)
end G

/-! ## the generated constants are the layout `Model.Format` uses -/

/-- bit position of a flag in the documentation table of `format_flags.rs` (= the index used by the
`Model.Format` accessor of the same name) -/
def pos : Flag → Nat
  | .requiredIntegerDigits => 0 | .requiredFractionDigits => 1 | .requiredExponentDigits => 2
  | .requiredMantissaDigits => 3 | .noPositiveMantissaSign => 4 | .requiredMantissaSign => 5
  | .noExponentNotation => 6 | .noPositiveExponentSign => 7 | .requiredExponentSign => 8
  | .noExponentWithoutFraction => 9 | .noSpecial => 10 | .caseSensitiveSpecial => 11
  | .noIntegerLeadingZeros => 12 | .noFloatLeadingZeros => 13 | .requiredExponentNotation => 14
  | .caseSensitiveExponent => 15 | .caseSensitiveBasePrefix => 16 | .caseSensitiveBaseSuffix => 17
  | .integerInternalSep => 32 | .fractionInternalSep => 33 | .exponentInternalSep => 34
  | .integerLeadingSep => 35 | .fractionLeadingSep => 36 | .exponentLeadingSep => 37
  | .integerTrailingSep => 38 | .fractionTrailingSep => 39 | .exponentTrailingSep => 40
  | .integerConsecutiveSep => 41 | .fractionConsecutiveSep => 42 | .exponentConsecutiveSep => 43
  | .specialSep => 44

def flagOf (u : Unpacked) : Flag → Bool
  | .requiredIntegerDigits => u.requiredIntegerDigits | .requiredFractionDigits => u.requiredFractionDigits
  | .requiredExponentDigits => u.requiredExponentDigits | .requiredMantissaDigits => u.requiredMantissaDigits
  | .noPositiveMantissaSign => u.noPositiveMantissaSign | .requiredMantissaSign => u.requiredMantissaSign
  | .noExponentNotation => u.noExponentNotation | .noPositiveExponentSign => u.noPositiveExponentSign
  | .requiredExponentSign => u.requiredExponentSign | .noExponentWithoutFraction => u.noExponentWithoutFraction
  | .noSpecial => u.noSpecial | .caseSensitiveSpecial => u.caseSensitiveSpecial
  | .noIntegerLeadingZeros => u.noIntegerLeadingZeros | .noFloatLeadingZeros => u.noFloatLeadingZeros
  | .requiredExponentNotation => u.requiredExponentNotation | .caseSensitiveExponent => u.caseSensitiveExponent
  | .caseSensitiveBasePrefix => u.caseSensitiveBasePrefix | .caseSensitiveBaseSuffix => u.caseSensitiveBaseSuffix
  | .integerInternalSep => u.integerInternalSep | .fractionInternalSep => u.fractionInternalSep
  | .exponentInternalSep => u.exponentInternalSep | .integerLeadingSep => u.integerLeadingSep
  | .fractionLeadingSep => u.fractionLeadingSep | .exponentLeadingSep => u.exponentLeadingSep
  | .integerTrailingSep => u.integerTrailingSep | .fractionTrailingSep => u.fractionTrailingSep
  | .exponentTrailingSep => u.exponentTrailingSep | .integerConsecutiveSep => u.integerConsecutiveSep
  | .fractionConsecutiveSep => u.fractionConsecutiveSep | .exponentConsecutiveSep => u.exponentConsecutiveSep
  | .specialSep => u.specialSep

theorem mask_eq (fl : Flag) : fl.mask = 2 ^ pos fl := by cases fl <;> rfl

theorem pos_lt (fl : Flag) : pos fl < 45 := by cases fl <;> decide

/-- `Flag.all` lists the flags by position (bits 18..31 carry no flag), so `pos` has a left inverse -/
theorem all_pos (fl : Flag) : Flag.all[if pos fl < 32 then pos fl else pos fl - 14]? = some fl := by
  cases fl <;> rfl

theorem pos_injective (a b : Flag) (h : pos a = pos b) : a = b :=
  Option.some.inj (by rw [← all_pos a, ← all_pos b, h])

theorem mem_all (fl : Flag) : fl ∈ Flag.all := List.mem_of_getElem? (all_pos fl)

theorem hasFlag_testBit (f : Nat) (fl : Flag) : hasFlag f fl.mask = f.testBit (pos fl) := by
  rw [hasFlag, mask_eq, and_two_pow_ne_zero, Nat.testBit_eq_decide_div_mod_eq]

theorem flagOf_unpack (f : Nat) (fl : Flag) : flagOf (unpack f) fl = f.testBit (pos fl) := by
  rw [Nat.testBit_eq_decide_div_mod_eq]; cases fl <;> rfl

theorem hasFlag_unpack (f : Nat) (fl : Flag) : hasFlag f fl.mask = flagOf (unpack f) fl := by
  rw [hasFlag_testBit, flagOf_unpack]

theorem byteField_eq (f s : Nat) : byteField f ((2 ^ 8 - 1) <<< s) s = f / 2 ^ s % 256 := by
  rw [byteField, and_shifted_mask_shr]; omega

theorem u32Field_eq (f s : Nat) : u32Field f ((2 ^ 8 - 1) <<< s) s = f / 2 ^ s % 256 := by
  rw [u32Field, and_shifted_mask_shr]; omega

theorem bytes_unpack (f : Nat) :
    digitSeparator f = (unpack f).digitSeparator ∧ basePrefix f = (unpack f).basePrefix ∧
    baseSuffix f = (unpack f).baseSuffix ∧ mantissaRadix f = (unpack f).mantissaRadix ∧
    exponentBase f = (unpack f).exponentBase ∧ exponentRadix f = (unpack f).exponentRadix := by
  have h4 : mantissaRadix f = f / 2 ^ 104 % 256 := u32Field_eq f 104
  have h5 : u32Field f G.EXPONENT_BASE G.EXPONENT_BASE_SHIFT = f / 2 ^ 112 % 256 := u32Field_eq f 112
  have h6 : u32Field f G.EXPONENT_RADIX G.EXPONENT_RADIX_SHIFT = f / 2 ^ 120 % 256 := u32Field_eq f 120
  refine ⟨byteField_eq f 64, byteField_eq f 88, byteField_eq f 96, h4, ?_, ?_⟩
  · simp only [exponentBase, h5, h4]; rfl
  · simp only [exponentRadix, h6, h4]; rfl

theorem testBit_foldl (g : Flag → Bool) (l : List Flag) (acc i : Nat) :
    (l.foldl (fun format fl => if g fl then format ||| fl.mask else format) acc).testBit i =
      (acc.testBit i || l.any (fun fl => g fl && decide (pos fl = i))) := by
  induction l generalizing acc with
  | nil => simp
  | cons x xs ih =>
    rw [List.foldl_cons, ih, List.any_cons]
    by_cases hx : g x = true
    · simp only [hx, if_true, Nat.testBit_or, mask_eq, Nat.testBit_two_pow, Bool.true_and, Bool.or_assoc]
    · simp [hx]

theorem testBit_flagWord (b : Builder) (i : Nat) :
    b.flagWord.testBit i = Flag.all.any (fun fl => b.flags fl && decide (pos fl = i)) := by
  unfold Builder.flagWord; rw [testBit_foldl]; simp

theorem any_testBit (f i : Nat) (l : List Flag) :
    l.any (fun fl => f.testBit (pos fl) && decide (pos fl = i)) =
      (f.testBit i && l.any (fun fl => decide (pos fl = i))) := by
  induction l with
  | nil => simp
  | cons x xs ih =>
    rw [List.any_cons, List.any_cons, ih]
    by_cases h : pos x = i
    · subst h; cases f.testBit (pos x) <;> simp
    · simp [h]

theorem testBit_flagWord_pos (b : Builder) (fl : Flag) : b.flagWord.testBit (pos fl) = b.flags fl := by
  rw [testBit_flagWord]
  by_cases h : b.flags fl = true
  · rw [h, List.any_eq_true]; exact ⟨fl, mem_all fl, by simp [h]⟩
  · have h' : b.flags fl = false := by simpa using h
    rw [h', List.any_eq_false]
    intro x _ hx
    simp only [Bool.and_eq_true, decide_eq_true_eq] at hx
    rw [pos_injective x fl hx.2] at hx
    exact h hx.1

theorem testBit_flagMask (i : Nat) : G.FLAG_MASK.testBit i = Flag.all.any (fun fl => decide (pos fl = i)) := by
  have h : G.FLAG_MASK = Builder.flagWord { Builder.new with flags := fun _ => true } := by decide
  rw [h, testBit_flagWord]; simp

theorem and_flagMask_eq_iff (f : Nat) (b : Builder) :
    f &&& G.FLAG_MASK = b.flagWord ↔ ∀ fl, f.testBit (pos fl) = b.flags fl := by
  constructor
  · intro h fl
    rw [← testBit_flagWord_pos b, ← h, Nat.testBit_and, testBit_flagMask, List.any_eq_true.mpr ⟨fl, mem_all fl, by simp⟩,
      Bool.and_true]
  · intro h
    apply Nat.eq_of_testBit_eq
    intro i
    rw [Nat.testBit_and, testBit_flagMask, testBit_flagWord, ← any_testBit]
    simp only [h]

/-! ## each test of the validator decides a documented predicate -/

theorem isValidRadix_spec (feats : Features) (r : Nat) :
    isValidRadix feats r = decide (RadixSupported feats r) := by
  unfold isValidRadix RadixSupported
  by_cases hr : feats.radix = true
  · simp [hr]
  · by_cases hp : feats.powerOfTwo = true <;> simp [hr, hp, Bool.beq_eq_decide_eq, Bool.or_assoc]

theorem radixSupported_range {feats : Features} {r : Nat} (h : RadixSupported feats r) : 2 ≤ r ∧ r ≤ 36 := by
  unfold RadixSupported at h
  by_cases hr : feats.radix = true
  · simp [hr] at h; omega
  · by_cases hp : feats.powerOfTwo = true <;> simp [hr, hp] at h <;> omega

theorem control_spec (r v : Nat) (hr : r ≤ 255) (hv : v < 256) :
    isValidOptionalControlRadix r v = decide (v = 0 ∨ ControlChar r v) := by
  have hd := LexVerif.Proof.CharDigit.charIsDigit_eq_false_iff v r hv hr
  have h0 : digitVal r 0 = none := rfl
  unfold isValidOptionalControlRadix ControlChar ValidAscii isValidAscii
  rw [Bool.eq_iff_iff]
  simp only [Bool.and_eq_true, Bool.not_eq_true', Bool.or_eq_true, decide_eq_true_eq, bne_iff_ne, beq_iff_eq, hd]
  by_cases hz : v = 0
  · subst hz; simp [h0]
  · simp only [hz, or_false, false_or, ne_eq]
    exact ⟨fun ⟨⟨⟨a, b⟩, c⟩, d⟩ => ⟨d, a, b, c⟩, fun ⟨d, a, b, c⟩ => ⟨⟨⟨a, b⟩, c⟩, d⟩⟩

theorem consec_bits (f a b c d : Nat) (hab : a < b) (hbc : b < c) (hcd : c < d) :
    f &&& (2 ^ a ||| 2 ^ b ||| 2 ^ c ||| 2 ^ d) = 2 ^ d ↔
      f.testBit d = true ∧ f.testBit a = false ∧ f.testBit b = false ∧ f.testBit c = false := by
  constructor
  · intro h
    have t : ∀ i, (f.testBit i && (decide (a = i) || decide (b = i) || decide (c = i) || decide (d = i))) =
        decide (d = i) := by
      intro i; simpa only [Nat.testBit_and, Nat.testBit_or, Nat.testBit_two_pow] using congrArg (·.testBit i) h
    have ta := t a; have tb := t b; have tc := t c; have td := t d
    simp only [decide_true, Bool.or_true, Bool.true_or, Bool.and_true] at ta tb tc td
    exact ⟨by simpa using td, by rw [ta]; simp; omega, by rw [tb]; simp; omega, by rw [tc]; simp; omega⟩
  · rintro ⟨hd, ha, hb, hc⟩
    apply Nat.eq_of_testBit_eq
    intro i
    simp only [Nat.testBit_and, Nat.testBit_or, Nat.testBit_two_pow]
    by_cases ia : a = i
    · subst ia; simp [ha]; omega
    by_cases ib : b = i
    · subst ib; simp [hb]; omega
    by_cases ic : c = i
    · subst ic; simp [hc]; omega
    by_cases id : d = i
    · subst id; simp [hd]
    · simp [ia, ib, ic, id]

/-- `(format & GROUP_MASK) == GROUP_CONSECUTIVE`: consecutive set, no position flag set -/
theorem consec_spec (f a b c d : Nat) (hab : a < b) (hbc : b < c) (hcd : c < d) :
    ((f &&& (2 ^ a ||| 2 ^ b ||| 2 ^ c ||| 2 ^ d)) == 2 ^ d) =
      !decide (Format.bit ⟨f⟩ d = true → Format.bit ⟨f⟩ a = true ∨ Format.bit ⟨f⟩ b = true ∨ Format.bit ⟨f⟩ c = true) := by
  rw [Bool.eq_iff_iff, beq_iff_eq, consec_bits f a b c d hab hbc hcd]
  simp [Format.bit, ← Nat.testBit_eq_decide_div_mod_eq]

theorem digitRadix_eq (f : Nat) :
    (if mantissaRadix f > exponentRadix f then mantissaRadix f else exponentRadix f) = (unpack f).digitRadix := by
  obtain ⟨_, _, _, hm, _, hr⟩ := bytes_unpack f
  rw [hm, hr]; unfold Unpacked.digitRadix
  split <;> omega

theorem unpack_bytes_lt (f : Nat) :
    (unpack f).digitSeparator < 256 ∧ (unpack f).basePrefix < 256 ∧ (unpack f).baseSuffix < 256 ∧
    (unpack f).mantissaRadix < 256 ∧ (unpack f).exponentBaseRaw < 256 ∧ (unpack f).exponentRadixRaw < 256 := by
  simp only [unpack, Format.digitSeparator, Format.basePrefix, Format.baseSuffix, Format.mantissaRadix,
    Format.exponentBaseRaw, Format.exponentRadixRaw, Format.byteAt]
  omega

theorem digitRadix_le (f : Nat) : (unpack f).digitRadix ≤ 255 := by
  obtain ⟨-, -, -, hm, -, hr⟩ := unpack_bytes_lt f
  unfold Unpacked.digitRadix Unpacked.exponentRadix
  split <;> omega

theorem optControl_spec (f : Nat) (en : Bool) (v : Nat) (hv : v < 256) :
    (if en = true then isValidOptionalControl f v else v == 0) =
      decide (OptionalControl en (unpack f).digitRadix v) := by
  unfold OptionalControl
  simp only [isValidOptionalControl, digitRadix_eq]
  cases en
  · simp [Bool.beq_eq_decide_eq]
  · simp [control_spec (unpack f).digitRadix v (digitRadix_le f) hv]

/-- the body of `is_valid_punctuation` over three plain bytes, so that the arithmetic below does not carry the
extractors; `hs`: without `format` the separator has already been checked to be absent -/
theorem punctuation_pure (fmt : Bool) (s p q : Nat) (hs : fmt = false → s = 0) :
    (if (!fmt && s != 0) = true then false
      else if s = 0 ∧ p = 0 ∧ q = 0 then true
      else if p = 0 ∧ q = 0 then true
      else if s = 0 ∧ q = 0 then true
      else if s = 0 ∧ p = 0 then true
      else s != p && s != q && p != q) =
    decide ((s ≠ 0 → p ≠ 0 → s ≠ p) ∧ (s ≠ 0 → q ≠ 0 → s ≠ q) ∧ (p ≠ 0 → q ≠ 0 → p ≠ q)) := by
  have h0 : (!fmt && s != 0) = false := by cases fmt <;> simp [hs]
  rw [h0, if_neg Bool.false_ne_true, Bool.eq_iff_iff]
  simp only [Bool.if_true_left, Bool.or_eq_true, Bool.and_eq_true, decide_eq_true_eq, bne_iff_ne]
  omega

theorem _root_.LexVerif.Spec.OptionalControl.cases {en : Bool} {R x : Nat} (h : OptionalControl en R x) :
    x = 0 ∨ ControlChar R x := by
  unfold OptionalControl at h
  split at h
  · exact h
  · exact .inl h

theorem _root_.LexVerif.Spec.OptionalControl.absent {R x : Nat} (h : OptionalControl false R x) : x = 0 := h

theorem punctuation_spec (feats : Features) (f : Nat)
    (hs : OptionalControl feats.format (unpack f).digitRadix (unpack f).digitSeparator) :
    isValidPunctuation feats f = decide (PunctuationDistinct (unpack f)) := by
  obtain ⟨h1, h2, h3, -, -, -⟩ := bytes_unpack f
  unfold isValidPunctuation PunctuationDistinct
  simp only [h1, h2, h3]
  apply punctuation_pure
  intro hf
  exact (hf ▸ hs).absent

theorem flagsAreDefault_iff (u : Unpacked) : FlagsAreDefault u ↔ ∀ fl, flagOf u fl = fl.default := by
  have e : (∀ fl, flagOf u fl = fl.default) ↔ ∀ fl ∈ Flag.all, flagOf u fl = fl.default :=
    ⟨fun h fl _ => h fl, fun h fl => h fl (mem_all fl)⟩
  rw [e]
  simp only [Flag.all, List.forall_mem_cons, List.not_mem_nil, false_imp_iff, implies_true, and_true]
  -- the two conjunctions differ in the order of the first four flags only
  exact ⟨fun ⟨h2, h3, h0, h1, r⟩ => ⟨h0, h1, h2, h3, r⟩, fun ⟨h0, h1, h2, h3, r⟩ => ⟨h2, h3, h0, h1, r⟩⟩

theorem and_flagMask (f : Nat) : f &&& G.FLAG_MASK = f % 2 ^ 18 + (f / 2 ^ 32 % 2 ^ 13) * 2 ^ 32 := by
  have m : G.FLAG_MASK = (2 ^ 18 - 1) ||| (2 ^ 13 - 1) <<< 32 := by decide
  rw [m, Nat.and_or_distrib_left, Nat.and_two_pow_sub_one_eq_mod, and_shifted_mask, or_mul_two_pow _ _ _ (by omega)]

theorem and_eq_not_decide (a b : Bool) : (a && b) = !decide ¬ (a = true ∧ b = true) := by
  cases a <;> cases b <;> rfl

theorem or_and_eq_not_decide (a b c : Bool) :
    (a && b || a && c) = !decide (a = true → b = false ∧ c = false) := by
  cases a <;> cases b <;> cases c <;> rfl

/-- two flags that exclude each other (`MantissaSignOk`, `ExponentSignOk`, `ExponentFlagsOk` at the flags named) -/
theorem flagPair_spec (f : Nat) (a b : Flag) :
    (hasFlag f a.mask && hasFlag f b.mask) =
      !decide ¬ (flagOf (unpack f) a = true ∧ flagOf (unpack f) b = true) := by
  rw [hasFlag_unpack, hasFlag_unpack]; exact and_eq_not_decide _ _

/-- `is_valid_exponent_flags` tests the two flags for zero instead of non-zero -/
theorem exponentFlags_spec (f : Nat) : isValidExponentFlags f = decide (ExponentFlagsOk (unpack f)) := by
  have h : isValidExponentFlags f =
      !(hasFlag f Flag.noExponentNotation.mask && hasFlag f Flag.requiredExponentNotation.mask) := by
    simp only [isValidExponentFlags, hasFlag, bne, Bool.not_and, Bool.not_not]; rfl
  rw [h, flagPair_spec, Bool.not_not]; rfl

theorem special_spec (f : Nat) :
    ((hasFlag f G.NO_SPECIAL && hasFlag f G.CASE_SENSITIVE_SPECIAL) ||
      (hasFlag f G.NO_SPECIAL && hasFlag f G.SPECIAL_DIGIT_SEPARATOR)) = !decide (SpecialOk (unpack f)) := by
  rw [show G.NO_SPECIAL = Flag.noSpecial.mask from rfl,
    show G.CASE_SENSITIVE_SPECIAL = Flag.caseSensitiveSpecial.mask from rfl,
    show G.SPECIAL_DIGIT_SEPARATOR = Flag.specialSep.mask from rfl, hasFlag_unpack, hasFlag_unpack, hasFlag_unpack]
  exact or_and_eq_not_decide _ _ _

/-- without `format`: `(format & FLAG_MASK) != (REQUIRED_EXPONENT_DIGITS | REQUIRED_MANTISSA_DIGITS)`; the
right side is the flag word of `NumberFormatBuilder::new()` -/
theorem flagMask_spec (f : Nat) :
    ((f &&& G.FLAG_MASK) != (G.REQUIRED_EXPONENT_DIGITS ||| G.REQUIRED_MANTISSA_DIGITS)) =
      !decide (FlagsAreDefault (unpack f)) := by
  have hv : (G.REQUIRED_EXPONENT_DIGITS ||| G.REQUIRED_MANTISSA_DIGITS) = Builder.new.flagWord := by decide
  have key : f &&& G.FLAG_MASK = Builder.new.flagWord ↔ FlagsAreDefault (unpack f) := by
    rw [and_flagMask_eq_iff, flagsAreDefault_iff]
    simp only [flagOf_unpack]; rfl
  rw [hv, bne, Bool.beq_eq_decide_eq, decide_eq_decide.mpr key]

/-- the seven checks both `format_error_impl`s begin with, written out as in the two functions so that it applies
to either with its own tail `rest` -/
theorem prefix_steps (feats : Features) (f : Nat) {rest : String} {ds : List (String × Bool)}
    (h : rest = firstFailed id "Success" ds) :
    (if !isValidRadix feats (mantissaRadix f) then "InvalidMantissaRadix"
      else if !isValidRadix feats (exponentBase f) then "InvalidExponentBase"
      else if !isValidRadix feats (exponentRadix f) then "InvalidExponentRadix"
      else if !isValidDigitSeparator feats f then "InvalidDigitSeparator"
      else if !isValidBasePrefix feats f then "InvalidBasePrefix"
      else if !isValidBaseSuffix feats f then "InvalidBaseSuffix"
      else if !isValidPunctuation feats f then "InvalidPunctuation"
      else rest) =
    firstFailed id "Success" (
      ("InvalidMantissaRadix", decide (RadixSupported feats (unpack f).mantissaRadix)) ::
      ("InvalidExponentBase", decide (RadixSupported feats (unpack f).exponentBase)) ::
      ("InvalidExponentRadix", decide (RadixSupported feats (unpack f).exponentRadix)) ::
      ("InvalidDigitSeparator",
        decide (OptionalControl feats.format (unpack f).digitRadix (unpack f).digitSeparator)) ::
      ("InvalidBasePrefix",
        decide (OptionalControl (feats.format && feats.powerOfTwo) (unpack f).digitRadix (unpack f).basePrefix)) ::
      ("InvalidBaseSuffix",
        decide (OptionalControl (feats.format && feats.powerOfTwo) (unpack f).digitRadix (unpack f).baseSuffix)) ::
      ("InvalidPunctuation", decide (PunctuationDistinct (unpack f))) :: ds) := by
  obtain ⟨hs, hp, hx, hm, hb, hr⟩ := bytes_unpack f
  obtain ⟨ls, lp, lx, -, -, -⟩ := unpack_bytes_lt f
  refine chain_step (by rw [hm]; exact isValidRadix_spec ..) fun _ => ?_
  refine chain_step (by rw [hb]; exact isValidRadix_spec ..) fun _ => ?_
  refine chain_step (by rw [hr]; exact isValidRadix_spec ..) fun _ => ?_
  refine chain_step (by unfold isValidDigitSeparator; rw [hs]; exact optControl_spec f _ _ ls) fun s1 => ?_
  refine chain_step (by unfold isValidBasePrefix; rw [hp]; exact optControl_spec f _ _ lp) fun _ => ?_
  refine chain_step (by unfold isValidBaseSuffix; rw [hx]; exact optControl_spec f _ _ lx) fun _ => ?_
  exact chain_step (punctuation_spec feats f s1) fun _ => h

theorem firstViolated_eq (feats : Features) (u : Unpacked) :
    firstViolated feats u = firstFailed id "Success" (checks feats u) :=
  (firstFailed_eq_find id "Success" (checks feats u)).symm

/-- **`format_error_impl` of either build is the chain of the documented checks**, for every packed value and
every feature set -/
theorem formatError_chain (feats : Features) (f : Nat) :
    formatError feats f = firstFailed id "Success" (checks feats (unpack f)) := by
  unfold formatError checks
  by_cases hf : feats.format = true
  case neg =>
    rw [if_neg hf, if_neg hf]
    exact prefix_steps feats f (chain_step_bad (flagMask_spec f) fun _ => rfl)
  · rw [if_pos hf, if_pos hf]
    refine prefix_steps feats f ?_
    refine chain_step (exponentFlags_spec f) fun _ => ?_
    refine chain_step_bad (flagPair_spec f .noPositiveMantissaSign .requiredMantissaSign) fun _ => ?_
    refine chain_step_bad (flagPair_spec f .noPositiveExponentSign .requiredExponentSign) fun _ => ?_
    -- the two tests reporting `InvalidSpecial` are one documented constraint
    rw [ite_twice]
    refine chain_step_bad (special_spec f) fun _ => ?_
    refine chain_step_bad (consec_spec f 32 35 38 41 (by decide) (by decide) (by decide)) fun _ => ?_
    refine chain_step_bad (consec_spec f 33 36 39 42 (by decide) (by decide) (by decide)) fun _ => ?_
    exact chain_step_bad (consec_spec f 34 37 40 43 (by decide) (by decide) (by decide)) fun _ => rfl

theorem checks_pass_iff (feats : Features) (u : Unpacked) : (∀ c ∈ checks feats u, c.2 = true) ↔ FormatValid feats u := by
  unfold checks FormatValid
  cases feats.format <;> simp

theorem checks_ne_success (feats : Features) (u : Unpacked) : ∀ c ∈ checks feats u, id c.1 ≠ "Success" := by
  unfold checks; cases feats.format <;> simp

section
variable {feats : Features} {u : Unpacked}

theorem _root_.LexVerif.Spec.FormatValid.mantissaRadix (h : FormatValid feats u) : RadixSupported feats u.mantissaRadix := h.1
theorem _root_.LexVerif.Spec.FormatValid.exponentBase (h : FormatValid feats u) : RadixSupported feats u.exponentBase := h.2.1
theorem _root_.LexVerif.Spec.FormatValid.exponentRadix (h : FormatValid feats u) : RadixSupported feats u.exponentRadix :=
  h.2.2.1
theorem _root_.LexVerif.Spec.FormatValid.separator (h : FormatValid feats u) :
    OptionalControl feats.format u.digitRadix u.digitSeparator := h.2.2.2.1
theorem _root_.LexVerif.Spec.FormatValid.basePrefix (h : FormatValid feats u) :
    OptionalControl (feats.format && feats.powerOfTwo) u.digitRadix u.basePrefix := h.2.2.2.2.1

theorem _root_.LexVerif.Spec.FormatValid.consecutive (h : FormatValid feats u) (hf : feats.format = true) :
    IntegerConsecutiveOk u ∧ FractionConsecutiveOk u ∧ ExponentConsecutiveOk u := by
  have v := h.2.2.2.2.2.2.2
  rw [if_pos hf] at v
  exact v.2.2.2.2

theorem _root_.LexVerif.Spec.FormatValid.digitRadix_lt (h : FormatValid feats u) : u.digitRadix < 37 := by
  have := (radixSupported_range h.mantissaRadix).2
  have := (radixSupported_range h.exponentRadix).2
  unfold Unpacked.digitRadix; omega

end

end LexVerif.Props.C18
