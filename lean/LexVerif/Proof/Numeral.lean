import LexVerif.Spec.Numeral
/-!
# Proof.Numeral — the value of a digit list and the canonical numeral

`Spec.ofDigits`: Horner's rule with an accumulator (`foldl_horner`), the bound, the sign, zeros in front and behind.
`Spec.toDigits`: it denotes the number, has its digits below the radix and no leading zero, its length is the digit
count, and it is the only such list (`toDigits_unique`). `padDigits`: the fixed-width (zero padded) digit strings of the
chunked writers.
-/
namespace LexVerif.Spec

theorem toDigitsAux_acc (r : Nat) : ∀ (fuel n : Nat) (acc : List Nat),
    toDigitsAux r fuel n acc = toDigitsAux r fuel n [] ++ acc := by
  intro fuel
  induction fuel with
  | zero => intro n acc; simp [toDigitsAux]
  | succ f ih =>
    intro n acc
    simp only [toDigitsAux]
    split
    · simp
    · rw [ih (n / r) (n % r :: acc), ih (n / r) [n % r]]; simp

theorem toDigitsAux_fuel (r : Nat) (hr : 2 ≤ r) : ∀ (f1 f2 n : Nat), n < f1 → n < f2 →
    toDigitsAux r f1 n [] = toDigitsAux r f2 n [] := by
  intro f1
  induction f1 with
  | zero => intro f2 n h; omega
  | succ f ih =>
    intro f2 n h1 h2
    cases f2 with
    | zero => omega
    | succ g =>
      simp only [toDigitsAux]
      split
      · rfl
      · rename_i hn
        have hlt : n / r < n := Nat.div_lt_self (by omega) (by omega)
        rw [toDigitsAux_acc r f, toDigitsAux_acc r g, ih g (n / r) (by omega) (by omega)]

theorem toDigits_lt (r n : Nat) (h : n < r) : toDigits r n = [n] := by
  simp [toDigits, toDigitsAux, h]

theorem toDigits_step (r n : Nat) (hr : 2 ≤ r) (h : r ≤ n) :
    toDigits r n = toDigits r (n / r) ++ [n % r] := by
  have hlt : n / r < n := Nat.div_lt_self (by omega) (by omega)
  have e : toDigitsAux r (n + 1) n [] = toDigitsAux r n (n / r) [n % r] := by
    rw [toDigitsAux, if_neg (by omega)]
  unfold toDigits
  rw [e, toDigitsAux_acc]
  rw [toDigitsAux_fuel r hr n (n / r + 1) (n / r) (by omega) (by omega)]

/-- **the radix conversion as a fuelled loop.** A loop whose state `s` carries a number `val s`, and whose step writes the
digit `val s % r` in front and goes on with a state of value `val s / r` unless that is zero, writes `toDigits r (val s)`;
`P` is what the step needs of the state. -/
theorem loop_toDigits {σ α β : Type} {r : Nat} (hr : 2 ≤ r) (val : σ → Nat) (P : σ → Prop) (g : Nat → α)
    (ret : List α → β) (loop : Nat → σ → List α → β)
    (step : ∀ fuel s acc, P s → ∃ s', P s' ∧ val s' = val s / r ∧ loop (fuel + 1) s acc =
      if val s / r = 0 then ret (g (val s % r) :: acc) else loop fuel s' (g (val s % r) :: acc)) :
    ∀ (fuel : Nat) (s : σ) (acc : List α), 1 ≤ fuel → P s → val s < 2 ^ fuel →
      loop fuel s acc = ret ((toDigits r (val s)).map g ++ acc)
  | 0, _, _, h1, _, _ => by omega
  | fuel + 1, s, acc, _, hs, hf => by
    obtain ⟨s', hs', hv, e⟩ := step fuel s acc hs
    rw [e]
    generalize val s = n at *
    by_cases hq0 : n / r = 0
    · rw [if_pos hq0]
      have hlt : n < r := by
        rcases Nat.lt_or_ge n r with h | h
        · exact h
        · have := Nat.div_pos h (by omega : 0 < r); omega
      rw [toDigits_lt r n hlt, Nat.mod_eq_of_lt hlt]; rfl
    · rw [if_neg hq0]
      have hge : r ≤ n := by
        rcases Nat.lt_or_ge n r with h | h
        · exact absurd (Nat.div_eq_of_lt h) hq0
        · exact h
      have hqlt : n / r < 2 ^ fuel := by
        have : n / r ≤ n / 2 := Nat.div_le_div_left hr (by decide)
        have : n / 2 < 2 ^ fuel := by rw [Nat.pow_succ] at hf; omega
        omega
      have hfuel : 1 ≤ fuel := by
        rcases fuel with _ | k
        · simp at hqlt; omega
        · omega
      rw [loop_toDigits hr val P g ret loop step fuel s' _ hfuel hs' (by rw [hv]; exact hqlt), hv,
        toDigits_step r n hr hge]
      simp

theorem ofDigits_append (r : Nat) (a b : List Nat) :
    ofDigits r (a ++ b) = b.foldl (fun acc d => acc * r + d) (ofDigits r a) := by
  simp [ofDigits, List.foldl_append]

theorem ofDigits_snoc (r : Nat) (a : List Nat) (d : Nat) : ofDigits r (a ++ [d]) = ofDigits r a * r + d := by
  simp [ofDigits_append]

theorem foldl_horner (r : Nat) : ∀ (ds : List Nat) (acc : Nat),
    ds.foldl (fun a d => a * r + d) acc = acc * r ^ ds.length + ofDigits r ds
  | [], acc => by rw [List.foldl_nil, List.length_nil, Nat.pow_zero, Nat.mul_one]; rfl
  | d :: ds, acc => by
    rw [ofDigits, List.foldl_cons, List.foldl_cons, foldl_horner r ds, foldl_horner r ds (0 * r + d),
      List.length_cons, Nat.pow_succ, Nat.zero_mul, Nat.zero_add, Nat.add_mul, Nat.add_assoc, Nat.mul_assoc,
      Nat.mul_comm r (r ^ ds.length)]

theorem ofDigits_append_pow (r : Nat) (a b : List Nat) :
    ofDigits r (a ++ b) = ofDigits r a * r ^ b.length + ofDigits r b := by
  rw [ofDigits_append, foldl_horner]

theorem ofDigits_cons (r d : Nat) (ds : List Nat) : ofDigits r (d :: ds) = d * r ^ ds.length + ofDigits r ds := by
  rw [ofDigits, List.foldl_cons, foldl_horner, Nat.zero_mul, Nat.zero_add]

theorem ofDigits_ge_head (r d : Nat) (ds : List Nat) : d * r ^ ds.length ≤ ofDigits r (d :: ds) := by
  rw [ofDigits_cons]; exact Nat.le_add_right _ _

theorem ofDigits_lt (r : Nat) : ∀ ds : List Nat, (∀ d ∈ ds, d < r) → ofDigits r ds < r ^ ds.length
  | [], _ => Nat.one_pos
  | d :: ds, h => by
    have ih := ofDigits_lt r ds fun x hx => h x (List.mem_cons_of_mem _ hx)
    have hd : d + 1 ≤ r := h d (List.mem_cons_self ..)
    rw [ofDigits_cons, List.length_cons, Nat.pow_succ]
    calc d * r ^ ds.length + ofDigits r ds < (d + 1) * r ^ ds.length := by rw [Nat.add_mul, Nat.one_mul]; omega
      _ ≤ r ^ ds.length * r := by rw [Nat.mul_comm]; exact Nat.mul_le_mul_left _ hd

/-! zeros in front of a digit string do not count, zeros behind it shift it -/

theorem ofDigits_zeros (r : Nat) : ∀ ds : List Nat, (∀ d ∈ ds, d = 0) → ofDigits r ds = 0
  | [], _ => rfl
  | d :: ds, h => by
    rw [ofDigits_cons, h d (List.mem_cons_self ..), ofDigits_zeros r ds fun x hx => h x (List.mem_cons_of_mem _ hx),
      Nat.zero_mul]

theorem ofDigits_pos {r : Nat} (hr : 0 < r) : ∀ ds : List Nat, (∃ d ∈ ds, d ≠ 0) → 0 < ofDigits r ds
  | [], h => by obtain ⟨d, hd, _⟩ := h; cases hd
  | d :: ds, h => by
    rw [ofDigits_cons]
    by_cases hd : d = 0
    · obtain ⟨x, hx, hx0⟩ := h
      rcases List.mem_cons.1 hx with rfl | hx
      · exact absurd hd hx0
      · exact Nat.lt_of_lt_of_le (ofDigits_pos hr ds ⟨x, hx, hx0⟩) (Nat.le_add_left _ _)
    · exact Nat.lt_of_lt_of_le (Nat.mul_pos (Nat.pos_of_ne_zero hd) (Nat.pow_pos hr)) (Nat.le_add_right _ _)

theorem ofDigits_replicate_zero (r k : Nat) : ofDigits r (List.replicate k 0) = 0 :=
  ofDigits_zeros r _ fun _ h => (List.mem_replicate.1 h).2

theorem ofDigits_zeros_append (r k : Nat) (ds : List Nat) : ofDigits r (List.replicate k 0 ++ ds) = ofDigits r ds := by
  rw [ofDigits_append_pow, ofDigits_replicate_zero, Nat.zero_mul, Nat.zero_add]

theorem ofDigits_append_zeros (r : Nat) (ds : List Nat) (k : Nat) :
    ofDigits r (ds ++ List.replicate k 0) = ofDigits r ds * r ^ k := by
  rw [ofDigits_append_pow, ofDigits_replicate_zero, List.length_replicate, Nat.add_zero]

theorem ofDigits_shape (r a j : Nat) (tr : List Nat) :
    ofDigits r (List.replicate a 0 ++ tr ++ List.replicate j 0) = ofDigits r tr * r ^ j := by
  rw [ofDigits_append_zeros, ofDigits_zeros_append]

theorem radix_induction {P : Nat → Prop} (r : Nat) (hr : 2 ≤ r)
    (base : ∀ n, n < r → P n) (step : ∀ n, r ≤ n → P (n / r) → P n) : ∀ n, P n := by
  intro n
  induction n using Nat.strongRecOn with
  | _ n ih =>
    by_cases h : n < r
    · exact base n h
    · exact step n (by omega) (ih (n / r) (Nat.div_lt_self (by omega) (by omega)))

theorem ofDigits_toDigits (r n : Nat) (hr : 2 ≤ r) : ofDigits r (toDigits r n) = n := by
  induction n using radix_induction r hr with
  | base n h => simp [toDigits_lt r n h, ofDigits]
  | step n h ih =>
    rw [toDigits_step r n hr h, ofDigits_snoc, ih]
    have := Nat.div_add_mod n r
    rw [Nat.mul_comm] at this; exact this

theorem toDigits_digit_lt (r n : Nat) (hr : 2 ≤ r) : ∀ d ∈ toDigits r n, d < r := by
  induction n using radix_induction r hr with
  | base n h => simp [toDigits_lt r n h]; exact h
  | step n h ih =>
    rw [toDigits_step r n hr h]
    intro d hd
    rcases List.mem_append.mp hd with h1 | h1
    · exact ih d h1
    · simp at h1; subst h1; exact Nat.mod_lt _ (by omega)

theorem toDigits_ne_nil (r n : Nat) (hr : 2 ≤ r) : toDigits r n ≠ [] := by
  by_cases h : n < r
  · simp [toDigits_lt r n h]
  · rw [toDigits_step r n hr (by omega)]; simp

theorem toDigits_zero (r : Nat) (hr : 2 ≤ r) : toDigits r 0 = [0] := toDigits_lt r 0 (by omega)

theorem toDigits_head_ne_zero (r n : Nat) (hr : 2 ≤ r) (hn : n ≠ 0) : (toDigits r n).head? ≠ some 0 := by
  induction n using radix_induction r hr with
  | base n h => simp [toDigits_lt r n h]; exact hn
  | step n h ih =>
    rw [toDigits_step r n hr h]
    have hq : n / r ≠ 0 := by
      have := Nat.div_pos h (by omega : 0 < r); omega
    have hne := toDigits_ne_nil r (n / r) hr
    cases hd : toDigits r (n / r) with
    | nil => exact absurd hd hne
    | cons a as => have := ih hq; rw [hd] at this; simpa using this

theorem toDigits_length_spec (r n : Nat) (hr : 2 ≤ r) :
    1 ≤ (toDigits r n).length ∧ n < r ^ (toDigits r n).length ∧
      ((toDigits r n).length = 1 ∨ r ^ ((toDigits r n).length - 1) ≤ n) := by
  induction n using radix_induction r hr with
  | base n h => simp [toDigits_lt r n h]; exact h
  | step n h ih =>
    rw [toDigits_step r n hr h]
    obtain ⟨h1, h2, h3⟩ := ih
    simp only [List.length_append, List.length_singleton, Nat.add_sub_cancel]
    refine ⟨by omega, ?_, Or.inr ?_⟩
    · rw [Nat.pow_succ]
      have := Nat.div_add_mod n r
      have hm := Nat.mod_lt n (by omega : 0 < r)
      calc n = r * (n / r) + n % r := by omega
        _ < r * (n / r) + r := by omega
        _ = (n / r + 1) * r := by rw [Nat.add_mul, Nat.mul_comm]; simp
        _ ≤ r ^ (toDigits r (n / r)).length * r := Nat.mul_le_mul_right r (by omega)
    · rcases h3 with h3 | h3
      · rw [h3]; simpa using h
      · have : (toDigits r (n / r)).length = ((toDigits r (n / r)).length - 1) + 1 := by omega
        rw [this, Nat.pow_succ]
        calc r ^ ((toDigits r (n / r)).length - 1) * r ≤ (n / r) * r := Nat.mul_le_mul_right r h3
          _ ≤ n := Nat.div_mul_le_self n r

theorem toDigits_length_eq (r n k : Nat) (hr : 2 ≤ r) (hk : 1 ≤ k) (hlt : n < r ^ k)
    (hge : k = 1 ∨ r ^ (k - 1) ≤ n) : (toDigits r n).length = k := by
  obtain ⟨h1, h2, h3⟩ := toDigits_length_spec r n hr
  generalize (toDigits r n).length = L at *
  rcases Nat.lt_trichotomy L k with h | h | h
  · -- L < k: r^L ≤ r^(k-1) ≤ n < r^L
    exfalso
    rcases hge with hge | hge
    · omega
    · have : r ^ L ≤ r ^ (k - 1) := Nat.pow_le_pow_right (by omega) (by omega)
      omega
  · exact h
  · exfalso
    rcases h3 with h3 | h3
    · omega
    · have : r ^ k ≤ r ^ (L - 1) := Nat.pow_le_pow_right (by omega) (by omega)
      omega

/-- `n` has `l + 1` bits (`l = 0` also for `n = 0`) -/
theorem toDigits_length_two_pow (s n l : Nat) (hs : 1 ≤ s) (hup : n < 2 ^ (l + 1)) (hlo : l = 0 ∨ 2 ^ l ≤ n) :
    (toDigits (2 ^ s) n).length = l / s + 1 := by
  have hr : 2 ≤ 2 ^ s := Nat.one_lt_two_pow (by omega)
  apply toDigits_length_eq (2 ^ s) n (l / s + 1) hr (Nat.le_add_left 1 _)
  · rw [← Nat.pow_mul]
    refine Nat.lt_of_lt_of_le hup (Nat.pow_le_pow_right (by decide) ?_)
    have := Nat.div_add_mod l s
    have := Nat.mod_lt l (by omega : 0 < s)
    rw [Nat.mul_add]; omega
  · rcases hlo with h0 | h
    · left; rw [h0, Nat.zero_div]
    · right
      rw [Nat.add_sub_cancel, ← Nat.pow_mul]
      exact Nat.le_trans (Nat.pow_le_pow_right (by decide) (Nat.mul_div_le l s)) h

theorem toDigits_length_le (r n k : Nat) (hr : 2 ≤ r) (hk : 1 ≤ k) (hlt : n < r ^ k) :
    (toDigits r n).length ≤ k := by
  obtain ⟨_, _, h3⟩ := toDigits_length_spec r n hr
  rcases h3 with h3 | h3
  · omega
  · rcases Nat.lt_or_ge k (toDigits r n).length with hgt | hle
    · exfalso
      have : r ^ k ≤ r ^ ((toDigits r n).length - 1) := Nat.pow_le_pow_right (by omega) (by omega)
      omega
    · exact hle

def Canonical (r : Nat) (ds : List Nat) : Prop :=
  ds ≠ [] ∧ (∀ d ∈ ds, d < r) ∧ (ds = [0] ∨ ds.head? ≠ some 0)

theorem toDigits_canonical (r n : Nat) (hr : 2 ≤ r) : Canonical r (toDigits r n) := by
  refine ⟨toDigits_ne_nil r n hr, toDigits_digit_lt r n hr, ?_⟩
  by_cases hn : n = 0
  · left; rw [hn]; exact toDigits_zero r hr
  · right; exact toDigits_head_ne_zero r n hr hn

theorem snoc_induction {P : List Nat → Prop} (nil : P []) (snoc : ∀ l d, P l → P (l ++ [d])) : ∀ l, P l := by
  intro l
  have : ∀ m : List Nat, P m.reverse := by
    intro m; induction m with
    | nil => exact nil
    | cons a m ih => rw [List.reverse_cons]; exact snoc _ _ ih
  simpa using this l.reverse

theorem toDigits_unique (r : Nat) (hr : 2 ≤ r) : ∀ (ds : List Nat) (n : Nat),
    Canonical r ds → ofDigits r ds = n → ds = toDigits r n := by
  intro ds
  induction ds using snoc_induction with
  | nil => intro n h; exact absurd rfl h.1
  | snoc init d ih =>
    intro n ⟨_, hlt, hz⟩ hv
    rw [ofDigits_snoc] at hv
    have hd : d < r := hlt d (by simp)
    cases init with
    | nil =>
      simp [ofDigits] at hv
      subst hv
      simp [toDigits_lt r d hd]
    | cons a as =>
      -- init is non-empty and has no leading zero, so its value is positive
      have hhead : (a :: as).head? ≠ some 0 := by
        rcases hz with hz | hz
        · simp at hz
        · simpa using hz
      have hcan : Canonical r (a :: as) :=
        ⟨by simp, fun x hx => hlt x (by simp at hx ⊢; rcases hx with h | h <;> simp [h]), Or.inr hhead⟩
      have hinit := ih (ofDigits r (a :: as)) hcan rfl
      have hpos : ofDigits r (a :: as) ≠ 0 := by
        intro h0
        rw [h0, toDigits_zero r hr] at hinit
        simp at hinit
        exact hhead (by simp [hinit.1])
      have hn : r ≤ n := by
        have : 1 ≤ ofDigits r (a :: as) := by omega
        calc r = 1 * r := by simp
          _ ≤ ofDigits r (a :: as) * r := Nat.mul_le_mul_right r this
          _ ≤ n := by omega
      have hdiv : n / r = ofDigits r (a :: as) := by
        rw [← hv, Nat.mul_comm, Nat.mul_add_div (by omega), Nat.div_eq_of_lt hd]; simp
      have hmod : n % r = d := by
        rw [← hv, Nat.mul_comm, Nat.mul_add_mod, Nat.mod_eq_of_lt hd]
      rw [toDigits_step r n hr hn, hdiv, hmod, ← hinit]

/-- the `k` low digits of `m` in radix `r`, most significant first (zero padded) -/
def padDigits (r : Nat) : Nat → Nat → List Nat
  | 0, _ => []
  | k + 1, m => padDigits r k (m / r) ++ [m % r]

@[simp] theorem padDigits_length (r k m : Nat) : (padDigits r k m).length = k := by
  induction k generalizing m with
  | zero => rfl
  | succ k ih => simp [padDigits, ih]

theorem padDigits_lt (r : Nat) (hr : 0 < r) : ∀ (k m d : Nat), d ∈ padDigits r k m → d < r := by
  intro k
  induction k with
  | zero => intro m d hd; simp [padDigits] at hd
  | succ k ih =>
    intro m d hd
    rw [padDigits, List.mem_append, List.mem_singleton] at hd
    rcases hd with hd | hd
    · exact ih _ d hd
    · rw [hd]; exact Nat.mod_lt m hr

theorem padDigits_split (r : Nat) : ∀ (k j m : Nat),
    padDigits r (j + k) m = padDigits r j (m / r ^ k) ++ padDigits r k (m % r ^ k) := by
  intro k
  induction k with
  | zero => intro j m; simp [padDigits]
  | succ k ih =>
    intro j m
    rw [show j + (k + 1) = (j + k) + 1 from rfl]
    simp only [padDigits]
    rw [ih j (m / r), ← List.append_assoc, Nat.pow_succ, Nat.mul_comm (r ^ k) r, Nat.div_div_eq_div_mul,
      Nat.mod_mul_right_div_self, Nat.mod_mul_right_mod]

theorem toDigits_split (r : Nat) (hr : 2 ≤ r) : ∀ (k n : Nat), r ^ k ≤ n →
    toDigits r n = toDigits r (n / r ^ k) ++ padDigits r k (n % r ^ k) := by
  intro k
  induction k with
  | zero => intro n _; simp [padDigits]
  | succ k ih =>
    intro n h
    have hn : r ≤ n := Nat.le_trans (Nat.le_self_pow (Nat.succ_ne_zero k) r) h
    have hq : r ^ k ≤ n / r := by
      rw [Nat.le_div_iff_mul_le (by omega), ← Nat.pow_succ]; exact h
    rw [toDigits_step r n hr hn, ih (n / r) hq]
    simp only [padDigits, List.append_assoc]
    rw [Nat.pow_succ, Nat.mul_comm (r ^ k) r, Nat.div_div_eq_div_mul, Nat.mod_mul_right_div_self,
      Nat.mod_mul_right_mod]

theorem padDigits_eq_replicate_append (r : Nat) (hr : 2 ≤ r) : ∀ (k m : Nat), m < r ^ k → 1 ≤ k →
    padDigits r k m = List.replicate (k - (toDigits r m).length) 0 ++ toDigits r m := by
  intro k
  induction k with
  | zero => intro m _ h; omega
  | succ k ih =>
    intro m hm _
    by_cases hlt : m < r
    · -- single digit: all higher digits are zero
      rw [toDigits_lt r m hlt]
      simp only [padDigits, List.length_singleton, Nat.add_sub_cancel]
      rw [Nat.div_eq_of_lt hlt, Nat.mod_eq_of_lt hlt]
      have hz : ∀ j, padDigits r j 0 = List.replicate j 0 := by
        intro j; induction j with
        | zero => rfl
        | succ j ihj => simp [padDigits, ihj, List.replicate_succ']
      rw [hz]
    · have hm' : r ≤ m := by omega
      have hk : 1 ≤ k := by
        rcases Nat.eq_zero_or_pos k with h0 | h0
        · subst h0; simp at hm; omega
        · exact h0
      have hq : m / r < r ^ k := by
        rw [Nat.div_lt_iff_lt_mul (by omega)]; rw [← Nat.pow_succ]; exact hm
      rw [toDigits_step r m hr hm']
      simp only [padDigits, List.length_append, List.length_singleton]
      rw [ih (m / r) hq hk, List.append_assoc]
      congr 2
      omega

end LexVerif.Spec
