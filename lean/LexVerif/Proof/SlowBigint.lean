import LexVerif.Model.Slow
import LexVerif.Proof.RoundNECore
import Mathlib.Tactic.Ring
import Mathlib.Tactic.Linarith
/-!
# Proof.SlowBigint — the value-level big-integer operations of `Model.Slow` compute what they should

The capacity guard `limbsOf x ≤ cap` is `x < 2^(64·cap)` (`limbsOf_le_iff`). Every operation on a non-zero vector
answers `fit cap v`, `v` the exact product / sum / shift / power: `some v` when `v` fits the capacity, `none` when it does
not. The composite ones follow from `fit_bind`: no intermediate result exceeds the final one.
-/
namespace LexVerif.Proof.Slow
open LexVerif.Spec LexVerif.Spec.PowerTables LexVerif.Proof.Tables LexVerif.Model LexVerif.Model.Slow
open LexVerif.Proof.RoundNE

theorem bitlen_unique {n b : Nat} (hb : 0 < b) (h1 : 2 ^ (b - 1) ≤ n) (h2 : n < 2 ^ b) : bitlen n = b := by
  have hn : n ≠ 0 := by have := Nat.two_pow_pos (b - 1); omega
  have l := bitlen_lower hn
  have u := bitlen_upper n
  have p := bitlen_pos hn
  have a1 : bitlen n - 1 < b := (Nat.pow_lt_pow_iff_right (by decide : 1 < 2)).mp (Nat.lt_of_le_of_lt l h2)
  have a2 : b - 1 < bitlen n := (Nat.pow_lt_pow_iff_right (by decide : 1 < 2)).mp (Nat.lt_of_le_of_lt h1 u)
  omega

theorem bitlen_zero : bitlen 0 = 0 := by simp [bitlen]

theorem bitlen_mul_pow {x : Nat} (hx : x ≠ 0) (k : Nat) : bitlen (x * 2 ^ k) = bitlen x + k := by
  have l := bitlen_lower hx
  have u := bitlen_upper x
  have p := bitlen_pos hx
  apply bitlen_unique (by omega)
  · have : bitlen x + k - 1 = (bitlen x - 1) + k := by omega
    rw [this, Nat.pow_add]
    exact Nat.mul_le_mul_right _ l
  · rw [Nat.pow_add]
    exact Nat.mul_lt_mul_of_pos_right u (Nat.two_pow_pos k)

theorem limbsOf_le_iff (x cap : Nat) : limbsOf x ≤ cap ↔ x < 2 ^ (64 * cap) := by
  rw [← bitlen_le_iff]
  unfold limbsOf
  omega

theorem limbsOf_shift64 {x : Nat} (hx : x ≠ 0) (d : Nat) : limbsOf (x * 2 ^ (64 * d)) = limbsOf x + d := by
  unfold limbsOf
  rw [bitlen_mul_pow hx]
  omega

/-- the answer of a capacity-checked operation whose exact result is `v` -/
def fit (cap v : Nat) : Option Nat := if v < 2 ^ (64 * cap) then some v else none

theorem guard_fit (cap v : Nat) : Slow.guard (limbsOf v ≤ cap) v = fit cap v := by
  unfold Slow.guard fit
  simp only [limbsOf_le_iff, decide_eq_true_eq]

theorem fit_some {cap v : Nat} (h : v < 2 ^ (64 * cap)) : fit cap v = some v := if_pos h

theorem fit_eq_some {cap v w : Nat} (h : fit cap v = some w) : w = v ∧ v < 2 ^ (64 * cap) := by
  unfold fit at h
  split at h
  · injection h with h; exact ⟨h.symm, ‹_›⟩
  · exact absurd h (by simp)

theorem fit_bind {α : Type} {cap a b : Nat} (hab : a ≤ b) {f g : Nat → Option α}
    (hf : a < 2 ^ (64 * cap) → f a = (fit cap b).bind g) : (fit cap a).bind f = (fit cap b).bind g := by
  by_cases ha : a < 2 ^ (64 * cap)
  · rw [fit_some ha, Option.bind_some, hf ha]
  · unfold fit
    rw [if_neg ha, if_neg (by omega)]
    rfl

theorem fit_bind_fit {cap a b : Nat} (hab : a ≤ b) {f : Nat → Option Nat} (hf : a < 2 ^ (64 * cap) → f a = fit cap b) :
    (fit cap a).bind f = fit cap b := by
  have e : ∀ o : Option Nat, o.bind some = o := fun o => by cases o <;> rfl
  rw [← e (fit cap b)]
  exact fit_bind hab fun ha => by rw [hf ha, e]

theorem step_fit {cap x : Nat} (hx : x < 2 ^ (64 * cap)) {k : Nat} {op : Option Nat} {g : Nat → Nat} (h0 : g 0 = 1)
    (hop : op = fit cap (x * g k)) : (if k ≠ 0 then op else some x) = fit cap (x * g k) := by
  split
  · exact hop
  · rename_i hk
    rw [Decidable.not_not.mp hk, h0, Nat.mul_one, fit_some hx]

theorem smallMul_fit (cap x y : Nat) : smallMul cap x y = fit cap (x * y) := by
  unfold smallMul
  split
  · subst_vars; rw [Nat.zero_mul]; exact (fit_some (Nat.two_pow_pos _)).symm
  · exact guard_fit ..

theorem smallMul_none {cap x y : Nat} (hx : x ≠ 0) (h : 2 ^ (64 * cap) ≤ x * y) : smallMul cap x y = none := by
  rw [smallMul_fit]
  exact if_neg (by omega)

/-- `x` is a vector within the capacity: `small_add(x, 0)` returns it unchecked -/
theorem smallAdd_fit {cap x : Nat} (hx : x < 2 ^ (64 * cap)) (y : Nat) : smallAdd cap x y = fit cap (x + y) := by
  unfold smallAdd
  split
  · subst_vars; exact (fit_some hx).symm
  · exact guard_fit ..

theorem addTemporary_fit (cap r p v : Nat) : addTemporary cap r p v = fit cap (r * p + v) := by
  unfold addTemporary
  rw [smallMul_fit]
  exact fit_bind_fit (Nat.le_add_right _ _) fun h => smallAdd_fit h v

structure LargeEntry (cap : Nat) (Y : Array Nat) (V : Nat) : Prop where
  val : limbsVal 64 Y.toList = V
  size : Y.size ≤ cap
  one : Y.size = 1 → Y[0]! = V

theorem largeMul_fit {cap x V : Nat} {Y : Array Nat} (hY : LargeEntry cap Y V) (hx : x ≠ 0) :
    largeMul cap x Y = fit cap (x * V) := by
  unfold largeMul
  by_cases h1 : Y.size = 1
  · rw [if_pos h1, hY.one h1]; exact smallMul_fit ..
  · rw [if_neg h1, if_neg (by have := hY.size; omega), if_neg hx, hY.val]
    exact guard_fit ..

/-- `ok`: what the multiplication by `c` asks of its argument (`large_mul`: non-zero; `small_mul`: nothing) -/
theorem iterOpt_fit {f : Nat → Option Nat} {c cap : Nat} (hc : 0 < c) {ok : Nat → Prop} (hok : ∀ x, ok x → ok (x * c))
    (hf : ∀ x, ok x → f x = fit cap (x * c)) :
    ∀ (n x : Nat), ok x → x < 2 ^ (64 * cap) → iterOpt f n x = fit cap (x * c ^ n)
  | 0, x, _, h => by rw [Nat.pow_zero, Nat.mul_one, fit_some h]; rfl
  | n + 1, x, hx, _ => by
    have e : x * c ^ (n + 1) = x * c * c ^ n := by rw [Nat.pow_succ]; ring
    unfold iterOpt
    rw [hf x hx, e]
    exact fit_bind_fit (Nat.le_mul_of_pos_right _ (Nat.pow_pos hc)) fun hy => iterOpt_fit hc hok hf n _ (hok x hx) hy

structure PowOk (E : Env) (cap base : Nat) : Prop where
  base_pos : 0 < base
  large : E.L.hasLarge = true →
    0 < E.L.largeStep base ∧ LargeEntry cap (E.L.largeLimbs base) (base ^ E.L.largeStep base)
  small_pos : 0 < E.S.u64PowerLimit base
  small_lt : base ^ E.S.u64PowerLimit base < 2 ^ 64
  intpow : ∀ e, e < E.S.u64PowerLimit base → intPowFastPath E e base = some (base ^ e)

theorem pow_split (b e s : Nat) : b ^ e = (b ^ s) ^ (e / s) * b ^ (e % s) := by
  rw [← Nat.pow_mul, ← Nat.pow_add, Nat.div_add_mod]

theorem powOdd_fit {E : Env} {cap base : Nat} (T : PowOk E cap base) {x : Nat} (hx : x ≠ 0) (hfit : x < 2 ^ (64 * cap))
    (exp : Nat) : powOdd E cap x base exp = fit cap (x * base ^ exp) := by
  have hb := T.base_pos
  -- the part after the large powers: `e / s` multiplications by `base^s`, one by `base^(e % s)`
  have small : ∀ (x e : Nat), x < 2 ^ (64 * cap) →
      (if E.S.u64PowerLimit base = 0 then none
       else (iterOpt (fun x => smallMul cap x (wrap64 (base ^ E.S.u64PowerLimit base)))
              (e / E.S.u64PowerLimit base) x).bind fun x =>
            if e % E.S.u64PowerLimit base ≠ 0 then
              (intPowFastPath E (e % E.S.u64PowerLimit base) base).bind fun sp => smallMul cap x sp
            else some x) = fit cap (x * base ^ e) := by
    intro x e hxf
    have hs := T.small_pos
    have hip := T.intpow
    have hlt := T.small_lt
    generalize E.S.u64PowerLimit base = s at *
    rw [if_neg (by omega), show wrap64 (base ^ s) = base ^ s from Nat.mod_eq_of_lt hlt,
      iterOpt_fit (Nat.pow_pos hb) (ok := fun _ => True) (fun _ _ => trivial) (fun y _ => smallMul_fit ..) _ _ trivial hxf,
      pow_split base e s, ← Nat.mul_assoc]
    refine fit_bind_fit (Nat.le_mul_of_pos_right _ (Nat.pow_pos hb)) fun hy => ?_
    refine step_fit hy (g := fun k => base ^ k) rfl ?_
    rw [hip _ (Nat.mod_lt _ hs), Option.bind_some]
    exact smallMul_fit ..
  unfold powOdd
  by_cases hl : E.L.hasLarge = true
  · obtain ⟨hstep, hent⟩ := T.large hl
    rw [if_pos hl]
    generalize E.L.largeStep base = st at *
    simp only [if_neg (show ¬ st = 0 by omega)]
    rw [iterOpt_fit (Nat.pow_pos hb) (ok := (· ≠ 0)) (fun y hy => Nat.mul_ne_zero hy (Nat.ne_of_gt (Nat.pow_pos hb)))
      (fun y hy => largeMul_fit hent hy) _ _ hx hfit, pow_split base exp st, ← Nat.mul_assoc, Option.bind_map]
    exact fit_bind_fit (Nat.le_mul_of_pos_right _ (Nat.pow_pos hb)) fun hy => small _ _ hy
  · rw [if_neg hl]
    exact small x exp hfit

theorem shlBits_fit (cap x n : Nat) : shlBits cap x n = fit cap (x * 2 ^ n) := by
  unfold shlBits
  split
  · subst_vars; rw [Nat.zero_mul]; exact (fit_some (Nat.two_pow_pos _)).symm
  · exact guard_fit ..

theorem shlLimbs_fit {cap x : Nat} (hx : x ≠ 0) (n : Nat) : shlLimbs cap x n = fit cap (x * 2 ^ (64 * n)) := by
  have e := limbsOf_le_iff (x * 2 ^ (64 * n)) cap
  rw [limbsOf_shift64 hx] at e
  unfold shlLimbs fit
  by_cases h : n + limbsOf x > cap
  · rw [if_pos h, if_neg (by omega)]
  · rw [if_neg h, if_pos (by omega)]

/-- `hfit`: `shl(x, 0)` returns `x` unchecked -/
theorem shl_fit {cap x : Nat} (hx : x ≠ 0) (hfit : x < 2 ^ (64 * cap)) (n : Nat) :
    shl cap x n = fit cap (x * 2 ^ n) := by
  have esplit : 2 ^ n = 2 ^ (n % 64) * 2 ^ (64 * (n / 64)) := by rw [← Nat.pow_add, Nat.mod_add_div]
  unfold shl
  dsimp only
  rw [step_fit hfit (g := fun k => 2 ^ k) rfl (shlBits_fit ..), esplit, ← Nat.mul_assoc]
  exact fit_bind_fit (Nat.le_mul_of_pos_right _ (Nat.two_pow_pos _)) fun hy =>
    step_fit hy (g := fun k => 2 ^ (64 * k)) rfl
      (shlLimbs_fit (Nat.mul_ne_zero hx (Nat.ne_of_gt (Nat.two_pow_pos _))) _)

/-- what `Bigint::pow(base, ·)` needs: `split_radix(base) = (odd, shift)` with `odd·2^shift = base`
(`odd = 0`: a pure power of two), and the `pow` tables for `odd` -/
structure BigPowOk (E : Env) (base : Nat) : Prop where
  split : (if (E.L.splitRadix base).1 = 0 then 1 else (E.L.splitRadix base).1) * 2 ^ (E.L.splitRadix base).2 = base
  odd : (E.L.splitRadix base).1 ≠ 0 → PowOk E E.L.bigintLimbs (E.L.splitRadix base).1
  shift_le : (E.L.splitRadix base).2 ≤ 5

theorem BigPowOk.pos {E : Env} {base : Nat} (T : BigPowOk E base) : 0 < base := by
  rw [← T.split]
  refine Nat.mul_pos ?_ (Nat.two_pow_pos _)
  split
  · exact Nat.one_pos
  · exact Nat.pos_of_ne_zero ‹_›

/-- `exp < 2^29`: the `u32` product `exp * shift` does not wrap -/
theorem bigintPow_fit {E : Env} {base : Nat} (T : BigPowOk E base) {x : Nat} (hx : x ≠ 0)
    (hfit : x < 2 ^ (64 * E.L.bigintLimbs)) (exp : Nat) (hexp : exp < 2 ^ 29) :
    bigintPow E x base exp = fit E.L.bigintLimbs (x * base ^ exp) := by
  unfold bigintPow
  have hs := T.split
  have hsl := T.shift_le
  have hodd := T.odd
  generalize E.L.splitRadix base = os at *
  obtain ⟨odd, sh⟩ := os
  simp only at hs hsl hodd ⊢
  have hw : wrap32 (exp * sh) = exp * sh := by
    unfold wrap32; apply Nat.mod_eq_of_lt
    calc exp * sh ≤ exp * 5 := Nat.mul_le_mul_left _ hsl
      _ < 2 ^ 29 * 5 := Nat.mul_lt_mul_of_pos_right hexp (by decide)
      _ < 2 ^ 32 := by decide
  have step2 : ∀ y, y ≠ 0 → y < 2 ^ (64 * E.L.bigintLimbs) →
      (if sh ≠ 0 then shl E.L.bigintLimbs y (wrap32 (exp * sh)) else some y) = fit E.L.bigintLimbs (y * 2 ^ (exp * sh)) := by
    intro y hy hyf
    rw [hw]
    exact step_fit hyf (g := fun k => 2 ^ (exp * k)) rfl (shl_fit hy hyf _)
  by_cases ho : odd = 0
  · rw [if_pos ho, Nat.one_mul] at hs
    rw [if_neg (by omega), Option.bind_some, step2 x hx hfit, ← hs, ← Nat.pow_mul, Nat.mul_comm sh]
  · rw [if_neg ho] at hs
    have T' := hodd ho
    rw [if_pos ho, powOdd_fit T' hx hfit, ← hs, Nat.mul_pow, ← Nat.pow_mul, Nat.mul_comm sh, ← Nat.mul_assoc]
    exact fit_bind_fit (Nat.le_mul_of_pos_right _ (Nat.two_pow_pos _)) fun hy =>
      step2 _ (Nat.mul_ne_zero hx (Nat.ne_of_gt (Nat.pow_pos T'.base_pos))) hy

theorem bigintPow_eq {E : Env} {base : Nat} (T : BigPowOk E base) {x : Nat} (hx : x ≠ 0) (exp : Nat)
    (hexp : exp < 2 ^ 29) (h : x * base ^ exp < 2 ^ (64 * E.L.bigintLimbs)) :
    bigintPow E x base exp = some (x * base ^ exp) := by
  rw [bigintPow_fit T hx (Nat.lt_of_le_of_lt (Nat.le_mul_of_pos_right _ (Nat.pow_pos T.pos)) h) exp hexp, fit_some h]

theorem hi64_spec {x : Nat} (hx : x ≠ 0) :
    2 ^ 63 ≤ (hi64 x).1 ∧ (hi64 x).1 < 2 ^ 64 ∧
    (bitlen x ≤ 64 → (hi64 x).1 = x * 2 ^ (64 - bitlen x) ∧ (hi64 x).2 = false) ∧
    (64 < bitlen x → x = (hi64 x).1 * 2 ^ (bitlen x - 64) + x % 2 ^ (bitlen x - 64) ∧
      ((hi64 x).2 = true ↔ x % 2 ^ (bitlen x - 64) ≠ 0)) := by
  have l := bitlen_lower hx
  have u := bitlen_upper x
  have p := bitlen_pos hx
  unfold hi64
  rw [if_neg hx]
  by_cases hb : bitlen x ≤ 64
  · rw [if_pos hb]
    refine ⟨?_, ?_, fun _ => ⟨rfl, rfl⟩, fun h => by omega⟩
    · show 2 ^ 63 ≤ x * 2 ^ (64 - bitlen x)
      calc 2 ^ 63 = 2 ^ (bitlen x - 1) * 2 ^ (64 - bitlen x) := by rw [← Nat.pow_add]; congr 1; omega
        _ ≤ x * 2 ^ (64 - bitlen x) := Nat.mul_le_mul_right _ l
    · show x * 2 ^ (64 - bitlen x) < 2 ^ 64
      calc x * 2 ^ (64 - bitlen x) < 2 ^ bitlen x * 2 ^ (64 - bitlen x) :=
            Nat.mul_lt_mul_of_pos_right u (Nat.two_pow_pos _)
        _ = 2 ^ 64 := by rw [← Nat.pow_add]; congr 1; omega
  · rw [if_neg hb]
    have hk : 0 < 2 ^ (bitlen x - 64) := Nat.two_pow_pos _
    refine ⟨?_, ?_, fun h => by omega, fun _ => ⟨?_, by simp⟩⟩
    · show 2 ^ 63 ≤ x / 2 ^ (bitlen x - 64)
      rw [Nat.le_div_iff_mul_le hk, ← Nat.pow_add]
      have : 63 + (bitlen x - 64) = bitlen x - 1 := by omega
      rw [this]; exact l
    · show x / 2 ^ (bitlen x - 64) < 2 ^ 64
      rw [Nat.div_lt_iff_lt_mul hk, ← Nat.pow_add]
      have : 64 + (bitlen x - 64) = bitlen x := by omega
      rw [this]; exact u
    · show x = x / 2 ^ (bitlen x - 64) * 2 ^ (bitlen x - 64) + x % 2 ^ (bitlen x - 64)
      rw [Nat.mul_comm]; exact (Nat.div_add_mod x _).symm

end LexVerif.Proof.Slow
