import LexVerif.Model.Dragonbox
import LexVerif.Proof.DragonboxArith
/-!
# Proof.DragonboxBits — the three cache-multiplication kernels as floors / parity / "fraction is tiny"

With `φ` the cache entry (`hi·2^64 + lo` for f64, the single `u64` for f32), `c = φ·2^β` and `d = 2^128`
(f64) resp. `d = 2^64` (f32):

* `computeMul t (n·2^β) pow5 = (⌊n·c/d⌋, n·c mod d < √d)`;
* `computeMulParity t n pow5 β = (⌊n·c/d⌋ odd, n·c mod d < √d)`;
* `computeDelta t pow5 β = ⌊2·c/d⌋`.

Everything is proved for a general `β` (no case split), from the slice lemmas of `Proof.DragonboxArith`.
-/
namespace LexVerif.Proof.DragonboxBits
open LexVerif.Model.Dragonbox
open LexVerif.Proof.DragonboxArith

/-- cache width -/
def _root_.LexVerif.Model.Dragonbox.FTy.qb : FTy → Nat | .f32 => 64 | .f64 => 128
/-- the cache entry as one number -/
def phiOf : FTy → Nat × Nat → Nat | .f32, p => p.1 | .f64, p => p.1 * 2 ^ 64 + p.2

theorem shamt_id {β : Nat} (h : β ≤ 63) : (((β : Int)) % 64).toNat = β := by omega
theorem shamt_64_sub {β : Nat} (h1 : 1 ≤ β) (h2 : β ≤ 63) : ((64 - (β : Int)) % 64).toNat = 64 - β := by omega
theorem shamt_32_sub {β : Nat} (h2 : β ≤ 32) : ((32 - (β : Int)) % 64).toNat = 32 - β := by omega
theorem shamt_63_sub {β : Nat} (h2 : β ≤ 63) : ((64 - 1 - (β : Int)) % 64).toNat = 63 - β := by omega

theorem shr64_64_sub {x β : Nat} (h1 : 1 ≤ β) (h2 : β ≤ 63) : shr64 x (64 - (β : Int)) = x / 2 ^ (64 - β) := by
  unfold shr64; rw [shamt_64_sub h1 h2, Nat.shiftRight_eq_div_pow]
theorem shr64_32_sub {x β : Nat} (h2 : β ≤ 32) : shr64 x (32 - (β : Int)) = x / 2 ^ (32 - β) := by
  unfold shr64; rw [shamt_32_sub h2, Nat.shiftRight_eq_div_pow]
theorem shr64_63_sub {x β : Nat} (h2 : β ≤ 63) : shr64 x (64 - 1 - (β : Int)) = x / 2 ^ (63 - β) := by
  unfold shr64; rw [shamt_63_sub h2, Nat.shiftRight_eq_div_pow]
theorem shl64_nat {x β : Nat} (h : β ≤ 63) : shl64 x (β : Int) = x * 2 ^ β % 2 ^ 64 := by
  unfold shl64 u64; rw [shamt_id h, Nat.shiftLeft_eq]

theorem pow_split {N β : Nat} (h : β ≤ N) : 2 ^ N = 2 ^ (N - β) * 2 ^ β := by
  rw [← Nat.pow_add]; congr 1; omega

theorem mul_pow_div {P β N : Nat} (h : β ≤ N) : P * 2 ^ β / 2 ^ N = P / 2 ^ (N - β) := by
  rw [pow_split h, Nat.mul_div_mul_right _ _ (Nat.two_pow_pos β)]

theorem mul_pow_mod_lt {P β N M : Nat} (hM : β ≤ M) (hN : β ≤ N) :
    P * 2 ^ β % 2 ^ N < 2 ^ M ↔ P % 2 ^ (N - β) < 2 ^ (M - β) := by
  rw [pow_split hN, pow_split hM, Nat.mul_mod_mul_right]
  exact Nat.mul_lt_mul_right (Nat.two_pow_pos β)

theorem mod_pow_div_mod2 {x j N : Nat} (h : j < N) : x % 2 ^ N / 2 ^ j % 2 = x / 2 ^ j % 2 := by
  have hd : 2 ^ j * 2 ∣ 2 ^ N := by
    rw [← Nat.pow_succ]; exact Nat.pow_dvd_pow 2 h
  rw [← Nat.mod_mul_right_div_self, ← Nat.mod_mul_right_div_self, Nat.mod_mod_of_dvd _ hd]

theorem mod_pow_mod {x j N : Nat} (h : j ≤ N) : x % 2 ^ N % 2 ^ j = x % 2 ^ j :=
  Nat.mod_mod_of_dvd _ (Nat.pow_dvd_pow 2 h)

theorem mul_reassoc (n φ β : Nat) : n * 2 ^ β * φ = n * (φ * 2 ^ β) := by
  rw [Nat.mul_assoc, Nat.mul_comm (2 ^ β) φ]

theorem shl64_one {m : Nat} (h : 2 * m < 2 ^ 64) : shl64 m 1 = 2 * m := by
  have h1 : ((1 : Int) % 64).toNat = 1 := by decide
  unfold shl64 u64
  rw [h1, Nat.shiftLeft_eq]
  omega

theorem twoFc_or_one {m β : Nat} (hβ : β ≤ 63) (h : (2 * m + 1) * 2 ^ β < 2 ^ 64) :
    shl64 (shl64 m 1 ||| 1) (β : Int) = (2 * m + 1) * 2 ^ β := by
  have hp : 1 ≤ 2 ^ β := Nat.two_pow_pos β
  have hm : 2 * m < 2 ^ 64 := by
    have : (2 * m + 1) * 1 ≤ (2 * m + 1) * 2 ^ β := Nat.mul_le_mul_left _ hp
    omega
  have hor : 2 * m ||| 1 = 2 * m + 1 := by
    have := Nat.two_pow_add_eq_or_of_lt (i := 1) (b := 1) (by decide) m
    simpa using this.symm
  rw [shl64_one hm, hor, shl64_nat hβ, Nat.mod_eq_of_lt h]

theorem sub64_eq {a b : Nat} (hba : b ≤ a) (ha : a < 2 ^ 64) : sub64 a b = a - b := by
  unfold sub64 u64; omega
theorem sub64_one {x : Nat} (h1 : 1 ≤ x) (h : x < 2 ^ 64) : sub64 x 1 = x - 1 := sub64_eq h1 h
theorem sub32_eq {a b : Nat} (hba : b ≤ a) (ha : a < 2 ^ 32) : sub32 a b = a - b := by
  unfold sub32 u32; omega

theorem computeMul_f64 {n hi lo β : Nat} (hh : hi < 2 ^ 64) (hl : lo < 2 ^ 64) (hu : n * 2 ^ β < 2 ^ 64) :
    computeMul .f64 (n * 2 ^ β) (hi, lo)
      = (n * ((hi * 2 ^ 64 + lo) * 2 ^ β) / 2 ^ 128,
         decide (n * ((hi * 2 ^ 64 + lo) * 2 ^ β) % 2 ^ 128 < 2 ^ 64)) := by
  unfold computeMul
  simp only [umul192Upper128_eq hu hh hl, mul_reassoc]
  generalize n * ((hi * 2 ^ 64 + lo) * 2 ^ β) = X
  congr 1
  apply decide_eq_decide.mpr
  omega

theorem computeMulParity_f64 {n hi lo β : Nat} (hβ1 : 1 ≤ β) (hβ2 : β ≤ 63) (hn : n < 2 ^ 64)
    (hl : lo < 2 ^ 64) :
    computeMulParity .f64 n (hi, lo) (β : Int)
      = (decide (n * ((hi * 2 ^ 64 + lo) * 2 ^ β) / 2 ^ 128 % 2 = 1),
         decide (n * ((hi * 2 ^ 64 + lo) * 2 ^ β) % 2 ^ 128 < 2 ^ 64)) := by
  have hsum := umul192Lower128_eq (yhi := hi) hn hl
  have hlo : (umul192Lower128 n hi lo).2 < 2 ^ 64 := by
    rw [umul192Lower128_lo hn hl]; exact Nat.mod_lt _ (by decide)
  rw [← Nat.mul_assoc n]
  generalize n * (hi * 2 ^ 64 + lo) = P at *
  -- the two halves of `P mod 2^128`
  have hrhi : (umul192Lower128 n hi lo).1 = P % 2 ^ 128 / 2 ^ 64 := by omega
  have hrlo : (umul192Lower128 n hi lo).2 = P % 2 ^ 128 % 2 ^ 64 := by omega
  unfold computeMulParity
  simp only [shr64_64_sub hβ1 hβ2, shl64_nat hβ2, Nat.and_one_is_mod, hrhi, hrlo]
  have hk : 2 ^ (64 - β) < 2 ^ 64 := Nat.pow_lt_pow_right (by decide) (by omega)
  have hkp : 0 < 2 ^ (64 - β) := Nat.two_pow_pos _
  congr 1
  ·
    apply decide_eq_decide.mpr
    rw [mul_pow_div (show β ≤ 128 by omega), Nat.div_div_eq_div_mul, ← Nat.pow_add,
      show 64 + (64 - β) = 128 - β by omega, mod_pow_div_mod2 (show 128 - β < 128 by omega)]
    omega
  ·
    apply decide_eq_decide.mpr
    rw [mul_pow_mod_lt (show β ≤ 64 by omega) (show β ≤ 128 by omega), Nat.or_eq_zero_iff]
    rw [← mod_pow_mod (x := P) (show 128 - β ≤ 128 by omega)]
    generalize P % 2 ^ 128 = R
    have h2 : (2 : Nat) ^ (128 - β) = 2 ^ 64 * 2 ^ (64 - β) := by
      rw [← Nat.pow_add]; congr 1; omega
    rw [h2, Nat.mod_mul]
    have h3 : R / 2 ^ 64 * 2 ^ β % 2 ^ 64 = R / 2 ^ 64 % 2 ^ (64 - β) * 2 ^ β := by
      rw [pow_split (show β ≤ 64 by omega), Nat.mul_mod_mul_right]
    rw [h3, Nat.mul_eq_zero, Nat.div_eq_zero_iff]
    have hβp : 0 < 2 ^ β := Nat.two_pow_pos β
    have hlt : R % 2 ^ 64 < 2 ^ 64 := Nat.mod_lt _ (by decide)
    generalize R / 2 ^ 64 % 2 ^ (64 - β) = t
    generalize R % 2 ^ 64 = l at *
    generalize 2 ^ (64 - β) = c at *
    generalize 2 ^ β = b at *
    omega

theorem computeDelta_f64 {hi lo β : Nat} (hβ : β ≤ 63) (hl : lo < 2 ^ 64)
    (hs : 2 * ((hi * 2 ^ 64 + lo) * 2 ^ β) / 2 ^ 128 < 2 ^ 32) :
    computeDelta .f64 (hi, lo) (β : Int) = 2 * ((hi * 2 ^ 64 + lo) * 2 ^ β) / 2 ^ 128 := by
  have he : 2 * ((hi * 2 ^ 64 + lo) * 2 ^ β) / 2 ^ 128 = hi / 2 ^ (63 - β) := by
    rw [Nat.mul_comm 2, Nat.mul_assoc, ← Nat.pow_succ, mul_pow_div (show β + 1 ≤ 128 by omega),
      show 128 - (β + 1) = 64 + (63 - β) by omega, Nat.pow_add, ← Nat.div_div_eq_div_mul]
    congr 1; omega
  rw [he] at hs ⊢
  unfold computeDelta u32
  simp only [shr64_63_sub hβ]
  exact Nat.mod_eq_of_lt hs

/-! ## f32 (the second component of the pair is ignored by the model) -/

theorem computeMul_f32 {n φ l β : Nat} (hφ : φ < 2 ^ 64) (hu : n * 2 ^ β < 2 ^ 32) :
    computeMul .f32 (n * 2 ^ β) (φ, l)
      = (n * (φ * 2 ^ β) / 2 ^ 64, decide (n * (φ * 2 ^ β) % 2 ^ 64 < 2 ^ 32)) := by
  unfold computeMul u32
  simp only [umul96Upper64_eq hu hφ, mul_reassoc, Nat.shiftRight_eq_div_pow]
  generalize n * (φ * 2 ^ β) = X
  congr 1
  · omega
  · apply decide_eq_decide.mpr
    omega

theorem computeMulParity_f32 {n φ l β : Nat} (hβ1 : 1 ≤ β) (hβ2 : β ≤ 31) :
    computeMulParity .f32 n (φ, l) (β : Int)
      = (decide (n * (φ * 2 ^ β) / 2 ^ 64 % 2 = 1), decide (n * (φ * 2 ^ β) % 2 ^ 64 < 2 ^ 32)) := by
  rw [← Nat.mul_assoc n]
  unfold computeMulParity
  simp only [umul96Lower64_eq, shr64_64_sub hβ1 (show β ≤ 63 by omega), shr64_32_sub (show β ≤ 32 by omega),
    Nat.and_one_is_mod]
  generalize n * φ = P
  congr 1
  ·
    apply decide_eq_decide.mpr
    rw [mul_pow_div (show β ≤ 64 by omega), mod_pow_div_mod2 (show 64 - β < 64 by omega)]
    omega
  ·
    apply decide_eq_decide.mpr
    rw [mul_pow_mod_lt (show β ≤ 32 by omega) (show β ≤ 64 by omega),
      ← mod_pow_mod (x := P) (show 64 - β ≤ 64 by omega)]
    generalize P % 2 ^ 64 = r
    rw [Nat.and_comm, show (0xFFFFFFFF : Nat) = 2 ^ 32 - 1 by decide, Nat.and_two_pow_sub_one_eq_mod,
      ← Nat.mod_mul_right_div_self, Nat.div_eq_zero_iff, ← Nat.pow_add,
      show 32 - β + 32 = 64 - β by omega]
    have : 0 < 2 ^ (32 - β) := Nat.two_pow_pos _
    omega

theorem computeDelta_f32 {φ l β : Nat} (hβ : β ≤ 63) (hs : 2 * (φ * 2 ^ β) / 2 ^ 64 < 2 ^ 32) :
    computeDelta .f32 (φ, l) (β : Int) = 2 * (φ * 2 ^ β) / 2 ^ 64 := by
  have he : 2 * (φ * 2 ^ β) / 2 ^ 64 = φ / 2 ^ (63 - β) := by
    rw [Nat.mul_comm 2, Nat.mul_assoc, ← Nat.pow_succ, mul_pow_div (show β + 1 ≤ 64 by omega),
      show 64 - (β + 1) = 63 - β by omega]
  rw [he] at hs ⊢
  unfold computeDelta u32
  simp only [shr64_63_sub hβ]
  exact Nat.mod_eq_of_lt hs

theorem computeMul_eq (t : FTy) (pow5 : Nat × Nat) (h1 : pow5.1 < 2 ^ 64) (h2 : pow5.2 < 2 ^ 64) {n β : Nat}
    (hu : n * 2 ^ β < 2 ^ (t.qb / 2)) :
    computeMul t (n * 2 ^ β) pow5
      = (n * (phiOf t pow5 * 2 ^ β) / 2 ^ t.qb,
         decide (n * (phiOf t pow5 * 2 ^ β) % 2 ^ t.qb < 2 ^ (t.qb / 2))) := by
  obtain ⟨a, b⟩ := pow5
  cases t
  · exact computeMul_f32 h1 hu
  · exact computeMul_f64 h1 h2 hu

theorem computeMulParity_eq (t : FTy) (pow5 : Nat × Nat) (h2 : pow5.2 < 2 ^ 64)
    {n β : Nat} (hβ1 : 1 ≤ β) (hβ2 : β ≤ 31) (hn : n < 2 ^ 64) :
    computeMulParity t n pow5 (β : Int)
      = (decide (n * (phiOf t pow5 * 2 ^ β) / 2 ^ t.qb % 2 = 1),
         decide (n * (phiOf t pow5 * 2 ^ β) % 2 ^ t.qb < 2 ^ (t.qb / 2))) := by
  obtain ⟨a, b⟩ := pow5
  cases t
  · exact computeMulParity_f32 hβ1 hβ2
  · exact computeMulParity_f64 hβ1 (by omega) hn h2

theorem computeDelta_eq (t : FTy) (pow5 : Nat × Nat) (h2 : pow5.2 < 2 ^ 64) {β : Nat} (hβ : β ≤ 63)
    (hs : 2 * (phiOf t pow5 * 2 ^ β) / 2 ^ t.qb < 2 ^ 32) :
    computeDelta t pow5 (β : Int) = 2 * (phiOf t pow5 * 2 ^ β) / 2 ^ t.qb := by
  obtain ⟨a, b⟩ := pow5
  cases t
  · exact computeDelta_f32 hβ hs
  · exact computeDelta_f64 hβ h2 hs

/-! ## non-vacuity: one instance (the cache entry of `10^0` is `2^127`, `β = 3`, `n = 2·2^52 + 1`) -/

example :
    computeMul .f64 ((2 * 2 ^ 52 + 1) * 2 ^ 3) (2 ^ 63, 0)
      = ((2 * 2 ^ 52 + 1) * ((2 ^ 63 * 2 ^ 64 + 0) * 2 ^ 3) / 2 ^ 128,
         decide ((2 * 2 ^ 52 + 1) * ((2 ^ 63 * 2 ^ 64 + 0) * 2 ^ 3) % 2 ^ 128 < 2 ^ 64)) :=
  computeMul_f64 (by decide) (by decide) (by decide)

example : computeMul .f64 ((2 * 2 ^ 52 + 1) * 2 ^ 3) (2 ^ 63, 0) = (36028797018963972, true) := by
  rw [computeMul_f64 (by decide) (by decide) (by decide)]; decide

example : computeMulParity .f64 (2 * 2 ^ 52 + 1) (2 ^ 63, 0) ((3 : Nat) : Int) = (false, true) := by
  rw [computeMulParity_f64 (by decide) (by decide) (by decide) (by decide)]; decide

end LexVerif.Proof.DragonboxBits
