import LexVerif.Proof.SlowBigint
import LexVerif.Model.SlowBytes
/-!
# Proof.SlowLimbs — the value-level big-integer operations refine the limb-level ones

`Model.Slow` models a `StackVec` by the `Nat` it denotes and a capacity check by `limbsOf result ≤ SIZE`;
`Model.SlowBytes` has the same Rust functions on limb lists (used for `byte_comp`). For a **normalised** vector
(64-bit limbs, non-zero top limb) the two agree, value and failure alike (`smallMul_refines`, `shlLimbs_refines`).
`Computes`, `pushCarry`: the shape of a specification that fails exactly on overflow, and the carry limb that `small_mul`,
`shl_bits` and `small_add_from` push at the end. `Computes.refines`: a specification `Computes … V` is refinement of `fit cap V`.
-/
namespace LexVerif.Proof.Slow
open LexVerif.Spec LexVerif.Model LexVerif.Model.Slow LexVerif.Proof.RoundNE

def LimbsOk (x : Limbs) : Prop := ∀ l ∈ x, l < B64

def Normalized (x : Limbs) : Prop := LimbsOk x ∧ (∀ l, x.getLast? = some l → l ≠ 0)

theorem B64_pos : 0 < B64 := by unfold B64; exact Nat.two_pow_pos _

theorem one_lt_B64 : 1 < B64 := Nat.one_lt_two_pow (by decide)

theorem B64_pow (n : Nat) : B64 ^ n = 2 ^ (64 * n) := by unfold B64; rw [← Nat.pow_mul]

theorem B64_pow_lt {a b : Nat} (h : B64 ^ a < B64 ^ b) : a < b := (Nat.pow_lt_pow_iff_right one_lt_B64).mp h

theorem valL_append_pow (x y : Limbs) : valL (x ++ y) = valL x + B64 ^ x.length * valL y := by
  induction x with
  | nil => simp [valL]
  | cons a as ih =>
    simp only [List.cons_append, valL, ih, List.length_cons, Nat.pow_succ]
    ring

theorem valL_append (x : Limbs) (v : Nat) : valL (x ++ [v]) = valL x + B64 ^ x.length * v := by
  rw [valL_append_pow]; simp [valL]

theorem valL_zeros : ∀ n : Nat, valL (List.replicate n 0) = 0
  | 0 => rfl
  | n + 1 => by rw [List.replicate_succ, valL, valL_zeros n, Nat.mul_zero]

theorem valL_zeros_append (n : Nat) (x : Limbs) : valL (List.replicate n 0 ++ x) = B64 ^ n * valL x := by
  rw [valL_append_pow, valL_zeros, List.length_replicate, Nat.zero_add]

theorem valL_lt {x : Limbs} (h : LimbsOk x) : valL x < B64 ^ x.length := by
  induction x with
  | nil => simp [valL]
  | cons a as ih =>
    have ha : a < B64 := h a (List.mem_cons_self ..)
    have := ih (fun l hl => h l (List.mem_cons_of_mem _ hl))
    simp only [valL, List.length_cons, Nat.pow_succ]
    have h2 : B64 * (valL as + 1) ≤ B64 * B64 ^ as.length := Nat.mul_le_mul_left _ this
    rw [Nat.mul_add, Nat.mul_one] at h2
    rw [Nat.mul_comm (B64 ^ as.length) B64]
    omega

theorem valL_ge {x : Limbs} (h : Normalized x) (hne : x ≠ []) : B64 ^ (x.length - 1) ≤ valL x := by
  induction x with
  | nil => exact absurd rfl hne
  | cons a as ih =>
    cases has : as with
    | nil =>
      subst has
      have := h.2 a (by simp)
      simp only [valL, List.length_cons, List.length_nil, Nat.zero_add, Nat.sub_self, Nat.pow_zero]
      omega
    | cons b bs =>
      have hn : Normalized as := by
        refine ⟨fun l hl => h.1 l (List.mem_cons_of_mem _ hl), fun l hl => h.2 l ?_⟩
        rw [has] at hl ⊢
        simpa [List.getLast?_cons_cons] using hl
      have := ih hn (by rw [has]; simp)
      rw [has] at this
      simp only [valL, List.length_cons, Nat.add_sub_cancel] at this ⊢
      rw [Nat.pow_succ, Nat.mul_comm (B64 ^ bs.length) B64]
      have h2 : B64 * B64 ^ bs.length ≤ B64 * (b + B64 * valL bs) := Nat.mul_le_mul_left _ this
      omega

theorem limbsOk_append {x y : Limbs} : LimbsOk (x ++ y) ↔ LimbsOk x ∧ LimbsOk y := by
  unfold LimbsOk
  constructor
  · intro h; exact ⟨fun l hl => h l (List.mem_append_left _ hl), fun l hl => h l (List.mem_append_right _ hl)⟩
  · intro ⟨h1, h2⟩ l hl
    rcases List.mem_append.mp hl with h | h
    · exact h1 l h
    · exact h2 l h

theorem normalized_of_ge {x : Limbs} (h : LimbsOk x) (hge : x ≠ [] → B64 ^ (x.length - 1) ≤ valL x) : Normalized x := by
  refine ⟨h, ?_⟩
  intro l hl
  have hne : x ≠ [] := by intro h0; rw [h0] at hl; simp at hl
  intro hz
  subst hz
  obtain ⟨ys, hys⟩ : ∃ ys, x = ys ++ [0] := List.getLast?_eq_some_iff.mp hl
  have hge' := hge hne
  rw [hys, valL_append, Nat.mul_zero, Nat.add_zero, List.length_append, List.length_singleton,
    Nat.add_sub_cancel] at hge'
  have := valL_lt (x := ys) (fun l hl => h l (by rw [hys]; exact List.mem_append_left _ hl))
  omega

theorem limbsOf_valL {x : Limbs} (h : Normalized x) : limbsOf (valL x) = x.length := by
  by_cases hne : x = []
  · subst hne; simp [valL, limbsOf, bitlen_zero]
  · have hlt := valL_lt h.1
    have hge := valL_ge h hne
    have hpos : 0 < x.length := List.length_pos_iff.mpr hne
    rw [B64_pow] at hlt hge
    have h1 : limbsOf (valL x) ≤ x.length := (limbsOf_le_iff _ _).mpr hlt
    have h2 : ¬ limbsOf (valL x) ≤ x.length - 1 := by
      rw [limbsOf_le_iff]; omega
    omega

/-- one limb of a carry loop: the limb `m` and the carry `q` out of `a + c`, the limbs above by `e1` -/
theorem carry_step (B a c q m R k V Bn : Nat) (hdm : B * q + m = a + c) (e1 : R + Bn * k = V + q) :
    m + B * R + Bn * B * k = a + B * V + c := by
  have a1 : B * (R + Bn * k) = B * (V + q) := by rw [e1]
  have a2 : B * (R + Bn * k) = B * R + Bn * B * k := by ring
  have a3 : B * (V + q) = B * V + B * q := by ring
  omega

theorem smallMulGo_spec (y : Nat) : ∀ (x : Limbs) (c : Nat),
    valL (smallMulGo y x c).1 + B64 ^ x.length * (smallMulGo y x c).2 = valL x * y + c ∧
    (smallMulGo y x c).1.length = x.length ∧ LimbsOk (smallMulGo y x c).1
  | [], c => by simp [smallMulGo, valL, LimbsOk]
  | a :: as, c => by
    obtain ⟨h1, h2, h3⟩ := smallMulGo_spec y as ((a * y + c) / B64)
    simp only [smallMulGo, valL, List.length_cons]
    refine ⟨?_, by rw [h2], ?_⟩
    · rw [Nat.pow_succ]
      exact (carry_step B64 (a * y) c _ _ _ _ _ _ (Nat.div_add_mod (a * y + c) B64) h1).trans (by ring)
    · intro l hl
      rcases List.mem_cons.mp hl with h | h
      · rw [h]; exact Nat.mod_lt _ B64_pos
      · exact h3 l h

/-- `r` computes something with the property `P` (which says, among other things, that it denotes `V`) under the capacity
`cap`: every answer has `P`, and there is an answer whenever `V` fits in `cap` limbs. The specifications of the limb
operations have this shape, written out; `bind` composes them along `Option.bind`. -/
abbrev Computes {α : Type} (r : Option α) (cap V : Nat) (P : α → Prop) : Prop :=
  (∀ z, r = some z → P z) ∧ (V < B64 ^ cap → ∃ z, r = some z)

theorem Computes.pure {α : Type} {cap V : Nat} {P : α → Prop} {x : α} (h : P x) : Computes (some x) cap V P :=
  ⟨fun z hz => by injection hz with hz; rw [← hz]; exact h, fun _ => ⟨x, rfl⟩⟩

theorem Computes.mono {α : Type} {r : Option α} {cap V : Nat} {P Q : α → Prop} (h : Computes r cap V P)
    (hPQ : ∀ z, P z → Q z) : Computes r cap V Q :=
  ⟨fun z hz => hPQ z (h.1 z hz), h.2⟩

theorem Computes.bind {α β : Type} {r : Option α} {f : α → Option β} {cap V W : Nat} {P : α → Prop} {Q : β → Prop}
    (h : Computes r cap V P) (hVW : V ≤ W) (hf : ∀ y, P y → Computes (f y) cap W Q) : Computes (r.bind f) cap W Q := by
  constructor
  · intro z hz
    obtain ⟨y, hy, hz⟩ := Option.bind_eq_some_iff.mp hz
    exact (hf y (h.1 y hy)).1 z hz
  · intro hW
    obtain ⟨y, hy⟩ := h.2 (Nat.lt_of_le_of_lt hVW hW)
    rw [hy, Option.bind_some]
    exact (hf y (h.1 y hy)).2 hW

theorem Computes.map {α β : Type} {r : Option α} {g : α → β} {cap V : Nat} {P : α → Prop} {Q : β → Prop}
    (h : Computes r cap V P) (hg : ∀ y, P y → Q (g y)) : Computes (r.map g) cap V Q := by
  constructor
  · intro z hz
    obtain ⟨y, hy, hz⟩ := Option.map_eq_some_iff.mp hz
    rw [← hz]
    exact hg y (h.1 y hy)
  · intro hV
    obtain ⟨y, hy⟩ := h.2 hV
    exact ⟨g y, by rw [hy, Option.map_some]⟩

/-- what `small_mul`, `shl_bits` and `small_add_from` return for an argument of `n` limbs: limbs denoting `V`, at least `n`
of them and within the capacity, normalised when `V` needs `n` limbs -/
structure Carried (cap n V : Nat) (z : Limbs) : Prop where
  ok : LimbsOk z
  val : valL z = V
  ge : n ≤ z.length
  le : z.length ≤ cap
  norm : (0 < n → B64 ^ (n - 1) ≤ V) → Normalized z

/-- the three loops end the same way: the low limbs `ls` are kept and a non-zero carry limb is pushed on top, which
fails when the vector is full — and then `V ≥ B64^cap` -/
theorem pushCarry {cap : Nat} {ls : Limbs} {c : Nat} (ok : LimbsOk ls) (hc : c < B64) (hl : ls.length ≤ cap) :
    Computes (if c ≠ 0 then tryPush cap ls c else some ls) cap (valL ls + B64 ^ ls.length * c)
      (Carried cap ls.length (valL ls + B64 ^ ls.length * c)) := by
  by_cases h0 : c = 0
  · rw [if_neg (not_not_intro h0), h0, Nat.mul_zero, Nat.add_zero]
    exact Computes.pure ⟨ok, rfl, Nat.le_refl _, hl, fun hge => normalized_of_ge ok fun hne =>
      hge (List.length_pos_iff.mpr hne)⟩
  · rw [if_pos h0]
    have hge : B64 ^ ls.length ≤ valL ls + B64 ^ ls.length * c :=
      Nat.le_trans (Nat.le_mul_of_pos_right _ (Nat.pos_of_ne_zero h0)) (Nat.le_add_left _ _)
    unfold tryPush
    constructor
    · intro z hz
      split at hz
      · injection hz with hz
        subst hz
        have okz : LimbsOk (ls ++ [c]) := limbsOk_append.mpr ⟨ok, fun l hl => by rw [List.mem_singleton.mp hl]; exact hc⟩
        refine ⟨okz, valL_append _ _, by simp, by simp; omega, fun _ => ⟨okz, fun l hl => ?_⟩⟩
        rw [List.getLast?_concat] at hl
        injection hl with hl
        rw [← hl]; exact h0
      · exact absurd hz (by simp)
    · intro hfit
      rw [if_pos (B64_pow_lt (Nat.lt_of_le_of_lt hge hfit))]
      exact ⟨_, rfl⟩

theorem carry_lt {v Bn c V : Nat} (h : v + Bn * c = V) (hV : V < Bn * B64) : c < B64 := by
  apply Classical.byContradiction; intro hcon
  have : Bn * B64 ≤ Bn * c := Nat.mul_le_mul_left _ (Nat.le_of_not_lt hcon)
  omega

theorem valL_ge_mul {x : Limbs} (h : Normalized x) {k : Nat} (hk : 0 < k) (hpos : 0 < x.length) :
    B64 ^ (x.length - 1) ≤ valL x * k :=
  Nat.le_trans (valL_ge h (List.length_pos_iff.mp hpos)) (Nat.le_mul_of_pos_right _ hk)

theorem smallMulL_carried {cap : Nat} {x : Limbs} (ox : LimbsOk x) (hlen : x.length ≤ cap) {y : Nat} (hy : y < B64) :
    Computes (smallMulL cap x y) cap (valL x * y) (Carried cap x.length (valL x * y)) := by
  obtain ⟨h1, h2, h3⟩ := smallMulGo_spec y x 0
  rw [Nat.add_zero, ← h2] at h1
  have hc : (smallMulGo y x 0).2 < B64 := carry_lt h1 (by rw [h2]; exact Nat.mul_lt_mul'' (valL_lt ox) hy)
  have := pushCarry (cap := cap) h3 hc (by rw [h2]; exact hlen)
  rw [h1, h2] at this
  exact this

theorem smallMulL_full {cap : Nat} {x : Limbs} (h : Normalized x) (hlen : x.length ≤ cap) {y : Nat} (hy0 : y ≠ 0)
    (hy : y < B64) :
    (∀ z, smallMulL cap x y = some z → Normalized z ∧ valL z = valL x * y ∧ z.length ≤ cap) ∧
    (valL x * y < B64 ^ cap → ∃ z, smallMulL cap x y = some z) :=
  (smallMulL_carried h.1 hlen hy).mono fun _ c => ⟨c.norm (valL_ge_mul h (Nat.pos_of_ne_zero hy0)), c.val, c.le⟩

/-! ## limbs ↦ value

`Model.Slow` and `Model.SlowBytes` model the same Rust functions, on the number and on the limbs. `Rep` relates a
vector to its number, `Refines` the two answers of an operation. The primitives (`small_mul`, `shl_bits`, `shl_limbs`,
`large_mul`) refine their value-level models by their specifications; what is composed of them (`shl`, `pow`) refines by
congruence, so that its specification on limbs is the value-level equation `… = fit cap v` transported. -/

/-- the normalised vector `z`, of at most `cap` limbs, denotes `v ≠ 0` (the slow path has no zero big integer) -/
structure Rep (cap : Nat) (z : Limbs) (v : Nat) : Prop where
  norm : Normalized z
  le : z.length ≤ cap
  val : valL z = v
  pos : v ≠ 0

theorem Rep.fits {cap : Nat} {z : Limbs} {v : Nat} (h : Rep cap z v) : v < 2 ^ (64 * cap) := by
  rw [← h.val, ← B64_pow]
  exact Nat.lt_of_lt_of_le (valL_lt h.norm.1) (Nat.pow_le_pow_right B64_pos h.le)

theorem Rep.ne_nil {cap : Nat} {z : Limbs} {v : Nat} (h : Rep cap z v) : z ≠ [] := by
  rintro rfl; exact h.pos h.val.symm

theorem Rep.of {cap : Nat} {x : Limbs} (hx : Normalized x) (hne : x ≠ []) (hl : x.length ≤ cap) : Rep cap x (valL x) := by
  refine ⟨hx, hl, rfl, Nat.ne_of_gt (Nat.lt_of_lt_of_le (Nat.pow_pos B64_pos) (valL_ge hx hne))⟩

inductive Refines (cap : Nat) : Option Limbs → Option Nat → Prop
  | none : Refines cap none none
  | some {z : Limbs} {v : Nat} : Rep cap z v → Refines cap (some z) (some v)

theorem Refines.map_valL {cap : Nat} {rL : Option Limbs} {r : Option Nat} (h : Refines cap rL r) : rL.map valL = r := by
  cases h with
  | none => rfl
  | some R => rw [Option.map_some, R.val]

theorem Refines.bind {cap : Nat} {rL : Option Limbs} {r : Option Nat} {fL : Limbs → Option Limbs} {f : Nat → Option Nat}
    (h : Refines cap rL r) (hf : ∀ z v, Rep cap z v → Refines cap (fL z) (f v)) : Refines cap (rL.bind fL) (r.bind f) := by
  cases h with
  | none => exact .none
  | some hz => exact hf _ _ hz

theorem Refines.iter {cap : Nat} {fL : Limbs → Option Limbs} {f : Nat → Option Nat}
    (hf : ∀ z v, Rep cap z v → Refines cap (fL z) (f v)) :
    ∀ (n : Nat) (z : Limbs) (v : Nat), Rep cap z v → Refines cap (iterOptL fL n z) (iterOpt f n v)
  | 0, _, _, h => .some h
  | n + 1, z, v, h => (hf z v h).bind (Refines.iter hf n)

theorem Refines.step {cap : Nat} {x : Limbs} {v : Nat} (hx : Rep cap x v) {c : Prop} [Decidable c] {opL : Option Limbs}
    {op : Option Nat} (h : c → Refines cap opL op) :
    Refines cap (if c then opL else Option.some x) (if c then op else Option.some v) := by
  split
  · exact h ‹_›
  · exact .some hx

theorem Computes.refines {cap V : Nat} {r : Option Limbs} (hV : V ≠ 0)
    (h : Computes r cap V (fun z => Normalized z ∧ valL z = V ∧ z.length ≤ cap)) : Refines cap r (fit cap V) := by
  cases hr : r with
  | none =>
    have : ¬ V < 2 ^ (64 * cap) := fun hV => by
      obtain ⟨z, hz⟩ := h.2 (by rw [B64_pow]; exact hV)
      rw [hr] at hz; cases hz
    unfold fit; rw [if_neg this]; exact .none
  | some z =>
    obtain ⟨n, v, l⟩ := h.1 z hr
    have R : Rep cap z V := ⟨n, l, v, hV⟩
    rw [fit_some R.fits]; exact .some R

theorem Refines.computes {cap V : Nat} {r : Option Limbs} (h : Refines cap r (fit cap V)) :
    Computes r cap V (fun z => Normalized z ∧ valL z = V ∧ z.length ≤ cap ∧ z ≠ []) := by
  generalize hf : fit cap V = o at h
  cases h with
  | none =>
    refine ⟨fun z hz => (by cases hz), fun hV => ?_⟩
    rw [B64_pow] at hV; rw [fit_some hV] at hf; cases hf
  | some R =>
    obtain ⟨e, _⟩ := fit_eq_some hf
    refine ⟨fun z hz => ?_, fun _ => ⟨_, rfl⟩⟩
    injection hz with hz; subst hz; subst e
    exact ⟨R.norm, R.val, R.le, R.ne_nil⟩

theorem smallMulL_refines {cap : Nat} {x : Limbs} {v : Nat} (hx : Rep cap x v) {y : Nat} (hy0 : y ≠ 0) (hy : y < B64) :
    Refines cap (smallMulL cap x y) (smallMul cap v y) := by
  rw [smallMul_fit, ← hx.val]
  exact Computes.refines (Nat.mul_ne_zero (hx.val ▸ hx.pos) hy0) (smallMulL_full hx.norm hx.le hy0 hy)

theorem smallMul_refines {cap : Nat} {x : Limbs} (h : Normalized x) (hlen : x.length ≤ cap) {y : Nat} (hy0 : y ≠ 0)
    (hy : y < B64) : (smallMulL cap x y).map valL = smallMul cap (valL x) y := by
  by_cases hne : x = []
  · subst hne; rfl
  · exact (smallMulL_refines (Rep.of h hne hlen) hy0 hy).map_valL

theorem shlLimbs_refines {cap : Nat} {x : Limbs} (h : Normalized x) (n : Nat) :
    (shlLimbsL cap x n).map valL = shlLimbs cap (valL x) n := by
  unfold shlLimbsL shlLimbs
  rw [limbsOf_valL h]
  by_cases hc : n + x.length > cap
  · rw [if_pos hc, if_pos hc]; rfl
  · rw [if_neg hc, if_neg hc]
    by_cases hx : x = []
    · subst hx; simp [valL]
    · have : x.isEmpty = false := by
        cases x with
        | nil => exact absurd rfl hx
        | cons a as => rfl
      simp only [this, Bool.false_eq_true, if_false, Option.map_some]
      rw [valL_zeros_append, B64_pow, Nat.mul_comm]

end LexVerif.Proof.Slow
