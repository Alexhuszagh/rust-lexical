import LexVerif.Proof.SepGenRuns
import LexVerif.Proof.SepFreeMany2
import LexVerif.Proof.SepStripLoops
/-!
# Proof.SepGenPhases — a run over the input with separators against the run over the stripped input, for any
separator predicate

First pass of `parse_number` component by component: a digit run that does not end on a separator is matched by the run
over the stripped buffer (`Run.right`), so the one-run normal form of a phase (`integerPhase_left`, … of `SepGenRuns`)
read at both buffers gives the phase as one `BiE` statement (`integerPhase_bi`, `fractionPhase_bi`, `exponentPhase_bi`).
Then the many-digits re-parse as the closed form `manyClosed` over the stripped input (`manyDigits_left`), for components
whose iterator, restarted on the stored digit slice, runs through all of it (`SliceOK`): its `skip_zeros` and
`parse_u64_digits` calls are read at the stripped cursor (`Proof/SepStripLoops.lean`).
-/
namespace LexVerif.Proof.Sep
open LexVerif LexVerif.Model LexVerif.Spec
open LexVerif.Props.C12

theorem drop_slice_append (s : List Nat) (i j : Nat) (h : i ≤ j) : s.drop i = slice s i j ++ s.drop j := by
  unfold slice
  have : s.drop j = (s.drop i).drop (j - i) := by rw [List.drop_drop]; congr 1; omega
  rw [this, List.take_append_drop]

theorem digitsPrefix_append (r : Nat) : ∀ (bytes ds rest : List Nat),
    bytes.map (fun x => charToDigit x r) = ds.map some →
    (∀ x, rest.head? = some x → charToDigit x r = none) →
    digitsPrefix r (bytes ++ rest) = ds := by
  intro bytes
  induction bytes with
  | nil =>
    intro ds rest h hrest
    cases ds with
    | cons d ds => simp at h
    | nil =>
      cases rest with
      | nil => rfl
      | cons x xs => simp [digitsPrefix, hrest x rfl]
  | cons y ys ih =>
    intro ds rest h hrest
    cases ds with
    | nil => simp at h
    | cons d ds =>
      simp only [List.map_cons, List.cons.injEq] at h
      simp only [List.cons_append, digitsPrefix, h.1, ih ds rest h.2 hrest]

theorem map_some_length {α β : Type} {f : α → Option β} {l : List α} {ds : List β} (h : l.map f = ds.map some) :
    l.length = ds.length := by
  have := congrArg List.length h
  simpa using this

theorem Normal.of_run {c : Cfg} {k : Comp} {r : Nat} {b e : Bytes} {ds : List Nat} (h : Run c k r b e ds)
    (hN : ∀ x, b.slc[e.index]? = some x → c.isSep x = false) : Normal c e := by
  intro x hx; rw [h.slc] at hx; exact hN x hx

theorem Run.det {c : Cfg} {k : Comp} {r : Nat} {b e e' : Bytes} {ds ds' : List Nat} (h : Run c k r b e ds)
    (h' : Run c k r b e' ds') : ds' = ds ∧ e' = e := by
  have := h'.run
  rw [h.run] at this
  simp only [Except.ok.injEq, Prod.mk.injEq] at this
  exact ⟨this.1.symm, this.2.symm⟩

theorem StripRel.noSep {c : Cfg} {s : List Nat} {b b' : Bytes} (h : StripRel c s b b') : NoSep c b'.slc := by
  rw [h.2.1]; exact nonSep_noSep c s

theorem StripRel.valid' {c : Cfg} {s : List Nat} {b b' : Bytes} (h : StripRel c s b b') : Bytes.Valid b' := by
  unfold Bytes.Valid
  rw [h.2.2.1, h.2.1]
  exact nonSep_take_length_le c s b.index

theorem Run.right {c : Cfg} {k : Comp} {r : Nat} {b e b' : Bytes} {ds : List Nat} {s : List Nat}
    (hd : c.debug = false) (hk : c.skip k ≠ .unreachable)
    (hR : Run c k r b e ds) (hr : StripRel c s b b') (hN : ∀ x, b.slc[e.index]? = some x → c.isSep x = false) :
    parseDigits c k r b' = .ok (ds, adv c k ds.length b') ∧
    slice b'.slc b'.index (adv c k ds.length b').index = nonSep c (slice b.slc b.index e.index) ∧
    StripRel c s e (adv c k ds.length b') := by
  have hd' := hr.drop
  rw [drop_slice_append b.slc b.index e.index hR.le, nonSep_append] at hd'
  have hlen := map_some_length hR.yields
  have hrest : ∀ x, (nonSep c (b.slc.drop e.index)).head? = some x → charToDigit x r = none := by
    intro x hx
    cases hv : b.slc[e.index]? with
    | none => rw [IterSpec.drop_of_none hv] at hx; simp [nonSep] at hx
    | some y =>
      rw [IterSpec.drop_eq_cons hv, nonSep_cons_non c y _ (hN y hv)] at hx
      simp only [List.head?_cons, Option.some.injEq] at hx
      subst hx
      exact hR.stop y hv
  refine ⟨?_, ?_, ?_⟩
  · rw [parseDigits_nosep c k r hd hk b' hr.noSep, hd', digitsPrefix_append r _ ds _ hR.yields hrest]
  · rw [slice, adv_index, Nat.add_sub_cancel_left, hd', ← hlen, List.take_left]
  · have := hr.adv k (e.index - b.index) ds.length (by rw [← slice]; exact hlen)
    rw [← hR.eq] at this
    exact this

theorem expDigits_left (c : Cfg) (o : POpts) (hC : StripClass c o) (neg : Bool) (b : Bytes) (ex : Int)
    (hv : Bytes.Valid b) :
    ∃ ds e, Run c .exponent c.exponentRadix b e ds ∧ parseDigits c .exponent c.exponentRadix b = .ok (ds, e) ∧
      Phase.expTail c neg b e ds ex =
        (if ds.length = 0 then .error (.err "EmptyExponent" e.index)
         else .ok ⟨e, if neg then -(foldExponent c.exponentRadix 0 ds : Int) else (foldExponent c.exponentRadix 0 ds : Int),
                   ex + if neg then -(foldExponent c.exponentRadix 0 ds : Int) else (foldExponent c.exponentRadix 0 ds : Int)⟩) := by
  obtain ⟨ds, e, h, _⟩ := PNTotal.parseDigits_tot hC.tot .exponent c.exponentRadix b hv
  have hR := Run.of_clean c .exponent _ hC.debug hC.cleanE b e ds hv h
  refine ⟨ds, e, hR, h, ?_⟩
  unfold Phase.expTail
  simp only [hR.count hC.format hC.bytes (by decide), hC.reqExp, Bool.true_and, pure, Except.pure, decide_eq_true_eq]

theorem Run.head {c : Cfg} {k : Comp} {r : Nat} {b e : Bytes} {ds : List Nat} (hR : Run c k r b e ds) {y : Nat}
    (hy : (nonSep c (b.slc.drop b.index)).head? = some y) :
    ((charToDigit y r).isSome = true ∧ ds ≠ []) ∨ (ds = [] ∧ (nonSep c (b.slc.drop e.index)).head? = some y) := by
  rw [drop_slice_append b.slc b.index e.index hR.le, nonSep_append] at hy
  have hyl := hR.yields
  cases hl : nonSep c (slice b.slc b.index e.index) with
  | nil =>
    rw [hl] at hy hyl
    refine Or.inr ⟨?_, by simpa using hy⟩
    cases ds with
    | nil => rfl
    | cons d ds' => simp at hyl
  | cons z zs =>
    rw [hl] at hy hyl
    simp only [List.cons_append, List.head?_cons, Option.some.injEq] at hy
    subst hy
    cases ds with
    | nil => simp at hyl
    | cons d ds' =>
      simp only [List.map_cons, List.cons.injEq] at hyl
      exact Or.inl ⟨by rw [hyl.1]; rfl, by simp⟩

def IntStrip (c : Cfg) (s : List Nat) (b b' : Bytes) (ip ip' : IntPart) : Prop :=
  ∃ e ds, Run c .integer c.mantissaRadix b e ds ∧
    (c.iterContiguous .integer = true → e.index - b.index = ds.length ∧ NoSep c (slice b.slc b.index e.index)) ∧
    (∀ x, b.slc[e.index]? = some x → c.isSep x = false) ∧ StripRel c s e (adv c .integer ds.length b') ∧
    ip = ⟨false, b, e, foldMantissa c.mantissaRadix 0 ds, ds.length, slice b.slc b.index e.index⟩ ∧
    ip' = ⟨false, b', adv c .integer ds.length b', foldMantissa c.mantissaRadix 0 ds, ds.length,
      nonSep c (slice b.slc b.index e.index)⟩

theorem integerPhase_bi (c : Cfg) (o : POpts) (hC : StripClass c o) (s : List Nat) (b b' : Bytes)
    (hr : StripRel c s b b') (hv : Bytes.Valid b)
    (hN : ∀ e ds, Run c .integer c.mantissaRadix b e ds → ∀ x, b.slc[e.index]? = some x → c.isSep x = false) :
    BiE (IntStrip c s b b') (integerPhase c b) (integerPhase c b') := by
  obtain ⟨ds, e, hR, hcon, hL⟩ := integerPhase_left c o hC b hv
  obtain ⟨h1, h2, h3⟩ := hR.right hC.debug (hC.reach _) hr (hN e ds hR)
  obtain ⟨ds', e', hR', _, hL'⟩ := integerPhase_left c o hC b' hr.valid'
  have := hR'.run
  rw [h1] at this
  simp only [Except.ok.injEq, Prod.mk.injEq] at this
  obtain ⟨rfl, rfl⟩ := this
  rw [hL, hL', h2]
  exact biE_ite ⟨e, ds, hR, hcon, hN e ds hR, h3, rfl, rfl⟩

/-- what the fraction phase did on the left, that is over the input with separators -/
def FracLeft (c : Cfg) (o : POpts) (b eI : Bytes) (mI : Nat) (fp : FracPart) : Prop :=
  (fp = ⟨eI, mI, 0, 0, none, false⟩ ∧ eI.firstIsCased o.dp = false) ∨
  (∃ dsF eF, b.slc[eI.index]? = some o.dp ∧ Run c .fraction c.mantissaRadix { eI with index := eI.index + 1 } eF dsF ∧
    (c.iterContiguous .fraction = true →
      eF.index - (eI.index + 1) = dsF.length ∧ NoSep c (slice b.slc (eI.index + 1) eF.index)) ∧
    (c.requiredFractionDigits && decide (dsF.length = 0)) = false ∧
    fp = ⟨eF, foldMantissa c.mantissaRadix mI dsF, dsF.length, scaleVal c (-(dsF.length : Int)),
      some (slice b.slc (eI.index + 1) eF.index), true⟩)

def FracStrip (c : Cfg) (o : POpts) (s : List Nat) (b0 b : Bytes) (m : Nat) (fp fp' : FracPart) : Prop :=
  FracLeft c o b0 b m fp ∧ Normal c fp.byte ∧ StripRel c s fp.byte fp'.byte ∧ fp'.mantissa = fp.mantissa ∧
    fp'.nAfterDot = fp.nAfterDot ∧ fp'.exponent = fp.exponent ∧ fp'.fraction = fp.fraction.map (nonSep c) ∧
    fp'.hasDecimal = fp.hasDecimal

theorem fractionPhase_bi (c : Cfg) (o : POpts) (hC : StripClass c o) (s : List Nat) (b0 b b' : Bytes) (m : Nat)
    (hb0 : b0.slc = b.slc) (hr : StripRel c s b b') (hNb : Normal c b)
    (hN : b.slc[b.index]? = some o.dp → ∀ e ds, Run c .fraction c.mantissaRadix { b with index := b.index + 1 } e ds →
      ∀ x, b.slc[e.index]? = some x → c.isSep x = false) :
    BiE (FracStrip c o s b0 b m) (fractionPhase c o b m) (fractionPhase c o b' m) := by
  have hfirst : b'.firstIsCased o.dp = b.firstIsCased o.dp := by
    unfold Bytes.firstIsCased; rw [hr.first hNb]
  rcases fractionPhase_left c o hC b m with ⟨hnodp, hfr⟩ | ⟨hdp, ds, e, hR, hcon, hfr⟩
  · rcases fractionPhase_left c o hC b' m with ⟨_, hfr'⟩ | ⟨hdp', _⟩
    · rw [hfr, hfr']
      exact biE_ok ⟨Or.inl ⟨rfl, hnodp⟩, hNb, hr, rfl, rfl, rfl, rfl, rfl⟩
    · have hf' : b'.firstIsCased o.dp = true := by simp [Bytes.firstIsCased, Bytes.first, hdp']
      rw [hfirst, hnodp] at hf'; cases hf'
  · have hNe := hN hdp e ds hR
    obtain ⟨h1, h2, h3⟩ := hR.right hC.debug (hC.reach _) (hr.step1 o.dp hdp (hNb _ hdp)) hNe
    rcases fractionPhase_left c o hC b' m with ⟨hnodp', _⟩ | ⟨_, ds', e', hR', _, hfr'⟩
    · have hf : b.firstIsCased o.dp = true := by simp [Bytes.firstIsCased, Bytes.first, hdp]
      rw [← hfirst, hnodp'] at hf; cases hf
    · have := hR'.run
      rw [h1] at this
      simp only [Except.ok.injEq, Prod.mk.injEq] at this
      obtain ⟨rfl, rfl⟩ := this
      simp only at h2
      rw [hfr, hfr', h2]
      by_cases hz : (c.requiredFractionDigits && decide (ds.length = 0)) = true
      · simp only [hz, if_true]; exact biE_err
      · simp only [hz, Bool.false_eq_true, if_false]
        exact biE_ok ⟨Or.inr ⟨ds, e, by rw [hb0]; exact hdp, hR, by rw [hb0]; exact hcon, by simpa using hz,
            by rw [hb0]⟩, Normal.of_run hR hNe, h3, rfl, rfl, rfl, rfl, rfl⟩

def ExpStrip (c : Cfg) (s : List Nat) (ep ep' : ExpPart) : Prop :=
  StripRel c s ep.byte ep'.byte ∧ ep'.explicit = ep.explicit ∧ ep'.exponent = ep.exponent ∧
    ep.byte.index ≤ s.length ∧ ∀ x, s[ep.byte.index]? = some x → c.isSep x = false

theorem exponentPhase_bi (c : Cfg) (o : POpts) (hC : StripClass c o) (s : List Nat) (hasExp : Bool) (bC bP : Bytes)
    (hr : StripRel c s bC bP) (hNb : Normal c bC) (hx : hasExp = true → ∃ x, bC.slc[bC.index]? = some x)
    (hv : bC.index ≤ s.length) (hP : hasExp = true → NoSignAfterSep c { bC with index := bC.index + 1 })
    (hNE : hasExp = true → ∀ r, parseExponentSign c { bC with index := bC.index + 1 } = .ok r →
      ∀ e ds, Run c .exponent c.exponentRadix r.2 e ds → ∀ x, s[e.index]? = some x → c.isSep x = false)
    (fr : Option (List Nat)) (ex : Int) :
    BiE (ExpStrip c s) (exponentPhase c hasExp bC fr ex) (exponentPhase c hasExp bP (fr.map (nonSep c)) ex) := by
  rw [Phase.exponentPhase_eq, Phase.exponentPhase_eq]
  cases hasExp
  · simp only [Bool.false_eq_true, if_false]
    split
    · exact biE_err
    · exact biE_ok ⟨hr, rfl, rfl, hv, fun x hx => hNb x (by rw [hr.1]; exact hx)⟩
  · obtain ⟨x, hget⟩ := hx rfl
    have hr1 := hr.step1 x hget (hNb x hget)
    have hlt : bC.index < bC.slc.length := (List.getElem?_eq_some_iff.mp hget).1
    simp only [if_true, step_release c hC.debug, Option.isNone_map]
    show BiE _ (if _ then _ else if _ then _ else _) (if _ then _ else if _ then _ else _)
    split
    · exact biE_err
    · split
      · exact biE_err
      · refine BiE.bind_ok (parseSign_bi c hC.debug hC.sepPlus hC.sepMinus s _ _ _ _ _ _ hr1 (hP rfl)) ?_
        rintro ⟨neg, st⟩ ⟨neg', st'⟩ hsg _ ⟨h2, h3, h4⟩
        simp only at h2 h3 h4
        subst h2
        have hv2 : st.index ≤ st.slc.length := by
          have := h4 (by omega)
          rw [h3.1]; simp only [hr.1] at this; exact this
        obtain ⟨ds, e, hR, hPd, hT⟩ := expDigits_left c o hC neg' st ex hv2
        have hNe := hNE rfl (neg', st) hsg e ds hR
        obtain ⟨h1, _, g3⟩ := hR.right hC.debug (hC.reach _) h3 (by rw [h3.1]; exact hNe)
        obtain ⟨ds', e', _, hPd', hT'⟩ := expDigits_left c o hC neg' st' ex h3.valid'
        rw [h1] at hPd'
        simp only [Except.ok.injEq, Prod.mk.injEq] at hPd'
        obtain ⟨rfl, rfl⟩ := hPd'
        simp only [hPd, h1, bind, Except.bind, hT, hT']
        refine biE_ite ⟨g3, rfl, rfl, ?_, hNe⟩
        have := hR.valid; rw [h3.1] at this; exact this

def SliceOK (c : Cfg) (k : Comp) (R : List Nat) : Prop :=
  (c.iterContiguous k = true ∧ NoSep c R) ∨
  (c.iterContiguous k = false ∧ ∃ ds e', parseDigits c k c.mantissaRadix (Bytes.new R) = .ok (ds, e') ∧
    e'.index = R.length)

theorem nonSep_of_noSep (c : Cfg) (l : List Nat) (h : NoSep c l) : nonSep c l = l := by
  simp only [nonSep, List.filter_eq_self]
  intro x hx; simp [h x hx]

theorem slice_zero_length (l : List Nat) : slice l 0 l.length = l := by simp [slice]

theorem rescan_zeros_u64 (c : Cfg) (o : POpts) (hC : StripClass c o) (k : Comp) (hk : k = .integer ∨ k = .fraction)
    (hr1 : 1 ≤ c.mantissaRadix) (R : List Nat) (hok : SliceOK c k R) (m st : Nat) :
    ∃ n bz bu, skipZeros c k (Bytes.new R) = .ok (n, bz) ∧
      parseU64Digits c k bz m st =
        .ok (bu, (u64Spec c.mantissaRadix ((nonSep c R).drop (zerosPrefix (nonSep c R))) m st).2.1,
             (u64Spec c.mantissaRadix ((nonSep c R).drop (zerosPrefix (nonSep c R))) m st).2.2) ∧
      Bytes.currentCount c bu = zerosPrefix (nonSep c R)
        + (u64Spec c.mantissaRadix ((nonSep c R).drop (zerosPrefix (nonSep c R))) m st).1 := by
  have hks : k ≠ .special := by rcases hk with rfl | rfl <;> decide
  rcases hok with ⟨hc, hn⟩ | ⟨hc, ds, e', hrun, hend⟩
  · have hp := plainPeek_noskip c k R (skip_of_contig c k hc)
    rw [nonSep_of_noSep c R hn]
    have hz := skipZeros_pk c k hC.debug (Bytes.new R) hp
    have hu := parseU64_pk c k hC.debug (hC.multi k hks) (adv c k (zerosPrefix R) (Bytes.new R)) m st (by simpa [new_slc] using hp)
    simp only [new_slc, new_index, List.drop_zero] at hz
    simp only [adv_slc, adv_index, new_slc, new_index, Nat.zero_add] at hu
    refine ⟨_, _, _, hz, hu, ?_⟩
    simp only [currentCount_adv c k _ _ hks, currentCount_new, Nat.zero_add]
  · -- the digit run over the slice goes through to its end, so the zero run along it rests on no separator, and the
    -- digit run from there goes through to the end too
    have h48 := CharDigit.charToDigit_48 _ hr1
    have hcl := hC.cleanM k hk
    have hD := congrArg Bytes.index (parseDigits_end hC.debug hrun)
    rw [IterSpec.mv_index, hend] at hD
    have hNZ := scan_sub_rest (Bytes.new R).slc (isDig_zero h48) hcl _ _ _ (by
      intro x hx; rw [← hD] at hx; simp [new_slc] at hx)
    obtain ⟨hz, hrz, hzl⟩ := skipZeros_strip hC.debug (hC.reach k) hks (Clean.zero h48 hcl) (stripRel_new c R) hNZ
    have hres := scan_resume (Bytes.new R).slc (isDig_zero h48) _ _ _ (IterSpec.run_fuel _ _) hNZ (R.length + 1)
      ((IterSpec.mv c k (IterSpec.run c k (· == 48) (Bytes.new R)).2
        (zerosPrefix ((Bytes.new (nonSep c R)).slc.drop (Bytes.new (nonSep c R)).index)) (Bytes.new R)).iterCount c k == 0)
      (IterSpec.run_fuel _ _)
    obtain ⟨bu, hu, hcnt⟩ := parseU64_strip hC.debug (hC.reach k) hks hc hC.bytes hcl hrz
      (by rw [IterSpec.mv_index]
          exact (IterSpec.scan_le (c := c) (k := k) R _ _ _ 0 (Nat.zero_le _)).1)
      (by simp only [IterSpec.run, IterSpec.mv_slc, IterSpec.mv_index, new_slc] at hres ⊢
          rw [hres]; simpa [IterSpec.run, new_slc] using hD.symm) m st
    simp only [adv_slc, adv_index, new_slc, new_index, Nat.zero_add, List.drop_zero] at hz hu hcnt
    refine ⟨_, _, bu, hz, hu, ?_⟩
    rw [hcnt]
    simp only [Bytes.currentCount, hC.bytes, Bool.false_eq_true, if_false, IterSpec.mv_sum c k hC.format hks]
    simp [Bytes.new]

theorem rescan_u64 (c : Cfg) (o : POpts) (hC : StripClass c o) (k : Comp) (hk : k = .integer ∨ k = .fraction)
    (R : List Nat) (hok : SliceOK c k R) (m st : Nat) :
    ∃ bu, parseU64Digits c k (Bytes.new R) m st =
        .ok (bu, (u64Spec c.mantissaRadix (nonSep c R) m st).2.1, (u64Spec c.mantissaRadix (nonSep c R) m st).2.2) ∧
      Bytes.currentCount c bu = (u64Spec c.mantissaRadix (nonSep c R) m st).1 := by
  have hks : k ≠ .special := by rcases hk with rfl | rfl <;> decide
  rcases hok with ⟨hc, hn⟩ | ⟨hc, ds, e', hrun, hend⟩
  · have hp := plainPeek_noskip c k R (skip_of_contig c k hc)
    rw [nonSep_of_noSep c R hn]
    have hu := parseU64_pk c k hC.debug (hC.multi k hks) (Bytes.new R) m st (by simpa [new_slc] using hp)
    simp only [new_slc, new_index, List.drop_zero] at hu
    refine ⟨_, hu, ?_⟩
    simp only [currentCount_adv c k _ _ hks, currentCount_new, Nat.zero_add]
  · have hD := congrArg Bytes.index (parseDigits_end hC.debug hrun)
    rw [IterSpec.mv_index, hend] at hD
    obtain ⟨bu, hu, hcnt⟩ := parseU64_strip hC.debug (hC.reach k) hks hc hC.bytes (hC.cleanM k hk) (stripRel_new c R)
      (Nat.zero_le _) hD.symm m st
    simp only [new_slc, new_index, List.drop_zero] at hu hcnt
    exact ⟨bu, hu, by rw [hcnt, currentCount_new, Nat.zero_add]⟩

/-- the two `skip_zeros` at the head of the re-parse, read at the stripped cursor `b'` -/
theorem zeros_part (c : Cfg) (o : POpts) (hC : StripClass c o) (hr1 : 1 ≤ c.mantissaRadix) (s : List Nat)
    (b b' eI : Bytes) (dsI : List Nat) (hr : StripRel c s b b') (hRI : Run c .integer c.mantissaRadix b eI dsI)
    (hNI : ∀ x, s[eI.index]? = some x → c.isSep x = false)
    (hfrac : s[eI.index]? = some o.dp → ∃ dsF eF, Run c .fraction c.mantissaRadix { eI with index := eI.index + 1 } eF dsF ∧
      ∀ x, s[eF.index]? = some x → c.isSep x = false) :
    ∃ bz zf bzF, skipZeros c .integer b = .ok (zerosPrefix (b'.slc.drop b'.index), bz) ∧ bz.slc = s ∧
      bz.firstIsCased o.dp = (b'.slc[b'.index + zerosPrefix (b'.slc.drop b'.index)]? == some o.dp) ∧
      skipZeros c .fraction (if bz.firstIsCased o.dp = true then { bz with index := bz.index + 1 } else bz) = .ok (zf, bzF) ∧
      zerosPrefix (b'.slc.drop (if bz.firstIsCased o.dp = true then b'.index + zerosPrefix (b'.slc.drop b'.index) + 1
        else b'.index + zerosPrefix (b'.slc.drop b'.index))) = zf := by
  have h48 := CharDigit.charToDigit_48 _ hr1
  have hd := hC.debug
  have hclI := hC.cleanM .integer (Or.inl rfl)
  have hclF := hC.cleanM .fraction (Or.inr rfl)
  have hsl := hr.1
  subst hsl
  -- the integer zeros: along the integer digits, which end on no separator
  have heI := parseDigits_end hd hRI.run
  have hNZ := scan_sub_rest b.slc (isDig_zero h48) hclI _ _ _ (by
    intro x hx; exact hNI x (by rw [heI, IterSpec.mv_index]; exact hx))
  obtain ⟨hz, hrz, hzl⟩ := skipZeros_strip hd (hC.reach _) (by decide) (Clean.zero h48 hclI) hr hNZ
  generalize hbz : IterSpec.mv c .integer (IterSpec.run c .integer (· == 48) b).2 (zerosPrefix (b'.slc.drop b'.index)) b
    = bz at hz hrz
  have hbzs : bz.slc = b.slc := by rw [← hbz]; exact IterSpec.mv_slc ..
  have hbzi : bz.index = (IterSpec.run c .integer (· == 48) b).2 := by rw [← hbz]; exact IterSpec.mv_index ..
  have hNbz : Normal c bz := fun x hx => hNZ x (by rw [hbzs, hbzi] at hx; exact hx)
  have hfirst := hrz.first hNbz
  simp only [adv_first] at hfirst
  refine ⟨bz, ?_⟩
  cases hdpf : bz.firstIsCased o.dp
  · -- no decimal point under the cursor, which is no `'0'` either: the fraction `skip_zeros` stays
    have hstay := run_stay (c := c) (k := .fraction) (· == 48) bz fun x hx =>
      ⟨hNbz x hx, IterSpec.scan_stop b.slc _ _ _ _ (IterSpec.run_fuel _ b) x (by rw [hbzs, hbzi] at hx; exact hx)⟩
    obtain ⟨hzF, -, -⟩ := skipZeros_strip hd (hC.reach _) (by decide) (Clean.zero h48 hclF) hrz (by
      rw [hstay]; exact fun x hx => hNbz x (by rw [hbzs]; exact hx))
    simp only [Bool.false_eq_true, if_false]
    exact ⟨_, _, hz, hbzs, by rw [← hdpf, Bytes.firstIsCased, hfirst], hzF, by simp only [adv_slc, adv_index]⟩
  · have hdp : b.slc[bz.index]? = some o.dp := by
      rw [← hbzs]; simpa [Bytes.firstIsCased, Bytes.first] using hdpf
    have hr1 := hrz.step1 o.dp (by rw [hbzs]; exact hdp) (hNbz _ (by rw [hbzs]; exact hdp))
    -- the fraction zeros run along fraction digits that end on no separator
    have hNF : ∀ x, b.slc[(IterSpec.run c .fraction (· == 48) { bz with index := bz.index + 1 }).2]? = some x →
        c.isSep x = false := by
      rcases hC.comp .fraction (by decide) with hk | hI
      · intro x hx
        exact IterSpec.scan_rest_iltc hk _ _ _ _ _ x (by simp only [IterSpec.run, hbzs] at hx ⊢; exact hx)
      · -- the decimal point is no digit: the integer digits were all zeros, and these are the fraction digits of the
        -- first pass
        have hst := scan_sub_stop (c := c) (k := .integer) b.slc (isDig_zero h48) (b.slc.length + 1)
          (b.iterCount c .integer == 0) b.index (fun x hx => by
            rw [show (IterSpec.scan c .integer b.slc (· == 48) (b.slc.length + 1) (b.iterCount c .integer == 0) b.index).2
              = bz.index from hbzi.symm, hdp] at hx
            cases hx; simp [IterSpec.isDig, hI.1])
        have hbe : eI = bz := by rw [heI, ← hbz, hzl]; simp only [IterSpec.run, hst]
        subst hbe
        obtain ⟨dsF, eF, hRF, hNF⟩ := hfrac hdp
        have heF := parseDigits_end hd hRF.run
        have := scan_sub_rest (c := c) (k := .fraction) b.slc (isDig_zero h48) hclF (b.slc.length + 1)
          (({ eI with index := eI.index + 1 } : Bytes).iterCount c .fraction == 0) (eI.index + 1) fun x hx => hNF x (by
            rw [heF, IterSpec.mv_index]; simp only [IterSpec.run, hbzs]; exact hx)
        intro x hx
        exact this x (by simp only [IterSpec.run, hbzs] at hx; exact hx)
    obtain ⟨hzF, -, -⟩ := skipZeros_strip hd (hC.reach _) (by decide) (Clean.zero h48 hclF) hr1 hNF
    simp only [if_true]
    exact ⟨_, _, hz, hbzs, by rw [← hdpf, Bytes.firstIsCased, hfirst], hzF, by simp only [adv_slc, adv_index]⟩

theorem manyDigits_left (c : Cfg) (o : POpts) (hC : StripClass c o) (hr1 : 1 ≤ c.mantissaRadix) (s : List Nat)
    (neg : Bool)
    (ip : IntPart) (fp : FracPart) (ep : ExpPart) (nDigits step : Nat) (ex0 : Int) (endIdx : Nat)
    (eI : Bytes) (dsI : List Nat) (hs : ip.start.slc = s)
    (hRI : Run c .integer c.mantissaRadix ip.start eI dsI)
    (hNI : ∀ x, s[eI.index]? = some x → c.isSep x = false)
    (hfrac : s[eI.index]? = some o.dp → ∃ dsF eF, Run c .fraction c.mantissaRadix { eI with index := eI.index + 1 } eF dsF ∧
      ∀ x, s[eF.index]? = some x → c.isSep x = false)
    (hokI : SliceOK c .integer ip.integerDigits)
    (hokF : ∀ fd, fp.fraction = some fd → SliceOK c .fraction fd) :
    manyDigitsPhase c o neg ip fp ep nDigits step ex0 endIdx =
      (manyClosed c.mantissaRadix (scaleVal c) o.dp (nonSep c s) (nonSep c (s.take ip.start.index)).length
        (nonSep c ip.integerDigits) ip.nDigits (fp.fraction.map (nonSep c)) fp.mantissa ep.explicit neg nDigits step
        ex0 endIdx (c.feats.format && !c.bytesContiguous)).map
        (fun r => ({ r.1 with integer := ip.integerDigits, fraction := fp.fraction }, r.2)) := by
  -- the zero counts of the first pass (`zeros_part`) and the re-scans of the two stored slices (`rescan_zeros_u64`,
  -- `rescan_u64`) are the pieces of `manyClosed` over the stripped input; the rest is `manyDigitsPhase` unfolded
  obtain ⟨bz, zf, bzF, h1, h2, h3, h4, r3⟩ := zeros_part c o hC hr1 s ip.start
    ⟨nonSep c s, (nonSep c (s.take ip.start.index)).length, ip.start.ic, ip.start.fc, ip.start.ec⟩ eI dsI
    ⟨hs, rfl, rfl, rfl, rfl, rfl⟩ hRI hNI hfrac
  simp only at h1 h3 h4 r3
  rw [h3] at h4 r3
  unfold manyDigitsPhase manyClosed manyCore
  simp only [h1, bind, Except.bind, h3]
  generalize zerosPrefix ((nonSep c s).drop (nonSep c (s.take ip.start.index)).length) = z at h4 r3 ⊢
  generalize ((nonSep c s)[(nonSep c (s.take ip.start.index)).length + z]? == some o.dp) = dpf at h4 r3 ⊢
  cases dpf <;>
  simp only [if_true, Bool.false_eq_true, if_false, step_release c hC.debug, pure, Except.pure] at h4 r3 ⊢ <;>
  simp only [h4, r3] <;>
  ( by_cases hnd : nDigits - step - z - zf > 0
    · simp only [hnd, if_true]
      obtain ⟨n1, bzI, buI, i1, i2, i3⟩ := rescan_zeros_u64 c o hC .integer (Or.inl rfl) hr1 ip.integerDigits hokI 0 step
      simp only [i1, i2, i3, hC.format, hC.bytes, Bool.not_false, Bool.true_and, Option.isNone_map]
      split
      · simp only [scaleExponent_release c hC.debug, Except.map]
      · cases hfr : fp.fraction with
        | none => simp [hfr] at *
        | some fd =>
          have hokf := hokF fd hfr
          simp only [Option.map_some]
          split
          · next hm0 =>
            obtain ⟨n2, bzF2, buF, j1, j2, j3⟩ := rescan_zeros_u64 c o hC .fraction (Or.inr rfl) hr1 fd hokf
              (u64Spec c.mantissaRadix (List.drop (zerosPrefix (nonSep c ip.integerDigits)) (nonSep c ip.integerDigits)) 0 step).2.1
              (u64Spec c.mantissaRadix (List.drop (zerosPrefix (nonSep c ip.integerDigits)) (nonSep c ip.integerDigits)) 0 step).2.2
            simp only [hm0] at j2 j3
            simp only [j1, j2, j3, scaleExponent_release c hC.debug, hm0, Except.map]
          · next hm0 =>
            obtain ⟨buF, j2, j3⟩ := rescan_u64 c o hC .fraction (Or.inr rfl) fd hokf
              (u64Spec c.mantissaRadix (List.drop (zerosPrefix (nonSep c ip.integerDigits)) (nonSep c ip.integerDigits)) 0 step).2.1
              (u64Spec c.mantissaRadix (List.drop (zerosPrefix (nonSep c ip.integerDigits)) (nonSep c ip.integerDigits)) 0 step).2.2
            simp only [j2, j3, scaleExponent_release c hC.debug, List.drop_zero,
              Nat.zero_add, Except.map]
    · simp only [hnd, if_false, Except.map] )

end LexVerif.Proof.Sep
