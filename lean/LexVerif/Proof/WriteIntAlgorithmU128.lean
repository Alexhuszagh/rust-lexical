import LexVerif.Proof.WriteIntAlgorithm
import LexVerif.Proof.Div128Slow
/-!
# Proof.WriteIntAlgorithmU128 — `algorithm_u128` and the u128 `digit_count` for magnitudes above `u64::MAX`
-/
namespace LexVerif.Model.WriteInt
open LexVerif.Spec

/-- `u64_step(r)`: `r^step ≤ 2^64`, and two chunks cover at least 116 bits -/
def StepOK (r : Nat) : Prop :=
  r ^ u64StepTable r ≤ 2 ^ 64 ∧ 2 ^ 58 ≤ r ^ u64StepTable r ∧ 1 ≤ u64StepTable r

instance (r : Nat) : Decidable (StepOK r) := by unfold StepOK; infer_instance

theorem stepOK_all : ∀ r, 2 ≤ r → r ≤ 36 → StepOK r := by decide +kernel

/-- the per-feature `match` on the radix: under a radix the feature set admits, every arm that can be taken applies
`g` to the radix itself -/
theorem validRadix_dispatch {α : Type} (feats : Features) (radix : Nat) (h : validRadix feats radix = true)
    (g : Nat → α) (z : α) :
    (if feats.radix then g radix
     else if feats.powerOfTwo then
       (if radix = 2 ∨ radix = 4 ∨ radix = 8 ∨ radix = 10 ∨ radix = 16 ∨ radix = 32 then g radix else z)
     else g 10) = g radix := by
  unfold validRadix at h
  by_cases hr : feats.radix = true
  · rw [if_pos hr]
  · rw [if_neg hr] at h ⊢
    by_cases hp : feats.powerOfTwo = true
    · rw [if_pos hp] at h ⊢
      rw [if_pos (by simp at h; omega)]
    · rw [if_neg hp] at h ⊢
      simp at h; rw [h]

theorem u64Step_eff (feats : Features) (radix : Nat) (h : validRadix feats radix = true) :
    u64Step feats radix = u64StepTable radix :=
  validRadix_dispatch feats radix h u64StepTable 1

theorem u128Divrem_spec (feats : Features) (n radix : Nat) (hvalid : validRadix feats radix = true)
    (hn : n < 2 ^ 128) :
    u128Divrem feats n radix = .ok (n / radix ^ u64StepTable radix, n % radix ^ u64StepTable radix) := by
  obtain ⟨hr2, hr36⟩ := validRadix_range feats radix hvalid
  obtain ⟨k, hk, hrun⟩ := runDivRem_spec n radix hn hr2 hr36
  unfold u128Divrem
  simp only [validRadix_dispatch feats radix hvalid (fun r => r) 0, hk, hrun]

/-- `write_step_digits` is a step of the invariant with `k = step`: the numeral of the low part, then zeros down to
`step` digits -/
theorem writeStepDigits_toward {r i0 v i : Nat} {out buf : Buf} (hr : 2 ≤ r) (hr36 : r ≤ 36) {S : Nat} (hS1 : 1 ≤ S)
    (hS : r ^ S ≤ v) (hlow : v % r ^ S < 2 ^ 64) (ht : Toward r i0 out v buf i) :
    ∃ buf', writeStepDigits 64 (v % r ^ S) r buf i S = .ok (buf', i - S) ∧ Toward r i0 out (v / r ^ S) buf' (i - S) := by
  obtain ⟨j, rfl, ht'⟩ := ht.chunk hr hS
  refine ⟨_, ?_, by rwa [Nat.add_sub_cancel]⟩
  have hlt : v % r ^ S < r ^ S := Nat.mod_lt _ (Nat.pow_pos (by omega))
  have hL : (numeral r (v % r ^ S)).length ≤ S := by
    rw [numeral_length]; exact toDigits_length_le r _ S hr hS1 hlt
  obtain ⟨z, hz⟩ : ∃ z, S = z + (numeral r (v % r ^ S)).length := ⟨S - (numeral r (v % r ^ S)).length, by omega⟩
  have hle := ht.room
  have h64 := ht.idx
  -- the low part is written as a numeral of its own ending at the cursor, `z` places right of the chunk's left end
  -- `j`; the fill puts `z` zeros there, and zeros followed by the numeral are the `S` padded digits
  have hst := Toward.start r (j + z) (v % r ^ S) buf (by omega) (by omega)
  rw [show j + z + (numeral r (v % r ^ S)).length = j + S by omega] at hst
  unfold writeStepDigits
  rw [writeDigits_toward 64 r _ small64 hr hr36 hlow hst, bind_ok]
  simp only []
  rw [if_pos ⟨by omega, by rw [splice_length _ _ _ (by omega)]; omega⟩, Nat.add_sub_cancel,
    show j + z - j = z by omega,
    show ∀ b : Buf, b.take j ++ List.replicate z 48 ++ b.drop (j + z) = splice b j (List.replicate z 48) from
      fun b => by rw [splice, List.length_replicate],
    splice_prepend_len buf j _ _ z _ List.length_replicate rfl (by omega),
    padDigits_eq_replicate_append r hr S _ hlt hS1, List.map_append, List.map_replicate, ← numeral_length,
    show S - (numeral r (v % r ^ S)).length = z by omega]
  rfl

theorem chunk_facts (r value : Nat) (hr : 2 ≤ r) (hr36 : r ≤ 36) (hv : value < 2 ^ 128) (hbig : ¬ value ≤ 2 ^ 64 - 1) :
    r ^ u64StepTable r ≤ value ∧ 1 ≤ value / r ^ u64StepTable r ∧ value % r ^ u64StepTable r < 2 ^ 64 ∧
    (¬ value / r ^ u64StepTable r ≤ 2 ^ 64 - 1 →
      r ^ u64StepTable r ≤ value / r ^ u64StepTable r ∧ value / r ^ u64StepTable r / r ^ u64StepTable r ≠ 0 ∧
      value / r ^ u64StepTable r / r ^ u64StepTable r < 2 ^ 64 ∧
      value / r ^ u64StepTable r % r ^ u64StepTable r < 2 ^ 64) := by
  obtain ⟨h1, h2, _⟩ := stepOK_all r hr hr36
  generalize r ^ u64StepTable r = D at *
  have hD0 : 0 < D := by omega
  have hDle : D ≤ value := by omega
  have hmod : value % D < D := Nat.mod_lt _ hD0
  refine ⟨hDle, Nat.div_pos hDle hD0, by omega, ?_⟩
  intro hv1
  have hDle1 : D ≤ value / D := by omega
  have hmod1 : value / D % D < D := Nat.mod_lt _ hD0
  refine ⟨hDle1, Nat.pos_iff_ne_zero.mp (Nat.div_pos hDle1 hD0), ?_, by omega⟩
  rw [Nat.div_div_eq_div_mul]
  apply Nat.div_lt_of_lt_mul
  have hDD : 2 ^ 58 * 2 ^ 58 ≤ D * D := Nat.mul_le_mul h2 h2
  have e1 : (2:Nat) ^ 58 * 2 ^ 58 = 2 ^ 116 := by rw [← Nat.pow_add]
  have h3 : 2 ^ 116 * 2 ^ 64 ≤ D * D * 2 ^ 64 := Nat.mul_le_mul_right _ (by omega)
  have e2 : (2:Nat) ^ 116 * 2 ^ 64 = 2 ^ 180 := by rw [← Nat.pow_add]
  omega

theorem digitCountU128_spec (feats : Features) (value radix : Nat) (hvalid : validRadix feats radix = true)
    (h10 : radix ≠ 10) (hv : value < 2 ^ 128) :
    digitCountU128 feats value radix = .ok (toDigits radix value).length := by
  obtain ⟨hr, hr36⟩ := validRadix_range feats radix hvalid
  unfold digitCountU128
  rw [if_neg h10]
  refine pow2_cascade 128 value radix (by omega) hv _ ?_
  by_cases hsmall : value ≤ 2 ^ 64 - 1
  · rw [if_pos hsmall, Nat.mod_eq_of_lt (by omega)]
    exact naiveCount_spec 64 radix value small64 hr hr36 (by omega)
  rw [if_neg hsmall]
  obtain ⟨hD, hq1, hlow, hbig2⟩ := chunk_facts radix value hr hr36 hv hsmall
  simp only [u128Divrem_spec feats value radix hvalid hv, bind_ok, u64Step_eff feats radix hvalid]
  have hl1 := len_split radix value _ hr hD
  by_cases hv1 : value / radix ^ u64StepTable radix ≤ 2 ^ 64 - 1
  · rw [if_pos hv1, Nat.mod_eq_of_lt (by omega),
      naiveCount_spec 64 radix _ small64 hr hr36 (by omega), bind_ok, hl1, Nat.add_comm]
  · rw [if_neg hv1]
    obtain ⟨hD2, hq2, hq2lt, _⟩ := hbig2 hv1
    have hv1lt : value / radix ^ u64StepTable radix < 2 ^ 128 := Nat.lt_of_le_of_lt (Nat.div_le_self _ _) hv
    simp only [u128Divrem_spec feats _ radix hvalid hv1lt, bind_ok]
    rw [if_pos hq2, Nat.mod_eq_of_lt hq2lt, naiveCount_spec 64 radix _ small64 hr hr36 hq2lt, bind_ok, hl1,
      len_split radix _ _ hr hD2]
    congr 1; omega

/-- `algorithm_u128` for magnitudes above `u64::MAX`, every non-decimal radix: the low chunk, then either the rest or
a middle chunk and the rest, each a step of the invariant from the state the previous one left -/
theorem algorithmU128_big_spec (feats : Features) (value radix : Nat) (hvalid : validRadix feats radix = true)
    (h10 : radix ≠ 10) (hv : value < 2 ^ 128) (hbig : ¬ value ≤ 2 ^ 64 - 1) :
    MantSpec (algorithmU128 feats value radix) (numeral radix value) (numeral radix value).length := by
  intro buffer hbuf
  obtain ⟨hr, hr36⟩ := validRadix_range feats radix hvalid
  obtain ⟨_, _, hS1⟩ := stepOK_all radix hr hr36
  obtain ⟨hD, hq1, hlow, hbig2⟩ := chunk_facts radix value hr hr36 hv hbig
  have hL128 : (numeral radix value).length ≤ 128 := by
    rw [numeral_length]; exact toDigits_length_le_bits radix value 128 hr (by omega) hv
  have ht0 := Toward.slice radix value buffer hbuf (by omega)
  obtain ⟨b1, hw1, ht1⟩ := writeStepDigits_toward hr hr36 hS1 hD hlow ht0
  unfold algorithmU128
  rw [if_neg (by simp [hvalid]), if_neg (by simp [hr, hr36]), if_neg (tableLen_ok radix hr36), if_neg hbig]
  simp only [digitCountU128_spec feats value radix hvalid h10 hv, ← numeral_length, bind_ok,
    u128Divrem_spec feats value radix hvalid hv, u64Step_eff feats radix hvalid]
  rw [if_neg (by omega), hw1, bind_ok]
  simp only []
  by_cases hv1 : value / radix ^ u64StepTable radix ≤ 2 ^ 64 - 1
  · rw [if_pos hv1, Nat.mod_eq_of_lt (by omega),
      writeDigits_toward 64 radix _ small64 hr hr36 (by omega) ht1, bind_ok]
  · rw [if_neg hv1]
    obtain ⟨hD2, hq2, hq2lt, hmid⟩ := hbig2 hv1
    have hv1lt : value / radix ^ u64StepTable radix < 2 ^ 128 := Nat.lt_of_le_of_lt (Nat.div_le_self _ _) hv
    obtain ⟨b2, hw2, ht2⟩ := writeStepDigits_toward hr hr36 hS1 hD2 hmid ht1
    have hpos : 1 ≤ (numeral radix (value / radix ^ u64StepTable radix / radix ^ u64StepTable radix)).length := by
      rw [numeral_length]; exact (toDigits_length_spec radix _ hr).1
    simp only [u128Divrem_spec feats _ radix hvalid hv1lt, bind_ok]
    rw [hw2, bind_ok]
    simp only []
    rw [if_pos (by have := ht2.cursor; omega), Nat.mod_eq_of_lt hq2lt,
      writeDigits_toward 64 radix _ small64 hr hr36 hq2lt ht2, bind_ok]

end LexVerif.Model.WriteInt
