import LexVerif.Proof.BellError
import LexVerif.Proof.RoundNE
/-!
# Proof.BellSound — a valid answer of Bellerophon is the correctly rounded value

For every radix whose tables pass `bellCheck`, every mantissa `< 2^64` (truncated or not) and every exponent:
`bellPrepare_eq` walks the early exits (zero / infinity cut-offs, table range); `prepare_cases` bounds the **true** value
of the literal against the scaled significand (the error accounting of the two multiplications is `scale_bound`);
`bellerophon_sound_all`: a **valid** non-lossy answer of the model's `bellerophon` is `roundNE` of the true value
(the accuracy decision and the rounding are `bellFinish_sound`).
-/
namespace LexVerif.Proof.Bell
open LexVerif.Spec LexVerif.Model LexVerif.Model.Bellerophon
open LexVerif.Gen.Bellerophon (Powers)
open LexVerif.Proof.RoundNE LexVerif.Proof.ExtRound LexVerif.Proof.BinaryCorrect

theorem tiny_pow {F p eb} (lay : Layout F p eb) {r : Nat} (w m : Nat) (hw : w ≤ 2 ^ 64)
    (hm : 2 ^ 1140 ≤ r ^ m) : roundNE F.fmt w (r ^ m) = 0 := by
  have hf := lay.wf
  have hL : L F.fmt ≤ 1074 := by rw [L_eq lay]; exact lay.hL1074
  apply roundNE_tiny hf (by have := Nat.two_pow_pos 1140; omega)
  have h1 : w * 2 ^ L F.fmt ≤ 2 ^ 64 * 2 ^ L F.fmt := Nat.mul_le_mul_right _ hw
  have h2 : 2 ^ 64 * 2 ^ L F.fmt ≤ 2 ^ 64 * 2 ^ 1074 :=
    Nat.mul_le_mul_left _ (Nat.pow_le_pow_right (by norm_num) hL)
  have h3 : 2 * ((2 : Nat) ^ 64 * 2 ^ 1074) < 2 ^ 1140 := by
    rw [← Nat.pow_add, ← Nat.pow_succ']; exact Nat.pow_lt_pow_right (by norm_num) (by norm_num)
  omega

theorem huge_pow {F p eb} (lay : Layout F p eb) (num : Nat) (h : 2 ^ 1024 ≤ num) :
    roundNE F.fmt num 1 = F.fmt.infBits := by
  have hf := lay.wf
  apply roundNE_huge hf Nat.one_pos
  rw [Nat.one_mul]
  have hb0 : F.fmt.bias = 2 ^ (eb - 1) - 1 := by unfold Fmt.bias; rw [lay.fmt]
  have hb : F.fmt.bias + 1 = 2 ^ (eb - 1) := by
    rw [hb0]; have := Nat.two_pow_pos (eb - 1); omega
  rw [hb]
  have : 2 ^ 2 ^ (eb - 1) ≤ 2 ^ 1024 := Nat.pow_le_pow_right (by norm_num) lay.hb1024
  omega

/-- from the rational bound on the scaled value to the cross-multiplied form `bellFinish_sound` wants -/
theorem bridge (Ln num den mant cl ch : Nat) (pw : Int) (hd : 0 < den)
    (h1 : (mant : ℚ) - cl < (num : ℚ) / den * 2 ^ ((Ln : Int) + 1 - pw))
    (h2 : (num : ℚ) / den * 2 ^ ((Ln : Int) + 1 - pw) < (mant : ℚ) + ch) :
    mant * (den * 2 ^ (pw - 1).toNat) < num * 2 ^ Ln * 2 ^ (1 - pw).toNat + cl * (den * 2 ^ (pw - 1).toNat) ∧
    num * 2 ^ Ln * 2 ^ (1 - pw).toNat < (mant + ch) * (den * 2 ^ (pw - 1).toNat) := by
  have hdq : (0 : ℚ) < den := by exact_mod_cast hd
  have hexp : (2 : ℚ) ^ ((Ln : Int) + 1 - pw) = 2 ^ Ln * 2 ^ (1 - pw).toNat / 2 ^ (pw - 1).toNat := by
    have : (Ln : Int) + 1 - pw = (Ln : Int) + (((1 - pw).toNat : Int) - ((pw - 1).toNat : Int)) := by omega
    rw [this, zpow_add₀ (by norm_num), zpow_sub₀ (by norm_num), zpow_natCast, zpow_natCast, zpow_natCast]
    ring
  rw [hexp] at h1 h2
  generalize (1 - pw).toNat = α, (pw - 1).toNat = β at *
  have hU : (0 : ℚ) < (den : ℚ) * 2 ^ β := by positivity
  have e : (num : ℚ) / den * (2 ^ Ln * 2 ^ α / 2 ^ β) = ((num : ℚ) * 2 ^ Ln * 2 ^ α) / ((den : ℚ) * 2 ^ β) := by
    field_simp
  rw [e] at h1 h2
  rw [lt_div_iff₀ hU] at h1
  rw [div_lt_iff₀ hU] at h2
  constructor
  · have : ((mant * (den * 2 ^ β) : Nat) : ℚ) < ((num * 2 ^ Ln * 2 ^ α + cl * (den * 2 ^ β) : Nat) : ℚ) := by
      push_cast; linarith
    exact_mod_cast this
  · have : ((num * 2 ^ Ln * 2 ^ α : Nat) : ℚ) < (((mant + ch) * (den * 2 ^ β) : Nat) : ℚ) := by
      push_cast; linarith
    exact_mod_cast this

/-- the walk through the early exits of `bellPrepare`, for tables with `step > 0` and `0 ≤ bias ≤ 2000`: zero, infinity,
or the two multiplications at the table indices `En % step`, `En / step` of `En = exponent + bias` -/
theorem bellPrepare_eq {P : Powers} (hstep : 0 < P.step) (hbias0 : 0 ≤ P.bias) (hbias : P.bias ≤ 2000)
    (F : FTy) (n : Num) :
    (bellPrepare F P n = .zero ∧ (n.mantissa = 0 ∨ n.exponent + P.bias < 0)) ∨
    (bellPrepare F P n = .inf ∧ n.mantissa ≠ 0 ∧ 0 ≤ n.exponent + P.bias ∧
      (0x1000 ≤ n.exponent ∨ P.large.size * P.step.toNat ≤ (n.exponent + P.bias).toNat)) ∨
    ∃ En : Nat, n.mantissa ≠ 0 ∧ -0x1000 < n.exponent ∧ n.exponent < 0x1000 ∧ n.exponent + P.bias = En ∧
      En / P.step.toNat < P.large.size ∧
      bellPrepare F P n =
        match getSmallInt P (En % P.step.toNat), getSmall P (En % P.step.toNat), getLarge P (En / P.step.toNat) with
        | some si, some sm, some lg =>
          scaleLarge F
            (scaleSmall n.mantissa si sm (if n.manyDigits then
              wrap32 (shl64m litErrorScale (if clz64 n.mantissa + 1 < litManyShiftCap then clz64 n.mantissa + 1
                else litManyShiftCap) % 2 ^ 32) else 0)).1
            (scaleSmall n.mantissa si sm (if n.manyDigits then
              wrap32 (shl64m litErrorScale (if clz64 n.mantissa + 1 < litManyShiftCap then clz64 n.mantissa + 1
                else litManyShiftCap) % 2 ^ 32) else 0)).2 lg
        | _, _, _ => .panic := by
  generalize hprep : bellPrepare F P n = prep
  unfold bellPrepare litExpCut at hprep
  simp only [] at hprep
  by_cases h1 : n.mantissa = 0 ∨ n.exponent ≤ -0x1000
  · rw [if_pos h1] at hprep
    exact Or.inl ⟨hprep.symm, h1.imp_right fun h => by omega⟩
  rw [if_neg h1] at hprep
  have hw0 : n.mantissa ≠ 0 := fun h0 => h1 (Or.inl h0)
  have he1 : -0x1000 < n.exponent := by
    apply Classical.byContradiction; intro hc'; exact h1 (Or.inr (by omega))
  by_cases h2 : n.exponent ≥ 0x1000
  · rw [if_pos h2] at hprep
    exact Or.inr (Or.inl ⟨hprep.symm, hw0, by omega, Or.inl h2⟩)
  rw [if_neg h2] at hprep
  have hE : wrapI32 (wrapI32 n.exponent + P.bias) = n.exponent + P.bias := by
    unfold wrapI32 wrapI
    have h32 : (2 : Int) ^ 32 = 4294967296 := by norm_num
    have h31 : (2 : Int) ^ (32 - 1) = 2147483648 := by norm_num
    simp only [h32, h31]
    omega
  rw [hE, if_neg (by omega)] at hprep
  by_cases h3 : n.exponent + P.bias < 0
  · rw [if_pos h3] at hprep
    exact Or.inl ⟨hprep.symm, Or.inr h3⟩
  rw [if_neg h3] at hprep
  obtain ⟨En, hEn⟩ := Int.eq_ofNat_of_zero_le (show 0 ≤ n.exponent + P.bias by omega)
  obtain ⟨sn, hsn⟩ := Int.eq_ofNat_of_zero_le (show 0 ≤ P.step by omega)
  have hsn' : P.step.toNat = sn := by omega
  rw [hEn, hsn] at hprep
  have hdiv : (Int.tdiv (En : Int) (sn : Int)).toNat = En / sn := by
    rw [Int.tdiv_eq_ediv_of_nonneg (by omega)]; norm_cast
  have hmod : (Int.tmod (En : Int) (sn : Int)).toNat = En % sn := by
    rw [Int.tmod_eq_emod_of_nonneg (by omega)]; norm_cast
  rw [hdiv, hmod] at hprep
  rw [hsn', hEn]
  by_cases h4 : En / sn ≥ P.large.size
  · rw [if_pos h4] at hprep
    refine Or.inr (Or.inl ⟨hprep.symm, hw0, by omega, Or.inr ?_⟩)
    have := Nat.div_mul_le_self En sn
    have := Nat.mul_le_mul_right sn h4
    omega
  rw [if_neg h4] at hprep
  exact Or.inr (Or.inr ⟨En, hw0, he1, by omega, rfl, by omega, hprep.symm⟩)

/-- the remainder by `step` and the three checked table indices are in range for tables that pass `bellCheck` -/
theorem bellPrepare_no_panic {F : FTy} {r : Nat} {P : Powers} (hc : BellFacts r P) (n : Num) :
    bellPrepare F P n ≠ .panic := by
  rcases bellPrepare_eq hc.step_pos hc.bias_nn hc.bias_le F n with ⟨hp, _⟩ | ⟨hp, _⟩ | ⟨En, _, _, _, _, hli, hp⟩
  · rw [hp]; nofun
  · rw [hp]; nofun
  · have hsi : En % P.step.toNat < P.step.toNat := Nat.mod_lt _ (by have := hc.step_pos; omega)
    obtain ⟨hsI, _, sm, ns, hgs, _⟩ := small_facts (hc.small _ hsi)
    obtain ⟨b, ebL, hgl, _⟩ := large_facts (hc.large _ hli)
    rw [hp]
    simp only [hsI, hgs, hgl]
    unfold scaleLarge
    nofun

theorem bellerophon_no_panic {F : FTy} {r : Nat} {P : Powers} (hc : BellFacts r P) (n : Num) (lossy : Bool) :
    bellerophon F P n lossy ≠ .panic := by
  unfold bellerophon
  have := bellPrepare_no_panic (F := F) hc n
  split
  · simp
  · simp
  · rename_i h; exact absurd h this
  · unfold bellFinish
    simp only []
    split
    · simp
    · split
      · simp
      · split <;> simp

/-- the true value of the literal: `x = w·r^e` for an untruncated mantissa, `x ∈ [w, w+1)·r^e` for a
truncated one (cross-multiplied) -/
def TrueValue (r : Nat) (n : Num) (num den : Nat) : Prop :=
  (powFrac r n.exponent n.mantissa).1 * den ≤ num * (powFrac r n.exponent n.mantissa).2 ∧
  (if n.manyDigits then
    num * (powFrac r n.exponent (n.mantissa + 1)).2 < (powFrac r n.exponent (n.mantissa + 1)).1 * den
   else num * (powFrac r n.exponent n.mantissa).2 ≤ (powFrac r n.exponent n.mantissa).1 * den)

theorem trueValue_self {r : Nat} (hr : 0 < r) (n : Num) :
    TrueValue r n (powFrac r n.exponent n.mantissa).1 (powFrac r n.exponent n.mantissa).2 := by
  refine ⟨Nat.le_refl _, ?_⟩
  split
  · rw [powFrac_toNat, powFrac_toNat]
    exact Nat.mul_lt_mul_of_pos_right (Nat.mul_lt_mul_of_pos_right (Nat.lt_succ_self _) (Nat.pow_pos hr))
      (Nat.pow_pos hr)
  · exact Nat.le_refl _

theorem trueValue_of_eq (r w : Nat) (q : Int) (neg : Bool) (num den : Nat)
    (h : (powFrac r q w).1 * den = num * (powFrac r q w).2) : TrueValue r ⟨w, q, neg, false⟩ num den := by
  unfold TrueValue
  simp only [Bool.false_eq_true, if_false]
  exact ⟨Nat.le_of_eq h, Nat.le_of_eq h.symm⟩

theorem roundNE_zero_of_tv {f : Fmt} (hf : WF f) {r : Nat} (hr : 0 < r) {n : Num} {num den : Nat} (hd : 0 < den)
    (htv : TrueValue r n num den)
    (hz : roundNE f (powFrac r n.exponent (n.mantissa + 1)).1 (powFrac r n.exponent (n.mantissa + 1)).2 = 0) :
    roundNE f num den = 0 := by
  obtain ⟨_, htv2⟩ := htv
  have hden0 : ∀ m, 0 < (powFrac r n.exponent m).2 := fun m => (powFrac_q r m n.exponent hr).2
  have hle : roundNE f num den ≤
      roundNE f (powFrac r n.exponent (n.mantissa + 1)).1 (powFrac r n.exponent (n.mantissa + 1)).2 := by
    apply roundNE_mono' hf hd (hden0 _)
    by_cases hm : n.manyDigits = true
    · rw [if_pos hm] at htv2; exact Nat.le_of_lt htv2
    · rw [if_neg hm] at htv2
      -- num/den ≤ w·r^e ≤ (w+1)·r^e
      have hmono : (powFrac r n.exponent n.mantissa).1 * (powFrac r n.exponent (n.mantissa + 1)).2 ≤
          (powFrac r n.exponent (n.mantissa + 1)).1 * (powFrac r n.exponent n.mantissa).2 := by
        unfold powFrac; split
        · simp only []; exact Nat.mul_le_mul_right _ (Nat.mul_le_mul_right _ (by omega))
        · simp only []; exact Nat.mul_le_mul_right _ (by omega)
      have hp := hden0 n.mantissa
      generalize (powFrac r n.exponent n.mantissa).1 = a, (powFrac r n.exponent n.mantissa).2 = b,
        (powFrac r n.exponent (n.mantissa + 1)).1 = a', (powFrac r n.exponent (n.mantissa + 1)).2 = b' at *
      apply Nat.le_of_mul_le_mul_right _ hp
      calc num * b' * b = num * b * b' := by ring
        _ ≤ a * den * b' := Nat.mul_le_mul_right _ htv2
        _ = a * b' * den := by ring
        _ ≤ a' * b * den := Nat.mul_le_mul_right _ hmono
        _ = a' * den * b := by ring
  omega

theorem roundNE_inf_of_tv {f : Fmt} (hf : WF f) {r : Nat} (hr : 0 < r) {n : Num} {num den : Nat} (hd : 0 < den)
    (htv : TrueValue r n num den)
    (hi : roundNE f (powFrac r n.exponent n.mantissa).1 (powFrac r n.exponent n.mantissa).2 = f.infBits) :
    roundNE f num den = f.infBits := by
  have h1 := roundNE_mono' hf (powFrac_q r n.mantissa n.exponent hr).2 hd htv.1
  have h2 := roundNE_le_infBits hf num hd
  omega

theorem trueValue_rat {r : Nat} (hr : 0 < r) {n : Num} {num den : Nat} (hd : 0 < den) (htv : TrueValue r n num den) :
    (n.mantissa : ℚ) * (r : ℚ) ^ n.exponent ≤ (num : ℚ) / den ∧
    ((num : ℚ) / den ≤ (n.mantissa : ℚ) * (r : ℚ) ^ n.exponent ∨
      (n.manyDigits = true ∧ (num : ℚ) / den < ((n.mantissa : ℚ) + 1) * (r : ℚ) ^ n.exponent)) := by
  obtain ⟨htv1, htv2⟩ := htv
  obtain ⟨hxq, hden⟩ := powFrac_q r n.mantissa n.exponent hr
  obtain ⟨hxq1, hden1⟩ := powFrac_q r (n.mantissa + 1) n.exponent hr
  have hdq : (0 : ℚ) < den := by exact_mod_cast hd
  constructor
  · rw [← hxq, div_le_div_iff₀ (by exact_mod_cast hden) hdq]
    exact_mod_cast htv1
  · by_cases hm : n.manyDigits = true
    · right
      rw [if_pos hm] at htv2
      refine ⟨hm, ?_⟩
      have : (((n.mantissa + 1 : Nat) : ℚ)) * (r : ℚ) ^ n.exponent =
          ((n.mantissa : ℚ) + 1) * (r : ℚ) ^ n.exponent := by push_cast; ring
      rw [← this, ← hxq1, div_lt_div_iff₀ hdq (by exact_mod_cast hden1)]
      exact_mod_cast htv2
    · left
      rw [if_neg hm] at htv2
      rw [← hxq, div_le_div_iff₀ hdq (by exact_mod_cast hden)]
      exact_mod_cast htv2

/-- the error booked for a truncated mantissa of at least 44 bits: `8·2^(ctlz+1)` half-units, the cap `2^20` of the
shift is not reached -/
theorem truncation_errors {w : Nat} (md : Bool) (hw : w < 2 ^ 64) (hmw : md = true → 2 ^ 44 ≤ w) {errors0 : Nat}
    (he : (if md = true then
        wrap32 (shl64m litErrorScale (if clz64 w + 1 < litManyShiftCap then clz64 w + 1 else litManyShiftCap) % 2 ^ 32)
      else 0) = errors0) :
    (md = false ∧ errors0 = 0) ∨ (md = true ∧ clz64 w ≤ 19 ∧ errors0 = 16 * 2 ^ clz64 w) := by
  cases md with
  | false => exact Or.inl ⟨rfl, he.symm⟩
  | true =>
    have hlz : clz64 w ≤ 19 := clz_le_of_ge (j := 19) (hmw rfl) hw (by norm_num)
    refine Or.inr ⟨rfl, hlz, ?_⟩
    rw [← he, if_pos rfl]
    generalize clz64 w = lz at *
    unfold litManyShiftCap litErrorScale wrap32 shl64m shl64
    have hmin : (if lz + 1 < 20 then lz + 1 else 20) = lz + 1 := by split <;> omega
    rw [hmin, Nat.mod_eq_of_lt (show lz + 1 < 64 by omega)]
    have hpw : 2 ^ (lz + 1) ≤ 2 ^ 20 := Nat.pow_le_pow_right (by norm_num) (by omega)
    have e1 : 8 * 2 ^ (lz + 1) = 16 * 2 ^ lz := by rw [Nat.pow_succ]; ring
    have h20 : (2 : Nat) ^ 20 = 1048576 := by norm_num
    have h32 : (2 : Nat) ^ 32 = 4294967296 := by norm_num
    have h64 : (2 : Nat) ^ 64 = 18446744073709551616 := by norm_num
    rw [h20] at hpw; rw [h32, h64, e1] at *
    rw [Nat.mod_eq_of_lt (by omega), Nat.mod_eq_of_lt (by omega), Nat.mod_eq_of_lt (by omega)]

/-- from the bounds on the scaled truncated mantissa (`scale_bound`: `M − S < W·R·c < M + 2S`, `S = 2^sh ≤ 4`) to bounds
on the scaled true value `X·c`, `W·R ≤ X ≤ W·R` or `< (W+1)·R`: the extra unit of a truncated mantissa is `R·c`, below
`2T + 1` units of `M` for `T = 2^ctlz` (`W·T ≥ 2^63 > M/2`), and the booked `E ≥ 16T + 5` covers it -/
theorem value_bounds {c R S X W M E T : ℚ} (md : Bool) (hc : 0 < c) (hR : 0 < R) (hS1 : 1 ≤ S) (hS4 : S ≤ 4)
    (hy1 : M - S < W * R * c) (hy2 : W * R * c < M + 2 * S)
    (hx_lo : W * R ≤ X) (hx_hi : X ≤ W * R ∨ (md = true ∧ X < (W + 1) * R))
    (hE4 : 4 ≤ E) (hT1 : 1 ≤ T) (hwlo : 2 ^ 63 ≤ W * T) (hmq : M < 2 * 2 ^ 63)
    (hEm : md = true → T ≤ 524288 ∧ 16 * T + 5 ≤ E) :
    M - 4 < X * c ∧ X * c < M + E * S ∧ X * c < M + (8 + if md = true then 2 * T + 1 else 0) := by
  have hRc : 0 < R * c := mul_pos hR hc
  constructor
  · have : W * R * c ≤ X * c := mul_le_mul_of_nonneg_right hx_lo hc.le
    linarith only [this, hy1, hS4]
  rcases hx_hi with hle | ⟨hm, hlt⟩
  · have h1 : X * c ≤ W * R * c := mul_le_mul_of_nonneg_right hle hc.le
    have h2 : 4 * S ≤ E * S := mul_le_mul_of_nonneg_right hE4 (by linarith only [hS1])
    have hnn : (0 : ℚ) ≤ if md = true then 2 * T + 1 else 0 := by
      split
      · linarith only [hT1]
      · exact le_refl _
    constructor
    · linarith only [h1, h2, hy2, hS1]
    · linarith only [h1, hy2, hS4, hnn]
  · obtain ⟨hT19, hE⟩ := hEm hm
    have hQ22 : (4194304 : ℚ) ≤ 2 ^ 63 := by norm_num
    generalize (2 : ℚ) ^ 63 = Q at *
    have hQpos : 0 < Q := by linarith only [hQ22]
    have hyp : X * c < (W + 1) * R * c := mul_lt_mul_of_pos_right hlt hc
    generalize hRcv : R * c = Rc at *
    have hy2' : W * Rc < M + 2 * S := by
      have : W * R * c = W * Rc := by rw [← hRcv]; ring
      linarith only [this, hy2]
    have h63 : Rc * Q < (2 * T + 1) * Q := by
      have h1 : Rc * Q ≤ Rc * (W * T) := mul_le_mul_of_nonneg_left hwlo hRc.le
      have h2 : Rc * (W * T) = (W * Rc) * T := by ring
      have h3 : (W * Rc) * T < (M + 2 * S) * T :=
        mul_lt_mul_of_pos_right hy2' (by linarith only [hT1])
      have h4 : (M + 2 * S) * T ≤ (2 * Q + 8) * T :=
        mul_le_mul_of_nonneg_right (by linarith only [hmq, hS4]) (by linarith only [hT1])
      have h5 : (2 * Q + 8) * T = (2 * T) * Q + 8 * T := by ring
      have h6 : (2 * T + 1) * Q = (2 * T) * Q + Q := by ring
      linarith only [h1, h2, h3, h4, h5, h6, hT19, hQ22]
    have hRcb : Rc < 2 * T + 1 := lt_of_mul_lt_mul_right h63 hQpos.le
    have h7 : (W + 1) * R * c = W * Rc + Rc := by rw [← hRcv]; ring
    have hES : (16 * T + 5) * S ≤ E * S := mul_le_mul_of_nonneg_right hE (by linarith only [hS1])
    have hTS : 16 * T * 1 ≤ 16 * T * S :=
      mul_le_mul_of_nonneg_left hS1 (by linarith only [hT1])
    have hexp2 : (16 * T + 5) * S = 16 * T * S + 5 * S := by ring
    rw [if_pos hm]
    constructor
    · linarith only [hyp, h7, hy2', hRcb, hES, hTS, hexp2, hS1, hT1]
    · linarith only [hyp, h7, hy2', hRcb, hS4]

/-- What `bellPrepare` (the first half of `bellerophon`: early exits, the two
multiplications, error booking, normalisation) guarantees about the **true** value `num/den` of the literal.
Either an early exit that is already the correctly rounded result, or a normalised significand `mant` at
biased exponent `pw` with booked `errors = E·2^sh` such that, in units of the last place of `mant`
(`U = den·2^β`, `Y = num·2^L·2^α`, `β − α = pw − 1`), `mant − 4 < Y/U < mant + errors`, and more tightly
`Y/U < mant + 8` (`+ 2·2^ctlz + 1` for a truncated mantissa). A truncated mantissa holds at least 44 bits (as every
`u64_step`-digit mantissa does: then `ctlz + 1 ≤ 20` and the cap of the booked error is not reached). -/
theorem prepare_cases {F : FTy} {p eb : Nat} (lay : Layout F p eb)
    {r : Nat} {P : Powers} (hc : BellFacts r P) (n : Num)
    (hw : n.mantissa < 2 ^ 64) (hmw : n.manyDigits = true → 2 ^ 44 ≤ n.mantissa)
    (num den : Nat) (hd : 0 < den) (htv : TrueValue r n num den) :
    (bellPrepare F P n = .zero ∧ roundNE F.fmt num den = 0) ∨
    (bellPrepare F P n = .inf ∧ roundNE F.fmt num den = F.fmt.infBits) ∨
    ∃ (mant E sh : Nat) (pw : Int),
      bellPrepare F P n = .mid ⟨mant, pw⟩ (E * 2 ^ sh) ∧ 2 ^ 63 ≤ mant ∧ mant < 2 ^ 64 ∧
      4 ≤ E * 2 ^ sh ∧ E * 2 ^ sh < 2 ^ 32 ∧ -4400 ≤ pw ∧ pw < 32768 ∧
      mant * (den * 2 ^ (pw - 1).toNat) <
        num * 2 ^ L F.fmt * 2 ^ (1 - pw).toNat + 4 * (den * 2 ^ (pw - 1).toNat) ∧
      num * 2 ^ L F.fmt * 2 ^ (1 - pw).toNat < (mant + E * 2 ^ sh) * (den * 2 ^ (pw - 1).toNat) ∧
      num * 2 ^ L F.fmt * 2 ^ (1 - pw).toNat <
        (mant + (8 + if n.manyDigits then 2 * 2 ^ clz64 n.mantissa + 1 else 0)) * (den * 2 ^ (pw - 1).toNat) := by
  have hf := lay.wf
  have hr2 := hc.r2
  have hr0 : 0 < r := by omega
  have hstep := hc.step_pos
  have hbias0 := hc.bias_nn
  have hbias := hc.bias_le
  have hpow_mono : ∀ {a b : Nat}, a ≤ b → r ^ a ≤ r ^ b := fun h => Nat.pow_le_pow_right hr0 h
  have h2r : ∀ m : Nat, 2 ^ m ≤ r ^ m := fun m => Nat.pow_le_pow_left hr2 m
  rcases bellPrepare_eq hstep hbias0 hbias F n with ⟨hp, h0 | hneg⟩ | ⟨hp, hw0, hnn, hbig⟩ |
    ⟨En, hw0, he1, he2, hEn, hli, hp⟩
  · -- `w = 0` is untruncated
    refine Or.inl ⟨hp, ?_⟩
    obtain ⟨_, htv2⟩ := htv
    have hm : ¬ n.manyDigits = true := fun hm => by have := hmw hm; omega
    rw [if_neg hm, h0] at htv2
    have : (powFrac r n.exponent 0).1 = 0 := by unfold powFrac; split <;> simp
    rw [this, Nat.zero_mul] at htv2
    have hp := (powFrac_q r 0 n.exponent hr0).2
    have hn0 : num = 0 := by
      rcases Nat.eq_zero_or_pos num with h | h
      · exact h
      · have := Nat.mul_pos h hp; omega
    rw [hn0, roundNE_zero]
  · refine Or.inl ⟨hp, roundNE_zero_of_tv hf hr0 hd htv ?_⟩
    unfold powFrac
    rw [if_neg (by omega)]
    apply tiny_pow lay _ _ (by omega)
    have : P.bias.toNat + 1 ≤ (-n.exponent).toNat := by omega
    exact Nat.le_trans hc.under (hpow_mono this)
  · refine Or.inr (Or.inl ⟨hp, roundNE_inf_of_tv hf hr0 hd htv ?_⟩)
    have h1024 : 0 ≤ n.exponent ∧ 2 ^ 1024 ≤ r ^ n.exponent.toNat := by
      rcases hbig with h | h
      · have h1024 : 1024 ≤ n.exponent.toNat := by omega
        exact ⟨by omega, Nat.le_trans (Nat.pow_le_pow_right (by norm_num) h1024) (h2r _)⟩
      · have hbsz := hc.bsz
        exact ⟨by omega, Nat.le_trans hc.over (hpow_mono (by omega))⟩
    unfold powFrac
    rw [if_pos h1024.1]
    apply huge_pow lay
    have : 1 * r ^ n.exponent.toNat ≤ n.mantissa * r ^ n.exponent.toNat :=
      Nat.mul_le_mul_right _ (by omega)
    omega
  · obtain ⟨sn, hsn⟩ := Int.eq_ofNat_of_zero_le (show 0 ≤ P.step by omega)
    have hsnv : P.step.toNat = sn := by omega
    rw [hsnv] at hp hli
    have hsi : En % sn < P.step.toNat := by have := Nat.mod_lt En (show 0 < sn by omega); omega
    obtain ⟨hsI, hsIlt, sm, ns, hgs, hns, hsmeq, hsm1, hsm2⟩ := small_facts (hc.small (En % sn) hsi)
    obtain ⟨b, ebL, hgl, hb1, hb2, hebl, hebh, hbr1, hbr2⟩ := large_facts (hc.large _ hli)
    simp only [hsI, hgs, hgl] at hp
    obtain ⟨hlz, hn1, hn2, _⟩ := clz_norm hw0 hw
    generalize he0v : (if n.manyDigits = true then
        wrap32 (shl64m litErrorScale (if clz64 n.mantissa + 1 < litManyShiftCap then clz64 n.mantissa + 1
          else litManyShiftCap) % 2 ^ 32)
      else 0) = errors0 at hp
    have he0 := truncation_errors n.manyDigits hw hmw he0v
    generalize hlzv : clz64 n.mantissa = lz at *
    have he0lt : errors0 < 2 ^ 24 := by
      have h24 : (2 : Nat) ^ 24 = 16777216 := by norm_num
      rcases he0 with ⟨_, h⟩ | ⟨_, hl, h⟩
      · rw [h]; norm_num
      · have : 2 ^ lz ≤ 2 ^ 19 := Nat.pow_le_pow_right (by norm_num) hl
        have h19 : (2 : Nat) ^ 19 = 524288 := by norm_num
        omega
    generalize hK : ((En / sn : Nat) : Int) * P.step - P.bias = K at *
    obtain ⟨hB1, hB2⟩ := large_bracket hr2 K ebL hbr1 hbr2
    obtain ⟨mant, sh, E, pw, hmid, hm1, hm2, hsh, hEcase, hpw1, hpw2, hy1, hy2⟩ :=
      scale_bound F n.mantissa (r ^ (En % sn)) sm ns b errors0 ebL ((r : ℚ) ^ K / 2 ^ ebL) hw0 hw
        (Nat.pow_pos hr0) hsmeq hsm1 hsm2 hns hb1 hb2 hB1 hB2 he0lt
    rw [hmid] at hp
    have hrq : (r : ℚ) ≠ 0 := by
      have : (0 : ℚ) < r := by exact_mod_cast hr0
      exact ne_of_gt this
    have hexp : n.exponent = ((En % sn : Nat) : Int) + K := by
      have h1 := Nat.div_add_mod En sn
      have : ((En / sn : Nat) : Int) * (sn : Int) + ((En % sn : Nat) : Int) = (En : Int) := by
        rw [Int.mul_comm]; exact_mod_cast h1
      rw [← hK, hsn]; omega
    have hLb : ((L F.fmt : Nat) : Int) + 1 = F.C.exponentBias := by
      rw [L_eq lay, lay.bias]; have := lay.hL; omega
    have hy : ((n.mantissa * r ^ (En % sn) : Nat) : ℚ) * ((r : ℚ) ^ K / 2 ^ ebL) *
        2 ^ (F.C.exponentBias - pw + ebL) =
        (n.mantissa : ℚ) * (r : ℚ) ^ n.exponent * 2 ^ (((L F.fmt : Nat) : Int) + 1 - pw) := by
      rw [hLb, hexp, zpow_add₀ hrq, zpow_natCast,
        show F.C.exponentBias - pw + ebL = (F.C.exponentBias - pw) + ebL by ring,
        zpow_add₀ (by norm_num : (2 : ℚ) ≠ 0)]
      have h2 : (2 : ℚ) ^ ebL ≠ 0 := zpow_ne_zero _ (by norm_num)
      push_cast
      field_simp
    rw [hy] at hy1 hy2
    obtain ⟨hx_lo, hx_hi⟩ := trueValue_rat hr0 hd htv
    have hE4n : 4 ≤ E := by
      rcases hEcase with ⟨_, h | h⟩ | ⟨hpos, h | h⟩ <;> omega
    have hEm : n.manyDigits = true → (2 : ℚ) ^ lz ≤ 524288 ∧ (16 : ℚ) * 2 ^ lz + 5 ≤ E := by
      intro hm
      rcases he0 with ⟨hmf, _⟩ | ⟨_, hl19, h16⟩
      · rw [hmf] at hm; exact absurd hm (by decide)
      · have h19 : 2 ^ lz ≤ 2 ^ 19 := Nat.pow_le_pow_right (by norm_num) hl19
        have : 16 * 2 ^ lz + 5 ≤ E := by
          have := Nat.two_pow_pos lz
          rcases hEcase with ⟨h0, _⟩ | ⟨_, h | h⟩ <;> omega
        exact ⟨by exact_mod_cast h19, by exact_mod_cast this⟩
    obtain ⟨hlo', hhi', htight'⟩ := value_bounds (c := 2 ^ (((L F.fmt : Nat) : Int) + 1 - pw)) (S := 2 ^ sh)
      (T := 2 ^ lz) n.manyDigits (zpow_pos (by norm_num) _) (zpow_pos (by exact_mod_cast hr0) _)
      (one_le_pow₀ (by norm_num)) (le_trans (pow_le_pow_right₀ (by norm_num) hsh) (by norm_num)) hy1 hy2 hx_lo hx_hi
      (by exact_mod_cast hE4n) (one_le_pow₀ (by norm_num)) (by exact_mod_cast hn1)
      (by rw [← pow_succ']; exact_mod_cast hm2) hEm
    have hcastE : (E : ℚ) * 2 ^ sh = ((E * 2 ^ sh : Nat) : ℚ) := by push_cast; ring
    have hcast8 : (8 + if n.manyDigits = true then 2 * (2 : ℚ) ^ lz + 1 else 0) =
        ((8 + if n.manyDigits then 2 * 2 ^ lz + 1 else 0 : Nat) : ℚ) := by
      split <;> push_cast <;> ring
    rw [hcastE] at hhi'
    rw [hcast8] at htight'
    obtain ⟨hlo, hhi⟩ := bridge (L F.fmt) num den mant 4 (E * 2 ^ sh) pw hd hlo' hhi'
    obtain ⟨_, htight⟩ := bridge (L F.fmt) num den mant 4
      (8 + if n.manyDigits then 2 * 2 ^ lz + 1 else 0) pw hd hlo' htight'
    have hBl : F.C.exponentBias ≤ 2000 := by
      rw [lay.bias]; have := lay.hL1074; omega
    have hB0 : 0 ≤ F.C.exponentBias := by rw [lay.bias]; omega
    have hElo : 4 ≤ E * 2 ^ sh := Nat.le_trans hE4n (Nat.le_mul_of_pos_right _ (Nat.two_pow_pos sh))
    have hEhi : E * 2 ^ sh < 2 ^ 32 := by
      have h1 : 2 ^ sh ≤ 2 ^ 2 := Nat.pow_le_pow_right (by norm_num) hsh
      have h24 : (2 : Nat) ^ 24 = 16777216 := by norm_num
      have h32 : (2 : Nat) ^ 32 = 4294967296 := by norm_num
      have : E ≤ errors0 + 9 := by
        rcases hEcase with ⟨h0, h | h⟩ | ⟨hpos, h | h⟩ <;> omega
      have : E * 2 ^ sh ≤ E * 2 ^ 2 := Nat.mul_le_mul_left _ h1
      omega
    exact Or.inr (Or.inr ⟨mant, E, sh, pw, hp, hm1, hm2, hElo, hEhi, by omega, by omega, hlo, hhi, htight⟩)

theorem bellerophon_sound_all {F : FTy} {p eb : Nat} (lay : Layout F p eb) (hp60 : p ≤ 60)
    {r : Nat} {P : Powers} (hc : BellFacts r P) (n : Num)
    (hw : n.mantissa < 2 ^ 64) (hmw : n.manyDigits = true → 2 ^ 44 ≤ n.mantissa)
    (num den : Nat) (hd : 0 < den) (htv : TrueValue r n num den) {fp : ExtendedFloat80}
    (h : bellerophon F P n false = .ok fp) (hv : 0 ≤ fp.exp) :
    extendedToFloat F fp = roundNE F.fmt num den := by
  unfold bellerophon at h
  rcases prepare_cases lay hc n hw hmw num den hd htv with ⟨hp, hz⟩ | ⟨hp, hi⟩ |
    ⟨mant, E, sh, pw, hp, hm1, hm2, hElo, hEhi, hpw1, hpw2, hlo, hhi, _⟩
  · rw [hp] at h; simp only [] at h
    injection h with h; subst h
    rw [ext_zero lay, hz]
  · rw [hp] at h; simp only [] at h
    injection h with h; subst h
    rw [ext_infinite lay, hi]
  · rw [hp] at h; simp only [] at h
    exact bellFinish_sound lay ⟨mant, pw⟩ (E * 2 ^ sh) 4 num den hEhi hpw2 hd
      (est2_of_units (by have := lay.hp64; omega) mant pw 4 _ num den hm1 hm2 hlo hhi) hElo
      (by have : 2 ^ 4 ≤ 2 ^ (64 - p) := Nat.pow_le_pow_right (by norm_num) (by omega)
          omega) (by omega) h hv

theorem bellerophon_untruncated_sound {F : FTy} {p eb : Nat} (lay : Layout F p eb) (hp60 : p ≤ 60)
    {r : Nat} {P : Powers} (hc : BellFacts r P) (n : Num) (hmany : n.manyDigits = false)
    (hw : n.mantissa < 2 ^ 64) {fp : ExtendedFloat80}
    (h : bellerophon F P n false = .ok fp) (hv : 0 ≤ fp.exp) :
    extendedToFloat F fp =
      roundNE F.fmt (powFrac r n.exponent n.mantissa).1 (powFrac r n.exponent n.mantissa).2 := by
  have hden := (powFrac_q r n.mantissa n.exponent (by have := hc.r2; omega)).2
  apply bellerophon_sound_all lay hp60 hc n hw (by rw [hmany]; intro h; exact absurd h (by decide))
    _ _ hden ⟨Nat.le_refl _, by rw [hmany]; exact Nat.le_refl _⟩ h hv

end LexVerif.Proof.Bell
