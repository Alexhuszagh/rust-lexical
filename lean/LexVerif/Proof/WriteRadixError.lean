import LexVerif.Proof.WriteRadixSpacing
import Mathlib.Tactic.Ring
import LexVerif.Proof.WriteRadixTerm
import LexVerif.Proof.Numeral
/-!
# Proof.WriteRadixError — the fraction loop as a trace, and its accumulated rounding error

`fracIter` / `deltaIter` are `fraction` (with the digits taken off) and `delta` after `n` iterations, exits ignored;
`fracLoop_run` says the model's loop returns that trace, or its round-up back-trace, at the first `n` where an exit test
succeeds. Everything else is proved about the two iterations alone: the one rounding of a step has absolute error
`≤ B = 2^(bias+3)` (half a spacing below 64.0) and relative error `≤ 2^-p`; `fracIter_err` sums the first,
`fracIter_close` chains the second.
-/
namespace LexVerif.Proof.WriteRadixError
open LexVerif.Spec LexVerif.Proof.RoundNE LexVerif.Proof.WriteRadixF LexVerif.Proof.WriteRadixTerm
open LexVerif.Proof.WriteRadixSpacing LexVerif.Model.WriteRadix
open LexVerif.Model.WriteInt (Res)

/-- half a spacing below 64.0 (a product `fraction · base` is below 36), in units of `2^-L`: what one rounding can cost -/
def errB (f : Fmt) : Nat := 2 ^ (f.bias + 3)

def geom (r : Nat) : Nat → Nat
  | 0 => 0
  | n + 1 => r ^ n + geom r n

theorem fmul_base_eq {f : Fmt} (h : FOK f) {r : Nat} (hrp : r < 2 * 2 ^ (f.p - 1)) (x : Nat) :
    fmul f x (ofNat f r) = roundNE f (RoundNE.ival f x * (r * unit f)) (unit f * unit f) ∧
    RoundNE.ival f x * (r * unit f) * 2 ^ L f = RoundNE.ival f x * r * (unit f * unit f) := by
  refine ⟨by rw [fmul_eq, (ofNat_ival h hrp).1], by rw [unit_eq]; ring⟩

/-- the product is below 64.0, where the spacing is `≤ 2·B` -/
theorem fmul_err {f : Fmt} (h : FOK f) {r : Nat} (hr36 : r ≤ 36) (hrp : r < 2 * 2 ^ (f.p - 1)) {x : Nat}
    (hx : x ≤ one f) :
    RoundNE.ival f x * r ≤ RoundNE.ival f (fmul f x (ofNat f r)) + errB f ∧
    RoundNE.ival f (fmul f x (ofNat f r)) ≤ RoundNE.ival f x * r + errB f := by
  obtain ⟨hrv, hrf⟩ := ofNat_ival h hrp
  have hu := unit_pos f
  have hc : fmul f x (ofNat f r) ≤ ofNat f r := fmul_le_base h hrp hx
  have hlt64 : ofNat f r < (f.bias + 6) * 2 ^ (f.p - 1) := by
    apply lt_of_ival_lt f
    rw [hrv, ival_pow_two h.wf 6]
    exact Nat.mul_lt_mul_of_pos_right (by omega) hu
  have hs : spacing f (fmul f x (ofNat f r)) ≤ errB f + errB f := by
    rw [← Nat.two_mul, errB, ← Nat.pow_succ']
    exact spacing_le_pow f (by rw [show f.bias + 3 + 1 + 2 = f.bias + 6 by omega]; omega)
  obtain ⟨e, hN⟩ := fmul_base_eq h hrp x
  rw [e] at hc hs ⊢
  obtain ⟨e1, e2⟩ := round_err h.wf (Nat.mul_pos hu hu) Nat.one_pos hN (Nat.one_mul _).symm (by omega)
  omega

theorem fmul_close {f : Fmt} (h : FOK f) {r : Nat} (hrp : r < 2 * 2 ^ (f.p - 1)) {x : Nat} (hx : x ≤ one f) :
    Close (2 * 2 ^ (f.p - 1)) 1 (RoundNE.ival f (fmul f x (ofNat f r))) (RoundNE.ival f x * r) := by
  have hu := unit_pos f
  have hfin : fmul f x (ofNat f r) < f.infBits := Nat.lt_of_le_of_lt (fmul_le_base h hrp hx) (ofNat_ival h hrp).2
  obtain ⟨e, hN⟩ := fmul_base_eq h hrp x
  rw [e] at hfin ⊢
  exact round_close_one h.wf (Nat.mul_pos hu hu) hN hfin

def fracIter (f : Fmt) (r : Nat) : Nat → Nat → List Nat × Nat
  | 0, x => ([], x)
  | n + 1, x =>
    let P := fmul f x (ofNat f r)
    let d := asU32 f P
    let t := fracIter f r n (fsub f P (ofNat f d))
    (d :: t.1, t.2)

def deltaIter (f : Fmt) (r : Nat) : Nat → Nat → Nat
  | 0, d => d
  | n + 1, d => fmul f (deltaIter f r n d) (ofNat f r)

theorem deltaIter_succ' (f : Fmt) (r : Nat) : ∀ (n d : Nat),
    deltaIter f r (n + 1) d = deltaIter f r n (fmul f d (ofNat f r))
  | 0, _ => rfl
  | n + 1, d => by
    show fmul f (deltaIter f r (n + 1) d) _ = fmul f (deltaIter f r n _) _
    rw [deltaIter_succ' f r n d]

/-- **absolute error of `n` iterations**: `|x·rⁿ − (d₁…dₙ)·1.0 − xₙ| ≤ B·(1 + r + … + rⁿ⁻¹)`, the step errors `≤ B` summed -/
theorem fracIter_err {f : Fmt} (h : FOK f) {r : Nat} (hr36 : r ≤ 36) (hrp : r < 2 * 2 ^ (f.p - 1)) :
    ∀ (n x : Nat), x ≤ one f →
      (fracIter f r n x).1.length = n ∧ (fracIter f r n x).2 ≤ one f ∧ (∀ d ∈ (fracIter f r n x).1, d ≤ r) ∧
      ofDigits r (fracIter f r n x).1 * unit f + RoundNE.ival f (fracIter f r n x).2
          ≤ RoundNE.ival f x * r ^ n + errB f * geom r n ∧
      RoundNE.ival f x * r ^ n
          ≤ ofDigits r (fracIter f r n x).1 * unit f + RoundNE.ival f (fracIter f r n x).2 + errB f * geom r n
  | 0, x, hx => ⟨rfl, hx, by simp [fracIter], by simp [fracIter, ofDigits], by simp [fracIter, ofDigits]⟩
  | n + 1, x, hx => by
    obtain ⟨_, hdr, _, hlt⟩ := frac_step h hr36 hrp hx
    obtain ⟨b1, b2⟩ := fmul_err h hr36 hrp hx
    obtain ⟨il, io, id, i1, i2⟩ := fracIter_err h hr36 hrp n _ (Nat.le_of_lt hlt)
    have hsplit := frac_split h hr36 hrp hx
    unfold fracIter
    dsimp only
    refine ⟨by simp [il], io, ?_, ?_⟩
    · intro d hd'
      rcases List.mem_cons.mp hd' with rfl | hd'
      · exact hdr
      · exact id d hd'
    rw [ofDigits_cons, il, show geom r (n + 1) = r ^ n + geom r n from rfl, Nat.mul_add]
    generalize RoundNE.ival f (fracIter f r n _).2 = xn at *
    generalize ofDigits r (fracIter f r n _).1 = D at *
    generalize RoundNE.ival f (fsub f (fmul f x (ofNat f r)) (ofNat f (asU32 f (fmul f x (ofNat f r))))) = x1 at *
    generalize asU32 f (fmul f x (ofNat f r)) = d at *
    generalize RoundNE.ival f (fmul f x (ofNat f r)) = P at *
    generalize RoundNE.ival f x = x0 at *
    generalize unit f = U at *
    generalize errB f = B at *
    subst hsplit
    have k1 := Nat.mul_le_mul_right (r ^ n) b1
    have k2 := Nat.mul_le_mul_right (r ^ n) b2
    rw [Nat.add_mul] at k1 k2
    rw [show (d * r ^ n + D) * U = d * U * r ^ n + D * U by ring, show x0 * r ^ (n + 1) = x0 * r * r ^ n by
      rw [Nat.pow_succ]; ring]
    rw [Nat.add_mul] at k1 k2
    omega

/-- **relative error of `n` iterations**: the trace's value is within `n` roundings of `x·rⁿ` — the digits taken off are a
common term of both sides (`Close.add_right`) -/
theorem fracIter_close {f : Fmt} (h : FOK f) {r : Nat} (hr36 : r ≤ 36) (hrp : r < 2 * 2 ^ (f.p - 1)) :
    ∀ (n x : Nat), x ≤ one f →
      Close (2 * 2 ^ (f.p - 1)) n
        (ofDigits r (fracIter f r n x).1 * unit f + RoundNE.ival f (fracIter f r n x).2) (RoundNE.ival f x * r ^ n)
  | 0, x, _ => by simpa [fracIter, ofDigits] using Close.refl _ _
  | n + 1, x, hx => by
    obtain ⟨_, _, _, hlt⟩ := frac_step h hr36 hrp hx
    have ih := (fracIter_close h hr36 hrp n _ (Nat.le_of_lt hlt)).add_right
      (asU32 f (fmul f x (ofNat f r)) * unit f * r ^ n)
    have hl := (fracIter_err h hr36 hrp n _ (Nat.le_of_lt hlt)).1
    have hsplit := frac_split h hr36 hrp hx
    have hP := (fmul_close h hrp hx).mul_right (r ^ n)
    unfold fracIter
    dsimp only
    rw [ofDigits_cons, hl]
    rw [show RoundNE.ival f x * r ^ (n + 1) = RoundNE.ival f x * r * r ^ n by rw [Nat.pow_succ]; ring]
    rw [← hsplit] at hP
    have := ih.trans (j := 1) (by
      convert hP using 1
      ring)
    convert this using 1
    ring

/-- distance of the `n`-digit trace `(d₁…dₙ)·1.0 + xₙ` from the exact `x·rⁿ`, in units of `2^-L` -/
def traceErr (f : Fmt) (r n x : Nat) : Nat :=
  (ofDigits r (fracIter f r n x).1 * unit f + RoundNE.ival f (fracIter f r n x).2 - RoundNE.ival f x * r ^ n)
    + (RoundNE.ival f x * r ^ n - (ofDigits r (fracIter f r n x).1 * unit f + RoundNE.ival f (fracIter f r n x).2))

theorem traceErr_spec (f : Fmt) (r n x : Nat) :
    ofDigits r (fracIter f r n x).1 * unit f + RoundNE.ival f (fracIter f r n x).2
        ≤ RoundNE.ival f x * r ^ n + traceErr f r n x ∧
      RoundNE.ival f x * r ^ n
        ≤ ofDigits r (fracIter f r n x).1 * unit f + RoundNE.ival f (fracIter f r n x).2 + traceErr f r n x := by
  unfold traceErr; omega

theorem traceErr_abs {f : Fmt} (h : FOK f) {r : Nat} (hr36 : r ≤ 36) (hrp : r < 2 * 2 ^ (f.p - 1)) (n : Nat) {x : Nat}
    (hx : x ≤ one f) : traceErr f r n x ≤ errB f * geom r n := by
  obtain ⟨_, _, _, e1, e2⟩ := fracIter_err h hr36 hrp n x hx
  unfold traceErr; omega

theorem traceErr_rel {f : Fmt} (h : FOK f) {r : Nat} (hr36 : r ≤ 36) (hrp : r < 2 * 2 ^ (f.p - 1)) {n x K : Nat}
    (hx : x ≤ one f) (hK : RoundNE.ival f x < 2 * 2 ^ (f.p - 1) * K) (hn : n * n + n ≤ 2 * 2 ^ (f.p - 1))
    (hnT : n < 2 * 2 ^ (f.p - 1)) (hr0 : 0 < r) : traceErr f r n x ≤ (n + 1) * (K * r ^ n) := by
  obtain ⟨e1, e2⟩ := (fracIter_close h hr36 hrp n x hx).to_add (K := K * r ^ n)
    (by rw [← Nat.mul_assoc]; exact Nat.mul_lt_mul_of_pos_right hK (Nat.pow_pos hr0)) hn hnT
  have : n * (K * r ^ n) ≤ (n + 1) * (K * r ^ n) := Nat.mul_le_mul_right _ (Nat.le_succ n)
  unfold traceErr; omega

theorem fracLoop_run (cf : Bool) (f : Fmt) (r : Nat) : ∀ (fuel x delta : Nat) (acc : List Nat)
    (out : List Nat × List Nat × Bool), fracLoop cf f r (ofNat f r) fuel x delta acc = .ok out →
    ∃ n, 1 ≤ n ∧ n ≤ fuel ∧ (∀ i, 1 ≤ i → i < n → deltaIter f r i delta < (fracIter f r i x).2) ∧
      ((out = (((fracIter f r n x).1.map (digitToCharConst · r)).reverse ++ acc, [], false) ∧
          (fracIter f r n x).2 ≤ deltaIter f r n delta) ∨
       (out = backtrace cf r (((fracIter f r n x).1.map (digitToCharConst · r)).reverse ++ acc) [] ∧
          one f < fadd f (fracIter f r n x).2 (deltaIter f r n delta)))
  | 0, _, _, _, _, h => by simp [fracLoop] at h
  | fuel + 1, x, delta, acc, out, h => by
    unfold fracLoop at h
    dsimp only at h
    split at h
    · rename_i hc
      simp only [Res.ok.injEq] at h
      exact ⟨1, Nat.le_refl _, by omega, fun i h1 h2 => by omega, Or.inr ⟨by rw [← h]; simp [fracIter], hc.2⟩⟩
    · split at h
      · rename_i hge
        simp only [Res.ok.injEq] at h
        exact ⟨1, Nat.le_refl _, by omega, fun i h1 h2 => by omega, Or.inl ⟨by rw [← h]; simp [fracIter], hge⟩⟩
      · rename_i hnge
        obtain ⟨n, h1, h2, h3, h4⟩ := fracLoop_run cf f r fuel _ _ _ out h
        refine ⟨n + 1, by omega, by omega, ?_, ?_⟩
        · intro i hi1 hin
          obtain ⟨i, rfl⟩ : ∃ i', i = i' + 1 := ⟨i - 1, by omega⟩
          rw [deltaIter_succ']
          by_cases hi0 : i = 0
          · subst hi0; exact Nat.lt_of_not_le hnge
          · exact h3 i (by omega) (by omega)
        · rw [deltaIter_succ']
          rcases h4 with ⟨h4, h5⟩ | ⟨h4, h5⟩
          · exact Or.inl ⟨by rw [h4]; simp [fracIter], h5⟩
          · exact Or.inr ⟨by rw [h4]; simp [fracIter], h5⟩

theorem geom_succ' (r : Nat) : ∀ n, geom r (n + 1) = geom r n * r + 1
  | 0 => by simp [geom]
  | n + 1 => by
    show r ^ (n + 1) + geom r (n + 1) = (r ^ n + geom r n) * r + 1
    rw [geom_succ' r n]; ring

section
variable {f : Fmt} (h : FOK f) {r : Nat} (hrp : r < 2 * 2 ^ (f.p - 1))
include h hrp

theorem deltaIter_double (hr2 : 2 ≤ r) (d : Nat) : ∀ n, (∀ i, i < n → deltaIter f r i d < one f) →
    RoundNE.ival f d * 2 ^ n ≤ RoundNE.ival f (deltaIter f r n d)
  | 0, _ => by simp [deltaIter]
  | n + 1, hd => by
    have ih := deltaIter_double hr2 d n (fun i hi => hd i (by omega))
    have := fmul_double h hr2 hrp (hd n (Nat.lt_succ_self n))
    show _ ≤ RoundNE.ival f (fmul f (deltaIter f r n d) (ofNat f r))
    rw [Nat.pow_succ, ← Nat.mul_assoc]
    omega

theorem deltaIter_err (hr36 : r ≤ 36) (d : Nat) : ∀ n, (∀ i, i < n → deltaIter f r i d ≤ one f) →
    RoundNE.ival f (deltaIter f r n d) ≤ RoundNE.ival f d * r ^ n + errB f * geom r n
  | 0, _ => by simp [deltaIter]
  | n + 1, hd => by
    have ih := deltaIter_err hr36 d n (fun i hi => hd i (by omega))
    obtain ⟨_, e2⟩ := fmul_err h hr36 hrp (hd n (Nat.lt_succ_self n))
    calc RoundNE.ival f (fmul f (deltaIter f r n d) (ofNat f r))
        ≤ RoundNE.ival f (deltaIter f r n d) * r + errB f := e2
      _ ≤ (RoundNE.ival f d * r ^ n + errB f * geom r n) * r + errB f :=
          Nat.add_le_add_right (Nat.mul_le_mul_right _ ih) _
      _ = _ := by rw [geom_succ']; ring

theorem deltaIter_close (d : Nat) : ∀ n, (∀ i, i < n → deltaIter f r i d ≤ one f) →
    Close (2 * 2 ^ (f.p - 1)) n (RoundNE.ival f (deltaIter f r n d)) (RoundNE.ival f d * r ^ n)
  | 0, _ => by simpa [deltaIter] using Close.refl _ _
  | n + 1, hd => by
    have ih := (deltaIter_close d n (fun i hi => hd i (by omega))).mul_right r
    rw [Nat.mul_assoc, ← Nat.pow_succ] at ih
    exact (fmul_close h hrp (hd n (Nat.lt_succ_self n))).step ih

end

end LexVerif.Proof.WriteRadixError
