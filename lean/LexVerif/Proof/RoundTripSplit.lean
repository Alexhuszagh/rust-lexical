import LexVerif.Spec.Grammar
import LexVerif.Model.FormatDecimal
import LexVerif.Proof.Numeral
/-!
# Proof.RoundTripSplit — the documented grammar's splitter inverts the rendering of a number *shape* (C08)

A `Shape` is what the float writer's layout functions decide: integer digits, optional fraction digits, optional
exponent.  `Shape.render` turns it into bytes (digit characters, the decimal point, the exponent character, the
exponent sign, the exponent digits in the exponent radix).  `Spec.splitNumber` applied to the rendering returns
exactly the components of the shape and leaves nothing over, provided the base prefix does not fire on the text
(`splitNumber_render`); `ShapeOk` lists the conditions on the shape, one per flag, under which every flag constraint
of the grammar holds.
-/
namespace LexVerif.Proof.RoundTrip
open LexVerif.Spec LexVerif.Model

theorem digitVal_digitChar (r d : Nat) (hr : r ≤ 36) (hd : d < r) : digitVal r (digitChar d) = some d := by
  have h36 : d < 36 := by omega
  unfold digitVal digitVal36 digitChar
  by_cases h10 : d < 10
  · have h1 : 48 ≤ 48 + d ∧ 48 + d ≤ 57 := by omega
    simp [h10, h1, hd]
  · have h1 : ¬ (48 ≤ 55 + d ∧ 55 + d ≤ 57) := by omega
    have h2 : 65 ≤ 55 + d ∧ 55 + d ≤ 90 := by omega
    simp [h10, h1, h2, hd]

theorem digitChar_ne_sign (d : Nat) : digitChar d ≠ 43 ∧ digitChar d ≠ 45 := by
  unfold digitChar; split <;> omega

theorem digitChar_zero : digitChar 0 = 48 := rfl
theorem digitChar_one : digitChar 1 = 49 := rfl

theorem zeros_eq_chars (n : Nat) : zeros n = chars (List.replicate n 0) := by
  simp [zeros, chars, digitChar]

theorem chars_cons (a : Nat) (b : List Nat) : chars (a :: b) = digitChar a :: chars b := rfl
theorem chars_nil : chars [] = [] := rfl
theorem chars_length (a : List Nat) : (chars a).length = a.length := by simp [chars]

def NoDigitHead (r : Nat) (rest : List Nat) : Prop := ∀ c, rest.head? = some c → digitVal r c = none

theorem noDigitHead_nil (r : Nat) : NoDigitHead r [] := by intro c h; simp at h
theorem noDigitHead_cons (r c : Nat) (cs : List Nat) (h : digitVal r c = none) : NoDigitHead r (c :: cs) := by
  intro x hx; simp at hx; subst hx; exact h

theorem takeDigits_chars (r : Nat) (hr : r ≤ 36) (ds rest : List Nat) (hds : ∀ d ∈ ds, d < r)
    (hrest : NoDigitHead r rest) : takeDigits r (chars ds ++ rest) = (ds, rest) := by
  induction ds with
  | nil =>
    cases rest with
    | nil => simp [chars, takeDigits]
    | cons c cs =>
      have := hrest c rfl
      simp [chars, takeDigits, this]
  | cons d ds ih =>
    have hd := hds d (by simp)
    have ih' := ih (fun x hx => hds x (by simp [hx]))
    simp only [chars_cons, List.cons_append, takeDigits, digitVal_digitChar r d hr hd, ih']

theorem digitVal_sign (r : Nat) : digitVal r 43 = none ∧ digitVal r 45 = none := by
  constructor <;> simp [digitVal, digitVal36]

structure Shape where
  ints : List Nat
  frac : Option (List Nat)
  exp : Option Int
deriving Repr, DecidableEq

def Shape.Below (r : Nat) (s : Shape) : Prop := (∀ d ∈ s.ints, d < r) ∧ ∀ fs, s.frac = some fs → ∀ d ∈ fs, d < r

theorem Shape.Below.mono {r R : Nat} {s : Shape} (h : s.Below r) (hrR : r ≤ R) : s.Below R :=
  ⟨fun d hd => Nat.lt_of_lt_of_le (h.1 d hd) hrR, fun fs hfs d hd => Nat.lt_of_lt_of_le (h.2 fs hfs d hd) hrR⟩

def Shape.Full (s : Shape) : Prop := s.ints ≠ [] ∧ ∀ fs, s.frac = some fs → fs ≠ []

def expSignBytes (plusReq : Bool) (e : Int) : List Nat :=
  if e < 0 then [45] else if plusReq then [43] else []

def expSignOf (plusReq : Bool) (e : Int) : Option Bool :=
  if e < 0 then some true else if plusReq then some false else none

def expText (plusReq : Bool) (er expc : Nat) (e : Int) : List Nat :=
  [expc] ++ expSignBytes plusReq e ++ numeral er e.natAbs

def fracText (dp : Nat) : Option (List Nat) → List Nat
  | some fs => dp :: chars fs
  | none => []

def expPart (plusReq : Bool) (er expc : Nat) : Option Int → List Nat
  | some e => expText plusReq er expc e
  | none => []

def Shape.render (dp expc er : Nat) (plusReq : Bool) (s : Shape) : List Nat :=
  chars s.ints ++ (fracText dp s.frac ++ expPart plusReq er expc s.exp)

def plusReqOf (fmt : Format) (feats : Features) : Bool := feats.format && fmt.requiredExponentSign

theorem writeExponent_expText (fmt : Format) (feats : Features) (e : Int) (expc er : Nat) :
    writeExponent fmt feats e expc er = expText (plusReqOf fmt feats) er expc e := by
  unfold writeExponent expText expSignBytes plusReqOf
  by_cases h1 : e < 0
  · simp [h1]
  · by_cases h2 : feats.format = true <;> by_cases h3 : fmt.requiredExponentSign = true <;> simp [h1, h2, h3]

def Shape.parts (er : Nat) (plusReq : Bool) (sg : Option Bool) (s : Shape) : Parts :=
  ⟨sg, false, s.ints, s.frac.isSome, s.frac.getD [], s.exp.isSome,
   (match s.exp with | some e => expSignOf plusReq e | none => none),
   (match s.exp with | some e => toDigits er e.natAbs | none => []), false, []⟩

theorem splitSign_nosign (c : Nat) (cs : List Nat) (h1 : c ≠ 43) (h2 : c ≠ 45) :
    splitSign (c :: cs) = (none, c :: cs) := by
  unfold splitSign
  split
  · rename_i h; cases h; exact absurd rfl h1
  · rename_i h; cases h; exact absurd rfl h2
  · rfl

theorem splitSign_expDigits (plusReq : Bool) (er : Nat) (her2 : 2 ≤ er) (e : Int) :
    splitSign (expSignBytes plusReq e ++ numeral er e.natAbs) = (expSignOf plusReq e, numeral er e.natAbs) := by
  unfold expSignBytes expSignOf
  by_cases h1 : e < 0
  · simp [h1, splitSign]
  · by_cases h2 : plusReq = true
    · simp [h1, h2, splitSign]
    · simp only [h1, h2, if_false, List.nil_append]
      obtain ⟨d, ds, hd⟩ : ∃ d ds, toDigits er e.natAbs = d :: ds := by
        cases h : toDigits er e.natAbs with
        | nil => exact absurd h (toDigits_ne_nil er _ her2)
        | cons d ds => exact ⟨d, ds, rfl⟩
      have hn : numeral er e.natAbs = digitChar d :: ds.map digitChar := by unfold numeral; rw [hd]; rfl
      rw [hn]
      exact splitSign_nosign _ _ (digitChar_ne_sign d).1 (digitChar_ne_sign d).2

theorem matchByte_self (cased : Bool) (c : Nat) : matchByte cased c c = true := by
  unfold matchByte eqUncased; cases cased <;> simp

theorem splitExponent_expText (y : Syn) (o : POpts) (plusReq : Bool) (her2 : 2 ≤ y.expRadix) (her : y.expRadix ≤ 36)
    (e : Int) :
    splitExponent y o (expText plusReq y.expRadix o.exp e) =
      (true, expSignOf plusReq e, toDigits y.expRadix e.natAbs, []) := by
  unfold expText
  simp only [List.singleton_append, List.cons_append, List.nil_append, splitExponent, matchByte_self, if_true,
    splitSign_expDigits plusReq y.expRadix her2 e]
  have h := takeDigits_chars y.expRadix her (toDigits y.expRadix e.natAbs) []
    (toDigits_digit_lt _ _ her2) (noDigitHead_nil _)
  simp only [List.append_nil] at h
  unfold numeral; unfold chars at h
  rw [h]

theorem splitExponent_nil (y : Syn) (o : POpts) : splitExponent y o [] = (false, none, [], []) := rfl
theorem splitSuffix_nil (y : Syn) : splitSuffix y [] = (false, []) := rfl

theorem splitFraction_some (y : Syn) (o : POpts) (hr : y.radix ≤ 36) (fs rest : List Nat) (hfs : ∀ d ∈ fs, d < y.radix)
    (hrest : NoDigitHead y.radix rest) :
    splitFraction y o (o.dp :: chars fs ++ rest) = (true, fs, rest) := by
  simp only [List.cons_append, splitFraction, if_true, takeDigits_chars y.radix hr fs rest hfs hrest]

theorem splitFraction_expText (y : Syn) (o : POpts) (plusReq : Bool) (hne : o.dp ≠ o.exp) (er : Nat) (e : Int) :
    splitFraction y o (expText plusReq er o.exp e) = (false, [], expText plusReq er o.exp e) := by
  unfold expText
  simp only [List.singleton_append, List.cons_append, List.nil_append, splitFraction]
  rw [if_neg (fun h => hne h.symm)]

theorem splitFraction_nil (y : Syn) (o : POpts) : splitFraction y o [] = (false, [], []) := rfl

theorem noDigitHead_expPart (r : Nat) (plusReq : Bool) (er expc : Nat) (h : digitVal r expc = none) (x : Option Int) :
    NoDigitHead r (expPart plusReq er expc x) := by
  cases x with
  | none => exact noDigitHead_nil r
  | some e => exact noDigitHead_cons r expc _ h

theorem noDigitHead_tail (r dp : Nat) (plusReq : Bool) (er expc : Nat) (hdp : digitVal r dp = none)
    (hexp : digitVal r expc = none) (f : Option (List Nat)) (x : Option Int) :
    NoDigitHead r (fracText dp f ++ expPart plusReq er expc x) := by
  cases f with
  | none => simpa [fracText] using noDigitHead_expPart r plusReq er expc hexp x
  | some fs => exact noDigitHead_cons r dp _ hdp

theorem splitNumber_render (y : Syn) (o : POpts) (sg : Option Bool) (s : Shape) (plusReq : Bool)
    (hr : y.radix ≤ 36) (her2 : 2 ≤ y.expRadix) (her : y.expRadix ≤ 36)
    (hints : ∀ d ∈ s.ints, d < y.radix) (hfrac : ∀ fs, s.frac = some fs → ∀ d ∈ fs, d < y.radix)
    (hdp : digitVal y.radix o.dp = none) (hexp : digitVal y.radix o.exp = none) (hne : o.dp ≠ o.exp)
    (hpre : splitPrefix y (s.render o.dp o.exp y.expRadix plusReq) = (false, s.render o.dp o.exp y.expRadix plusReq)) :
    splitNumber y o sg (s.render o.dp o.exp y.expRadix plusReq) = s.parts y.expRadix plusReq sg := by
  unfold splitNumber
  rw [hpre]
  obtain ⟨ints, frac, exp⟩ := s
  simp only [Shape.render] at *
  -- the integer digits stop at the point or the exponent character (no digits); then by which of fraction and exponent exist
  have htail := noDigitHead_tail y.radix o.dp plusReq y.expRadix o.exp hdp hexp frac exp
  simp only [takeDigits_chars y.radix hr ints _ hints htail]
  cases frac with
  | none =>
    cases exp with
    | none => simp [fracText, expPart, splitFraction_nil, splitExponent_nil, splitSuffix_nil, Shape.parts]
    | some e =>
      simp only [fracText, expPart, List.nil_append, splitFraction_expText y o plusReq hne,
        splitExponent_expText y o plusReq her2 her, splitSuffix_nil, Shape.parts]
      rfl
  | some fs =>
    have hfs := hfrac fs rfl
    cases exp with
    | none =>
      have := splitFraction_some y o hr fs [] hfs (noDigitHead_nil _)
      simp only [List.append_nil] at this
      simp only [fracText, expPart, List.append_nil, this, splitExponent_nil, splitSuffix_nil, Shape.parts]
      rfl
    | some e =>
      have := splitFraction_some y o hr fs (expText plusReq y.expRadix o.exp e) hfs (noDigitHead_cons _ _ _ hexp)
      simp only [fracText, expPart, this, splitExponent_expText y o plusReq her2 her, splitSuffix_nil, Shape.parts]
      rfl

structure ShapeOk (y : Syn) (plusReq : Bool) (sg : Option Bool) (s : Shape) : Prop where
  sign : signOk y.noPosMant y.reqMantSign sg = true
  ints_ne : s.ints ≠ []                                             -- required_integer_digits, required_mantissa_digits
  frac_ne : y.reqFrac = true → ∀ fs, s.frac = some fs → fs ≠ []     -- required_fraction_digits
  noLZ : y.noFloatLZ = true → leadingZeros s.ints = false           -- no_float_leading_zeros
  noExp : y.noExpNot = true → s.exp = none                          -- no_exponent_notation
  reqExp : y.reqExpNot = true → s.exp ≠ none                        -- required_exponent_notation
  expFrac : y.noExpWoFrac = true → s.exp ≠ none → s.frac ≠ none     -- no_exponent_without_fraction
  expSign : ∀ e, s.exp = some e → signOk y.noPosExp y.reqExpSign (expSignOf plusReq e) = true

/-- every conjunct of `numberOk` is one field of `ShapeOk` (or holds because nothing follows the number); the proof
goes through the four presence patterns of fraction and exponent and the flags each conjunct reads -/
theorem numberOk_render (y : Syn) (plusReq : Bool) (sg : Option Bool) (s : Shape) (her2 : 2 ≤ y.expRadix)
    (h : ShapeOk y plusReq sg s) : numberOk y (s.parts y.expRadix plusReq sg) = true := by
  obtain ⟨ints, frac, exp⟩ := s
  obtain ⟨h1, h2, h3, h4, h5, h6, h7, h8⟩ := h
  simp only at h2 h3 h4 h5 h6 h7 h8
  have hi : ints.isEmpty = false := by cases ints <;> simp_all
  unfold numberOk Shape.parts
  simp only [h1, hi, List.isEmpty_nil, Bool.true_and, Bool.and_false, Bool.false_and, Bool.not_false, Bool.and_true]
  cases frac with
  | none =>
    cases exp with
    | none =>
      cases hn : y.noFloatLZ <;> cases hq : y.reqExpNot <;> simp_all
    | some e =>
      have he : (toDigits y.expRadix e.natAbs).isEmpty = false := by
        have := toDigits_ne_nil y.expRadix e.natAbs her2
        cases h : toDigits y.expRadix e.natAbs <;> simp_all
      have h8' := h8 e rfl
      cases hn : y.noFloatLZ <;> cases hq : y.noExpNot <;> cases hw : y.noExpWoFrac <;> simp_all
  | some fs =>
    have hf : y.reqFrac = true → fs.isEmpty = false := by
      intro hq
      have := h3 hq fs rfl
      cases fs <;> simp_all
    cases exp with
    | none =>
      cases hn : y.noFloatLZ <;> cases hq : y.reqExpNot <;> cases hrf : y.reqFrac <;> simp_all
    | some e =>
      have he : (toDigits y.expRadix e.natAbs).isEmpty = false := by
        have := toDigits_ne_nil y.expRadix e.natAbs her2
        cases h : toDigits y.expRadix e.natAbs <;> simp_all
      have h8' := h8 e rfl
      cases hn : y.noFloatLZ <;> cases hq : y.noExpNot <;> cases hrf : y.reqFrac <;> simp_all

theorem parts_lit (y : Syn) (plusReq : Bool) (sg : Option Bool) (s : Shape) (her2 : 2 ≤ y.expRadix) :
    (s.parts y.expRadix plusReq sg).lit y =
      ⟨sg == some true, s.ints, s.frac.getD [], s.exp.getD 0⟩ := by
  obtain ⟨ints, frac, exp⟩ := s
  unfold Parts.lit Shape.parts
  cases exp with
  | none => simp [ofDigits]
  | some e =>
    simp only [ofDigits_toDigits y.expRadix e.natAbs her2, Option.getD_some]
    unfold expSignOf
    by_cases h1 : e < 0
    · simp only [h1, if_true, beq_self_eq_true]
      congr 1; omega
    · by_cases h2 : plusReq = true
      · simp [h1, h2]; omega
      · simp [h1, h2]; omega

def signBytes : Option Bool → List Nat
  | some true => [45]
  | some false => [43]
  | none => []

theorem splitSign_signBytes (sg : Option Bool) (body : List Nat)
    (hb : ∀ c, body.head? = some c → c ≠ 43 ∧ c ≠ 45) : splitSign (signBytes sg ++ body) = (sg, body) := by
  match sg with
  | some true => simp [signBytes, splitSign]
  | some false => simp [signBytes, splitSign]
  | none =>
    simp only [signBytes, List.nil_append]
    cases body with
    | nil => rfl
    | cons c cs => exact splitSign_nosign c cs (hb c rfl).1 (hb c rfl).2

theorem render_head (dp expc er : Nat) (plusReq : Bool) (s : Shape) (h : s.ints ≠ []) :
    ∃ d ds, s.ints = d :: ds ∧ ∃ t, s.render dp expc er plusReq = digitChar d :: t := by
  obtain ⟨ints, frac, exp⟩ := s
  cases ints with
  | nil => exact absurd rfl h
  | cons d ds => exact ⟨d, ds, rfl, _, rfl⟩

theorem grammarFloatSyn_render (y : Syn) (o : POpts) (sg : Option Bool) (s : Shape) (plusReq : Bool)
    (hr : y.radix ≤ 36) (her2 : 2 ≤ y.expRadix) (her : y.expRadix ≤ 36) (hb : s.Below y.radix)
    (hdp : digitVal y.radix o.dp = none) (hexp : digitVal y.radix o.exp = none) (hne : o.dp ≠ o.exp)
    (hpre : splitPrefix y (s.render o.dp o.exp y.expRadix plusReq) = (false, s.render o.dp o.exp y.expRadix plusReq))
    (hok : ShapeOk y plusReq sg s) :
    grammarFloatSyn y o (signBytes sg ++ s.render o.dp o.exp y.expRadix plusReq) =
      .num ⟨sg == some true, s.ints, s.frac.getD [], s.exp.getD 0⟩
        (signBytes sg ++ s.render o.dp o.exp y.expRadix plusReq).length := by
  obtain ⟨d, ds, hd, t, ht⟩ := render_head o.dp o.exp y.expRadix plusReq s hok.ints_ne
  have hsplit := splitSign_signBytes sg (s.render o.dp o.exp y.expRadix plusReq) (by
    intro c hc; rw [ht] at hc; simp at hc; subst hc; exact digitChar_ne_sign d)
  have hne' : (signBytes sg ++ s.render o.dp o.exp y.expRadix plusReq).isEmpty = false := by
    rw [ht]; cases sg <;> simp
  unfold grammarFloatSyn
  simp only [hne', hsplit, splitNumber_render y o sg s plusReq hr her2 her hb.1 hb.2 hdp hexp hne hpre,
    numberOk_render y plusReq sg s her2 hok, parts_lit y plusReq sg s her2]
  simp

end LexVerif.Proof.RoundTrip
