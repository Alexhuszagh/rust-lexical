import Mathlib.Tactic.Ring
import Mathlib.Tactic.Linarith

/-!
# Dragonbox, normal case: the pure `Nat` arithmetic

`x = a / b = 2^(e-1)·10^k` is a positive rational with `T ≤ 2x < 10T`, `T = 10^κ ∈ {10, 100}`,
`B = 10·T`.  The scaled rounding interval is `[X, Z] = [(2q−1)x, (2q+1)x]`, centre `Y = 2q·x`,
length `δ = 2x`.  All comparisons are multiplied through by `b`.  `T` stays a variable, with
`T = 10 ∨ T = 100` as a hypothesis, so that the lemmas speak of both float types; a step that needs the
value splits on it and is then linear.
-/

namespace LexVerif.Proof.DragonboxMath

structure Setup (a b T q : Nat) : Prop where
  ha : 0 < a
  hb : 0 < b
  hT : T = 10 ∨ T = 100
  hlo : T * b ≤ 2 * a
  hhi : 2 * a < 10 * T * b
  hq : 1 ≤ q

/-- `D·T` is a nearest multiple of `T` to the centre `Y = 2q·a/b`:  `2·|D·T − Y| ≤ T`
(both truncated differences) -/
def CloseTo (a b T q D : Nat) : Prop :=
  2 * (D * T * b - 2 * q * a) ≤ T * b ∧ 2 * (2 * q * a - D * T * b) ≤ T * b

theorem div_hi (n : Nat) {b : Nat} (hb : 0 < b) : n < n / b * b + b := by
  have h1 := Nat.div_add_mod n b
  have h2 := Nat.mod_lt n hb
  have h3 : b * (n / b) = n / b * b := Nat.mul_comm _ _
  omega

theorem div_mul_eq_iff_dvd (n b : Nat) : n / b * b = n ↔ b ∣ n :=
  ⟨fun h => ⟨n / b, by rw [Nat.mul_comm]; exact h.symm⟩, fun h => Nat.div_mul_cancel h⟩

theorem nums {a q : Nat} (hq : 1 ≤ q) :
    (2 * q - 1) * a + a = 2 * q * a ∧ 2 * q * a + a = (2 * q + 1) * a ∧ a ≤ (2 * q - 1) * a := by
  obtain ⟨k, rfl⟩ : ∃ k, q = k + 1 := ⟨q - 1, by omega⟩
  have e : 2 * (k + 1) - 1 = 2 * k + 1 := by omega
  rw [e]
  exact ⟨by ring, by ring, Nat.le_mul_of_pos_left a (by omega)⟩

variable {a b T q : Nat}

theorem delta_bounds (h : Setup a b T q) : T ≤ 2 * a / b ∧ 2 * a / b < 10 * T :=
  ⟨(Nat.le_div_iff_mul_le h.hb).2 h.hlo, (Nat.div_lt_iff_lt_mul h.hb).2 h.hhi⟩

theorem zi_bound (h : Setup a b T q) {p : Nat} (hq2 : q < 2 ^ p) :
    (2 * q + 1) * a / b < 2 ^ p * (10 * T) := by
  rw [Nat.div_lt_iff_lt_mul h.hb]
  have hhi := h.hhi
  have hT := h.hT
  have h1 : (2 * q + 1) * (2 * a) < (2 * q + 1) * (10 * T * b) :=
    Nat.mul_lt_mul_of_pos_left hhi (by omega)
  have h2 : (q + 1) * b ≤ 2 ^ p * b := Nat.mul_le_mul_right b hq2
  generalize 2 ^ p = N at *
  have e1 : (2 * q + 1) * (2 * a) = 4 * (q * a) + 2 * a := by ring
  have e2 : (2 * q + 1) * (10 * T * b) = (10 * T) * (2 * (q * b)) + (10 * T) * b := by ring
  have e3 : (q + 1) * b = q * b + b := by ring
  have e4 : (2 * q + 1) * a = 2 * (q * a) + a := by ring
  have e5 : N * (10 * T) * b = (10 * T) * (N * b) := by ring
  clear h
  rcases hT with rfl | rfl <;> omega

/-- where `s·B` (`s = zi / B`, `r = zi % B`, `B = 10T`) stands against the lower end `X = Z − 2x`. With the numerators
`Zn = (2q+1)a`, `Xn = (2q−1)a`: `s·B·b + (r·b + Zn mod b) = Xn + 2a`, so `s·B ⋚ X` as `2a ⋚ r·b + Zn mod b`; the three
branches of Step 2 compare `r` with `⌊2a/b⌋` and are read off this identity -/
theorem split_z (h : Setup a b T q) :
    (2 * q + 1) * a / b / (10 * T) * (10 * T) * b + ((2 * q + 1) * a / b % (10 * T) * b + (2 * q + 1) * a % b)
      = (2 * q - 1) * a + 2 * a
    ∧ a ≤ (2 * q - 1) * a ∧ (2 * q - 1) * a + 2 * a = (2 * q + 1) * a := by
  obtain ⟨hX, hY, haX⟩ := nums (a := a) h.hq
  refine ⟨?_, haX, by omega⟩
  have h1 := Nat.div_add_mod ((2 * q + 1) * a) b
  have h2 := Nat.div_add_mod ((2 * q + 1) * a / b) (10 * T)
  calc _ = b * (10 * T * ((2 * q + 1) * a / b / (10 * T)) + (2 * q + 1) * a / b % (10 * T)) + (2 * q + 1) * a % b := by
        ring
    _ = (2 * q + 1) * a := by rw [h2, h1]
    _ = _ := by omega

/-- `r < δi`: `s·B ∈ (X, Z]`, and it is the right endpoint iff `r = 0` and `Z` is an integer -/
theorem big_lt (h : Setup a b T q) (hr : (2 * q + 1) * a / b % (10 * T) < 2 * a / b) :
    1 ≤ (2 * q + 1) * a / b / (10 * T)
    ∧ (2 * q - 1) * a < (2 * q + 1) * a / b / (10 * T) * (10 * T) * b
    ∧ (2 * q + 1) * a / b / (10 * T) * (10 * T) * b ≤ (2 * q + 1) * a
    ∧ ((2 * q + 1) * a / b / (10 * T) * (10 * T) * b = (2 * q + 1) * a
        ↔ ((2 * q + 1) * a / b % (10 * T) = 0 ∧ b ∣ (2 * q + 1) * a)) := by
  obtain ⟨hid, haX, hXZ⟩ := split_z h
  have ha := h.ha
  have hb := h.hb
  have hd1 := Nat.div_mul_le_self (2 * a) b
  have hf := Nat.mod_lt ((2 * q + 1) * a) hb
  have m1 : ((2 * q + 1) * a / b % (10 * T) + 1) * b ≤ 2 * a / b * b := Nat.mul_le_mul_right b hr
  rw [Nat.add_mul, Nat.one_mul] at m1
  rw [Nat.dvd_iff_mod_eq_zero]
  have g2 : (2 * q - 1) * a < (2 * q + 1) * a / b / (10 * T) * (10 * T) * b := by omega
  refine ⟨Nat.pos_of_ne_zero fun h0 => ?_, g2, by omega, fun he => ⟨?_, by omega⟩, fun ⟨h0, hd⟩ => ?_⟩
  · rw [h0, Nat.zero_mul, Nat.zero_mul] at g2; omega
  · have : (2 * q + 1) * a / b % (10 * T) * b = 0 := by omega
    rcases Nat.mul_eq_zero.1 this with h0 | h0 <;> omega
  · rw [h0, Nat.zero_mul] at hid; omega

/-- `r > δi`: `s·B < X` -/
theorem big_gt (h : Setup a b T q) (hr : 2 * a / b < (2 * q + 1) * a / b % (10 * T)) :
    (2 * q + 1) * a / b / (10 * T) * (10 * T) * b < (2 * q - 1) * a := by
  obtain ⟨hid, -, -⟩ := split_z h
  have hd2 := div_hi (2 * a) h.hb
  have m1 : (2 * a / b + 1) * b ≤ (2 * q + 1) * a / b % (10 * T) * b := Nat.mul_le_mul_right b hr
  rw [Nat.add_mul, Nat.one_mul] at m1
  omega
/-- `r = δi`: `s·B = zi − δi ∈ {xi, xi + 1}`; decided by the parity of `xi` (as `s·B` is even) -/
theorem big_eq (h : Setup a b T q) (hr : (2 * q + 1) * a / b % (10 * T) = 2 * a / b) :
    1 ≤ (2 * q + 1) * a / b / (10 * T)
    ∧ (2 * q + 1) * a / b / (10 * T) * (10 * T) * b < (2 * q + 1) * a
    ∧ ((2 * q - 1) * a / b % 2 = 1 →
        (2 * q - 1) * a < (2 * q + 1) * a / b / (10 * T) * (10 * T) * b)
    ∧ ((2 * q - 1) * a / b % 2 = 0 →
        (2 * q + 1) * a / b / (10 * T) * (10 * T) * b ≤ (2 * q - 1) * a
        ∧ ((2 * q + 1) * a / b / (10 * T) * (10 * T) * b = (2 * q - 1) * a
            ↔ b ∣ (2 * q - 1) * a)) := by
  obtain ⟨hid, haX, hXZ⟩ := split_z h
  obtain ⟨hdT, -⟩ := delta_bounds h
  have hb := h.hb
  have hT : 2 ≤ T := by have := h.hT; omega
  have hlo := h.hlo
  have hfz := Nat.mod_lt ((2 * q + 1) * a) hb
  have hfd := Nat.mod_lt (2 * a) hb
  have hd := Nat.div_add_mod (2 * a) b
  have hx1 := Nat.div_mul_le_self ((2 * q - 1) * a) b
  have hx2 := div_hi ((2 * q - 1) * a) hb
  have hxd := div_mul_eq_iff_dvd ((2 * q - 1) * a) b
  have m1 : T * b ≤ 2 * a / b * b := Nat.mul_le_mul_right b hdT
  have m2 : 2 * b ≤ T * b := Nat.mul_le_mul_right b hT
  rw [hr, Nat.mul_comm (2 * a / b) b] at hid
  rw [Nat.mul_comm (2 * a / b) b] at m1
  -- `s·B·b + Z mod b = X·b + 2a mod b`: `s·B` is `⌊X⌋` or `⌊X⌋ + 1`, and it is even
  generalize hu : (2 * q + 1) * a / b / (10 * T) * (10 * T) = u at *
  generalize (2 * q - 1) * a / b = xi at *
  have hev : u % 2 = 0 := by rw [← hu, ← Nat.mul_assoc, Nat.mul_comm _ 10, Nat.mul_assoc]; omega
  have c1 : u < xi + 2 := Nat.lt_of_mul_lt_mul_right (a := b) (by rw [Nat.add_mul]; omega)
  have c2 : xi < u + 1 := Nat.lt_of_mul_lt_mul_right (a := b) (by rw [Nat.add_mul, Nat.one_mul]; omega)
  refine ⟨Nat.pos_of_ne_zero fun h0 => ?_, by omega, fun hodd => ?_, fun hevx => ?_⟩
  · rw [h0, Nat.zero_mul] at hu; subst hu; rw [Nat.zero_mul] at hid; omega
  · have : (xi + 1) * b = u * b := by rw [show xi + 1 = u by omega]
    rw [Nat.add_mul, Nat.one_mul] at this
    omega
  · rw [show u = xi by omega]
    exact ⟨hx1, hxd⟩

theorem big_unique (h : Setup a b T q) (D : Nat) (hD : D ≠ (2 * q + 1) * a / b / (10 * T)) :
    D * (10 * T) * b < (2 * q - 1) * a ∨ (2 * q + 1) * a < D * (10 * T) * b := by
  obtain ⟨hid, -, hXZ⟩ := split_z h
  have hhi := h.hhi
  have hfz := Nat.mod_lt ((2 * q + 1) * a) h.hb
  have m1 : ((2 * q + 1) * a / b % (10 * T) + 1) * b ≤ 10 * T * b :=
    Nat.mul_le_mul_right b (Nat.mod_lt _ (by have := h.hT; omega))
  rw [Nat.add_mul, Nat.one_mul] at m1
  rw [Nat.mul_assoc _ (10 * T) b] at hid
  rw [Nat.mul_assoc D (10 * T) b]
  rcases Nat.lt_or_gt_of_ne hD with hlt | hgt
  · have m2 := Nat.mul_le_mul_right (10 * T * b) (Nat.succ_le_of_lt hlt)
    rw [Nat.succ_mul] at m2
    omega
  · have m2 := Nat.mul_le_mul_right (10 * T * b) (Nat.succ_le_of_lt hgt)
    rw [Nat.succ_mul] at m2
    omega

theorem close_of_near {Y b T D y : Nat} (hT : T = 10 ∨ T = 100) (hy1 : y * b ≤ Y)
    (hy2 : Y < y * b + b) (h1 : D * T ≤ y + T / 2) (h2 : y + T / 2 + 1 ≤ D * T + T) :
    2 * (D * T * b - Y) ≤ T * b ∧ 2 * (Y - D * T * b) ≤ T * b := by
  have m1 := Nat.mul_le_mul_right b h1
  have m2 := Nat.mul_le_mul_right b h2
  have e1 : (y + T / 2) * b = y * b + T / 2 * b := by ring
  have e2 : (y + T / 2 + 1) * b = y * b + T / 2 * b + b := by ring
  have e3 : (D * T + T) * b = D * T * b + T * b := by ring
  rw [e1] at m1
  rw [e2, e3] at m2
  rcases hT with rfl | rfl <;> omega

theorem close_of_half {Y b T D y : Nat} (hT : T = 10 ∨ T = 100) (hy : y * b = Y)
    (h1 : D * T + T / 2 = y) :
    2 * (D * T * b - Y) ≤ T * b ∧ 2 * (Y - D * T * b) ≤ T * b := by
  subst h1
  have e1 : (D * T + T / 2) * b = D * T * b + T / 2 * b := by ring
  rw [e1] at hy
  rcases hT with rfl | rfl <;> omega

/-- Step 3 (small divisor): entered with `zi = s'·B + r'`, `δi ≤ r' ≤ B` (`r' = B` after the
right endpoint was excluded) -/
theorem small_step (h : Setup a b T q) (s' r' : Nat) {dist : Nat} (hdist : dist = r' - 2 * a / b / 2 + T / 2)
    (hz : (2 * q + 1) * a / b = s' * (10 * T) + r')
    (h1 : 2 * a / b ≤ r') (h2 : r' ≤ 10 * T) :
    2 * a / b / 2 ≤ r'
    ∧ dist ≤ 10 * T
    ∧ (dist % T ≠ 0 → CloseTo a b T q (10 * s' + dist / T))
    ∧ (dist % T = 0 → 2 * q * a / b % 2 ≠ (dist + T / 2) % 2 →
          1 ≤ 10 * s' + dist / T ∧ CloseTo a b T q (10 * s' + dist / T - 1))
    ∧ (dist % T = 0 → 2 * q * a / b % 2 = (dist + T / 2) % 2 →
          CloseTo a b T q (10 * s' + dist / T)
          ∧ (b ∣ 2 * q * a → 1 ≤ 10 * s' + dist / T ∧ CloseTo a b T q (10 * s' + dist / T - 1))) := by
  subst hdist
  obtain ⟨hX, hY, haX⟩ := nums (a := a) h.hq
  obtain ⟨hdT, -⟩ := delta_bounds h
  have hb := h.hb
  have hT := h.hT
  have hz1 := Nat.div_mul_le_self ((2 * q + 1) * a) b
  have hz2 := div_hi ((2 * q + 1) * a) hb
  have hd1 := Nat.div_mul_le_self (2 * a) b
  have hd2 := div_hi (2 * a) hb
  have hy1 := Nat.div_mul_le_self (2 * q * a) b
  have hy2 := div_hi (2 * q * a) hb
  have hyd := div_mul_eq_iff_dvd (2 * q * a) b
  clear h
  unfold CloseTo
  generalize (2 * q + 1) * a = Zn at *
  generalize (2 * q - 1) * a = Xn at *
  generalize 2 * q * a = Yn at *
  generalize Zn / b = zi at *
  generalize Yn / b = yi at *
  generalize 2 * a / b = di at *
  subst hz
  generalize hhd : di / 2 = hh at *
  -- `hh = ⌊x⌋`
  have n1 : hh * b ≤ a := by
    have m : 2 * hh * b ≤ di * b := Nat.mul_le_mul_right b (by omega)
    have e : 2 * hh * b = 2 * (hh * b) := by ring
    omega
  have n2 : a < hh * b + b := by
    have m : (di + 1) * b ≤ (2 * hh + 2) * b := Nat.mul_le_mul_right b (by omega)
    have e : (di + 1) * b = di * b + b := by ring
    have e2 : (2 * hh + 2) * b = 2 * (hh * b) + 2 * b := by ring
    omega
  -- `yi ∈ {A - 1, A}`, `A = zi - hh`
  have k1 : yi + hh < s' * (10 * T) + r' + 1 := by
    refine Nat.lt_of_mul_lt_mul_right (a := b) ?_
    have e : (yi + hh) * b = yi * b + hh * b := by ring
    have e2 : (s' * (10 * T) + r' + 1) * b = (s' * (10 * T) + r') * b + b := by ring
    omega
  have k2 : s' * (10 * T) + r' < yi + hh + 2 := by
    refine Nat.lt_of_mul_lt_mul_right (a := b) ?_
    have e : (yi + hh + 2) * b = yi * b + hh * b + 2 * b := by ring
    omega
  clear hz1 hz2 hd1 hd2 n1 n2 hX hY haX
  generalize hdist : r' - hh + T / 2 = dist at *
  generalize hD : 10 * s' + dist / T = D at *
  refine ⟨by omega, by rcases hT with rfl | rfl <;> omega, ?_, ?_, ?_⟩
  · intro hne
    exact close_of_near hT hy1 hy2 (by rcases hT with rfl | rfl <;> omega)
      (by rcases hT with rfl | rfl <;> omega)
  · intro hz0 hpar
    have hD1 : 1 ≤ D := by rcases hT with rfl | rfl <;> omega
    exact ⟨hD1, close_of_near hT hy1 hy2 (by rcases hT with rfl | rfl <;> omega)
      (by rcases hT with rfl | rfl <;> omega)⟩
  · intro hz0 hpar
    refine ⟨close_of_near hT hy1 hy2 (by rcases hT with rfl | rfl <;> omega)
      (by rcases hT with rfl | rfl <;> omega), fun hdvd => ?_⟩
    have hD1 : 1 ≤ D := by rcases hT with rfl | rfl <;> omega
    exact ⟨hD1, close_of_half hT (hyd.2 hdvd) (by rcases hT with rfl | rfl <;> omega)⟩

/-- a nearest multiple of `T` lies strictly inside the interval (because `δ ≥ T`; if `δ = T`
then `Y` is itself a multiple) -/
theorem close_inside (h : Setup a b T q) (D : Nat) (hc : CloseTo a b T q D) :
    1 ≤ D ∧ (2 * q - 1) * a < D * T * b ∧ D * T * b < (2 * q + 1) * a := by
  obtain ⟨hX, hY, haX⟩ := nums (a := a) h.hq
  have ha := h.ha
  have hlo := h.hlo
  obtain ⟨hc1, hc2⟩ := hc
  -- the half-way case is impossible when `δ = T`
  have key : 2 * a = T * b →
      ¬ (2 * (2 * q * a - D * T * b) = T * b ∨ 2 * (D * T * b - 2 * q * a) = T * b) := by
    intro hab
    have e1 : 2 * q * a = q * (T * b) := by rw [← hab]; ring
    have e2 : D * T * b = D * (T * b) := by ring
    rw [e1, e2]
    rcases Nat.lt_or_ge D q with hlt | hge
    · have m : (D + 1) * (T * b) ≤ q * (T * b) := Nat.mul_le_mul_right _ hlt
      have e3 : (D + 1) * (T * b) = D * (T * b) + T * b := by ring
      omega
    · have m : q * (T * b) ≤ D * (T * b) := Nat.mul_le_mul_right _ hge
      rcases Nat.lt_or_ge q D with hlt | hge2
      · have m2 : (q + 1) * (T * b) ≤ D * (T * b) := Nat.mul_le_mul_right _ hlt
        have e3 : (q + 1) * (T * b) = q * (T * b) + T * b := by ring
        omega
      · have : D = q := by omega
        subst this
        omega
  clear h
  generalize (2 * q + 1) * a = Zn at *
  generalize (2 * q - 1) * a = Xn at *
  generalize 2 * q * a = Yn at *
  have g2 : Xn < D * T * b := by
    by_cases hab : 2 * a = T * b
    · have := key hab
      omega
    · omega
  have g3 : D * T * b < Zn := by
    by_cases hab : 2 * a = T * b
    · have := key hab
      omega
    · omega
  refine ⟨?_, g2, g3⟩
  refine Nat.pos_of_ne_zero ?_
  rintro rfl
  rw [Nat.zero_mul, Nat.zero_mul] at g2
  omega

end LexVerif.Proof.DragonboxMath
