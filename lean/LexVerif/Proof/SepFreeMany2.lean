import LexVerif.Proof.SepFreeMany
/-!
# Proof.SepFreeMany2 — the many-digits re-parse (`manyDigitsPhase`) in closed form (`manyDigits_rel`, `manyClosed_mode`)
-/
namespace LexVerif.Proof.Sep
open LexVerif LexVerif.Model LexVerif.Spec
open LexVerif.Props.C12

/-- the re-parse proper, given the number `nd` of significant digits beyond `step` -/
def manyCore (r : Nat) (scale : Int → Int) (ids : List Nat) (ipN : Nat)
    (fraction : Option (List Nat)) (fpMant : Nat) (explicit : Int) (neg : Bool) (step : Nat) (ex0 : Int)
    (endIdx : Nat) (sepMode : Bool) (nd : Nat) : Except Err (Number × Nat) :=
  if nd > 0 then
    let z' := zerosPrefix ids
    let u := u64Spec r (ids.drop z') 0 step
    if (decide (u.2.2 = 0) || (sepMode && fraction.isNone)) = true then
      .ok (⟨u.2.1, scale ((ipN : Int) - ((z' + u.1 : Nat) : Int)) + explicit, neg, true, ids, fraction, explicit⟩, endIdx)
    else
      match fraction with
      | none => .error (.panic "fraction_digits.unwrap()")
      | some fd =>
        let zf' := if u.2.1 = 0 then zerosPrefix fd else 0
        let u2 := u64Spec r (fd.drop zf') u.2.1 u.2.2
        .ok (⟨u2.2.1, scale (-((zf' + u2.1 : Nat) : Int)) + explicit, neg, true, ids, fraction, explicit⟩, endIdx)
  else .ok (⟨fpMant, ex0, neg, false, ids, fraction, explicit⟩, endIdx)

/-- the re-parse as a function of the input bytes only. `sepMode` = the `!byte.is_contiguous() && fraction.is_none()`
shortcut of the separator build is active. -/
def manyClosed (r : Nat) (scale : Int → Int) (dp : Nat) (s : List Nat) (startIdx : Nat) (ids : List Nat) (ipN : Nat)
    (fraction : Option (List Nat)) (fpMant : Nat) (explicit : Int) (neg : Bool) (nDigits step : Nat) (ex0 : Int)
    (endIdx : Nat) (sepMode : Bool) : Except Err (Number × Nat) :=
  let zi := zerosPrefix (s.drop startIdx)
  let i1 := startIdx + zi
  let i2 := if (s[i1]? == some dp) = true then i1 + 1 else i1
  let zf := zerosPrefix (s.drop i2)
  manyCore r scale ids ipN fraction fpMant explicit neg step ex0 endIdx sepMode (nDigits - step - zi - zf)

@[simp] theorem adv_first (g : Cfg) (k : Comp) (n : Nat) (b : Bytes) : (adv g k n b).first = b.slc[b.index + n]? := by
  simp [Bytes.first]

theorem new_slc (l : List Nat) : (Bytes.new l).slc = l := rfl
theorem new_index (l : List Nat) : (Bytes.new l).index = 0 := rfl

theorem currentCount_new (c : Cfg) (l : List Nat) : Bytes.currentCount c (Bytes.new l) = 0 := by
  simp [Bytes.currentCount, Bytes.new]

theorem manyDigits_nosep (c : Cfg) (hd : c.debug = false) (hk : ∀ k, c.skip k ≠ .unreachable)
    (hrI : canMultidigit c .integer = true → c.mantissaRadix ≤ 10)
    (hrF : canMultidigit c .fraction = true → c.mantissaRadix ≤ 10) (s : List Nat) (hn : NoSep c s) (o : POpts)
    (neg : Bool) (ip : IntPart) (fp : FracPart) (ep : ExpPart) (nDigits step : Nat) (ex0 : Int) (endIdx : Nat)
    (hs : ip.start.slc = s) (hids : NoSep c ip.integerDigits) (hfd : ∀ fd, fp.fraction = some fd → NoSep c fd) :
    manyDigitsPhase c o neg ip fp ep nDigits step ex0 endIdx =
      manyClosed c.mantissaRadix (scaleVal c) o.dp s ip.start.index ip.integerDigits ip.nDigits fp.fraction fp.mantissa
        ep.explicit neg nDigits step ex0 endIdx (c.feats.format && !c.bytesContiguous) := by
  -- every loop of the re-parse is replaced by its closed form on separator-free input; the stored digit slices are
  -- fresh buffers scanned from index 0 (`hpU`)
  have hn0 : NoSep c ip.start.slc := by rw [hs]; exact hn
  have hpU : ∀ (k : Comp) (l : List Nat), NoSep c l → PlainPeek c k (Bytes.new l).slc :=
    fun k l hl => plainPeek_nosep c k _ hl (hk k)
  unfold manyDigitsPhase manyClosed manyCore
  rw [skipZeros_nosep c .integer hd (hk _) ip.start hn0, iterCount_rel c .integer (Or.inl rfl)]
  simp only [↓stepIf_release c hd, bind, Except.bind, pure, Except.pure, Bytes.firstIsCased, adv_first, hs]
  rw [skipZeros_nosep c .fraction hd (hk _) _ (by simpa [hs] using hn), iterCount_rel c .fraction (Or.inr rfl)]
  simp only [adv_slc, adv_index, hs]
  generalize (if (s[ip.start.index + zerosPrefix (List.drop ip.start.index s)]? == some o.dp) = true
    then ip.start.index + zerosPrefix (List.drop ip.start.index s) + 1
    else ip.start.index + zerosPrefix (List.drop ip.start.index s)) = i2
  split
  · rw [skipZeros_nosep c .integer hd (hk _) _ (by simpa [new_slc] using hids)]
    simp only [new_slc, new_index, List.drop_zero]
    rw [parseU64_pk c .integer hd hrI _ _ _ (by simpa using hpU _ _ hids)]
    simp only [adv_slc, adv_index, new_slc, new_index, Nat.zero_add]
    split
    · simp only [currentCount_adv c .integer _ _ (by decide), currentCount_new,
        scaleExponent_release c hd, Nat.zero_add]
    · cases hfr : fp.fraction with
      | none => simp [hfr] at *
      | some fd =>
        have hnf := hfd fd hfr
        simp only
        split
        · rw [skipZeros_nosep c .fraction hd (hk _) _ (by simpa [new_slc] using hnf)]
          simp only [new_slc, new_index, List.drop_zero]
          rw [parseU64_pk c .fraction hd hrF _ _ _ (by simpa using hpU _ _ hnf)]
          simp only [adv_slc, adv_index, new_slc, new_index, Nat.zero_add,
            currentCount_adv c .fraction _ _ (by decide), currentCount_new,
            scaleExponent_release c hd, *]
        · rw [parseU64_pk c .fraction hd hrF _ _ _ (by simpa using hpU _ _ hnf)]
          simp only [new_slc, new_index, Nat.zero_add, List.drop_zero,
            currentCount_adv c .fraction _ _ (by decide), currentCount_new,
            scaleExponent_release c hd, *]
  · simp

theorem manyDigits_rel (c : Cfg) (hS : RelClass c) (s : List Nat) (hn : NoSep c s) (o : POpts) (neg : Bool)
    (ip : IntPart) (fp : FracPart) (ep : ExpPart) (nDigits step : Nat) (ex0 : Int) (endIdx : Nat)
    (hs : ip.start.slc = s) (hids : NoSep c ip.integerDigits) (hfd : ∀ fd, fp.fraction = some fd → NoSep c fd) :
    manyDigitsPhase c o neg ip fp ep nDigits step ex0 endIdx =
      manyClosed c.mantissaRadix (scaleVal c) o.dp s ip.start.index ip.integerDigits ip.nDigits fp.fraction fp.mantissa
        ep.explicit neg nDigits step ex0 endIdx (c.feats.format && !c.bytesContiguous) :=
  manyDigits_nosep c hS.debug hS.reach (hS.multi _) (hS.multi _) s hn o neg ip fp ep nDigits step ex0 endIdx hs hids hfd

/-- the `fraction.is_none()` shortcut of the separator build is never what decides: when there is no fraction and
more than `step` significant digits remain, the integer re-parse uses up the whole step. -/
theorem manyClosed_mode (r : Nat) (scale : Int → Int) (dp : Nat) (s : List Nat) (startIdx : Nat) (ids : List Nat)
    (ipN : Nat) (fraction : Option (List Nat)) (fpMant : Nat) (explicit : Int) (neg : Bool) (nDigits step : Nat)
    (ex0 : Int) (endIdx : Nat) (hids : ids = (s.drop startIdx).take ipN) (hlen : ipN ≤ (s.drop startIdx).length)
    (hnd : fraction = none → nDigits = ipN) :
    manyClosed r scale dp s startIdx ids ipN fraction fpMant explicit neg nDigits step ex0 endIdx true =
      manyClosed r scale dp s startIdx ids ipN fraction fpMant explicit neg nDigits step ex0 endIdx false := by
  unfold manyClosed
  simp only
  generalize hnd' : nDigits - step - zerosPrefix (List.drop startIdx s) - zerosPrefix (List.drop
    (if (s[startIdx + zerosPrefix (List.drop startIdx s)]? == some dp) = true then
      startIdx + zerosPrefix (List.drop startIdx s) + 1 else startIdx + zerosPrefix (List.drop startIdx s)) s) = nd
  unfold manyCore
  by_cases hpos : nd > 0
  · simp only [hpos, if_true]
    cases hfr : fraction with
    | some fd => simp
    | none =>
      have hN := hnd hfr
      have hz : zerosPrefix ids ≤ zerosPrefix (s.drop startIdx) := by rw [hids]; exact zerosPrefix_take_le _ _
      have hl : ids.length = ipN := by rw [hids, List.length_take]; omega
      have hu := u64Spec_step r (List.drop (zerosPrefix ids) ids) 0 step
      have hst : (u64Spec r (List.drop (zerosPrefix ids) ids) 0 step).2.2 = 0 := by
        rw [hu.1, hu.2, List.length_drop]
        omega
      simp [hst]
  · simp only [hpos, if_false]

end LexVerif.Proof.Sep
