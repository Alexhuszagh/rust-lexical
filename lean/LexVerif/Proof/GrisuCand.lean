import LexVerif.Proof.DragonboxShortest
import LexVerif.Spec.Tables
/-!
# Proof.GrisuCand — oracle-side lemmas used by the Grisu proof, in rational terms

* `cand_of_products`: a candidate from bounds on the products scaled by an approximate power of ten;
* `scale_identity`: the scale of those products, `2^s · 10^ki/2^ce · 10^(-ki) = 2^(e-2) · 2^(sh+64)`;
* `GrisuInterval.interval_all`: the oracle's interval of any finite non-zero float against the boundaries Grisu uses.
-/
namespace LexVerif.Proof.GrisuCand
open LexVerif.Spec LexVerif.Proof.RoundNE
open LexVerif.Spec.Tables (powNum powDen)

/-- The products of Grisu scale the interval by `σ = s·c/2^64`, `c = cn/cd`, where `σ·10^E = 2^e2·2^sh` ties that scale to
the decimal scale `E`. If `[A, B]·2^-sh` lies strictly inside the scaled interval (`lo·s·c < A·2^64`, `B·2^64 < hi·s·c`) and
`D·10^κ` lies in `[A, B]·2^-sh`, then `D` is a candidate at scale `E + κ`, whatever the sign of `κ`. -/
theorem cand_of_products (iv : Interval) {E κ : Int} {D s sh cn cd A B : Nat} (hcd : 0 < cd)
    (hs : (s : ℚ) * ((cn : ℚ) / cd) * (10 : ℚ) ^ E = (2 : ℚ) ^ iv.e2 * 2 ^ sh * 2 ^ 64)
    (hA : iv.lo * s * cn < A * 2 ^ 64 * cd) (hB : B * 2 ^ 64 * cd < iv.hi * s * cn)
    (hlow : A * 10 ^ (-κ).toNat ≤ D * 10 ^ κ.toNat * 2 ^ sh)
    (hupp : D * 10 ^ κ.toNat * 2 ^ sh ≤ B * 10 ^ (-κ).toNat) :
    Cand iv (E + κ) D := by
  have hcdQ : (0 : ℚ) < cd := by exact_mod_cast hcd
  have hT : (0 : ℚ) < ((10 ^ (-κ).toNat : ℕ) : ℚ) := by exact_mod_cast Nat.pow_pos (by decide : 0 < 10)
  have h10 : (0 : ℚ) < (10 : ℚ) ^ E := by positivity
  have hM : (0 : ℚ) < 2 ^ sh * 2 ^ 64 := by positivity
  -- the hypotheses in rational terms: `lo·σ' < A·2^64`, `B·2^64 < hi·σ'` (`σ' = s·c`), `A ≤ D·10^κ·2^sh ≤ B`
  generalize hσ : (s : ℚ) * ((cn : ℚ) / cd) = σ at hs
  have hAq : (iv.lo : ℚ) * σ < A * 2 ^ 64 := by
    rw [← hσ, ← mul_assoc, ← mul_div_assoc, div_lt_iff₀ hcdQ]
    exact_mod_cast hA
  have hBq : (B : ℚ) * 2 ^ 64 < iv.hi * σ := by
    rw [← hσ, ← mul_assoc, ← mul_div_assoc, lt_div_iff₀ hcdQ]
    exact_mod_cast hB
  have hκ : (D : ℚ) * ((10 ^ κ.toNat : ℕ) : ℚ) = D * (10 : ℚ) ^ κ * ((10 ^ (-κ).toNat : ℕ) : ℚ) := by
    have hz := zpow_toNat_div 10 κ
    simp only [Nat.cast_ofNat] at hz
    rw [← hz]; field_simp
  have hlowq : (A : ℚ) ≤ D * (10 : ℚ) ^ κ * 2 ^ sh := by
    have : (A : ℚ) * ((10 ^ (-κ).toNat : ℕ) : ℚ) ≤ D * ((10 ^ κ.toNat : ℕ) : ℚ) * 2 ^ sh := by exact_mod_cast hlow
    rw [hκ, mul_right_comm] at this
    exact le_of_mul_le_mul_right this hT
  have huppq : (D : ℚ) * (10 : ℚ) ^ κ * 2 ^ sh ≤ B := by
    have : (D : ℚ) * ((10 ^ κ.toNat : ℕ) : ℚ) * 2 ^ sh ≤ B * ((10 ^ (-κ).toNat : ℕ) : ℚ) := by exact_mod_cast hupp
    rw [hκ, mul_right_comm] at this
    exact le_of_mul_le_mul_right this hT
  have hx : (D : ℚ) * (10 : ℚ) ^ (E + κ) * (2 ^ sh * 2 ^ 64) = D * (10 : ℚ) ^ κ * 2 ^ sh * 2 ^ 64 * (10 : ℚ) ^ E := by
    rw [zpow_add₀ (by norm_num : (10 : ℚ) ≠ 0)]; ring
  -- both comparisons multiplied by `2^sh·2^64`, where `n·2^e2·2^sh·2^64 = n·σ'·10^E`
  have lower : (iv.lo : ℚ) * (2 : ℚ) ^ iv.e2 < D * (10 : ℚ) ^ (E + κ) := by
    apply lt_of_mul_lt_mul_right _ hM.le
    calc (iv.lo : ℚ) * (2 : ℚ) ^ iv.e2 * (2 ^ sh * 2 ^ 64) = iv.lo * σ * (10 : ℚ) ^ E := by rw [mul_assoc _ σ, hs]; ring
      _ < A * 2 ^ 64 * (10 : ℚ) ^ E := mul_lt_mul_of_pos_right hAq h10
      _ ≤ D * (10 : ℚ) ^ κ * 2 ^ sh * 2 ^ 64 * (10 : ℚ) ^ E := by gcongr
      _ = _ := hx.symm
  have upper : (D : ℚ) * (10 : ℚ) ^ (E + κ) < iv.hi * (2 : ℚ) ^ iv.e2 := by
    apply lt_of_mul_lt_mul_right _ hM.le
    calc (D : ℚ) * (10 : ℚ) ^ (E + κ) * (2 ^ sh * 2 ^ 64) = D * (10 : ℚ) ^ κ * 2 ^ sh * 2 ^ 64 * (10 : ℚ) ^ E := hx
      _ ≤ B * 2 ^ 64 * (10 : ℚ) ^ E := by gcongr
      _ < iv.hi * σ * (10 : ℚ) ^ E := mul_lt_mul_of_pos_right hBq h10
      _ = iv.hi * (2 : ℚ) ^ iv.e2 * (2 ^ sh * 2 ^ 64) := by rw [mul_assoc _ σ, hs]; ring
  refine (cand_iff_Q iv (E + κ) D).mpr ⟨?_, lower.le, upper.le, fun _ => ⟨lower, upper⟩⟩
  -- `D = 0` would put `0` strictly above `lo·2^e2 ≥ 0`
  rcases Nat.eq_zero_or_pos D with h0 | h0
  · rw [h0, Nat.cast_zero, zero_mul] at lower
    exact absurd lower (not_lt.mpr (by positivity))
  · exact h0

theorem powNumDen_Q (b : Nat) (k : Int) : ((powNum b k : ℕ) : ℚ) / ((powDen b k : ℕ) : ℚ) = (b : ℚ) ^ k :=
  powFrac_Q b k (p := (powNum b k, powDen b k)) (by unfold powNum powDen; split <;> rfl)

/-- `-sh` is the binary exponent of the three products: `e - 2 - s` of the boundaries, `ce` of the cached power, `64` of `mul` -/
theorem scale_identity {e ki ce : Int} {s sh : Nat} (hsh : (sh : Int) = -(e - 2 - s + ce + 64)) :
    ((2 ^ s : ℕ) : ℚ) * (((powNum 10 ki * powDen 2 ce : ℕ) : ℚ) / ((powNum 2 ce * powDen 10 ki : ℕ) : ℚ))
        * (10 : ℚ) ^ (-ki) = (2 : ℚ) ^ (e - 2) * 2 ^ sh * 2 ^ 64 := by
  have hc : ((powNum 10 ki * powDen 2 ce : ℕ) : ℚ) / ((powNum 2 ce * powDen 10 ki : ℕ) : ℚ)
      = (10 : ℚ) ^ ki / (2 : ℚ) ^ ce := by
    have h10 := powNumDen_Q 10 ki
    have h2 := powNumDen_Q 2 ce
    simp only [Nat.cast_ofNat] at h10 h2
    rw [← h10, ← h2]; push_cast
    rw [div_div_div_eq, mul_comm ((powDen 10 ki : ℕ) : ℚ)]
  have z2 : (2 : ℚ) ≠ 0 := by norm_num
  have z10 : (10 : ℚ) ≠ 0 := by norm_num
  rw [hc, zpow_neg, Nat.cast_pow, Nat.cast_ofNat, ← zpow_natCast (2 : ℚ) s, ← zpow_natCast (2 : ℚ) sh,
    ← zpow_natCast (2 : ℚ) 64]
  have e1 : (2 : ℚ) ^ (s : ℤ) * ((10 : ℚ) ^ ki / (2 : ℚ) ^ ce) * ((10 : ℚ) ^ ki)⁻¹ = (2 : ℚ) ^ ((s : ℤ) - ce) := by
    rw [zpow_sub₀ z2]; field_simp
  rw [e1, ← zpow_add₀ z2, ← zpow_add₀ z2]
  congr 1
  push_cast
  omega

end LexVerif.Proof.GrisuCand

namespace LexVerif.Proof.GrisuInterval
open LexVerif.Spec LexVerif.Model.Dragonbox LexVerif.Proof.DragonboxSpec
open LexVerif.Proof.DragonboxShortest

/-- By `interval_accessors` the lower end is `4m-1` (units `2^(e-2)`) exactly on a binade boundary above the smallest
normal, `4m-2` otherwise; Grisu uses `4m-1` whenever `m` is the hidden bit, which is never below the oracle's. -/
theorem interval_all (t : FTy) (bits : Nat) (h0 : 0 < bits) (hfin : bits < (fmtOf t).infBits) :
    ∃ lo, interval (fmtOf t) bits =
      { v := 4 * t.mantissa bits, lo := lo, hi := 4 * t.mantissa bits + 2,
        e2 := t.exponent bits - 2, incl := decide (t.mantissa bits % 2 = 0) }
    ∧ lo ≤ (if t.mantissa bits = t.hiddenBit then 4 * t.mantissa bits - 1 else 4 * t.mantissa bits - 2)
    ∧ 1 ≤ t.mantissa bits ∧ t.mantissa bits < 2 ^ (fmtOf t).p
    ∧ t.denormalExponent ≤ t.exponent bits
    ∧ t.exponent bits ≤ ((2 ^ t.exponentSize.toNat - 2 : Nat) : Int) - t.exponentBias := by
  obtain ⟨hiv, hm1, hm2, he1, he2, _, _⟩ := interval_accessors t bits h0 hfin
  have hh : t.hiddenBit = 2 ^ ((fmtOf t).p - 1) := congrArg (2 ^ ·) (consts t).1
  refine ⟨_, hiv, ?_, hm1, hm2, he1, he2⟩
  rw [hh]
  by_cases hT : t.mantissa bits = 2 ^ ((fmtOf t).p - 1)
  · rw [if_pos hT]
    split
    · exact Nat.le_refl _
    · exact Nat.sub_le_sub_left (by decide) _
  · rw [if_neg hT, if_neg (fun h => hT h.1)]

end LexVerif.Proof.GrisuInterval
