import LexVerif.Proof.IterSpecial
import LexVerif.Proof.GrammarPhases
/-!
# Proof.GrammarSpecial — the special-value parser against `Spec.Grammar.specialOf` (C15)

`is_special_eq`, `parse_positive_special`, `parse_special` (complete) on an input without the format's separator byte
(`Sep.NoSep c b.slc`): the special iterator then hands out the bytes as they stand, so the closed form of the matcher
(`IterSpec.isSpecialEq_closed`) is a prefix test on the unread part of the buffer (`isSpecialEq_spec`). The XOR-0x20 fold of
`starts_with_uncased` is case-insensitive equality because the option strings are letters (`xor_letter`).
-/
namespace LexVerif.Proof.Grammar
open LexVerif LexVerif.Spec LexVerif.Model
open LexVerif.Proof.IterSpec (peekIdx scan yield spCmp spEq tryVal specialVal attempts parseSpecialComplete_closed isSpecialEq_closed scan_plain_idx scan_true_plain peekIdx_of_plain
  skip_special_reach)

theorem xor_eq_iff (x y c : Nat) : x ^^^ y = c ↔ x = y ^^^ c := by
  constructor
  · rintro rfl; rw [← Nat.xor_assoc, Nat.xor_comm y x, Nat.xor_assoc, Nat.xor_self, Nat.xor_zero]
  · rintro rfl; rw [Nat.xor_comm y c, Nat.xor_assoc, Nat.xor_self, Nat.xor_zero]

/-- bit 5 is the case bit of a letter -/
theorem letter_xor32 : ∀ y, y < 58 → isValidLetter (y + 65) = true →
    (y + 65) ^^^ 32 = if y + 65 ≤ 90 then y + 65 + 32 else y + 65 - 32 := by decide

/-- **the XOR-0x20 fold is ASCII case-insensitive equality *because* the option strings are letters**
(`OptionsBuilder::build` rejects anything else): `x ^ y ∈ {0, 0x20}` says `x = y` or `x = y ^ 0x20`, and for a letter
`y` the latter is `y` in the other case -/
theorem xor_letter (x y : Nat) (hy : isValidLetter y = true) : xorEq x y = eqUncased x y := by
  have hy' : (65 ≤ y ∧ y ≤ 90) ∨ (97 ≤ y ∧ y ≤ 122) := by
    simp only [isValidLetter, Bool.or_eq_true, Bool.and_eq_true, decide_eq_true_eq] at hy
    exact hy
  have hs := letter_xor32 (y - 65) (by omega)
  rw [show y - 65 + 65 = y by omega] at hs
  have hs := hs hy
  have h0 : Nat.xor x y = 0 ↔ x = y := by
    show x ^^^ y = 0 ↔ _
    rw [xor_eq_iff, Nat.xor_zero]
  have h32 : Nat.xor x y = 32 ↔ x = y ^^^ 32 := xor_eq_iff x y 32
  rw [Bool.eq_iff_iff]
  simp only [xorEq, eqUncased, lower, Bool.not_eq_true', Bool.and_eq_false_iff, decide_eq_false_iff_not, ne_eq,
    Decidable.not_not, h0, h32, hs]
  rcases hy' with hu | hl
  · simp only [show y ≤ 90 from hu.2, hu, and_self, if_true, decide_eq_true_eq]; split <;> omega
  · simp only [show (y ≤ 90) = False from eq_false (by omega), and_false, if_false, decide_eq_true_eq]; split <;> omega

theorem pfx_xor (t : List Nat) (ht : ∀ y ∈ t, isValidLetter y = true) :
    ∀ l : List Nat, pfx xorEq l t = pfx eqUncased l t := by
  induction t with
  | nil => intro l; cases l <;> rfl
  | cons y ys ih =>
    intro l
    cases l with
    | nil => rfl
    | cons x xs =>
      simp only [pfx]
      rw [xor_letter x y (ht y (by simp)), ih (fun z hz => ht z (by simp [hz])) xs]

theorem isSpecialEq_spec {c : Cfg} (b : Bytes) (s : List Nat) (hn : Sep.NoSep c b.slc) :
    isSpecialEq c b s = .ok (if pfx (spCmp c) (tl b) s then b.index + s.length else 0) := by
  have hpl : ∀ f i, peekIdx c .special b.slc f i = i :=
    peekIdx_of_plain (Sep.plainPeek_nosep c .special _ hn (skip_special_reach c))
  rw [isSpecialEq_closed, spEq, yield, scan_plain_idx b.slc _ hpl, scan_true_plain b.slc hpl, pfx_take]
  show _ = Except.ok (if pfx (spCmp c) (b.slc.drop b.index) s = true then _ else _)
  split
  · next hp =>
    -- a match takes all `|s|` bytes
    have := pfx_length _ _ _ hp
    simp only [List.length_take]; congr 2; omega
  · rfl

theorem tryVal_spec {c : Cfg} (b : Bytes) (so : Option (List Nat)) (hn : Sep.NoSep c b.slc) :
    tryVal c b so = if pfxO (spCmp c) (tl b) so then b.index + (so.getD []).length else 0 := by
  cases so with
  | none => rfl
  | some s =>
    have e : spEq c b s = if pfx (spCmp c) (tl b) s then b.index + s.length else 0 :=
      Except.ok.inj ((isSpecialEq_closed c b s).symm.trans (isSpecialEq_spec b s hn))
    show (if b.slc.length - b.index ≥ s.length then spEq c b s else 0) =
      if pfx (spCmp c) (tl b) s = true then b.index + s.length else 0
    rw [e]
    split
    · rfl
    · -- the string does not fit, so it is no prefix
      next h =>
      symm
      rw [if_neg]
      intro hp
      have := pfx_length _ _ _ hp
      rw [tl_length] at this
      omega

def specialOfBool : Option Bool → Option Special
  | some true => some .nan
  | some false => some .inf
  | none => none

theorem parseSpecialComplete_spec {c : Cfg} (o : POpts) (wf : SpecialsWF o) (b : Bytes)
    (hn : Sep.NoSep c b.slc) (hv : b.index ≤ b.slc.length) :
    parseSpecialComplete c o b =
      .ok (if c.noSpecial = true then none else specialOfBool (specFirst (spCmp c) o (tl b))) := by
  have hfmt : (c.feats.format && c.noSpecial) = c.noSpecial := format_and_flag c _
  -- an attempt with a non-empty string: it matches iff the string is a prefix, up to the end iff the lengths agree
  have key : ∀ so, so ≠ some [] → (tryVal c b so != 0) = pfxO (spCmp c) (tl b) so ∧
      (pfxO (spCmp c) (tl b) so = true → (decide (tryVal c b so = b.slc.length) = lenO (tl b) so)) := by
    intro so hne
    rw [tryVal_spec b so hn]
    cases so with
    | none => simp [pfxO]
    | some s =>
      have : 0 < s.length := List.length_pos_iff.mpr fun h => hne (by rw [h])
      simp only [Option.getD_some, lenO, tl_length]
      by_cases hp : pfxO (spCmp c) (tl b) (some s) = true
      · simp only [hp, if_true]
        exact ⟨bne_iff_ne.mpr (by omega), fun _ => by rw [decide_eq_decide]; omega⟩
      · simp [hp]
  obtain ⟨n1, n2⟩ := key o.nan wf.nan_ne
  obtain ⟨i1, i2⟩ := key o.infinity wf.infinity_ne
  obtain ⟨f1, f2⟩ := key o.inf wf.inf_ne
  rw [parseSpecialComplete_closed, specialVal, hfmt]
  cases c.noSpecial with
  | true => rfl
  | false =>
    simp only [Bool.false_eq_true, if_false, attempts, List.find?_cons, n1, i1, f1, specFirst]
    cases h1 : pfxO (spCmp c) (tl b) o.nan with
    | true => simp [← n2 h1, specialOfBool]; split <;> simp_all
    | false =>
      cases h2 : pfxO (spCmp c) (tl b) o.infinity with
      | true => simp [← i2 h2, specialOfBool]; split <;> simp_all
      | false =>
        cases h3 : pfxO (spCmp c) (tl b) o.inf with
        | true => simp [← f2 h3, specialOfBool]; split <;> simp_all
        | false => simp [specialOfBool]

/-- the option strings consist of ASCII letters (`OptionsBuilder::build`: "must only contain letters") -/
def LettersOnly (o : POpts) : Prop :=
  ∀ t, (o.nan = some t ∨ o.inf = some t ∨ o.infinity = some t) → ∀ y ∈ t, isValidLetter y = true

theorem pfx_spCmp_geq (c : Cfg) (l t : List Nat) (ht : ∀ y ∈ t, isValidLetter y = true) :
    pfx (spCmp c) l t = pfx (geq c.caseSensitiveSpecial) l t := by
  unfold spCmp geq
  cases c.caseSensitiveSpecial with
  | true =>
    have : (fun a y : Nat => a == y) = (fun a y => matchByte true y a) := by
      funext a y; by_cases h : a = y <;> simp [matchByte, h]
    simp only [if_true, this]
  | false =>
    simp only [Bool.false_eq_true, if_false]
    rw [pfx_xor t ht l]
    rfl

theorem specialOf_noSpecial (y : Syn) (hn : y.noSpecial = true) (o : POpts) (l : List Nat) :
    specialOf y o l = none := by
  unfold specialOf isSpecial
  rcases o.nan with _ | tn <;> rcases o.inf with _ | tf <;> rcases o.infinity with _ | ti <;> simp [hn]

/-- **C15 `special_iff`, model side.** `parse_special` (complete) returns NaN / infinity exactly when the text after
the sign *is* a configured string under the format's case rule (never with `no_special` / a `None` string). -/
theorem parseSpecialComplete_grammar {c : Cfg} (o : POpts) (wf : SpecialsWF o)
    (hlet : LettersOnly o) (b : Bytes) (hn : Sep.NoSep c b.slc) (hv : b.index ≤ b.slc.length) (hne : tl b ≠ []) :
    parseSpecialComplete c o b = .ok (specialOfBool (specialOf (cfgSyn c) o (tl b))) := by
  rw [parseSpecialComplete_spec o wf b hn hv]
  cases hns : c.noSpecial with
  | true =>
    rw [specialOf_noSpecial _ (by rw [syn_noSpecial]; exact hns)]
    rfl
  | false =>
    rw [specialOf_eq_specAny _ (by rw [syn_noSpecial]; exact hns), syn_csSpecial,
      ← specFirst_eq_specAny _ (eqUncased_of_geq _) o wf _ hne]
    simp only [Bool.false_eq_true, if_false]
    congr 2
    have hp : ∀ str, (o.nan = str ∨ o.inf = str ∨ o.infinity = str) →
        pfxO (spCmp c) (tl b) str = pfxO (geq c.caseSensitiveSpecial) (tl b) str := by
      intro str hstr
      cases str with
      | none => rfl
      | some t => exact pfx_spCmp_geq c _ t (hlet t hstr)
    unfold specFirst
    rw [hp o.nan (Or.inl rfl), hp o.infinity (Or.inr (Or.inr rfl)), hp o.inf (Or.inr (Or.inl rfl))]
end LexVerif.Proof.Grammar
