import LexVerif.Proof.SlowNegative
/-!
# Proof.SlowRegimes — what the comparison-based slow paths need to know about the estimate, in one statement

`negative_digit_comp` and `byte_comp` both round the estimate down to a float `b`, compare the digits with `b + h`, and
round the estimate again with the outcome. For a normalised estimate that **weakly brackets** the value
(`b ≤ roundNE x ≤ b + 1` as bit patterns) there are `k`, `q` with `b = k·2^(p−1) + q` such that
`bh(b) = (2q + 1)·2^(k − bias)`, the final `round` returns `encode k (q + [round up])`, and `roundNE x` is that encoding
for the comparison of `x` with `(2q + 1)·2^k / 2^(L+1)` — in all three regimes: below the underflow cut (`k = q = 0`), a
finite `b`, and `b = +∞` (`k = 2^eb − 2`, `q = 2^(p−1)`; every outcome rounds to `+∞` again). (`roundFacts_of_weak`.)
-/
namespace LexVerif.Proof.Slow
open LexVerif.Spec LexVerif.Model LexVerif.Model.Slow LexVerif.Model.Bellerophon
open LexVerif.Proof.RoundNE LexVerif.Proof.ExtRound LexVerif.Proof.BinaryCorrect

theorem roundFacts_of_weak {F p eb} (lay : Layout F p eb) (fp : ExtendedFloat80) (hm1 : 2 ^ 63 ≤ fp.mant)
    (hm2 : fp.mant < 2 ^ 64) (hfe : fp.exp < 2 ^ 20) (num den : Nat) (hd : 0 < den)
    (hlo : extendedToFloat F (round F fp roundDown) ≤ roundNE F.fmt num den)
    (hhi : roundNE F.fmt num den ≤ extendedToFloat F (round F fp roundDown) + 1) :
    ∃ k q, RoundFacts F p fp num den k q := by
  by_cases hp2 : -fp.exp + 1 ≤ 64
  · by_cases hfin : extendedToFloat F (round F fp roundDown) < F.fmt.infBits
    · exact ⟨_, _, roundFacts_finite lay fp hm1 hm2 hp2 hfe hd hfin hlo hhi⟩
    · have := roundNE_le_infBits lay.wf num hd
      exact ⟨_, _, roundFacts_inf lay fp hm1 hm2 hp2 hd (by omega) hlo⟩
  · exact ⟨0, 0, roundFacts_tiny lay fp hm2 (by omega) hd hhi⟩

end LexVerif.Proof.Slow
