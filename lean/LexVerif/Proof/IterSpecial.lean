import LexVerif.Proof.IterSpec
import LexVerif.Proof.IterSlice
import LexVerif.Proof.ExceptPost
import LexVerif.Proof.GrammarStd
/-!
# Proof.IterSpecial — the special-value matcher (`starts_with`, `starts_with_uncased`, `is_special_eq`) in closed form

`starts_with*` pulls one byte per pattern byte from the special iterator and compares; `is_special_eq` then calls `peek` and
returns the cursor. That is the loop `scan` with the test `true` and the limit `|pattern|` (`yield`): its bytes against the
pattern (`Grammar.pfx`), and its resting cursor — already behind the final `peek` — as the value (`isSpecialEq_closed`, every
`Cfg`). The special iterator is no-skip or I+L+T+C, so `peek` never looks behind the cursor it comes to: a cut of the buffer
at or behind that cursor changes nothing (`scan_special_take`), and any cut leaves a prefix of what was handed out
(`scan_special_take_prefix`), so a mismatch stays one. On input without the separator byte the bytes are those of the buffer
(`scan_true_plain`). `parse_positive_special` tries NaN, infinity, inf in this order, each only if it fits into the rest of the
buffer (`tryVal`), and the first match decides: `specialVal`, `parsePositiveSpecial_closed`, `parseSpecialComplete_closed`.
-/
namespace LexVerif.Proof.Grammar

/-- the XOR fold of `starts_with_uncased`: equal, or differing exactly in bit 5 -/
def xorEq (x y : Nat) : Bool := !(decide (Nat.xor x y ≠ 0) && decide (Nat.xor x y ≠ 32))

theorem pfx_take (eq : Nat → Nat → Bool) : ∀ l t : List Nat, pfx eq (l.take t.length) t = pfx eq l t
  | _, [] => by simp [pfx]
  | [], _ :: _ => by simp [pfx]
  | _ :: as, _ :: bs => by simp [pfx, pfx_take eq as bs]

end LexVerif.Proof.Grammar

namespace LexVerif.Proof.IterSpec
open LexVerif LexVerif.Model
open LexVerif.Proof.Grammar (pfx pfx_length xorEq)

/-- `starts_with` and `starts_with_uncased` are this loop with `==` and `xorEq` -/
def swE (c : Cfg) (eq : Nat → Nat → Bool) : List Nat → Bytes → Except Err (Bool × Bytes)
  | [], b => pure (true, b)
  | y :: ys, b => do
    let (x, b) ← iterNext c .special b
    match x with
    | none => pure (false, b)
    | some xi => if eq xi y then swE c eq ys b else pure (false, b)

theorem startsWith_swE (c : Cfg) : ∀ (ys : List Nat) (b : Bytes),
    Model.startsWith c ys b = swE c (fun x y => x == y) ys b
  | [], b => rfl
  | y :: ys, b => by
    unfold Model.startsWith swE
    refine bind_congr_ok fun r _ => ?_
    obtain ⟨x, b1⟩ := r
    cases x with
    | none => simp
    | some xi =>
      simp only [Option.some.injEq, beq_iff_eq]
      split
      · exact startsWith_swE c ys b1
      · rfl

theorem startsWithUncased_swE (c : Cfg) : ∀ (ys : List Nat) (b : Bytes),
    Model.startsWithUncased c ys b = swE c xorEq ys b
  | [], b => rfl
  | y :: ys, b => by
    unfold Model.startsWithUncased swE
    refine bind_congr_ok fun r _ => ?_
    obtain ⟨x, b1⟩ := r
    cases x with
    | none => rfl
    | some xi =>
      have ih := startsWithUncased_swE c ys b1
      have hx : xorEq xi y = !(decide (Nat.xor xi y ≠ 0) && decide (Nat.xor xi y ≠ 32)) := rfl
      cases h : (decide (Nat.xor xi y ≠ 0) && decide (Nat.xor xi y ≠ 32)) <;> rw [h] at hx <;> simp_all

/-- what the special iterator hands out from `b`, at most `m` bytes, and where `peek` then leaves the cursor -/
abbrev yield (c : Cfg) (b : Bytes) (m : Nat) : List Nat × Nat :=
  scan c .special b.slc (fun _ => true) m false b.index

theorem pk_special (c : Cfg) (b : Bytes) : pk c .special b = peekIdx c .special b.slc false b.index :=
  peekIdx_special ..

/-- the matcher, then what `is_special_eq` does with its answer -/
theorem swE_scan (c : Cfg) (eq : Nat → Nat → Bool) : ∀ (ys : List Nat) (b : Bytes),
    (do let (hit, b') ← swE c eq ys b
        if hit then (do let (_, b'') ← peek c .special b'; pure b''.index) else pure 0 : Except Err Nat) =
      .ok (if pfx eq (yield c b ys.length).1 ys then (yield c b ys.length).2 else 0)
  | [], b => by
    simp [swE, pure, Except.pure, bind, Except.bind, peek_eq (skip_special_reach c), pk_special, scan, pfx]
  | y :: ys, b => by
    unfold swE
    simp only [iterNext_eq (skip_special_reach c), pk_special, bind, Except.bind, List.length_cons, yield, scan]
    cases hx : b.slc[peekIdx c .special b.slc false b.index]? with
    | none => simp [pfx, pure, Except.pure]
    | some x =>
      simp only [if_true, pfx]
      cases he : eq x y with
      | false => simp [pure, Except.pure]
      | true =>
        have ih := swE_scan c eq ys (mv c .special (peekIdx c .special b.slc false b.index + 1)
          (if (c.feats.format && !c.iterContiguous .special && c.isDigit x) = true then 1 else 0) b)
        simp only [bind, Except.bind, yield, mv_slc, mv_index] at ih
        simp only [if_true, Bool.true_and]
        exact ih

/-- the byte comparison of `is_special_eq` (without the `format` feature the flag getter answers `false`) -/
def spCmp (c : Cfg) : Nat → Nat → Bool := if c.caseSensitiveSpecial then (fun a y => a == y) else xorEq

/-- value of `is_special_eq`: 0, or the cursor behind the match and the separators that follow it -/
def spEq (c : Cfg) (b : Bytes) (str : List Nat) : Nat :=
  if pfx (spCmp c) (yield c b str.length).1 str then (yield c b str.length).2 else 0

theorem isSpecialEq_closed (c : Cfg) (b : Bytes) (str : List Nat) : isSpecialEq c b str = .ok (spEq c b str) := by
  have hf : (c.feats.format && c.caseSensitiveSpecial) = c.caseSensitiveSpecial := by
    cases hf : c.feats.format <;> simp [Cfg.caseSensitiveSpecial, Cfg.flag, hf]
  unfold isSpecialEq spEq spCmp
  rw [hf]
  split
  · rw [startsWith_swE]; exact swE_scan c _ str b
  · rw [startsWithUncased_swE]; exact swE_scan c _ str b

theorem spEq_bounds (c : Cfg) (b : Bytes) (str : List Nat) (hv : b.index ≤ b.slc.length) (h : spEq c b str ≠ 0) :
    b.index + str.length ≤ spEq c b str ∧ spEq c b str ≤ b.slc.length := by
  unfold spEq at h ⊢
  split at h
  · next hp =>
    rw [if_pos hp]
    have := pfx_length _ _ _ hp
    have := scan_le (c := c) (k := .special) b.slc (fun _ => true) str.length false b.index hv
    simp only [yield] at *; omega
  · exact absurd rfl h

theorem spEq_head (c : Cfg) (b : Bytes) (y : Nat) (ys : List Nat) (h : spEq c b (y :: ys) ≠ 0) :
    ∃ x, b.slc[peekIdx c .special b.slc false b.index]? = some x ∧ spCmp c x y = true ∧
      peekIdx c .special b.slc false b.index + 1 ≤ spEq c b (y :: ys) := by
  unfold spEq at h ⊢
  split at h
  · next hp =>
    rw [if_pos hp]
    simp only [yield, List.length_cons, scan] at hp ⊢
    cases hx : b.slc[peekIdx c .special b.slc false b.index]? with
    | none => simp [hx, pfx] at hp
    | some x =>
      simp only [hx, if_true, pfx, Bool.and_eq_true] at hp ⊢
      exact ⟨x, rfl, hp.1, scan_ge ..⟩
  · exact absurd rfl h

/-- one attempt of `parse_positive_special` (its closure `try1`): the string must fit into the rest of the buffer -/
def try1 (c : Cfg) (b : Bytes) : Option (List Nat) → Except Err Nat
  | some s => if b.bufferLength - b.index ≥ s.length then isSpecialEq c b s else pure 0
  | none => pure 0

def tryVal (c : Cfg) (b : Bytes) : Option (List Nat) → Nat
  | some s => if b.slc.length - b.index ≥ s.length then spEq c b s else 0
  | none => 0

theorem try1_closed (c : Cfg) (b : Bytes) (so : Option (List Nat)) : try1 c b so = .ok (tryVal c b so) := by
  cases so with
  | none => rfl
  | some s =>
    simp only [try1, tryVal, isSpecialEq_closed, Bytes.bufferLength]
    split <;> rfl

theorem tryVal_spEq {c : Cfg} {b : Bytes} {so : Option (List Nat)} (h : tryVal c b so ≠ 0) :
    ∃ str, so = some str ∧ tryVal c b so = spEq c b str := by
  cases so with
  | none => exact absurd rfl h
  | some str =>
    refine ⟨str, rfl, ?_⟩
    simp only [tryVal] at h ⊢
    split
    · rfl
    · next hl => rw [if_neg hl] at h; exact absurd rfl h

theorem find?_of_agree {α : Type} {p q : α → Bool} {a : α} : ∀ {l : List α}, l.find? p = some a → q a = true →
    (∀ x ∈ l, p x = false → q x = false) → l.find? q = some a
  | [], h, _, _ => by cases h
  | x :: xs, h, hq, hpq => by
    rw [List.find?_cons] at h ⊢
    cases hp : p x with
    | true => rw [hp] at h; cases h; rw [hq]
    | false =>
      rw [hp] at h
      rw [hpq x (by simp) hp]
      exact find?_of_agree h hq fun y hy => hpq y (by simp [hy])

/-- the attempts of `parse_positive_special`, in its order -/
def attempts (o : Spec.POpts) : List (Special × Option (List Nat)) := [(.nan, o.nan), (.inf, o.infinity), (.inf, o.inf)]

/-- value of `parse_positive_special`: the first attempt that matches decides -/
def specialVal (c : Cfg) (o : Spec.POpts) (b : Bytes) : Option (Special × Nat) :=
  if (c.feats.format && c.noSpecial) = true then none
  else ((attempts o).find? fun a => tryVal c b a.2 != 0).map fun a => (a.1, tryVal c b a.2)

theorem parsePositiveSpecial_closed (c : Cfg) (o : Spec.POpts) (b : Bytes) :
    parsePositiveSpecial c o b = .ok (specialVal c o b) := by
  have e : parsePositiveSpecial c o b =
      (if c.feats.format && c.noSpecial then pure none
       else do
        let n ← try1 c b o.nan
        if n ≠ 0 then pure (some (.nan, n))
        else
          let n ← try1 c b o.infinity
          if n ≠ 0 then pure (some (.inf, n))
          else
            let n ← try1 c b o.inf
            if n ≠ 0 then pure (some (.inf, n)) else pure none) := rfl
  rw [e]
  simp only [try1_closed, bind, Except.bind, pure, Except.pure, specialVal, attempts]
  split
  · rfl
  · by_cases h1 : tryVal c b o.nan = 0 <;> by_cases h2 : tryVal c b o.infinity = 0 <;>
      by_cases h3 : tryVal c b o.inf = 0 <;> simp [h1, h2, h3]

theorem parseSpecialComplete_closed (c : Cfg) (o : Spec.POpts) (b : Bytes) :
    parseSpecialComplete c o b =
      .ok ((specialVal c o b).bind fun r => if r.2 = b.slc.length then some r.1 else none) := by
  unfold parseSpecialComplete
  simp only [parsePositiveSpecial_closed, bind, Except.bind, pure, Except.pure, Bytes.bufferLength]
  cases specialVal c o b with
  | none => rfl
  | some r => by_cases h : r.2 = b.slc.length <;> simp [h]

theorem specialVal_some {c : Cfg} {o : Spec.POpts} {b : Bytes} {sp : Special} {n : Nat}
    (h : specialVal c o b = some (sp, n)) :
    ∃ str, (o.nan = some str ∨ o.inf = some str ∨ o.infinity = some str) ∧ n = spEq c b str ∧ n ≠ 0 := by
  unfold specialVal at h
  split at h
  · cases h
  · obtain ⟨a, ha, e⟩ := Option.map_eq_some_iff.mp h
    have hn : tryVal c b a.2 ≠ 0 := by simpa using List.find?_some ha
    obtain ⟨str, hs, he⟩ := tryVal_spEq hn
    have hm := List.mem_of_find?_eq_some ha
    simp only [Prod.mk.injEq] at e
    refine ⟨str, ?_, by rw [← e.2, he], by rw [← e.2]; exact hn⟩
    simp only [attempts, List.mem_cons, List.mem_nil_iff, or_false] at hm
    rcases hm with rfl | rfl | rfl
    · exact .inl hs
    · exact .inr (.inr hs)
    · exact .inr (.inl hs)

theorem specialVal_bounds {c : Cfg} {o : Spec.POpts} {b : Bytes} {sp : Special} {n : Nat} (hv : b.index ≤ b.slc.length)
    (h : specialVal c o b = some (sp, n)) : b.index ≤ n ∧ n ≤ b.slc.length := by
  obtain ⟨str, _, rfl, hn⟩ := specialVal_some h
  have := spEq_bounds c b str hv hn
  omega

theorem peekIdx_special_take (c : Cfg) (s : List Nat) (n : Nat) (f : Bool) (i : Nat) (hi : i ≤ n) :
    peekIdx c .special (s.take n) f i = min (peekIdx c .special s f i) n := by
  cases hs : c.specialSep with
  | false =>
    have hk : c.skip .special = .noskip := by simp [Cfg.skip, hs]
    rw [peekIdx_noskip hk, peekIdx_noskip hk]; omega
  | true =>
    have hk : c.skip .special = .pred .iltc := by simp [Cfg.skip, hs]
    rw [peekIdx_iltc hk, peekIdx_iltc hk, List.drop_take, Sep.countSeps_take]
    omega

theorem scan_special_take (c : Cfg) (s : List Nat) (p : Nat → Bool) (n lim : Nat) (f : Bool) (i : Nat) (hv : i ≤ s.length)
    (h : (scan c .special s p lim f i).2 ≤ n) : scan c .special (s.take n) p lim f i = scan c .special s p lim f i :=
  scan_trunc s p n (· ≤ n) (fun _ h => h)
    (fun f i _ h => by
      have := peekIdx_ge c .special s f i
      rw [peekIdx_special_take c _ n f i (by omega)]; omega)
    (fun _ _ hj _ _ => Nat.le_of_lt hj) lim f i hv h

theorem scan_special_take_prefix (c : Cfg) (s : List Nat) (n : Nat) : ∀ (m : Nat) (f : Bool) (i : Nat),
    (scan c .special (s.take n) (fun _ => true) m f i).1 <+: (scan c .special s (fun _ => true) m f i).1
  | 0, f, i => by simp [scan]
  | m + 1, f, i => by
    unfold scan
    by_cases hlt : peekIdx c .special s f i < n
    · have := peekIdx_ge c .special s f i
      rw [peekIdx_special_take c s n f i (by omega), Nat.min_eq_left (by omega), List.getElem?_take, if_pos hlt]
      cases s[peekIdx c .special s f i]? with
      | none => simp
      | some x => simpa using scan_special_take_prefix c s n m false _
    · -- `peek` runs into the cut: end of input
      have : (s.take n)[peekIdx c .special (s.take n) f i]? = none := by
        rw [List.getElem?_eq_none_iff, List.length_take]
        have := peekIdx_ge c .special (s.take n) f i
        by_cases hi : i ≤ n
        · rw [peekIdx_special_take c s n f i hi]; omega
        · omega
      rw [this]; simp

theorem scan_true_plain {c : Cfg} {k : Comp} (s : List Nat) (h : ∀ f i, peekIdx c k s f i = i) (m : Nat) (f : Bool) (i : Nat) :
    (scan c k s (fun _ => true) m f i).1 = (s.drop i).take m := by
  have e : ∀ l : List Nat, l.takeWhile (fun _ => true) = l := fun l => by induction l <;> simp_all [List.takeWhile]
  rw [scan_plain_eq s _ (fun _ => h _ _) m f i (h f i), e]

end LexVerif.Proof.IterSpec
