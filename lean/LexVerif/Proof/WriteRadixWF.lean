import LexVerif.Proof.WriteRadixTermInt
/-!
# Proof.WriteRadixWF — well-formedness of the generic-radix writer's text (Mathlib-free)

`WellFormed r er dp ec s`: `s` is a non-empty run of digits below `r`, then optionally the decimal point `dp` and digits
below `r`, then optionally the exponent character `ec`, an optional sign and a non-empty run of digits below the
exponent radix `er` — i.e. only digits below the radix, at most one decimal point and at most one exponent.

Here for default `max_significant_digits` (`none`); every option set is `WriteRadixFix.writeFloat_wellFormed_of_digits`.
The integer digits are ALWAYS valid (`genInteger_digitBytes`, read off `WriteRadixTermInt.genInteger_eq`); the layouts only
rearrange the digits of the scratch buffer, add `'0'`s, the point and the exponent. The only way to an ill-formed text is an invalid FRACTION byte in the
scratch buffer (the recorded round-up finding), which is the hypothesis of `layoutText_wellFormed`.

`PointShape`: the form `digits` or `digits . at least one byte` that the scientific mantissa and the repaired positional
text have; `WellFormed` here and `StrictShape` (`WriteRadixFix`) are read off it.
-/
namespace LexVerif.Proof.WriteRadixWF
open LexVerif.Spec LexVerif.Model LexVerif.Proof.RoundNE LexVerif.Proof.WriteRadixF LexVerif.Proof.WriteRadixInteger
open LexVerif.Model.WriteRadix
open LexVerif.Model.WriteInt (Res)

def DigitByte (r c : Nat) : Prop := ∃ d, d < r ∧ c = digitChar d

def FracPart (r dp : Nat) (fp : List Nat) : Prop :=
  fp = [] ∨ ∃ fd, fp = dp :: fd ∧ ∀ c ∈ fd, DigitByte r c

def ExpPart (er ec : Nat) (ep : List Nat) : Prop :=
  ep = [] ∨ ∃ sg ed, ep = ec :: (sg ++ ed) ∧ (sg = [] ∨ sg = [45] ∨ sg = [43]) ∧ ed ≠ [] ∧ ∀ c ∈ ed, DigitByte er c

def WellFormed (r er dp ec : Nat) (s : List Nat) : Prop :=
  ∃ ip fp ep, s = ip ++ fp ++ ep ∧ ip ≠ [] ∧ (∀ c ∈ ip, DigitByte r c) ∧ FracPart r dp fp ∧ ExpPart er ec ep

theorem WellFormed.bytes {r er dp ec : Nat} {s : List Nat} (h : WellFormed r er dp ec s) :
    ∀ c ∈ s, DigitByte r c ∨ DigitByte er c ∨ c = dp ∨ c = ec ∨ c = 45 ∨ c = 43 := by
  obtain ⟨ip, fp, ep, rfl, _, hip, hfp, hep⟩ := h
  intro c hc
  rcases List.mem_append.mp hc with hc | hc
  · rcases List.mem_append.mp hc with hc | hc
    · exact Or.inl (hip c hc)
    · rcases hfp with rfl | ⟨fd, rfl, hfd⟩
      · simp at hc
      · rcases List.mem_cons.mp hc with rfl | hc
        · exact Or.inr (Or.inr (Or.inl rfl))
        · exact Or.inl (hfd c hc)
  · rcases hep with rfl | ⟨sg, ed, rfl, hsg, _, hed⟩
    · simp at hc
    · rcases List.mem_cons.mp hc with rfl | hc
      · exact Or.inr (Or.inr (Or.inr (Or.inl rfl)))
      · rcases List.mem_append.mp hc with hc | hc
        · rcases hsg with rfl | rfl | rfl
          · simp at hc
          · simp at hc; exact Or.inr (Or.inr (Or.inr (Or.inr (Or.inl hc))))
          · simp at hc; exact Or.inr (Or.inr (Or.inr (Or.inr (Or.inr hc))))
        · exact Or.inr (Or.inl (hed c hc))

theorem digitByte_zero {r : Nat} (hr : 0 < r) : DigitByte r 48 := ⟨0, hr, rfl⟩

theorem digitByte_replicate {r : Nat} (hr : 0 < r) (n : Nat) : ∀ c ∈ List.replicate n 48, DigitByte r c := by
  intro c hc; rw [(List.mem_replicate.mp hc).2]; exact digitByte_zero hr

theorem exponentText_expPart (fmt : Format) (feats : Features) (cursor : Nat) (e : Int) (ec : Nat)
    (her : 2 ≤ fmt.exponentRadix) : ExpPart fmt.exponentRadix ec (exponentText fmt feats cursor e ec).text := by
  refine Or.inr ⟨WriteFloat.expSign fmt feats e, numeral fmt.exponentRadix e.natAbs, ?_, ?_, ?_, ?_⟩
  · simp [exponentText]
  · unfold WriteFloat.expSign
    split
    · exact Or.inr (Or.inl rfl)
    · split
      · exact Or.inr (Or.inr rfl)
      · exact Or.inl rfl
  · unfold numeral
    intro h
    exact toDigits_ne_nil _ _ her (List.map_eq_nil_iff.mp h)
  · intro c hc
    unfold numeral at hc
    obtain ⟨d, hd, rfl⟩ := List.mem_map.mp hc
    exact ⟨d, toDigits_digit_lt _ _ her d hd, rfl⟩

/-- `s` is `ip` alone, or `ip`, the point and at least one further byte, each `'0'` or one of `src`: the mantissa of
`write_float_scientific` and the text of the repaired `write_float_nonscientific` -/
def PointShape (dp : Nat) (src ip s : List Nat) : Prop :=
  s = ip ∨ ∃ fd, fd ≠ [] ∧ s = ip ++ dp :: fd ∧ ∀ c ∈ fd, c = 48 ∨ c ∈ src

theorem PointShape.wellFormed {r er dp ec : Nat} {src ip s ep : List Nat} (h : PointShape dp src ip s) (hr : 0 < r)
    (hne : ip ≠ []) (hip : ∀ c ∈ ip, DigitByte r c) (hsrc : ∀ c ∈ src, DigitByte r c) (hep : ExpPart er ec ep) :
    WellFormed r er dp ec (s ++ ep) := by
  rcases h with rfl | ⟨fd, _, rfl, hfd⟩
  · exact ⟨s, [], ep, by simp, hne, hip, Or.inl rfl, hep⟩
  · refine ⟨ip, dp :: fd, ep, by simp, hne, hip, Or.inr ⟨fd, rfl, fun c hc => ?_⟩, hep⟩
    rcases hfd c hc with rfl | hc
    · exact digitByte_zero hr
    · exact hsrc c hc

theorem sciMant_pointShape (fmt : Format) (o : WOpts) (d0 : Nat) (rest : List Nat) :
    PointShape o.dp rest [d0] (sciMant fmt o d0 rest).1 := by
  have hbody : ∀ c ∈ rest.take (rest.length - rtrimCount 48 rest), c = 48 ∨ c ∈ rest :=
    fun c hc => Or.inr (List.mem_of_mem_take hc)
  unfold sciMant PointShape
  dsimp only
  split
  · exact Or.inl rfl
  · split
    · exact Or.inr ⟨[48], by simp, rfl, by simp⟩
    · split
      · refine Or.inr ⟨_ ++ List.replicate _ 48, ?_, rfl, fun c hc => ?_⟩
        · intro h
          have := congrArg List.length h
          simp only [List.length_append, List.length_replicate, List.length_nil] at this
          omega
        · rcases List.mem_append.mp hc with hc | hc
          · exact hbody c hc
          · exact Or.inl (List.mem_replicate.mp hc).2
      · rename_i h1 h2 h3
        refine Or.inr ⟨rest.take (rest.length - rtrimCount 48 rest), ?_, rfl, hbody⟩
        intro h
        rw [h] at h2 h3
        simp only [List.length_nil] at h2 h3
        omega

theorem sciFinish_wf (fmt : Format) (feats : Features) (o : WOpts) {r : Nat} (hr : 0 < r)
    (her : 2 ≤ fmt.exponentRadix) (digits : List Nat) (hd : ∀ c ∈ digits, DigitByte r c) (sciExp : Int) {t : Text}
    (h : sciFinish fmt feats o digits sciExp = .ok t) : WellFormed r fmt.exponentRadix o.dp o.exp t.text := by
  unfold sciFinish at h
  cases digits with
  | nil => simp at h
  | cons d0 rest =>
    simp only [Res.ok.injEq] at h
    subst h
    exact (sciMant_pointShape fmt o d0 rest).wellFormed hr (by simp) (fun c hc => hd c (by simp_all))
      (fun c hc => hd c (by simp [hc])) (exponentText_expPart _ _ _ _ _ her)

theorem intPart_digitBytes {r : Nat} (hr : 0 < r) {digits : List Nat} (hd : ∀ c ∈ digits, DigitByte r c) (il : Nat) :
    ∀ c ∈ digits.take (min digits.length il) ++ List.replicate (il - min digits.length il) 48, DigitByte r c := by
  intro c hc
  rcases List.mem_append.mp hc with hc | hc
  · exact hd c (List.mem_of_mem_take hc)
  · exact digitByte_replicate hr _ c hc

theorem intPart_ne (digits : List Nat) {il : Nat} (hil : 0 < il) :
    digits.take (min digits.length il) ++ List.replicate (il - min digits.length il) 48 ≠ [] := by
  intro h
  have := congrArg List.length h
  simp only [List.length_append, List.length_take, List.length_replicate, List.length_nil] at this
  omega

theorem nonsciFinish_wf (o : WOpts) {r er : Nat} (hr : 0 < r) (digits : List Nat)
    (hd : ∀ c ∈ digits, DigitByte r c) {il : Nat} (hil : 0 < il) :
    WellFormed r er o.dp o.exp (nonsciFinish o digits il).text := by
  unfold nonsciFinish
  have hint := intPart_digitBytes hr hd il
  have hne := intPart_ne digits hil
  dsimp only
  split
  · refine ⟨_, o.dp :: (((digits.drop (min digits.length il)).take (digits.length - il)).take
        (digits.length - il - rtrimCount 48 ((digits.drop (min digits.length il)).take (digits.length - il)))
        ++ List.replicate (if minExactDigits digits.length o > digits.length
          then minExactDigits digits.length o - digits.length else 0) 48), [], ?_, hne, hint,
      Or.inr ⟨_, rfl, ?_⟩, Or.inl rfl⟩
    · simp
    · intro c hc
      rcases List.mem_append.mp hc with hc | hc
      · exact hd c (List.mem_of_mem_drop (List.mem_of_mem_take (List.mem_of_mem_take hc)))
      · exact digitByte_replicate hr _ c hc
  · split
    · exact ⟨_, [], [], by simp, hne, hint, Or.inl rfl, Or.inl rfl⟩
    · refine ⟨_, o.dp :: (48 :: List.replicate (if minExactDigits (digits.length + 1) o > digits.length + 1
          then minExactDigits (digits.length + 1) o - (digits.length + 1) else 0) 48), [], by simp, hne, hint,
        Or.inr ⟨_, rfl, ?_⟩, Or.inl rfl⟩
      intro c hc
      rcases List.mem_cons.mp hc with rfl | hc
      · exact digitByte_zero hr
      · exact digitByte_replicate hr _ c hc

theorem truncateAndRound_none (r : Nat) (o : WOpts) (ho : o.maxDigits = none) (buf : List Nat) (s e : Nat) :
    WriteRadix.truncateAndRound r o buf s e = .ok (buf, e - s, false) := by
  unfold WriteRadix.truncateAndRound WriteRadix.truncateAndRoundP; rw [ho]

theorem buf_window (g : Gen) (s : Nat) :
    (g.buf.drop s).take (g.ints.length + g.fracs.length - s) = (g.ints ++ g.fracs).drop s := by
  unfold Gen.buf
  rw [List.append_assoc (g.ints ++ g.fracs)]
  by_cases hs : s ≤ (g.ints ++ g.fracs).length
  · rw [List.drop_append_of_le_length hs, List.take_append_of_le_length (by simp), List.take_of_length_le (by simp)]
  · have h1 : g.ints.length + g.fracs.length - s = 0 := by simp at hs; omega
    rw [h1, List.take_zero, List.drop_of_length_le (by omega)]

theorem buf_take_all (g : Gen) {e : Nat} (he : g.ints.length + g.fracs.length ≤ e) :
    g.buf.take (min (g.ints.length + g.fracs.length) e - 0) = g.ints ++ g.fracs := by
  have hw := buf_window g 0
  rwa [List.drop_zero, List.drop_zero, ← Nat.min_eq_left he] at hw

theorem mem_window (g : Gen) {s k : Nat} (hk : k = 0 ∨ s + k ≤ g.ints.length + g.fracs.length) {c : Nat}
    (hc : c ∈ (g.buf.drop s).take k) : c ∈ g.ints ++ g.fracs := by
  rcases hk with rfl | hk
  · simp at hc
  · have hw : (g.buf.drop s).take k = ((g.ints ++ g.fracs).drop s).take k := by
      rw [← buf_window, List.take_take, Nat.min_eq_left (by omega)]
    rw [hw] at hc
    exact List.mem_of_mem_drop (List.mem_of_mem_take hc)

theorem layoutText_wellFormed (fmt : Format) (feats : Features) (o : WOpts) (ho : o.maxDigits = none) {r : Nat}
    (hr : 0 < r) (her : 2 ≤ fmt.exponentRadix) (g : Gen) (hg : ∀ c ∈ g.ints ++ g.fracs, DigitByte r c)
    (hne : g.ints ≠ []) {t : Text} (h : layoutText fmt feats o r g = .ok t) :
    WellFormed r fmt.exponentRadix o.dp o.exp t.text := by
  unfold layoutText at h
  dsimp only at h
  split at h
  · unfold sciText at h
    simp only [truncateAndRound_none r o ho, Res.bind] at h
    refine sciFinish_wf fmt feats o hr her _ (fun c hc => hg c (mem_window g ?_ hc)) _ h
    generalize (if sciExpOf g ≤ 0 then ((g.ints.length : Int) - sciExpOf g - 1).toNat else 0) = start
    omega
  · unfold nonsciText at h
    simp only [truncateAndRound_none r o ho, Res.bind, Bool.false_eq_true, false_and, if_false,
      Res.ok.injEq] at h
    subst h
    refine nonsciFinish_wf o hr _ (fun c hc => ?_) (by simpa using List.length_pos_iff.mpr hne)
    have : c ∈ (g.buf.drop 0).take (min (g.ints.length + g.fracs.length) (maxDigitLength + 1) - 0) := by
      simpa using hc
    exact hg c (mem_window g (by omega) this)

theorem genInteger_digitBytes {f : Fmt} (h : FOK f) {r : Nat} (hr : 2 ≤ r) (hr36 : r ≤ 36)
    (hrp : r < 2 * 2 ^ (f.p - 1)) (hB : f.bias + 2 ≤ halfSize) {integer : Nat} (hxi : integer ≤ f.infBits)
    {ints : List Nat} (hi : genInteger f r integer = .ok ints) : (∀ c ∈ ints, DigitByte r c) ∧ ints ≠ [] := by
  obtain ⟨z, _, _, _, _, hd0, _, hgi⟩ := WriteRadixTermInt.genInteger_eq h hr hrp hr36 hB hxi
  cases Res.ok.inj (hgi.symm.trans hi)
  refine ⟨fun c hc => ?_, by simp⟩
  rcases List.mem_append.mp hc with hc | hc
  · split at hc
    · simp at hc
    · obtain ⟨d, hd, rfl⟩ := List.mem_map.mp hc
      exact ⟨d, toDigits_digit_lt r _ hr d hd, rfl⟩
  · rcases List.mem_cons.mp hc with rfl | hc
    · exact ⟨_, hd0, rfl⟩
    · exact digitByte_replicate (by omega) z c hc

/-- `wf`: repaired positional window, `mf`: repaired tail -/
theorem writeFloat_eq_ok {cf wf mf : Bool} {feats : Features} {f : Fmt} {fmt : Format} {o : WOpts} {bits len : Nat}
    {text : List Nat} (hw : WriteRadix.writeFloat cf feats f fmt o bits len wf mf = .ok text) :
    ∃ g t, generate cf f fmt.mantissaRadix bits = .ok g ∧
      (if wf then layoutTextW mf (WriteFloat.effFmt feats fmt) feats o fmt.mantissaRadix g
        else layoutText (WriteFloat.effFmt feats fmt) feats o fmt.mantissaRadix g) = .ok t ∧ text = t.text := by
  obtain ⟨g, hg, hw⟩ := bind_eq_ok hw
  obtain ⟨t, hl, hw⟩ := bind_eq_ok hw
  split at hw
  · cases hw
  · exact ⟨g, t, hg, hl, (Res.ok.inj hw).symm⟩

theorem writeFloat_of_ok {cf wf mf : Bool} {feats : Features} {f : Fmt} {fmt : Format} {o : WOpts} {bits : Nat}
    (len : Nat) {g : Gen} {t : Text} (hg : generate cf f fmt.mantissaRadix bits = .ok g)
    (hl : (if wf then layoutTextW mf (WriteFloat.effFmt feats fmt) feats o fmt.mantissaRadix g
      else layoutText (WriteFloat.effFmt feats fmt) feats o fmt.mantissaRadix g) = .ok t) :
    WriteRadix.writeFloat cf feats f fmt o bits len wf mf = if t.hi > len then .panic else .ok t.text := by
  unfold WriteRadix.writeFloat
  rw [hg]
  simp only [Res.bind]
  rw [hl]

end LexVerif.Proof.WriteRadixWF
