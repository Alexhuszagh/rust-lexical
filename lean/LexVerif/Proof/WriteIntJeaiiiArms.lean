import LexVerif.Proof.WriteIntJeaiii
/-!
# Proof.WriteIntJeaiiiArms — one lemma per `write_digits!` arm (`@1, @2, @3, @3-4, @5, @5-6, @7-8, @9, @10, @10u64`)

The constants of an arm (multiplier `M`, shift `s`, `k` pairs, excess `ε = M * 100^k - 2^(32+s)`, range of `n`)
enter only through `fixed_quot`, whose side conditions are closed numerals.
-/
namespace LexVerif.Model.WriteInt
open LexVerif.Spec

theorem wd1_spec (buf : Buf) (n : Nat) (h : n < 10) (hb : (numeral 10 n).length ≤ buf.length) :
    ArmOK (wd1 buf n) buf n := by
  rw [numeral_lt 10 n h] at hb
  unfold ArmOK wd1
  rw [wr1_spec buf 0 n h hb, numeral_lt 10 n h]; rfl

theorem wd2_spec (bits : Nat) (buf : Buf) (n : Nat) (hbits : 8 ≤ bits) (h1 : 10 ≤ n) (h2 : n < 100)
    (hb : (numeral 10 n).length ≤ buf.length) : ArmOK (wd2 bits buf n) buf n := by
  rw [numeral_pair 10 n (by omega) h1 h2] at hb
  unfold ArmOK wd2
  rw [dbl_no_wrap n bits h2 hbits, wr2_spec buf 0 n h2 hb, numeral_pair 10 n (by omega) h1 h2]; rfl

theorem wd3_spec (buf : Buf) (n : Nat) (h1 : 100 ≤ n) (h2 : n < 1000)
    (hb : (numeral 10 n).length ≤ buf.length) : ArmOK (wd3 buf n) buf n := by
  have hq := fixed_quot n 42949673 1 (100 ^ 1) (2 ^ 32) 4 100 1000 (2 ^ 64)
    (by decide) (by decide) (by decide) h1 h2 (by decide) (by decide) (by decide)
  rw [Nat.div_one] at hq
  exact lead1_spec buf _ 1 n hq (by omega) (by omega) hb

theorem wd34_spec (buf : Buf) (n : Nat) (h1 : 100 ≤ n) (h2 : n < 10000)
    (hb : (numeral 10 n).length ≤ buf.length) : ArmOK (wd34 buf n) buf n :=
  printN_spec buf n _ _ 1
    (fixed_quot n 42949673 (2 ^ 0) (100 ^ 1) (2 ^ 32) 4 100 10000 (2 ^ 64)
      (by decide) (by decide) (by decide) h1 h2 (by decide) (by decide) (by decide))
    (by omega) (by omega) hb

theorem wd5_spec (buf : Buf) (n : Nat) (h1 : 10000 ≤ n) (h2 : n < 100000)
    (hb : (numeral 10 n).length ≤ buf.length) : ArmOK (wd5 buf n) buf n := by
  have hq := fixed_quot n 429497 1 (100 ^ 2) (2 ^ 32) 2704 10000 100000 (2 ^ 64)
    (by decide) (by decide) (by decide) h1 h2 (by decide) (by decide) (by decide)
  rw [Nat.div_one] at hq
  exact lead1_spec buf _ 2 n hq (by omega) (by omega) hb

theorem wd56_spec (buf : Buf) (n : Nat) (h1 : 10000 ≤ n) (h2 : n < 1000000)
    (hb : (numeral 10 n).length ≤ buf.length) : ArmOK (wd56 buf n) buf n :=
  printN_spec buf n _ _ 2
    (fixed_quot n 429497 (2 ^ 0) (100 ^ 2) (2 ^ 32) 2704 10000 1000000 (2 ^ 64)
      (by decide) (by decide) (by decide) h1 h2 (by decide) (by decide) (by decide))
    (by omega) (by omega) hb

theorem wd78_spec (buf : Buf) (n : Nat) (h1 : 1000000 ≤ n) (h2 : n < 100000000)
    (hb : (numeral 10 n).length ≤ buf.length) : ArmOK (wd78 buf n) buf n :=
  printN_spec buf n _ _ 3
    (fixed_quot n 281474978 (2 ^ 16) (100 ^ 3) (2 ^ 32) 1289344 1000000 100000000 (2 ^ 64)
      (by decide) (by decide) (by decide) h1 h2 (by decide) (by decide) (by decide))
    (by omega) (by omega) hb

theorem wd9_spec (buf : Buf) (n : Nat) (h1 : 100000000 ≤ n) (h2 : n < 1000000000)
    (hb : (numeral 10 n).length ≤ buf.length) : ArmOK (wd9 buf n) buf n :=
  lead1_spec buf _ 4 n
    (fixed_quot n 1441151882 (2 ^ 25) (100 ^ 4) (2 ^ 32) 124144128 100000000 1000000000 (2 ^ 64)
      (by decide) (by decide) (by decide) h1 h2 (by decide) (by decide) (by decide))
    (by omega) (by omega) hb

theorem wd10_spec (buf : Buf) (n : Nat) (h1 : 1000000000 ≤ n) (h2 : n < 4294967296)
    (hb : (numeral 10 n).length ≤ buf.length) : ArmOK (wd10 buf n) buf n :=
  lead2_spec buf _ 4 n
    (fixed_quot n 1441151881 (2 ^ 25) (100 ^ 4) (2 ^ 32) 24144128 1000000000 4294967296 (2 ^ 64)
      (by decide) (by decide) (by decide) h1 h2 (by decide) (by decide) (by decide))
    (by omega) (by omega) (by omega) hb

theorem wd10u64_spec (buf : Buf) (n : Nat) (h1 : 1000000000 ≤ n) (h2 : n < 10000000000)
    (hb : (numeral 10 n).length ≤ buf.length) : ArmOK (wd10u64 buf n) buf n := by
  -- the product is formed in `u128` and cast to `u64`; a `q` with `q * 100^4 / 2^32 = n` is far below `2^64`
  have hcast : ∀ q, q * 100 ^ 4 / 2 ^ 32 = n → q % 2 ^ 64 = q := fun q h => by omega
  have hq := fixed_quot n 11529215047 (2 ^ 28) (100 ^ 4) (2 ^ 32) 93153024 1000000000 10000000000 (2 ^ 128)
    (by decide) (by decide) (by decide) h1 h2 (by decide) (by decide) (by decide)
  rw [← hcast _ hq] at hq
  exact lead2_spec buf _ 4 n hq (by omega) (by omega) (by omega) hb

end LexVerif.Model.WriteInt
