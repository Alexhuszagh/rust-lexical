import LexVerif.Proof.ParseNumberDebugU64
import LexVerif.Proof.ParseNumberDebugSkip
/-!
# Proof.ParseNumberDebugRescan — what `parse_u64_digits` needs of a stored slice in the debug build (`U64Ok`)

`rel c` is `c` with `debug := false`: `peek`, `increment_count`, `current_count` and every format getter do not look at
`Cfg.debug` (by definition); only `step_unchecked` / `step_by` do, and a `scan` does not (`IterSpec.scan_cfg`).
`SliceRun c k b`: the release-build `parse_digits` of component `k` restarted in state `b` runs through the whole
buffer — so every byte `peek` returns on the way is a digit, never the separator: `RunsOut` (`sliceRun_iff_runsOut`), which
is what `parse_u64_digits` needs (`parseU64Digits_env`). The first pass provides it for the stored slice
(`firstPass_runsOut`, `Proof/ParseNumberDebugRescanFacts.lean`).
-/
namespace LexVerif.Proof.PNDebug
open LexVerif LexVerif.Model
open LexVerif.Props.C12 (Bytes.Valid)

variable {c : Cfg}

/-- the release build of the same configuration (the hypothesis "release build" is `PNTotal.Rel`) -/
def rel (c : Cfg) : Cfg := { c with debug := false }

@[simp] theorem rel_debug (c : Cfg) : (rel c).debug = false := rfl
theorem incCount_rel (c : Cfg) (k : Comp) (b : Bytes) : Bytes.incCount (rel c) k b = Bytes.incCount c k b := rfl
theorem iterCount_rel (c : Cfg) (k : Comp) (b : Bytes) : Bytes.iterCount (rel c) k b = Bytes.iterCount c k b := rfl
theorem isSep_rel (c : Cfg) (x : Nat) : (rel c).isSep x = c.isSep x := rfl
theorem isDigit_rel (c : Cfg) (x : Nat) : (rel c).isDigit x = c.isDigit x := rfl
theorem skip_rel (c : Cfg) (k : Comp) : (rel c).skip k = c.skip k := rfl
theorem iterContiguous_rel (c : Cfg) (k : Comp) : (rel c).iterContiguous k = c.iterContiguous k := rfl
theorem mantissaRadix_rel (c : Cfg) : (rel c).mantissaRadix = c.mantissaRadix := rfl

def SliceRun (c : Cfg) (k : Comp) (b : Bytes) : Prop :=
  ∃ ds e, parseDigits (rel c) k c.mantissaRadix b = .ok (ds, e) ∧ b.slc[e.index]? = none

/-- the two forms in which the first pass provides `RunsOut` -/
def U64Ok (c : Cfg) (k : Comp) (b : Bytes) : Prop :=
  (Good c k ∧ DSRange c k b.slc b.index b.slc.length) ∨ (c.iterContiguous k = false ∧ SliceRun c k b)

theorem reachRel (cx : Ctx c) : ∀ k, (rel c).skip k ≠ .unreachable := cx.skipOk

theorem Safe.and {α : Type} {x : Except Err α} {P Q : α → Prop} (hx : Safe x P) (h : ∀ a, x = .ok a → Q a) :
    Safe x (fun a => P a ∧ Q a) :=
  Safe.iff_wp.2 ((Safe.iff_wp.1 hx).mono (fun a he p => ⟨p, h a he⟩) fun _ => id)

/-- the release build's `parse_digits` is the `scan`, which does not look at `Cfg.debug` -/
theorem sliceRun_iff_runsOut (cx : Ctx c) (k : Comp) (b : Bytes) : SliceRun c k b ↔ RunsOut c k b := by
  have hs := IterSpec.parseDigits_eq (reachRel cx k) c.mantissaRadix b fun x _ => IterSpec.StepOK.release rfl k x
  simp only [IterSpec.run, IterSpec.scan_cfg (c := c) (c' := rel c) rfl rfl] at hs
  constructor
  · rintro ⟨ds, e, h, hend⟩
    rw [show parseDigits (rel c) k c.mantissaRadix b = _ from hs] at h
    cases h
    rw [IterSpec.mv_index] at hend
    exact hend
  · exact fun h => ⟨_, _, hs, by rw [IterSpec.mv_index]; exact h⟩

theorem U64Ok.runsOut (cx : Ctx c) {k : Comp} {b : Bytes} (hv : Bytes.Valid b) (h : U64Ok c k b) : RunsOut c k b := by
  rcases h with ⟨_, hdig⟩ | ⟨_, hrun⟩
  · refine runsOut_of_ahead fun t h1 h2 => ?_
    obtain ⟨x, hx, hd | ⟨rfl, hs⟩⟩ := hdig t h1 h2
    · exact ⟨x, hx, .inl hd⟩
    · exact ⟨_, hx, .inr ⟨hs.1, sep_isSep hs.2⟩⟩
  · exact (sliceRun_iff_runsOut cx k b).1 hrun

end LexVerif.Proof.PNDebug
