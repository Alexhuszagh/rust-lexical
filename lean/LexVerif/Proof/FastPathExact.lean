import LexVerif.Proof.ExtRound
import LexVerif.Model.FastPath
/-!
# Proof.FastPathExact — `try_fast_path` returns the correctly rounded float

`fastPath_exact`: whenever the model's `tryFastPath` answers `some v`, `v` is `roundNE (m·r^e)` with the
sign attached.  Ingredients: the mantissa (`≤ 2^p`, checked) converts exactly; the table entry
`pow_fast_path(e)` is exactly `r^e` for every `e ≤ exponent_limit` (`FloatPowStmt`, a table theorem);
one correctly rounded multiplication or division (IEEE assumption built into `fmul`/`fdiv`); in the
disguised case `m·r^shift` is computed exactly in `u64` (`int_pow_fast_path` exact, overflow checked) and
re-checked against `2^p`.  Mathlib-free.
-/
namespace LexVerif.Proof.FastPathExact
open LexVerif.Spec LexVerif.Spec.PowerTables LexVerif.Model LexVerif.Model.FastPath LexVerif.Proof.Tables
open LexVerif.Proof.RoundNE LexVerif.Proof.ExtRound

/-- what the proof needs from the tables of one radix (all are table theorems of `Props.TablesParse`) -/
structure FastTables (S : SmallSet) (f : Fmt) (r : Nat) : Prop where
  pow : ∀ e (he : e < (S.floatPow f r).size),
    floatPowOk f (S.exponentLimit f r).2 r e (S.floatPow f r)[e] = true
  lim : limitsOk S f r = true
  int : ∀ e (he : e < (S.intPow r).size), (S.intPow r)[e] = r ^ e
  rpos : 0 < r
  powSize : (S.exponentLimit f r).2 < ((S.floatPow f r).size : Int)
  intSize : S.mantissaLimit f r < ((S.intPow r).size : Int)

theorem toFrac_den_pos (d : Dec) : 0 < d.toFrac.2 := by
  unfold Dec.toFrac; split
  · exact Nat.one_pos
  · exact Nat.two_pow_pos _

theorem ofU64_exact {f : Fmt} (hf : WF f) (hpb : f.p + 1 ≤ f.bias) {m : Nat} (hm : m ≤ 2 ^ f.p) :
    (fracOf f (ofU64 f m)).1 = m * (fracOf f (ofU64 f m)).2 := by
  have hp := hf.hp
  have hTT := two_pow_P hf
  unfold ofU64 fracOf
  by_cases h0 : m = 0
  · subst h0
    rw [roundNE_zero]
    have : f.decode 0 = ⟨false, 0, f.eminLsb⟩ := by
      rw [decode_finite hf (infBits_pos hf)]; simp
    rw [this]; unfold Dec.toFrac; split <;> simp
  · -- `m = q0·2^-(p - bl)` with `q0 = m·2^(p - bl)` in `[2^(p-1), 2^p]`: the pattern `k·2^(p-1) + q0`, `k = L - (p - bl)`
    have hlo := bitlen_lower h0
    have hup := bitlen_upper m
    have hbpos := bitlen_pos h0
    have hbl : bitlen m ≤ f.p + 1 := by
      apply Classical.byContradiction; intro hc
      have : 2 ^ (f.p + 1) ≤ 2 ^ (bitlen m - 1) := Nat.pow_le_pow_right (by decide) (by omega)
      have : 2 ^ f.p < 2 ^ (f.p + 1) := Nat.pow_lt_pow_right (by decide) (by omega)
      omega
    generalize bitlen m = bl at *
    have hLp : f.p ≤ L f := by unfold L; omega
    have key : roundNE f m 1 = (L f - (f.p - bl)) * 2 ^ (f.p - 1) + m * 2 ^ (f.p - bl) ∧
        ival f ((L f - (f.p - bl)) * 2 ^ (f.p - 1) + m * 2 ^ (f.p - bl)) = m * 2 ^ L f ∧
        (L f - (f.p - bl)) * 2 ^ (f.p - 1) + m * 2 ^ (f.p - bl) < f.infBits := by
      have hq1 : 2 ^ (f.p - 1) ≤ m * 2 ^ (f.p - bl) := by
        by_cases hc : bl ≤ f.p
        · calc 2 ^ (f.p - 1) = 2 ^ (bl - 1) * 2 ^ (f.p - bl) := by rw [← Nat.pow_add]; congr 1; omega
            _ ≤ m * 2 ^ (f.p - bl) := Nat.mul_le_mul_right _ hlo
        · have : f.p - bl = 0 := by omega
          rw [this, Nat.pow_zero, Nat.mul_one]
          have : 2 ^ (f.p - 1) ≤ 2 ^ (bl - 1) := Nat.pow_le_pow_right (by decide) (by omega)
          omega
      have hq2 : m * 2 ^ (f.p - bl) ≤ 2 * 2 ^ (f.p - 1) := by
        rw [← hTT]
        by_cases hc : bl ≤ f.p
        · have : m * 2 ^ (f.p - bl) < 2 ^ bl * 2 ^ (f.p - bl) :=
            Nat.mul_lt_mul_of_pos_right hup (Nat.two_pow_pos _)
          rw [← Nat.pow_add, show bl + (f.p - bl) = f.p by omega] at this
          omega
        · have : f.p - bl = 0 := by omega
          rw [this, Nat.pow_zero, Nat.mul_one]; exact hm
      have hval : m * 2 ^ (f.p - bl) * 2 ^ (L f - (f.p - bl)) = m * 2 ^ L f := by
        rw [Nat.mul_assoc, ← Nat.pow_add]; congr 2; omega
      have hiv := ival_kq f (L f - (f.p - bl)) (m * 2 ^ (f.p - bl)) (fun _ => hq1) hq2
      rw [hval] at hiv
      -- below infinity: (k + 2)·T ≤ M·T
      have hMeq := M_eq hf
      have hfin : (L f - (f.p - bl)) * 2 ^ (f.p - 1) + m * 2 ^ (f.p - bl) < f.infBits := by
        rw [infBits_eq, hMeq]
        have h1 : (L f - (f.p - bl) + 2) * 2 ^ (f.p - 1) ≤ (2 * f.bias) * 2 ^ (f.p - 1) :=
          Nat.mul_le_mul_right _ (by unfold L; omega)
        have h2 : (2 * f.bias + 1) * 2 ^ (f.p - 1) = (2 * f.bias) * 2 ^ (f.p - 1) + 2 ^ (f.p - 1) := by
          rw [Nat.add_mul, Nat.one_mul]
        rw [Nat.add_mul] at h1
        have := Nat.two_pow_pos (f.p - 1)
        omega
      exact ⟨roundNE_of_ival hf hfin Nat.one_pos (by rw [hiv, Nat.mul_one]), hiv, hfin⟩
    obtain ⟨k1, k2, k3⟩ := key
    rw [k1]
    obtain ⟨t1, t2⟩ := toFrac_decode hf k3
    rw [k2] at t1
    -- a·2^L = m·2^L·b
    have : (f.decode ((L f - (f.p - bl)) * 2 ^ (f.p - 1) + m * 2 ^ (f.p - bl))).toFrac.1 * 2 ^ L f =
        (m * (f.decode ((L f - (f.p - bl)) * 2 ^ (f.p - 1) + m * 2 ^ (f.p - bl))).toFrac.2) * 2 ^ L f := by
      rw [t1]; ac_rfl
    exact Nat.eq_of_mul_eq_mul_right (Nat.two_pow_pos _) this

theorem pow_entry {S : SmallSet} {F : FTy} {r : Nat} (T : FastTables S F.fmt r) {e v : Nat}
    (hv : powFastPath S F r e = some v) (he : (e : Int) ≤ (S.exponentLimit F.fmt r).2) :
    (fracOf F.fmt v).1 = r ^ e * (fracOf F.fmt v).2 := by
  unfold powFastPath at hv
  obtain ⟨hlt, heq⟩ := Array.getElem?_eq_some_iff.mp hv
  have := T.pow e hlt
  rw [heq] at this
  unfold floatPowOk at this
  rw [if_pos he] at this
  simp only [Bool.and_eq_true, beq_iff_eq] at this
  have h2 := this.2
  unfold exactlyRepr at h2
  simp only [Bool.and_eq_true, beq_iff_eq] at h2
  exact h2.2

theorem int_entry {S : SmallSet} {f : Fmt} {r : Nat} (T : FastTables S f r) {e v : Nat}
    (hv : intPowFastPath S r e = some v) : v = r ^ e := by
  unfold intPowFastPath at hv
  obtain ⟨hlt, heq⟩ := Array.getElem?_eq_some_iff.mp hv
  rw [← heq]; exact T.int e hlt

theorem limits_of {S : SmallSet} {f : Fmt} {r : Nat} (T : FastTables S f r) :
    S.minExpFast f r = -(S.exponentLimit f r).2 ∧ S.maxExpFast f r = (S.exponentLimit f r).2 ∧
    0 ≤ (S.exponentLimit f r).2 := by
  have := T.lim
  unfold limitsOk exponentLimitOk at this
  simp only [Bool.and_eq_true, beq_iff_eq, decide_eq_true_eq] at this
  obtain ⟨⟨⟨⟨⟨⟨h1, h2⟩, _⟩, _⟩, h3⟩, h4⟩, _⟩ := this
  refine ⟨by rw [h3, h2], h4, h1⟩

theorem fmul_exact {f : Fmt} (hf : WF f) {a b m k : Nat}
    (ha : (fracOf f a).1 = m * (fracOf f a).2) (hb : (fracOf f b).1 = k * (fracOf f b).2) :
    fmul f a b = roundNE f (m * k) 1 := by
  unfold fmul
  have h1 : 0 < (fracOf f a).2 := toFrac_den_pos _
  have h2 : 0 < (fracOf f b).2 := toFrac_den_pos _
  simp only []
  apply roundNE_congr' hf (Nat.mul_pos h1 h2) Nat.one_pos
  rw [ha, hb]; ac_rfl

theorem fdiv_exact {f : Fmt} (hf : WF f) {a b m k : Nat} (hk : 0 < k)
    (ha : (fracOf f a).1 = m * (fracOf f a).2) (hb : (fracOf f b).1 = k * (fracOf f b).2) :
    fdiv f a b = roundNE f m k := by
  unfold fdiv
  have h1 : 0 < (fracOf f a).2 := toFrac_den_pos _
  have h2 : 0 < (fracOf f b).2 := toFrac_den_pos _
  have h3 : 0 < (fracOf f b).1 := by rw [hb]; exact Nat.mul_pos hk h2
  simp only []
  rw [if_neg (by omega)]
  apply roundNE_congr' hf (Nat.mul_pos h1 h3) hk
  rw [ha, hb]; ac_rfl

theorem sign_eq (neg : Bool) (A B sb : Nat) (h : A = B) :
    (if neg = true then A + sb else A) = B + (if neg = true then sb else 0) := by
  subst h; cases neg <;> simp

/-- **`try_fast_path` is exact**: an answer `some v` is the correctly rounded, signed float of
`mantissa · radix^exponent`. -/
theorem fastPath_exact {F : FTy} {p eb : Nat} (lay : Layout F p eb) {S : SmallSet} {r : Nat}
    (T : FastTables S F.fmt r) (expBase : Nat) (n : Num) (v : Nat)
    (h : tryFastPath S F r expBase n = .some v) :
    v = roundSigned F.fmt n.isNegative (powFrac r n.exponent n.mantissa).1
          (powFrac r n.exponent n.mantissa).2 := by
  have hf := lay.wf
  have hpb : F.fmt.p + 1 ≤ F.fmt.bias := by rw [lay.fmt]; exact lay.hpb
  have hfp : F.fmt.p = p := by rw [lay.fmt]
  obtain ⟨hmin, hmax, hlim0⟩ := limits_of T
  have hrpos := T.rpos
  unfold tryFastPath at h
  split at h
  · exact absurd h (by simp)
  · split at h
    · rename_i hfast
      unfold isFastPath at hfast
      simp only [Bool.and_eq_true, decide_eq_true_eq, Bool.not_eq_true'] at hfast
      obtain ⟨⟨⟨hlo, hhi⟩, hmant⟩, _⟩ := hfast
      rw [lay.maxMant] at hmant
      have hm : n.mantissa ≤ 2 ^ F.fmt.p := by rw [hfp]; exact_mod_cast hmant
      simp only [] at h
      unfold roundSigned powFrac withSign at *
      split at h
      · -- normal fast path
        rename_i hnorm
        split at h
        · rename_i hneg
          split at h
          · rename_i pw hpw
            injection h with h
            rw [if_neg (by omega), ← h]
            apply sign_eq
            have hent := pow_entry T hpw (by omega)
            exact fdiv_exact hf (Nat.pow_pos hrpos) (ofU64_exact hf hpb hm) hent
          · exact absurd h (by simp)
        · rename_i hneg
          split at h
          · rename_i pw hpw
            injection h with h
            rw [if_pos (by omega), ← h]
            apply sign_eq
            have hent := pow_entry T hpw (by omega)
            exact fmul_exact hf (ofU64_exact hf hpb hm) hent
          · exact absurd h (by simp)
      · -- disguised fast path
        rename_i hnorm
        split at h
        · exact absurd h (by simp)
        · rename_i ip hip
          split at h
          · exact absurd h (by simp)
          · rename_i hov
            split at h
            · exact absurd h (by simp)
            · rename_i hbig
              split at h
              · rename_i pw hpw
                injection h with h
                have hipv := int_entry T hip
                rw [lay.maxMant] at hbig
                have hm2 : n.mantissa * ip ≤ 2 ^ F.fmt.p := by
                  rw [hfp]; exact_mod_cast (Int.not_lt.mp hbig)
                have hent := pow_entry T hpw (by omega)
                rw [if_pos (by omega), ← h]
                apply sign_eq
                rw [fmul_exact hf (ofU64_exact hf hpb hm2) hent, hipv, Nat.mul_assoc, ← Nat.pow_add]
                have : (n.exponent - S.maxExpFast F.fmt r).toNat + (S.maxExpFast F.fmt r).toNat = n.exponent.toNat := by omega
                rw [this]
              · exact absurd h (by simp)
    · exact absurd h (by simp)

/-- **`try_fast_path` never panics**: every table index it uses is inside the table -/
theorem fastPath_no_panic {F : FTy} {S : SmallSet} {r : Nat} (T : FastTables S F.fmt r) (expBase : Nat)
    (n : Num) : tryFastPath S F r expBase n ≠ .panic := by
  obtain ⟨hmin, hmax, hlim0⟩ := limits_of T
  have hdis : S.maxExpDisguised F.fmt r = (S.exponentLimit F.fmt r).2 + S.mantissaLimit F.fmt r := by
    have := T.lim
    unfold limitsOk at this
    simp only [Bool.and_eq_true, beq_iff_eq] at this
    exact this.2
  have hps := T.powSize
  have his := T.intSize
  unfold tryFastPath
  split
  · simp
  · split
    · rename_i hfast
      unfold isFastPath at hfast
      simp only [Bool.and_eq_true, decide_eq_true_eq, Bool.not_eq_true'] at hfast
      obtain ⟨⟨⟨hlo, hhi⟩, _⟩, _⟩ := hfast
      simp only []
      split
      · rename_i hnorm
        split
        · have hidx : (-n.exponent).toNat < (S.floatPow F.fmt r).size := by omega
          unfold powFastPath
          rw [Array.getElem?_eq_getElem hidx]; simp
        · have hidx : n.exponent.toNat < (S.floatPow F.fmt r).size := by omega
          unfold powFastPath
          rw [Array.getElem?_eq_getElem hidx]; simp
      · rename_i hnorm
        have hidx : (n.exponent - S.maxExpFast F.fmt r).toNat < (S.intPow r).size := by omega
        have hidx2 : (S.maxExpFast F.fmt r).toNat < (S.floatPow F.fmt r).size := by omega
        unfold intPowFastPath powFastPath
        rw [Array.getElem?_eq_getElem hidx, Array.getElem?_eq_getElem hidx2]
        simp only []
        split
        · simp
        · split <;> simp
    · simp

end LexVerif.Proof.FastPathExact
