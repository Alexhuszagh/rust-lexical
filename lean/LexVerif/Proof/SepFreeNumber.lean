import LexVerif.Proof.SepFreeMany2
import LexVerif.Proof.ExceptPost
/-!
# Proof.SepFreeNumber — `parse_number` on separator-free input, in closed form to the end

`tailClosed` is `Props.C01Number.tailOf` with every phase replaced by its closed form; the `current_count` test and the
`fraction.is_none()` shortcut of the re-parse, the two places where a separator build computes differently, drop out of
it because the components counted so far are known (`IntOut`, `FracOut`). What is left mentions the configuration only
through the parameters a format shares with its separator-free `Counterpart`, so the two formats agree
(`parseNumber_same`) by rewriting those.
-/
namespace LexVerif.Proof.Sep
open LexVerif LexVerif.Model LexVerif.Spec
open LexVerif.Props.C12

/-- what an accepted integer component looks like on the buffer `s` -/
structure IntOut (s : List Nat) (ip : IntPart) : Prop where
  slc : ip.start.slc = s
  digits : ip.integerDigits = (s.drop ip.start.index).take ip.nDigits
  len : ip.nDigits ≤ (s.drop ip.start.index).length

/-- what an accepted fraction component looks like on the buffer `s`, `L` digits having been counted before it -/
structure FracOut (c : Cfg) (s : List Nat) (L : Nat) (fp : FracPart) : Prop where
  slc : fp.byte.slc = s
  count : L + fp.nAfterDot ≤ fp.byte.currentCount c
  mem : ∀ fd, fp.fraction = some fd → ∀ x ∈ fd, x ∈ s
  none : fp.fraction = none → fp.nAfterDot = 0

theorem intClosed_out {g : Cfg} {isPrefix : Bool} {start : Bytes} {ip : IntPart}
    (h : intClosed g isPrefix start
      (adv g .integer (digitsPrefix g.mantissaRadix (start.slc.drop start.index)).length start) = .ok ip) :
    IntOut start.slc ip ∧ ip.nDigits ≤ ip.byte.currentCount g := by
  have hlen := digitsPrefix_length_le g.mantissaRadix (start.slc.drop start.index)
  unfold intClosed at h
  dsimp only at h
  split at h
  · cases h
  · split at h
    · cases h
    · cases h
      exact ⟨⟨rfl, rfl, hlen⟩, by simp only [currentCount_adv g .integer _ _ (by decide)]; omega⟩

theorem fracClosed_out {g : Cfg} {o : POpts} {b : Bytes} {m L : Nat} {fp : FracPart}
    (h : fracClosed g o b m = .ok fp) (hL : L ≤ b.currentCount g) : FracOut g b.slc L fp := by
  unfold fracClosed at h
  dsimp only at h
  split at h
  · split at h
    · cases h
    · cases h
      refine ⟨by simp, ?_, ?_, (by intro h; cases h)⟩
      · have := currentCount_step g b
        simp only [currentCount_adv g .fraction _ _ (by decide)]
        omega
      · intro fd hfd x hx
        simp only [Option.some.injEq] at hfd
        subst hfd
        exact List.mem_of_mem_drop (List.mem_of_mem_take hx)
  · cases h
    exact ⟨rfl, hL, (by intro fd h; cases h), fun _ => rfl⟩

def tailClosed (g : Cfg) (isPartial : Bool) (o : POpts) (neg : Bool) (ip : IntPart) (fp : FracPart) :
    Except Err (Number × Nat) :=
  let hasExponent := fp.byte.firstIs o.exp (g.caseSensitiveExponent && g.feats.format)
  let nDigits := ip.nDigits + fp.nAfterDot
  if g.requiredMantissaDigits && nDigits = 0 then
    if fp.hasDecimal || hasExponent || (ip.start.slc[ip.start.index]?).isNone || isPartial then
      .error (.err "EmptyMantissa" fp.byte.index)
    else .error (.err "InvalidDigit" ip.start.index)
  else
    expClosed g hasExponent fp.byte fp.fraction fp.exponent >>= fun ep =>
    let endIdx := (sufClosed g ep.byte).index
    let step := u64Step g.feats g.mantissaRadix
    let exponent : Int := if g.feats.format && !g.requiredMantissaDigits && nDigits = 0 then 0 else ep.exponent
    if nDigits ≤ step then
      .ok (⟨fp.mantissa, exponent, neg, false, ip.integerDigits, fp.fraction, ep.explicit⟩, endIdx)
    else
      manyClosed g.mantissaRadix (scaleVal g) o.dp ip.start.slc ip.start.index ip.integerDigits ip.nDigits fp.fraction
        fp.mantissa ep.explicit neg nDigits step exponent endIdx false

theorem tailOf_closed (c : Cfg) (hS : RelClass c) (isPartial : Bool) (o : POpts) (s : List Nat) (neg : Bool)
    (hn : NoSep c s) (ip : IntPart) (fp : FracPart) (hI : IntOut s ip) (hF : FracOut c s ip.nDigits fp) :
    Props.C01Number.tailOf c isPartial o neg ip fp = tailClosed c isPartial o neg ip fp := by
  have hcnt : (decide (ip.nDigits + fp.nAfterDot = 0) ||
      c.feats.format && decide (Bytes.currentCount c fp.byte = 0)) = decide (ip.nDigits + fp.nAfterDot = 0) := by
    by_cases h0 : ip.nDigits + fp.nAfterDot = 0
    · simp [h0]
    · have : Bytes.currentCount c fp.byte ≠ 0 := by have := hF.count; omega
      simp [this]
  unfold Props.C01Number.tailOf tailClosed
  simp only [hcnt]
  split
  · rw [peek_nosep c .integer ip.start (by rw [hI.slc]; exact hn) (hS.reach _)]
    rfl
  · rw [exponentPhase_rel c hS _ fp.byte fp.fraction fp.exponent (by rw [hF.slc]; exact hn)]
    refine bind_congr_ok fun ep _ => ?_
    simp only [suffixPhase_release c hS.debug, bind, Except.bind]
    split
    · rfl
    · have hids : NoSep c ip.integerDigits := by rw [hI.digits]; exact (hn.drop _).take _
      have hfd : ∀ fd, fp.fraction = some fd → NoSep c fd := fun fd hfd x hx => hn x (hF.mem fd hfd x hx)
      rw [manyDigits_rel c hS s hn o neg ip fp ep _ _ _ _ hI.slc hids hfd, hI.slc]
      cases (c.feats.format && !c.bytesContiguous)
      · rfl
      · exact manyClosed_mode _ _ _ _ _ _ _ _ _ _ _ _ _ _ _ hI.digits hI.len
          (by intro hfr; rw [hF.none hfr]; rfl)

def numClosed (g : Cfg) (isPartial : Bool) (o : POpts) (neg isPrefix : Bool) (start : Bytes) : Except Err (Number × Nat) :=
  intClosed g isPrefix start
    (adv g .integer (digitsPrefix g.mantissaRadix (start.slc.drop start.index)).length start) >>= fun ip =>
  fracClosed g o ip.byte ip.mantissa >>= fun fp => tailClosed g isPartial o neg ip fp

theorem parseNumber_numClosed (c : Cfg) (hS : RelClass c) (isPartial : Bool) (o : POpts) (b : Bytes) (neg fv : Bool)
    (hn : NoSep c b.slc) :
    parseNumber c isPartial o b neg fv = (prefixPhase c b >>= fun r => numClosed c isPartial o neg r.1 r.2) := by
  rw [parseNumber_closed c hS isPartial o b neg fv hn]
  refine bind_congr_ok fun r hp => ?_
  have hsl := (prefixPhase_slc c hS.debug (hS.reach _) b r.2 r.1 hp).1
  refine bind_congr_ok fun ip hi => ?_
  obtain ⟨hI, hc⟩ := intClosed_out hi
  refine bind_congr_ok fun fp hf => ?_
  have hF := fracClosed_out hf hc
  rw [intClosed_byte hi, adv_slc] at hF
  exact tailOf_closed c hS isPartial o r.2.slc neg (hsl ▸ hn) ip fp hI hF

theorem adv_feats {c c' : Cfg} (h : c'.feats = c.feats) (k : Comp) (n : Nat) (b : Bytes) : adv c' k n b = adv c k n b := by
  unfold adv; rw [h]

theorem numClosed_same (c c' : Cfg) (hC : Counterpart c c') (isPartial : Bool) (o : POpts) (neg isPrefix : Bool)
    (start : Bytes) : numClosed c' isPartial o neg isPrefix start = numClosed c isPartial o neg isPrefix start := by
  simp only [numClosed, intClosed, fracClosed, tailClosed, expClosed, sufClosed, adv_feats hC.feats,
    funext (scaleVal_same c c' hC), hC.feats, hC.requiredIntegerDigits, hC.requiredFractionDigits,
    hC.requiredExponentDigits, hC.requiredMantissaDigits, hC.noExponentNotation, hC.noPositiveExponentSign,
    hC.requiredExponentSign, hC.noExponentWithoutFraction, hC.noFloatLeadingZeros, hC.requiredExponentNotation,
    hC.caseSensitiveExponent, hC.caseSensitiveBaseSuffix, hC.baseSuffix, hC.mantissaRadix, hC.exponentRadix]

theorem parseNumber_same (c c' : Cfg) (hS : RelClass c) (hP : PlainClass c') (hC : Counterpart c c')
    (isPartial : Bool) (o : POpts) (b : Bytes) (neg fv : Bool) (hn : NoSep c b.slc) :
    parseNumber c isPartial o b neg fv = parseNumber c' isPartial o b neg fv := by
  rw [parseNumber_numClosed c hS isPartial o b neg fv hn,
    parseNumber_numClosed c' hP.rel isPartial o b neg fv (hP.noSep _), prefixPhase_same c c' hS hP hC b hn]
  simp only [numClosed_same c c' hC]

end LexVerif.Proof.Sep
