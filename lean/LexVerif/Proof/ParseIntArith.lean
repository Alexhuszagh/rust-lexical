import LexVerif.Model.ParseInt
import Mathlib.Data.Int.ModEq
import Mathlib.Tactic.Ring
/-!
# Proof.ParseIntArith — fixed-width arithmetic facts used by the C04 proof

`enc t neg acc` is the bit pattern the implementation holds when the exact magnitude is `acc`
(`-acc` for negative numbers). Wrapping steps commute with `enc` unconditionally (modular arithmetic);
checked steps succeed exactly when the exact value stays in range.
-/
namespace LexVerif.Proof.ParseInt
open LexVerif.Spec LexVerif.Model LexVerif.Model.ParseInt

def sgn (neg : Bool) (acc : Nat) : Int := if neg then -(acc : Int) else (acc : Int)

def enc (t : IntTy) (neg : Bool) (acc : Nat) : Nat := ofInt t (sgn neg acc)

theorem two_pow_bits_pos (t : IntTy) : (0 : Int) < ((2 ^ t.bits : Nat) : Int) := by
  exact_mod_cast Nat.two_pow_pos t.bits

theorem ofInt_cast (t : IntTy) (x : Int) : ((ofInt t x : Nat) : Int) = x % ((2 ^ t.bits : Nat) : Int) := by
  unfold ofInt
  exact Int.toNat_of_nonneg (Int.emod_nonneg _ (ne_of_gt (two_pow_bits_pos t)))

theorem ofInt_lt (t : IntTy) (x : Int) : ofInt t x < 2 ^ t.bits := by
  have h := ofInt_cast t x
  have := Int.emod_lt_of_pos x (two_pow_bits_pos t)
  omega

theorem ofInt_congr (t : IntTy) {x y : Int} (h : x ≡ y [ZMOD ((2 ^ t.bits : Nat) : Int)]) :
    ofInt t x = ofInt t y := by
  unfold ofInt; rw [h]

theorem ofInt_modEq (t : IntTy) (x : Int) : ((ofInt t x : Nat) : Int) ≡ x [ZMOD ((2 ^ t.bits : Nat) : Int)] := by
  rw [ofInt_cast]; exact Int.mod_modEq _ _

theorem eq_ofInt (t : IntTy) {n : Nat} {x : Int} (hn : n < 2 ^ t.bits)
    (h : (n : Int) ≡ x [ZMOD ((2 ^ t.bits : Nat) : Int)]) : n = ofInt t x := by
  have h1 : ofInt t (n : Int) = n := by
    unfold ofInt
    rw [Int.emod_eq_of_lt (by omega) (by exact_mod_cast hn)]
    simp
  rw [← h1]; exact ofInt_congr t h

theorem natMod_modEq (a M : Nat) : ((a % M : Nat) : Int) ≡ (a : Int) [ZMOD (M : Int)] := by
  rw [Int.natCast_mod]; exact Int.mod_modEq _ _

theorem mulAddWrapping_eq (t : IntTy) (sub : Bool) (v m x : Nat) :
    mulAddWrapping t sub v m x = ofInt t (if sub then (v : Int) * m - x else (v : Int) * m + x) := by
  have hM := Nat.two_pow_pos t.bits
  unfold mulAddWrapping
  cases sub with
  | false =>
    simp only [Bool.false_eq_true, if_false]
    apply eq_ofInt
    · exact Nat.mod_lt _ hM
    · unfold wrappingAdd wrappingMul
      refine (natMod_modEq _ _).trans ?_
      push_cast
      exact Int.ModEq.add_right _ (by exact_mod_cast natMod_modEq (v * m) (2 ^ t.bits))
  | true =>
    simp only [if_true]
    apply eq_ofInt
    · exact Nat.mod_lt _ hM
    · unfold wrappingSub wrappingMul
      refine (natMod_modEq _ _).trans ?_
      have hx : x % 2 ^ t.bits < 2 ^ t.bits := Nat.mod_lt _ hM
      rw [Nat.cast_add, Nat.cast_sub (le_of_lt hx)]
      have h1 : ((v * m % 2 ^ t.bits : Nat) : Int) ≡ (v : Int) * m [ZMOD ((2 ^ t.bits : Nat) : Int)] := by
        exact_mod_cast natMod_modEq (v * m) (2 ^ t.bits)
      have h2 : ((x % 2 ^ t.bits : Nat) : Int) ≡ (x : Int) [ZMOD ((2 ^ t.bits : Nat) : Int)] := natMod_modEq _ _
      have h3 : ((2 ^ t.bits : Nat) : Int) ≡ 0 [ZMOD ((2 ^ t.bits : Nat) : Int)] := by
        simp [Int.ModEq]
      calc ((v * m % 2 ^ t.bits : Nat) : Int) + (((2 ^ t.bits : Nat) : Int) - ((x % 2 ^ t.bits : Nat) : Int))
          ≡ (v : Int) * m + (0 - x) [ZMOD ((2 ^ t.bits : Nat) : Int)] := h1.add (h3.sub h2)
        _ = (v : Int) * m - x := by ring

theorem enc_lt (t : IntTy) (neg : Bool) (acc : Nat) : enc t neg acc < 2 ^ t.bits := ofInt_lt _ _

theorem sgn_step (neg : Bool) (acc r d : Nat) :
    (if neg then sgn neg acc * r - d else sgn neg acc * r + d) = sgn neg (acc * r + d) := by
  cases neg <;> simp [sgn] <;> ring

theorem mulAddWrapping_enc (t : IntTy) (neg : Bool) (acc r d : Nat) :
    mulAddWrapping t neg (enc t neg acc) (r % 2 ^ t.bits) d = enc t neg (acc * r + d) := by
  rw [mulAddWrapping_eq]
  unfold enc
  apply ofInt_congr
  rw [← sgn_step]
  have h1 := ofInt_modEq t (sgn neg acc)
  have h2 : ((r % 2 ^ t.bits : Nat) : Int) ≡ (r : Int) [ZMOD ((2 ^ t.bits : Nat) : Int)] := natMod_modEq _ _
  cases neg with
  | false => simp only [Bool.false_eq_true, if_false]; exact (h1.mul h2).add_right _
  | true => simp only [if_true]; exact (h1.mul h2).sub_right _

theorem enc_pos (t : IntTy) {acc : Nat} (h : acc < 2 ^ t.bits) : enc t false acc = acc :=
  (eq_ofInt t h (by simp [sgn])).symm

theorem enc_neg (t : IntTy) {acc : Nat} (h0 : 0 < acc) (h : acc ≤ 2 ^ t.bits) :
    enc t true acc = 2 ^ t.bits - acc := by
  symm
  apply eq_ofInt t (by omega)
  simp only [sgn, if_true]
  rw [Nat.cast_sub h]
  have h3 : ((2 ^ t.bits : Nat) : Int) ≡ 0 [ZMOD ((2 ^ t.bits : Nat) : Int)] := by simp [Int.ModEq]
  calc ((2 ^ t.bits : Nat) : Int) - (acc : Int) ≡ 0 - acc [ZMOD ((2 ^ t.bits : Nat) : Int)] := h3.sub_right _
    _ = -(acc : Int) := by ring

theorem enc_zero (t : IntTy) (neg : Bool) : enc t neg 0 = 0 := by
  have : sgn neg 0 = ((0 : Nat) : Int) := by cases neg <;> simp [sgn]
  unfold enc; rw [this]
  exact (eq_ofInt t (Nat.two_pow_pos _) (Int.ModEq.refl _)).symm

theorem maxMag_lt (t : IntTy) (hb : 1 ≤ t.bits) (neg : Bool) (hneg : neg = true → t.signed = true) :
    t.maxMag neg < 2 ^ t.bits := by
  have h2 := Nat.two_pow_pred_mul_two hb
  have hp := Nat.two_pow_pos (t.bits - 1)
  unfold IntTy.maxMag
  cases hs : t.signed <;> cases neg
  · simp only [Bool.false_eq_true, if_false]; omega
  · simp [hs] at hneg
  · simp only [if_true, Bool.false_eq_true, if_false]; omega
  · simp only [if_true]; omega

theorem toInt_enc (t : IntTy) (hb : 1 ≤ t.bits) (neg : Bool) (hneg : neg = true → t.signed = true)
    {acc : Nat} (h : acc ≤ t.maxMag neg) : toInt t (enc t neg acc) = sgn neg acc := by
  have h2 := Nat.two_pow_pred_mul_two hb
  have hp := Nat.two_pow_pos (t.bits - 1)
  have hlt := maxMag_lt t hb neg hneg
  cases neg with
  | false =>
    rw [enc_pos t (by omega)]
    unfold toInt sgn
    unfold IntTy.maxMag at h
    cases hs : t.signed
    · simp
    · simp only [hs, if_true, Bool.false_eq_true, if_false] at h
      have : ¬ (2 ^ (t.bits - 1) ≤ acc) := by omega
      simp [this]
  | true =>
    have hs : t.signed = true := hneg rfl
    unfold IntTy.maxMag at h
    simp only [hs, if_true] at h
    by_cases h0 : acc = 0
    · subst h0; rw [enc_zero]; simp [toInt, sgn]
    · rw [enc_neg t (by omega) (by omega)]
      unfold toInt sgn
      have : 2 ^ (t.bits - 1) ≤ 2 ^ t.bits - acc := by omega
      simp only [hs, this, and_self, if_true]
      rw [Nat.cast_sub (by omega)]; ring

theorem inRange_sgn (t : IntTy) (neg : Bool) (a : Nat) :
    (t.minVal ≤ sgn neg a ∧ sgn neg a ≤ t.maxVal) ↔ a ≤ t.maxMag neg := by
  unfold IntTy.minVal IntTy.maxVal sgn
  cases neg <;> simp only [Bool.false_eq_true, if_false, if_true] <;> constructor <;> intro h <;> omega

theorem checked_sgn (t : IntTy) (neg : Bool) (a : Nat) :
    checked t (sgn neg a) = if a ≤ t.maxMag neg then some (enc t neg a) else none := by
  unfold checked
  by_cases h : a ≤ t.maxMag neg
  · rw [if_pos ((inRange_sgn t neg a).2 h), if_pos h]; rfl
  · rw [if_neg (fun h' => h ((inRange_sgn t neg a).1 h')), if_neg h]

theorem toInt_small' (t : IntTy) (hb : 8 ≤ t.bits) {x : Nat} (hx : x ≤ 36) : toInt t x = x := by
  have h128 : 2 ^ 7 ≤ 2 ^ (t.bits - 1) := Nat.pow_le_pow_right (by omega) (by omega)
  unfold toInt
  rw [if_neg (fun h => by omega)]

theorem toInt_small (t : IntTy) (hb : 8 ≤ t.bits) {x : Nat} (hx : x ≤ 36) : toInt t (x % 2 ^ t.bits) = x := by
  have h128 : 2 ^ 7 ≤ 2 ^ (t.bits - 1) := Nat.pow_le_pow_right (by omega) (by omega)
  have h2 := Nat.two_pow_pred_mul_two (show 0 < t.bits by omega)
  rw [Nat.mod_eq_of_lt (by omega), toInt_small' t hb hx]

/-- `checked_mul(radix).and_then(checked_{add,sub}(digit))` succeeds exactly when the exact value stays in range -/
theorem mulAddChecked_enc (t : IntTy) (hb : 8 ≤ t.bits) (neg : Bool) (hneg : neg = true → t.signed = true)
    {acc r d : Nat} (hacc : acc ≤ t.maxMag neg) (hr : r ≤ 36) (hd : d < r) :
    mulAddChecked t neg (enc t neg acc) (r % 2 ^ t.bits) d =
      if acc * r + d ≤ t.maxMag neg then some (enc t neg (acc * r + d)) else none := by
  unfold mulAddChecked checkedMul
  rw [toInt_enc t (by omega) neg hneg hacc, toInt_small t hb hr]
  have hm : sgn neg acc * (r : Int) = sgn neg (acc * r) := by cases neg <;> simp [sgn]
  rw [hm, checked_sgn]
  by_cases h1 : acc * r ≤ t.maxMag neg
  · rw [if_pos h1]
    simp only
    have hs : (if neg = true then checkedSub t (enc t neg (acc * r)) d else checkedAdd t (enc t neg (acc * r)) d)
        = checked t (sgn neg (acc * r + d)) := by
      unfold checkedSub checkedAdd
      rw [toInt_enc t (by omega) neg hneg h1, toInt_small' t hb (by omega : d ≤ 36)]
      cases neg <;> simp [sgn] <;> ring_nf
    rw [hs, checked_sgn]
  · rw [if_neg h1, if_neg (by omega)]
end LexVerif.Proof.ParseInt
