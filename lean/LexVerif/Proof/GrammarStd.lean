import LexVerif.Spec.Grammar
/-!
# Proof.GrammarStd — the documented grammar with the STANDARD flags is `Spec.parseStdComplete`

`Spec.Grammar` (declarative: splitter + flag constraints) and `Spec.StdFloat` (greedy scan with positions) are two
independent readings of the documentation; they are equal on every input for every format with the standard flags only
(`flagBits = 12`: exponent digits and mantissa digits required, nothing else).
-/
namespace LexVerif.Proof.Grammar
open LexVerif LexVerif.Spec LexVerif.Model

/-- the fraction step of `Spec.parseNumberStd`: digits after the point, what is left, the position behind them -/
def stdFrac (r : Nat) (o : POpts) (rest1 : List Nat) (pos1 : Nat) : List Nat × List Nat × Nat :=
  match rest1 with
  | c :: cs => if c = o.dp then ((takeDigits r cs).1, (takeDigits r cs).2, pos1 + 1 + (takeDigits r cs).1.length) else ([], rest1, pos1)
  | [] => ([], rest1, pos1)

/-- the exponent-sign step of `Spec.parseNumberStd` (`pos2` = position of the exponent character) -/
def stdExpSign (cs : List Nat) (pos2 : Nat) : Bool × List Nat × Nat :=
  match cs with
  | 43 :: t => (false, t, pos2 + 2)
  | 45 :: t => (true, t, pos2 + 2)
  | _ => (false, cs, pos2 + 1)

/-- `Spec.parseNumberStd` after the fraction step `x`: the mantissa-digit test and the exponent -/
def stdTail (er : Nat) (o : POpts) (neg : Bool) (ids : List Nat) (x : List Nat × List Nat × Nat) : FRes :=
  if ids.length + x.1.length = 0 then .err
  else match x.2.1 with
    | c :: cs =>
      if eqUncased c o.exp then
        if (takeDigits er (stdExpSign cs x.2.2).2.1).1.isEmpty then .err
        else .num ⟨neg, ids, x.1, if (stdExpSign cs x.2.2).1 then -(ofDigits er (takeDigits er (stdExpSign cs x.2.2).2.1).1 : Int)
             else (ofDigits er (takeDigits er (stdExpSign cs x.2.2).2.1).1 : Int)⟩
              ((stdExpSign cs x.2.2).2.2 + (takeDigits er (stdExpSign cs x.2.2).2.1).1.length)
      else .num ⟨neg, ids, x.1, 0⟩ x.2.2
    | [] => .num ⟨neg, ids, x.1, 0⟩ x.2.2

theorem parseNumberStd_stages (r er : Nat) (o : POpts) (neg : Bool) (pos : Nat) (s : List Nat) :
    parseNumberStd r er o neg pos s =
      stdTail er o neg (takeDigits r s).1 (stdFrac r o (takeDigits r s).2 (pos + (takeDigits r s).1.length)) := by
  rfl

/-- accepted, having consumed exactly `n` bytes (what `Spec.parseStdComplete` asks of `parseStd`) -/
def okAt (n : Nat) : FRes → Bool
  | .num _ m => m = n | .nan m => m = n | .inf _ m => m = n | .err => false

theorem takeDigits_length (r : Nat) : ∀ s : List Nat,
    (takeDigits r s).1.length + (takeDigits r s).2.length = s.length := by
  intro s
  induction s with
  | nil => simp [takeDigits]
  | cons c cs ih =>
    unfold takeDigits
    split
    · simp only [List.length_cons]; omega
    · simp

theorem frac_std (y : Syn) (o : POpts) (rest1 : List Nat) (pos1 : Nat) :
    stdFrac y.radix o rest1 pos1 =
      ((splitFraction y o rest1).2.1, (splitFraction y o rest1).2.2,
        pos1 + rest1.length - (splitFraction y o rest1).2.2.length) ∧
    (splitFraction y o rest1).2.2.length ≤ rest1.length := by
  cases rest1 with
  | nil => simp [stdFrac, splitFraction]
  | cons c cs =>
    have l := takeDigits_length y.radix cs
    by_cases hc : c = o.dp
    · simp only [stdFrac, splitFraction, hc, if_true, List.length_cons]
      refine ⟨?_, by omega⟩
      congr 2; omega
    · simp [stdFrac, splitFraction, hc]

theorem splitSign_length_le (l : List Nat) : (splitSign l).2.length ≤ l.length := by
  unfold splitSign
  split <;> simp

theorem expSign_std (cs : List Nat) (pos2 : Nat) :
    stdExpSign cs pos2 = ((splitSign cs).1 == some true, (splitSign cs).2,
      pos2 + 1 + cs.length - (splitSign cs).2.length) := by
  unfold stdExpSign splitSign
  split
  · simp; omega
  · simp; omega
  · split <;> simp_all

theorem splitExponent_rest_le (y : Syn) (o : POpts) (l : List Nat) :
    (splitExponent y o l).2.2.2.length ≤ l.length := by
  cases l with
  | nil => simp [splitExponent]
  | cons c cs =>
    have := takeDigits_length y.expRadix (splitSign cs).2
    have := splitSign_length_le cs
    by_cases h : matchByte y.csExp o.exp c = true
    · simp only [splitExponent, h, if_true, List.length_cons]; omega
    · simp [splitExponent, h]

theorem tail_std (y : Syn) (he : y.csExp = false) (o : POpts) (neg : Bool) (ids fds rest2 : List Nat) (pos2 : Nat) :
    stdTail y.expRadix o neg ids (fds, rest2, pos2) =
      if ((ids.isEmpty && fds.isEmpty) ||
          ((splitExponent y o rest2).1 && (splitExponent y o rest2).2.2.1.isEmpty)) = true then .err
      else .num ⟨neg, ids, fds, if (splitExponent y o rest2).2.1 == some true
          then -(ofDigits y.expRadix (splitExponent y o rest2).2.2.1 : Int)
          else (ofDigits y.expRadix (splitExponent y o rest2).2.2.1 : Int)⟩
        (pos2 + (rest2.length - (splitExponent y o rest2).2.2.2.length)) := by
  have hz : (ids.length + fds.length = 0) ↔ (ids.isEmpty && fds.isEmpty) = true := by
    cases ids <;> cases fds <;> simp
  unfold stdTail
  simp only [hz]
  cases rest2 with
  | nil => simp [splitExponent, ofDigits]
  | cons c cs =>
    have hm : matchByte y.csExp o.exp c = eqUncased c o.exp := by simp [matchByte, he]
    have hs2 := splitSign_length_le cs
    have l3 := takeDigits_length y.expRadix (splitSign cs).2
    simp only [splitExponent, hm, expSign_std cs pos2]
    by_cases hx : eqUncased c o.exp = true
    · simp only [hx, if_true, Bool.true_and, List.length_cons]
      by_cases h0 : (ids.isEmpty && fds.isEmpty) = true
      · simp [h0]
      · by_cases hE : (takeDigits y.expRadix (splitSign cs).2).1.isEmpty = true
        · simp [h0, hE]
        · simp only [h0, hE, if_false, Bool.false_eq_true, Bool.or_self]
          congr 1
          omega
    · simp [hx, ofDigits]

theorem splitPrefix_none (y : Syn) (h : y.pre = 0) (s : List Nat) : splitPrefix y s = (false, s) := by
  unfold splitPrefix
  split <;> simp [h]

theorem splitSuffix_none (y : Syn) (h : y.suf = 0) (s : List Nat) : splitSuffix y s = (false, s) := by
  unfold splitSuffix
  split <;> simp [h]

def okStd (p : Parts) : Bool :=
  p.rest.isEmpty && !(p.ints.isEmpty && p.fracs.isEmpty) && !(p.hasExp && p.exps.isEmpty)

theorem parseNumberStd_eq_split (y : Syn) (hp : y.pre = 0) (hs : y.suf = 0) (he : y.csExp = false)
    (o : POpts) (sign : Option Bool) (pos : Nat) (body : List Nat) :
    parseNumberStd y.radix y.expRadix o (sign == some true) pos body =
      (if (((splitNumber y o sign body).ints.isEmpty && (splitNumber y o sign body).fracs.isEmpty) ||
          ((splitNumber y o sign body).hasExp && (splitNumber y o sign body).exps.isEmpty)) = true then .err
      else .num ((splitNumber y o sign body).lit y)
        (pos + (body.length - (splitNumber y o sign body).rest.length))) ∧
    (splitNumber y o sign body).rest.length ≤ body.length := by
  have l1 := takeDigits_length y.radix body
  obtain ⟨hf1, hf2⟩ := frac_std y o (takeDigits y.radix body).2 (pos + (takeDigits y.radix body).1.length)
  have l4 := splitExponent_rest_le y o (splitFraction y o (takeDigits y.radix body).2).2.2
  rw [parseNumberStd_stages, hf1, tail_std y he]
  simp only [splitNumber, splitPrefix_none y hp, splitSuffix_none y hs, Parts.lit]
  generalize splitExponent y o (splitFraction y o (takeDigits y.radix body).2).2.2 = E at l4 ⊢
  obtain ⟨e1, e2, e3, e4⟩ := E
  simp only at l4 ⊢
  refine ⟨?_, by omega⟩
  split
  · rfl
  · congr 1
    omega

theorem okAt_number_std (y : Syn) (hp : y.pre = 0) (hs : y.suf = 0) (he : y.csExp = false)
    (o : POpts) (sign : Option Bool) (pos : Nat) (body : List Nat) :
    okAt (pos + body.length) (parseNumberStd y.radix y.expRadix o (sign == some true) pos body) =
      okStd (splitNumber y o sign body) := by
  obtain ⟨h, hle⟩ := parseNumberStd_eq_split y hp hs he o sign pos body
  rw [h]
  simp only [okStd, Bool.and_assoc, ← Bool.not_or]
  generalize (((splitNumber y o sign body).ints.isEmpty && (splitNumber y o sign body).fracs.isEmpty) ||
    ((splitNumber y o sign body).hasExp && (splitNumber y o sign body).exps.isEmpty)) = bad
  cases bad
  · cases hr : (splitNumber y o sign body).rest with
    | nil => simp [okAt]
    | cons a as =>
      rw [hr] at hle
      simp only [List.length_cons] at hle
      simp only [okAt, List.length_cons, List.isEmpty_cons, Bool.false_and, if_false, Bool.false_eq_true,
        decide_eq_false_iff_not]
      omega
  · simp [okAt]

theorem number_std (y : Syn) (hp : y.pre = 0) (hs : y.suf = 0) (he : y.csExp = false)
    (o : POpts) (sign : Option Bool) (pos : Nat) (body : List Nat) (h : okStd (splitNumber y o sign body) = true) :
    parseNumberStd y.radix y.expRadix o (sign == some true) pos body
      = .num ((splitNumber y o sign body).lit y) (pos + body.length) := by
  have hk := okAt_number_std y hp hs he o sign pos body
  rw [h, (parseNumberStd_eq_split y hp hs he o sign pos body).1] at hk
  rw [(parseNumberStd_eq_split y hp hs he o sign pos body).1]
  split at hk
  · cases hk
  · next hb => rw [if_neg hb]; simp only [okAt, decide_eq_true_eq] at hk; rw [hk]

/-- what the documentation demands of the special strings (options.rs: `nan_string` "must start with `N`",
`inf_string` / `infinity_string` with `I`, "`infinity_string` must be at least as long as `inf_string`");
only what the equality below needs -/
structure SpecialsWF (o : POpts) : Prop where
  nan_ne : o.nan ≠ some []
  inf_ne : o.inf ≠ some []
  infinity_ne : o.infinity ≠ some []
  nan_inf : ∀ a as b bs, o.nan = some (a :: as) → (o.inf = some (b :: bs) ∨ o.infinity = some (b :: bs)) →
    eqUncased a b = false
  inf_le : ∀ a b, o.inf = some a → o.infinity = some b → a.length ≤ b.length

def pfx (eq : Nat → Nat → Bool) : List Nat → List Nat → Bool
  | _, [] => true
  | [], _ :: _ => false
  | a :: as, b :: bs => eq a b && pfx eq as bs

theorem pfx_length (eq : Nat → Nat → Bool) : ∀ l t : List Nat, pfx eq l t = true → t.length ≤ l.length := by
  intro l
  induction l with
  | nil => intro t h; cases t <;> simp_all [pfx]
  | cons a as ih =>
    intro t h
    cases t with
    | nil => simp
    | cons b bs =>
      simp only [pfx, Bool.and_eq_true] at h
      have := ih bs h.2
      simp only [List.length_cons]; omega

theorem eqSpecial_pfx (cased : Bool) : ∀ l t : List Nat,
    eqSpecial cased l t = (pfx (fun a y => matchByte cased y a) l t && decide (t.length = l.length)) := by
  intro l
  induction l with
  | nil => intro t; cases t <;> simp [eqSpecial, pfx]
  | cons a as ih =>
    intro t
    cases t with
    | nil => simp [eqSpecial, pfx]
    | cons b bs => simp [eqSpecial, pfx, ih, Bool.and_assoc]

def pfxO (eq : Nat → Nat → Bool) (l : List Nat) : Option (List Nat) → Bool
  | some t => pfx eq l t
  | none => false
def lenO (l : List Nat) : Option (List Nat) → Bool
  | some t => decide (t.length = l.length)
  | none => false

/-- the decision order of `parse_positive_special` + the full-length test of `parse_special`:
NaN, then infinity, then inf; the first prefix match decides -/
def specFirst (eq : Nat → Nat → Bool) (o : POpts) (l : List Nat) : Option Bool :=
  if pfxO eq l o.nan then (if lenO l o.nan then some true else none)
  else if pfxO eq l o.infinity then (if lenO l o.infinity then some false else none)
  else if pfxO eq l o.inf then (if lenO l o.inf then some false else none)
  else none

/-- the declarative reading: the text *is* one of the strings -/
def specAny (eq : Nat → Nat → Bool) (o : POpts) (l : List Nat) : Option Bool :=
  if pfxO eq l o.nan && lenO l o.nan then some true
  else if (pfxO eq l o.inf && lenO l o.inf) || (pfxO eq l o.infinity && lenO l o.infinity) then some false
  else none

theorem pfx_head {eq : Nat → Nat → Bool} {a b : Nat} {as bs : List Nat} (h : pfx eq (a :: as) (b :: bs) = true) :
    eq a b = true := by
  simp only [pfx, Bool.and_eq_true] at h; exact h.1

/-- `p`: the prefix test, `l`: the length test, of NaN (`N`), infinity (`I`), inf (`F`) in the order tried -/
theorem first_eq_any : ∀ (pN lN pI lI pF lF : Bool), (pN = true → pI = false) → (pN = true → pF = false) →
    (pI = true → lI = false → lF = false) →
    (if pN then (if lN then some true else none)
      else if pI then (if lI then some false else none)
      else if pF then (if lF then some false else none) else none) =
    (if pN && lN then some true else if (pF && lF) || (pI && lI) then some false else none) := by
  decide

theorem specFirst_eq_specAny (eq : Nat → Nat → Bool)
    (heq : ∀ a x y, eq a x = true → eq a y = true → eqUncased x y = true)
    (o : POpts) (wf : SpecialsWF o) (l : List Nat) (hl : l ≠ []) : specFirst eq o l = specAny eq o l := by
  obtain ⟨a, as, rfl⟩ : ∃ a as, l = a :: as := by
    cases l with
    | nil => exact absurd rfl hl
    | cons a as => exact ⟨a, as, rfl⟩
  -- a NaN prefix match excludes any infinity prefix match: the first letters differ
  have hex : ∀ t, (o.inf = t ∨ o.infinity = t) → pfxO eq (a :: as) o.nan = true → pfxO eq (a :: as) t = false := by
    intro t ht hN
    rcases hnan : o.nan with _ | tn
    · rw [hnan] at hN; cases hN
    rcases t with _ | t
    · rfl
    rw [hnan] at hN
    cases tn with
    | nil => exact absurd hnan wf.nan_ne
    | cons n0 ns =>
      cases t with
      | nil => rcases ht with h | h; exact absurd h wf.inf_ne; exact absurd h wf.infinity_ne
      | cons t0 ts =>
        have h2 := wf.nan_inf n0 ns t0 ts hnan ht
        cases h : pfx eq (a :: as) (t0 :: ts) with
        | false => exact h
        | true =>
          have := heq a n0 t0 (pfx_head hN) (pfx_head h)
          rw [this] at h2; cases h2
  -- an incomplete infinity match excludes a complete inf match: inf is not longer
  have hex2 : pfxO eq (a :: as) o.infinity = true → lenO (a :: as) o.infinity = false → lenO (a :: as) o.inf = false := by
    intro hI hL
    rcases hinfy : o.infinity with _ | ti
    · rw [hinfy] at hI; cases hI
    rcases hinf : o.inf with _ | tf
    · rfl
    rw [hinfy] at hI hL
    have := pfx_length eq _ ti hI
    have := wf.inf_le tf ti hinf hinfy
    simp only [lenO, decide_eq_false_iff_not] at hL ⊢
    omega
  exact first_eq_any _ _ _ _ _ _ (hex _ (.inr rfl)) (hex _ (.inl rfl)) hex2
def geq (cased : Bool) : Nat → Nat → Bool := fun a y => matchByte cased y a

theorem specialOf_eq_specAny (y : Syn) (hn : y.noSpecial = false) (o : POpts) (l : List Nat) :
    specialOf y o l = specAny (geq y.csSpecial) o l := by
  unfold specialOf specAny isSpecial
  rcases o.nan with _ | tn <;> rcases o.inf with _ | tf <;> rcases o.infinity with _ | ti <;>
    simp [hn, eqSpecial_pfx, pfxO, lenO] <;> rfl

theorem eqUncased_of_geq (cased : Bool) (a x y : Nat) (h1 : geq cased a x = true) (h2 : geq cased a y = true) :
    eqUncased x y = true := by
  unfold geq matchByte at h1 h2
  cases cased with
  | true =>
    simp only [if_true, decide_eq_true_eq] at h1 h2
    subst h1; subst h2; simp [eqUncased]
  | false =>
    simp only [Bool.false_eq_true, if_false, eqUncased, decide_eq_true_eq] at h1 h2 ⊢
    rw [← h1, ← h2]

theorem eqUncased_trans_false {a b c : Nat} (h1 : eqUncased a b = true) (h2 : eqUncased b c = false) :
    eqUncased a c = false := by
  simp only [eqUncased, decide_eq_true_eq, decide_eq_false_iff_not] at *
  rw [h1]; exact h2

theorem startsWithUncased_pfx : ∀ s t : List Nat, startsWithUncased s t = pfx (geq false) s t := by
  intro s
  induction s with
  | nil => intro t; cases t <;> rfl
  | cons a as ih =>
    intro t
    cases t with
    | nil => rfl
    | cons b bs => simp only [startsWithUncased, pfx, ih]; rfl

theorem special_std (y : Syn) (hn : y.noSpecial = false) (hc : y.csSpecial = false) (o : POpts) (wf : SpecialsWF o)
    (neg : Bool) (pos : Nat) (body : List Nat) (hb : body ≠ []) :
    (if okAt (pos + body.length) (parseSpecial o neg pos body) then parseSpecial o neg pos body else .err) =
      (match specialOf y o body with
        | some true => .nan (pos + body.length)
        | some false => .inf neg (pos + body.length)
        | none => .err) := by
  rw [specialOf_eq_specAny y hn, hc, ← specFirst_eq_specAny _ (eqUncased_of_geq false) o wf body hb]
  unfold parseSpecial specFirst
  simp only [startsWithUncased_pfx]
  rcases o.nan with _ | tn <;> rcases o.inf with _ | tf <;> rcases o.infinity with _ | ti <;>
    simp only [pfxO, lenO]
  · simp [okAt]
  · by_cases p : pfx (geq false) body ti = true <;> by_cases h : ti.length = body.length <;> simp [okAt, p, h]
  · by_cases p : pfx (geq false) body tf = true <;> by_cases h : tf.length = body.length <;> simp [okAt, p, h]
  · by_cases p : pfx (geq false) body ti = true <;> by_cases p' : pfx (geq false) body tf = true <;>
      by_cases h : ti.length = body.length <;> by_cases h' : tf.length = body.length <;> simp [okAt, p, p', h, h']
  · by_cases p : pfx (geq false) body tn = true <;> by_cases h : tn.length = body.length <;> simp [okAt, p, h]
  · by_cases p : pfx (geq false) body tn = true <;> by_cases p' : pfx (geq false) body ti = true <;>
      by_cases h : tn.length = body.length <;> by_cases h' : ti.length = body.length <;> simp [okAt, p, p', h, h']
  · by_cases p : pfx (geq false) body tn = true <;> by_cases p' : pfx (geq false) body tf = true <;>
      by_cases h : tn.length = body.length <;> by_cases h' : tf.length = body.length <;> simp [okAt, p, p', h, h']
  · by_cases p : pfx (geq false) body tn = true <;> by_cases p' : pfx (geq false) body ti = true <;>
      by_cases p'' : pfx (geq false) body tf = true <;> by_cases h : tn.length = body.length <;>
      by_cases h' : ti.length = body.length <;> by_cases h'' : tf.length = body.length <;>
      simp [okAt, p, p', p'', h, h', h'']

/-- the sign step of `Spec.parseStd`: sign, rest, position -/
def stdSign (s : List Nat) : Bool × List Nat × Nat :=
  match s with
  | 43 :: cs => (false, cs, 1)
  | 45 :: cs => (true, cs, 1)
  | _ => (false, s, 0)

theorem parseStdComplete_stages (r er : Nat) (o : POpts) (s : List Nat) :
    parseStdComplete r er o s =
      if (stdSign s).2.1.isEmpty then .err
      else if okAt s.length (parseNumberStd r er o (stdSign s).1 (stdSign s).2.2 (stdSign s).2.1) then
        parseNumberStd r er o (stdSign s).1 (stdSign s).2.2 (stdSign s).2.1
      else if okAt s.length (parseSpecial o (stdSign s).1 (stdSign s).2.2 (stdSign s).2.1) then
        parseSpecial o (stdSign s).1 (stdSign s).2.2 (stdSign s).2.1
      else .err := by
  rfl

theorem stdSign_eq (s : List Nat) :
    stdSign s = ((splitSign s).1 == some true, (splitSign s).2, s.length - (splitSign s).2.length) := by
  unfold stdSign splitSign
  split
  · simp
  · simp
  · split <;> simp_all

/-- the standard flags, for any radices (STANDARD, `from_radix`, mixed-base formats) -/
def stdSyn (r er : Nat) : Syn := { radix := r, expRadix := er }

theorem numberOk_std (r er : Nat) (p : Parts) : numberOk (stdSyn r er) p = okStd p := by
  simp [numberOk, stdSyn, signOk, okStd]

theorem eqSpecial_nil (cased : Bool) (t : List Nat) (ht : t ≠ []) : eqSpecial cased [] t = false := by
  cases t with
  | nil => exact absurd rfl ht
  | cons a as => rfl

theorem specialOf_nil (y : Syn) (o : POpts) (wf : SpecialsWF o) : specialOf y o [] = none := by
  have h : ∀ str : Option (List Nat), str ≠ some [] → isSpecial y str [] = false := by
    intro str hne
    cases str with
    | none => rfl
    | some t =>
      have : t ≠ [] := fun e => hne (by rw [e])
      simp [isSpecial, eqSpecial_nil _ t this]
  simp [specialOf, h _ wf.nan_ne, h _ wf.inf_ne, h _ wf.infinity_ne]

theorem parseStdComplete_split (r er : Nat) (o : POpts) (s : List Nat) :
    parseStdComplete r er o s =
      if (splitSign s).2.isEmpty then .err
      else if okStd (splitNumber (stdSyn r er) o (splitSign s).1 (splitSign s).2) then
        .num ((splitNumber (stdSyn r er) o (splitSign s).1 (splitSign s).2).lit (stdSyn r er)) s.length
      else if okAt s.length
          (parseSpecial o ((splitSign s).1 == some true) (s.length - (splitSign s).2.length) (splitSign s).2) then
        parseSpecial o ((splitSign s).1 == some true) (s.length - (splitSign s).2.length) (splitSign s).2
      else .err := by
  rw [parseStdComplete_stages]
  have hs2 := splitSign_length_le s
  rw [stdSign_eq s]
  generalize splitSign s = sg at hs2 ⊢
  obtain ⟨sign, body⟩ := sg
  simp only at hs2 ⊢
  have hpos : s.length - body.length + body.length = s.length := by omega
  have hk := okAt_number_std (stdSyn r er) rfl rfl rfl o sign (s.length - body.length) body
  have hn := number_std (stdSyn r er) rfl rfl rfl o sign (s.length - body.length) body
  rw [hpos] at hk hn
  change okAt _ (parseNumberStd r er o _ _ _) = _ at hk
  change _ → parseNumberStd r er o _ _ _ = _ at hn
  rw [hk]
  cases hok : okStd (splitNumber (stdSyn r er) o sign body) with
  | true => rw [hn hok]
  | false => rfl

/-- the number half of `grammarFloatSyn_std`: it asks nothing of the special strings -/
theorem parseStdComplete_of_grammar_num (r er : Nat) (o : POpts) (s : List Nat) (l : FloatLit) (n : Nat)
    (h : grammarFloatSyn (stdSyn r er) o s = .num l n) : parseStdComplete r er o s = .num l n := by
  rw [parseStdComplete_split, ← h]
  unfold grammarFloatSyn at h ⊢
  simp only [numberOk_std] at h ⊢
  cases hok : okStd (splitNumber (stdSyn r er) o (splitSign s).1 (splitSign s).2) with
  | true =>
    have hbody : (splitSign s).2.isEmpty = false := by
      cases hb : (splitSign s).2 with
      | nil => simp [hb, okStd, splitNumber, splitPrefix, takeDigits, splitFraction, splitExponent, splitSuffix] at hok
      | cons b bs => rfl
    cases s with
    | nil => simp at h
    | cons c cs => simp [hbody]
  | false =>
    -- not a number for the grammar either: its answer is a special value or an error
    rw [hok] at h
    cases s with
    | nil => simp at h
    | cons c cs =>
      simp only [List.isEmpty_cons, Bool.false_eq_true, if_false] at h
      split at h
      · split at h <;> cases h
      · cases h

/-- **`Spec.Grammar` under the standard flags is the flag-free grammar `Spec.parseStdComplete`**, on every input -/
theorem grammarFloatSyn_std (r er : Nat) (o : POpts) (wf : SpecialsWF o) (s : List Nat) :
    grammarFloatSyn (stdSyn r er) o s = parseStdComplete r er o s := by
  rw [parseStdComplete_split]
  have hs2 := splitSign_length_le s
  unfold grammarFloatSyn
  simp only [numberOk_std]
  cases s with
  | nil => simp [splitSign]
  | cons c cs =>
    simp only [List.isEmpty_cons, Bool.false_eq_true, if_false]
    have hso : signOk (stdSyn r er).noPosMant (stdSyn r er).reqMantSign (splitSign (c :: cs)).1 = true := by
      simp [signOk, stdSyn]
    simp only [hso, if_true]
    generalize hsg : splitSign (c :: cs) = sg at hs2 ⊢
    obtain ⟨sign, body⟩ := sg
    simp only at hs2 ⊢
    have hpos : (c :: cs).length - body.length + body.length = (c :: cs).length := by omega
    cases hok : okStd (splitNumber (stdSyn r er) o sign body) with
    | true =>
      cases body with
      | nil => simp [okStd, splitNumber, splitPrefix, takeDigits, splitFraction, splitExponent, splitSuffix] at hok
      | cons b bs => simp
    | false =>
      -- an empty body is no special string; on any other the scanner's ordered tries are `specialOf` (`special_std`)
      simp only [Bool.false_eq_true, if_false]
      cases body with
      | nil =>
        have : specialOf (stdSyn r er) o [] = none := specialOf_nil _ o wf
        simp [this]
      | cons b bs =>
        have := special_std (stdSyn r er) rfl rfl o wf (sign == some true) ((c :: cs).length - (b :: bs).length)
          (b :: bs) (by simp)
        rw [hpos] at this
        simp only [List.isEmpty_cons, Bool.false_eq_true, if_false]
        rw [this]
        rfl

theorem syn_of_noformat (feats : Features) (f : Format) (h : feats.format = false) :
    Syn.of feats f = stdSyn f.mantissaRadix f.exponentRadix := by
  simp [Syn.of, h, stdSyn]

theorem flagBits_bit (f : Format) (h : f.flagBits = 12) (i : Nat) (hi : i < 64) :
    f.bit i = (i == 2 || i == 3) := by
  have hpow : 2 ^ 64 = 2 ^ i * 2 ^ (64 - i) := by rw [← Nat.pow_add]; congr 1; omega
  have key : f.raw / 2 ^ i % 2 = 12 / 2 ^ i % 2 := by
    have h' : f.raw % 2 ^ 64 = 12 := h
    have e1 : f.raw = 2 ^ 64 * (f.raw / 2 ^ 64) + 12 := by
      have := Nat.div_add_mod f.raw (2 ^ 64); omega
    rw [e1, hpow, Nat.mul_assoc, Nat.mul_add_div (Nat.two_pow_pos i)]
    have h2 : 2 ^ (64 - i) = 2 * 2 ^ (64 - i - 1) := by
      rw [← Nat.pow_succ']; congr 1; omega
    rw [h2, Nat.mul_assoc, Nat.mul_add_mod]
  unfold Format.bit
  rw [key]
  have all : ∀ j, j < 64 → decide (12 / 2 ^ j % 2 = 1) = (j == 2 || j == 3) := by decide
  exact all i hi

theorem syn_of_plain (feats : Features) (f : Format) (h : f.flagBits = 12) (hp : f.basePrefix = 0)
    (hs : f.baseSuffix = 0) : Syn.of feats f = stdSyn f.mantissaRadix f.exponentRadix := by
  cases hf : feats.format with
  | false => exact syn_of_noformat feats f hf
  | true =>
    simp [Syn.of, hf, stdSyn, hp, hs, Format.requiredIntegerDigits, Format.requiredFractionDigits,
      Format.requiredExponentDigits, Format.requiredMantissaDigits, Format.noPositiveMantissaSign,
      Format.requiredMantissaSign, Format.noExponentNotation, Format.noPositiveExponentSign,
      Format.requiredExponentSign, Format.noExponentWithoutFraction, Format.noSpecial, Format.caseSensitiveSpecial,
      Format.noIntegerLeadingZeros, Format.noFloatLeadingZeros, Format.requiredExponentNotation,
      Format.caseSensitiveExponent, Format.caseSensitiveBasePrefix, Format.caseSensitiveBaseSuffix,
      flagBits_bit f h]
end LexVerif.Proof.Grammar
