import LexVerif.Proof.SepCounterpart
/-!
# C12 (continued) — acceptance vs. the documented grammar for formats WITH digit separators

`Props/C12.lean` states `accepts_iff_grammar_partial` for formats without digit separator and base prefix. The phases of
`parse_number` have their closed forms on every input without the separator byte, whatever components carry separator
flags (`Proof/SepFreePhases.lean`), and `Proof.Grammar.parseFloatSyntax_grammar` compares those closed forms with the
grammar (`StdIn`). So the digit-separator exclusion of `accepts_iff_grammar_partial` falls on the scope of C12
(separator-free inputs): `accepts_iff_grammar_sep_partial`. The documented grammar does not look at separators
(`cfgSyn_plainOf`), so the grammar side is that of the separator-free counterpart `plainOf c`.
Excluded: formats with a base prefix, empty input / bare sign.
-/
namespace LexVerif.Props.C12
open LexVerif LexVerif.Model LexVerif.Spec LexVerif.Proof.Grammar LexVerif.Proof.Sep

theorem cfgSyn_plainOf (c : Cfg) : cfgSyn (plainOf c) = cfgSyn c := syn_clearSep c.feats c.fmt

/-- the scope of C12 in the model's terms -/
theorem noSep_of_separatorFree (c : Cfg) (s : List Nat) (h : separatorFree c.fmt s = true) : NoSep c s := by
  intro x hx
  unfold separatorFree at h
  unfold Cfg.isSep Cfg.digitSeparator
  cases hf : c.feats.format
  · simp
  · simp only [if_true]
    simp only [Bool.or_eq_true, decide_eq_true_eq, Bool.not_eq_true', List.contains_eq_mem,
      decide_eq_false_iff_not] at h
    rcases h with h | h
    · simp [h]
    · have : x ≠ c.fmt.digitSeparator := fun e => h (e ▸ hx)
      simp [this]

/-- `accepts_iff_grammar`, proved part, for every format without base prefix — digit separator byte and
separator flags on any components allowed (`hk`: no component has the consecutive flag alone; `hr8`: without the
`power-of-two` feature the radix is at most 10; `format.is_valid()` guarantees both), inputs without the separator byte
(the scope of C12), release build:
accepted ⇒ `Verdict` (the grammar derives the whole input and the `Number` carries the derivation's sign, digit
slices and exponent as the implementation accumulates it, `expValue`, or the same special value); rejected with an
`Error` ⇒ the grammar rejects. -/
theorem accepts_iff_grammar_sep_partial (c : Cfg) (hd : c.debug = false) (hk : ∀ k, c.skip k ≠ .unreachable)
    (hpre : c.basePrefix = 0) (hr8 : c.feats.powerOfTwo = false → c.mantissaRadix ≤ 10)
    (o : POpts) (wf : SpecialsWF o) (hlet : LettersOnly o) (s : List Nat) (hb : ∀ x ∈ s, x < 256) (fv : Bool)
    (hbody : (splitSign s).2 ≠ []) (hn : separatorFree c.fmt s = true) :
    (∀ p, parseFloatSyntax c o false s fv = .ok p → Verdict c o s p) ∧
    (∀ k i, parseFloatSyntax c o false s fv = .error (.err k i) →
      grammarFloatComplete c.feats c.fmt o s = .err) :=
  parseFloatSyntax_grammar o wf hlet s ⟨noSep_of_separatorFree c s hn, hb, ⟨hd, hk, hr8⟩, hpre, byteAt_lt c.fmt 104,
    exponentRadix_le c.fmt⟩ fv hbody

/-- non-vacuity: `sepmix_frac_i` (separator `_`, fraction-internal flag only) satisfies the hypotheses; it accepts
`12345678` and rejects `1e` -/
example : cfgSepFracI.debug = false ∧ (∀ k, cfgSepFracI.skip k ≠ .unreachable) ∧ cfgSepFracI.basePrefix = 0 ∧
    separatorFree cfgSepFracI.fmt [49, 50, 51, 52, 53, 54, 55, 56] = true ∧
    modelAccepts cfgSepFracI {} [49, 50, 51, 52, 53, 54, 55, 56] = true ∧
    modelAccepts cfgSepFracI {} [49, 101] = false := by
  refine ⟨rfl, ?_, by decide, by decide, by decide, by decide⟩
  intro k; cases k <;> decide

end LexVerif.Props.C12
