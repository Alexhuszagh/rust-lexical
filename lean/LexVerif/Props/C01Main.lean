import LexVerif.Props.C01
import LexVerif.Props.C05
import LexVerif.Props.C12
import LexVerif.Proof.Compose
import LexVerif.Proof.LitBits
/-!
# Props.C01Main — the dependency structure of C01, machine-checked

`Model.ParseFloatAlgo.parseFloatAlgoModel` is `parse_complete` / `parse_partial` with the numeric conversion of
`parse.rs` spelled out: syntax (`Model.ParseNumber`) → `try_fast_path` → `moderate_path` (Eisel–Lemire /
Bellerophon / `binary`, by feature set and radix) → `slow_path` → `to_native!`.  `slow_radix` (`slow.rs`,
`bigint.rs`) is a parameter `slow` of this file; `Props.C01Final` puts its model `slowModel` in.

`C01_main` states what the correctness of decimal parsing rests on, as three **named hypotheses**:

* `lemire_sound` (`Props.C01`; proved there: `lemire_sound_proved`): `compute_float` is right when it answers and
  brackets the value when it declines;
* `SlowPathCorrect slow`: given an invalid-marked estimate that brackets the exact value of the digits, `slow_radix`
  returns `roundNE` of that value (`slowOracle_correct`: the contract is satisfiable);
* `NumberExact`: what `Props.C12.accepts_iff_grammar_partial` (`Verdict`/`NumberIs`) does **not** say about the
  `Number` — its `mantissa`/`exponent` words denote the same rational as its digit slices and explicit exponent
  (and fit `u64`/`i64`), for an untruncated mantissa. Nothing instantiates it as stated; what is proved is
  `Props.C01Number.number_exact_of_syntax`, with two side conditions it lacks (the decimal point is not a digit, the
  input is shorter than `2^60` bytes), and `Props.C01Final` uses that.

Conclusion: for every decimal format of the class covered by C12, every options record and every input whose `Number`
is untruncated (at most `u64_step = 19` significant digits), non-`compact` build,
`parseFloatAlgoModel = parseFloatModel`, i.e. the bits are `Spec.litBits` of the digit content
(`numberToFloat_lemire`: `… = litBits (numberLit n)`; by `Verdict`, `numberLit n` is the grammar's integer digits,
fraction digits and exponent).

The stages' contracts are composed for one `Number`, truncated or not, any radix, in `numberToFloat_value` (on the equations of
`Proof.Compose`).

Unconditional corollaries (no hypothesis left): `pipeline_fast_path` (inputs the fast path answers),
`pipeline_lemire_partial` (`LemirePartialDomain`), `pipeline_bellerophon_decided` (`compact`, Bellerophon answers),
`pipeline_binary` (power-of-two radices, untruncated: `binary` always decides).
-/

namespace LexVerif.Props.C01Main

open LexVerif.Spec LexVerif.Model LexVerif.Model.ParseFloatAlgo

open LexVerif.Proof.RoundNE LexVerif.Proof.ExtRound LexVerif.Proof.Pipeline LexVerif.Proof.Compose

open LexVerif.Props.C01 (lemire_sound IsLemireFloat IsI64 Bracket)

open LexVerif.Proof.Grammar (SpecialsWF LettersOnly)

/-- **`NumberExact`** — the part of "the syntax layer computes the right `Number`" that C12 leaves open
(`accepts_iff_grammar_partial` gives sign, digit slices and explicit exponent only): on the class of formats C12
covers, decimal, release build, every untruncated `Number` the syntax model produces is exact. -/
def NumberExact : Prop :=
  ∀ (c : Cfg) (o : POpts) (isPartial : Bool) (s : List Nat) (fv : Bool) (n : Number) (cnt : Nat),
    c.debug = false → (c.feats.format = false ∨ C12.SepPrefixFree c.fmt) →
    c.mantissaRadix = 10 → c.exponentBase = 10 →
    parseFloatSyntax c o isPartial s fv = .ok (.number n cnt) → n.manyDigits = false → NumberExactAt c n

/-- **`SlowPathCorrect`** — the contract of `slow_radix::<F, FORMAT>(num, fp)`: called with the un-biased
estimate of an invalid-marked moderate-path result `fp` that brackets the exact value of the digits of `num`
(`Props.C01.Bracket`: `b ≤ x < next(b)` for `b` = `fp` rounded down), it returns the float nearest to that value. -/
def SlowPathCorrect (slow : SlowRadix) : Prop :=
  ∀ (c : Cfg) (F : FTy) (n : Number) (fp : ExtendedFloat80), IsLemireFloat F →
    2 ≤ c.mantissaRadix → c.mantissaRadix ≤ 36 → 2 ≤ c.exponentBase → fp.exp < 0 →
    Bracket F fp (litFrac c.mantissaRadix c.exponentBase (numberLit c n)).1
      (litFrac c.mantissaRadix c.exponentBase (numberLit c n)).2 →
    extendedToFloat F (slow c F n { fp with exp := fp.exp - invalidFp }) =
      roundNE F.fmt (litFrac c.mantissaRadix c.exponentBase (numberLit c n)).1
        (litFrac c.mantissaRadix c.exponentBase (numberLit c n)).2

/-- what the moderate path owes the pipeline for one `Number`: it answers; a valid answer is the correctly rounded
`mantissa · base^exponent`; an invalid-marked one brackets it -/
def ModerateContract (c : Cfg) (F : FTy) (n : Number) : Prop :=
  ∃ fp, moderatePath c F (numOf n) false = .ok fp ∧
    (0 ≤ fp.exp → extendedToFloat F fp =
      roundNE F.fmt (powFrac c.exponentBase n.exponent n.mantissa).1 (powFrac c.exponentBase n.exponent n.mantissa).2) ∧
    (fp.exp < 0 → Bracket F fp (powFrac c.exponentBase n.exponent n.mantissa).1
      (powFrac c.exponentBase n.exponent n.mantissa).2)

/-- what the fast path owes the pipeline: no panic, and an answer is the correctly rounded signed value -/
def FastContract (c : Cfg) (F : FTy) (n : Number) : Prop :=
  FastPath.tryFastPath (smallSetOf c.feats) F c.mantissaRadix c.exponentBase (numOf n) ≠ .panic ∧
  ∀ v, FastPath.tryFastPath (smallSetOf c.feats) F c.mantissaRadix c.exponentBase (numOf n) = .some v →
    v = roundSigned F.fmt n.isNegative (powFrac c.exponentBase n.exponent n.mantissa).1
      (powFrac c.exponentBase n.exponent n.mantissa).2

theorem layout_of {F : FTy} (hF : IsLemireFloat F) : ∃ p eb, Layout F p eb := by
  rcases hF with h | h <;> subst h
  · exact ⟨_, _, layout_f64⟩
  · exact ⟨_, _, layout_f32⟩

theorem powFrac_den_pos {b : Nat} (hb : 0 < b) (e : Int) (m : Nat) : 0 < (powFrac b e m).2 :=
  powFrac_pos hb e m

theorem numberLit_digits_lt (c : Cfg) (n : Number) :
    ∀ d ∈ (numberLit c n).intDigits ++ (numberLit c n).fracDigits, d < c.mantissaRadix := by
  intro d hd
  rcases List.mem_append.mp hd with h | h
  · exact sliceDigits_lt c .integer n.integer d h
  · unfold numberLit at h
    simp only [] at h
    cases hf : n.fraction with
    | none => rw [hf] at h; simp at h
    | some fd => rw [hf] at h; exact sliceDigits_lt c .fraction fd d h

theorem litBits_numberLit {F : FTy} (hF : IsLemireFloat F) (c : Cfg) (hr : 2 ≤ c.mantissaRadix)
    (hr36 : c.mantissaRadix ≤ 36) (hb : 2 ≤ c.exponentBase) (n : Number) :
    litBits F.fmt c.mantissaRadix c.exponentBase (numberLit c n) =
      roundSigned F.fmt n.isNegative (valueOf c n).1 (valueOf c n).2 := by
  obtain ⟨p, eb, lay⟩ := layout_of hF
  exact litBits_exact lay hr (by omega) hb (numberLit c n) (numberLit_digits_lt c n)

theorem roundNE_words {F : FTy} (hF : IsLemireFloat F) (c : Cfg) (hr : 2 ≤ c.mantissaRadix) (hb : 2 ≤ c.exponentBase)
    (n : Number) (hx : RatEq (powFrac c.exponentBase n.exponent n.mantissa) (valueOf c n)) :
    roundNE F.fmt (powFrac c.exponentBase n.exponent n.mantissa).1 (powFrac c.exponentBase n.exponent n.mantissa).2 =
      roundNE F.fmt (valueOf c n).1 (valueOf c n).2 := by
  obtain ⟨p, eb, lay⟩ := layout_of hF
  exact roundNE_congr' lay.wf (powFrac_den_pos (by omega) _ _) (valueOf_den_pos c (by omega) (by omega) n) hx

/-- what `parseFloatModel` prints for a `Number` is `roundSigned` of the digit content: by definition for a truncated
mantissa, and for an untruncated one as soon as its words denote that content -/
theorem numberBits_round {F : FTy} (hF : IsLemireFloat F) (c : Cfg) (hr : 2 ≤ c.mantissaRadix)
    (hr36 : c.mantissaRadix ≤ 36) (hb : 2 ≤ c.exponentBase) (n : Number)
    (hx : n.manyDigits = false → RatEq (powFrac c.exponentBase n.exponent n.mantissa) (valueOf c n)) :
    numberBits c F.fmt n = roundSigned F.fmt n.isNegative (valueOf c n).1 (valueOf c n).2 := by
  obtain ⟨p, eb, lay⟩ := layout_of hF
  rw [← litBits_numberLit hF c hr hr36 hb]
  unfold numberBits
  cases hmany : n.manyDigits with
  | true => rfl
  | false =>
    simp only [Bool.false_eq_true, if_false]
    rw [litBits_of_mantissa lay hr (by omega) hb, litBits_numberLit hF c hr hr36 hb]
    unfold roundSigned
    rw [roundNE_words hF c hr hb n (hx hmany)]

/-- the value the pipeline must produce, in the three forms used below: `roundSigned` of the digit content
= `litBits` of the digit content = `numberBits` (what `parseFloatModel` prints) -/
theorem spec_forms {F : FTy} (hF : IsLemireFloat F) (c : Cfg) (hr : 2 ≤ c.mantissaRadix) (hr36 : c.mantissaRadix ≤ 36)
    (hb : 2 ≤ c.exponentBase) (n : Number) (hmany : n.manyDigits = false)
    (hx : RatEq (powFrac c.exponentBase n.exponent n.mantissa)
      (litFrac c.mantissaRadix c.exponentBase (numberLit c n))) :
    roundSigned F.fmt n.isNegative (powFrac c.exponentBase n.exponent n.mantissa).1
        (powFrac c.exponentBase n.exponent n.mantissa).2 =
      litBits F.fmt c.mantissaRadix c.exponentBase (numberLit c n) ∧
    numberBits c F.fmt n = litBits F.fmt c.mantissaRadix c.exponentBase (numberLit c n) := by
  rw [litBits_numberLit hF c hr hr36 hb, numberBits_round hF c hr hr36 hb n (fun _ => hx)]
  unfold roundSigned
  rw [roundNE_words hF c hr hb n hx]
  exact ⟨rfl, rfl⟩

/-- **the pipeline for one `Number`**, truncated or not, any radix: if the words of an untruncated `Number` denote its
digit content (`hx`), the fast path meets its contract, the moderate path meets its contract for the digit content
(`Compose.ModerateOK`, handing `H` to the slow path) and the slow path resolves every invalid-marked answer with `H`,
`numberToFloat` returns what the specification prints. -/
theorem numberToFloat_value (slow : SlowRadix) {F : FTy} (hF : IsLemireFloat F) (c : Cfg)
    (hr : 2 ≤ c.mantissaRadix) (hr36 : c.mantissaRadix ≤ 36) (hb : 2 ≤ c.exponentBase) (n : Number)
    (hx : n.manyDigits = false → RatEq (powFrac c.exponentBase n.exponent n.mantissa) (valueOf c n))
    (hfast : n.manyDigits = false → FastContract c F n) {H : ExtendedFloat80 → Prop}
    (hmod : ModerateOK c F n (valueOf c n).1 (valueOf c n).2 H)
    (hslow : ∀ fp, moderatePath c F (numOf n) false = .ok fp → fp.exp < 0 → H fp →
      extendedToFloat F (slowPath slow c F n { fp with exp := fp.exp - invalidFp }) =
        roundNE F.fmt (valueOf c n).1 (valueOf c n).2) :
    numberToFloat slow c F n false = some (numberBits c F.fmt n) := by
  rw [numberBits_round hF c hr hr36 hb n hx]
  cases hmany : n.manyDigits with
  | true =>
    have hnone := fast_none_of_many (smallSetOf c.feats) F c.mantissaRadix c.exponentBase (numOf n) hmany
    exact numberToFloat_of_moderateOK slow (by rw [hnone]; simp) (fun v hv => by rw [hnone] at hv; cases hv) hmod hslow
  | false =>
    refine numberToFloat_of_moderateOK slow (hfast hmany).1 (fun v hv => ?_) hmod hslow
    rw [(hfast hmany).2 v hv]
    unfold roundSigned
    rw [roundNE_words hF c hr hb n (hx hmany)]

theorem ModerateContract.ok {F : FTy} (hF : IsLemireFloat F) {c : Cfg} (hr : 2 ≤ c.mantissaRadix)
    (hb : 2 ≤ c.exponentBase) {n : Number} (hmod : ModerateContract c F n)
    (hx : RatEq (powFrac c.exponentBase n.exponent n.mantissa) (valueOf c n)) :
    ModerateOK c F n (valueOf c n).1 (valueOf c n).2 (Bracket F · (valueOf c n).1 (valueOf c n).2) :=
  ModerateOK.imp hmod (roundNE_words hF c hr hb n hx) fun fp h => by
    unfold C01.Bracket at h ⊢
    rwa [roundNE_words hF c hr hb n hx] at h

theorem numberToFloat_of_contracts (slow : SlowRadix) {F : FTy} (hF : IsLemireFloat F) (c : Cfg)
    (hr : 2 ≤ c.mantissaRadix) (hr36 : c.mantissaRadix ≤ 36) (hb : 2 ≤ c.exponentBase)
    (n : Number) (hmany : n.manyDigits = false)
    (hx : RatEq (powFrac c.exponentBase n.exponent n.mantissa)
      (litFrac c.mantissaRadix c.exponentBase (numberLit c n)))
    (hfast : FastContract c F n) (hmod : ModerateContract c F n)
    (hslow : ∀ fp, moderatePath c F (numOf n) false = .ok fp → fp.exp < 0 →
      Bracket F fp (litFrac c.mantissaRadix c.exponentBase (numberLit c n)).1
        (litFrac c.mantissaRadix c.exponentBase (numberLit c n)).2 →
      extendedToFloat F (slowPath slow c F n { fp with exp := fp.exp - invalidFp }) =
        roundNE F.fmt (litFrac c.mantissaRadix c.exponentBase (numberLit c n)).1
          (litFrac c.mantissaRadix c.exponentBase (numberLit c n)).2) :
    numberToFloat slow c F n false = some (litBits F.fmt c.mantissaRadix c.exponentBase (numberLit c n)) := by
  rw [← (spec_forms hF c hr hr36 hb n hmany hx).2]
  exact numberToFloat_value slow hF c hr hr36 hb n (fun _ => hx) (fun _ => hfast) (hmod.ok hF hr hb hx) hslow

theorem smallSet_is (feats : Features) : C01.IsSmallSet (smallSetOf feats) := by
  unfold smallSetOf C01.IsSmallSet
  split
  · exact Or.inr (Or.inr rfl)
  · split
    · exact Or.inr (Or.inl rfl)
    · exact Or.inl rfl

theorem fastContract_decimal {F : FTy} (hF : IsLemireFloat F) (c : Cfg) (hr : c.mantissaRadix = 10) (n : Number) :
    FastContract c F n := by
  unfold FastContract
  rw [hr]
  refine ⟨C01.fastPath_no_panic (smallSet_is _) F hF _ _, ?_⟩
  intro v hv
  by_cases hb : (10 : Nat) = c.exponentBase
  · rw [← hb] at hv ⊢
    rcases hF with h | h <;> subst h
    · exact C01.fastPath_exact_f64 (smallSet_is _) 10 (numOf n) v hv
    · exact C01.fastPath_exact_f32 (smallSet_is _) 10 (numOf n) v hv
  · rw [C05.fastPath_mixed_base_none _ _ hb] at hv
    exact absurd hv (by simp)

theorem backend_lemire (feats : Features) (hc : feats.compact = false) : backend feats 10 = .lemire := by
  unfold backend
  rw [hc]
  simp only [Bool.false_eq_true, if_false, if_true]
  split
  · rfl
  · split <;> rfl

theorem lemire_untruncated (F : FTy) (n : Num) (hmany : n.manyDigits = false) :
    Lemire.lemire F n false = Lemire.computeFloat F n.exponent n.mantissa false := by
  unfold Lemire.lemire
  rw [hmany]
  cases Lemire.computeFloat F n.exponent n.mantissa false <;> simp

theorem moderatePath_lemire (c : Cfg) (hcompact : c.feats.compact = false) (hr : c.mantissaRadix = 10) (F : FTy)
    (n : Num) (lossy : Bool) : moderatePath c F n lossy = Lemire.lemire F n lossy :=
  moderatePath_of_lemire (by rw [hr]; exact backend_lemire _ hcompact) F n lossy

theorem moderatePath_computeFloat (c : Cfg) (hcompact : c.feats.compact = false) (hr : c.mantissaRadix = 10) (F : FTy)
    (n : Number) (hmany : n.manyDigits = false) :
    moderatePath c F (numOf n) false = Lemire.computeFloat F n.exponent n.mantissa false := by
  rw [moderatePath_lemire c hcompact hr, lemire_untruncated F (numOf n) hmany]
  rfl

theorem moderateContract_lemire (hL : lemire_sound) {F : FTy} (hF : IsLemireFloat F) (c : Cfg)
    (hcompact : c.feats.compact = false) (hr : c.mantissaRadix = 10) (hb : c.exponentBase = 10)
    (n : Number) (hmany : n.manyDigits = false) (hw : n.mantissa < 2 ^ 64) (hq : IsI64 n.exponent) :
    ModerateContract c F n := by
  obtain ⟨fp, h1, h2, h3⟩ := hL F hF n.exponent n.mantissa hq hw
  refine ⟨fp, ?_, ?_, ?_⟩
  · rw [moderatePath_computeFloat c hcompact hr F n hmany]
    exact h1
  · rw [hb]; exact h2
  · rw [hb]; exact h3

theorem slowPath_of_not_pow2 (slow : SlowRadix) (c : Cfg) (h : isPowerTwo c.mantissaRadix = false) (F : FTy) (n : Number)
    (fp : ExtendedFloat80) : slowPath slow c F n fp = slow c F n fp := by
  unfold slowPath
  rw [h, Bool.and_false]
  simp

/-- **C01 for one `Number`** (decimal, non-`compact`): under `lemire_sound` and `SlowPathCorrect`, an exact
untruncated `Number` is converted to `litBits` of its digit content. -/
theorem numberToFloat_lemire (hL : lemire_sound) (slow : SlowRadix) (hS : SlowPathCorrect slow)
    {F : FTy} (hF : IsLemireFloat F) (c : Cfg) (hcompact : c.feats.compact = false)
    (hr : c.mantissaRadix = 10) (hb : c.exponentBase = 10)
    (n : Number) (hmany : n.manyDigits = false) (hx : NumberExactAt c n) :
    numberToFloat slow c F n false = some (litBits F.fmt c.mantissaRadix c.exponentBase (numberLit c n)) := by
  obtain ⟨hw, hq, hre⟩ := hx
  apply numberToFloat_of_contracts slow hF c (by omega) (by omega) (by omega) n hmany hre
    (fastContract_decimal hF c hr n) (moderateContract_lemire hL hF c hcompact hr hb n hmany hw hq)
  intro fp _ hneg hbr
  rw [slowPath_of_not_pow2 slow c (by rw [hr]; decide)]
  exact hS c F n fp hF (by omega) (by omega) (by omega) hneg hbr

/-- whenever the moderate path *decides* and its answer is right, the slow path is not consulted -/
theorem numberToFloat_decided (slow : SlowRadix) {F : FTy} (hF : IsLemireFloat F) (c : Cfg)
    (hr : 2 ≤ c.mantissaRadix) (hr36 : c.mantissaRadix ≤ 36) (hb : 2 ≤ c.exponentBase)
    (n : Number) (hmany : n.manyDigits = false)
    (hx : RatEq (powFrac c.exponentBase n.exponent n.mantissa)
      (litFrac c.mantissaRadix c.exponentBase (numberLit c n)))
    (hfast : FastContract c F n) {fp : ExtendedFloat80} (hm : moderatePath c F (numOf n) false = .ok fp)
    (hv : 0 ≤ fp.exp)
    (hsound : extendedToFloat F fp = roundNE F.fmt (powFrac c.exponentBase n.exponent n.mantissa).1
      (powFrac c.exponentBase n.exponent n.mantissa).2) :
    numberToFloat slow c F n false = some (litBits F.fmt c.mantissaRadix c.exponentBase (numberLit c n)) := by
  apply numberToFloat_of_contracts slow hF c hr hr36 hb n hmany hx hfast
    ⟨fp, hm, fun _ => hsound, fun h => absurd h (by omega)⟩
  intro fp2 hm2 hneg _
  rw [hm] at hm2; injection hm2 with hm2; subst hm2; omega

/-- **(i) fast-path inputs** (decimal, every feature set, `lossy` or not): if `try_fast_path` answers, the API
result is `litBits` of the digit content. Assumption: IEEE hardware arithmetic (`Model.ExtFloat`). -/
theorem pipeline_fast_path (slow : SlowRadix) {F : FTy} (hF : IsLemireFloat F) (c : Cfg)
    (hr : c.mantissaRadix = 10) (hb : c.exponentBase = 10) (n : Number) (hmany : n.manyDigits = false)
    (hx : RatEq (powFrac c.exponentBase n.exponent n.mantissa)
      (litFrac c.mantissaRadix c.exponentBase (numberLit c n)))
    (lossy : Bool) {v : Nat}
    (hv : FastPath.tryFastPath (smallSetOf c.feats) F c.mantissaRadix c.exponentBase (numOf n) = .some v) :
    numberToFloat slow c F n lossy = some (litBits F.fmt c.mantissaRadix c.exponentBase (numberLit c n)) := by
  rw [numberToFloat_fast slow c F n lossy hv, (fastContract_decimal hF c hr n).2 v hv,
    (spec_forms hF c (by omega) (by omega) (by omega) n hmany hx).1]

/-- **(ii) Eisel–Lemire on its proved domain** (`LemirePartialDomain`: zero mantissa, beyond the exponent cut-offs,
exact-product range `0 ≤ q ≤ 27`): unconditional. -/
theorem pipeline_lemire_partial (slow : SlowRadix) {F : FTy} (hF : IsLemireFloat F) (c : Cfg)
    (hcompact : c.feats.compact = false) (hr : c.mantissaRadix = 10) (hb : c.exponentBase = 10)
    (n : Number) (hmany : n.manyDigits = false) (hx : NumberExactAt c n)
    (hdom : C01.LemirePartialDomain F n.exponent n.mantissa) :
    numberToFloat slow c F n false = some (litBits F.fmt c.mantissaRadix c.exponentBase (numberLit c n)) := by
  obtain ⟨hw, _, hre⟩ := hx
  obtain ⟨fp, e1, e2, e3⟩ := C01.lemire_sound_partial F hF n.exponent n.mantissa hw hdom
  apply numberToFloat_decided slow hF c (by omega) (by omega) (by omega) n hmany hre
    (fastContract_decimal hF c hr n) (fp := fp) ?_ e2 (by rw [hb]; exact e3)
  rw [moderatePath_computeFloat c hcompact hr F n hmany]
  exact e1

/-- **(ii′) Eisel–Lemire, every `q ≥ 0`, decided**: unconditional (`cfSound_all` — exact rows and the truncated
rows `28 ≤ q ≤ 308` by the stability argument). -/
theorem pipeline_lemire_nonneg (slow : SlowRadix) {F : FTy} (hF : IsLemireFloat F) (c : Cfg)
    (hcompact : c.feats.compact = false) (hr : c.mantissaRadix = 10) (hb : c.exponentBase = 10)
    (n : Number) (hmany : n.manyDigits = false) (hx : NumberExactAt c n) (hq0 : 0 ≤ n.exponent)
    {fp : ExtendedFloat80} (hcf : Lemire.computeFloat F n.exponent n.mantissa false = .ok fp) (hv : 0 ≤ fp.exp) :
    numberToFloat slow c F n false = some (litBits F.fmt c.mantissaRadix c.exponentBase (numberLit c n)) := by
  obtain ⟨hw, _, hre⟩ := hx
  apply numberToFloat_decided slow hF c (by omega) (by omega) (by omega) n hmany hre
    (fastContract_decimal hF c hr n) (fp := fp) ?_ hv
    (by rw [hb]; exact C01.cfSound_all F hF n.exponent n.mantissa hw fp hcf hv)
  rw [moderatePath_computeFloat c hcompact hr F n hmany]
  exact hcf

theorem backend_bellerophon_compact (feats : Features) (hc : feats.compact = true) :
    backend feats 10 = .bellerophon := by
  unfold backend
  rw [hc]
  have : isPowerTwo 10 = false := by decide
  simp only [if_true, this, Bool.false_eq_true, if_false]
  split <;> rfl

/-- **(iii) `compact` builds, decimal, Bellerophon decides**: unconditional (`bellerophon_sound_untruncated`). -/
theorem pipeline_bellerophon_decided (slow : SlowRadix) {F : FTy} (hF : IsLemireFloat F) (c : Cfg)
    (hcompact : c.feats.compact = true) (hr : c.mantissaRadix = 10) (hb : c.exponentBase = 10)
    (n : Number) (hmany : n.manyDigits = false) (hx : NumberExactAt c n) {fp : ExtendedFloat80}
    (hbel : Bellerophon.bellerophon F (Gen.Bellerophon.CompactRadix.powers 10) (numOf n) false = .ok fp)
    (hv : 0 ≤ fp.exp) :
    numberToFloat slow c F n false = some (litBits F.fmt c.mantissaRadix c.exponentBase (numberLit c n)) := by
  obtain ⟨hw, _, hre⟩ := hx
  apply numberToFloat_decided slow hF c (by omega) (by omega) (by omega) n hmany hre
    (fastContract_decimal hF c hr n) (fp := fp) ?_ hv
    (by rw [hb]; exact C01.bellerophon_sound_untruncated F hF (numOf n) hmany hw hbel hv)
  rw [moderatePath_of_bellerophon (by rw [hr]; exact backend_bellerophon_compact _ hcompact), hr]
  unfold Bellerophon.powersOf
  rw [hcompact]
  exact hbel

theorem radixSet_of_pow2 (feats : Features) (hp : feats.powerOfTwo = true) : C05.IsRadixSet (smallSetOf feats) := by
  unfold smallSetOf C05.IsRadixSet
  split
  · exact Or.inr rfl
  · rw [hp, Bool.or_true]; exact Or.inl rfl

theorem pow2_mem_radices {S : Proof.Tables.SmallSet} (hS : C05.IsRadixSet S) {r : Nat} (hr : C05.IsPow2 r) :
    r ∈ S.radices := by
  rcases hS with h | h <;> subst h <;> rcases hr with h | h | h | h | h <;> subst h <;> decide

theorem fastContract_radix {F : FTy} (hF : IsLemireFloat F) (c : Cfg) (hS : C05.IsRadixSet (smallSetOf c.feats))
    (hr : c.mantissaRadix ∈ (smallSetOf c.feats).radices) (n : Number) : FastContract c F n := by
  unfold FastContract
  refine ⟨C05.fastPath_no_panic_radix hS hr F hF _ _, ?_⟩
  intro v hv
  by_cases hb : c.mantissaRadix = c.exponentBase
  · rw [← hb] at hv ⊢
    rcases hF with h | h <;> subst h
    · exact C05.fastPath_exact_radix_f64 hS hr _ (numOf n) v hv
    · exact C05.fastPath_exact_radix_f32 hS hr _ (numOf n) v hv
  · rw [C05.fastPath_mixed_base_none _ _ hb] at hv
    exact absurd hv (by simp)

theorem backend_binary (feats : Features) (hp : feats.powerOfTwo = true) {r : Nat} (hr : C05.IsPow2 r) :
    backend feats r = .binary := by
  unfold backend
  rw [hp]
  rcases hr with h | h | h | h | h <;> subst h <;> cases feats.compact <;> cases feats.radix <;> decide

/-- **power-of-two radices, untruncated mantissa, every exponent of `ExpWide`**: `binary` always decides and is right -/
theorem pipeline_binary_wide (slow : SlowRadix) {F : FTy} (hF : IsLemireFloat F) (c : Cfg)
    (hp : c.feats.powerOfTwo = true) (hr : C05.IsPow2 c.mantissaRadix) (hb : C05.IsPow2 c.exponentBase)
    (n : Number) (hmany : n.manyDigits = false) (hw : n.mantissa < 2 ^ 64) (he : LexVerif.Proof.BinaryWide.ExpWide n.exponent)
    (hx : RatEq (powFrac c.exponentBase n.exponent n.mantissa)
      (litFrac c.mantissaRadix c.exponentBase (numberLit c n))) :
    numberToFloat slow c F n false = some (litBits F.fmt c.mantissaRadix c.exponentBase (numberLit c n)) := by
  obtain ⟨p, eb, lay⟩ := layout_of hF
  have hS := radixSet_of_pow2 c.feats hp
  have hr2 : 2 ≤ c.mantissaRadix ∧ c.mantissaRadix ≤ 36 := by
    rcases hr with h | h | h | h | h <;> rw [h] <;> omega
  have hb2 : 2 ≤ c.exponentBase := by
    rcases hb with h | h | h | h | h <;> rw [h] <;> omega
  obtain ⟨fp, hbin, hval, hdec⟩ := LexVerif.Proof.BinaryWide.binary_total_wide lay hb (numOf n) false hw he
  exact numberToFloat_decided slow hF c hr2.1 hr2.2 hb2 n hmany hx
    (fastContract_radix hF c hS (pow2_mem_radices hS hr) n) (fp := fp)
    (by rw [moderatePath_of_binary (backend_binary _ hp hr)]; exact hbin) (hdec (Or.inl hmany)) (hval (hdec (Or.inl hmany)))

/-- **(iv) power-of-two radices** (2, 4, 8, 16, 32; mixed-base formats such as hex floats included), untruncated
mantissa: unconditional — `binary` always decides and is right (`pipeline_binary_wide`, of which this is the range `±2^27`); neither
`slow_binary` nor `slow_radix` is reached. -/
theorem pipeline_binary (slow : SlowRadix) {F : FTy} (hF : IsLemireFloat F) (c : Cfg)
    (hp : c.feats.powerOfTwo = true) (hr : C05.IsPow2 c.mantissaRadix) (hb : C05.IsPow2 c.exponentBase)
    (n : Number) (hmany : n.manyDigits = false) (hw : n.mantissa < 2 ^ 64) (he : C05.ExpInRange n.exponent)
    (hx : RatEq (powFrac c.exponentBase n.exponent n.mantissa)
      (litFrac c.mantissaRadix c.exponentBase (numberLit c n))) :
    numberToFloat slow c F n false = some (litBits F.fmt c.mantissaRadix c.exponentBase (numberLit c n)) :=
  pipeline_binary_wide slow hF c hp hr hb n hmany hw (LexVerif.Proof.BinaryWide.expWide_of he.1 he.2) hx

theorem ext_of_bits {F p eb} (lay : Layout F p eb) (x : Nat) (hx : x ≤ F.fmt.infBits) :
    extendedToFloat F ⟨x % 2 ^ F.ms, ((x / 2 ^ F.ms : Nat) : Int)⟩ = x := by
  have hf := lay.wf
  have hbits : F.C.bits.toNat = p + eb := by rw [lay.bits]; rfl
  have hlt : x < 2 ^ (p + eb) := by
    have h1 := infBits_lt_signBit hf
    rw [signBit_eq hf, lay.fmt] at h1
    simp only [] at h1
    have h2 : 2 ^ eb * 2 ^ (p - 1) ≤ 2 ^ (p + eb) := by
      rw [← Nat.pow_add]; exact Nat.pow_le_pow_right (by decide) (by omega)
    rw [lay.fmt] at hx
    omega
  rw [lay.msNat]
  have := ext_of_fields F (p - 1) (p + eb) lay.msNat hbits (x % 2 ^ (p - 1)) (x / 2 ^ (p - 1))
    (Nat.mod_lt _ (Nat.two_pow_pos _)) (by rw [Nat.div_add_mod']; exact hlt) lay.hp64
  rw [this, Nat.div_add_mod']

/-- **`SlowPathCorrect` is satisfiable**: the specification arithmetic itself, packaged as an extended float,
meets the contract (for every estimate — the bracket is what a *real* slow path needs, not the oracle). -/
theorem slowOracle_correct : SlowPathCorrect slowOracle := by
  intro c F n fp hF hr hr36 hb _ _
  obtain ⟨p, eb, lay⟩ := layout_of hF
  have hf := lay.wf
  unfold slowOracle
  simp only []
  have hdig : ∀ d ∈ ({ numberLit c n with neg := false } : FloatLit).intDigits ++
      ({ numberLit c n with neg := false } : FloatLit).fracDigits, d < c.mantissaRadix :=
    numberLit_digits_lt c n
  have e := litBits_exact lay hr (by omega) hb { numberLit c n with neg := false } hdig
  have hfr : litFrac c.mantissaRadix c.exponentBase { numberLit c n with neg := false } =
      litFrac c.mantissaRadix c.exponentBase (numberLit c n) := rfl
  rw [hfr] at e
  unfold roundSigned at e
  simp only [Bool.false_eq_true, if_false, Nat.add_zero] at e
  rw [e]
  exact ext_of_bits lay _ (roundNE_le_infBits hf _ (litFrac_den_pos (by omega) (by omega) _))

/-- non-vacuity of `NumberExact`'s conclusion and of the `hfew` premise: `12.5e3` parses to the `Number`
`125·10^2` with its slices `12`, `5` and explicit exponent `3`; the number is untruncated and exact. -/
example : parseFloatSyntax ⟨{}, Format.standard, false⟩ {} false [49, 50, 46, 53, 101, 51] =
      .ok (.number ⟨125, 2, false, false, [49, 50], some [53], 3⟩ 6) ∧
    NumberExactAt ⟨{}, Format.standard, false⟩ ⟨125, 2, false, false, [49, 50], some [53], 3⟩ := by
  refine ⟨by decide +kernel, by decide, ⟨by decide, by decide⟩, ?_⟩
  unfold RatEq
  decide +kernel

/-- the pipeline model evaluated (with the oracle in place of `slow_radix`): `12.5e3` takes the fast path,
`9007199254740993` (`2^53 + 1`, a tie Eisel–Lemire resolves), a negative zero -/
example : parseFloatAlgoModel slowOracle {} Format.standard {} false FTy.f64 [49, 50, 46, 53, 101, 51] =
      "ok 40c86a0000000000 -" ∧
    parseFloatAlgoModel slowOracle {} Format.standard {} false FTy.f64
      [57, 48, 48, 55, 49, 57, 57, 50, 53, 52, 55, 52, 48, 57, 57, 51] = "ok 4340000000000000 -" ∧
    parseFloatAlgoModel slowOracle {} Format.standard {} false FTy.f64 [45, 48, 46, 48, 101, 53] =
      "ok 8000000000000000 -" := by
  decide +kernel

/-- the two API models run the same validation and the same syntax pass: their lines are related by any reflexive
relation that relates the two renderings of every parsed `Number` (the option validation has passed by then) -/
theorem api_rel (P : String → String → Prop) (hrefl : ∀ a, P a a) (slow : SlowRadix) (feats : Features) (fmt : Format)
    (o : POpts) (isPartial : Bool) (F : FTy) (s : List Nat) (lossy : Bool)
    (h : isValidOptionsPunctuation feats fmt o.exp o.dp = true → ∀ n cnt,
      parseFloatSyntax ⟨feats, fmt, false⟩ o isPartial s (formatError feats fmt).isNone = .ok (.number n cnt) →
      P (renderParsed ⟨feats, fmt, false⟩ F.fmt isPartial (.number n cnt))
        (renderParsedAlgo slow ⟨feats, fmt, false⟩ F lossy isPartial (.number n cnt))) :
    P (parseFloatModel feats fmt o isPartial F.fmt s) (parseFloatAlgoModel slow feats fmt o isPartial F s lossy) := by
  unfold parseFloatAlgoModel parseFloatModel
  cases optionsError o with
  | some e => exact hrefl _
  | none =>
    simp only []
    split
    · exact hrefl _
    · split
      · exact hrefl _
      · rename_i hval
        split
        · exact hrefl _
        · cases hp : parseFloatSyntax ⟨feats, fmt, false⟩ o isPartial s (formatError feats fmt).isNone with
          | error e => exact hrefl _
          | ok q =>
            simp only []
            cases q with
            | zero k => exact hrefl _
            | special sp neg k => cases sp <;> exact hrefl _
            | number n cnt => exact h (by simpa using hval) n cnt hp

theorem parseFloatAlgoModel_eq (slow : SlowRadix) (feats : Features) (fmt : Format) (o : POpts) (isPartial : Bool)
    (F : FTy) (s : List Nat)
    (h : ∀ n cnt, parseFloatSyntax ⟨feats, fmt, false⟩ o isPartial s (formatError feats fmt).isNone =
        .ok (.number n cnt) →
      numberToFloat slow ⟨feats, fmt, false⟩ F n false = some (numberBits ⟨feats, fmt, false⟩ F.fmt n)) :
    parseFloatAlgoModel slow feats fmt o isPartial F s = parseFloatModel feats fmt o isPartial F.fmt s := by
  apply api_rel (fun a b => b = a) (fun _ => rfl)
  intro _ n cnt hp
  unfold renderParsedAlgo renderParsed
  simp only []
  rw [h n cnt hp]

/-- **`C01_main`** — decimal string→float, API level, non-`compact` builds: for every format of the class C12
covers, all options, complete and partial parser, and every input whose `Number` is untruncated,
`lemire_sound → SlowPathCorrect slow → NumberExact →` the pipeline model prints exactly what the specification
model prints (`Spec.litBits` of the digit content; errors and special values are shared syntax). -/
theorem C01_main (hL : lemire_sound) (slow : SlowRadix) (hS : SlowPathCorrect slow) (hN : NumberExact)
    (feats : Features) (hcompact : feats.compact = false) (fmt : Format)
    (hr : fmt.mantissaRadix = 10) (hb : fmt.exponentBase = 10)
    (hclass : feats.format = false ∨ C12.SepPrefixFree fmt)
    (o : POpts) {F : FTy} (hF : IsLemireFloat F) (isPartial : Bool) (s : List Nat)
    (hfew : ∀ n cnt, parseFloatSyntax ⟨feats, fmt, false⟩ o isPartial s (formatError feats fmt).isNone =
      .ok (.number n cnt) → n.manyDigits = false) :
    parseFloatAlgoModel slow feats fmt o isPartial F s = parseFloatModel feats fmt o isPartial F.fmt s := by
  apply parseFloatAlgoModel_eq
  intro n cnt hp
  have hmany := hfew n cnt hp
  have hx := hN ⟨feats, fmt, false⟩ o isPartial s _ n cnt rfl hclass hr hb hp hmany
  rw [numberToFloat_lemire hL slow hS hF ⟨feats, fmt, false⟩ hcompact hr hb n hmany hx]
  have hr' : (⟨feats, fmt, false⟩ : Cfg).mantissaRadix = 10 := hr
  have hb' : (⟨feats, fmt, false⟩ : Cfg).exponentBase = 10 := hb
  rw [(spec_forms hF ⟨feats, fmt, false⟩ (by omega) (by omega) (by omega) n hmany hx.2.2).2]

/-- `C01_main` with `lemire_sound` replaced by its two sub-lemmas (`lemire_sound_reduction`; both are proved in
`Props.C01`) -/
theorem C01_main_open (hneg : C01.LemireNegSound) (hfb : C01.LemireFallbackBrackets) (slow : SlowRadix)
    (hS : SlowPathCorrect slow) (hN : NumberExact)
    (feats : Features) (hcompact : feats.compact = false) (fmt : Format)
    (hr : fmt.mantissaRadix = 10) (hb : fmt.exponentBase = 10)
    (hclass : feats.format = false ∨ C12.SepPrefixFree fmt)
    (o : POpts) {F : FTy} (hF : IsLemireFloat F) (isPartial : Bool) (s : List Nat)
    (hfew : ∀ n cnt, parseFloatSyntax ⟨feats, fmt, false⟩ o isPartial s (formatError feats fmt).isNone =
      .ok (.number n cnt) → n.manyDigits = false) :
    parseFloatAlgoModel slow feats fmt o isPartial F s = parseFloatModel feats fmt o isPartial F.fmt s :=
  C01_main (C01.lemire_sound_reduction hneg hfb) slow hS hN feats hcompact fmt hr hb hclass o hF isPartial s hfew

/-- the same conclusion in the grammar's terms, complete parser: when the model accepts a number, the documented
grammar derives the input (`numberOk`), the `Number`'s slices are the derivation's integer and fraction digits,
its explicit exponent the derivation's, and the pipeline returns `litBits` of exactly that content. -/
theorem C01_main_grammar (hL : lemire_sound) (slow : SlowRadix) (hS : SlowPathCorrect slow) (hN : NumberExact)
    (c : Cfg) (hd : c.debug = false) (hcompact : c.feats.compact = false)
    (hr : c.mantissaRadix = 10) (hb : c.exponentBase = 10)
    (hclass : c.feats.format = false ∨ C12.SepPrefixFree c.fmt)
    (o : POpts) (wf : SpecialsWF o) (hlet : LettersOnly o) {F : FTy} (hF : IsLemireFloat F) (s : List Nat)
    (hbytes : ∀ x ∈ s, x < 256) (fv : Bool) (hbody : (splitSign s).2 ≠ [])
    (n : Number) (cnt : Nat) (hp : parseFloatSyntax c o false s fv = .ok (.number n cnt))
    (hmany : n.manyDigits = false) :
    LexVerif.Proof.Grammar.Verdict c o s (.number n cnt) ∧
    numberToFloat slow c F n false = some (litBits F.fmt 10 10 (numberLit c n)) := by
  have hr8 : c.feats.powerOfTwo = false → c.mantissaRadix ≤ 10 := fun _ => by omega
  refine ⟨(C12.accepts_iff_grammar_partial c hd hclass hr8 o wf hlet s hbytes fv hbody).1 _ hp, ?_⟩
  have hx := hN c o false s fv n cnt hd hclass hr hb hp hmany
  have := numberToFloat_lemire hL slow hS hF c hcompact hr hb n hmany hx
  rw [hr, hb] at this
  exact this

end LexVerif.Props.C01Main

namespace LexVerif.Props.C01Final

open LexVerif.Spec LexVerif.Model LexVerif.Model.ParseFloatAlgo LexVerif.Props.C01Main

/-- `parseFloatAlgoModel_eq` with the option validation available to the per-`Number` obligation -/
theorem parseFloatAlgoModel_eq_valid (slow : SlowRadix) (feats : Features) (fmt : Format) (o : POpts) (isPartial : Bool)
    (F : FTy) (s : List Nat)
    (h : isValidOptionsPunctuation feats fmt o.exp o.dp = true → ∀ n cnt,
      parseFloatSyntax ⟨feats, fmt, false⟩ o isPartial s (formatError feats fmt).isNone = .ok (.number n cnt) →
      numberToFloat slow ⟨feats, fmt, false⟩ F n false = some (numberBits ⟨feats, fmt, false⟩ F.fmt n)) :
    parseFloatAlgoModel slow feats fmt o isPartial F s = parseFloatModel feats fmt o isPartial F.fmt s := by
  apply api_rel (fun a b => b = a) (fun _ => rfl)
  intro hval n cnt hp
  unfold renderParsedAlgo renderParsed
  simp only []
  rw [h hval n cnt hp]

end LexVerif.Props.C01Final
