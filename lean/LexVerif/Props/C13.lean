import LexVerif.Proof.SepDigits
import LexVerif.Proof.SepFreeTop
import LexVerif.Proof.SepGenInsert
/-!
# C13 — digit separators (property theorems about `Model.Iter` / `Model.ParseNumber`)

* `peek_skips_only_separators`, `parse_digits_yields_nonseparators`: a skip iterator never alters a value by itself —
  what it skips are separator bytes, what it yields are the other bytes, in order.
* `sep_free_same` (R4): on inputs without the separator byte the model treats a separator format and its
  separator-free counterpart identically — for every valid format (`RelClass`: release build, no component with
  the consecutive flag alone, multi-digit fast paths for radix ≤ 10 only), whatever components carry separator
  flags; `sep_free_same_full` is proved (`sep_free_same_full_holds`). `sep_free_regression_*` are the inputs of finding
  `sep-format-uncounted-8digit-block` (separator flags on one component only, or on none), evaluated.
* `strip_preserves` (R1): for the class where every digit component skips every separator (I+L+T+C), an input accepted
  as a number is accepted, as the same number, after deleting the separators. `strip_preserves_full` (all formats) is
  neither proved nor refuted: `strip_witness_itc` refutes it only for `is_itc!` without the repair `Fix.itc`, and
  `Fix.itc` is `true`. `Props/C13Gen.lean` extends R1 to every flag combination of class `GenStrip`
  (`strip_preserves_all`; its I+T+C exclusion is met by `Fix.itc = true`), and R3 to the same classes under the
  documented position rules (`insert_preserves_doc`).
* `position_witness_*` / `position_fixed_*` (R2): separators at positions the flags do not enable, without and with the
  repairs `Fix.itc` / `Fix.ilc` (both `true`).
* `insert_preserves` (R3): the converse for the same class — separators inserted anywhere except directly in front of
  a sign keep the input accepted as the same number.
-/
namespace LexVerif.Props.C13
open LexVerif LexVerif.Model LexVerif.Spec LexVerif.Proof.Sep
open LexVerif.Props.C12 (Bytes.Valid)

/-- `DigitsIter::peek` of every component iterator, every format: the buffer is untouched, every byte the cursor
moved over is the digit separator, and the value returned is the byte under the new cursor. -/
theorem peek_skips_only_separators (c : Cfg) (k : Comp) (b b' : Bytes) (v : Option Nat) (hv : Bytes.Valid b)
    (hp : peek c k b = .ok (v, b')) :
    b'.slc = b.slc ∧ b.index ≤ b'.index ∧ (slice b.slc b.index b'.index).all c.isSep = true ∧
      v = b'.slc[b'.index]? := by
  have h := C12.peek_spec c k b b' v hv hp
  exact ⟨h.1, h.2.2.2.2.1, peek_skips c k b b' v hp, h.2.2.2.2.2.2⟩

/-- `parse_digits` over any skip iterator (release build; the separator is not a digit of `radix`, which
`format.is_valid()` guarantees): the digits handed to the callback are exactly the non-separator bytes of the
region the cursor moved over, in order. The iterator removes separators and nothing else. -/
theorem parse_digits_yields_nonseparators (c : Cfg) (k : Comp) (radix : Nat) (hd : c.debug = false)
    (hsep : ∀ x, c.isSep x = true → charToDigit x radix = none) (b b' : Bytes) (ds : List Nat)
    (hv : Bytes.Valid b) (h : parseDigits c k radix b = .ok (ds, b')) :
    (nonSep c (slice b.slc b.index b'.index)).map (fun x => charToDigit x radix) = ds.map some :=
  parseDigits_yields c k radix hd hsep b b' ds hv h

/-- non-vacuity: `1_2_` with I+L+T+C — the digits are those of the non-separator bytes -/
example :
    parseDigits ⟨{ format := true }, ⟨0xc + 0x5f * 2 ^ 64 + 0xfff * 2 ^ 32 + 10 * 2 ^ 104⟩, false⟩ .integer 10
      { slc := [49, 95, 50, 95], index := 0 } = .ok ([1, 2], { slc := [49, 95, 50, 95], index := 4, ic := 2 }) := by rfl

/-- R4 on the model. `c` is any valid format in the release build (`RelClass`: separator byte and separator flags
on any components, or none), `c'` has no separators (`PlainClass`) and agrees with `c` on every other parameter
(`Counterpart`). Then every input without the separator byte gets the same result — value, count, error kind and
index — from both, for the complete and the partial parser. -/
theorem sep_free_same (c c' : Cfg) (hS : RelClass c) (hP : PlainClass c') (hC : Counterpart c c')
    (o : POpts) (isPartial : Bool) (input : List Nat) (fv : Bool) (hn : NoSep c input) :
    parseFloatSyntax c' o isPartial input fv = parseFloatSyntax c o isPartial input fv :=
  parseFloatSyntax_same c c' hS hP hC o isPartial input fv hn

theorem sep_free_same_number (c c' : Cfg) (hS : RelClass c) (hP : PlainClass c') (hC : Counterpart c c')
    (isPartial : Bool) (o : POpts) (b : Bytes) (neg fv : Bool) (hn : NoSep c b.slc) :
    parseNumber c isPartial o b neg fv = parseNumber c' isPartial o b neg fv :=
  parseNumber_same c c' hS hP hC isPartial o b neg fv hn

/-- the full statement the property asks for: *every* format with separators against its counterpart -/
def sep_free_same_full : Prop :=
  ∀ (c c' : Cfg), c.debug = false → (∀ k, c.skip k ≠ .unreachable) → PlainClass c' → Counterpart c c' →
    ∀ (o : POpts) (isPartial : Bool) (input : List Nat), NoSep c input →
      parseFloatSyntax c' o isPartial input = parseFloatSyntax c o isPartial input

theorem relClass_of_counterpart (c c' : Cfg) (hd : c.debug = false) (hk : ∀ k, c.skip k ≠ .unreachable)
    (hP : PlainClass c') (hC : Counterpart c c') : RelClass c :=
  ⟨hd, hk, fun h => by rw [← hC.mantissaRadix]; exact hP.radix (by rw [hC.feats]; exact h)⟩

theorem sep_free_same_full_holds : sep_free_same_full :=
  fun c c' hd hk hP hC o isPartial input hn =>
    sep_free_same c c' (relClass_of_counterpart c c' hd hk hP hC) hP hC o isPartial input true hn

/-! ### concrete formats (radix 10, `_`, STANDARD syntax flags; feature set radix+format) -/

def feats : Features := { format := true, radix := true, powerOfTwo := true }
/-- `fmt bits` = STANDARD | '_' | the given separator flag bits (bit 0 = integer-internal … bit 11 = exponent-consecutive) -/
def cfgOf (sepBits : Nat) (sep : Nat := 0x5f) : Cfg := ⟨feats, ⟨0xc + sep * 2 ^ 64 + sepBits * 2 ^ 32 + 10 * 2 ^ 104⟩, false⟩
def cPlain : Cfg := cfgOf 0 0
def cIltc : Cfg := cfgOf 0xfff          -- I+L+T+C in all three components
def cIntI : Cfg := cfgOf 0x001          -- integer-internal only       (fmtcat: sepmix_int_i)
def cFracI : Cfg := cfgOf 0x002         -- fraction-internal only      (sepmix_frac_i)
def cExpI : Cfg := cfgOf 0x004          -- exponent-internal only      (sepmix_exp_i)
def cNone : Cfg := cfgOf 0x000          -- separator byte, no flags    (sepmix_none)
def cIntFracI : Cfg := cfgOf 0x003      -- integer+fraction internal, exponent none

theorem plain_class : PlainClass cPlain := by
  refine ⟨rfl, rfl, ?_, ?_⟩
  · intro k; cases k <;> rfl
  · intro h; cases h

theorem iltc_class : RelClass cIltc := by
  refine ⟨rfl, ?_, by decide⟩
  intro k; cases k <;> decide

theorem iltc_counterpart : Counterpart cIltc cPlain := by constructor <;> rfl

theorem intfrac_class : RelClass cIntFracI := by
  refine ⟨rfl, ?_, by decide⟩
  intro k; cases k <;> decide

theorem intfrac_counterpart : Counterpart cIntFracI cPlain := by constructor <;> rfl

/-- non-vacuity of `sep_free_same`: the I+L+T+C format and the integer+fraction-only format against STANDARD,
on `12345678.12345678e5` -/
example : parseFloatSyntax cPlain {} false [49,50,51,52,53,54,55,56,46,49,50,51,52,53,54,55,56,101,53]
    = parseFloatSyntax cIltc {} false [49,50,51,52,53,54,55,56,46,49,50,51,52,53,54,55,56,101,53] :=
  sep_free_same cIltc cPlain iltc_class plain_class iltc_counterpart {} false _ true (by unfold NoSep; decide)

example : ∃ n, parseFloatSyntax cIntFracI {} false [49,50,51,52,53,54,55,56,46,49,50,51,52,53,54,55,56,101,53]
    = .ok (.number n 19) ∧ n.mantissa = 1234567812345678 ∧ n.exponent = -3 := ⟨_, rfl, rfl, rfl⟩

/-! ### the inputs of finding `sep-format-uncounted-8digit-block`, evaluated

On each the separator format agrees with the separator-free counterpart, as `sep_free_same` proves in general; the
comment gives the result the finding recorded. -/

def numIs (r : Except Err Parsed) (cnt mant : Nat) (exp : Int) (frac : Option (List Nat)) : Bool :=
  match r with
  | .ok (.number n c) => c == cnt && n.mantissa == mant && n.exponent == exp && n.fraction == frac
  | _ => false

/-- fraction-only flags: `12345678` (no separator byte in it) — recorded: `InvalidDigit 0` -/
theorem sep_free_regression_frac_only :
    numIs (parseFloatSyntax cFracI {} false [49,50,51,52,53,54,55,56]) 8 12345678 0 none = true ∧
    numIs (parseFloatSyntax cPlain {} false [49,50,51,52,53,54,55,56]) 8 12345678 0 none = true := by decide

/-- integer-only flags: `.12345678` — recorded: `EmptyMantissa 9`; `1.123456789` — recorded: mis-scaled (exponent −1,
one-byte fraction slice) -/
theorem sep_free_regression_int_only :
    numIs (parseFloatSyntax cIntI {} false [46,49,50,51,52,53,54,55,56]) 9 12345678 (-8)
      (some [49,50,51,52,53,54,55,56]) = true ∧
    numIs (parseFloatSyntax cPlain {} false [46,49,50,51,52,53,54,55,56]) 9 12345678 (-8)
      (some [49,50,51,52,53,54,55,56]) = true ∧
    numIs (parseFloatSyntax cIntI {} false [49,46,49,50,51,52,53,54,55,56,57]) 11 1123456789 (-9)
      (some [49,50,51,52,53,54,55,56,57]) = true ∧
    numIs (parseFloatSyntax cPlain {} false [49,46,49,50,51,52,53,54,55,56,57]) 11 1123456789 (-9)
      (some [49,50,51,52,53,54,55,56,57]) = true := by decide

/-- exponent-only flags: `12345678` — recorded: `InvalidDigit 0` -/
theorem sep_free_regression_exp_only :
    numIs (parseFloatSyntax cExpI {} false [49,50,51,52,53,54,55,56]) 8 12345678 0 none = true := by decide

/-- separator byte without any flag: `12345678` — recorded: `InvalidDigit 0` -/
theorem sep_free_regression_no_flags :
    numIs (parseFloatSyntax cNone {} false [49,50,51,52,53,54,55,56]) 8 12345678 0 none = true := by decide

theorem fracI_class : RelClass cFracI := by
  refine ⟨rfl, ?_, by decide⟩
  intro k; cases k <;> decide

example : parseFloatSyntax cPlain {} true [49,50,51,52,53,54,55,56,57,46,49,50,51,52,53,54,55,56,57,120]
    = parseFloatSyntax cFracI {} true [49,50,51,52,53,54,55,56,57,46,49,50,51,52,53,54,55,56,57,120] :=
  sep_free_same cFracI cPlain fracI_class plain_class (by constructor <;> rfl) {} true _ true (by unfold NoSep; decide)

/-- R1 on the model, class I+L+T+C (`SkipAll`: every digit component skips every separator; no base prefix /
suffix; leading zeros allowed; STANDARD's required exponent / mantissa digits; neither the separator nor the decimal
point is a sign character): an input the complete parser accepts as a number is still accepted after all separator
bytes are deleted, as the same number — same mantissa, exponent, sign and digit slices up to separators — hence with the
same value. -/
theorem strip_preserves (c : Cfg) (hA : SkipAll c) (o : POpts) (hdp : o.dp ≠ 43 ∧ o.dp ≠ 45) (s : List Nat)
    (fv : Bool) (n : Number) (cnt : Nat) (f : Fmt) (h : parseFloatSyntax c o false s fv = .ok (.number n cnt)) :
    ∃ n', parseFloatSyntax c o false (nonSep c s) fv = .ok (.number n' (nonSep c s).length) ∧
      NumRel c n n' ∧ numberBits c f n' = numberBits c f n := by
  obtain ⟨n', h1, h2, h3⟩ := parseFloatSyntax_strip c hA o hdp s fv n cnt h
  exact ⟨n', h1, h2, numberBits_of_numRel c o (hA.stripClass o) f n n' h2 h3⟩

/-- the statement the property asks for: every format with separators (no exclusion) -/
def strip_preserves_full : Prop :=
  ∀ (c : Cfg), c.debug = false → (∀ k, c.skip k ≠ .unreachable) → ∀ (o : POpts) (s : List Nat) (n : Number) (cnt : Nat),
    parseFloatSyntax c o false s = .ok (.number n cnt) →
      ∃ n', parseFloatSyntax c o false (nonSep c s) = .ok (.number n' (nonSep c s).length) ∧
        n'.mantissa = n.mantissa ∧ n'.exponent = n.exponent

theorem iltc_skipAll : SkipAll cIltc := by
  refine ⟨rfl, by decide, by decide, by decide, by decide, rfl, rfl, rfl, rfl, rfl, rfl, rfl, by decide, by decide⟩

/-- non-vacuity: `-_1_2._5_e+_1_0_` is accepted by the I+L+T+C format -/
example : ∃ n, parseFloatSyntax cIltc {} false [45,95,49,95,50,46,95,53,95,101,43,95,49,95,48,95] = .ok (.number n 16) ∧
    n.mantissa = 125 ∧ n.exponent = 9 := ⟨_, rfl, rfl, rfl⟩

def cItc : Cfg := cfgOf 0xfc7           -- I+T+C without L   (sep_itc; RUST / SWIFT / OCAML literal formats)
def cIlc : Cfg := cfgOf 0xe3f           -- I+L+C without T   (sep_ilc)

def numIsM (r : Except Err Parsed) (cnt mant : Nat) : Bool :=
  match r with
  | .ok (.number n c) => c == cnt && n.mantissa == mant
  | _ => false

theorem numIsM_elim {r : Except Err Parsed} {cnt mant : Nat} (h : numIsM r cnt mant = true) :
    ∃ n, r = .ok (.number n cnt) ∧ n.mantissa = mant := by
  unfold numIsM at h
  split at h
  · next n c =>
    simp only [Bool.and_eq_true, beq_iff_eq] at h
    exact ⟨n, by rw [h.1], h.2⟩
  · cases h

/-- class I+T+C (no L). `Fix.itc` is `true`, so the first disjunct holds by definition; the second describes `is_itc!`
without the repair `fixes/C13-sep-itc-accepts-leading.diff`: `1._1234567890123456789` accepted with mantissa
5712345678901234567, the stripped `1.1234567890123456789` with 1123456789012345678 (the stored slice is re-scanned from
`prev = None`) -/
theorem strip_witness_itc :
    Fix.itc = true ∨
    (numIsM (parseFloatSyntax cItc {} false [49,46,95,49,50,51,52,53,54,55,56,57,48,49,50,51,52,53,54,55,56,57]) 22
      5712345678901234567 = true ∧
     numIsM (parseFloatSyntax cItc {} false [49,46,49,50,51,52,53,54,55,56,57,48,49,50,51,52,53,54,55,56,57]) 21
      1123456789012345678 = true) := by decide

/-- about `is_itc!` without the repair: the hypothesis contradicts the definition `Fix.itc := true` -/
theorem strip_preserves_full_false (hcur : Fix.itc = false) : ¬ strip_preserves_full := by
  intro h
  rcases strip_witness_itc with hf | ⟨w1, w2⟩
  · rw [hcur] at hf; cases hf
  obtain ⟨n, hn, hm⟩ := numIsM_elim w1
  obtain ⟨n2, hn2, hm2⟩ := numIsM_elim w2
  obtain ⟨n', h1, h2, _⟩ := h cItc rfl (by intro k; cases k <;> decide) {} _ n 22 hn
  have hs : nonSep cItc [49,46,95,49,50,51,52,53,54,55,56,57,48,49,50,51,52,53,54,55,56,57]
      = [49,46,49,50,51,52,53,54,55,56,57,48,49,50,51,52,53,54,55,56,57] := by decide
  rw [hs, hn2] at h1
  simp only [Except.ok.injEq, Parsed.number.injEq] at h1
  rw [← h1.1, hm, hm2] at h2
  cases h2

/-- R3 on the model, class I+L+T+C. `t` is accepted by the complete parser as a number and `s` arises from `t` by
inserting separator bytes anywhere except directly (through separators) in front of a sign character — for this
class that covers every leading / internal / trailing / consecutive position of every component. Then `s` is
accepted as the same number, hence with the same value. -/
theorem insert_preserves (c : Cfg) (hA : SkipAll c) (o : POpts) (t s : List Nat) (hst : nonSep c s = t)
    (hP : NoSepBeforeSign c s) (fv : Bool) (n' : Number) (cnt : Nat) (f : Fmt)
    (h : parseFloatSyntax c o false t fv = .ok (.number n' cnt)) :
    ∃ n, parseFloatSyntax c o false s fv = .ok (.number n s.length) ∧ NumRel c n n' ∧
      numberBits c f n = numberBits c f n' := by
  subst hst
  obtain ⟨n, h1, h2, h3⟩ := parseFloatSyntax_insert c hA o s hP fv n' cnt h
  exact ⟨n, h1, h2, (numberBits_of_numRel c o (hA.stripClass o) f n n' h2 h3).symm⟩

/-- the statement for every format: separators inserted at positions the flags enable (`Enabled` left abstract: any
predicate on (format, input) that implies the position rules of docs/DigitSeparators.md) -/
def insert_preserves_full (Enabled : Cfg → List Nat → Prop) : Prop :=
  ∀ (c : Cfg), c.debug = false → (∀ k, c.skip k ≠ .unreachable) → ∀ (o : POpts) (s : List Nat) (n' : Number) (cnt : Nat),
    Enabled c s → parseFloatSyntax c o false (nonSep c s) = .ok (.number n' cnt) →
      ∃ n, parseFloatSyntax c o false s = .ok (.number n s.length) ∧ n.mantissa = n'.mantissa ∧ n.exponent = n'.exponent

/-- non-vacuity: separators inserted into `-12.5e+10` at every kind of position -/
example : NoSepBeforeSign cIltc [45,95,49,95,50,46,95,53,95,101,43,95,49,95,48,95] :=
  noSepBeforeSign_of_B _ _ (by decide)

/-! ### separators accepted where the flags do not allow them (R2; reproduce on the implementation) -/

def acceptsNum (r : Except Err Parsed) : Bool :=
  match r with
  | .ok (.number _ _) => true
  | _ => false

/-- I+T+C, leading not enabled. `Fix.itc` is `true`, so the first disjunct holds by definition; the second says that
`is_itc!` without the repair accepts `+_1`, `1._5` (with it they are rejected: `position_fixed_itc`) -/
theorem position_witness_itc :
    Fix.itc = true ∨ (acceptsNum (parseFloatSyntax cItc {} false [43,95,49]) = true ∧
      acceptsNum (parseFloatSyntax cItc {} false [49,46,95,53]) = true) := by decide

theorem position_fixed_itc :
    Fix.itc = false ∨ (acceptsNum (parseFloatSyntax cItc {} false [43,95,49]) = false ∧
      acceptsNum (parseFloatSyntax cItc {} false [49,46,95,53]) = false ∧
      acceptsNum (parseFloatSyntax cItc {} false [49,95,50,46,53,95]) = true) := by decide

/-- I+L+C, trailing not enabled. `Fix.ilc` is `true`, so the first disjunct holds by definition; the second says that
`is_ilc!` without the repair fixes/C13-sep-ilc-accepts-trailing.diff accepts `1_`, `1.5_` (with it they are rejected:
`position_fixed_ilc`) -/
theorem position_witness_ilc :
    Fix.ilc = true ∨ (acceptsNum (parseFloatSyntax cIlc {} false [49,95]) = true ∧
      acceptsNum (parseFloatSyntax cIlc {} false [49,46,53,95]) = true) := by decide

theorem position_fixed_ilc :
    Fix.ilc = false ∨ (acceptsNum (parseFloatSyntax cIlc {} false [49,95]) = false ∧
      acceptsNum (parseFloatSyntax cIlc {} false [49,46,53,95]) = false ∧
      acceptsNum (parseFloatSyntax cIlc {} false [95,49,95,50,46,95,53]) = true) := by decide

end LexVerif.Props.C13
