import LexVerif.Props.C04
import LexVerif.Proof.ParseIntPartial
/-!
# C11 (integers) — the partial and the complete parser agree (property theorems)

Both parsers are the model of `lexical-parse-integer/src/algorithm.rs` (`Model.ParseInt.parseInt`, non-`format`
build) with `partial_ = false / true`. Every theorem holds for all feature sets / radices admitted by C04
(`feats.powerOfTwo = true ∨ r = 10`, `2 ≤ r ≤ 36`), the twelve integer types, both `no_multi_digit` settings and every
byte string. Proof route: the statements are proved on the specification scan (`Proof/ParseIntPartial.lean`: `Both`
for the two parsers on the same input, `spec_take_consumed` for the consumed prefix) and transferred with C04
(`parseInt_model_eq_spec`): `model_both`, `model_take_consumed`.

The model keeps the index in complete `Ok` results too (`intoOk … bufLen`; the Rust complete parser drops it), so
"complete returns `Ok(v)`" is `.done (.ok v s.length)`; `int_complete_ok_index` says no other index can occur.

* clause 1 (`complete = Ok(v) ↔ partial = Ok(v, len)`): **proved**, no exclusion (`int_complete_iff_partial`).
* clause 2 (`partial = Ok(v, n), n > 0 → complete (take n) = Ok(v)`): **false as stated**
  (`int_partial_prefix_full_false`: `parse_partial::<i32>("+a") = Ok((0, 1))`, `parse::<i32>("+") = Err(Empty(1))`);
  proved under "more than the sign was consumed" (`int_partial_prefix`), which is exactly the condition under which
  it holds (`int_partial_prefix_iff`); the failing inputs are exactly sign + non-digit (`int_partial_prefix_fails_iff`).
-/
namespace LexVerif.Props.C11Int
open LexVerif.Spec LexVerif.Model LexVerif.Model.ParseInt LexVerif.Proof.ParseInt LexVerif.Proof.ParseIntPartial
open LexVerif.Props.C04

/-- clause 1 of C11 for integers -/
def int_complete_iff_partial_full : Prop :=
  ∀ (feats : Features) (t : IntTy), IsIntTy t → ∀ (r : Nat), 2 ≤ r → r ≤ 36 → (feats.powerOfTwo = true ∨ r = 10) →
    ∀ (nm : Bool) (s : List Nat), (∀ b ∈ s, b < 256) → ∀ (v : Int),
      (parseInt feats t r false nm s = .done (.ok v s.length) ↔ parseInt feats t r true nm s = .done (.ok v s.length))

/-- clause 2 of C11 for integers, as the property states it (only `n > 0` excluded) — **false**, see below -/
def int_partial_prefix_full : Prop :=
  ∀ (feats : Features) (t : IntTy), IsIntTy t → ∀ (r : Nat), 2 ≤ r → r ≤ 36 → (feats.powerOfTwo = true ∨ r = 10) →
    ∀ (nm : Bool) (s : List Nat), (∀ b ∈ s, b < 256) → ∀ (v : Int) (n : Nat),
      parseInt feats t r true nm s = .done (.ok v n) → 0 < n →
        parseInt feats t r false nm (s.take n) = .done (.ok v n)

/-- clause 2 with the exclusion that makes it true: more bytes than the sign were consumed
(`signLen t s` = 1 for a leading `+`, or a leading `-` of a signed type; 0 otherwise) -/
def int_partial_prefix_excl : Prop :=
  ∀ (feats : Features) (t : IntTy), IsIntTy t → ∀ (r : Nat), 2 ≤ r → r ≤ 36 → (feats.powerOfTwo = true ∨ r = 10) →
    ∀ (nm : Bool) (s : List Nat), (∀ b ∈ s, b < 256) → ∀ (v : Int) (n : Nat),
      parseInt feats t r true nm s = .done (.ok v n) → signLen t s < n →
        parseInt feats t r false nm (s.take n) = .done (.ok v n)

/-- `signLen`/`isNeg` (functions of the input, used in the exclusion) are what the model's `parse_sign` consumes -/
theorem parseSign_eq_signLen (t : IntTy) (s : List Nat) :
    parseSign t.signed s 0 = .ok (isNeg t s, s.drop (signLen t s), signLen t s) :=
  parseSign_eq t s

section
variable (feats : Features) (t : IntTy) (ht : IsIntTy t) (r : Nat) (h2 : 2 ≤ r) (hr : r ≤ 36)
  (hfeat : feats.powerOfTwo = true ∨ r = 10) (nm : Bool) (s : List Nat) (hs : ∀ b ∈ s, b < 256)
include ht h2 hr hfeat hs

/-- the model's complete and partial run return what the specification's do (C04), hence stand in `Both` -/
theorem model_both :
    ∃ x y, parseInt feats t r false nm s = .done x ∧ parseInt feats t r true nm s = .done y ∧
      Both (signLen t s) s.length x y :=
  ⟨_, _, parseInt_model_eq_spec feats t ht r h2 hr hfeat false nm s hs,
    parseInt_model_eq_spec feats t ht r h2 hr hfeat true nm s hs, spec_both t r s⟩

/-- the complete parser on exactly the bytes the partial parser consumed: the same `Ok`, or `Empty` after a bare sign -/
theorem model_take_consumed (v : Int) (n : Nat) (h : parseInt feats t r true nm s = .done (.ok v n)) :
    parseInt feats t r false nm (s.take n) = .done (if signLen t s < n then .ok v n else .empty n) := by
  rw [parseInt_model_eq_spec feats t ht r h2 hr hfeat true nm s hs, MRes.done.injEq] at h
  rw [parseInt_model_eq_spec feats t ht r h2 hr hfeat false nm (s.take n) (take_bytes s hs n),
    spec_take_consumed t r s v n h]

/-- a complete `Ok` of the model always carries the input length (`into_ok_complete!(value, buffer_length)`) -/
theorem int_complete_ok_index (v : Int) (n : Nat) :
    parseInt feats t r false nm s = .done (.ok v n) → n = s.length := by
  obtain ⟨x, y, hx, hy, hb⟩ := model_both feats t ht r h2 hr hfeat nm s hs
  rw [hx, MRes.done.injEq]
  rintro rfl
  exact hb.complete_ok.1

/-- **C11 clause 1, integers**: the complete parser returns `Ok(v)` iff the partial parser returns `Ok((v, len))`. -/
theorem int_complete_iff_partial (v : Int) :
    parseInt feats t r false nm s = .done (.ok v s.length) ↔ parseInt feats t r true nm s = .done (.ok v s.length) := by
  obtain ⟨x, y, hx, hy, hb⟩ := model_both feats t ht r h2 hr hfeat nm s hs
  rw [hx, hy, MRes.done.injEq, MRes.done.injEq]
  constructor
  · rintro rfl; exact hb.complete_ok.2
  · rintro rfl; exact hb.partial_full

theorem int_complete_iff_partial_index (v : Int) (n : Nat) :
    parseInt feats t r false nm s = .done (.ok v n) ↔
      (n = s.length ∧ parseInt feats t r true nm s = .done (.ok v n)) := by
  obtain ⟨x, y, hx, hy, hb⟩ := model_both feats t ht r h2 hr hfeat nm s hs
  rw [hx, hy, MRes.done.injEq, MRes.done.injEq]
  constructor
  · rintro rfl; exact hb.complete_ok
  · rintro ⟨rfl, rfl⟩; exact hb.partial_full

/-- **C11 clause 2, integers, with the exclusion "more than the sign was consumed"**: the complete parser on exactly
the consumed bytes returns the same value. -/
theorem int_partial_prefix (v : Int) (n : Nat) :
    parseInt feats t r true nm s = .done (.ok v n) → signLen t s < n →
      parseInt feats t r false nm (s.take n) = .done (.ok v n) := by
  intro h hlt
  rw [model_take_consumed feats t ht r h2 hr hfeat nm s hs v n h, if_pos hlt]

/-- the exclusion spelled out on the input: two or more bytes consumed, or the first byte is not a consumed sign -/
theorem int_partial_prefix_explicit (v : Int) (n : Nat) :
    parseInt feats t r true nm s = .done (.ok v n) → 0 < n →
      (2 ≤ n ∨ ¬ (s.head? = some 43 ∨ (s.head? = some 45 ∧ t.signed = true))) →
      parseInt feats t r false nm (s.take n) = .done (.ok v n) :=
  fun h hn hx => int_partial_prefix feats t ht r h2 hr hfeat nm s hs v n h ((signLen_lt_iff t s n hn).2 hx)

/-- the exclusion is the weakest possible: given a partial `Ok((v, n))` with `n > 0`, the prefix conclusion holds
**iff** more than the sign was consumed -/
theorem int_partial_prefix_iff (v : Int) (n : Nat) :
    parseInt feats t r true nm s = .done (.ok v n) → 0 < n →
      (parseInt feats t r false nm (s.take n) = .done (.ok v n) ↔ signLen t s < n) := by
  intro h hn
  rw [model_take_consumed feats t ht r h2 hr hfeat nm s hs v n h]
  split
  · next hlt => exact ⟨fun _ => hlt, fun _ => rfl⟩
  · next hlt => exact ⟨fun hc => (by cases hc), fun hc => absurd hc hlt⟩

/-- when the prefix clause fails the complete parser's answer on the consumed bytes is `Empty(1)` -/
theorem int_partial_prefix_failure_is_empty (v : Int) (n : Nat) :
    parseInt feats t r true nm s = .done (.ok v n) → 0 < n → ¬ signLen t s < n →
      n = 1 ∧ v = 0 ∧ parseInt feats t r false nm (s.take n) = .done (.empty 1) := by
  intro h hn hlt
  have h1 := signLen_le_one t s
  have hn1 : n = 1 := by omega
  have hs1 : signLen t s = 1 := by omega
  subst hn1
  refine ⟨rfl, ?_, by rw [model_take_consumed feats t ht r h2 hr hfeat nm s hs v 1 h, if_neg hlt]⟩
  rw [parseInt_model_eq_spec feats t ht r h2 hr hfeat true nm s hs, MRes.done.injEq] at h
  exact (spec_partial_sign_only t r s v hs1 h).1

/-- **exact characterisation of the counter-examples** in terms of the input alone: clause 2 fails on `s`
(for some `v`, `n > 0`) iff `s` is a consumed sign followed by a byte that is not a digit of the radix. -/
theorem int_partial_prefix_fails_iff :
    (∃ v n, parseInt feats t r true nm s = .done (.ok v n) ∧ 0 < n ∧
        parseInt feats t r false nm (s.take n) ≠ .done (.ok v n)) ↔
      (signLen t s = 1 ∧ ∃ c, s[1]? = some c ∧ digitVal r c = none) := by
  constructor
  · rintro ⟨v, n, h, hn, hne⟩
    have hlt : ¬ signLen t s < n := fun hlt => hne (int_partial_prefix feats t ht r h2 hr hfeat nm s hs v n h hlt)
    have h1 := signLen_le_one t s
    have hn1 : n = 1 := by omega
    have hs1 : signLen t s = 1 := by omega
    subst hn1
    rw [parseInt_model_eq_spec feats t ht r h2 hr hfeat true nm s hs, MRes.done.injEq] at h
    exact ⟨hs1, (spec_partial_sign_only t r s v hs1 h).2⟩
  · rintro ⟨hs1, c, hc, hd⟩
    refine ⟨0, 1, ?_, by omega, ?_⟩
    · rw [parseInt_model_eq_spec feats t ht r h2 hr hfeat true nm s hs, spec_partial_sign_nondigit t r s c hs1 hc hd]
    · rw [parseInt_model_eq_spec feats t ht r h2 hr hfeat false nm (s.take 1) (take_bytes s hs 1),
        spec_sign_only_empty t r false s hs1]
      simp

/-- … and on such inputs the two results are `Ok((0, 1))` and `Empty(1)` -/
theorem int_sign_nondigit_results (c : Nat) (h1 : signLen t s = 1) (hc : s[1]? = some c) (hd : digitVal r c = none) :
    parseInt feats t r true nm s = .done (.ok 0 1) ∧ parseInt feats t r false nm (s.take 1) = .done (.empty 1) := by
  rw [parseInt_model_eq_spec feats t ht r h2 hr hfeat true nm s hs, spec_partial_sign_nondigit t r s c h1 hc hd,
    parseInt_model_eq_spec feats t ht r h2 hr hfeat false nm (s.take 1) (take_bytes s hs 1),
    spec_sign_only_empty t r false s h1]
  exact ⟨rfl, rfl⟩

theorem int_partial_count_le (v : Int) (n : Nat) :
    parseInt feats t r true nm s = .done (.ok v n) → signLen t s ≤ n ∧ n ≤ s.length := by
  obtain ⟨x, y, hx, hy, hb⟩ := model_both feats t ht r h2 hr hfeat nm s hs
  rw [hy, MRes.done.injEq]
  rintro rfl
  exact hb.bounds

/-- the partial parser never returns `InvalidDigit` (nor `FAULT`) -/
theorem int_partial_never_invalidDigit (k : Nat) :
    parseInt feats t r true nm s ≠ .done (.invalidDigit k) ∧ parseInt feats t r true nm s ≠ .fault := by
  obtain ⟨x, y, hx, hy, hb⟩ := model_both feats t ht r h2 hr hfeat nm s hs
  rw [hy]
  exact ⟨fun h => hb.ne_invalidDigit k (MRes.done.inj h), fun h => by cases h⟩

/-- every complete result other than `InvalidDigit` (`Ok`, `Empty`, `Overflow`, `Underflow`, with the same index) is
also the partial parser's result -/
theorem int_complete_eq_partial_of_not_invalidDigit :
    (∀ k, parseInt feats t r false nm s ≠ .done (.invalidDigit k)) →
      parseInt feats t r true nm s = parseInt feats t r false nm s := by
  obtain ⟨x, y, hx, hy, hb⟩ := model_both feats t ht r h2 hr hfeat nm s hs
  rw [hx, hy]
  exact fun h => congrArg _ (hb.eq_of_not_invalidDigit fun k hk => h k (by rw [hk]))

/-- complete `InvalidDigit(k)` is partial `Ok((_, k))` with `k` short of the input length -/
theorem int_complete_invalidDigit (k : Nat) :
    parseInt feats t r false nm s = .done (.invalidDigit k) →
      k < s.length ∧ ∃ v, parseInt feats t r true nm s = .done (.ok v k) := by
  obtain ⟨x, y, hx, hy, hb⟩ := model_both feats t ht r h2 hr hfeat nm s hs
  rw [hx, hy, MRes.done.injEq]
  rintro rfl
  obtain ⟨hk, v, rfl⟩ := hb.invalidDigit
  exact ⟨hk, v, rfl⟩

end

theorem int_complete_iff_partial_full_holds : int_complete_iff_partial_full :=
  fun feats t ht r h2 hr hfeat nm s hs v => int_complete_iff_partial feats t ht r h2 hr hfeat nm s hs v

theorem int_partial_prefix_excl_holds : int_partial_prefix_excl :=
  fun feats t ht r h2 hr hfeat nm s hs v n => int_partial_prefix feats t ht r h2 hr hfeat nm s hs v n

/-! ## witnesses (default features, `i32`, radix 10) -/

/-- `parse_partial::<i32>("+a") = Ok((0, 1))` -/
theorem witness_partial_plus_a : parseInt {} ⟨32, true⟩ 10 true false [43, 97] = .done (.ok 0 1) := by decide
/-- `parse::<i32>("+") = Err(Empty(1))` -/
theorem witness_complete_plus : parseInt {} ⟨32, true⟩ 10 false false [43] = .done (.empty 1) := by decide
/-- `parse_partial::<i32>("-a") = Ok((0, 1))`, `parse::<i32>("-") = Err(Empty(1))` -/
theorem witness_partial_minus_a : parseInt {} ⟨32, true⟩ 10 true false [45, 97] = .done (.ok 0 1) := by decide
theorem witness_complete_minus : parseInt {} ⟨32, true⟩ 10 false false [45] = .done (.empty 1) := by decide

/-- **the prefix clause as stated in the property is false** (witness `"+a"`, `i32`, radix 10, default features) -/
theorem int_partial_prefix_full_false : ¬ int_partial_prefix_full := by
  intro h
  have := h {} ⟨32, true⟩ (.inr (.inr (.inl rfl))) 10 (by decide) (by decide) (by decide) false [43, 97] (by decide) 0 1
    (by decide) (by decide)
  revert this
  decide

/-- for an unsigned type `-` is not a sign: `parse_partial::<u32>("-a") = Ok((0, 0))`, `n = 0` is outside clause 2 -/
example : parseInt {} ⟨32, false⟩ 10 true false [45, 97] = .done (.ok 0 0) := by decide
/-- `n = 0` (excluded by the property): `parse_partial::<i32>("a") = Ok((0, 0))` while `parse::<i32>("") = Err(Empty(0))` -/
example : parseInt {} ⟨32, true⟩ 10 true false [97] = .done (.ok 0 0) ∧
    parseInt {} ⟨32, true⟩ 10 false false ([97].take 0) = .done (.empty 0) := by decide

/-- clause 1, both sides true: `"-12"` -/
example : parseInt {} ⟨32, true⟩ 10 false false [45, 49, 50] = .done (.ok (-12) [45, 49, 50].length) ∧
    parseInt {} ⟨32, true⟩ 10 true false [45, 49, 50] = .done (.ok (-12) [45, 49, 50].length) := by decide
/-- clause 1, both sides false: `"12a"` (complete `InvalidDigit(2)`, partial `Ok((12, 2))`) -/
example : parseInt {} ⟨32, true⟩ 10 false false [49, 50, 97] = .done (.invalidDigit 2) ∧
    parseInt {} ⟨32, true⟩ 10 true false [49, 50, 97] = .done (.ok 12 2) := by decide
/-- clause 2 with the exclusion: `"+12a"` consumes 3 > `signLen` = 1 bytes, complete `"+12"` = `Ok(12)` -/
example : parseInt {} ⟨32, true⟩ 10 true false [43, 49, 50, 97] = .done (.ok 12 3) ∧
    signLen ⟨32, true⟩ [43, 49, 50, 97] < 3 ∧
    parseInt {} ⟨32, true⟩ 10 false false ([43, 49, 50, 97].take 3) = .done (.ok 12 3) := by decide
/-- clause 2 through the SWAR loop (`i32`, 4-digit blocks): `"12345678x"` -/
example : parseInt {} ⟨32, true⟩ 10 true false [49, 50, 51, 52, 53, 54, 55, 56, 120] = .done (.ok 12345678 8) ∧
    parseInt {} ⟨32, true⟩ 10 false false ([49, 50, 51, 52, 53, 54, 55, 56, 120].take 8) = .done (.ok 12345678 8) := by
  decide +kernel
/-- the characterisation's right-hand side is satisfiable: `"+a"` -/
example : signLen ⟨32, true⟩ [43, 97] = 1 ∧ ∃ c, [43, 97][1]? = some c ∧ digitVal 10 c = none :=
  ⟨by decide, 97, by decide, by decide⟩
/-- partial `Overflow` = complete `Overflow` (`int_complete_eq_partial_of_not_invalidDigit`): `u8` `"256"` -/
example : parseInt {} ⟨8, false⟩ 10 true false [50, 53, 54] = .done (.overflow 2) ∧
    parseInt {} ⟨8, false⟩ 10 false false [50, 53, 54] = .done (.overflow 2) := by decide

end LexVerif.Props.C11Int
