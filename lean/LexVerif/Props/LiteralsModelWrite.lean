import LexVerif.Gen.Literals
import LexVerif.Model.Dragonbox
import LexVerif.Model.Grisu
import LexVerif.Model.WriteBinary
/-!
# Props.LiteralsModelWrite — the literals the float-WRITER models carry are the literals of /repo's source

Same scheme as `Props/LiteralsModel.lean` (string→float side). `Gen.Literals` is re-extracted from the source text of
/repo on every run (per function: the integer literals in source order). Each model file lists, per transcribed function,
the literals of its body (`…Literals`), the magic numbers as named constants. Here:
* `decide` theorems `<model list> = Gen.Literals.<file>.k_<fn>.1` — a changed, added or removed literal in /repo breaks
  the theorem named after the function;
* `rfl` theorems `…_uses`: the model function IS its source body instantiated with the named constants (so the constant in
  the list is the one the model computes with, not a copy that could drift).
-/
namespace LexVerif.Props.LiteralsModelWrite
open LexVerif.Model LexVerif.Gen.Literals

section Dragonbox
open LexVerif.Model.Dragonbox

theorem floor_log5_pow2 : floorLog5Pow2Literals = WriteFloatAlgorithm.k_floor_log5_pow2.1 := by decide
theorem floor_log10_pow2 : floorLog10Pow2Literals = WriteFloatAlgorithm.k_floor_log10_pow2.1 := by decide
theorem floor_log2_pow10 : floorLog2Pow10Literals = WriteFloatAlgorithm.k_floor_log2_pow10.1 := by decide
theorem floor_log5_pow2_minus_log5_3 :
    floorLog5Pow2MinusLog5_3Literals = WriteFloatAlgorithm.k_floor_log5_pow2_minus_log5_3.1 := by decide
theorem floor_log10_pow2_minus_log10_4_over_3 :
    floorLog10Pow2MinusLog10_4Over3Literals = WriteFloatAlgorithm.k_floor_log10_pow2_minus_log10_4_over_3.1 := by decide
theorem divide_by_pow10_32 : divideByPow10_32Literals = WriteFloatAlgorithm.k_divide_by_pow10_32.1 := by decide
theorem divide_by_pow10_64 : divideByPow10_64Literals = WriteFloatAlgorithm.k_divide_by_pow10_64.1 := by decide
theorem remove_trailing_zeros : removeTrailingZerosLiterals = WriteFloatAlgorithm.k_remove_trailing_zeros.1 := by decide
theorem rotr32 : rotr32Literals = WriteFloatAlgorithm.k_rotr32.1 := by decide
theorem rotr64 : rotr64Literals = WriteFloatAlgorithm.k_rotr64.1 := by decide
theorem umul128_upper64 : umul128Upper64Literals = WriteFloatAlgorithm.k_umul128_upper64.1 := by decide
theorem umul192_upper128 : umul192Upper128Literals = WriteFloatAlgorithm.k_umul192_upper128.1 := by decide
theorem umul192_lower128 : umul192Lower128Literals = WriteFloatAlgorithm.k_umul192_lower128.1 := by decide
theorem umul96_upper64 : umul96Upper64Literals = WriteFloatAlgorithm.k_umul96_upper64.1 := by decide
theorem compute_left_endpoint_u64 :
    computeLeftEndpointLiterals = WriteFloatAlgorithm.k_compute_left_endpoint_u64.1 := by decide
theorem compute_right_endpoint_u64 :
    computeRightEndpointLiterals = WriteFloatAlgorithm.k_compute_right_endpoint_u64.1 := by decide
theorem compute_round_up_u64 : computeRoundUpLiterals = WriteFloatAlgorithm.k_compute_round_up_u64.1 := by decide
theorem compute_mul : computeMulLiterals = WriteFloatAlgorithm.k_compute_mul.1 := by decide
theorem compute_mul_parity : computeMulParityLiterals = WriteFloatAlgorithm.k_compute_mul_parity.1 := by decide
theorem compute_delta : computeDeltaLiterals = WriteFloatAlgorithm.k_compute_delta.1 := by decide
theorem is_right_endpoint : isRightEndpointLiterals = WriteFloatAlgorithm.k_is_right_endpoint.1 := by decide
theorem is_left_endpoint : isLeftEndpointLiterals = WriteFloatAlgorithm.k_is_left_endpoint.1 := by decide
theorem count_factors : countFactorsLiterals = WriteFloatAlgorithm.k_count_factors.1 := by decide
theorem prefer_round_down : preferRoundDownLiterals = WriteFloatAlgorithm.k_prefer_round_down.1 := by decide
theorem compute_nearest_shorter :
    computeNearestShorterLiterals = WriteFloatAlgorithm.k_compute_nearest_shorter.1 := by decide
theorem compute_nearest_normal :
    computeNearestNormalLiterals = WriteFloatAlgorithm.k_compute_nearest_normal.1 := by decide
theorem to_decimal : toDecimalLiterals = WriteFloatAlgorithm.k_to_decimal.1 := by decide
theorem check_div_pow10_macro : checkDivPow10MacroLiterals = WriteFloatAlgorithm.k_check_div_pow10_macro.1 := by decide

theorem floorLog5Pow2_uses (q : Int) :
    floorLog5Pow2 q = i32 (q * (litLog5Pow2Mul : Int)) / 2 ^ litLog5Pow2Shift := rfl
theorem floorLog10Pow2_uses (q : Int) :
    floorLog10Pow2 q = i32 (q * (litLog10Pow2Mul : Int)) / 2 ^ litLog10Pow2Shift := rfl
theorem floorLog2Pow10_uses (q : Int) :
    floorLog2Pow10 q = i32 (q * (litLog2Pow10Mul : Int)) / 2 ^ litLog2Pow10Shift := rfl
theorem floorLog5Pow2MinusLog5_3_uses (q : Int) :
    floorLog5Pow2MinusLog5_3 q
      = i32 (i32 (q * (litLog5Pow2M3Mul : Int)) - (litLog5Pow2M3Sub : Int)) / 2 ^ litLog5Pow2M3Shift := rfl
theorem floorLog10Pow2MinusLog10_4Over3_uses (q : Int) :
    floorLog10Pow2MinusLog10_4Over3 q
      = i32 (i32 (q * (litLog10Pow2M43Mul : Int)) - (litLog10Pow2M43Sub : Int)) / 2 ^ litLog10Pow2M43Shift := rfl
theorem divideByPow10_32_uses (n exp : Nat) :
    divideByPow10_32 n exp = if exp = 2 then u32 (u64 (n * litDiv100Magic) >>> litDiv100Shift) else n / pow32 exp 10 := rfl
theorem divideByPow10_64_uses (n exp nMax : Nat) :
    divideByPow10_64 n exp nMax =
      if exp = 3 ∧ nMax ≤ litDiv1000Guard then umul128Upper64 n litDiv1000Magic >>> litDiv1000Shift
      else n / pow64 exp 10 := rfl
theorem removeTrailingZeros_f64_uses (n : Nat) :
    removeTrailingZeros .f64 n =
      if u64 (u128 (n * litRtzMagic) >>> 64) &&& (2 ^ (litRtzBits - 64) - 1) = 0 ∧ u64 (u128 (n * litRtzMagic)) < litRtzMagic
      then rtz32From (u32 (u64 (u128 (n * litRtzMagic) >>> 64) >>> (litRtzBits - 64))) litRtzS8
      else rtz64From n 0 := rfl

/-- the per-type constants that are not function-body literals (`KAPPA`, the `Div10Info` statics) come from the R dump
(`Gen.Dragonbox`), see `Props.C02.dragonbox_model_consts`; the `Div10Info` magic numbers are fixed by
`Props.C02.check_div_pow10_exact` (a different constant makes the exactness theorem false) -/
example : f32Div10Info.magic = 6554 ∧ f32Div10Info.shift = 16 ∧ f64Div10Info.magic = 656 ∧ f64Div10Info.shift = 16
    ∧ modInv5U32 = 0xCCCCCCCD ∧ modInv5U64 = 0xCCCCCCCCCCCCCCCD := by decide

end Dragonbox

section Grisu
open LexVerif.Model.Grisu

theorem fast_binary_power : fastBinaryPowerLiterals = WriteFloatCompact.k_fast_binary_power.1 := by decide
theorem fast_decimal_power : fastDecimalPowerLiterals = WriteFloatCompact.k_fast_decimal_power.1 := by decide
theorem cached_grisu_power : cachedGrisuPowerLiterals = WriteFloatCompact.k_cached_grisu_power.1 := by decide
theorem mul : mulLiterals = WriteFloatCompact.k_mul.1 := by decide
theorem normalize : normalizeLiterals = WriteFloatCompact.k_normalize.1 := by decide
theorem normalized_boundaries : normalizedBoundariesLiterals = WriteFloatCompact.k_normalized_boundaries.1 := by decide
theorem round_digit : roundDigitLiterals = WriteFloatCompact.k_round_digit.1 := by decide
theorem generate_digits : generateDigitsLiterals = WriteFloatCompact.k_generate_digits.1 := by decide
theorem grisu : grisuLiterals = WriteFloatCompact.k_grisu.1 := by decide

theorem fastBinaryPower_uses (q : Int) :
    fastBinaryPower q
      = Dragonbox.i32 (Dragonbox.i32 (q * ((litBinPowMulA : Int) + (litBinPowMulB : Int))) / 2 ^ litBinPowShift
          - (litBinPowBias : Int)) := rfl
theorem fastDecimalPower_uses (index : Nat) :
    fastDecimalPower index = Dragonbox.i32 (Dragonbox.i32 ((index : Int) * (litDecPowStep : Int)) - (litDecPowFirst : Int)) :=
  rfl

end Grisu

section Binary
open LexVerif.Model.WriteBinary

theorem binary_fast_log2 : fastLog2Literals = WriteFloatBinary.k_fast_log2.1 := by decide
theorem binary_fast_ceildiv : fastCeildivLiterals = WriteFloatBinary.k_fast_ceildiv.1 := by decide
theorem binary_inverse_remainder : inverseRemainderLiterals = WriteFloatBinary.k_inverse_remainder.1 := by decide
theorem binary_calculate_shl : calculateShlLiterals = WriteFloatBinary.k_calculate_shl.1 := by decide
theorem binary_scale_sci_exp : scaleSciExpLiterals = WriteFloatBinary.k_scale_sci_exp.1 := by decide
theorem binary_write_float : writeFloatLiterals = WriteFloatBinary.k_write_float.1 := by decide
theorem binary_write_float_scientific :
    writeFloatScientificLiterals = WriteFloatBinary.k_write_float_scientific.1 := by decide
theorem binary_write_float_negative_exponent :
    writeFloatNegativeExponentLiterals = WriteFloatBinary.k_write_float_negative_exponent.1 := by decide
theorem binary_write_float_positive_exponent :
    writeFloatPositiveExponentLiterals = WriteFloatBinary.k_write_float_positive_exponent.1 := by decide
theorem binary_truncate_and_round : truncateAndRoundLiterals = WriteFloatBinary.k_truncate_and_round.1 := by decide
theorem hex_write_float : hexWriteFloatLiterals = WriteFloatHex.k_write_float.1 := by decide
theorem hex_write_float_scientific :
    writeFloatScientificLiterals = WriteFloatHex.k_write_float_scientific.1 := by decide
theorem hex_scale_sci_exp : hexScaleSciExpLiterals = WriteFloatHex.k_scale_sci_exp.1 := by decide

/-- the `(radix, base)` pairs the model accepts besides `radix = base` are hex.rs' documented ones -/
example : ∀ p ∈ [(4, 2), (8, 2), (16, 2), (32, 2), (16, 4)], validPair p.1 p.2 = true := by decide

end Binary

end LexVerif.Props.LiteralsModelWrite
