import LexVerif.Model.WriteInt
import LexVerif.Gen.Literals
import LexVerif.Props.TablesWrite
/-!
# Props.C03Tie — the constants of `Model.WriteInt` are the constants of /repo

`Gen.IntTables` / `Gen.Sizes` are regenerated from the compiled crates (R) and `Gen.Literals` from the source
text (S) on every run. The theorems below equate every table, per-radix constant and magic literal that
`Model.WriteInt` carries with the regenerated ones, so that the C03 theorems (stated about the model's
constants) speak about the tables and literals the code has *now*. The closed forms of the regenerated tables
are in `Props/TablesWrite.lean`; composed here: `tableGet_is_named_table`.
-/
namespace LexVerif.Props.C03Tie
open LexVerif LexVerif.Spec LexVerif.Model LexVerif.Model.WriteInt LexVerif.Gen.Literals

/-! ## R: tables dumped from the compiled crate -/

/-- the model's unchecked table read `tableGet r j` is a read of the compiled `DIGIT_TO_BASE<r>_SQUARED`
(same length ⇒ same FAULT condition, same bytes), for all 35 radices -/
theorem tableGet_is_named_table (r : Nat) (hr : r ∈ Gen.IntTables.tableRadices) :
    tableLen r = (Gen.IntTables.namedTable r).size ∧
    ∀ (j : Nat) (h : j < (Gen.IntTables.namedTable r).size), tableGet r j = .ok (Gen.IntTables.namedTable r)[j] := by
  obtain ⟨hs, hj⟩ := Props.TablesWrite.pair_tables r hr
  refine ⟨by rw [hs]; rfl, fun j h => ?_⟩
  have hlt : j < tableLen r := by unfold tableLen; rw [← hs]; exact h
  rw [hj j h]
  unfold tableGet Spec.Tables.pairEntry digitPairTable
  rw [if_pos hlt]
  split <;> rfl

/-- `get_table` has a table exactly where the model's `hasTable` (radix build) says so -/
theorem hasTable_radix :
    ((List.range 40).all fun r =>
      hasTable { powerOfTwo := true, radix := true } r == decide (r ∈ Gen.IntTables.tableRadices)
      && (!hasTable { powerOfTwo := true, radix := true } r || Gen.IntTables.getTable r == some r)) = true := by
  decide

theorem hasTable_pow2 :
    ((List.range 40).all fun r => hasTable { powerOfTwo := true } r == decide (r ∈ [2, 4, 8, 10, 16, 32])) = true := by
  decide

theorem u64Step_table : ((List.range 35).all fun i => u64StepTable (i + 2) == Gen.IntTables.u64Step (i + 2)) = true := by
  decide

/-- `Gen.IntTables.Div128` read as the model's `DivRem` (`missing` ↦ `none`) -/
def ofGen : Gen.IntTables.Div128 → Option DivRem
  | .pow2 m s => some (.pow2 m s)
  | .moderate d f s => some (.moderate d f s)
  | .fast d fa fs f s => some (.fast d fa fs f s)
  | .slow d c => some (.slow d c)
  | .missing => none

theorem divremKind_table : ((List.range 40).all fun r => divremKind r == ofGen (Gen.IntTables.div128 r)) = true := by
  decide

/-- the constants of `divremKind r` against the per-function literal extraction of `div128.rs` (S), beside the dump (R) above -/
theorem divremKind_literals :
    (List.range 35).map (fun i => Lits.divremArgs (divremKind (i + 2))) = [UtilDiv128.k_u128_divrem_2.1, UtilDiv128.k_u128_divrem_3.1, UtilDiv128.k_u128_divrem_4.1, UtilDiv128.k_u128_divrem_5.1, UtilDiv128.k_u128_divrem_6.1, UtilDiv128.k_u128_divrem_7.1, UtilDiv128.k_u128_divrem_8.1, UtilDiv128.k_u128_divrem_9.1, UtilDiv128.k_u128_divrem_10.1, UtilDiv128.k_u128_divrem_11.1, UtilDiv128.k_u128_divrem_12.1, UtilDiv128.k_u128_divrem_13.1, UtilDiv128.k_u128_divrem_14.1, UtilDiv128.k_u128_divrem_15.1, UtilDiv128.k_u128_divrem_16.1, UtilDiv128.k_u128_divrem_17.1, UtilDiv128.k_u128_divrem_18.1, UtilDiv128.k_u128_divrem_19.1, UtilDiv128.k_u128_divrem_20.1, UtilDiv128.k_u128_divrem_21.1, UtilDiv128.k_u128_divrem_22.1, UtilDiv128.k_u128_divrem_23.1, UtilDiv128.k_u128_divrem_24.1, UtilDiv128.k_u128_divrem_25.1, UtilDiv128.k_u128_divrem_26.1, UtilDiv128.k_u128_divrem_27.1, UtilDiv128.k_u128_divrem_28.1, UtilDiv128.k_u128_divrem_29.1, UtilDiv128.k_u128_divrem_30.1, UtilDiv128.k_u128_divrem_31.1, UtilDiv128.k_u128_divrem_32.1, UtilDiv128.k_u128_divrem_33.1, UtilDiv128.k_u128_divrem_34.1, UtilDiv128.k_u128_divrem_35.1, UtilDiv128.k_u128_divrem_36.1] := by
  decide

/-- `FORMATTED_SIZE`, `FORMATTED_SIZE_DECIMAL` of the 12 integer types: `power-of-two`/`radix` builds and decimal-only builds -/
theorem formatted_sizes :
    ((Gen.Sizes.types.zip (Gen.Sizes.sizesRadix.zip Gen.Sizes.sizesDefault)).all fun x =>
      x.1.float ||
        (formattedSizeRadix ⟨x.1.bits, x.1.signed⟩ == x.2.1.1 && formattedSizeDecimal ⟨x.1.bits, x.1.signed⟩ == x.2.1.2
          && formattedSizeDecimal ⟨x.1.bits, x.1.signed⟩ == x.2.2.1 && formattedSizeDecimal ⟨x.1.bits, x.1.signed⟩ == x.2.2.2
          && (IntTy.ofName x.1.name == some ⟨x.1.bits, x.1.signed⟩))) = true
    ∧ Gen.Sizes.types.length = 14 ∧ Gen.Sizes.sizesRadix.length = 14 ∧ Gen.Sizes.sizesDefault.length = 14 := by
  decide

theorem fastDigitCount_table : fastDigitCountTable = Gen.IntTables.fastDigitCountTableList := by decide
theorem decimalTableU64_table : decimalTableU64 = Gen.IntTables.decimalCountTableU64List := by decide
theorem decimalTableU128_table : decimalTableU128 = Gen.IntTables.decimalCountTableU128List := by decide

/-- `digit_to_char` / `digit_to_char_const(·, 10)` -/
theorem digitToChar_table (d : Nat) (h : d < 36) : digitToChar d = .ok (Gen.IntTables.digitToChar[d]!) := by
  have hs := Props.TablesWrite.digit_to_char_size
  have hd : d < Gen.IntTables.digitToChar.size := by omega
  have e : Gen.IntTables.digitToChar[d]! = Gen.IntTables.digitToChar[d] := by simp [hd]
  rw [e, Props.TablesWrite.digit_to_char d hd]
  simp [digitToChar, h]

theorem digitToCharConst10_table :
    ((List.range 10).map digitToCharConst10) = (Gen.IntTables.digitToCharConst.getD 8 []) := by decide

/-! ## S: literals extracted from the source text, per function -/

theorem jeaiii_next2 : Lits.next2 = WriteIntegerJeaiii.k_next2.1 := by decide
theorem jeaiii_u128_divrem_10_10pow10 : Lits.u128Divrem1e10 = WriteIntegerJeaiii.k_u128_divrem_10_10pow10.1 := by decide
theorem jeaiii_write_n_macro : Lits.writeN = WriteIntegerJeaiii.k_write_n_macro.1 := by decide
theorem jeaiii_print_n_macro : Lits.printN = WriteIntegerJeaiii.k_print_n_macro.1 := by decide
theorem jeaiii_write_digits_macro : Lits.writeDigits = WriteIntegerJeaiii.k_write_digits_macro.1 := by decide
theorem jeaiii_from_u8 : Lits.fromU8 = WriteIntegerJeaiii.k_from_u8.1 := by decide
theorem jeaiii_from_u16 : Lits.fromU16 = WriteIntegerJeaiii.k_from_u16.1 := by decide
theorem jeaiii_from_u32 : Lits.fromU32 = WriteIntegerJeaiii.k_from_u32.1 := by decide
theorem jeaiii_from_u64_impl : Lits.fromU64Impl = WriteIntegerJeaiii.k_from_u64_impl.1 := by decide
theorem jeaiii_from_u128 : Lits.fromU128 = WriteIntegerJeaiii.k_from_u128.1 := by decide

theorem decimal_fast_log10 : Lits.fastLog10 = WriteIntegerDecimal.k_fast_log10.1 := by decide
theorem decimal_fast_digit_count : Lits.fastDigitCount = WriteIntegerDecimal.k_fast_digit_count.1 := by decide
theorem decimal_fallback_digit_count : Lits.fallbackDigitCount = WriteIntegerDecimal.k_fallback_digit_count.1 := by decide
theorem decimal_decimal_count : Lits.decimalCount = WriteIntegerDecimal.k_decimal_count.1 := by decide
theorem decimal_decimal : Lits.decimal = WriteIntegerDecimal.k_decimal.1
    ∧ Lits.decimal = WriteIntegerDecimal.k_decimal_signed.1 := by decide

theorem digit_count_fast_log2 : Lits.fastLog2 = WriteIntegerDigitCount.k_fast_log2.1 := by decide
theorem digit_count_digit_logs :
    Lits.digitLog = [WriteIntegerDigitCount.k_digit_log2.1, WriteIntegerDigitCount.k_digit_log4.1,
      WriteIntegerDigitCount.k_digit_log8.1, WriteIntegerDigitCount.k_digit_log16.1,
      WriteIntegerDigitCount.k_digit_log32.1] := by decide
theorem digit_count_macro : Lits.digitCountMacro = WriteIntegerDigitCount.k_digit_count_macro.1 := by decide
theorem digit_count_digit_count : Lits.digitCount = WriteIntegerDigitCount.k_digit_count.1 := by decide

theorem algorithm_write_digits_macro : Lits.algWriteDigitsMacro = WriteIntegerAlgorithm.k_write_digits_macro.1 := by decide
theorem algorithm_write_digit_macro : Lits.algWriteDigitMacro = WriteIntegerAlgorithm.k_write_digit_macro.1 := by decide
theorem algorithm_write_digits : Lits.algWriteDigits = WriteIntegerAlgorithm.k_write_digits.1 := by decide
theorem algorithm_algorithm : Lits.algorithm = WriteIntegerAlgorithm.k_algorithm.1 := by decide
theorem algorithm_algorithm_u128 : Lits.algorithmU128 = WriteIntegerAlgorithm.k_algorithm_u128.1 := by decide
theorem compact_compact : Lits.compact = WriteIntegerCompact.k_compact.1 := by decide
theorem radix_radix : Lits.radix = WriteIntegerRadix.k_radix.1 := by decide
theorem write_write_integer : Lits.writeInteger = WriteIntegerWrite.k_write_integer.1
    ∧ Lits.writeInteger = WriteIntegerWrite.k_write_integer_signed.1 := by decide
theorem api_unsigned : Lits.apiUnsigned = WriteIntegerApi.k_unsigned.1 := by decide
theorem api_signed : Lits.apiSigned = WriteIntegerApi.k_signed.1 := by decide

theorem util_digit_to_char : Lits.digitToChar = UtilDigit.k_digit_to_char.1 := by decide
theorem util_digit_to_char_const : Lits.digitToCharConst = UtilDigit.k_digit_to_char_const.1 := by decide
theorem util_slow_u128_divrem : Lits.slowU128Divrem = UtilDiv128.k_slow_u128_divrem.1 := by decide
theorem util_u64_step : Lits.u64Step = UtilStep.k_u64_step.1 := by decide

example : Lit.m34 = 42949673 ∧ Lit.m56 = 429497 ∧ Lit.m78 = 281474978 ∧ Lit.s78 = 16 ∧ Lit.m9 = 1441151882
    ∧ Lit.s9 = 25 ∧ Lit.m10 = 1441151881 ∧ Lit.s10 = 25 ∧ Lit.m10u64 = 11529215047 ∧ Lit.s10u64 = 28
    ∧ Lit.log10Mul = 1233 ∧ Lit.log10Shr = 12 ∧ Lit.e10D = 10 ^ 10 ∧ Lit.e10Fast = 2 ^ 74 := by decide

end LexVerif.Props.C03Tie
