import LexVerif.Props.C12Sep
import LexVerif.Props.C10
import LexVerif.Props.C01Main
import LexVerif.Proof.GrammarValue
/-!
# C12 (final assembly) — `accepts_iff_grammar` at the entry point, value included

`Props/C12.lean` keeps the target `accepts_iff_grammar : Prop` (the line `parseFloatModel` prints = the rendering of
`grammarFloatComplete`). `accepts_iff_grammar_partial` / `accepts_iff_grammar_sep_partial` prove the ACCEPTANCE part on
the syntax layer. This module closes the four parts their docstring lists as "not covered":

* **(a) panic / fault exits** — `syntax_dichotomy`: with C10 (`parseFloatSyntax_total`) the complete parser of the
  syntax layer is `.ok p` with `Verdict c o s p`, or `.error (.err k i)` with `i ≤ length` and the grammar rejecting.
  There is no third case.
* **(b) entry-point validation** — `entry_guards_pass`: under the hypotheses of `accepts_iff_grammar` the four guards of
  `parseFloatModel` pass; `SpecialsWF` / `LettersOnly` are consequences of `optionsError = none`
  (`Proof.GrammarMain`), `skip ≠ unreachable` and the radix bounds of `formatError = none`.
* **(c) many-digit re-parse** — nothing excludes it: `Verdict` / `NumberIs` speak about the digit slices and the explicit
  exponent, which `manyDigitsPhase` copies; `accepted_value` has no hypothesis for `manyDigits = true`
  (witness with 21 digits below).
* **(d) value** — `accepted_value`: `numberBits` of an accepted `Number` is `litBits` of the grammar's literal. For
  `manyDigits = true` unconditionally; for `manyDigits = false` from `NumberExactAt c n` (`Props.C01Main`: the
  `mantissa`/`exponent` words denote the value of the digit slices — taken as a hypothesis here; for formats without digit
  separator and base prefix `Props/C05Number.lean` proves it, `number_exact_of_syntax_r`).

Result: `accepts_iff_grammar_entry_partial` (and `accepts_iff_grammar_decimal_partial` with `NumberExact` as the one named
hypothesis) — the statement of `accepts_iff_grammar`, verbatim, for `f32`/`f64`, under the
explicit side conditions listed there; `accepts_iff_grammar_of_numberExact` reduces the whole proved class to the single
open statement `NumberExactC12 : Prop`. `accepts_iff_grammar` itself stays a `def`: as stated it is contradicted by the
finding `C12.finding_empty_input`.
-/
namespace LexVerif.Props.C12
open LexVerif LexVerif.Model LexVerif.Spec LexVerif.Proof.Grammar LexVerif.Proof.Sep
open LexVerif.Proof.PNDebug (FeatsOk fe_mantissa fe_base fe_expRadix isValidRadix_le isValidRadix_ten skip_ne_unreachable)
open LexVerif.Props.C01 (IsLemireFloat)
open LexVerif.Props.C01Main (NumberExactAt NumberExact spec_forms)
open LexVerif.Model.ParseFloatAlgo (numberLit)

/-- radix facts of a valid format (`FeatsOk`: the cargo feature `radix` enables `power-of-two`) -/
theorem radix_facts (c : Cfg) (hvalid : (formatError c.feats c.fmt).isNone = true) :
    2 ≤ c.mantissaRadix ∧ c.mantissaRadix ≤ 36 ∧ 2 ≤ c.exponentBase ∧ 2 ≤ c.exponentRadix ∧
    (FeatsOk c.feats → c.feats.powerOfTwo = false → c.mantissaRadix ≤ 10) := by
  have h1 := isValidRadix_le (fe_mantissa hvalid)
  have h2 := isValidRadix_le (fe_base hvalid)
  have h3 := isValidRadix_le (fe_expRadix hvalid)
  refine ⟨h1.1, h1.2, h2.1, h3.1, fun hf hp => ?_⟩
  have := isValidRadix_ten (fe_mantissa hvalid) hp hf
  unfold Cfg.mantissaRadix
  omega

/-- the guards of `parse_with_options` pass under the hypotheses of `accepts_iff_grammar`: what is printed is the
rendering of the syntax layer's result -/
theorem entry_guards_pass (feats : Features) (f : Format) (o : POpts) (isPartial : Bool) (ty : Fmt) (s : List Nat)
    (hfe : (formatError feats f).isNone = true) (hoe : (optionsError o).isNone = true)
    (hp : isValidOptionsPunctuation feats f o.exp o.dp = true) (hcr : checkRadix feats f = true) :
    parseFloatModel feats f o isPartial ty s =
      (match parseFloatSyntax ⟨feats, f, false⟩ o isPartial s true with
        | .ok p => renderParsed ⟨feats, f, false⟩ ty isPartial p
        | .error e => renderErr e) := by
  have h1 : optionsError o = none := by cases h : optionsError o <;> simp_all
  have h2 : formatError feats f = none := by cases h : formatError feats f <;> simp_all
  unfold parseFloatModel
  simp only [h1, h2, hp, hcr, Option.isSome_none, Option.isNone_none, Bool.false_eq_true, if_false, Bool.not_true]
  rfl

/-- `(splitSign s).2 = []` (empty input, bare sign) is excluded from `accepts_iff_grammar_sep_partial` because of the
finding `finding_empty_input`; the finding concerns only formats that require neither integer nor mantissa digits.
For every other format without base prefix (in particular with the `format` feature off) model and grammar agree on
this class: both reject. -/
theorem emptybody_rejects (c : Cfg) (hd : c.debug = false) (hk : ∀ k, c.skip k ≠ .unreachable)
    (hpre : c.basePrefix = 0) (hr8 : c.feats.powerOfTwo = false → c.mantissaRadix ≤ 10)
    (o : POpts) (wf : SpecialsWF o) (s : List Nat) (fv : Bool) (hbody : (splitSign s).2 = [])
    (hreq : (c.requiredIntegerDigits || c.requiredMantissaDigits) = true) (hn : separatorFree c.fmt s = true) :
    (∃ k i, parseFloatSyntax c o false s fv = .error (.err k i)) ∧ grammarFloatComplete c.feats c.fmt o s = .err :=
  parseFloatSyntax_emptybody hd (hk _) o wf s (noSep_of_separatorFree c s hn) fv hbody hreq

/-- **Dichotomy of the syntax layer** (release build, valid format without base prefix, valid options, separator-free
input with something after the sign — or nothing, if the format requires integer or mantissa digits): accepted with a
`Verdict`, or rejected with an `Error` whose index is inside
the input while the grammar rejects. Panic and fault exits do not occur (C10). -/
theorem syntax_dichotomy (c : Cfg) (hd : c.debug = false) (hvalid : (formatError c.feats c.fmt).isNone = true)
    (hfeats : FeatsOk c.feats) (hpre : c.basePrefix = 0) (o : POpts) (hoe : (optionsError o).isNone = true)
    (s : List Nat) (hb : ∀ x ∈ s, x < 256) (fv : Bool)
    (hbody : (splitSign s).2 ≠ [] ∨ (c.requiredIntegerDigits || c.requiredMantissaDigits) = true)
    (hn : separatorFree c.fmt s = true) :
    (∃ p, parseFloatSyntax c o false s fv = .ok p ∧ Verdict c o s p) ∨
    (∃ k i, parseFloatSyntax c o false s fv = .error (.err k i) ∧ i ≤ s.length ∧
      grammarFloatComplete c.feats c.fmt o s = .err) := by
  have hoe1 : optionsError o = none := by cases h : optionsError o <;> simp_all
  have ht := C10.parseFloatSyntax_total c hd hvalid o false fv s
  by_cases hbe : (splitSign s).2 = []
  · have hreq : (c.requiredIntegerDigits || c.requiredMantissaDigits) = true := by
      rcases hbody with h | h
      · exact absurd hbe h
      · exact h
    obtain ⟨⟨k, i, h1⟩, h2⟩ := emptybody_rejects c hd (skip_ne_unreachable c hvalid) hpre
      ((radix_facts c hvalid).2.2.2.2 hfeats) o (specialsWF_of_optionsError o hoe1) s fv hbe hreq hn
    rw [h1] at ht
    exact Or.inr ⟨k, i, h1, ht, h2⟩
  obtain ⟨h1, h2⟩ := accepts_iff_grammar_sep_partial c hd (skip_ne_unreachable c hvalid) hpre
    ((radix_facts c hvalid).2.2.2.2 hfeats) o (specialsWF_of_optionsError o hoe1) (lettersOnly_of_optionsError o hoe1)
    s hb fv hbe hn
  cases hp : parseFloatSyntax c o false s fv with
  | ok p => exact Or.inl ⟨p, rfl, h1 p hp⟩
  | error e =>
    rw [hp] at ht
    cases e with
    | err k i => exact Or.inr ⟨k, i, rfl, ht, h2 k i hp⟩
    | panic t => exact ht.elim
    | fault t => exact ht.elim

/-- what `numberBits` rounds is the digit content `numberLit` — by definition for a truncated mantissa, by
`NumberExactAt` (`mantissa · base^exponent` = value of the digits) otherwise -/
theorem numberBits_eq_numberLit (c : Cfg) (hvalid : (formatError c.feats c.fmt).isNone = true) {F : FTy}
    (hF : IsLemireFloat F) (n : Number) (hx : n.manyDigits = false → NumberExactAt c n) :
    numberBits c F.fmt n = litBits F.fmt c.mantissaRadix c.exponentBase (numberLit c n) := by
  cases hm : n.manyDigits with
  | true =>
    unfold numberBits numberLit
    simp only [hm, if_true]
    rfl
  | false =>
    obtain ⟨r2, r36, b2, _, _⟩ := radix_facts c hvalid
    exact (spec_forms hF c r2 r36 b2 n hm (hx hm).2.2).2

/-- **VALUE clause**: an accepted number has the value of the grammar's literal. `hlen`: the exponent accumulator
saturates at `0x10000000`, which `litBits` cannot see for inputs shorter than `(0x10000000 − 1200)/6 ≈ 44.7·10⁶` bytes
(`1200 + 6·n` is the larger of the two short-circuit thresholds of `Spec.litBits`, `Spec/Decimal.lean`). -/
theorem accepted_value (c : Cfg) (hvalid : (formatError c.feats c.fmt).isNone = true) (hpre : c.basePrefix = 0)
    (o : POpts) (s : List Nat) (hb : ∀ x ∈ s, x < 256) (hn : separatorFree c.fmt s = true)
    (hlen : 1200 + 6 * s.length ≤ 0x10000000) {F : FTy} (hF : IsLemireFloat F) (n : Number) (cnt : Nat)
    (hv : Verdict c o s (.number n cnt)) (hx : n.manyDigits = false → NumberExactAt c n) :
    cnt = s.length ∧
    numberOk (cfgSyn c) (splitNumber (cfgSyn c) o (splitSign s).1 (splitSign s).2) = true ∧
    numberBits c F.fmt n = litBits F.fmt c.mantissaRadix c.exponentBase
      ((splitNumber (cfgSyn c) o (splitSign s).1 (splitSign s).2).lit (cfgSyn c)) := by
  obtain ⟨r2, r36, b2, e2, _⟩ := radix_facts c hvalid
  obtain ⟨P, hP, hok, hcnt, hlit, hdl⟩ := numberLit_of_verdict c (skip_ne_unreachable c hvalid) hpre (by omega) o s hb
    (noSep_of_separatorFree c s hn) n cnt hv
  have hpre2 : (cfgSyn c).pre = 0 := by rw [syn_pre]; exact hpre
  have hne := (splitNumber_value (cfgSyn c) hpre2 o (splitSign s).1 (splitSign s).2).2.2.2.1
  rw [← hP] at hne ⊢
  refine ⟨hcnt, hok, ?_⟩
  rw [numberBits_eq_numberLit c hvalid hF n hx, hlit]
  exact litBits_litSat F.fmt _ _ (cfgSyn c) (by rw [syn_expRadix]; omega) P hne (by omega)

theorem renderErr_startsWith (k : String) (i : Nat) : (renderErr (.err k i)).startsWith "err" = true := by
  unfold renderErr
  simp only [String.startsWith_string_iff, String.toList_append, toString]
  show ['e', 'r', 'r'] <+: ("err ").toList ++ _
  exact ⟨' ' :: _, rfl⟩

/-- **`accepts_iff_grammar`, proved** — its conclusion verbatim (the line the entry point prints is the rendering of
the documented grammar's result, or the grammar rejects and the line starts with `err`), under its six hypotheses
plus, explicitly:
* `hF`: the float type is `f32` or `f64` (`accepts_iff_grammar` quantifies over arbitrary, also ill-formed, `Fmt`s);
* `hfeats`: the cargo feature `radix` enables `power-of-two` (a fact of `Cargo.toml`);
* `hpre`, `hbody`: the two excluded classes — formats with a base prefix (not covered by the proof); empty input / bare
  sign (the finding `C12.finding_empty_input`) for formats that require NEITHER integer nor mantissa digits (for all other formats, e.g. every format with the
  `format` feature off, `hbody` holds by its right disjunct and nothing is excluded);
* `hlen`: the input is shorter than `(0x10000000 − 1200)/6` bytes — beyond, the saturating exponent accumulator of
  `parse_number` can differ from the exact exponent in a way the value sees;
* `hexact`: `NumberExactAt` for the accepted `Number` when its mantissa is untruncated (at most `u64_step` digits) —
  the statement `NumberExact` of `Props.C01Main`, a `def` there; no hypothesis for many-digit numbers. -/
theorem accepts_iff_grammar_entry_partial (feats : Features) (f : Format) (o : POpts) (F : FTy) (s : List Nat)
    (hfe : (formatError feats f).isNone = true) (hoe : (optionsError o).isNone = true)
    (hp : isValidOptionsPunctuation feats f o.exp o.dp = true) (hcr : checkRadix feats f = true)
    (hb : ∀ x ∈ s, x < 256) (hn : separatorFree f s = true)
    (hF : IsLemireFloat F) (hfeats : FeatsOk feats)
    (hpre : feats.format = true → f.basePrefix = 0)
    (hbody : (splitSign s).2 ≠ [] ∨
      (Cfg.requiredIntegerDigits ⟨feats, f, false⟩ || Cfg.requiredMantissaDigits ⟨feats, f, false⟩) = true)
    (hlen : 1200 + 6 * s.length ≤ 0x10000000)
    (hexact : ∀ n cnt, parseFloatSyntax ⟨feats, f, false⟩ o false s true = .ok (.number n cnt) →
      n.manyDigits = false → NumberExactAt ⟨feats, f, false⟩ n) :
    parseFloatModel feats f o false F.fmt s =
        (grammarFloatComplete feats f o s).render F.fmt f.mantissaRadix f.exponentBase false
      ∨ (grammarFloatComplete feats f o s = .err ∧ (parseFloatModel feats f o false F.fmt s).startsWith "err") := by
  have hpre2 : (⟨feats, f, false⟩ : Cfg).basePrefix = 0 := by
    unfold Cfg.basePrefix
    cases hf : feats.format
    · simp
    · simpa using hpre hf
  rw [entry_guards_pass feats f o false F.fmt s hfe hoe hp hcr]
  rcases syntax_dichotomy ⟨feats, f, false⟩ rfl hfe hfeats hpre2 o hoe s hb true hbody hn with
    ⟨p, hp1, hv⟩ | ⟨k, i, hp1, _, hg⟩
  · left
    have hs : s ≠ [] := by
      intro h; subst h
      have hreq := hbody.resolve_left (fun h => h rfl)
      have e : splitSign ([] : List Nat) = (none, []) := rfl
      cases hv with
      | number n P hP hok hni =>
        rw [e] at hP
        subst hP
        rw [numberOk_nil _ o _ (by rw [syn_reqInt, syn_reqMant]; exact hreq)] at hok
        cases hok
      | special t hno hsg hsp =>
        rw [e, specialOf_nil _ o (specialsWF_of_optionsError o (by cases h : optionsError o <;> simp_all))] at hsp
        cases hsp
    rw [hp1]
    cases hv with
    | number n P hP hok hni =>
      have hv2 : Verdict ⟨feats, f, false⟩ o s (.number n s.length) := .number n P hP hok hni
      obtain ⟨_, hok2, hval⟩ := accepted_value ⟨feats, f, false⟩ hfe hpre2 o s hb hn hlen hF n s.length hv2
        (hexact n s.length hp1)
      rw [hv2.grammar hs]
      simp only [renderParsed, FRes.render, hval, Bool.false_eq_true, if_false]
      rfl
    | special t hno hsg hsp =>
      rw [(Verdict.special t hno hsg hsp).grammar hs]
      cases t <;> simp [renderParsed, FRes.render]
  · right
    rw [hp1]
    exact ⟨hg, renderErr_startsWith k i⟩

/-- **What is left of C12 on the proved class, as one statement**: `NumberExact` (`Props.C01Main`; there for decimal,
separator/prefix-free formats) for every valid format without base prefix, every radix, separator formats included,
complete parser, separator-free inputs below the length bound. It is a `def`: it is C01/C05 territory (the
`mantissa`/`exponent` words of `parse_number`), not a statement about syntax. -/
def NumberExactC12 : Prop :=
  ∀ (feats : Features) (f : Format) (o : POpts) (s : List Nat) (n : Number) (cnt : Nat),
    (formatError feats f).isNone = true → (optionsError o).isNone = true →
    isValidOptionsPunctuation feats f o.exp o.dp = true → checkRadix feats f = true →
    (∀ x ∈ s, x < 256) → separatorFree f s = true → FeatsOk feats → (feats.format = true → f.basePrefix = 0) →
    1200 + 6 * s.length ≤ 0x10000000 →
    parseFloatSyntax ⟨feats, f, false⟩ o false s true = .ok (.number n cnt) → n.manyDigits = false →
    NumberExactAt ⟨feats, f, false⟩ n

/-- `accepts_iff_grammar` on the whole proved class from `NumberExactC12` alone -/
theorem accepts_iff_grammar_of_numberExact (hN : NumberExactC12) (feats : Features) (f : Format) (o : POpts) (F : FTy)
    (s : List Nat) (hfe : (formatError feats f).isNone = true) (hoe : (optionsError o).isNone = true)
    (hp : isValidOptionsPunctuation feats f o.exp o.dp = true) (hcr : checkRadix feats f = true)
    (hb : ∀ x ∈ s, x < 256) (hn : separatorFree f s = true)
    (hF : IsLemireFloat F) (hfeats : FeatsOk feats)
    (hpre : feats.format = true → f.basePrefix = 0)
    (hbody : (splitSign s).2 ≠ [] ∨
      (Cfg.requiredIntegerDigits ⟨feats, f, false⟩ || Cfg.requiredMantissaDigits ⟨feats, f, false⟩) = true)
    (hlen : 1200 + 6 * s.length ≤ 0x10000000) :
    parseFloatModel feats f o false F.fmt s =
        (grammarFloatComplete feats f o s).render F.fmt f.mantissaRadix f.exponentBase false
      ∨ (grammarFloatComplete feats f o s = .err ∧ (parseFloatModel feats f o false F.fmt s).startsWith "err") :=
  accepts_iff_grammar_entry_partial feats f o F s hfe hoe hp hcr hb hn hF hfeats hpre hbody hlen
    (fun n cnt h hm => hN feats f o s n cnt hfe hoe hp hcr hb hn hfeats hpre hlen h hm)

/-- **… with `NumberExact` as the one named hypothesis**: decimal formats (radix and exponent base 10) of the class
`NumberExact` is stated for (`format` feature off, or no digit separator / base prefix). -/
theorem accepts_iff_grammar_decimal_partial (hN : NumberExact) (feats : Features) (f : Format) (o : POpts) (F : FTy)
    (s : List Nat) (hfe : (formatError feats f).isNone = true) (hoe : (optionsError o).isNone = true)
    (hp : isValidOptionsPunctuation feats f o.exp o.dp = true) (hcr : checkRadix feats f = true)
    (hb : ∀ x ∈ s, x < 256) (hF : IsLemireFloat F) (hfeats : FeatsOk feats)
    (hcls : feats.format = false ∨ SepPrefixFree f) (hr : f.mantissaRadix = 10) (hbase : f.exponentBase = 10)
    (hbody : (splitSign s).2 ≠ [] ∨
      (Cfg.requiredIntegerDigits ⟨feats, f, false⟩ || Cfg.requiredMantissaDigits ⟨feats, f, false⟩) = true)
    (hlen : 1200 + 6 * s.length ≤ 0x10000000) :
    parseFloatModel feats f o false F.fmt s =
        (grammarFloatComplete feats f o s).render F.fmt f.mantissaRadix f.exponentBase false
      ∨ (grammarFloatComplete feats f o s = .err ∧ (parseFloatModel feats f o false F.fmt s).startsWith "err") := by
  have hsep0 : f.digitSeparator = 0 := by
    rcases hcls with h | h
    · have := LexVerif.Proof.PNDebug.fe_sep hfe
      simpa [h] using this
    · exact h.1
  refine accepts_iff_grammar_entry_partial feats f o F s hfe hoe hp hcr hb (by simp [separatorFree, hsep0]) hF hfeats ?_ hbody
    hlen ?_
  · intro hf
    rcases hcls with h | h
    · simp [hf] at h
    · exact h.2.1
  · intro n cnt hpn hm
    exact hN ⟨feats, f, false⟩ o false s true n cnt rfl hcls hr hbase hpn hm

/-- non-vacuity of the hypotheses (STANDARD, default options, default feature set, `1.5e3`) -/
example : (formatError {} Format.standard).isNone = true ∧ (optionsError {}).isNone = true ∧
    isValidOptionsPunctuation {} Format.standard 101 46 = true ∧ checkRadix {} Format.standard = true ∧
    separatorFree Format.standard [49, 46, 53, 101, 51] = true ∧ (splitSign [49, 46, 53, 101, 51]).2 ≠ [] := by
  decide

theorem render_num_not_err (ty : Fmt) (r b : Nat) (l : FloatLit) (n : Nat) :
    ((FRes.num l n).render ty r b false).startsWith "err" = false := by
  unfold FRes.render
  simp only [Bool.false_eq_true, if_false]
  rw [Bool.eq_false_iff]
  intro h
  simp only [String.startsWith_string_iff, String.toList_append, toString] at h
  have : ("ok ").toList = ['o', 'k', ' '] := rfl
  rw [this] at h
  simp at h

/-- regression for finding C12-base-prefix-swallows-leading-zero (`fixes/C12-base-prefix-swallows-leading-zero.diff`,
`Model.prefixRepair`): format `prefix_d_radix10` (valid, `radix+format`, a base prefix merely allowed), default options,
input `0`: the syntax layer accepts and the grammar derives the number `0` (without the repair: `Err(EmptyMantissa(1))`). -/
theorem regression_accepts_prefix_zero :
    (match parseFloatSyntax ⟨featsRF, cfgPrefixD.fmt, false⟩ {} false [48] true with
     | .ok _ => true | .error _ => false) = true ∧
    grammarFloatComplete featsRF cfgPrefixD.fmt {} [48] = .num ⟨false, [0], [], 0⟩ 1 := by decide

/-- non-vacuity of `accepts_iff_grammar_entry_partial`, all hypotheses at once (STANDARD, default options and feature
set, `1.5e3`, `f64`; the `Number` is `15·10²`, untruncated, and `NumberExactAt` holds for it by evaluation) -/
example : parseFloatModel {} Format.standard {} false FTy.f64.fmt [49, 46, 53, 101, 51] =
      (grammarFloatComplete {} Format.standard {} [49, 46, 53, 101, 51]).render FTy.f64.fmt 10 10 false
    ∨ (grammarFloatComplete {} Format.standard {} [49, 46, 53, 101, 51] = .err ∧
      (parseFloatModel {} Format.standard {} false FTy.f64.fmt [49, 46, 53, 101, 51]).startsWith "err") := by
  refine accepts_iff_grammar_entry_partial {} Format.standard {} FTy.f64 [49, 46, 53, 101, 51] (by decide) (by decide)
    (by decide) (by decide) (by decide) (by decide) (Or.inl rfl) (by intro h; cases h) (by intro h; cases h) (by decide)
    (by decide) ?_
  intro n cnt h _
  have hm : parseFloatSyntax ⟨{}, Format.standard, false⟩ {} false [49, 46, 53, 101, 51] true =
      .ok (.number ⟨15, 2, false, false, [49], some [53], 3⟩ 5) := by decide
  rw [hm] at h
  injection h with h
  injection h with h _
  subst h
  refine ⟨by decide, ⟨by decide, by decide⟩, ?_⟩
  unfold C01Main.RatEq
  decide

/-- non-vacuity of `emptybody_rejects` and of the right disjunct of `hbody`: STANDARD requires mantissa digits; the bare
sign `-` is rejected by the entry point (`err Empty 1`) and by the grammar — no exclusion needed -/
example : (grammarFloatComplete {} Format.standard {} [45] = .err ∧
      (parseFloatModel {} Format.standard {} false FTy.f64.fmt [45]).startsWith "err") := by
  have h := accepts_iff_grammar_entry_partial {} Format.standard {} FTy.f64 [45] (by decide) (by decide)
    (by decide) (by decide) (by decide) (by decide) (Or.inl rfl) (by intro h; cases h) (by intro h; cases h)
    (Or.inr (by decide)) (by decide) (by
      intro n cnt h _
      have hm : parseFloatSyntax ⟨{}, Format.standard, false⟩ {} false [45] true = .error (.err "Empty" 1) := by decide
      rw [hm] at h; cases h)
  have hg : grammarFloatComplete {} Format.standard {} [45] = .err := by decide
  rcases h with h | h
  · rw [hg] at h
    refine ⟨hg, ?_⟩
    rw [entry_guards_pass {} Format.standard {} false FTy.f64.fmt [45] (by decide) (by decide) (by decide) (by decide)]
    have hm : parseFloatSyntax ⟨{}, Format.standard, false⟩ {} false [45] true = .error (.err "Empty" 1) := by decide
    rw [hm]
    exact renderErr_startsWith _ _
  · exact h

/-- (c) a 21-digit input takes the many-digit re-parse and is accepted: `accepted_value` applies without `hx` -/
example : (match parseFloatSyntax ⟨{}, Format.standard, false⟩ {} false
      [49, 50, 51, 52, 53, 54, 55, 56, 57, 48, 49, 50, 51, 52, 53, 54, 55, 56, 57, 48, 49, 46, 53] with
    | .ok (.number n c) => n.manyDigits && c == 23
    | _ => false) = true := by decide

end LexVerif.Props.C12
