import LexVerif.Proof.ParseNumberDebugMain
import LexVerif.Proof.ParseNumberDebugRescanApi
/-!
# C10 in debug-assertion builds (`Cfg.debug = true`)

Part 1 — witnesses: the model predicts `debug_assert!` panics of `parse_number` for valid formats in two classes
(found by a search over the 15×15 per-component separator-flag combinations on a template list of inputs, plus a
random search). First class, for `skip.rs` without the repair `Fix.itc`: a component whose separator flags are I+T+C
without L, when the digit slice stored by the first pass starts with a separator that the first pass skipped because the
byte before it (the decimal point for the fraction, the base-prefix letter for the integer) is a non-digit. The many-digits path
re-scans the stored slice with a fresh iterator that has no previous byte; `is_itc @first` then refuses to
skip, `parse_u64_digits` takes the separator as a digit and `step_unchecked` trips
`debug_assert!(!is_digit_separator)` (model tag `step_by: on digit separator`). Second class: the separator equals the
exponent character, the base prefix or the base suffix up to ASCII case.
Parts 2–4 — no panic and no fault for three classes of formats (`ValidContiguous`: no separator byte, any flags;
`ValidIntFracContiguous` ⊂ `ValidIltc` in what they allow), `parse_number` started in any state. Part 5 — the entry points for every valid format
outside the two witnessed classes (`parseNumber_no_panic_debug_full_proved`).

Every witness is a harness op line (`pf f64 <fmt> <partial> 0 101 46 4e614e 696e66 696e66696e697479 <hex>`).
-/
namespace LexVerif.Props.C10Debug
open LexVerif LexVerif.Model LexVerif.Spec

def panicTag {α} : Except Err α → Option String
  | .error (.panic t) => some t
  | _ => none

def fFormat : Features := { format := true }
def fRadixFormat : Features := { format := true, radix := true, powerOfTwo := true }

/-- `1._1234567890123456789` -/
def inFrac : List Nat := [49, 46, 95, 49, 50, 51, 52, 53, 54, 55, 56, 57, 48, 49, 50, 51, 52, 53, 54, 55, 56, 57]
/-- `0d_12345678901234567890` -/
def inInt : List Nat := [48, 100, 95, 49, 50, 51, 52, 53, 54, 55, 56, 57, 48, 49, 50, 51, 52, 53, 54, 55, 56, 57, 48]
/-- `1._0123456789abcdef0` -/
def inHex : List Nat := [49, 46, 95, 48, 49, 50, 51, 52, 53, 54, 55, 56, 57, 97, 98, 99, 100, 101, 102, 48]

def sepItc : Format := ⟨0xa0a0a000000005f00000fc70000000c⟩
def rustLiteral : Format := ⟨0xa000000005f00000fc70000041f⟩
def swiftLiteral : Format := ⟨0xa000000005f00000fc70000040f⟩
def ocamlLiteral : Format := ⟨0xa000000005f00000fd70000081d⟩
def prefixDSepItc : Format := ⟨0xa0a0a006400005f00000fc70000000c⟩
def sepmixFracItc : Format := ⟨0xa0a0a000000005f000004820000000c⟩
def prefixDSepmixIntItc : Format := ⟨0xa0a0a006400005f000002410000000c⟩
def sepItcHexfloat : Format := ⟨0xa0210000000005f00000fc70000000c⟩

/-! ### fraction slice (feature set `format`)

The I+T+C witnesses are stated `Fix.itc = true ∨ …`: with `Fix.itc = false` (`skip.rs` without
`fixes/C13-sep-itc-accepts-leading.diff`) the right disjunct holds by evaluation; `Model/Iter.lean` has the switch at
`true`, where they hold by their left disjunct and say nothing about the model. -/

/-- `pf f64 a0a0a000000005f00000fc70000000c 0 0 101 46 4e614e 696e66 696e66696e697479 312e5f31323334353637383930313233343536373839` -/
theorem witness_sep_itc_fraction :
    Fix.itc = true ∨ parseFloatModel fFormat sepItc {} false f64 inFrac true = "panic" := by
  decide +kernel

theorem witness_sep_itc_fraction_tag :
    Fix.itc = true ∨ panicTag (parseFloatSyntax ⟨fFormat, sepItc, true⟩ {} false inFrac) = some "step_by: on digit separator" := by
  decide +kernel

/-- same with `parse_partial` (`… 1 0 101 46 …`) -/
theorem witness_sep_itc_fraction_partial :
    Fix.itc = true ∨ parseFloatModel fFormat sepItc {} true f64 inFrac true = "panic" := by
  decide +kernel

/-- the release build of the same input does not fault (it silently mis-scans the slice instead) -/
theorem witness_sep_itc_fraction_release : parseFloatModel fFormat sepItc {} false f64 inFrac false ≠ "panic" := by
  decide +kernel

/-- `pf f64 a000000005f00000fc70000041f 0 0 101 46 4e614e 696e66 696e66696e697479 312e5f31…39` (RUST_LITERAL) -/
theorem witness_rust_literal :
    Fix.itc = true ∨ parseFloatModel fFormat rustLiteral {} false f64 inFrac true = "panic" := by
  decide +kernel

/-- `pf f64 a000000005f00000fc70000040f 0 0 101 46 …` (SWIFT_LITERAL) -/
theorem witness_swift_literal :
    Fix.itc = true ∨ parseFloatModel fFormat swiftLiteral {} false f64 inFrac true = "panic" := by
  decide +kernel

/-- fraction flags I+T+C only, integer and exponent without separators -/
theorem witness_sepmix_frac_itc :
    Fix.itc = true ∨ parseFloatModel fFormat sepmixFracItc {} false f64 inFrac true = "panic" := by
  decide +kernel

/-- OCAML_LITERAL (integer I+T+C, fraction I+L+T+C, no base prefix) is *not* in the class: its fraction iterator
always skips, and without a base prefix the integer slice cannot start with a separator (`is_consumed`'s `peek`
in `parse_complete` has already skipped it). -/
theorem ocaml_literal_no_panic : parseFloatModel fFormat ocamlLiteral {} false f64 inFrac true ≠ "panic" := by
  decide +kernel

/-! ### integer slice (needs a base prefix: feature set `radix+format`) -/

/-- `pf f64 a0a0a006400005f00000fc70000000c 0 0 101 46 4e614e 696e66 696e66696e697479 30645f3132333435363738393031323334353637383930` -/
theorem witness_prefix_itc_integer :
    Fix.itc = true ∨ parseFloatModel fRadixFormat prefixDSepItc {} false f64 inInt true = "panic" := by
  decide +kernel

theorem witness_prefix_itc_integer_tag :
    Fix.itc = true ∨ panicTag (parseFloatSyntax ⟨fRadixFormat, prefixDSepItc, true⟩ {} false inInt) = some "step_by: on digit separator" := by
  decide +kernel

/-- integer flags I+T+C only -/
theorem witness_prefix_int_itc_only :
    Fix.itc = true ∨ parseFloatModel fRadixFormat prefixDSepmixIntItc {} false f64 inInt true = "panic" := by
  decide +kernel

/-! ### other radix: hex float, 17 > `u64_step(16) = 16` digits, exponent character `p` -/

/-- `pf f64 a0210000000005f00000fc70000000c 0 0 112 46 4e614e 696e66 696e66696e697479 312e5f3031323334353637383961626364656630` -/
theorem witness_sep_itc_hexfloat :
    Fix.itc = true ∨ parseFloatModel fRadixFormat sepItcHexfloat { exp := 112 } false f64 inHex true = "panic" := by
  decide +kernel

theorem witness_parseNumber :
    Fix.itc = true ∨ panicTag (parseNumber ⟨fFormat, sepItc, true⟩ false {} (Bytes.new inFrac) false) = some "step_by: on digit separator" := by
  decide +kernel

/-! ### second class: separator = exponent character / base suffix / base prefix *up to ASCII case*

`is_valid_punctuation` / `is_valid_options_punctuation` compare the control characters exactly, the parser
compares the exponent character, base prefix and base suffix case-insensitively (unless the `case_sensitive_*`
flag is set). With separator `E` and exponent `e` (or `X` / `x` for prefix or suffix) the byte under the cursor
matches, and the following `step_unchecked` is on a digit separator. -/

def sepEI : Format := ⟨0xa0a0a0000000045000000070000000c⟩
def suffixXSepXI : Format := ⟨0xa0a0a7800000058000000070000000c⟩
def prefixXSepXI : Format := ⟨0xa0a0a0078000058000000070000000c⟩

/-- `pf f64 a0a0a0000000045000000070000000c 0 0 101 46 4e614e 696e66 696e66696e697479 31452b35` (`1E+5`, feature set `format`) -/
theorem witness_sep_eq_exponent_uncased :
    parseFloatModel fFormat sepEI {} false f64 [49, 69, 43, 53] true = "panic" := by decide +kernel

theorem witness_sep_eq_exponent_uncased_tag :
    panicTag (parseFloatSyntax ⟨fFormat, sepEI, true⟩ {} false [49, 69, 43, 53]) = some "step_by: on digit separator" := by
  decide +kernel

/-- `pf f64 a0a0a7800000058000000070000000c 0 0 101 46 4e614e 696e66 696e66696e697479 3158` (`1X`, `radix+format`) -/
theorem witness_sep_eq_suffix_uncased :
    parseFloatModel fRadixFormat suffixXSepXI {} false f64 [49, 88] true = "panic" := by decide +kernel

/-- `pf f64 a0a0a0078000058000000070000000c 0 0 101 46 4e614e 696e66 696e66696e697479 3058` (`0X`, `radix+format`) -/
theorem witness_sep_eq_prefix_uncased :
    parseFloatModel fRadixFormat prefixXSepXI {} false f64 [48, 88] true = "panic" := by decide +kernel

/-! ### the unrestricted debug-mode statement is false -/

theorem not_parse_total_debug :
    ¬ (∀ (c : Cfg) (o : POpts) (isPartial : Bool) (input : List Nat),
      (formatError c.feats c.fmt).isNone = true → checkRadix c.feats c.fmt = true →
      isValidOptionsPunctuation c.feats c.fmt o.exp o.dp = true →
      match parseFloatSyntax c o isPartial input with
      | .error (.panic _) => False
      | .error (.fault _) => False
      | _ => True) := by
  intro h
  have hw := witness_sep_eq_exponent_uncased_tag
  have := h ⟨fFormat, sepEI, true⟩ {} false [49, 69, 43, 53] (by decide +kernel) (by decide +kernel) (by decide +kernel)
  cases hr : parseFloatSyntax ⟨fFormat, sepEI, true⟩ {} false [49, 69, 43, 53] with
  | ok p => rw [hr] at hw; simp [panicTag] at hw
  | error e =>
    rw [hr] at this hw
    cases e with
    | err k i => simp [panicTag] at hw
    | panic t => exact this
    | fault t => exact this

/-! ### why the theorem below needs `radix → power-of-two` on the feature record

`Features` is a record of independent booleans; cargo's `radix` feature enables `power-of-two`. For the
ill-formed record `{radix, ¬power-of-two}` the radix assertions of `parse_8digits` are reachable — this is not
a configuration the crate can be built in (no harness op). -/
theorem witness_illformed_features :
    panicTag (parseFloatSyntax ⟨{ radix := true }, ⟨0xa02100000000000000000000000000c⟩, true⟩ { exp := 112 } false
      [49, 50, 51, 52, 53, 54, 55, 56]) = some "parse_8digits: radix >= 16" := by
  decide +kernel

/-! ## Part 2 — no panic in debug builds when `Bytes::IS_CONTIGUOUS`

Hypotheses (all syntactic): the format passes `NumberFormat::error()` and `check_radix!` (what every API entry
point checks first), the feature record is one cargo can produce, and the format has no digit-separator byte
(`DIGIT_SEPARATOR == 0`: every build without the `format` feature, and every format without a separator
character — separator *flags* may be set). `is_valid_options_punctuation` is **not** needed in this class.

Conclusion, for every input / options / partial flag, for `debug = true` and (same proof) `debug = false`:
never `Err.panic`, never `Err.fault` (this includes `fault "fuel"`: no loop runs out of fuel), and the count
returned by `parse_number` is inside the buffer. Proof obligations discharged (see `Proof/ParseNumberTotal*.lean`,
`Proof/ParseNumberDebug*.lean`; the equations of `Proof/IterSpec.lean` say what each loop owes a debug build):
(a) `step_unchecked`/`step_by` assertions (`IterSpec.StepOK`, `stepUnchecked_ok`), (b) `get_unchecked(..n)` bounds
(`Phase.sliceTo_stored`), (c) radix assertions of `try_parse_8digits`/`parse_8digits`/`parse_u64_digits` from
`can_try_parse_multidigit!` + validity (`Ctx.multi`), (d) `parse_u64_digits` overflow (`MInv`, `pow_u64Step`,
stored slices are digit bytes: `IntOk.range`, `FracOk.digits`, `RunsOut`), (e) `scaleExponent` (`scale_of_checkRadix`),
(f) `fraction_digits.unwrap()` unreachable (counting argument in `PNTotal.manyTail_env`), (g) fuel.
The other model panic sites (`debug_assert format.is_valid()`, `debug_assert !is_buffer_empty()`,
`unreachable!()` of `peek`) are unreachable too (`PNTotal.parseNumber_env`, `parseFloatSyntax_safe`,
`skip_ne_unreachable`). -/

structure ValidContiguous (c : Cfg) : Prop where
  formatOk : (formatError c.feats c.fmt).isNone = true
  radixOk : checkRadix c.feats c.fmt = true
  featsOk : c.feats.radix = true → c.feats.powerOfTwo = true
  contiguous : c.bytesContiguous = true

/-- the hypothesis set as one decidable statement: one evaluation for a closed configuration -/
theorem ValidContiguous.of_dec {c : Cfg}
    (h : (formatError c.feats c.fmt).isNone = true ∧ checkRadix c.feats c.fmt = true ∧
      (c.feats.radix = true → c.feats.powerOfTwo = true) ∧ c.bytesContiguous = true) : ValidContiguous c :=
  ⟨h.1, h.2.1, h.2.2.1, h.2.2.2⟩

def NoPanicNoFault {α : Type} (r : Except Err α) : Prop :=
  (∀ t, r ≠ .error (.panic t)) ∧ (∀ t, r ≠ .error (.fault t))

theorem NoPanicNoFault.iff_wp {α : Type} {r : Except Err α} :
    NoPanicNoFault r ↔ LexVerif.Proof.Wp (fun _ => True) LexVerif.Proof.IsKind r := by
  cases r with
  | ok a => simp [NoPanicNoFault, LexVerif.Proof.Wp]
  | error e => cases e <;> simp [NoPanicNoFault, LexVerif.Proof.Wp, LexVerif.Proof.IsKind]

theorem NoPanicNoFault.of_safe {α : Type} {r : Except Err α} {P : α → Prop} (hs : LexVerif.Proof.PNDebug.Safe r P) :
    NoPanicNoFault r :=
  NoPanicNoFault.iff_wp.2 ((LexVerif.Proof.PNDebug.Safe.iff_wp.1 hs).mono (fun _ _ _ => trivial) fun _ => id)

open LexVerif.Proof.PNDebug in
/-- what Parts 2–4 use of their class: the facts validity gives the parser (`Ctx`), the punctuation off the separator
(`OCtx`), and an integer and a fraction iterator that never move in `peek` or skip every separator (`Good`) -/
structure GoodCfg (c : Cfg) (o : POpts) : Prop where
  ctx : Ctx c
  octx : OCtx c o
  int : Good c .integer
  frac : Good c .fraction

/-- `parse_number`, any `debug` value, started in any state: no panic, no fault, count within the buffer -/
theorem GoodCfg.parseNumber {c : Cfg} {o : POpts} (h : GoodCfg c o) (isPartial neg : Bool) (b : Bytes)
    (hb : b.index < b.slc.length) :
    NoPanicNoFault (parseNumber c isPartial o b neg) ∧
      ∀ n count, parseNumber c isPartial o b neg = .ok (n, count) → count ≤ b.slc.length := by
  have hs := LexVerif.Proof.PNTotal.NumOK.safe <|
    LexVerif.Proof.PNDebug.parseNumber_safe h.ctx h.int h.frac isPartial o h.octx b neg hb
  exact ⟨.of_safe hs, fun n count he => hs.of_eq_ok he⟩

/-- `parse_complete` / `parse_partial` up to the `Number` (sign, `parse_number!`, specials), any `debug` value -/
theorem GoodCfg.parseFloatSyntax {c : Cfg} {o : POpts} (h : GoodCfg c o) (isPartial : Bool) (input : List Nat) :
    NoPanicNoFault (parseFloatSyntax c o isPartial input) :=
  .of_safe (LexVerif.Proof.PNDebug.parseFloatSyntax_safe h.ctx h.int h.frac o h.octx isPartial input)

open LexVerif.Proof.PNDebug in
theorem ValidContiguous.good {c : Cfg} (h : ValidContiguous c) (o : POpts) : GoodCfg c o :=
  have cx := Ctx.of_valid c h.formatOk h.radixOk h.featsOk h.contiguous
  ⟨cx, .of_bc c o h.contiguous, .inl (peek_triv c cx .integer (.inl h.contiguous)),
    .inl (peek_triv c cx .fraction (.inl h.contiguous))⟩

/-- C10, debug-assertion build, syntax layer, `parse_number` -/
theorem parseNumber_no_panic_debug (c : Cfg) (h : ValidContiguous c) (_hd : c.debug = true) (o : POpts)
    (isPartial neg : Bool) (b : Bytes) (hb : b.index < b.slc.length) :
    NoPanicNoFault (parseNumber c isPartial o b neg) ∧
      ∀ n count, parseNumber c isPartial o b neg = .ok (n, count) → count ≤ b.slc.length :=
  (h.good o).parseNumber isPartial neg b hb

/-- C10, debug-assertion build, syntax layer, entry points -/
theorem parseFloatSyntax_no_panic_debug (c : Cfg) (h : ValidContiguous c) (_hd : c.debug = true) (o : POpts)
    (isPartial : Bool) (input : List Nat) : NoPanicNoFault (parseFloatSyntax c o isPartial input) :=
  (h.good o).parseFloatSyntax isPartial input

/-! ### non-vacuity -/

/-- the default build, STANDARD format, debug assertions on -/
example : ValidContiguous ⟨{}, Format.standard, true⟩ := .of_dec (by decide +kernel)

/-- `radix+format`, hex float with base prefix `x` and separator *flags* I+T+C but no separator byte -/
example : ValidContiguous ⟨fRadixFormat, ⟨0xa0210007800000000000fc70000000c⟩, true⟩ :=
  .of_dec (by decide +kernel)

/-- the many-digits path is exercised and returns `ok` (25 digits) -/
example : (parseFloatSyntax ⟨{}, Format.standard, true⟩ {} false
    ([49, 46] ++ inFrac.drop 3 ++ [48, 48, 55])).toBool = true := by decide +kernel

/-! ## Part 3 — integer and fraction iterators contiguous, `Bytes` not contiguous

The format has a digit-separator byte, but only the exponent (and/or the special values) may contain it
(`integer_*_digit_separator` and `fraction_*_digit_separator` flags all clear). Then `Bytes::current_count()` is
`integer_count + fraction_count + exponent_count`; the contiguous integer / fraction iterators count by the cursor
(`current_count() = byte.index`, /repo 12a2453) and `try_parse_8digits` / `try_parse_4digits` call
`increment_count()` for every digit they step over (/repo 7e8a135, finding `sep-format-uncounted-8digit-block`; the
no-panic proof only needs `PNTotal.parse8Digits_any`: cursor + 8 per block, `Adv` preserved). Every
`Bytes::step_unchecked` (sign, decimal point, exponent character, base suffix) and every exponent-iterator step
asserts "not on the digit separator". Additional hypotheses: `is_valid_options_punctuation`, and the separator
must differ from the exponent character and the base suffix *up to ASCII case* where the parser compares
case-insensitively (`witness_sep_eq_exponent_uncased`, `witness_sep_eq_suffix_uncased` show this is necessary). -/

open LexVerif.Proof.PNDebug (matchesB) in
structure ValidIntFracContiguous (c : Cfg) (o : POpts) : Prop where
  formatOk : (formatError c.feats c.fmt).isNone = true
  radixOk : checkRadix c.feats c.fmt = true
  featsOk : c.feats.radix = true → c.feats.powerOfTwo = true
  optsOk : isValidOptionsPunctuation c.feats c.fmt o.exp o.dp = true
  intContig : c.iterContiguous .integer = true
  fracContig : c.iterContiguous .fraction = true
  expCase : c.bytesContiguous = true ∨
    matchesB c.fmt.digitSeparator o.exp (c.caseSensitiveExponent && c.feats.format) = false
  suffixCase : c.baseSuffix ≠ 0 → c.bytesContiguous = true ∨
    matchesB c.fmt.digitSeparator c.baseSuffix c.caseSensitiveBaseSuffix = false

theorem ValidIntFracContiguous.of_dec {c : Cfg} {o : POpts}
    (h : (formatError c.feats c.fmt).isNone = true ∧ checkRadix c.feats c.fmt = true ∧
      (c.feats.radix = true → c.feats.powerOfTwo = true) ∧
      isValidOptionsPunctuation c.feats c.fmt o.exp o.dp = true ∧
      c.iterContiguous .integer = true ∧ c.iterContiguous .fraction = true ∧
      (c.bytesContiguous = true ∨
        LexVerif.Proof.PNDebug.matchesB c.fmt.digitSeparator o.exp (c.caseSensitiveExponent && c.feats.format) = false) ∧
      (c.baseSuffix ≠ 0 → c.bytesContiguous = true ∨
        LexVerif.Proof.PNDebug.matchesB c.fmt.digitSeparator c.baseSuffix c.caseSensitiveBaseSuffix = false)) :
    ValidIntFracContiguous c o :=
  ⟨h.1, h.2.1, h.2.2.1, h.2.2.2.1, h.2.2.2.2.1, h.2.2.2.2.2.1, h.2.2.2.2.2.2.1, h.2.2.2.2.2.2.2⟩

open LexVerif.Proof.PNDebug in
theorem ValidIntFracContiguous.good {c : Cfg} {o : POpts} (h : ValidIntFracContiguous c o) : GoodCfg c o :=
  have cx := Ctx.of_valid_gen c h.formatOk h.radixOk h.featsOk (fun _ => .inl h.intContig) h.suffixCase
  ⟨cx, .of_opts cx h.optsOk h.expCase, .inl (peek_triv c cx .integer (.inr h.intContig)),
    .inl (peek_triv c cx .fraction (.inr h.fracContig))⟩

/-- C10, debug-assertion build, `parse_number`, class "integer and fraction iterators contiguous" -/
theorem parseNumber_no_panic_debug_intfrac (c : Cfg) (o : POpts) (h : ValidIntFracContiguous c o) (_hd : c.debug = true)
    (isPartial neg : Bool) (b : Bytes) (hb : b.index < b.slc.length) :
    NoPanicNoFault (parseNumber c isPartial o b neg) ∧
      ∀ n count, parseNumber c isPartial o b neg = .ok (n, count) → count ≤ b.slc.length :=
  h.good.parseNumber isPartial neg b hb

/-- C10, debug-assertion build, entry points, class "integer and fraction iterators contiguous" -/
theorem parseFloatSyntax_no_panic_debug_intfrac (c : Cfg) (o : POpts) (h : ValidIntFracContiguous c o)
    (_hd : c.debug = true) (isPartial : Bool) (input : List Nat) :
    NoPanicNoFault (parseFloatSyntax c o isPartial input) :=
  h.good.parseFloatSyntax isPartial input

/-- non-vacuity: `sepmix_exp_iltc` (separator `_` in the exponent only), `format`, debug assertions on -/
example : ValidIntFracContiguous ⟨fFormat, ⟨0xa0a0a000000005f000009240000000c⟩, true⟩ {} :=
  .of_dec (by decide +kernel)

/-- … and a separator in the exponent is really skipped there: `1.5e1_0` -/
example : (parseFloatSyntax ⟨fFormat, ⟨0xa0a0a000000005f000009240000000c⟩, true⟩ {} false
    [49, 46, 53, 101, 49, 95, 48]).toBool = true := by decide +kernel

/-- regression for finding `sep-format-uncounted-8digit-block` (/repo 7e8a135 + 12a2453), debug build: in this class
the digits of the 8-digit fast loop are counted — `12345678` is a number with mantissa 12345678 (not an empty
mantissa) and `1.123456789` keeps its nine fraction digits -/
theorem regression_intfrac_counts_8digit_block :
    (match parseFloatSyntax ⟨fFormat, ⟨0xa0a0a000000005f000009240000000c⟩, true⟩ {} false
        [49, 50, 51, 52, 53, 54, 55, 56] with
      | .ok (.number n _) => n.mantissa == 12345678 && n.exponent == 0
      | _ => false) = true ∧
    (match parseFloatSyntax ⟨fFormat, ⟨0xa0a0a000000005f000009240000000c⟩, true⟩ {} false
        [49, 46, 49, 50, 51, 52, 53, 54, 55, 56, 57] with
      | .ok (.number n _) =>
        n.fraction == some [49, 50, 51, 52, 53, 54, 55, 56, 57] && n.exponent == -9 && n.mantissa == 1123456789
      | _ => false) = true := by decide +kernel

/-! ## Part 4 — integer / fraction iterators contiguous **or I+L+T+C**

Of the 15 `peek` variants (`noskip` + 14 predicates) two are covered for the integer and fraction components:
`noskip` (no flag) and `iltc` (all four flags: every run of separators is skipped unconditionally, independent
of the neighbouring bytes, so the first pass and the re-scan of the stored slice agree and `peek` never returns
the separator). The exponent component may use **any** of the 15; the special iterator too. This class is about
`parse_number` started in ANY state (`parseNumber_no_panic_debug_iltc`); the other 12 predicates
(`i l t il it lt ilt ic lc tc ilc ltc`) on the integer / fraction component are covered for the entry points in
Part 5 (`itc` without the repair `Fix.itc` is refuted by the witnesses of Part 1). -/

open LexVerif.Proof.PNDebug (matchesB) in
structure ValidIltc (c : Cfg) (o : POpts) : Prop where
  formatOk : (formatError c.feats c.fmt).isNone = true
  radixOk : checkRadix c.feats c.fmt = true
  featsOk : c.feats.radix = true → c.feats.powerOfTwo = true
  optsOk : isValidOptionsPunctuation c.feats c.fmt o.exp o.dp = true
  intFlags : c.iterContiguous .integer = true ∨ c.sepFlags .integer = ⟨true, true, true, true⟩
  fracFlags : c.iterContiguous .fraction = true ∨ c.sepFlags .fraction = ⟨true, true, true, true⟩
  expCase : c.bytesContiguous = true ∨
    matchesB c.fmt.digitSeparator o.exp (c.caseSensitiveExponent && c.feats.format) = false
  suffixCase : c.baseSuffix ≠ 0 → c.bytesContiguous = true ∨
    matchesB c.fmt.digitSeparator c.baseSuffix c.caseSensitiveBaseSuffix = false
  prefixCase : c.basePrefix ≠ 0 → c.iterContiguous .integer = true ∨
    matchesB c.fmt.digitSeparator c.basePrefix c.caseSensitiveBasePrefix = false

theorem ValidIltc.of_dec {c : Cfg} {o : POpts}
    (h : (formatError c.feats c.fmt).isNone = true ∧ checkRadix c.feats c.fmt = true ∧
      (c.feats.radix = true → c.feats.powerOfTwo = true) ∧
      isValidOptionsPunctuation c.feats c.fmt o.exp o.dp = true ∧
      (c.iterContiguous .integer = true ∨ c.sepFlags .integer = ⟨true, true, true, true⟩) ∧
      (c.iterContiguous .fraction = true ∨ c.sepFlags .fraction = ⟨true, true, true, true⟩) ∧
      (c.bytesContiguous = true ∨
        LexVerif.Proof.PNDebug.matchesB c.fmt.digitSeparator o.exp (c.caseSensitiveExponent && c.feats.format) = false) ∧
      (c.baseSuffix ≠ 0 → c.bytesContiguous = true ∨
        LexVerif.Proof.PNDebug.matchesB c.fmt.digitSeparator c.baseSuffix c.caseSensitiveBaseSuffix = false) ∧
      (c.basePrefix ≠ 0 → c.iterContiguous .integer = true ∨
        LexVerif.Proof.PNDebug.matchesB c.fmt.digitSeparator c.basePrefix c.caseSensitiveBasePrefix = false)) :
    ValidIltc c o :=
  ⟨h.1, h.2.1, h.2.2.1, h.2.2.2.1, h.2.2.2.2.1, h.2.2.2.2.2.1, h.2.2.2.2.2.2.1, h.2.2.2.2.2.2.2.1, h.2.2.2.2.2.2.2.2⟩

open LexVerif.Proof.PNDebug in
theorem ValidIltc.good {c : Cfg} {o : POpts} (h : ValidIltc c o) : GoodCfg c o :=
  have cx := Ctx.of_valid_gen c h.formatOk h.radixOk h.featsOk h.prefixCase h.suffixCase
  ⟨cx, .of_opts cx h.optsOk h.expCase, good_of_flags cx .integer (.inl rfl) h.intFlags,
    good_of_flags cx .fraction (.inr rfl) h.fracFlags⟩

/-- C10, debug-assertion build, `parse_number`, integer / fraction iterators `noskip` or `iltc` -/
theorem parseNumber_no_panic_debug_iltc (c : Cfg) (o : POpts) (h : ValidIltc c o) (_hd : c.debug = true)
    (isPartial neg : Bool) (b : Bytes) (hb : b.index < b.slc.length) :
    NoPanicNoFault (parseNumber c isPartial o b neg) ∧
      ∀ n count, parseNumber c isPartial o b neg = .ok (n, count) → count ≤ b.slc.length :=
  h.good.parseNumber isPartial neg b hb

/-- C10, debug-assertion build, entry points, integer / fraction iterators `noskip` or `iltc` -/
theorem parseFloatSyntax_no_panic_debug_iltc (c : Cfg) (o : POpts) (h : ValidIltc c o) (_hd : c.debug = true)
    (isPartial : Bool) (input : List Nat) : NoPanicNoFault (parseFloatSyntax c o isPartial input) :=
  h.good.parseFloatSyntax isPartial input

/-- non-vacuity: `sep_iltc` (`_`, all flags in all components), `format`, debug assertions on -/
example : ValidIltc ⟨fFormat, ⟨0xa0a0a000000005f00000fff0000000c⟩, true⟩ {} :=
  .of_dec (by decide +kernel)

/-- non-vacuity: `prefix_d_sep_iltc` with `radix+format` (base prefix `d`, separators everywhere) -/
example : ValidIltc ⟨fRadixFormat, ⟨0xa0a0a006400005f00000fff0000000c⟩, true⟩ {} :=
  .of_dec (by decide +kernel)

/-- … the many-digits re-scan over a slice with separators returns `ok`: `1_2._3_4567890123456789012_` -/
example : (parseFloatSyntax ⟨fFormat, ⟨0xa0a0a000000005f00000fff0000000c⟩, true⟩ {} false
    ([49, 95, 50, 46, 95, 51, 95] ++ inFrac.drop 6 ++ [48, 49, 50, 95])).toBool = true := by decide +kernel

/-! ## Part 5 — the full statement: every valid format outside the two witnessed classes (entry points)

Hypotheses: `formatError = none`, `check_radix!`, `is_valid_options_punctuation`, a feature record cargo can produce,
`NoCaseClash` (second witnessed class excluded) and `RescanSafe` (first witnessed class excluded: no I+T+C on the
fraction; I+T+C on the integer only without base prefix). The integer and the fraction component may carry ANY of the
other separator predicates (`i l t il it lt ilt ic lc tc ilc ltc`, `noskip`, `iltc`), the exponent and special
iterators any of the 15. Conclusion for `parse_complete` / `parse_partial` (`parseFloatSyntax`), `debug = true` (and,
same proof, `false`), EVERY input (the model's `List Nat`, also "bytes" ≥ 256): never `Err.panic`, never `Err.fault`.

Proof (`Proof/ParseNumberDebug{U64,Rescan,RescanFacts,RescanMain,RescanApi}.lean`, on `Proof/IterSpec.lean`,
`Proof/IterSlice.lean`):
* a loop over `peek` is a `scan` of the buffer, in either build; the debug build's `step_unchecked` assertions hold
  when the bytes it takes are not the separator (`IterSpec.parseDigitsLoop_eq`, `skipZerosLoop_eq`, `u64Loop1_eq`);
* the first pass and the re-scan of the stored slice take the same skip decisions (`IterSpec.scan_region`, in terms of
  the model's loop `Sep.rescan_sim2`; a slice is a cut at the back, `IterSpec.scan_take`, after a cut at the front,
  `scan_drop`, built on `holds_weaker` / `nbr_slice_prev`; it does not need the byte behind the region to be a non-separator —
  `parse_number` also re-scans when the first pass stopped on a separator its predicate refused, before
  `parse_complete` rejects the input): `parse_digits` restarted on the stored slice runs through all of it
  (`firstPass_runsOut`; for I+T+C when it starts on a non-separator);
* hence every byte `peek` returns during `parse_u64_digits` on the slice is a digit (`RunsOut`): `step_unchecked` is
  never on the separator, the overflow check holds (`parseU64Digits_env`); `skip_zeros` on the slice walks along the
  same run (`RunsOut.skipZeros`);
* entry conditions: `parse_mantissa_sign` / `is_consumed` leave the digit counts 0 and the cursor in a state `peek`
  left (`atRest_of_peek`); the base-prefix phase touches no count; the integer digits start behind the prefix letter or in
  a state `peek` left, the fraction digits behind the decimal point — neither is a digit or the separator
  (`prefix_not_digit_sep`, `dp_not_digit`, from validity + `NoCaseClash`).
`parse_number` started mid-buffer is NOT covered by this part (and the statement is false there:
`witness_parseNumber_midbuffer`). -/

/-- why the open part is stated for the entry points only: `parse_number` started in the middle of a buffer (digit
before the cursor; or a non-zero `integer_count`) with the plain `i` predicate — not reachable from
`parse_complete` / `parse_partial`, no harness op -/
theorem witness_parseNumber_midbuffer :
    panicTag (parseNumber ⟨fFormat, ⟨0xa0a0a000000005f000000070000000c⟩, true⟩ false {}
      { slc := [49, 95] ++ inFrac.drop 3 ++ [48], index := 1 } false) = some "step_by: on digit separator" ∧
    panicTag (parseNumber ⟨fFormat, ⟨0xa0a0a000000005f000000070000000c⟩, true⟩ false {}
      { slc := [95] ++ inFrac.drop 3 ++ [48], index := 0, ic := 1 } false) = some "step_by: on digit separator" := by
  decide +kernel

/-- component `k` has a separator byte and the flags internal + trailing + consecutive without leading -/
def hasItc (c : Cfg) (k : Comp) : Bool :=
  !c.bytesContiguous && decide (c.sepFlags k = ⟨true, false, true, true⟩)

/-- no stored digit slice can start with a separator that only the first pass skips -/
def RescanSafe (c : Cfg) : Prop :=
  hasItc c .fraction = false ∧ (hasItc c .integer = false ∨ c.basePrefix = 0)

open LexVerif.Proof.PNDebug (matchesB) in
/-- the separator differs from exponent character, base prefix and base suffix up to ASCII case wherever the
parser compares case-insensitively -/
def NoCaseClash (c : Cfg) (o : POpts) : Prop :=
  c.bytesContiguous = true ∨
    (matchesB c.fmt.digitSeparator o.exp (c.caseSensitiveExponent && c.feats.format) = false ∧
     (c.baseSuffix ≠ 0 → matchesB c.fmt.digitSeparator c.baseSuffix c.caseSensitiveBaseSuffix = false) ∧
     (c.basePrefix ≠ 0 → matchesB c.fmt.digitSeparator c.basePrefix c.caseSensitiveBasePrefix = false))

def parseNumber_no_panic_debug_full : Prop :=
  ∀ (c : Cfg) (o : POpts) (isPartial : Bool) (input : List Nat),
    (formatError c.feats c.fmt).isNone = true → checkRadix c.feats c.fmt = true →
    isValidOptionsPunctuation c.feats c.fmt o.exp o.dp = true →
    (c.feats.radix = true → c.feats.powerOfTwo = true) → NoCaseClash c o → RescanSafe c →
    NoPanicNoFault (parseFloatSyntax c o isPartial input)

/-- hypothesis set of the full class: integer / fraction component with any separator predicate except I+T+C (I+T+C on
the integer without base prefix allowed) -/
structure ValidNoItc (c : Cfg) (o : POpts) : Prop where
  formatOk : (formatError c.feats c.fmt).isNone = true
  radixOk : checkRadix c.feats c.fmt = true
  featsOk : c.feats.radix = true → c.feats.powerOfTwo = true
  optsOk : isValidOptionsPunctuation c.feats c.fmt o.exp o.dp = true
  noClash : NoCaseClash c o
  rescanSafe : RescanSafe c

theorem ValidNoItc.of_dec {c : Cfg} {o : POpts}
    (h : (formatError c.feats c.fmt).isNone = true ∧ checkRadix c.feats c.fmt = true ∧
      (c.feats.radix = true → c.feats.powerOfTwo = true) ∧
      isValidOptionsPunctuation c.feats c.fmt o.exp o.dp = true ∧
      (c.bytesContiguous = true ∨
        (LexVerif.Proof.PNDebug.matchesB c.fmt.digitSeparator o.exp (c.caseSensitiveExponent && c.feats.format) = false ∧
         (c.baseSuffix ≠ 0 → LexVerif.Proof.PNDebug.matchesB c.fmt.digitSeparator c.baseSuffix c.caseSensitiveBaseSuffix = false) ∧
         (c.basePrefix ≠ 0 → LexVerif.Proof.PNDebug.matchesB c.fmt.digitSeparator c.basePrefix c.caseSensitiveBasePrefix = false))) ∧
      hasItc c .fraction = false ∧ (hasItc c .integer = false ∨ c.basePrefix = 0)) : ValidNoItc c o :=
  ⟨h.1, h.2.1, h.2.2.1, h.2.2.2.1, h.2.2.2.2.1, h.2.2.2.2.2⟩

open LexVerif.Proof.PNDebug in
/-- entry points, any `debug` value, either value of the switch `Fix.itc`: every valid format and option set without a
case clash. The first witnessed class is excluded (`RescanSafe`) only for `skip.rs` without the repair `Fix.itc`. -/
theorem parseFloatSyntax_no_panic_clashfree (c : Cfg) (o : POpts)
    (formatOk : (formatError c.feats c.fmt).isNone = true) (radixOk : checkRadix c.feats c.fmt = true)
    (featsOk : c.feats.radix = true → c.feats.powerOfTwo = true)
    (optsOk : isValidOptionsPunctuation c.feats c.fmt o.exp o.dp = true) (noClash : NoCaseClash c o)
    (hitc : Fix.itc = true ∨ RescanSafe c) (isPartial : Bool) (input : List Nat) :
    NoPanicNoFault (parseFloatSyntax c o isPartial input) := by
  cases hbc : c.bytesContiguous with
  | true => exact (ValidContiguous.good ⟨formatOk, radixOk, featsOk, hbc⟩ o).parseFloatSyntax isPartial input
  | false =>
    obtain ⟨e1, e2, e3⟩ : matchesB c.fmt.digitSeparator o.exp (c.caseSensitiveExponent && c.feats.format) = false ∧
        (c.baseSuffix ≠ 0 → matchesB c.fmt.digitSeparator c.baseSuffix c.caseSensitiveBaseSuffix = false) ∧
        (c.basePrefix ≠ 0 → matchesB c.fmt.digitSeparator c.basePrefix c.caseSensitiveBasePrefix = false) := by
      rcases noClash with hb | hc
      · rw [hbc] at hb; cases hb
      · exact hc
    have cx : Ctx c := Ctx.of_valid_gen c formatOk radixOk featsOk (fun hp => Or.inr (e3 hp)) (fun hs => Or.inr (e2 hs))
    have ox : OCtx c o := .of_opts cx optsOk (Or.inr e1)
    have hflag : ∀ k, (k = .integer ∨ k = .fraction) → c.skip k = .pred .itc → hasItc c k = true := by
      intro k hk hs
      have hfl : c.sepFlags k = ⟨true, false, true, true⟩ := by
        rcases hk with rfl | rfl <;> exact flags_of_skip_itc _ hs
      simp [hasItc, hbc, hfl]
    have hI : CompOk c .integer (c.basePrefix = 0) := compOk_of_skip cx .integer _ fun hs =>
      hitc.imp id fun hr => by
        rcases hr.2 with h1 | h1
        · rw [hflag .integer (Or.inl rfl) hs] at h1; cases h1
        · exact h1
    have hF : CompOk c .fraction False := compOk_of_skip cx .fraction _ fun hs =>
      hitc.imp id fun hr => by
        have h1 := hr.1
        rw [hflag .fraction (Or.inr rfl) hs] at h1; cases h1
    exact .of_safe (parseFloatSyntax_safe_comp cx hbc hI hF (prefix_not_digit_sep formatOk e3) o ox
      (dp_not_digit o optsOk) isPartial input)

/-- C10, debug-assertion build, entry points, class `ValidNoItc` -/
theorem parseFloatSyntax_no_panic_debug_noitc (c : Cfg) (o : POpts) (h : ValidNoItc c o) (_hd : c.debug = true)
    (isPartial : Bool) (input : List Nat) : NoPanicNoFault (parseFloatSyntax c o isPartial input) :=
  parseFloatSyntax_no_panic_clashfree c o h.formatOk h.radixOk h.featsOk h.optsOk h.noClash (.inr h.rescanSafe)
    isPartial input

theorem parseNumber_no_panic_debug_full_proved : parseNumber_no_panic_debug_full := by
  intro c o isPartial input hfe hcr hopt hfeats hclash hres
  exact parseFloatSyntax_no_panic_clashfree c o hfe hcr hfeats hopt hclash (.inr hres) isPartial input

/-! ### non-vacuity -/

/-- `sep_i`: separator `_`, plain internal predicate `i` on integer, fraction and exponent -/
def sepI : Format := ⟨0xa0a0a000000005f000000070000000c⟩

example : ValidNoItc ⟨fFormat, sepI, true⟩ {} := .of_dec (by decide +kernel)

/-- 25 digits with separators: the many-digits re-scan of both stored slices (`1_2`, `3_1234567890123456789012`)
runs and returns `ok` in the debug build — `1_2.3_1234567890123456789012` -/
example : (match parseFloatSyntax ⟨fFormat, sepI, true⟩ {} false
      ([49, 95, 50, 46, 51, 95] ++ inFrac.drop 3 ++ [48, 49, 50]) with
    | .ok (.number n cnt) => n.manyDigits && cnt == 28 && n.integer == [49, 95, 50]
    | _ => false) = true := by decide +kernel

/-- the first pass stops on a separator its predicate refuses (`_` before `.`), the 23-digit integer slice is
re-scanned, then `parse_complete` rejects the input: an ordinary error, no panic — `12345678901234567890123_.5` -/
example : (match parseFloatSyntax ⟨fFormat, sepI, true⟩ {} false (inFrac.drop 3 ++ [48, 49, 50, 51, 95, 46, 53]) with
    | .error (.err k i) => k == "InvalidDigit" && i == 23
    | _ => false) = true := by decide +kernel

/-- OCAML_LITERAL (integer I+T+C, no base prefix; fraction I+L+T+C) is in the class -/
example : ValidNoItc ⟨fFormat, ocamlLiteral, true⟩ {} := .of_dec (by decide +kernel)

/-- `radix+format`, base prefix `d`, predicates I+L on the integer and L+T+C on the fraction -/
def prefixDSepMix : Format := ⟨0xa0a0a006400005f000004990000000c⟩

example : ValidNoItc ⟨fRadixFormat, prefixDSepMix, true⟩ {} := .of_dec (by decide +kernel)

/-- … `0d_1_2._31234567890123456789012_`: separators behind the prefix letter, behind the point and at the end; both
stored slices (`_1_2`, `_31234567890123456789012_`) start with a separator and are re-scanned -/
example : (match parseFloatSyntax ⟨fRadixFormat, prefixDSepMix, true⟩ {} false
      ([48, 100, 95, 49, 95, 50, 46, 95, 51] ++ inFrac.drop 3 ++ [48, 49, 50, 95]) with
    | .ok (.number n cnt) => n.manyDigits && cnt == 32 && n.integer == [95, 49, 95, 50]
    | _ => false) = true := by decide +kernel

end LexVerif.Props.C10Debug
