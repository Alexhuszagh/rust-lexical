import LexVerif.Props.C12
import LexVerif.Proof.ParseNumberTotalMain
import LexVerif.Props.C04
/-!
# C10 — parsers are total (float syntax layer; property theorems)

Subject: the model of `lexical-parse-float/src/parse.rs` + the `lexical-util` iterators
(`Model/Iter.lean`, `Model/ParseNumber.lean`), for EVERY feature set, EVERY format that passes
`format.is_valid()` (`formatError = none`), every option set, both entry points and EVERY byte list.

Release mode (`debug := false`), proved here:
* `parseNumber_total` / `parseFloatSyntax_total` / `parseFloatModel_total`: the result is never the model's
  `fault` (an unchecked `get_unchecked(..b_digits)`, `step_unchecked`, `peek_u64` out of bounds, or a loop running out
  of its fuel) and never `panic` (`unreachable!()`, `fraction_digits.unwrap()`); every error index and every
  consumed count is `≤` the input length.
* `phases_preserve_invariant`: the iterator invariant `index ≤ slc.length ∧ integer_count + fraction_count +
  exponent_count ≤ index` is preserved by every phase function.
* exponent accumulator: `explicit_exponent < 0x10000000·radix + radix`, and `|exponent| < 2^63` for inputs shorter
  than `2^59` bytes (`exponent_within_i64`).

Debug mode (`debug := true`) is in `Props/C10Debug.lean` (the model CAN panic there; hypotheses + witnesses).
The integer parser's totality is `Props/C04.lean` (`model_no_fault_index_le`).
-/
namespace LexVerif.Props.C10
open LexVerif LexVerif.Model LexVerif.Spec LexVerif.Proof.PNTotal

/-- Full statement of C10 on the float syntax model: any build mode. It is FALSE for `debug = true`
(see `Props/C10Debug.lean` for the witnesses); the release half is `parseFloatSyntax_total`. -/
def parse_total_full : Prop :=
  ∀ (c : Cfg) (o : POpts) (isPartial : Bool) (input : List Nat), (formatError c.feats c.fmt).isNone = true →
    match parseFloatSyntax c o isPartial input with
    | .ok p => Parsed.count p ≤ input.length
    | .error (.err _ i) => i ≤ input.length
    | .error _ => False

/-- `format.is_valid()` and a release build: the hypotheses of the release-mode theorems below -/
theorem rel_of_format_valid (c : Cfg) (hd : c.debug = false) (h : (formatError c.feats c.fmt).isNone = true) :
    Rel c := rel_of_valid c hd h

/-- **`parse_number` is total (release).** The statement kept as a `def` in `Props/C12.lean` holds: for every
feature set, every valid format, options, `partial` flag, sign and every buffer with a valid cursor the result is
`ok` with `count ≤ length` or `Error::Kind(i)` with `i ≤ length`; never `fault` (unchecked slice / step / fuel),
never `panic`. -/
theorem parseNumber_total : C12.parseNumber_total := by
  intro c o isPartial neg b hvalid hd hv
  have h := parseNumber_tot (rel_of_valid c hd (by simpa using hvalid)) isPartial o b neg true hv
  cases hp : parseNumber c isPartial o b neg with
  | ok r =>
    obtain ⟨n, count⟩ := r
    rw [hp] at h
    exact h.2.1
  | error e =>
    rw [hp] at h
    cases e <;> exact h

/-- … with the cursor bound from below and for either value of the `format.is_valid()` flag handed in -/
theorem parseNumber_total_strong (c : Cfg) (hd : c.debug = false) (hvalid : (formatError c.feats c.fmt).isNone = true)
    (o : POpts) (isPartial neg fv : Bool) (b : Bytes) (hv : b.index ≤ b.slc.length) :
    match parseNumber c isPartial o b neg fv with
    | .ok (_, count) => b.index ≤ count ∧ count ≤ b.slc.length
    | .error (.err _ i) => i ≤ b.slc.length
    | .error _ => False := by
  have h := parseNumber_tot (rel_of_valid c hd hvalid) isPartial o b neg fv hv
  cases hp : parseNumber c isPartial o b neg fv with
  | ok r =>
    obtain ⟨n, count⟩ := r
    rw [hp] at h
    exact ⟨h.1, h.2.1⟩
  | error e =>
    rw [hp] at h
    cases e <;> exact h

/-- **`parse_complete` / `parse_partial` are total (release)**: sign, emptiness test, `parse_number`, the
special-value fall-back. Every consumed count and every error index is `≤ input.length`. -/
theorem parseFloatSyntax_total (c : Cfg) (hd : c.debug = false) (hvalid : (formatError c.feats c.fmt).isNone = true)
    (o : POpts) (isPartial fv : Bool) (input : List Nat) :
    match parseFloatSyntax c o isPartial input fv with
    | .ok p => Parsed.count p ≤ input.length
    | .error (.err _ i) => i ≤ input.length
    | .error _ => False := by
  have h := parseFloatSyntax_tot (rel_of_valid c hd hvalid) o isPartial input fv
  cases hp : parseFloatSyntax c o isPartial input fv with
  | ok p => rw [hp] at h; exact h.1
  | error e =>
    rw [hp] at h
    cases e <;> exact h

/-- the release half of `parse_total_full` -/
theorem parse_total_release (c : Cfg) (hd : c.debug = false) (o : POpts) (isPartial : Bool) (input : List Nat)
    (hvalid : (formatError c.feats c.fmt).isNone = true) :
    match parseFloatSyntax c o isPartial input with
    | .ok p => Parsed.count p ≤ input.length
    | .error (.err _ i) => i ≤ input.length
    | .error _ => False :=
  parseFloatSyntax_total c hd hvalid o isPartial true input

/-- **API level (release)**: the harness line printed by `parse_with_options` / `parse_partial_with_options` for a
float type is an option error, a format error, a rendered `Parsed` with `count ≤ length`, or `err Kind i` with
`i ≤ length` — never `renderErr (.fault _) = "fault"` / `renderErr (.panic _) = "panic"`. -/
theorem parseFloatModel_total (feats : Features) (fmt : Format) (o : POpts) (isPartial : Bool) (f : Fmt)
    (input : List Nat) :
    (∃ e : String, parseFloatModel feats fmt o isPartial f input false = s!"opterr {e} -") ∨
    (∃ e : String, parseFloatModel feats fmt o isPartial f input false = s!"err {e} -") ∨
    (∃ p, parseFloatSyntax ⟨feats, fmt, false⟩ o isPartial input true = .ok p ∧ Parsed.count p ≤ input.length ∧
        parseFloatModel feats fmt o isPartial f input false = renderParsed ⟨feats, fmt, false⟩ f isPartial p) ∨
    (∃ k i, parseFloatSyntax ⟨feats, fmt, false⟩ o isPartial input true = .error (.err k i) ∧ i ≤ input.length ∧
        parseFloatModel feats fmt o isPartial f input false = renderErr (.err k i)) := by
  unfold parseFloatModel
  cases hoe : optionsError o with
  | some e => exact Or.inl ⟨e, rfl⟩
  | none =>
    simp only
    cases hfe : formatError feats fmt with
    | some e => exact Or.inr (Or.inl ⟨e, by simp⟩)
    | none =>
      simp only [Option.isSome_none, Bool.false_eq_true, if_false, Option.isNone_none]
      split
      · exact Or.inr (Or.inl ⟨"InvalidPunctuation", rfl⟩)
      · split
        · exact Or.inr (Or.inl ⟨"InvalidRadix", rfl⟩)
        · have h := parseFloatSyntax_total ⟨feats, fmt, false⟩ rfl (by simp [hfe]) o isPartial true input
          cases hp : parseFloatSyntax ⟨feats, fmt, false⟩ o isPartial input true with
          | ok p =>
            rw [hp] at h
            exact Or.inr (Or.inr (Or.inl ⟨p, rfl, h, rfl⟩))
          | error e =>
            rw [hp] at h
            cases e with
            | err k i => exact Or.inr (Or.inr (Or.inr ⟨k, i, rfl, h, rfl⟩))
            | panic t => exact h.elim
            | fault t => exact h.elim

/-- `parse` / `parse_partial` without options (STANDARD format, default options): same shape -/
theorem parseFloatDefaultModel_total (feats : Features) (isPartial : Bool) (f : Fmt) (input : List Nat)
    (hvalid : (formatError feats Format.standard).isNone = true) :
    parseFloatDefaultModel feats isPartial f input false = "err InvalidRadix -" ∨
    (∃ p, parseFloatSyntax ⟨feats, Format.standard, false⟩ {} isPartial input = .ok p ∧ Parsed.count p ≤ input.length ∧
        parseFloatDefaultModel feats isPartial f input false = renderParsed ⟨feats, Format.standard, false⟩ f isPartial p) ∨
    (∃ k i, parseFloatSyntax ⟨feats, Format.standard, false⟩ {} isPartial input = .error (.err k i) ∧
        i ≤ input.length ∧ parseFloatDefaultModel feats isPartial f input false = renderErr (.err k i)) := by
  unfold parseFloatDefaultModel
  simp only
  split
  · exact Or.inl rfl
  · have h := parseFloatSyntax_total ⟨feats, Format.standard, false⟩ rfl hvalid {} isPartial true input
    cases hp : parseFloatSyntax ⟨feats, Format.standard, false⟩ {} isPartial input true with
    | ok p =>
      rw [hp] at h
      exact Or.inr (Or.inl ⟨p, rfl, h, rfl⟩)
    | error e =>
      rw [hp] at h
      cases e with
      | err k i => exact Or.inr (Or.inr ⟨k, i, rfl, h, rfl⟩)
      | panic t => exact h.elim
      | fault t => exact h.elim

/-- **The 12 integer types** (non-format build; from C04): the model of `lexical-parse-integer`'s `algorithm!` never
reaches `FAULT` (unchecked `step_by_unchecked`, `take_n`/`set_cursor`) and every index it reports — error position or
consumed count — is `≤ input.length`, for `parse` and `parse_partial`, every radix, with and without the
multi-digit (SWAR) paths. -/
theorem parseInt_total (feats : Features) (t : IntTy) (ht : Proof.ParseInt.IsIntTy t) (r : Nat) (h2 : 2 ≤ r)
    (hr : r ≤ 36) (hfeat : feats.powerOfTwo = true ∨ r = 10) (partial_ noMulti : Bool) (s : List Nat)
    (hs : ∀ b ∈ s, b < 256) :
    ∃ res, Model.ParseInt.parseInt feats t r partial_ noMulti s = .done res ∧ C04.PRes.index res ≤ s.length :=
  C04.model_no_fault_index_le feats t ht r h2 hr hfeat partial_ noMulti s hs

/-- the invariant of `Bytes`: cursor inside the buffer, digit counts never ahead of the cursor -/
def Inv (b : Bytes) : Prop := b.index ≤ b.slc.length ∧ b.ic + b.fc + b.ec ≤ b.index

theorem Inv_of_Adv {b b' : Bytes} (h : Inv b) (ha : Adv b b') : Inv b' := by
  have h1 := ha.cnt
  have h2 := ha.valid'
  have h3 := ha.mono
  unfold Inv at *
  simp only [csum] at h1
  omega

theorem Inv_new (s : List Nat) : Inv (Bytes.new s) := by simp [Inv, Bytes.new]

/-- **Every phase function preserves the invariant** (release build, valid format), and so does every iterator
primitive they are built from. -/
theorem phases_preserve_invariant (c : Cfg) (hd : c.debug = false)
    (hvalid : (formatError c.feats c.fmt).isNone = true) (o : POpts) (b : Bytes) (hb : Inv b) :
    (∀ k v b', peek c k b = .ok (v, b') → Inv b') ∧
    (∀ k n b', skipZeros c k b = .ok (n, b') → Inv b') ∧
    (∀ k r ds b', parseDigits c k r b = .ok (ds, b') → Inv b') ∧
    (∀ k m m' b', parse8Digits c k b m = .ok (m', b') → Inv b') ∧
    (∀ k m s b' m' s', parseU64Digits c k b m s = .ok (b', m', s') → Inv b') ∧
    (∀ np rq s1 s2 neg b', parseSign c np rq s1 s2 b = .ok (neg, b') → Inv b') ∧
    (∀ ip, integerPhase c b = .ok ip → Inv ip.start ∧ Inv ip.byte) ∧
    (∀ m fp, fractionPhase c o b m = .ok fp → Inv fp.byte) ∧
    (∀ he fr e0 ep, (he = true → b.index < b.slc.length) → exponentPhase c he b fr e0 = .ok ep → Inv ep.byte) ∧
    (∀ b', suffixPhase c b = .ok b' → Inv b') := by
  have hc := rel_of_valid c hd hvalid
  have hv := hb.1
  refine ⟨?_, ?_, ?_, ?_, ?_, ?_, ?_, ?_, ?_, ?_⟩
  · intro k v b' h
    obtain ⟨v', b'', h', ha, _⟩ := peek_tot hc k b hv
    rw [h] at h'; cases h'; exact Inv_of_Adv hb ha
  · intro k n b' h
    obtain ⟨n', b'', h', ha⟩ := skipZeros_tot hc k b hv
    rw [h] at h'; cases h'; exact Inv_of_Adv hb ha
  · intro k r ds b' h
    obtain ⟨ds', b'', h', ha⟩ := parseDigits_tot hc k r b hv
    rw [h] at h'; cases h'; exact Inv_of_Adv hb ha
  · intro k m m' b' h
    obtain ⟨m'', b'', h', ha⟩ := parse8Digits_tot hc k b m hv
    rw [h] at h'; cases h'; exact Inv_of_Adv hb ha
  · intro k m s b' m' s' h
    obtain ⟨b'', m'', s'', h', ha, _⟩ := LexVerif.Proof.PNDebug.parseU64Digits_env hc.env k b m s hv hc.nodbg
    rw [h] at h'; cases h'; exact Inv_of_Adv hb ha
  · intro np rq s1 s2 neg b' h
    have ht := parseSign_env hc.env np rq s1 s2 b hv
    rw [h] at ht; exact Inv_of_Adv hb ht
  · intro ip h
    have ht : IntRun c b ip := by have := integerPhase_env hc.env b hv; rw [h] at this; exact this
    exact ⟨Inv_of_Adv hb ht.advStart, Inv_of_Adv hb (ht.advStart.trans ht.pass.adv)⟩
  · intro m fp h
    have ht : FracRun c o b m fp := by have := fractionPhase_env hc.env o b m hc.nodbg; rw [h] at this; exact this
    exact Inv_of_Adv hb (ht.adv hv)
  · intro he fr e0 ep hlt h
    have ht := exponentPhase_env hc.env he b fr e0 hv hlt (fun _ => hc.nodbg)
    rw [h] at ht; exact Inv_of_Adv hb ht.1
  · intro b' h
    obtain ⟨b'', h', ha⟩ := suffixPhase_env hc.env b hv
    rw [h] at h'; cases h'; exact Inv_of_Adv hb ha

/-- `explicit_exponent` saturates: starting from 0 with digits below the radix, the accumulator of
`parse_digits(.., |digit| if exp < 0x10000000 { exp *= radix; exp += digit })` stays below
`0x10000000·radix + radix` — far inside `i64` for every radix ≤ 36. -/
theorem foldExponent_lt (r : Nat) (hr : 0 < r) (ds : List Nat) (hds : ∀ d ∈ ds, d < r) :
    foldExponent r 0 ds < 0x10000000 * r + r := by
  unfold foldExponent
  suffices h : ∀ (ds : List Nat) (acc : Nat), (∀ d ∈ ds, d < r) → acc < 0x10000000 * r + r →
      ds.foldl (fun acc d => if acc < 0x10000000 then acc * r + d else acc) acc < 0x10000000 * r + r by
    exact h ds 0 hds (by omega)
  intro ds
  induction ds with
  | nil => intro acc _ h; simpa using h
  | cons d ds ih =>
    intro acc hd hacc
    simp only [List.foldl_cons]
    apply ih _ (fun x hx => hd x (List.mem_cons_of_mem _ hx))
    have hdr := hd d List.mem_cons_self
    split
    · next hlt =>
      have : acc * r ≤ (0x10000000 - 1) * r := Nat.mul_le_mul_right r (by omega)
      omega
    · exact hacc

/-- **No `i64` overflow in the exponent arithmetic.** For a number accepted by either entry point (release build,
valid format, exponent radix ≤ 36) the `explicit_exponent` magnitude is below `0x10000000·radix + radix < 2^34`, and
for inputs shorter than `2^59` bytes the final `exponent` (implicit exponent, scaled by at most `log2(32) = 5` for
mixed bases, plus the explicit exponent) has magnitude below `2^63`. (The intermediate values are `n_after_dot`,
`implicit = ±count`, `implicit·bits_per_digit`, all bounded by `5·length`: `Phase.scaleExponent_ok`, `FracRun.exp_le`.) -/
theorem exponent_within_i64 (c : Cfg) (hd : c.debug = false) (hvalid : (formatError c.feats c.fmt).isNone = true)
    (hr0 : 0 < c.exponentRadix) (hr : c.exponentRadix ≤ 36)
    (o : POpts) (isPartial fv : Bool) (input : List Nat) (num : Number) (count : Nat)
    (h : parseFloatSyntax c o isPartial input fv = .ok (.number num count)) :
    num.explicitExp.natAbs < 0x10000000 * c.exponentRadix + c.exponentRadix ∧
    num.exponent.natAbs ≤ 5 * input.length + num.explicitExp.natAbs ∧
    (input.length < 2 ^ 59 → num.exponent.natAbs < 2 ^ 63) := by
  have ht := parseFloatSyntax_tot (rel_of_valid c hd hvalid) o isPartial input fv
  rw [h] at ht
  obtain ⟨hb, ds, hds, hmag⟩ := ht.2 num count rfl
  have hlt := foldExponent_lt c.exponentRadix hr0 ds hds
  rw [← hmag] at hlt
  refine ⟨hlt, hb, ?_⟩
  intro hlen
  omega

theorem parseNumber_exponent_bound (c : Cfg) (hd : c.debug = false)
    (hvalid : (formatError c.feats c.fmt).isNone = true) (hr0 : 0 < c.exponentRadix)
    (o : POpts) (isPartial neg fv : Bool) (b : Bytes) (hv : b.index ≤ b.slc.length) (num : Number) (count : Nat)
    (h : parseNumber c isPartial o b neg fv = .ok (num, count)) :
    num.explicitExp.natAbs < 0x10000000 * c.exponentRadix + c.exponentRadix ∧
    num.exponent.natAbs ≤ 5 * b.slc.length + num.explicitExp.natAbs := by
  have ht := parseNumber_tot (rel_of_valid c hd hvalid) isPartial o b neg fv hv
  rw [h] at ht
  obtain ⟨_, _, hb, ds, hds, hmag⟩ := ht
  have hlt := foldExponent_lt c.exponentRadix hr0 ds hds
  rw [← hmag] at hlt
  exact ⟨hlt, hb⟩

/-! ## non-vacuity -/

/-- the standard format is valid in the default build; "1.5x" is accepted up to byte 3 by the partial parser -/
example : (formatError {} Format.standard).isNone = true := by decide
example : (match parseFloatSyntax ⟨{}, Format.standard, false⟩ {} true [49, 46, 53, 120] with
    | .ok p => decide (p = .number ⟨15, -1, false, false, [49], some [53], 0⟩ 3)
    | _ => false) = true := by decide
/-- an error with an index: "1e" → `EmptyExponent(2)` -/
example : (match parseFloatSyntax ⟨{}, Format.standard, false⟩ {} false [49, 101] with
    | .error e => decide (e = .err "EmptyExponent" 2)
    | _ => false) = true := by decide
/-- the saturation is reached: eleven 9s as exponent digits stop growing after `0x10000000` is passed -/
example : foldExponent 10 0 [9, 9, 9, 9, 9, 9, 9, 9, 9, 9, 9] = 999999999 := by decide
/-- more than 19 digits: the many-digits re-parse (`parse_u64_digits`) runs and the invariant statement applies -/
example : (match parseFloatSyntax ⟨{}, Format.standard, false⟩ {} true
      [49, 50, 51, 52, 53, 54, 55, 56, 57, 48, 49, 50, 51, 52, 53, 54, 55, 56, 57, 48, 49, 46, 53] with
    | .ok (.number n c) => n.manyDigits && c == 23
    | _ => false) = true := by decide

end LexVerif.Props.C10
