import LexVerif.Proof.NumberSyntax
/-!
# C05 — the syntax layer for every radix: `NumberExact` and the truncated words

`Proof.NumberSyntax` proves, for a mantissa radix `r` whose `stp = u64_step(r)` digits fit a `u64` and an exponent base `bs`
with `r = bs^k`, that the `Number` an accepted `parse_number` builds denotes the digit content (`mantissa`, `exponent`,
digit slices), untruncated and truncated (`C01Number.Reads`, `reads_of_syntax`). Here its two halves, written out.
-/
namespace LexVerif.Props.C05Number
open LexVerif LexVerif.Spec LexVerif.Model LexVerif.Model.ParseFloatAlgo
open LexVerif.Proof.Sep LexVerif.Proof.Slow LexVerif.Proof.Pipeline LexVerif.Proof.RoundNE
open LexVerif.Props.C01Main LexVerif.Props.C01SlowDomain LexVerif.Props.C12 LexVerif.Props.C01Number
open LexVerif.Props.C01 (IsI64)

theorem litFrac_eq2 (r b : Nat) (l : FloatLit) :
    litFrac r b l = (ofDigits r (l.intDigits ++ l.fracDigits) * b ^ l.exp.toNat,
      r ^ l.fracDigits.length * b ^ (-l.exp).toNat) :=
  litFrac_bases r b l

/-- **the untruncated `Number` of the syntax pass** (with the two side conditions the statement of `NumberExact` in
`Props.C01Main` lacks: the decimal point of the options is not a digit — implied by `is_valid_options_punctuation` — and
the input is shorter than `2^60` bytes): for a format without digit separator and base prefix it is exact, its digit
slices are plain, it has at most `stp` significant digits, and its exponent word is bounded by the input length. -/
theorem number_exact_of_syntax_r (r stp : Nat) (hr2 : 2 ≤ r) (hstp : 1 ≤ stp) (hfit : r ^ stp ≤ 2 ^ 64) (c : Cfg) (hstep : u64Step c.feats r = stp) (hr8 : c.feats.powerOfTwo = false → c.mantissaRadix ≤ 10) (hd : c.debug = false)
    (hclass : c.feats.format = false ∨ SepPrefixFree c.fmt) (hr : c.mantissaRadix = r) (bs k : Nat) (hk5 : k ≤ 5) (hrk : r = bs ^ k) (hb : c.exponentBase = bs) (hsc : ∀ x : Int, scaleVal c x = x * k)
    (o : POpts) (hdp : charToDigit o.dp r = none) (isPartial : Bool) (s : List Nat) (fv : Bool)
    (h256 : ∀ x ∈ s, x < 256) (hlen : s.length < 2 ^ 60) (n : Number) (cnt : Nat)
    (hp : parseFloatSyntax c o isPartial s fv = .ok (.number n cnt)) (hmany : n.manyDigits = false) :
    NumberExactAt c n ∧ PlainSlices c n ∧ (sigBytes n.integer n.fraction).length ≤ stp ∧
    (-(5 * (s.length : Int)) - 2 ^ 40 ≤ n.exponent ∧ n.exponent ≤ 2 ^ 40) :=
  (reads_of_syntax r stp hr2 hstp hfit c hstep hr8 hd hclass hr bs k hk5 hrk hb hsc o hdp isPartial s fv h256 hlen n cnt
    hp).exact hmany

/-- the truncated counterpart: `C01Number.Reads.trunc` -/
theorem number_truncated_of_syntax_r (r stp : Nat) (hr2 : 2 ≤ r) (hstp : 1 ≤ stp) (hfit : r ^ stp ≤ 2 ^ 64) (c : Cfg) (hstep : u64Step c.feats r = stp) (hr8 : c.feats.powerOfTwo = false → c.mantissaRadix ≤ 10) (hd : c.debug = false)
    (hclass : c.feats.format = false ∨ SepPrefixFree c.fmt) (hr : c.mantissaRadix = r) (bs k : Nat) (hk5 : k ≤ 5) (hrk : r = bs ^ k) (hb : c.exponentBase = bs) (hsc : ∀ x : Int, scaleVal c x = x * k)
    (o : POpts) (hdp : charToDigit o.dp r = none) (isPartial : Bool) (s : List Nat) (fv : Bool)
    (h256 : ∀ x ∈ s, x < 256) (hlen : s.length < 2 ^ 60) (n : Number) (cnt : Nat)
    (hp : parseFloatSyntax c o isPartial s fv = .ok (.number n cnt)) (hmany : n.manyDigits = true) :
    PlainSlices c n ∧ stp < (sigBytes n.integer n.fraction).length ∧
    n.mantissa = ofDigits r (dv r ((sigBytes n.integer n.fraction).take stp)) ∧
    r ^ (stp - 1) ≤ n.mantissa ∧ n.mantissa < r ^ stp ∧
    n.exponent = (((sigBytes n.integer n.fraction).length : Int) - stp - ((n.fraction.getD []).length : Int)) * k + n.explicitExp ∧
    -(2 ^ 40 : Int) ≤ n.explicitExp ∧ n.explicitExp ≤ 2 ^ 40 ∧
    n.integer.length ≤ s.length ∧ (n.fraction.getD []).length ≤ s.length :=
  (reads_of_syntax r stp hr2 hstp hfit c hstep hr8 hd hclass hr bs k hk5 hrk hb hsc o hdp isPartial s fv h256 hlen n cnt
    hp).trunc hmany

theorem dp_not_digit_r (feats : Features) (fmt : Format) (o : POpts)
    (hv : isValidOptionsPunctuation feats fmt o.exp o.dp = true) : charToDigit o.dp fmt.mantissaRadix = none :=
  dp_not_digit_le feats fmt o hv _ (Nat.le_refl _)

end LexVerif.Props.C05Number
