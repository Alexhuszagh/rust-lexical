import LexVerif.Proof.ParseNumberC11Prefix
/-!
# C11 — partial and complete parsers agree (float syntax layer)

Entry point `parseFloatSyntax c o isPartial input` (`parse_complete` / `parse_partial` of
`lexical-parse-float/src/parse.rs` up to the `Number`), every format, feature set and debug flag unless a
hypothesis says otherwise.

(A) `complete s = ok p ⇔ partial s = ok p ∧ count p = |s|`
* `parseNumber_isPartial_ok`, `parseNumber_isPartial_err`: `IS_PARTIAL` only selects an error kind.
* `complete_of_partial` (⇐): no hypothesis.
* `partial_of_complete_number`, `partial_of_complete_zero` (⇒ for numbers / the empty case): no hypothesis.
* `partial_of_complete` (⇒): under `NoShadow`; `shadow_disagree` shows the hypothesis is exact.
* `noShadow_syntactic`, `complete_iff_partial_syntactic`: syntactic sufficient condition (no separator byte,
  mantissa digits required, special strings do not start with a digit / the decimal point).
* `complete_iff_partial_full` is FALSE: `not_complete_iff_partial_full` (witnesses below).

(B) `partial s = ok (p, n) ∧ n > 0 → complete (s.take n) = ok p`
* `partial_prefix_full` is FALSE: `not_partial_prefix_full`, three witness classes.
* `partial_prefix_contiguous` (+ `_number`, `_special`, `partial_prefix_noformat`, `partial_prefix_model`): proved for
  every release build without a digit-separator byte (no `format` feature, or a `format` build whose format has no
  separator — base prefix/suffix and all syntax flags allowed) when mantissa digits are required; numbers
  unconditionally, specials under `SpecialHeadsOK`.
* `partial_prefix_number` (+ `partial_prefix_model_number`, `parseNumber_prefix`, `partial_prefix_phases`): number
  results for the larger class `NumContig` — a separator byte may exist as long as the integer, fraction and exponent
  components have no separator flag (separator in special values only). There the buffer is not contiguous and the
  digit counts of `parse_number` come from `increment_count`, which also counts the 8-digit blocks (/repo 7e8a135):
  `regression_*` below.
* formats WITH separator flags on integer / fraction / exponent: `Props/C11Sep.lean` (`partial_prefix_sep`, every
  separator predicate, number and special-value results; exact exclusion = the open defect of `witness_B_hexfloat_sep`).
-/
namespace LexVerif.Props.C11
open LexVerif LexVerif.Model LexVerif.Spec
open LexVerif.Proof.C11

/-- C11 (A): the statement of `C12.complete_iff_partial`, verbatim -/
def complete_iff_partial_full : Prop :=
  ∀ (c : Cfg) (o : Spec.POpts) (s : List Nat) (p : Parsed),
    parseFloatSyntax c o false s = .ok p ↔
      (∃ q, parseFloatSyntax c o true s = .ok q ∧
        match q, p with
        | .zero n, .zero m => n = s.length ∧ m = n
        | .number x n, .number y m => x = y ∧ n = s.length ∧ m = n
        | .special a sa n, .special a' sa' m => a = a' ∧ sa = sa' ∧ n = s.length ∧ m = n
        | _, _ => False)

/-- the `match` of the full statement says: same result, count = length -/
theorem agree_iff (len : Nat) (q p : Parsed) :
    (match q, p with
      | .zero n, .zero m => n = len ∧ m = n
      | .number x n, .number y m => x = y ∧ n = len ∧ m = n
      | .special a sa n, .special a' sa' m => a = a' ∧ sa = sa' ∧ n = len ∧ m = n
      | _, _ => False) ↔ (q = p ∧ pcount p = len) := by
  cases q <;> cases p <;> simp [pcount] <;> grind

/-- success and the result of `parse_number` do not depend on `IS_PARTIAL` (any cfg) -/
theorem parseNumber_isPartial_ok (c : Cfg) (o : POpts) (b : Bytes) (neg fv : Bool) (r : Number × Nat) :
    parseNumber c true o b neg fv = .ok r ↔ parseNumber c false o b neg fv = .ok r :=
  parseNumber_ok_iff c o b neg fv r

/-- `Error::Kind(idx)` results correspond (kind and index may differ), panics/faults are identical -/
theorem parseNumber_isPartial_err (c : Cfg) (o : POpts) (b : Bytes) (neg fv : Bool) :
    ((∃ k i, parseNumber c true o b neg fv = .error (.err k i)) ↔
      (∃ k i, parseNumber c false o b neg fv = .error (.err k i))) ∧
    (∀ e, (∀ k i, e ≠ .err k i) →
      (parseNumber c true o b neg fv = .error e ↔ parseNumber c false o b neg fv = .error e)) :=
  ⟨parseNumber_err_iff c o b neg fv, fun e he => parseNumber_panic_iff c o b neg fv e he⟩

example : parseNumber ⟨{}, Format.standard, false⟩ true {} (Bytes.new [49, 46, 53, 120]) false
    = .ok (⟨15, -1, false, false, [49], some [53], 0⟩, 3) := by decide

theorem complete_of_partial (c : Cfg) (o : POpts) (s : List Nat) (fv : Bool) (q : Parsed)
    (h : parseFloatSyntax c o true s fv = .ok q) (hc : pcount q = s.length) :
    parseFloatSyntax c o false s fv = .ok q := by
  obtain ⟨neg, consumed, b, ha, hor⟩ := parseFloatSyntax_ok c o true s fv q h
  rw [parseFloatSyntax_eq, ha]
  rcases hor with ⟨rfl, hz, rfl⟩ | ⟨rfl, ht⟩
  · simp [hz]
  · simp only [Bool.false_eq_true, if_false]
    exact tail_complete_of_partial c o s fv neg b q (afterSign_ok c s neg false b ha).1 ht hc

example : parseFloatSyntax ⟨{}, Format.standard, false⟩ {} true [49, 46, 53] = .ok (.number ⟨15, -1, false, false, [49], some [53], 0⟩ 3)
    ∧ pcount (.number ⟨15, -1, false, false, [49], some [53], 0⟩ 3) = [49, 46, 53].length := by decide

/-- ⇒ for numbers: no hypothesis -/
theorem partial_of_complete_number (c : Cfg) (o : POpts) (s : List Nat) (fv : Bool) (n : Number) (m : Nat)
    (h : parseFloatSyntax c o false s fv = .ok (.number n m)) :
    parseFloatSyntax c o true s fv = .ok (.number n s.length) ∧ m = s.length := by
  obtain ⟨neg, consumed, b, ha, hor⟩ := parseFloatSyntax_ok c o false s fv _ h
  rw [parseFloatSyntax_eq, ha]
  rcases hor with ⟨_, _, hq⟩ | ⟨rfl, ht⟩
  · cases hq
  · simp only [Bool.false_eq_true, if_false]
    have h1 := tail_complete_number c o s fv neg b n m (afterSign_ok c s neg false b ha).1 ht
    refine ⟨?_, h1.2⟩
    unfold tail
    simp [(parseNumber_ok_iff c o b neg fv _).mpr h1.1, pure, Except.pure]

example : parseFloatSyntax ⟨{}, Format.standard, false⟩ {} false [49, 46, 53]
    = .ok (.number ⟨15, -1, false, false, [49], some [53], 0⟩ 3) := by decide

/-- ⇒ for the empty case (`Ok(F::ZERO)`): no hypothesis -/
theorem partial_of_complete_zero (c : Cfg) (o : POpts) (s : List Nat) (fv : Bool) (m : Nat)
    (h : parseFloatSyntax c o false s fv = .ok (.zero m)) :
    parseFloatSyntax c o true s fv = .ok (.zero m) ∧ m = s.length := by
  obtain ⟨neg, consumed, b, ha, hor⟩ := parseFloatSyntax_ok c o false s fv _ h
  rw [parseFloatSyntax_eq, ha]
  rcases hor with ⟨rfl, hz, hq⟩ | ⟨rfl, ht⟩
  · cases hq
    exact ⟨by simp [hz], ((afterSign_ok c s neg true b ha).2.2).mp rfl⟩
  · exfalso
    unfold tail at ht
    simp only [Bool.false_eq_true, if_false] at ht
    split at ht
    · cases ht
    · split at ht <;> cases ht
    · cases ht

example : parseFloatSyntax ⟨{ format := true }, ⟨0x4 + 10 * 2 ^ 104⟩, false⟩ {} false [45] = .ok (.zero 1) := by decide

/-- ⇒ in general: under `NoShadow` (after the sign, it is not the case that `parse_number` succeeds on a proper prefix
while the special-value parser matches the whole buffer) -/
theorem partial_of_complete (c : Cfg) (o : POpts) (s : List Nat) (fv : Bool) (p : Parsed)
    (hns : NoShadow c o s fv) (h : parseFloatSyntax c o false s fv = .ok p) :
    parseFloatSyntax c o true s fv = .ok p ∧ pcount p = s.length := by
  obtain ⟨neg, consumed, b, ha, hor⟩ := parseFloatSyntax_ok c o false s fv p h
  rw [parseFloatSyntax_eq, ha]
  rcases hor with ⟨rfl, hz, rfl⟩ | ⟨rfl, ht⟩
  · exact ⟨by simp [hz], by simpa [pcount] using ((afterSign_ok c s neg true b ha).2.2).mp rfl⟩
  · simp only [Bool.false_eq_true, if_false]
    exact tail_partial_of_complete c o s fv neg b p (afterSign_ok c s neg false b ha).1 (hns neg b ha) ht

/-- non-vacuity: STANDARD format, "inf" is not shadowed and is accepted -/
example : parseFloatSyntax ⟨{}, Format.standard, false⟩ {} false [105, 110, 102] = .ok (.special .inf false 3) := by
  decide

/-- `NoShadow` is exact: a shadowed input is a disagreement (complete → special, partial → number on a proper prefix) -/
theorem shadow_disagree (c : Cfg) (o : POpts) (s : List Nat) (fv : Bool) (h : ¬ NoShadow c o s fv) :
    ∃ sp neg n count, parseFloatSyntax c o false s fv = .ok (.special sp neg s.length) ∧
      parseFloatSyntax c o true s fv = .ok (.number n count) ∧ count ≠ s.length := by
  unfold NoShadow at h
  simp only [Classical.not_forall, Classical.not_not] at h
  obtain ⟨neg, b, ha, hs⟩ := h
  obtain ⟨sp, n, count, h1, h2, h3⟩ := tail_shadow c o s fv neg b (afterSign_ok c s neg false b ha).1 hs
  refine ⟨sp, neg, n, count, ?_, ?_, h3⟩
  · rw [parseFloatSyntax_eq, ha]; simpa using h1
  · rw [parseFloatSyntax_eq, ha]; simpa using h2

/-- (A) for one input, under the exact exclusion -/
theorem complete_iff_partial (c : Cfg) (o : POpts) (s : List Nat) (p : Parsed) (hns : NoShadow c o s) :
    parseFloatSyntax c o false s = .ok p ↔
      (∃ q, parseFloatSyntax c o true s = .ok q ∧
        match q, p with
        | .zero n, .zero m => n = s.length ∧ m = n
        | .number x n, .number y m => x = y ∧ n = s.length ∧ m = n
        | .special a sa n, .special a' sa' m => a = a' ∧ sa = sa' ∧ n = s.length ∧ m = n
        | _, _ => False) := by
  constructor
  · intro h
    have := partial_of_complete c o s true p hns h
    exact ⟨p, this.1, (agree_iff s.length p p).mpr ⟨rfl, this.2⟩⟩
  · rintro ⟨q, hq, hm⟩
    obtain ⟨rfl, hc⟩ := (agree_iff s.length q p).mp hm
    exact complete_of_partial c o s true q hq hc

/-! ## (A) negation witnesses — each is a disagreement of the library (model tied to the Rust by correspondence) -/

/-- feature sets / formats of the witnesses (raw values as in `harness/formats.txt`) -/
def featsRadixFormat : Features := { radix := true, powerOfTwo := true, format := true }
def featsRadix : Features := { radix := true, powerOfTwo := true }
def fmtNoMantissaDigits : Format := ⟨0xa0a0a00000000000000000000000004⟩   -- flag_no_required_mantissa_digits
def fmtRadix20 : Format := ⟨0x1414140000000000000000000000000c⟩
def fmtRadix24 : Format := ⟨0x1818180000000000000000000000000c⟩
def fmtRadix30 : Format := ⟨0x1e1e1e0000000000000000000000000c⟩
def fmtSepIHexfloatPrefix : Format := ⟨0xa0210007800005f000000070000000c⟩  -- sep_i_hexfloat_prefix

/-- (i) mantissa digits not required: complete "NaN" = NaN, partial "NaN" = (0.0, 0) -/
theorem witness_A_nodigits_nan :
    parseFloatModel featsRadixFormat fmtNoMantissaDigits {} false f64 [78, 97, 78] = "ok nan -" ∧
    parseFloatModel featsRadixFormat fmtNoMantissaDigits {} true f64 [78, 97, 78] = "ok 0 0" := by decide +kernel

/-- (i) complete "-inf" = -inf, partial "-inf" = (-0.0, 1) -/
theorem witness_A_nodigits_neginf :
    parseFloatModel featsRadixFormat fmtNoMantissaDigits {} false f64 [45, 105, 110, 102] = "ok fff0000000000000 -" ∧
    parseFloatModel featsRadixFormat fmtNoMantissaDigits {} true f64 [45, 105, 110, 102] = "ok 8000000000000000 1" := by
  decide +kernel

/-- (ii) radix 20 (no `format` feature; exponent character '^'): complete "inf" = inf, partial "inf" = (18.0, 1):
'i' = 18 is a digit, 'n' = 23 is not -/
theorem witness_A_radix20_inf :
    parseFloatModel featsRadix fmtRadix20 { exp := 94 } false f64 [105, 110, 102] = "ok 7ff0000000000000 -" ∧
    parseFloatModel featsRadix fmtRadix20 { exp := 94 } true f64 [105, 110, 102] = "ok 4032000000000000 1" := by
  decide +kernel

/-- (ii) radix 30: complete "infinity" = inf, partial "infinity" = (13693557269.0, 7): 'y' = 34 is not a digit -/
theorem witness_A_radix30_infinity :
    parseFloatModel featsRadix fmtRadix30 { exp := 94 } false f64 [105, 110, 102, 105, 110, 105, 116, 121]
      = "ok 7ff0000000000000 -" ∧
    parseFloatModel featsRadix fmtRadix30 { exp := 94 } true f64 [105, 110, 102, 105, 110, 105, 116, 121]
      = "ok 42098198d0a80000 7" := by
  decide +kernel

/-- the same radix-20 witness on the syntax layer -/
theorem witness_A_radix20_syntax :
    parseFloatSyntax ⟨featsRadix, fmtRadix20, false⟩ { exp := 94 } false [105, 110, 102] = .ok (.special .inf false 3) ∧
    parseFloatSyntax ⟨featsRadix, fmtRadix20, false⟩ { exp := 94 } true [105, 110, 102]
      = .ok (.number ⟨18, 0, false, false, [105], none, 0⟩ 1) := by decide +kernel

/-- C11 (A) as stated is false (valid format, valid options) -/
theorem not_complete_iff_partial_full : ¬ complete_iff_partial_full := by
  intro h
  obtain ⟨q, hq, hm⟩ := (h ⟨featsRadix, fmtRadix20, false⟩ { exp := 94 } [105, 110, 102] (.special .inf false 3)).mp
    witness_A_radix20_syntax.1
  rw [witness_A_radix20_syntax.2] at hq
  cases hq
  exact hm

/-- the witness formats/options are valid (the API does not reject them) -/
example : formatError featsRadix fmtRadix20 = none ∧ isValidOptionsPunctuation featsRadix fmtRadix20 94 46 = true ∧
    formatError featsRadixFormat fmtNoMantissaDigits = none ∧
    formatError featsRadixFormat fmtSepIHexfloatPrefix = none ∧ formatError featsRadix fmtRadix24 = none := by
  decide +kernel

/-- C11 (B), full statement: a successful partial parse with a positive count is reproduced by the complete parser
on exactly the consumed prefix -/
def partial_prefix_full : Prop :=
  ∀ (c : Cfg) (o : Spec.POpts) (s : List Nat) (p : Parsed),
    parseFloatSyntax c o true s = .ok p → pcount p > 0 →
      parseFloatSyntax c o false (s.take (pcount p)) = .ok p

/-- (i) mantissa digits not required: partial "-+" = (-0.0, 1) but complete "-" = +0.0 -/
theorem witness_B_nodigits_sign :
    parseFloatModel featsRadixFormat fmtNoMantissaDigits {} true f64 [45, 43] = "ok 8000000000000000 1" ∧
    parseFloatModel featsRadixFormat fmtNoMantissaDigits {} false f64 [45] = "ok 0 -" := by decide +kernel

/-- (ii) `sep_i_hexfloat_prefix` (radix 16, exponent radix 10, exponent-internal '_'): partial "1p1_a" = (2.0, 4) — the
internal-separator look-ahead accepts `_` because the *mantissa*-radix digit 'a' follows — but complete "1p1_" fails -/
theorem witness_B_hexfloat_sep :
    parseFloatModel featsRadixFormat fmtSepIHexfloatPrefix { exp := 112 } true f64 [49, 112, 49, 95, 97]
      = "ok 4000000000000000 4" ∧
    parseFloatModel featsRadixFormat fmtSepIHexfloatPrefix { exp := 112 } false f64 [49, 112, 49, 95]
      = "err InvalidDigit 3" := by decide +kernel

/-- (iii) radix ≥ 24, no `format` feature needed: partial "nan^" = (NaN, 3) — `parse_number` reads the digits n,a,n, then
the exponent character with no exponent digits: `EmptyExponent`, fall back to the specials — but complete "nan" is the
number 13511 -/
theorem witness_B_radix24_nan :
    parseFloatModel featsRadix fmtRadix24 { exp := 94 } true f64 [110, 97, 110, 94] = "ok nan 3" ∧
    parseFloatModel featsRadix fmtRadix24 { exp := 94 } false f64 [110, 97, 110] = "ok 40ca638000000000 -" := by
  decide +kernel

theorem witness_B_radix24_syntax :
    parseFloatSyntax ⟨featsRadix, fmtRadix24, false⟩ { exp := 94 } true [110, 97, 110, 94] = .ok (.special .nan false 3) ∧
    parseFloatSyntax ⟨featsRadix, fmtRadix24, false⟩ { exp := 94 } false [110, 97, 110]
      = .ok (.number ⟨13511, 0, false, false, [110, 97, 110], none, 0⟩ 3) := by decide +kernel

/-- C11 (B) as stated is false (valid format, valid options, no `format` feature) -/
theorem not_partial_prefix_full : ¬ partial_prefix_full := by
  intro h
  have := h ⟨featsRadix, fmtRadix24, false⟩ { exp := 94 } [110, 97, 110, 94] (.special .nan false 3)
    witness_B_radix24_syntax.1 (by decide)
  rw [show List.take (pcount (.special .nan false 3)) [110, 97, 110, 94] = [110, 97, 110] by decide,
    witness_B_radix24_syntax.2] at this
  cases this

/-! ## digits of the 8-digit fast loop are counted (/repo 7e8a135, 12a2453)

Formats whose separator flags sit on some components only (here: `_` allowed between fraction digits only,
`c13_dec_fra_i`): the integer iterator is contiguous while the buffer is not, so `n_digits` comes from
`increment_count`. Without the count of the 8-digit blocks `12345678` gives `EmptyMantissa` from the complete AND the
partial parser, and both relations of C11 hold vacuously on such inputs; with it both entry points return the value. -/

def fmtSepFracI : Format := ⟨0xa0a0a000000005f000000020000000c⟩   -- c13_dec_fra_i

/-- (A) on `12345678`: complete = 12345678.0, partial = (12345678.0, 8 = length) -/
theorem regression_A_sep_format_8digit_block :
    parseFloatModel featsRadixFormat fmtSepFracI {} false f64 [49, 50, 51, 52, 53, 54, 55, 56]
      = "ok 41678c29c0000000 -" ∧
    parseFloatModel featsRadixFormat fmtSepFracI {} true f64 [49, 50, 51, 52, 53, 54, 55, 56]
      = "ok 41678c29c0000000 8" := by decide +kernel

/-- (B) on `12345678x`: partial = (12345678.0, 8), complete on the first 8 bytes = 12345678.0; and through the fraction
separator: partial `123456789.1_2x` = (123456789.12, 13) = complete `123456789.1_2` -/
theorem regression_B_sep_format_8digit_block :
    (parseFloatModel featsRadixFormat fmtSepFracI {} true f64 [49, 50, 51, 52, 53, 54, 55, 56, 120]
      = "ok 41678c29c0000000 8" ∧
     parseFloatModel featsRadixFormat fmtSepFracI {} false f64 ([49, 50, 51, 52, 53, 54, 55, 56, 120].take 8)
      = "ok 41678c29c0000000 -") ∧
    (parseFloatModel featsRadixFormat fmtSepFracI {} true f64 [49, 50, 51, 52, 53, 54, 55, 56, 57, 46, 49, 95, 50, 120]
      = "ok 419d6f34547ae148 13" ∧
     parseFloatModel featsRadixFormat fmtSepFracI {} false f64
        ([49, 50, 51, 52, 53, 54, 55, 56, 57, 46, 49, 95, 50, 120].take 13) = "ok 419d6f34547ae148 -") := by
  decide +kernel

/-- the same on the syntax layer: the number carries all eight integer digits -/
theorem regression_sep_format_syntax :
    parseFloatSyntax ⟨featsRadixFormat, fmtSepFracI, false⟩ {} true [49, 50, 51, 52, 53, 54, 55, 56, 120]
      = .ok (.number ⟨12345678, 0, false, false, [49, 50, 51, 52, 53, 54, 55, 56], none, 0⟩ 8) ∧
    parseFloatSyntax ⟨featsRadixFormat, fmtSepFracI, false⟩ {} false [49, 50, 51, 52, 53, 54, 55, 56]
      = .ok (.number ⟨12345678, 0, false, false, [49, 50, 51, 52, 53, 54, 55, 56], none, 0⟩ 8) := by decide +kernel

/-! ## (B): truncation of the phases of `parse_number`

Setting: release build (`Rel c`) and `NumContig c`: no digit-separator byte, or no separator flag on the integer,
fraction and exponent components — the build without the `format` feature and every `format` build whose format has no
separator inside numbers (base prefix/suffix, all syntax flags, a separator in special values allowed).
`trunc n b` cuts the buffer after `n` bytes. Each phase that returns with its cursor at `i ≤ n` returns the same
result on the truncated buffer (bytes at positions `≥ i` are inspected only to decide to stop). -/

/-- integer (with base prefix), fraction and exponent phase commute with truncation at or beyond their final cursor;
the cursor only moves forward and stays inside the buffer -/
theorem partial_prefix_phases (c : Cfg) (o : POpts) (hc : Proof.PNTotal.Rel c) (hb : NumContig c)
    (b : Bytes) (hv : C12.Bytes.Valid b) :
    (∀ ip, integerPhase c b = .ok ip →
      b.index ≤ ip.byte.index ∧ ip.byte.index ≤ b.slc.length ∧
      ∀ n, ip.byte.index ≤ n → integerPhase c (trunc n b) = .ok { ip with start := trunc n ip.start, byte := trunc n ip.byte }) ∧
    (∀ m fp, fractionPhase c o b m = .ok fp →
      b.index ≤ fp.byte.index ∧ fp.byte.index ≤ b.slc.length ∧
      ∀ n, fp.byte.index ≤ n → fractionPhase c o (trunc n b) m = .ok { fp with byte := trunc n fp.byte }) ∧
    (∀ fr ex ep, b.index < b.slc.length → exponentPhase c true b fr ex = .ok ep →
      b.index + 1 ≤ ep.byte.index ∧ ep.byte.index ≤ b.slc.length ∧
      ∀ n, ep.byte.index ≤ n → exponentPhase c true (trunc n b) fr ex = .ok { ep with byte := trunc n ep.byte }) := by
  refine ⟨?_, ?_, ?_⟩
  · intro ip h
    obtain ⟨⟨_, e2, _, _⟩, _, e4, e5, e6, _, _, _, e9⟩ := integerPhase_trunc hc hb b ip hv h
    exact ⟨by omega, by have : ip.byte.index ≤ ip.byte.slc.length := e6
                        rw [e4] at this; exact this, fun n hn => e9 n (Cut.of_num hb _ (by decide) hn)⟩
  · intro m fp h
    obtain ⟨e1, e2, e3, _, _, _, e5⟩ := fractionPhase_trunc hc hb o b m fp hv h
    exact ⟨e2, by have : fp.byte.index ≤ fp.byte.slc.length := e3
                  rw [e1] at this; exact this, fun n hn => e5 n hn (fun _ => Cut.of_num hb _ (by decide) hn)⟩
  · intro fr ex ep hlt h
    obtain ⟨e1, _, e3, e4, _, e5⟩ := exponentPhase_trunc hc hb true b fr ex ep hv (fun _ => hlt) h
    exact ⟨(e4 rfl).1, by have : ep.byte.index ≤ ep.byte.slc.length := e3
                          rw [e1] at this; exact this, fun n hn => e5 n hn (fun _ => Cut.of_num hb _ (by decide) hn)⟩

/-- non-vacuity: "12.5e3x" — the three phases succeed -/
example : (∃ ip, integerPhase ⟨{}, Format.standard, false⟩ (Bytes.new [49, 50, 46, 53, 101, 51, 120]) = .ok ip ∧
      ip.byte.index = 2) ∧
    (∃ fp, fractionPhase ⟨{}, Format.standard, false⟩ {} { slc := [49, 50, 46, 53, 101, 51, 120], index := 2 } 12 = .ok fp ∧
      fp.byte.index = 4) ∧
    (∃ ep, exponentPhase ⟨{}, Format.standard, false⟩ true { slc := [49, 50, 46, 53, 101, 51, 120], index := 4 }
      (some [53]) (-1) = .ok ep ∧ ep.byte.index = 6) :=
  ⟨⟨_, rfl, rfl⟩, ⟨_, rfl, rfl⟩, ⟨_, rfl, rfl⟩⟩

/-- no digit-separator byte, mantissa digits required, and every special string is non-empty with a
first byte that (in either case) is neither a mantissa digit nor the decimal point ⇒ nothing is shadowed.
Any feature set, any other flags (base suffix, sign/exponent flags …), debug or release. -/
theorem noShadow_syntactic (c : Cfg) (o : POpts) (s : List Nat) (fv : Bool)
    (hb : c.bytesContiguous = true) (hr : 1 ≤ c.mantissaRadix) (hm : c.requiredMantissaDigits = true)
    (hrad : c.feats.powerOfTwo = false → c.mantissaRadix ≤ 10) (hh : SpecialHeadsOK c o) : NoShadow c o s fv :=
  noShadow_of_heads hb o s fv hh hrad hr hm

/-- C11 (A) under the syntactic condition -/
theorem complete_iff_partial_syntactic (c : Cfg) (o : POpts) (s : List Nat) (p : Parsed)
    (hb : c.bytesContiguous = true) (hr : 1 ≤ c.mantissaRadix) (hm : c.requiredMantissaDigits = true)
    (hrad : c.feats.powerOfTwo = false → c.mantissaRadix ≤ 10) (hh : SpecialHeadsOK c o) :
    parseFloatSyntax c o false s = .ok p ↔
      (∃ q, parseFloatSyntax c o true s = .ok q ∧
        match q, p with
        | .zero n, .zero m => n = s.length ∧ m = n
        | .number x n, .number y m => x = y ∧ n = s.length ∧ m = n
        | .special a sa n, .special a' sa' m => a = a' ∧ sa = sa' ∧ n = s.length ∧ m = n
        | _, _ => False) :=
  complete_iff_partial c o s p (noShadow_syntactic c o s true hb hr hm hrad hh)

/-- non-vacuity: the hypotheses hold for STANDARD (no `format`) and for a `format`-feature build with a base suffix -/
example : (⟨{}, Format.standard, false⟩ : Cfg).bytesContiguous = true ∧ (⟨{}, Format.standard, false⟩ : Cfg).basePrefix = 0 ∧
    (⟨{}, Format.standard, false⟩ : Cfg).requiredMantissaDigits = true ∧
    (⟨{ radix := true, powerOfTwo := true, format := true }, ⟨0xa02106800000000000000000000000c⟩, false⟩ : Cfg).bytesContiguous = true ∧
    (⟨{ radix := true, powerOfTwo := true, format := true }, ⟨0xa02106800000000000000000000000c⟩, false⟩ : Cfg).basePrefix = 0 ∧
    (⟨{ radix := true, powerOfTwo := true, format := true }, ⟨0xa02106800000000000000000000000c⟩, false⟩ : Cfg).requiredMantissaDigits = true := by
  decide +kernel

/-- the key lemma behind it: `parse_number` fails on a byte that is neither digit nor decimal point -/
theorem parseNumber_fails_on_nondigit (c : Cfg) (p : Bool) (o : POpts) (b : Bytes) (neg fv : Bool) (x : Nat)
    (hb : c.bytesContiguous = true) (hr : 1 ≤ c.mantissaRadix) (hm : c.requiredMantissaDigits = true)
    (hrad : c.feats.powerOfTwo = false → c.mantissaRadix ≤ 10)
    (hx : b.slc[b.index]? = some x) (hnd : charToDigit x c.mantissaRadix = none) (hdp : x ≠ o.dp)
    (r : Number × Nat) : parseNumber c p o b neg fv ≠ .ok r :=
  parseNumber_not_ok hb p o b neg fv x hx hnd hdp hrad hr hm r

theorem specialHeadsOK_of_valid (c : Cfg) (o : POpts) (hopt : optionsError o = none) (hr : c.mantissaRadix ≤ 18)
    (hdp : o.dp ≠ 73 ∧ o.dp ≠ 105 ∧ o.dp ≠ 78 ∧ o.dp ≠ 110) : SpecialHeadsOK c o := by
  intro str hstr
  -- the string starts with one of `I i N n`, and so does every byte that matches its head in either case
  obtain ⟨y, ys, rfl, hy⟩ := special_head_cases o hopt str hstr
  refine ⟨y, ys, rfl, fun x hx => ?_⟩
  have hxc := xor_head_cases x y hy hx
  refine ⟨?_, by rcases hxc with rfl | rfl | rfl | rfl <;> omega⟩
  -- as digits `I i` have value 18 and `N n` 23: none below radix 19
  unfold charToDigit charToValidDigit
  rcases hxc with rfl | rfl | rfl | rfl <;> simp <;> split <;> omega

/-- `parse_number` returns the same number and count on every truncation of the buffer at or beyond its count; the
count is inside the buffer and at least one byte was consumed (includes base prefix/suffix and the many-digits
re-parse) -/
theorem parseNumber_prefix (c : Cfg) (p : Bool) (o : POpts) (b : Bytes) (neg fv : Bool) (r : Number)
    (count : Nat) (hc : Proof.PNTotal.Rel c) (hb : NumContig c) (hr : 1 ≤ c.mantissaRadix)
    (hm : c.requiredMantissaDigits = true) (hv : C12.Bytes.Valid b) (h : parseNumber c p o b neg fv = .ok (r, count)) :
    b.index < count ∧ count ≤ b.slc.length ∧
    ∀ n, count ≤ n → parseNumber c p o (trunc n b) neg fv = .ok (r, count) :=
  parseNumber_trunc hc hb p o b neg fv r count hr hm hv h

/-- **C11 (B), no digit-separator byte** (release build; with or without the `format` feature; base prefix/suffix and
every syntax flag allowed; mantissa digits required): `partial s = ok p → complete (s.take (count p)) = ok p`.
Numbers need no hypothesis on the options; specials need `SpecialHeadsOK`. -/
theorem partial_prefix_contiguous (c : Cfg) (o : POpts) (s : List Nat) (p : Parsed)
    (hc : Proof.PNTotal.Rel c) (hb : c.bytesContiguous = true) (hr : 1 ≤ c.mantissaRadix)
    (hm : c.requiredMantissaDigits = true)
    (hrad : c.feats.powerOfTwo = false → c.mantissaRadix ≤ 10) (hh : SpecialHeadsOK c o)
    (h : parseFloatSyntax c o true s = .ok p) :
    parseFloatSyntax c o false (s.take (pcount p)) = .ok p :=
  partial_prefix_g hc hb o s true p hr hm hrad hh h

/-- **C11 (B), number results, no digit separator inside numbers** (`NumContig`: no separator byte, or no separator flag
on integer / fraction / exponent — the special values may take separators): every input, every options -/
theorem partial_prefix_number (c : Cfg) (o : POpts) (s : List Nat) (x : Number) (cnt : Nat)
    (hc : Proof.PNTotal.Rel c) (hn : NumContig c) (hr : 1 ≤ c.mantissaRadix)
    (hm : c.requiredMantissaDigits = true)
    (h : parseFloatSyntax c o true s = .ok (.number x cnt)) :
    parseFloatSyntax c o false (s.take cnt) = .ok (.number x cnt) :=
  partial_prefix_number_g hc hn o s true x cnt hr hm h

/-- `special_digit_separator` alone (`_` in special values only; bit 44) -/
def fmtSepSpecialOnly : Format := ⟨0xa0a0a000000005f000010000000000c⟩

/-- non-vacuity of `NumContig` beyond "no separator byte": the buffer of `fmtSepSpecialOnly` is not contiguous, the
format is valid, and `12345678x` (8-digit fast loop, digits counted by `increment_count`) → count 8 -/
example : NumContig ⟨featsRadixFormat, fmtSepSpecialOnly, false⟩ ∧
    (⟨featsRadixFormat, fmtSepSpecialOnly, false⟩ : Cfg).bytesContiguous = false ∧
    (⟨featsRadixFormat, fmtSepSpecialOnly, false⟩ : Cfg).specialSep = true ∧
    formatError featsRadixFormat fmtSepSpecialOnly = none ∧
    (⟨featsRadixFormat, fmtSepSpecialOnly, false⟩ : Cfg).requiredMantissaDigits = true ∧
    parseFloatSyntax ⟨featsRadixFormat, fmtSepSpecialOnly, false⟩ {} true [49, 50, 51, 52, 53, 54, 55, 56, 120]
      = .ok (.number ⟨12345678, 0, false, false, [49, 50, 51, 52, 53, 54, 55, 56], none, 0⟩ 8) := by
  refine ⟨Or.inr ?_, by decide +kernel, by decide +kernel, by decide +kernel, by decide +kernel, by decide +kernel⟩
  intro k hk
  cases k with
  | special => exact absurd rfl hk
  | integer => decide +kernel
  | fraction => decide +kernel
  | exponent => decide +kernel

/-- number results without a separator byte (special case of `partial_prefix_number`) -/
theorem partial_prefix_contiguous_number (c : Cfg) (o : POpts) (s : List Nat) (x : Number) (cnt : Nat)
    (hc : Proof.PNTotal.Rel c) (hb : c.bytesContiguous = true) (hr : 1 ≤ c.mantissaRadix)
    (hm : c.requiredMantissaDigits = true)
    (h : parseFloatSyntax c o true s = .ok (.number x cnt)) :
    parseFloatSyntax c o false (s.take cnt) = .ok (.number x cnt) :=
  partial_prefix_number c o s x cnt hc (NumContig.of_bytes hb) hr hm h

/-- special results: under `SpecialHeadsOK` (class (iii), `witness_B_radix24_nan`, shows that a hypothesis of this kind
is necessary) -/
theorem partial_prefix_contiguous_special (c : Cfg) (o : POpts) (s : List Nat) (sp : Special) (neg : Bool) (cnt : Nat)
    (hc : Proof.PNTotal.Rel c) (hb : c.bytesContiguous = true) (hr : 1 ≤ c.mantissaRadix)
    (hm : c.requiredMantissaDigits = true)
    (hrad : c.feats.powerOfTwo = false → c.mantissaRadix ≤ 10) (hh : SpecialHeadsOK c o)
    (h : parseFloatSyntax c o true s = .ok (.special sp neg cnt)) :
    parseFloatSyntax c o false (s.take cnt) = .ok (.special sp neg cnt) :=
  partial_prefix_special_g hc hb o s true sp neg cnt hr hm hrad hh h

/-- the build without the `format` feature: `Rel`, contiguity and required mantissa digits are automatic -/
theorem partial_prefix_noformat (c : Cfg) (o : POpts) (s : List Nat) (p : Parsed)
    (hf : c.feats.format = false) (hd : c.debug = false) (hr : 1 ≤ c.mantissaRadix)
    (hrad : c.feats.powerOfTwo = false → c.mantissaRadix ≤ 10) (hh : SpecialHeadsOK c o)
    (h : parseFloatSyntax c o true s = .ok p) :
    parseFloatSyntax c o false (s.take (pcount p)) = .ok p :=
  partial_prefix_contiguous c o s p (rel_nf hf hd) (Proof.PNTotal.notFormat_bytesContig hf) hr
    (by simp [Cfg.requiredMantissaDigits, Cfg.flag, hf]) hrad hh h

theorem partial_prefix_noformat_number (c : Cfg) (o : POpts) (s : List Nat) (x : Number) (cnt : Nat)
    (hf : c.feats.format = false) (hd : c.debug = false) (hr : 1 ≤ c.mantissaRadix)
    (h : parseFloatSyntax c o true s = .ok (.number x cnt)) :
    parseFloatSyntax c o false (s.take cnt) = .ok (.number x cnt) :=
  partial_prefix_contiguous_number c o s x cnt (rel_nf hf hd) (Proof.PNTotal.notFormat_bytesContig hf) hr
    (by simp [Cfg.requiredMantissaDigits, Cfg.flag, hf]) h

example : parseFloatSyntax ⟨{}, Format.standard, false⟩ {} true [49, 46, 53, 120]
    = .ok (.number ⟨15, -1, false, false, [49], some [53], 0⟩ 3) := by decide

example : parseFloatSyntax ⟨{}, Format.standard, false⟩ {} true [45, 110, 97, 110, 53] = .ok (.special .nan true 4) := by
  decide

/-- non-vacuity of the hypotheses: the STANDARD format with default options -/
example : SpecialHeadsOK ⟨{}, Format.standard, false⟩ {} :=
  specialHeadsOK_of_valid _ _ (by decide) (by decide) (by decide)

/-- non-vacuity with the `format` feature: C hex-float strings with base prefix `x` (`prefix_x_hexfloat`, radix 16,
exponent `p`): "0x1.8p1z" → count 7 -/
example : (⟨featsRadixFormat, ⟨0xa02100078000000000000000000000c⟩, false⟩ : Cfg).bytesContiguous = true ∧
    (⟨featsRadixFormat, ⟨0xa02100078000000000000000000000c⟩, false⟩ : Cfg).requiredMantissaDigits = true ∧
    parseFloatSyntax ⟨featsRadixFormat, ⟨0xa02100078000000000000000000000c⟩, false⟩ { exp := 112 } true
      [48, 120, 49, 46, 56, 112, 49, 122] = .ok (.number ⟨24, -3, false, false, [49], some [56], 1⟩ 7) := by
  decide +kernel

/-- when the validation of `api.rs` passes, the API result is the rendered syntax result -/
theorem parseFloatModel_of_valid (feats : Features) (fmt : Format) (o : POpts) (p : Bool) (f : Fmt) (s : List Nat)
    (debug : Bool) (h1 : optionsError o = none) (h2 : formatError feats fmt = none)
    (h3 : isValidOptionsPunctuation feats fmt o.exp o.dp = true) (h4 : checkRadix feats fmt = true) :
    parseFloatModel feats fmt o p f s debug =
      match parseFloatSyntax ⟨feats, fmt, debug⟩ o p s true with
      | .ok q => renderParsed ⟨feats, fmt, debug⟩ f p q
      | .error e => renderErr e := by
  unfold parseFloatModel
  simp only [h1, h2, h3, h4, Option.isSome_none, Option.isNone_none, Bool.false_eq_true, if_false, Bool.not_true]
  rfl

theorem model_prefix_of_syntax (feats : Features) (fmt : Format) (o : POpts) (f : Fmt) (s : List Nat) (q : Parsed)
    (h1 : optionsError o = none) (h2 : formatError feats fmt = none)
    (h3 : isValidOptionsPunctuation feats fmt o.exp o.dp = true) (h4 : checkRadix feats fmt = true)
    (h : parseFloatSyntax ⟨feats, fmt, false⟩ o true s = .ok q)
    (hc : parseFloatSyntax ⟨feats, fmt, false⟩ o false (s.take (pcount q)) = .ok q) :
    parseFloatModel feats fmt o true f s = renderParsed ⟨feats, fmt, false⟩ f true q ∧
    parseFloatModel feats fmt o false f (s.take (pcount q)) = renderParsed ⟨feats, fmt, false⟩ f false q := by
  rw [parseFloatModel_of_valid feats fmt o true f s false h1 h2 h3 h4,
    parseFloatModel_of_valid feats fmt o false f _ false h1 h2 h3 h4, h, hc]
  exact ⟨rfl, rfl⟩

/-- C11 (B) for `parse_partial_with_options` / `parse_with_options` (release build, valid format and options, no digit
separator in the format, mantissa digits required, mantissa radix ≤ 18, decimal point not one of `I i N n`): whatever
the partial parser returns as `(value, count)`, the complete parser returns the same value on the first `count` bytes -/
theorem partial_prefix_model (feats : Features) (fmt : Format) (o : POpts) (f : Fmt) (s : List Nat) (q : Parsed)
    (hfeat : feats.radix = true → feats.powerOfTwo = true)
    (hb : (⟨feats, fmt, false⟩ : Cfg).bytesContiguous = true)
    (hm : (⟨feats, fmt, false⟩ : Cfg).requiredMantissaDigits = true)
    (h1 : optionsError o = none) (h2 : formatError feats fmt = none)
    (h3 : isValidOptionsPunctuation feats fmt o.exp o.dp = true) (h4 : checkRadix feats fmt = true)
    (hr18 : fmt.mantissaRadix ≤ 18) (hdp : o.dp ≠ 73 ∧ o.dp ≠ 105 ∧ o.dp ≠ 78 ∧ o.dp ≠ 110)
    (h : parseFloatSyntax ⟨feats, fmt, false⟩ o true s = .ok q) :
    parseFloatModel feats fmt o true f s = renderParsed ⟨feats, fmt, false⟩ f true q ∧
    parseFloatModel feats fmt o false f (s.take (pcount q)) = renderParsed ⟨feats, fmt, false⟩ f false q := by
  obtain ⟨hr, hrad⟩ := validRadix_facts feats _ (formatError_radix feats fmt h2)
  have hrel : Proof.PNTotal.Rel ⟨feats, fmt, false⟩ := Proof.PNTotal.rel_of_valid _ rfl (by simp [h2])
  exact model_prefix_of_syntax feats fmt o f s q h1 h2 h3 h4 h
    (partial_prefix_contiguous ⟨feats, fmt, false⟩ o s q hrel hb hr hm (hrad hfeat)
      (specialHeadsOK_of_valid _ _ h1 hr18 hdp) h)

/-- C11 (B) at the API level for number results under `NumContig` (a separator byte may exist when integer, fraction
and exponent have no separator flag): no restriction on the radix, the decimal point or the special strings -/
theorem partial_prefix_model_number (feats : Features) (fmt : Format) (o : POpts) (f : Fmt) (s : List Nat)
    (x : Number) (cnt : Nat)
    (hn : NumContig ⟨feats, fmt, false⟩)
    (hm : (⟨feats, fmt, false⟩ : Cfg).requiredMantissaDigits = true)
    (h1 : optionsError o = none) (h2 : formatError feats fmt = none)
    (h3 : isValidOptionsPunctuation feats fmt o.exp o.dp = true) (h4 : checkRadix feats fmt = true)
    (h : parseFloatSyntax ⟨feats, fmt, false⟩ o true s = .ok (.number x cnt)) :
    parseFloatModel feats fmt o true f s = renderParsed ⟨feats, fmt, false⟩ f true (.number x cnt) ∧
    parseFloatModel feats fmt o false f (s.take cnt) = renderParsed ⟨feats, fmt, false⟩ f false (.number x cnt) := by
  have hr := (validRadix_facts feats _ (formatError_radix feats fmt h2)).1
  have hrel : Proof.PNTotal.Rel ⟨feats, fmt, false⟩ := Proof.PNTotal.rel_of_valid _ rfl (by simp [h2])
  exact model_prefix_of_syntax feats fmt o f s (.number x cnt) h1 h2 h3 h4 h
    (partial_prefix_number ⟨feats, fmt, false⟩ o s x cnt hrel hn hr hm h)

/-- non-vacuity (separator byte present, `fmtSepSpecialOnly`): "12345678x" → (12345678.0, 8), "12345678" → 12345678.0 -/
example : parseFloatModel featsRadixFormat fmtSepSpecialOnly {} true f64 [49, 50, 51, 52, 53, 54, 55, 56, 120]
      = "ok 41678c29c0000000 8" ∧
    parseFloatModel featsRadixFormat fmtSepSpecialOnly {} false f64 [49, 50, 51, 52, 53, 54, 55, 56]
      = "ok 41678c29c0000000 -" := by decide +kernel

/-- non-vacuity: default features, STANDARD format: "1.5x" → (1.5, 3) and "1.5" → 1.5 -/
example : parseFloatModel {} Format.standard {} true f64 [49, 46, 53, 120] = "ok 3ff8000000000000 3" ∧
    parseFloatModel {} Format.standard {} false f64 [49, 46, 53] = "ok 3ff8000000000000 -" := by decide +kernel

end LexVerif.Props.C11
