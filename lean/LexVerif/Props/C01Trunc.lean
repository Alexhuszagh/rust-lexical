import LexVerif.Props.C01SlowDomain
import LexVerif.Proof.LemireWide
import LexVerif.Proof.NumberTrueValue
/-!
# Props.C01Trunc — truncated mantissas the two-pass wrapper does not decide

`lemire` on a truncated `Number` (`many_digits`): `compute_float(q, w)`; if valid, `compute_float(q, w + 1)`; if the two
differ, `compute_error(q, w)`. Whatever invalid-marked answer comes out is the upper product word of row `q`, normalised:
an estimate of `w·10^q` (`lemire_truncated`; `Proof.LemireError` for `compute_error`), hence a `40`-estimate of the value
of all the digits (`Proof.LemireWide.estW_widen`, `Proof.Bell.lemire_invalid_est`), which is what the slow path needs
(`slowDomain_truncated_tv`, for either moderate path). `slowDomain_reads`: the domain of the slow-path model from what the
syntax pass (`C01Number.Reads`) and the moderate path (`Compose.HandOff`) hand over, truncated or not.
-/
namespace LexVerif.Props.C01Trunc
open LexVerif.Spec LexVerif.Model LexVerif.Model.ParseFloatAlgo
open LexVerif.Proof.RoundNE LexVerif.Proof.ExtRound LexVerif.Proof.Pipeline LexVerif.Proof.Lemire
open LexVerif.Props.C01 (IsLemireFloat IsI64 Bracket)
open LexVerif.Props.C01Main LexVerif.Props.C01SlowMain LexVerif.Props.C01SlowDomain LexVerif.Proof.Slow

/-- **the wrapper on a truncated mantissa**: it answers (no panic), and an invalid-marked answer means `q` is inside the
table and the answer is an estimate of `w·10^q` -/
theorem lemire_truncated (F : FTy) (hF : IsLemireFloat F) (q : Int) (w : Nat) (neg : Bool)
    (hw0 : w ≠ 0) (hw : w + 1 < 2 ^ 64) :
    ∃ fp, Lemire.lemire F ⟨w, q, neg, true⟩ false = .ok fp ∧
      (fp.exp < 0 → -342 ≤ q ∧ q ≤ 308 ∧
        ∃ p eb, Layout F p eb ∧ EstOK F p fp (powFrac 10 q w).1 (powFrac 10 q w).2) := by
  obtain ⟨p, eb, sm, lg, a, b, LL, _, _⟩ := C01.lemLayout_of hF
  have np := fun w' => LexVerif.Proof.Lemire.computeFloat_no_panic LL q w' false
  unfold Lemire.lemire
  dsimp only
  cases h0 : Lemire.computeFloat F q w false with
  | panic => exact absurd h0 (np w)
  | ok fp0 =>
    dsimp only
    by_cases hv0 : fp0.exp ≥ 0
    · have hc : (!false && true && decide (fp0.exp ≥ 0)) = true := by simp [hv0]
      rw [if_pos hc]
      have hwrap : wrap64 (w + 1) = w + 1 := Nat.mod_eq_of_lt hw
      rw [hwrap]
      cases h1 : Lemire.computeFloat F q (w + 1) false with
      | panic => exact absurd h1 (np _)
      | ok fp1 =>
        dsimp only
        by_cases hne : fp0 ≠ fp1
        · rw [if_pos hne]
          -- `compute_error` is reached only inside the table
          have hq1' : ¬ q < F.C.smallestPowerOfTen := by
            intro hlt
            have e0 := (cutoff_zero LL q w false (by omega) hlt).1
            have e1 := (cutoff_zero LL q (w + 1) false hw hlt).1
            rw [e0] at h0; rw [e1] at h1
            injection h0 with h0; injection h1 with h1
            exact hne (by rw [← h0, ← h1])
          have hq1 : -342 ≤ q := by
            rw [LL.smallest] at hq1'; have := LL.sm342; omega
          have hq2' : ¬ q > F.C.largestPowerOfTen := by
            intro hgt
            have e0 := (cutoff_inf LL q w false hw0 hgt).1
            have e1 := (cutoff_inf LL q (w + 1) false (by omega) hgt).1
            rw [e0] at h0; rw [e1] at h1
            injection h0 with h0; injection h1 with h1
            exact hne (by rw [← h0, ← h1])
          have hq2 : q ≤ 308 := by
            rw [LL.largest] at hq2'; have := LL.lg308; omega
          by_cases hq0 : 0 ≤ q
          · obtain ⟨qn, rfl⟩ : ∃ qn : Nat, q = (qn : Int) := ⟨q.toNat, by omega⟩
            obtain ⟨fp, e1, e2⟩ := computeError_estOK_nonneg LL.lay qn (by omega) w hw0 (by omega)
            refine ⟨fp, e1, fun _ => ⟨hq1, hq2, p, eb, LL.lay, ?_⟩⟩
            have hpf : powFrac 10 (qn : Int) w = (w * 10 ^ qn, 1) := by
              unfold powFrac; rw [if_pos (by omega)]; simp
            rw [hpf]; exact e2
          · obtain ⟨e, rfl⟩ : ∃ e : Nat, q = -(e : Int) := ⟨(-q).toNat, by omega⟩
            obtain ⟨fp, e1, e2⟩ := computeError_estOK_neg LL.lay e (by omega) (by omega) w hw0 (by omega)
            refine ⟨fp, e1, fun _ => ⟨hq1, hq2, p, eb, LL.lay, ?_⟩⟩
            have hpf : powFrac 10 (-(e : Int)) w = (w, 10 ^ e) := by
              unfold powFrac; rw [if_neg (by omega)]; simp
            rw [hpf]; exact e2
        · rw [if_neg hne]
          exact ⟨fp0, rfl, fun h => absurd h (by omega)⟩
    · have hc : ¬ (!false && true && decide (fp0.exp ≥ 0)) = true := by simp [hv0]
      rw [if_neg hc]
      refine ⟨fp0, rfl, fun hinv => ?_⟩
      obtain ⟨_, r1, r2⟩ := lemire_invalid_range hF h0 hinv
      exact ⟨r1, r2, C01.lemire_invalid_estOK F hF q w fp0 (by omega) h0 hinv⟩

theorem maxDigits_decimal_le (feats : Features) {F : FTy} (hF : IsLemireFloat F) :
    ∃ d, (Slow.envOf feats).S.maxDigits F.fmt 10 = some d ∧ 19 ≤ d ∧ d ≤ 769 := by
  obtain ⟨c, p2, r, f, sd⟩ := feats
  rcases hF with h | h <;> subst h <;> cases c <;> cases p2 <;> cases r <;> exact ⟨_, rfl, by decide, by decide⟩

theorem prefix_interval {sig : List Nat} (hv : ValidDigits 10 sig) (k : Nat) (hk19 : 19 ≤ k) (hkN : k ≤ sig.length) :
    ofDigits 10 (dv 10 (sig.take 19)) * 10 ^ (k - 19) ≤ ofDigits 10 (dv 10 (sig.take k)) ∧
    ofDigits 10 (dv 10 (sig.take k)) < (ofDigits 10 (dv 10 (sig.take 19)) + 1) * 10 ^ (k - 19) := by
  obtain ⟨a, b⟩ := sig_interval (valid_take hv k) 19
  rw [List.take_take, Nat.min_eq_left hk19, List.length_take, Nat.min_eq_left hkN] at a b
  exact ⟨a, b⟩

/-- what `parse_mantissa` keeps of more than 19 significant digits: `cnt` digits, `19 ≤ cnt ≤ d + 1`, whose value lies in
`[w, w + 1)·10^(cnt − 19)` — the first `d` digits, or those followed by the digit `1` that stands for a non-zero cut tail -/
theorem mantissaOf_interval {d : Nat} {sig : List Nat} (hv : ValidDigits 10 sig) (hd19 : 19 ≤ d) (hN : 19 < sig.length) :
    ∃ M cnt, C01Slow.mantissaOf 10 d sig = (M, cnt) ∧ 19 ≤ cnt ∧ cnt ≤ d + 1 ∧
      ofDigits 10 (dv 10 (sig.take 19)) * 10 ^ (cnt - 19) ≤ M ∧
      M < (ofDigits 10 (dv 10 (sig.take 19)) + 1) * 10 ^ (cnt - 19) := by
  unfold C01Slow.mantissaOf
  by_cases hle : sig.length ≤ d
  · rw [if_pos hle]
    obtain ⟨a, b⟩ := prefix_interval hv sig.length (by omega) (Nat.le_refl _)
    rw [List.take_length] at a b
    exact ⟨_, _, rfl, by omega, by omega, a, b⟩
  · rw [if_neg hle]
    obtain ⟨a, b⟩ := prefix_interval hv d hd19 (by omega)
    by_cases hz : Slow.anyNonzero (sig.drop d) = true
    · rw [if_pos hz]
      refine ⟨_, _, rfl, by omega, Nat.le_refl _, ?_, ?_⟩
      · have e : d + 1 - 19 = (d - 19) + 1 := by omega
        rw [e, Nat.pow_succ]
        calc ofDigits 10 (dv 10 (sig.take 19)) * (10 ^ (d - 19) * 10)
            = (ofDigits 10 (dv 10 (sig.take 19)) * 10 ^ (d - 19)) * 10 := by ring
          _ ≤ ofDigits 10 (dv 10 (sig.take d)) * 10 := Nat.mul_le_mul_right _ a
          _ ≤ ofDigits 10 (dv 10 (sig.take d)) * 10 + 1 := Nat.le_succ _
      · have e : d + 1 - 19 = (d - 19) + 1 := by omega
        rw [e, Nat.pow_succ]
        have : (ofDigits 10 (dv 10 (sig.take 19)) + 1) * (10 ^ (d - 19) * 10) =
            ((ofDigits 10 (dv 10 (sig.take 19)) + 1) * 10 ^ (d - 19)) * 10 := by ring
        rw [this]
        omega
    · rw [if_neg hz]
      exact ⟨_, _, rfl, hd19, by omega, a, b⟩

open LexVerif.Proof.Bell LexVerif.Proof.Compose in
/-- **truncated `Number`s**: the words are the first 19 significant digits and the matching exponent. The digit-level
facts (the value of all the digits and of the digits `parse_mantissa` keeps lie in `[w, w+1)·10^q`) for
`slowDomain_tv`, once for both moderate paths. -/
theorem slowDomain_truncated_tv {F : FTy} (hF : IsLemireFloat F) {p eb : Nat} (lay : Layout F p eb) (c : Cfg)
    (hr : c.mantissaRadix = 10) (hb : c.exponentBase = 10) (n : Number)
    (hs : PlainSlices c n) (hN : 19 < (sigBytes n.integer n.fraction).length)
    (hw : n.mantissa = ofDigits 10 (dv 10 ((sigBytes n.integer n.fraction).take 19)))
    (hw1 : 10 ^ 18 ≤ n.mantissa) (hw2 : n.mantissa < 10 ^ 19)
    (hq : n.exponent = ((sigBytes n.integer n.fraction).length : Int) - 19 + n.explicitExp -
      ((n.fraction.getD []).length : Int))
    (d : Nat) (hd : (Slow.envOf c.feats).S.maxDigits F.fmt 10 = some d) (hd19 : 19 ≤ d) (hd769 : d ≤ 769)
    {fp : ExtendedFloat80} (H : HandOff F p ⟨n.mantissa, n.exponent, n.isNegative, true⟩ fp) :
    SlowDomain c F p n { fp with exp := fp.exp - invalidFp } d ∧
      Bracket F fp (litFrac 10 10 (numberLit c n)).1 (litFrac 10 10 (numberLit c n)).2 := by
  have hw64 : n.mantissa < 2 ^ 64 := Nat.lt_trans hw2 pow10_19
  have hw0 : n.mantissa ≠ 0 := by have := Nat.pow_pos (n := 18) (show 0 < 10 by decide); omega
  have hvs : ValidDigits 10 (sigBytes n.integer n.fraction) := by
    have := valid_sigBytes hs.validInt hs.validFrac
    rwa [hr] at this
  have htvLit : TrueValue 10 ⟨n.mantissa, n.exponent, n.isNegative, true⟩ (litFrac 10 10 (numberLit c n)).1
      (litFrac 10 10 (numberLit c n)).2 := by
    obtain ⟨hS1, hS2⟩ := sig_interval hvs 19
    rw [← hw] at hS1 hS2
    rw [C01Number.litFrac_plain 10 10 c hr n hs]
    exact interval_tv 10 (by decide) _ n.mantissa _ _ n.exponent n.explicitExp n.isNegative hS1 hS2 (by omega)
  obtain ⟨M, cnt, hmo, hc19, hcd, hM1, hM2⟩ := mantissaOf_interval (d := d) hvs hd19 hN
  rw [← hw] at hM1 hM2
  have hne : sigBytes n.integer n.fraction ≠ [] := by
    intro h0; rw [h0] at hN; simp at hN
  have hMlt : M < 10 ^ cnt := by
    calc M < (n.mantissa + 1) * 10 ^ (cnt - 19) := hM2
      _ ≤ 10 ^ 19 * 10 ^ (cnt - 19) := Nat.mul_le_mul_right _ (by omega)
      _ = 10 ^ cnt := by rw [← Nat.pow_add]; congr 1; omega
  have hT18 : ∀ T : Nat, 10 ^ T ≤ n.mantissa → n.mantissa < 10 ^ (T + 1) → T = 18 := by
    intro T t1 t2
    have a1 : 10 ^ T < 10 ^ 19 := Nat.lt_of_le_of_lt t1 hw2
    have a2 : 10 ^ 18 < 10 ^ (T + 1) := Nat.lt_of_le_of_lt hw1 t2
    have := (Nat.pow_lt_pow_iff_right (by decide : 1 < 10)).mp a1
    have := (Nat.pow_lt_pow_iff_right (by decide : 1 < 10)).mp a2
    omega
  apply slowDomain_tv hF lay c hr hb n hs hne hw64
    (by
      intro T t1 t2
      have := hT18 T t1 t2
      omega)
    d hd M cnt hmo hMlt (by omega) true H htvLit ?_
  intro T t1 t2 hneg
  have hT := hT18 T t1 t2
  have := interval_tv 10 (by decide) M n.mantissa (cnt - 19) 0 n.exponent (n.exponent + ↑T + 1 - (cnt : Int)) n.isNegative
    hM1 hM2 (by omega)
  have hdz : (n.exponent + ↑T + 1 - (cnt : Int)).toNat = 0 := by omega
  rw [hdz] at this
  simp only [Nat.pow_zero, Nat.mul_one, Nat.one_mul] at this
  exact this

open LexVerif.Proof.Bell LexVerif.Proof.Compose in
/-- **the slow path's domain from what the syntax pass and the moderate path hand over**: the words read the digit slices
(`R`), and the invalid-marked answer is an estimate of every value the words stand for, from inside the table (`H`) -/
theorem slowDomain_reads {F : FTy} (hF : IsLemireFloat F) {p eb : Nat} (lay : Layout F p eb) (c : Cfg)
    (hr : c.mantissaRadix = 10) (hb : c.exponentBase = 10) {len : Nat} (n : Number)
    (R : C01Number.Reads c 10 19 1 len n) {fp : ExtendedFloat80} (H : HandOff F p (numOf n) fp) :
    ∃ d, SlowDomain c F p n { fp with exp := fp.exp - invalidFp } d := by
  cases hmany : n.manyDigits with
  | false =>
    obtain ⟨hx, hs, hfew, _⟩ := R.exact hmany
    have hnum : numOf n = ⟨n.mantissa, n.exponent, n.isNegative, false⟩ := by unfold numOf; rw [hmany]
    obtain ⟨d, D, _⟩ := slowDomain_exact_tv hF lay c hr hb n hx hs hfew (hnum ▸ H)
    exact ⟨d, D⟩
  | true =>
    obtain ⟨hs, hN, hw, hw1, hwlt, hq, _⟩ := R.trunc hmany
    have hnum : numOf n = ⟨n.mantissa, n.exponent, n.isNegative, true⟩ := by unfold numOf; rw [hmany]
    obtain ⟨d, hd, hd19, hd769⟩ := maxDigits_decimal_le c.feats hF
    exact ⟨d, (slowDomain_truncated_tv hF lay c hr hb n hs hN hw hw1 hwlt (by rw [hq]; push_cast; ring) d hd hd19 hd769
      (hnum ▸ H)).1⟩

/-- **`SlowDomain` and the pipeline's bracket for the truncated decimal `Number`s**: the words of the `Number` are the
first 19 significant digits and the matching exponent (`number_truncated_of_syntax`); `lemire` handed over an
estimate `fp` of `w·10^q` from inside the table. Then, for any number of digits, every
condition of the slow-path model's domain holds — whether the estimate rounds down to a finite float or to `+∞` — and
`fp` brackets the value of all the digits. -/
theorem slowDomain_of_truncated {F : FTy} (hF : IsLemireFloat F) {p eb : Nat} (lay : Layout F p eb) (c : Cfg)
    (hr : c.mantissaRadix = 10) (hb : c.exponentBase = 10) (n : Number) (hs : PlainSlices c n)
    (hN : 19 < (sigBytes n.integer n.fraction).length)
    (hw : n.mantissa = ofDigits 10 (dv 10 ((sigBytes n.integer n.fraction).take 19)))
    (hw1 : 10 ^ 18 ≤ n.mantissa) (hw2 : n.mantissa < 10 ^ 19)
    (hq : n.exponent = ((sigBytes n.integer n.fraction).length : Int) - 19 + n.explicitExp -
      ((n.fraction.getD []).length : Int))
    (hq1 : -342 ≤ n.exponent) (hq2 : n.exponent ≤ 308) (fp : ExtendedFloat80)
    (hest : EstOK F p fp (powFrac 10 n.exponent n.mantissa).1 (powFrac 10 n.exponent n.mantissa).2)
    (d : Nat) (hd : (Slow.envOf c.feats).S.maxDigits F.fmt 10 = some d) (hd19 : 19 ≤ d) (hd769 : d ≤ 769) :
    SlowDomain c F p n { fp with exp := fp.exp - invalidFp } d ∧
    Bracket F fp (litFrac 10 10 (numberLit c n)).1 (litFrac 10 10 (numberLit c n)).2 := by
  have hm2 := hest.2.1
  -- every 19-digit word is large enough for `estW_widen`
  have h18 : (2 : Nat) ^ 64 + 4 ≤ 36 * 10 ^ 18 := by decide
  exact slowDomain_truncated_tv hF lay c hr hb n hs hN hw hw1 hw2 hq d hd hd19 hd769
    (lemire_handOff hF lay ⟨n.mantissa, n.exponent, n.isNegative, true⟩
      (by have := Nat.pow_pos (n := 18) (show 0 < 10 by decide); show n.mantissa ≠ 0; omega) hq1 hq2 hest
      (fun _ => by show fp.mant + 4 ≤ 36 * n.mantissa; omega))

end LexVerif.Props.C01Trunc
