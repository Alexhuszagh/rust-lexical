import LexVerif.Proof.BytesTables
import LexVerif.Props.C01Slow
/-!
# C05 — `byte_comp` (the slow path of the radices without a digit limit) is correctly rounded

Model: `Model/SlowBytes.lean` (`byte_comp`, `compare_bytes` and the `Bigfloat` operations on 64-bit limb vectors, with the
capacity checks of `StackVec<BIGFLOAT_LIMBS>`), tied to the code by the op `sl` on odd radices.

Proved, for the 17 odd radices 3 … 35, `f32`/`f64`, builds `radix` and `compact+radix`:

* the limb-level operations denote the right numbers, keep the normal form, and fail exactly when the result does not fit
  (`Proof.BytesLimbs`, `Proof.BytesMul`: `small_mul`, `compare`, `shl`, `large_add_from`, `long_mul`, `large_mul`, `pow`;
  `large_quorem`: the single-limb quotient estimate plus one correction is exact);
* `compare_bytes` generates the digits of `num/den` and compares them with the input: its answer is the comparison of the
  value of all the significant digits with `num/den`, and it cannot panic once the divisor is normalised
  (`Proof.BytesCompare.compareBytes_spec`, `cmpDigits_spec`);
* **`byte_comp_correct`**: whenever `byte_comp` returns (no capacity panic of the `Bigfloat` arithmetic before the digit
  loop), it returns the float nearest to the value of the digits, ties to even — given an estimate that weakly brackets the
  value (`WeakBracket`, as for `negative_digit_comp`) and whose `b + h` is below `(radix + 1)·radix^sci_exp` (`hX`: the
  first generated digit fits). All three regimes of the estimate (below the underflow cut, finite, `+∞`).
* `slow_radix_bytes_correct`: `slow_radix` for those radices.
-/
namespace LexVerif.Props.C05Bytes
open LexVerif.Spec LexVerif.Proof.Tables LexVerif.Model LexVerif.Model.Slow LexVerif.Model.Bellerophon
open LexVerif.Proof.RoundNE LexVerif.Proof.ExtRound LexVerif.Proof.Slow
open LexVerif.Props.C01Slow

/-- `(b + h) / radix^sci < radix + 1`, with `b = k·2^(p−1) + q` the estimate rounded down: the first quotient digit of
`compare_bytes` is at most `radix` -/
def FirstDigitFits (F : FTy) (p radix : Nat) (fp : ExtendedFloat80) (sci : Int) : Prop :=
  ∀ k q : Nat, extendedToFloat F (round F fp roundDown) = k * 2 ^ (p - 1) + q → (0 < k → 2 ^ (p - 1) ≤ q) →
    q < 2 * 2 ^ (p - 1) →
    (2 * q + 1) * 2 ^ ((k : Int) - F.C.exponentBias).toNat * radix ^ (-sci).toNat <
      (radix + 1) * (radix ^ sci.toNat * 2 ^ (-((k : Int) - F.C.exponentBias)).toNat)

theorem byte_comp_correct {E : Env} {r : Nat} (h : EnvBytes E r) {F : FTy} {p eb : Nat} (lay : Layout F p eb)
    (hden : F.C.denormalExponent = 1 - F.C.exponentBias)
    (integer : List Nat) (fraction : Option (List Nat)) (hbi : ∀ c ∈ integer, c < 256)
    (hbf : ∀ fr, fraction = some fr → ∀ c ∈ fr, c < 256) (hne : sigBytes integer fraction ≠ [])
    (hvd : ValidDigits r (sigBytes integer fraction))
    (fp : ExtendedFloat80) (hm1 : 2 ^ 63 ≤ fp.mant) (hm2 : fp.mant < 2 ^ 64) (hfe : fp.exp < 2 ^ 20)
    (sci : Int) (hsci : -(2 ^ 20 : Int) < sci ∧ sci < 2 ^ 20)
    (hbr : WeakBracket F fp (sigValue r (sigBytes integer fraction) sci).1 (sigValue r (sigBytes integer fraction) sci).2)
    (hX : FirstDigitFits F p r fp sci)
    {res : ExtendedFloat80} (hres : byteComp E F r integer fraction fp sci = some res) :
    0 ≤ res.exp ∧ extendedToFloat F res =
      roundNE F.fmt (sigValue r (sigBytes integer fraction) sci).1 (sigValue r (sigBytes integer fraction) sci).2 := by
  have T := byteTables_of_envBytes h
  have hr0 : 0 < r := by have := T.r2; omega
  have hdpos : 0 < (sigValue r (sigBytes integer fraction) sci).2 := by
    unfold sigValue powFrac; split
    · exact Nat.one_pos
    · exact Nat.pow_pos hr0
  obtain ⟨k, q, RF⟩ := roundFacts_of_weak lay fp hm1 hm2 hfe _ _ hdpos hbr.1 hbr.2
  exact byteComp_spec lay hden T integer fraction hbi hbf hne hvd fp sci k q RF
    (hX k q RF.bits RF.h1 RF.qb) hres

/-- **`slow_radix` for the radices without a digit limit** -/
theorem slow_radix_bytes_correct {E : Env} {r : Nat} (h : EnvBytes E r) {F : FTy} {p eb : Nat} (lay : Layout F p eb)
    (hF : F = FTy.f64 ∨ F = FTy.f32) (hden : F.C.denormalExponent = 1 - F.C.exponentBias) (n : SNum)
    (hbi : ∀ c ∈ n.integer, c < 256) (hbf : ∀ fr, n.fraction = some fr → ∀ c ∈ fr, c < 256)
    (hne : sigBytes n.integer n.fraction ≠ []) (hvd : ValidDigits r (sigBytes n.integer n.fraction))
    (fp : ExtendedFloat80) (hm1 : 2 ^ 63 ≤ fp.mant) (hm2 : fp.mant < 2 ^ 64) (hfe : fp.exp < 2 ^ 20)
    (hsci : -(2 ^ 20 : Int) < scientificExponent r n.mantissa n.exponent ∧
      scientificExponent r n.mantissa n.exponent < 2 ^ 20)
    (hbr : WeakBracket F fp
      (sigValue r (sigBytes n.integer n.fraction) (scientificExponent r n.mantissa n.exponent)).1
      (sigValue r (sigBytes n.integer n.fraction) (scientificExponent r n.mantissa n.exponent)).2)
    (hX : FirstDigitFits F p r fp (scientificExponent r n.mantissa n.exponent))
    {res : ExtendedFloat80} (hres : slowRadix E F true r n fp = some res) :
    0 ≤ res.exp ∧ extendedToFloat F res = roundNE F.fmt
      (sigValue r (sigBytes n.integer n.fraction) (scientificExponent r n.mantissa n.exponent)).1
      (sigValue r (sigBytes n.integer n.fraction) (scientificExponent r n.mantissa n.exponent)).2 := by
  have T := byteTables_of_envBytes h
  unfold slowRadix at hres
  rw [T.dbg, route_bytes h F hF] at hres
  simp only [Bool.false_and, Bool.false_eq_true, if_false] at hres
  exact byte_comp_correct h lay hden n.integer n.fraction hbi hbf hne hvd fp hm1 hm2 hfe _ hsci hbr hX hres

/-- non-vacuity: radix 3, `f64` — a literal with a long fraction, resolved by `byte_comp` -/
example : (byteComp envRadix FTy.f64 3 [49, 50] (some [49, 50, 50, 49, 48, 50, 49, 49, 50, 50, 49, 50])
    ⟨11529215046068469760, 1026⟩ 1).isSome = true := by decide +kernel

end LexVerif.Props.C05Bytes
