import LexVerif.Props.C01Trunc
import LexVerif.Proof.BellBracket
/-!
# Props.C01Compact — `compact` builds: Bellerophon hands its estimate to the slow path

In a `compact` build the moderate path of the decimal parser is `bellerophon`. A valid answer is right
(`Props.C01.bellerophon_sound`). An invalid-marked one is the scaled, normalised extended float itself, a **two-sided**
estimate of the true value (`Proof.BellEstimate`: `mant − 4 < value < mant + 8 (+ 2·2^ctlz + 1)` units), which still
brackets the value (`Proof.Bell.bracket_of_est2`) and bounds both big integers of `negative_digit_comp`
(`C01Trunc.neg_guard_bounds`). `slowDomain_core`: every condition of the slow-path model's domain from such an estimate;
`bell_estimate`: what `bellerophon` hands over is one, truncated mantissa or not (`bell_handOff`:
`Proof.Compose.HandOff`), so `slowDomain_bell_exact` / `_truncated` are instances of `C01SlowDomain.slowDomain_exact_tv` /
`C01Trunc.slowDomain_truncated_tv`.
-/
namespace LexVerif.Props.C01Compact
open LexVerif.Spec LexVerif.Model LexVerif.Model.ParseFloatAlgo
open LexVerif.Proof.ExtRound LexVerif.Proof.Pipeline LexVerif.Proof.Bell
open LexVerif.Props.C01 (IsLemireFloat Bracket)
open LexVerif.Props.C01Main LexVerif.Props.C01SlowMain LexVerif.Props.C01SlowDomain LexVerif.Proof.Slow
open LexVerif.Props.C01Trunc

/-- **`SlowDomain` and the weak bracket from a two-sided estimate**: the scientific exponent `sciV` puts the leading digit
where the digits and the explicit exponent put it (`hkey`); `(M, cnt)` is what `parse_mantissa` keeps; `est` is a
two-sided estimate of the value of all the digits (`hestLit`) and of `M / 10^j` (`hestM`). -/
theorem slowDomain_core {F : FTy} (hF : IsLemireFloat F) {p eb : Nat} (lay : Layout F p eb) (c : Cfg)
    (hr : c.mantissaRadix = 10) (hb : c.exponentBase = 10) (n : Number) (hs : PlainSlices c n)
    (hne : sigBytes n.integer n.fraction ≠ [])
    (sciV : Int) (hsci : sciOf c n = sciV) (hs1 : -360 ≤ sciV) (hs2 : sciV + 1 ≤ 400)
    (hkey : sciV + 1 - ((sigBytes n.integer n.fraction).length : Int) =
      n.explicitExp - ((n.fraction.getD []).length : Int))
    (d : Nat) (hd : (Slow.envOf c.feats).S.maxDigits F.fmt 10 = some d)
    (M cnt : Nat) (hmo : C01Slow.mantissaOf 10 d (sigBytes n.integer n.fraction) = (M, cnt))
    (hMlt : M < 10 ^ cnt) (hcnt : cnt ≤ 770)
    (est : ExtendedFloat80) (hexp : est.exp < 2 ^ 20)
    (cl ch : Nat) (hcl : 4 * cl ≤ 2 ^ (64 - p)) (hcl62 : cl ≤ 2 ^ 62) (hch : 2 * ch ≤ 2 ^ (64 - p)) (hch0 : 0 < ch)
    (hestLit : Est2 F p est cl ch (litFrac 10 10 (numberLit c n)).1 (litFrac 10 10 (numberLit c n)).2)
    (hestM : sciV + 1 - (cnt : Int) < 0 → Est2 F p est cl ch M (10 ^ (-(sciV + 1 - (cnt : Int))).toNat)) :
    SlowDomain c F p n est d ∧
    C01Slow.WeakBracket F est (litFrac 10 10 (numberLit c n)).1 (litFrac 10 10 (numberLit c n)).2 :=
  ⟨slowDomain_of_est hF lay c hr hb n hs hne sciV hsci hs1 hs2 hkey d hd M cnt hmo hMlt hcnt est hexp cl ch hcl62 hch
      hestM,
    bracket_of_est2 lay cl ch hcl hch hch0 est _ _ (litFrac_den_pos (by decide) (by decide) _) hestLit⟩

/-- the decimal tables of a `compact` build -/
abbrev compactP : Gen.Bellerophon.Powers := Gen.Bellerophon.CompactRadix.powers 10

theorem bellPrepare_mid_range {F : FTy} (n : Num) {fp : ExtendedFloat80} {e : Nat}
    (h : Bellerophon.bellPrepare F compactP n = .mid fp e) :
    n.mantissa ≠ 0 ∧ -350 ≤ n.exponent ∧ n.exponent ≤ 309 := by
  have hbias : compactP.bias = 350 := by decide
  have hstep : compactP.step.toNat = 10 := by decide
  have hsize : compactP.large.size = 66 := by decide
  rcases bellPrepare_eq (P := compactP) (by decide) (by decide) (by decide) F n with
    ⟨hp, _⟩ | ⟨hp, _⟩ | ⟨En, hw0, _, _, hEn, hli, _⟩
  · rw [hp] at h; exact nomatch h
  · rw [hp] at h; exact nomatch h
  · rw [hbias] at hEn
    rw [hstep, hsize] at hli
    exact ⟨hw0, by omega, by omega⟩

/-- an invalid-marked answer of `bellerophon` comes from inside the table: `−350 ≤ exponent ≤ 309`, mantissa non-zero -/
theorem bell_invalid_range {F : FTy} (hF : IsLemireFloat F) (n : Num) {fp : ExtendedFloat80}
    (h : Bellerophon.bellerophon F compactP n false = .ok fp) (hinv : fp.exp < 0) :
    n.mantissa ≠ 0 ∧ -350 ≤ n.exponent ∧ n.exponent ≤ 309 := by
  have hinfp : 0 ≤ F.C.infinitePower := by rcases hF with h | h <;> subst h <;> decide
  unfold Bellerophon.bellerophon at h
  cases hprep : Bellerophon.bellPrepare F compactP n with
  | zero => rw [hprep] at h; simp only [] at h; injection h with h; subst h; exact absurd hinv (by decide)
  | inf => rw [hprep] at h; simp only [] at h; injection h with h; subst h; simp only at hinv; omega
  | panic => rw [hprep] at h; exact absurd h (by simp)
  | mid fp0 e => exact bellPrepare_mid_range n hprep

/-- the booked truncation error of a 19-digit mantissa is at most 33 units -/
theorem clz_small {w : Nat} (h1 : 2 ^ 59 ≤ w) (h2 : w < 2 ^ 64) : 2 * 2 ^ clz64 w + 1 ≤ 33 := by
  have := LexVerif.Proof.BinaryCorrect.clz_pow_le (k := 59) (by decide) h1 h2
  omega

/-- **what `bellerophon` hands over** (`compact` builds, decimal; a truncated mantissa holds 19 digits): an invalid-marked
answer, un-biased, is a `(4, 41)`-estimate of every true value of the words -/
theorem bell_estimate {F : FTy} {p eb : Nat} (lay : Layout F p eb) (n : Num)
    (hw64 : n.mantissa < 2 ^ 64) (hmw : n.manyDigits = true → 2 ^ 59 ≤ n.mantissa) {fp : ExtendedFloat80}
    (hbel : Bellerophon.bellerophon F compactP n false = .ok fp) (hinv : fp.exp < 0) :
    fp.exp - invalidFp < 2 ^ 20 ∧
    ∀ num den, 0 < den → TrueValue 10 n num den → Est2 F p { fp with exp := fp.exp - invalidFp } 4 41 num den := by
  have hc := bellFacts_of (bellCheck_compact 10 (by decide))
  have hmw44 : n.manyDigits = true → 2 ^ 44 ≤ n.mantissa := fun hm =>
    Nat.le_trans (by decide : (2 : Nat) ^ 44 ≤ 2 ^ 59) (hmw hm)
  have hch41 : (8 + if n.manyDigits then 2 * 2 ^ clz64 n.mantissa + 1 else 0) ≤ 41 := by
    by_cases hm : n.manyDigits = true
    · rw [if_pos hm]
      have := clz_small (hmw hm) hw64
      omega
    · rw [if_neg hm]; omega
  refine ⟨?_, fun num den hd htv =>
    est2_mono (bellerophon_invalid_est lay hc n hw64 hmw44 num den hd htv hbel hinv).2.2 hch41⟩
  have := (bellerophon_invalid_exp lay hc n hw64 hmw44 hbel hinv).2
  omega

/-- **what `bellerophon` hands over** (`compact` builds, decimal): `bell_invalid_range` and `bell_estimate` -/
theorem bell_handOff {F : FTy} (hF : IsLemireFloat F) {p eb : Nat} (lay : Layout F p eb) (n : Num)
    (hw64 : n.mantissa < 2 ^ 64) (hmw : n.manyDigits = true → 2 ^ 59 ≤ n.mantissa) {fp : ExtendedFloat80}
    (hbel : Bellerophon.bellerophon F compactP n false = .ok fp) (hinv : fp.exp < 0) :
    LexVerif.Proof.Compose.HandOff F p n fp := by
  obtain ⟨w0, q1, q2⟩ := bell_invalid_range hF n hbel hinv
  obtain ⟨hexp, hest⟩ := bell_estimate lay n hw64 hmw hbel hinv
  have hp53 := (floatNums_of hF lay).p53
  have h11 : 2 ^ 11 ≤ 2 ^ (64 - p) := Nat.pow_le_pow_right (by decide) (by omega)
  exact ⟨w0, q1, q2, hexp, 4, 41, by omega, by decide, by omega, by decide, hest⟩

theorem slowDomain_bell_exact {F : FTy} (hF : IsLemireFloat F) {p eb : Nat} (lay : Layout F p eb) (c : Cfg)
    (hr : c.mantissaRadix = 10) (hb : c.exponentBase = 10) (n : Number) (hmany : n.manyDigits = false)
    (hx : NumberExactAt c n) (hs : PlainSlices c n) (hfew : (sigBytes n.integer n.fraction).length ≤ 19)
    (fp : ExtendedFloat80) (hbel : Bellerophon.bellerophon F compactP (numOf n) false = .ok fp) (hinv : fp.exp < 0) :
    ∃ d, SlowDomain c F p n { fp with exp := fp.exp - invalidFp } d ∧
      Bracket F fp (litFrac 10 10 (numberLit c n)).1 (litFrac 10 10 (numberLit c n)).2 := by
  have hnum : numOf n = ⟨n.mantissa, n.exponent, n.isNegative, false⟩ := by unfold numOf; rw [hmany]
  exact slowDomain_exact_tv hF lay c hr hb n hx hs hfew
    (hnum ▸ bell_handOff hF lay (numOf n) hx.1 (fun h => by rw [hnum] at h; exact absurd h (by simp)) hbel hinv)

theorem litFrac_tv_truncated (c : Cfg) (hr : c.mantissaRadix = 10) (n : Number) (hmany : n.manyDigits = true)
    (hs : PlainSlices c n) (hN : 19 < (sigBytes n.integer n.fraction).length)
    (hw : n.mantissa = ofDigits 10 (dv 10 ((sigBytes n.integer n.fraction).take 19)))
    (hq : n.exponent = ((sigBytes n.integer n.fraction).length : Int) - 19 + n.explicitExp -
      ((n.fraction.getD []).length : Int)) :
    TrueValue 10 (numOf n) (litFrac 10 10 (numberLit c n)).1 (litFrac 10 10 (numberLit c n)).2 :=
  C01Trunc.litFrac_tv_truncated 10 19 (by decide) c hr n hmany hs hN hw hq

theorem slowDomain_bell_truncated {F : FTy} (hF : IsLemireFloat F) {p eb : Nat} (lay : Layout F p eb) (c : Cfg)
    (hr : c.mantissaRadix = 10) (hb : c.exponentBase = 10) (n : Number) (hmany : n.manyDigits = true)
    (hs : PlainSlices c n) (hN : 19 < (sigBytes n.integer n.fraction).length)
    (hw : n.mantissa = ofDigits 10 (dv 10 ((sigBytes n.integer n.fraction).take 19)))
    (hw1 : 10 ^ 18 ≤ n.mantissa) (hw2 : n.mantissa < 10 ^ 19)
    (hq : n.exponent = ((sigBytes n.integer n.fraction).length : Int) - 19 + n.explicitExp -
      ((n.fraction.getD []).length : Int))
    (fp : ExtendedFloat80) (hbel : Bellerophon.bellerophon F compactP (numOf n) false = .ok fp) (hinv : fp.exp < 0) :
    ∃ d, SlowDomain c F p n { fp with exp := fp.exp - invalidFp } d ∧
      Bracket F fp (litFrac 10 10 (numberLit c n)).1 (litFrac 10 10 (numberLit c n)).2 := by
  obtain ⟨d, hd, hd19, hd769⟩ := maxDigits_decimal_le c.feats hF
  have hw59 : 2 ^ 59 ≤ n.mantissa := Nat.le_trans (by decide : (2 : Nat) ^ 59 ≤ 10 ^ 18) hw1
  have hnum : numOf n = ⟨n.mantissa, n.exponent, n.isNegative, true⟩ := by unfold numOf; rw [hmany]
  exact ⟨d, slowDomain_truncated_tv hF lay c hr hb n hs hN hw hw1 hw2 hq d hd hd19 hd769
    (hnum ▸ bell_handOff hF lay (numOf n) (Nat.lt_trans hw2 pow10_19) (fun _ => hw59) hbel hinv)⟩

end LexVerif.Props.C01Compact
