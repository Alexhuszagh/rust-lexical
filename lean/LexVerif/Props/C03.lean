import LexVerif.Proof.WriteIntAssembly
import LexVerif.Proof.WriteIntDecimalCount
/-!
# C03 — integer→string output is the exact canonical numeral in every radix (property theorems)

`Model.WriteInt.writeInt feats t radix reqSign checkValid v buffer` is the model of
`lexical_core::write(_with_options)::<T, FORMAT>(v, buffer)`; `expected` is the specification
(`signBytes ++ Spec.numeral radix |v|`).
-/
namespace LexVerif.Props.C03
open LexVerif.Spec LexVerif.Model LexVerif.Model.WriteInt

/-- **Full statement of C03 on the model.** For every feature set (with `radix ⇒ power-of-two`), each of the
12 integer types, every radix the feature set accepts, every value in range, either setting of
`required_mantissa_sign`, and every buffer of at least `requiredSize` bytes (`FORMATTED_SIZE_DECIMAL` for radix 10
and `FORMATTED_SIZE` otherwise, one more byte when an *unsigned* type is written with a required `+`; /repo's
`buffer_size_const` is never smaller, `bufferSizeConstFmt`), the writer returns exactly
sign ++ canonical numeral at offset 0, the returned count is its length, the rest of the buffer is
untouched, and neither FAULT (out-of-range unchecked access) nor PANIC occurs. Proved: `writeInt_correct_full_holds`. -/
def writeInt_correct_full : Prop :=
  ∀ (feats : Features) (t : IntTy) (radix : Nat) (reqSign checkValid : Bool) (v : Int) (buffer : Buf),
    FeaturesWF feats → ValidBits t.bits → validRadix feats radix = true → t.inRange v →
    requiredSize feats t radix reqSign ≤ buffer.length →
    writeInt feats t radix reqSign checkValid v buffer =
      .ok (expected feats radix reqSign v ++ buffer.drop (expected feats radix reqSign v).length,
           (expected feats radix reqSign v).length)

/-- `compact.rs` writes the canonical numeral (any type width from 8 to 128 bits, any radix 2..36). -/
theorem compact_correct (bits r value : Nat) (buffer : Buf) (hb8 : 8 ≤ bits) (hb : bits ≤ 128)
    (hr : 2 ≤ r) (hr36 : r ≤ 36) (hv : value < 2 ^ bits) (hbuf : (numeral r value).length ≤ buffer.length) :
    compact bits r value buffer =
      .ok (numeral r value ++ buffer.drop (numeral r value).length, (numeral r value).length) :=
  compact_spec bits r value buffer hb8 hb hr hr36 hv hbuf

example : compact 8 36 255 (List.replicate 3 170) = .ok ([55, 51, 170], 2) := by decide +kernel

/-- **C03 for every `compact` build**: all 12 types, all radices of the feature set, all values, both sign
settings. -/
theorem writeInt_correct_compact (feats : Features) (t : IntTy) (radix : Nat) (reqSign checkValid : Bool)
    (v : Int) (buffer : Buf) (hc : feats.compact = true)
    (hwf : FeaturesWF feats) (hbits : ValidBits t.bits) (hvalid : validRadix feats radix = true)
    (hv : t.inRange v) (hbuf : requiredSize feats t radix reqSign ≤ buffer.length) :
    writeInt feats t radix reqSign checkValid v buffer =
      .ok (expected feats radix reqSign v ++ buffer.drop (expected feats radix reqSign v).length,
           (expected feats radix reqSign v).length) := by
  obtain ⟨hr2, hr36⟩ := validRadix_range feats radix hvalid
  apply writeInt_of_exact_mantissa feats t radix reqSign checkValid v buffer hwf hbits hvalid hv ?_ hbuf
  rw [writeMantissa_compact feats _ _ _ _ hc]
  exact fun buf hb => compact_spec t.bits radix v.natAbs buf hbits.ge hbits.le hr2 hr36
    (inRange_mag t v hbits.pos hv).1 hb

/-- non-vacuity: the hypotheses are satisfiable (i8, radix 7, −128, compact+radix build) and the model really
computes the numeral there. -/
example : writeInt { compact := true, powerOfTwo := true, radix := true } ⟨8, true⟩ 7 false true (-128)
    (List.replicate 16 170) = .ok ([45, 50, 52, 50] ++ List.replicate 12 170, 4) := by decide +kernel

/-- `digit_count(value, radix)` is exact on u8..u64 for every non-decimal radix (power-of-two radices through
`fast_log2`, all others through the naive 4/2/1 loops). -/
theorem digitCount_exact (bits r value : Nat) (hb : SmallBits bits) (hr : 2 ≤ r) (hr36 : r ≤ 36) (h10 : r ≠ 10)
    (hv : value < 2 ^ bits) : digitCountSmall bits value r = .ok (toDigits r value).length :=
  digitCountSmall_spec bits r value hb hr hr36 h10 hv

example : digitCountSmall 8 255 11 = .ok 3 := by decide +kernel

/-- `write_digits` (the 4-2-1 digit-pair loop with unchecked writes) writes exactly the canonical numeral in the
`len` bytes below `index`, touches nothing else, and never faults, for u8..u64 and every radix. -/
theorem writeDigits_correct (bits r value : Nat) (hb : SmallBits bits) (hr : 2 ≤ r) (hr36 : r ≤ 36)
    (hv : value < 2 ^ bits) (pre suf : List Nat) (hlen : (toDigits r value).length ≤ pre.length)
    (hp64 : pre.length < 2 ^ 64) :
    ∃ pre', pre'.length + (toDigits r value).length = pre.length ∧
      writeDigits bits value r (pre ++ suf) pre.length = .ok (pre' ++ numeral r value ++ suf, pre'.length) := by
  exact writeDigits_spec bits r value hb hr hr36 hv pre suf hlen hp64

/-- `u128_divrem(n, radix) = (n / radix^u64_step(radix), n % radix^u64_step(radix))` for every 128-bit `n` and every
radix of the feature set: `pow2_u128_divrem`, `moderate_u128_divrem` / `fast_u128_divrem` (multiply-high with the
Granlund–Montgomery precondition on the literal constants) and `slow_u128_divrem` (bit-serial loop invariant). -/
theorem u128_divrem_correct (feats : Features) (n radix : Nat) (hvalid : validRadix feats radix = true)
    (hn : n < 2 ^ 128) :
    u128Divrem feats n radix = .ok (n / radix ^ u64StepTable radix, n % radix ^ u64StepTable radix) :=
  u128Divrem_spec feats n radix hvalid hn

example : u128Divrem { powerOfTwo := true, radix := true } (2 ^ 127 + 12345) 3 =
    .ok ((2 ^ 127 + 12345) / 3 ^ 40, (2 ^ 127 + 12345) % 3 ^ 40) := by decide +kernel

/-- `digit_count` of a `u128` is exact for every non-decimal radix (chunked variant included) -/
theorem digitCountU128_exact (feats : Features) (value radix : Nat) (hvalid : validRadix feats radix = true)
    (h10 : radix ≠ 10) (hv : value < 2 ^ 128) :
    digitCountU128 feats value radix = .ok (toDigits radix value).length :=
  digitCountU128_spec feats value radix hvalid h10 hv

/-- **C03 for the generic radix writer, complete**: every non-compact build with `power-of-two`/`radix`, every
non-decimal radix of the feature set, all 12 integer types, every value (for 128-bit magnitudes above
`u64::MAX`: `u128_divrem` chunking, `write_step_digits`, the chunked digit count). -/
theorem writeInt_correct_radix (feats : Features) (t : IntTy) (radix : Nat) (reqSign checkValid : Bool)
    (v : Int) (buffer : Buf) (hc : feats.compact = false)
    (hwf : FeaturesWF feats) (hbits : ValidBits t.bits) (hvalid : validRadix feats radix = true)
    (h10 : radix ≠ 10) (hv : t.inRange v)
    (hbuf : requiredSize feats t radix reqSign ≤ buffer.length) :
    writeInt feats t radix reqSign checkValid v buffer =
      .ok (expected feats radix reqSign v ++ buffer.drop (expected feats radix reqSign v).length,
           (expected feats radix reqSign v).length) := by
  have hp2 := validRadix_ne10 feats radix hwf hvalid h10
  apply writeInt_of_exact_mantissa feats t radix reqSign checkValid v buffer hwf hbits hvalid hv ?_ hbuf
  rw [writeMantissa_radix feats _ _ _ _ hc hp2 h10]
  exact radixWrite_spec feats t.bits radix v.natAbs hbits hvalid hp2 h10 (inRange_mag t v hbits.pos hv).1

/-- non-vacuity: u128::MAX in radix 36 (two `u128_divrem` steps) and in radix 3 (`slow_u128_divrem`) -/
example : (writeInt { powerOfTwo := true, radix := true } ⟨128, false⟩ 36 false true
      340282366920938463463374607431768211455 (List.replicate 256 170)) =
    .ok ([70, 53, 76, 88, 88, 49, 90, 90, 53, 80, 78, 79, 82, 89, 78, 81, 71, 76, 72, 90, 77, 83, 80, 51, 51]
      ++ List.replicate 231 170, 25) := by decide +kernel

/-- non-vacuity: i64::MIN in radix 36 on a `radix` build -/
example : writeInt { powerOfTwo := true, radix := true } ⟨64, true⟩ 36 false true (-9223372036854775808)
    (List.replicate 128 170) =
    .ok ([45, 49, 89, 50, 80, 48, 73, 74, 51, 50, 69, 56, 69, 56] ++ List.replicate 114 170, 14) := by
  decide +kernel

/-- the decimal digit counts (`fast_digit_count` with its 32-row table for u8/u16/u32, `fallback_digit_count` with
`fast_log10` and the power-of-ten tables for u64/u128) are exact for every value. (They are not on the integer
write path — radix 10 goes through jeaiii — but the float writers use them.) -/
theorem decimalCount_exact (bits x : Nat) (hb : ValidBits bits) (hx : x < 2 ^ bits) :
    decimalCount bits x = .ok (toDigits 10 x).length :=
  decimalCount_spec bits x hb hx

example : decimalCount 32 999999999 = .ok 9 ∧ decimalCount 32 1000000000 = .ok 10 := by decide +kernel

/-- `Decimal::decimal(_signed)` (the jeaiii writers `from_u8 … from_u128`, `from_i64`) writes exactly the decimal
numeral into any buffer of at least the type's slice size, for every value. -/
theorem decimal_correct (bits value : Nat) (signedCall : Bool) (hb : ValidBits bits) (hv : value < 2 ^ bits)
    (hs : signedCall = true → value ≤ 2 ^ (bits - 1)) :
    MantSpec (decimal bits value signedCall) (numeral 10 value) (needDec bits signedCall) :=
  decimal_spec bits value signedCall hb hv hs

/-- **C03 for the decimal writers** (`decimal.rs` / `jeaiii.rs`): every non-compact build (default, `format`,
`power-of-two`, `radix`), radix 10, all 12 integer types, every value, both sign settings: the jeaiii comparison
trees `from_u8 … from_u128`, every `write_digits!` arm (fixed-point digit extraction with the literal
multipliers), `@10alex` and `div128_rem_1e10`. -/
theorem writeInt_correct_decimal (feats : Features) (t : IntTy) (reqSign checkValid : Bool)
    (v : Int) (buffer : Buf) (hc : feats.compact = false)
    (hbits : ValidBits t.bits) (hvalid : validRadix feats 10 = true)
    (hv : t.inRange v) (hbuf : requiredSize feats t 10 reqSign ≤ buffer.length) :
    writeInt feats t 10 reqSign checkValid v buffer =
      .ok (expected feats 10 reqSign v ++ buffer.drop (expected feats 10 reqSign v).length,
           (expected feats 10 reqSign v).length) := by
  obtain ⟨hlt, _, hs⟩ := inRange_mag t v hbits.pos hv
  have hM : MantSpec (writeMantissa feats t.bits 10 v.natAbs t.signed) (numeral 10 v.natAbs)
      (needDec t.bits t.signed) := by
    rw [writeMantissa_decimal feats _ _ _ hc]
    exact decimal_spec t.bits v.natAbs t.signed hbits hlt hs
  have hroom := dec_room feats t reqSign v hbits hv
  exact writeInt_of_mantissa feats t 10 reqSign checkValid v buffer _ hbits hvalid hv hM (by omega)

/-- non-vacuity: u64::MAX and i128::MIN on the default build -/
example : writeInt {} ⟨64, false⟩ 10 false false 18446744073709551615 (List.replicate 20 170) =
    .ok ([49, 56, 52, 52, 54, 55, 52, 52, 48, 55, 51, 55, 48, 57, 53, 53, 49, 54, 49, 53], 20) := by decide +kernel
example : writeInt {} ⟨128, true⟩ 10 false false (-170141183460469231731687303715884105728)
    (List.replicate 40 170) =
    .ok ([45, 49, 55, 48, 49, 52, 49, 49, 56, 51, 52, 54, 48, 52, 54, 57, 50, 51, 49, 55, 51, 49, 54, 56, 55, 51, 48, 51, 55, 49, 53, 56, 56, 52, 49, 48, 53, 55, 50, 56], 40) := by
  decide +kernel

/-- **C03 holds on the model, in full**: `writeInt_correct_full` for every feature set, type, radix, value, sign
setting and buffer of the documented size. -/
theorem writeInt_correct_full_holds : writeInt_correct_full := by
  intro feats t radix reqSign checkValid v buffer hwf hbits hvalid hv hbuf
  by_cases hc : feats.compact = true
  · exact writeInt_correct_compact feats t radix reqSign checkValid v buffer hc hwf hbits hvalid hv hbuf
  · have hc' : feats.compact = false := by simpa using hc
    by_cases h10 : radix = 10
    · subst h10
      exact writeInt_correct_decimal feats t reqSign checkValid v buffer hc' hbits hvalid hv hbuf
    · exact writeInt_correct_radix feats t radix reqSign checkValid v buffer hc' hwf hbits hvalid h10 hv hbuf

/-- **Finding, repaired in /repo 2d9b865** (which made `buffer_size_const` count the `+`): with the `format` feature and
`required_mantissa_sign`, an unsigned value written into a buffer of `bufferSizeConst` bytes — `FORMATTED_SIZE_DECIMAL`,
the constant before the repair — panics. -/
theorem plus_sign_needs_one_more_byte :
    writeInt { format := true } ⟨8, false⟩ 10 true true 5 (List.replicate (bufferSizeConst { format := true } ⟨8, false⟩ 10) 170)
      = .panic := by decide

end LexVerif.Props.C03
