import LexVerif.Proof.RoundTripModel
import LexVerif.Model.WriteBinaryOpts
/-!
# Props.C15Write — the writer half of C15, stated on the buffer-faithful `write_float` model

C15: "The sign of zero and of infinity is preserved in both directions, NaN is written as the configured string and
never with a minus sign, and writing a special whose string is disabled panics rather than emitting bytes."

`Model.WriteFloat.writeFloat` is the model the `wf` correspondence stream compares byte-for-byte with
`lexical_core::write_with_options` (every special, both signs, every option-string variant incl. `None`).

* `nan_written_as_configured` — a completed call on any NaN (either sign bit, any payload) returns exactly the optional
  `+` of a `required_mantissa_sign` format followed by the configured string; `nan_never_minus`: with built options the
  first returned byte is never `-`.
* `inf_written_with_sign` — ±infinity: `-` iff the sign bit is set, then the configured string.
* `finite_written_with_sign` — every finite value, zero included (`-0.0` ↦ `-0.0`): `-` iff the sign bit is set.
* `disabled_special_panics` — the string of the special being written is `None`: the call panics (it does not return,
  does not fault, and does not reach any digit writer), whatever the buffer.
* `pow2_nan_written`, `pow2_inf_written`, `pow2_finite_written` — the same clauses for the power-of-two writers
  (`Model.WriteBinary.writeFloatO`, `none` = panic).
-/
namespace LexVerif.Props.C15Write
open LexVerif.Spec LexVerif.Model LexVerif.Model.WriteFloat LexVerif.Proof.RoundTrip

/-- the optional `+` of `required_mantissa_sign` formats -/
def plusText (feats : Features) (fmt : Format) : List Nat :=
  if feats.format = true ∧ fmt.requiredMantissaSign = true then [43] else []

/-- **NaN is written as the configured string, never with a minus sign** -/
theorem nan_written_as_configured (feats : Features) (f : Fmt) (fmt : Format) (o : WOpts) (debug : Bool) (bits : Nat)
    (ds : List Nat) (sci : Int) (buf : List Nat) (w : Written) (hds : 1 ≤ ds.length) (hmx : o.maxDigits ≠ some 0)
    (hsp : f.isSpecial bits = true) (hnan : f.isNaN bits = true)
    (h : writeFloat feats f fmt o debug bits (ds, sci) buf = .done w) :
    ∃ s, o.nan = some s ∧ w.bytes.take w.len = plusText feats fmt ++ s := by
  obtain ⟨s, hs, ht⟩ := writeFloat_done_special feats f fmt o debug bits (ds, sci) buf w hsp h
  rw [if_pos hnan] at hs
  exact ⟨s, hs, by rw [ht, Proof.WriteFloatBuf.floatSign_nan feats fmt hnan]; rfl⟩

/-- with options accepted by `Options::is_valid` the NaN text never starts with `-` -/
theorem nan_never_minus (feats : Features) (f : Fmt) (fmt : Format) (o : WOpts) (debug : Bool) (bits : Nat)
    (ds : List Nat) (sci : Int) (buf : List Nat) (w : Written) (hds : 1 ≤ ds.length) (hmx : o.maxDigits ≠ some 0)
    (hsp : f.isSpecial bits = true) (hnan : f.isNaN bits = true) (hvalid : wOptsIsValid o = true)
    (h : writeFloat feats f fmt o debug bits (ds, sci) buf = .done w) :
    (w.bytes.take w.len).head? ≠ some 45 := by
  obtain ⟨s, hs, ht⟩ := nan_written_as_configured feats f fmt o debug bits ds sci buf w hds hmx hsp hnan h
  rw [ht]
  unfold plusText
  split
  · simp
  · unfold wOptsIsValid at hvalid
    simp only [hs, Bool.and_eq_true, Bool.or_eq_true, decide_eq_true_eq] at hvalid
    rcases hvalid.1.2 with ⟨⟨_, h1⟩, _⟩
    simp only [List.nil_append]
    rcases h1 with h1 | h1 <;> rw [h1] <;> simp

/-- **the sign of infinity is written**: `-` iff the sign bit is set, then the configured string -/
theorem inf_written_with_sign (feats : Features) (f : Fmt) (fmt : Format) (o : WOpts) (debug : Bool) (bits : Nat)
    (ds : List Nat) (sci : Int) (buf : List Nat) (w : Written) (hds : 1 ≤ ds.length) (hmx : o.maxDigits ≠ some 0)
    (hsp : f.isSpecial bits = true) (hnan : f.isNaN bits = false)
    (h : writeFloat feats f fmt o debug bits (ds, sci) buf = .done w) :
    ∃ s, o.inf = some s ∧
      w.bytes.take w.len = (if f.isNeg bits = true then [45] else plusText feats fmt) ++ s := by
  obtain ⟨s, hs, ht⟩ := writeFloat_done_special feats f fmt o debug bits (ds, sci) buf w hsp h
  rw [if_neg (by rw [hnan]; exact Bool.false_ne_true)] at hs
  exact ⟨s, hs, by rw [ht, Proof.WriteFloatBuf.floatSign_not_nan feats fmt hnan]; rfl⟩

/-- **the sign of a finite value, zero included, is written** by the decimal back-end (the only one for which the model
returns `.done`): `-` when the sign bit is set, else the optional `+`, then `writeDecimal` -/
theorem finite_written_with_sign (feats : Features) (f : Fmt) (fmt : Format) (o : WOpts) (debug : Bool) (bits : Nat)
    (ds : List Nat) (sci : Int) (buf : List Nat) (w : Written) (hds : 1 ≤ ds.length) (hmx : o.maxDigits ≠ some 0)
    (hsp : f.isSpecial bits = false) (hnan : f.isNaN bits = false)
    (h : writeFloat feats f fmt o debug bits (ds, sci) buf = .done w) :
    w.bytes.take w.len =
      (if f.isNeg bits = true then [45] else plusText feats fmt) ++ writeDecimal fmt feats ds sci o := by
  rw [writeFloat_done_finite feats f fmt o debug bits ds sci buf w hds hmx hsp h,
    Proof.WriteFloatBuf.floatSign_not_nan feats fmt hnan]
  rfl

/-- **writing a special whose string is disabled panics rather than emitting bytes** -/
theorem disabled_special_panics (feats : Features) (f : Fmt) (fmt : Format) (o : WOpts) (debug : Bool) (bits : Nat)
    (digits : List Nat × Int) (buf : List Nat) (hsp : f.isSpecial bits = true)
    (hnone : (if f.isNaN bits = true then o.nan else o.inf) = none) :
    writeFloat feats f fmt o debug bits digits buf = .panic :=
  Proof.WriteFloatRun.writeFloatB_disabled _ feats f fmt o debug bits digits buf hsp hnone

/-! ## the power-of-two writers (`binary.rs` / `hex.rs`; model `WriteBinary.writeFloatO`, `none` = panic)

The same clauses for every format whose mantissa radix is 2, 4, 8, 16 or 32 (any exponent base), every option set. -/
section pow2
open LexVerif.Model.WriteBinary

/-- the model's NaN test: exponent field all ones and a non-zero fraction -/
def isNaNBits (t : Dragonbox.FTy) (bits : Nat) : Prop :=
  (bits &&& (t.signMask - 1)) &&& t.exponentMask = t.exponentMask ∧ (bits &&& (t.signMask - 1)) &&& t.mantissaMask ≠ 0
/-- exponent field all ones -/
def isSpecialBits (t : Dragonbox.FTy) (bits : Nat) : Prop :=
  (bits &&& (t.signMask - 1)) &&& t.exponentMask = t.exponentMask

/-- NaN: the configured string after at most a `+`; a disabled string panics (`none`) -/
theorem pow2_nan_written (fmt : Format) (feats : Features) (o : WOpts) (t : Dragonbox.FTy) (bits : Nat)
    (h : isNaNBits t bits) :
    writeFloatO fmt feats o t bits = o.nan.map (plusText feats fmt ++ ·) := by
  unfold isNaNBits at h
  unfold writeFloatO writeFloatOWith plusText
  simp only [h, and_self, ne_eq, not_false_eq_true, not_true_eq_false, and_false, if_false, if_true]

/-- ±infinity: `-` iff the sign bit is set, then the configured string; a disabled string panics (`none`) -/
theorem pow2_inf_written (fmt : Format) (feats : Features) (o : WOpts) (t : Dragonbox.FTy) (bits : Nat)
    (hs : isSpecialBits t bits) (hn : ¬ isNaNBits t bits) :
    writeFloatO fmt feats o t bits =
      o.inf.map ((if bits &&& t.signMask ≠ 0 then [45] else plusText feats fmt) ++ ·) := by
  unfold isSpecialBits at hs
  unfold isNaNBits at hn
  unfold writeFloatO writeFloatOWith plusText
  simp only [hs, true_and] at hn ⊢
  simp only [hn, not_false_eq_true, and_true, if_false, if_true]

/-- finite values, ±0 included: the call returns `-` when the sign bit is set, else the optional `+`, followed by some body
(about which nothing is said here) -/
theorem pow2_finite_written (fmt : Format) (feats : Features) (o : WOpts) (t : Dragonbox.FTy) (bits : Nat)
    (hs : ¬ isSpecialBits t bits) :
    ∃ body, writeFloatO fmt feats o t bits =
      some ((if bits &&& t.signMask ≠ 0 then [45] else plusText feats fmt) ++ body) := by
  unfold isSpecialBits at hs
  unfold writeFloatO writeFloatOWith plusText
  simp only [hs, false_and, not_false_eq_true, and_true, if_false]
  exact ⟨_, rfl⟩

/-- non-vacuity: `-NaN` (f64, sign bit set) satisfies the hypothesis and is written `NaN` in hexadecimal;
`-inf` is written `-inf`; `-0.0` starts with `-` -/
example : isNaNBits .f64 0xFFF8000000000000 ∧
    writeFloatO (⟨12 + 16 * 2 ^ 104 + 16 * 2 ^ 112 + 10 * 2 ^ 120⟩) { powerOfTwo := true } { exp := 94 } .f64 0xFFF8000000000000
      = some [78, 97, 78] := by
  unfold isNaNBits
  decide +kernel
example : isSpecialBits .f64 0xFFF0000000000000 ∧ ¬ isNaNBits .f64 0xFFF0000000000000 ∧
    writeFloatO (⟨12 + 16 * 2 ^ 104 + 16 * 2 ^ 112 + 10 * 2 ^ 120⟩) { powerOfTwo := true } { exp := 94 } .f64 0xFFF0000000000000
      = some [45, 105, 110, 102] := by
  unfold isNaNBits isSpecialBits
  decide +kernel
example : ¬ isSpecialBits .f64 0x8000000000000000 ∧
    (writeFloatO (⟨12 + 16 * 2 ^ 104 + 16 * 2 ^ 112 + 10 * 2 ^ 120⟩) { powerOfTwo := true } { exp := 94 } .f64 0x8000000000000000).map
      (·.head?) = some (some 45) := by
  unfold isSpecialBits
  decide +kernel

end pow2

/-- text returned by a completed call; `none` when the call does not complete -/
def textOf : Outcome → Option (List Nat)
  | .done w => some (w.bytes.take w.len)
  | _ => none

/-- `-NaN` (sign bit set) is written `NaN` -/
example : textOf (writeFloat {} f64 Format.standard {} false 0xFFF8000000000000 ([0], 0) (List.replicate 64 0))
    = some [78, 97, 78] := by decide +kernel

/-- `-inf` is written `-inf` -/
example : textOf (writeFloat {} f64 Format.standard {} false 0xFFF0000000000000 ([0], 0) (List.replicate 64 0))
    = some [45, 105, 110, 102] := by decide +kernel

/-- `-0.0` is written `-0.0` -/
example : textOf (writeFloat {} f64 Format.standard {} false 0x8000000000000000 ([0], 0) (List.replicate 64 0))
    = some [45, 48, 46, 48] := by decide +kernel

/-- NaN with `nan_string = None` panics -/
example : writeFloat {} f64 Format.standard { nan := none } false 0x7FF8000000000000 ([0], 0) (List.replicate 64 0)
    = .panic := by decide +kernel

end LexVerif.Props.C15Write
