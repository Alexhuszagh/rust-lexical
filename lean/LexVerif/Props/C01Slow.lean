import LexVerif.Proof.SlowCompose
import LexVerif.Model.SlowBytes
import LexVerif.Proof.SlowLimbs
import LexVerif.Proof.SlowTruncation
/-!
# C01 / C05 — the big-integer slow path (`slow.rs`, `bigint.rs`) is correctly rounded (property theorems)

Model: `Model/Slow.lean` (value-level big integers with the real capacity checks), `Model/SlowBytes.lean`
(`byte_comp` on limbs, `slow_radix`); tied to the code by the component op `sl` (`Model/Ops/Slow.lean`,
`gens_slow.py`): the model agrees with the compiled crate on the whole stream, panics included.

Proved here, for **all** digit strings, exponents, float types `f32`/`f64`, the five builds (`default`, `compact`,
`power-of-two`, `radix`, `compact+radix`) and every radix that has a digit limit (10; 6, 12, 14, 18, 20, 22, 24, 26, 28, 30, 34, 36):

* `parseMantissa_value` — `parse_mantissa` never panics and returns exactly the value and count of the first
  `max_digits` significant digits, with the `+1` adjustment iff a **non-zero** digit was cut;
* `positive_digit_comp_correct` — for an exponent `≥ 0` the result is `roundNE (M·radix^e)` (overflow to infinity
  included) whenever the capacity checks do not fail, i.e. `M·radix^e < 2^(64·BIGINT_LIMBS)`; `positive_guard`: that
  holds when `M < radix^c` and `radix^(c+e)` fits (`positive_guard_decimal`: always for what Eisel–Lemire hands over);
* `negative_digit_comp_correct` — for an exponent `< 0`, given that the error float `fp` (normalised, not below the
  underflow cut) rounds **down** to a finite float `b` with `b ≤ M/radix^j ≤ next(b)` (`SlowBracket`) and that the two
  scaled integers fit (`NegGuard`), the result is `roundNE (M/radix^j)`: the comparison with the half-way point
  `b + h` is exact, round down / up / ties-to-even follow it;
* `negative_digit_comp_correct_weak` — the same under the **weak** bracket of the pipeline theorem
  (`WeakBracket` = `Props.C01.Bracket` on the un-biased estimate: `b ≤ roundNE x ≤ b + 1` as bit patterns);
  `slowBracket_weak`: the strong bracket implies it;
* `scientific_exponent_spec`, `scientific_exponent_digits` — `scientific_exponent` = exponent + ⌊log_radix mantissa⌋;
* `small_mul_refines`, `shl_limbs_refines` — the value-level big integers agree with the limb-level ones;
* `slow_radix_correct` — `slow_radix` = `scientific_exponent`, `parse_mantissa`, then one of the two comparisons; with
  `value_untruncated` / `value_zero_tail`: the rounded number is the exact value of the **whole** digit string when
  at most `max_digits` digits are significant or only zeros are cut.

* `truncation_invariant_proved` — replacing a non-zero cut tail by a single `1` digit does not change the rounding
  (`Proof.SlowTruncation`: no half-way point has more than `max_digits` digits), hence `slow_radix_correct_full_proved`.

`byte_comp` (odd radices) is treated in `Props/C05Bytes.lean` (`byte_comp_correct`); here only
`byte_comp_lowercase_regression`: the lower-case defect this model exposed, fixed in /repo 6651793.
-/
namespace LexVerif.Props.C01Slow
open LexVerif.Spec LexVerif.Proof.Tables LexVerif.Model LexVerif.Model.Slow LexVerif.Model.Bellerophon
open LexVerif.Proof.RoundNE LexVerif.Proof.ExtRound LexVerif.Proof.Slow

def IsFloat (F : FTy) : Prop := F = FTy.f64 ∨ F = FTy.f32

theorem layout_of {F : FTy} (hF : IsFloat F) :
    ∃ p eb, Layout F p eb ∧ F.C.denormalExponent = 1 - F.C.exponentBias := by
  rcases hF with h | h <;> subst h
  · exact ⟨_, _, layout_f64, by decide⟩
  · exact ⟨_, _, layout_f32, by decide⟩

theorem envRadix_facts {E : Env} {r : Nat} (h : EnvRadix E r) :
    2 ≤ r ∧ r % 2 = 0 ∧ E.debug = false ∧ E.L.bigintLimbs < 2 ^ 20 := by
  have hall : ∀ x ∈ digitRadices, 2 ≤ x ∧ x % 2 = 0 := by decide
  have hr : r ∈ digitRadices := by
    rcases h with ⟨_, hr⟩ | ⟨_, hr⟩
    · rw [hr]; decide
    · exact hr
  obtain ⟨hdbg, _, hcap, _⟩ := envRadix_checks h
  exact ⟨(hall r hr).1, (hall r hr).2, hdbg, hcap⟩

theorem fmt_mem {F : FTy} (hF : IsFloat F) : F.fmt ∈ [f32, f64] := by
  rcases hF with h | h <;> subst h <;> decide

theorem maxDigits_facts {E : Env} {r : Nat} (h : EnvRadix E r) {F : FTy} (hF : IsFloat F) {d : Nat}
    (hd : E.S.maxDigits F.fmt r = some d) : 0 < d ∧ r ^ (d + 1) ≤ 2 ^ (64 * E.L.bigintLimbs) :=
  mantFit_spec (mant_of_envRadix h).2 (fmt_mem hF) hd

/-- what `parse_mantissa` must return for the significant digit bytes `bs` and the limit `d` -/
def mantissaOf (radix d : Nat) (bs : List Nat) : Nat × Nat :=
  if bs.length ≤ d then (ofDigits radix (dv radix bs), bs.length)
  else if anyNonzero (bs.drop d) then (ofDigits radix (dv radix (bs.take d)) * radix + 1, d + 1)
  else (ofDigits radix (dv radix (bs.take d)), d)

theorem parseMantissa_value {E : Env} {r : Nat} (h : EnvRadix E r) {F : FTy} (hF : IsFloat F) {d : Nat}
    (hd : E.S.maxDigits F.fmt r = some d) (integer : List Nat) (fraction : Option (List Nat))
    (hvi : ValidDigits r integer) (hvf : ∀ fr, fraction = some fr → ValidDigits r fr) :
    parseMantissa E r d integer fraction = some (mantissaOf r d (sigBytes integer fraction)) := by
  obtain ⟨hd0, hfit⟩ := maxDigits_facts h hF hd
  have hr := (envRadix_facts h).1
  rw [LexVerif.Proof.Slow.parseMantissa_value (mantOk_of_check (mant_of_envRadix h).1) hr hd0 integer fraction
    hvi hvf hfit]
  unfold mantissaOf
  split
  · rfl
  · split <;> rfl

theorem positive_digit_comp_correct {E : Env} {r : Nat} (h : EnvRadix E r) {F : FTy} (hF : IsFloat F)
    {M : Nat} (hM : M ≠ 0) {e : Int} (he0 : 0 ≤ e) (he : e < 2 ^ 29)
    (hfit : M * r ^ e.toNat < 2 ^ (64 * E.L.bigintLimbs)) :
    ∃ res, positiveDigitComp E F r M e = some res ∧ 0 ≤ res.exp ∧
      extendedToFloat F res = roundNE F.fmt (M * r ^ e.toNat) 1 := by
  obtain ⟨p, eb, lay, _⟩ := layout_of hF
  exact positiveDigitComp_correct lay (bigPowOk_of_envRadix h).1 (envRadix_facts h).2.2.2 hM he0 he hfit

theorem positive_guard {r M c e cap : Nat} (hr : 0 < r) (hM : M < r ^ c) (hcap : r ^ (c + e) ≤ 2 ^ (64 * cap)) :
    M * r ^ e < 2 ^ (64 * cap) := by
  have : M * r ^ e < r ^ c * r ^ e := Nat.mul_lt_mul_of_pos_right hM (Nat.pow_pos hr)
  rw [← Nat.pow_add] at this
  omega

set_option exponentiation.threshold 500 in
/-- decimal: Eisel–Lemire / Bellerophon answer `infinity` themselves above `10^(308+19+…)`; everything they can hand to
the slow path (`c + e = sci_exp + 1 ≤ 400`) fits every build's big integer -/
theorem positive_guard_decimal {E : Env} (h : EnvRadix E 10) {M c e : Nat} (hM : M < 10 ^ c) (hce : c + e ≤ 400) :
    M * 10 ^ e < 2 ^ (64 * E.L.bigintLimbs) := by
  apply positive_guard (by decide) hM
  have h1 : 10 ^ (c + e) ≤ 10 ^ 400 := Nat.pow_le_pow_right (by decide) hce
  have h2 : 10 ^ 400 ≤ 2 ^ (64 * 21) := by decide +kernel
  have mono : ∀ a b : Nat, a ≤ b → 2 ^ (64 * a) ≤ 2 ^ (64 * b) := fun a b hab =>
    Nat.pow_le_pow_right (by decide) (Nat.mul_le_mul_left 64 hab)
  exact Nat.le_trans h1 (Nat.le_trans h2 (mono 21 _ (envRadix_checks h).2.1))

/-- `b`: the error float rounded down to the float format (what `negative_digit_comp` computes first) -/
def roundedDown (F : FTy) (fp : ExtendedFloat80) : Nat := extendedToFloat F (round F fp roundDown)

/-- **the precondition the moderate path must establish**: `b ≤ num/den ≤ next(b)` in units of the least subnormal
(`ival`), for `b` the round-down of the (un-biased) error float -/
def SlowBracket (F : FTy) (fp : ExtendedFloat80) (num den : Nat) : Prop :=
  ival F.fmt (roundedDown F fp) * den ≤ num * 2 ^ L F.fmt ∧
  num * 2 ^ L F.fmt ≤ ival F.fmt (roundedDown F fp + 1) * den

/-- the capacity guard of `negative_digit_comp`: with `q` the significand and `k` the exponent field of `b`,
`be = k − EXPONENT_BIAS − e`, the two compared integers `(2q+1)·(radix/2)^j·2^max(be,0)` and `M·2^max(−be,0)` fit -/
def NegGuard (E : Env) (F : FTy) (p radix M : Nat) (fp : ExtendedFloat80) (e : Int) : Prop :=
  (2 * (fp.mant / 2 ^ shiftOf p fp.exp) + 1) * (radix / 2) ^ (-e).toNat *
      2 ^ (((fp.exp + 64 - p - 1).toNat : Int) - F.C.exponentBias - e).toNat < 2 ^ (64 * E.L.bigintLimbs) ∧
  M * 2 ^ (-(((fp.exp + 64 - p - 1).toNat : Int) - F.C.exponentBias - e)).toNat < 2 ^ (64 * E.L.bigintLimbs)

/-- the **weak** bracket, which is what the pipeline theorem (`Props.C01.Bracket`, there on the still-biased estimate) asks
of the moderate path: the correctly rounded value is `b` or its successor, as bit patterns. `SlowBracket` implies it
(`slowBracket_weak`); it is all `negative_digit_comp` needs. -/
def WeakBracket (F : FTy) (fp : ExtendedFloat80) (num den : Nat) : Prop :=
  roundedDown F fp ≤ roundNE F.fmt num den ∧ roundNE F.fmt num den ≤ roundedDown F fp + 1

theorem slowBracket_weak {F : FTy} {p eb : Nat} (lay : Layout F p eb) (fp : ExtendedFloat80) {num den : Nat}
    (hd : 0 < den) (hfin : roundedDown F fp < F.fmt.infBits) (h : SlowBracket F fp num den) :
    WeakBracket F fp num den := by
  have hf := lay.wf
  unfold WeakBracket
  unfold SlowBracket at h
  obtain ⟨hlo, hhi⟩ := h
  generalize roundedDown F fp = b at *
  have hL : 0 < 2 ^ L F.fmt := Nat.two_pow_pos _
  constructor
  · obtain ⟨e1, e2⟩ := toFrac_decode hf hfin
    have := roundNE_mono' hf e2 hd (a := (F.fmt.decode b).toFrac.1) (c := num) (by
      apply Nat.le_of_mul_le_mul_right _ hL
      calc (F.fmt.decode b).toFrac.1 * den * 2 ^ L F.fmt
          = (F.fmt.decode b).toFrac.1 * 2 ^ L F.fmt * den := by ring
        _ = ival F.fmt b * den * (F.fmt.decode b).toFrac.2 := by rw [e1]; ring
        _ ≤ num * 2 ^ L F.fmt * (F.fmt.decode b).toFrac.2 := Nat.mul_le_mul_right _ hlo
        _ = num * (F.fmt.decode b).toFrac.2 * 2 ^ L F.fmt := by ring)
    rwa [roundNE_of_float' hf hfin] at this
  · by_cases hb1 : b + 1 < F.fmt.infBits
    · obtain ⟨e1, e2⟩ := toFrac_decode hf hb1
      have := roundNE_mono' hf hd e2 (a := num) (c := (F.fmt.decode (b + 1)).toFrac.1) (by
        apply Nat.le_of_mul_le_mul_right _ hL
        calc num * (F.fmt.decode (b + 1)).toFrac.2 * 2 ^ L F.fmt
            = num * 2 ^ L F.fmt * (F.fmt.decode (b + 1)).toFrac.2 := by ring
          _ ≤ ival F.fmt (b + 1) * den * (F.fmt.decode (b + 1)).toFrac.2 := Nat.mul_le_mul_right _ hhi
          _ = (F.fmt.decode (b + 1)).toFrac.1 * 2 ^ L F.fmt * den := by rw [e1]; ring
          _ = (F.fmt.decode (b + 1)).toFrac.1 * den * 2 ^ L F.fmt := by ring)
      rwa [roundNE_of_float' hf hb1] at this
    · have := roundNE_le_infBits hf num hd
      omega


theorem negative_digit_comp_correct_weak {E : Env} {r : Nat} (h : EnvRadix E r) {F : FTy} {p eb : Nat}
    (lay : Layout F p eb) (hden : F.C.denormalExponent = 1 - F.C.exponentBias)
    {M : Nat} (hM : M ≠ 0) (fp : ExtendedFloat80) (hm1 : 2 ^ 63 ≤ fp.mant) (hm2 : fp.mant < 2 ^ 64)
    (hp2 : -fp.exp + 1 ≤ 64) (hfe : fp.exp < 2 ^ 20) {e : Int} (he : e < 0) (he' : -(2 ^ 28 : Int) < e)
    (hfin : roundedDown F fp < F.fmt.infBits) (hbr : WeakBracket F fp M (r ^ (-e).toNat))
    (hg : NegGuard E F p r M fp e) :
    ∃ res, negativeDigitComp E F r M fp e = some res ∧ 0 ≤ res.exp ∧
      extendedToFloat F res = roundNE F.fmt M (r ^ (-e).toNat) := by
  obtain ⟨hr2, hev, hdbg, _⟩ := envRadix_facts h
  obtain ⟨_, Th, T2⟩ := bigPowOk_of_envRadix h
  exact negativeDigitComp_abstract lay hden hdbg (show r = 2 * (r / 2) by omega) Th T2 hM fp he he'
    (roundFacts_finite lay fp hm1 hm2 hp2 hfe (Nat.pow_pos (by omega)) hfin hbr.1 hbr.2) hg.1 hg.2

theorem negative_digit_comp_correct {E : Env} {r : Nat} (h : EnvRadix E r) {F : FTy} {p eb : Nat}
    (lay : Layout F p eb) (hden : F.C.denormalExponent = 1 - F.C.exponentBias)
    {M : Nat} (hM : M ≠ 0) (fp : ExtendedFloat80) (hm1 : 2 ^ 63 ≤ fp.mant) (hm2 : fp.mant < 2 ^ 64)
    (hp2 : -fp.exp + 1 ≤ 64) (hfe : fp.exp < 2 ^ 20) {e : Int} (he : e < 0) (he' : -(2 ^ 28 : Int) < e)
    (hfin : roundedDown F fp < F.fmt.infBits) (hbr : SlowBracket F fp M (r ^ (-e).toNat))
    (hg : NegGuard E F p r M fp e) :
    ∃ res, negativeDigitComp E F r M fp e = some res ∧ 0 ≤ res.exp ∧
      extendedToFloat F res = roundNE F.fmt M (r ^ (-e).toNat) :=
  negative_digit_comp_correct_weak h lay hden hM fp hm1 hm2 hp2 hfe he he' hfin
    (slowBracket_weak lay fp (Nat.pow_pos (by have := (envRadix_facts h).1; omega)) hfin hbr) hg

theorem roundedDown_tiny {F : FTy} {p eb : Nat} (lay : Layout F p eb) (fp : ExtendedFloat80) (hm2 : fp.mant < 2 ^ 64)
    (hp2 : -fp.exp + 1 > 64) : roundedDown F fp = 0 :=
  roundDown_tiny lay fp hm2 hp2

/-- the capacity guard when the estimate rounds down to `+∞`: `b + h` is `(2·2^(p−1) + 1)·2^(2^eb − 2 − bias)` -/
def NegGuardInf (E : Env) (F : FTy) (p radix M : Nat) (e : Int) : Prop :=
  (2 * 2 ^ (p - 1) + 1) * (radix / 2) ^ (-e).toNat *
      2 ^ (((2 ^ F.fmt.ebits - 2 : Nat) : Int) - F.C.exponentBias - e).toNat < 2 ^ (64 * E.L.bigintLimbs) ∧
  M * 2 ^ (-(((2 ^ F.fmt.ebits - 2 : Nat) : Int) - F.C.exponentBias - e)).toNat < 2 ^ (64 * E.L.bigintLimbs)

/-- the two big integers of `negative_digit_comp` fit: for a finite round-down `NegGuard`, for `+∞` `NegGuardInf` -/
def NegFit (E : Env) (F : FTy) (p radix M : Nat) (fp : ExtendedFloat80) (e : Int) : Prop :=
  (roundedDown F fp < F.fmt.infBits ∧ NegGuard E F p radix M fp e) ∨
  (roundedDown F fp = F.fmt.infBits ∧ NegGuardInf E F p radix M e)

/-- every normalised estimate — below the underflow cut, finite, or rounding down to `+∞` — that
weakly brackets the value, with the capacity guard that belongs to its case. The guard is stated per regime (`NegGuard` with the `k`, `q`
of a finite round-down, `NegGuardInf` for `+∞`), so the three regimes of `roundFacts_of_weak` are told apart here once more to pick it. -/
theorem negative_digit_comp_correct_total {E : Env} {r : Nat} (h : EnvRadix E r) {F : FTy} {p eb : Nat}
    (lay : Layout F p eb) (hden : F.C.denormalExponent = 1 - F.C.exponentBias)
    {M : Nat} (hM : M ≠ 0) (fp : ExtendedFloat80) (hm1 : 2 ^ 63 ≤ fp.mant) (hm2 : fp.mant < 2 ^ 64)
    (hfe : fp.exp < 2 ^ 20) {e : Int} (he : e < 0) (he' : -(2 ^ 28 : Int) < e)
    (hbr : WeakBracket F fp M (r ^ (-e).toNat)) (hg : NegFit E F p r M fp e) :
    ∃ res, negativeDigitComp E F r M fp e = some res ∧ 0 ≤ res.exp ∧
      extendedToFloat F res = roundNE F.fmt M (r ^ (-e).toNat) := by
  obtain ⟨hr2, hev, hdbg, _⟩ := envRadix_facts h
  obtain ⟨_, Th, T2⟩ := bigPowOk_of_envRadix h
  have hd : 0 < r ^ (-e).toNat := Nat.pow_pos (by omega)
  rcases hg with ⟨hfin, hg⟩ | ⟨hinf, hg⟩
  · by_cases hp2 : -fp.exp + 1 ≤ 64
    · exact negative_digit_comp_correct_weak h lay hden hM fp hm1 hm2 hp2 hfe he he' hfin hbr hg
    · -- below the underflow cut `shared::round` clamps the shift to 64: `k = q = 0`
      obtain ⟨hk0, hq0⟩ := kq_tiny lay fp hm2 (by omega)
      unfold NegGuard at hg
      rw [hk0, hq0] at hg
      exact negativeDigitComp_abstract lay hden hdbg (show r = 2 * (r / 2) by omega) Th T2 hM fp he he'
        (roundFacts_tiny lay fp hm2 (by omega) hd hbr.2) hg.1 hg.2
  · have hp2 : -fp.exp + 1 ≤ 64 := by
      apply Classical.byContradiction; intro hcon
      have := LexVerif.Proof.RoundNE.infBits_pos lay.wf
      rw [roundedDown_tiny lay fp hm2 (by omega)] at hinf
      omega
    have hebits : F.fmt.ebits = eb := by rw [lay.fmt]
    unfold NegGuardInf at hg
    rw [hebits] at hg
    exact negativeDigitComp_abstract lay hden hdbg (show r = 2 * (r / 2) by omega) Th T2 hM fp he he'
      (roundFacts_inf lay fp hm1 hm2 hp2 hd hinf hbr.1) hg.1 hg.2


/-- the exponent `digit_comp` gives the big mantissa: leading digit at `radix^sciExp`, `c` digits -/
def digitExponent (sciExp : Int) (c : Nat) : Int := sciExp + 1 - c

/-- the rounded value is `M·radix^e` (`powFrac radix e M`, as a fraction), `(M, c) = mantissaOf …`,
`e = sci_exp + 1 − c`, given the guard of `positive_digit_comp_correct`, resp. the preconditions of `negative_digit_comp_correct_total` -/
theorem slow_radix_correct {E : Env} {r : Nat} (h : EnvRadix E r) {F : FTy} {p eb : Nat}
    (lay : Layout F p eb) (hF : IsFloat F) (hden : F.C.denormalExponent = 1 - F.C.exponentBias) (radixFeature : Bool)
    {d : Nat} (hd : E.S.maxDigits F.fmt r = some d) (n : SNum) (fp : ExtendedFloat80)
    (hvi : ValidDigits r n.integer) (hvf : ∀ fr, n.fraction = some fr → ValidDigits r fr)
    (hne : sigBytes n.integer n.fraction ≠ []) (hbytes : ∀ c ∈ sigBytes n.integer n.fraction, c < 256)
    (hs1 : -(2 ^ 27 : Int) < scientificExponent r n.mantissa n.exponent)
    (hs2 : scientificExponent r n.mantissa n.exponent < 2 ^ 27)
    (hpos : 0 ≤ digitExponent (scientificExponent r n.mantissa n.exponent) (mantissaOf r d (sigBytes n.integer n.fraction)).2 →
      (mantissaOf r d (sigBytes n.integer n.fraction)).1 *
        r ^ (digitExponent (scientificExponent r n.mantissa n.exponent) (mantissaOf r d (sigBytes n.integer n.fraction)).2).toNat <
        2 ^ (64 * E.L.bigintLimbs))
    (hneg : digitExponent (scientificExponent r n.mantissa n.exponent) (mantissaOf r d (sigBytes n.integer n.fraction)).2 < 0 →
      2 ^ 63 ≤ fp.mant ∧ fp.mant < 2 ^ 64 ∧ fp.exp < 2 ^ 20 ∧
      WeakBracket F fp (mantissaOf r d (sigBytes n.integer n.fraction)).1
        (r ^ (-digitExponent (scientificExponent r n.mantissa n.exponent) (mantissaOf r d (sigBytes n.integer n.fraction)).2).toNat) ∧
      NegFit E F p r (mantissaOf r d (sigBytes n.integer n.fraction)).1 fp
        (digitExponent (scientificExponent r n.mantissa n.exponent) (mantissaOf r d (sigBytes n.integer n.fraction)).2)) :
    ∃ res, slowRadix E F radixFeature r n fp = some res ∧ 0 ≤ res.exp ∧
      extendedToFloat F res = roundNE F.fmt
        (powFrac r (digitExponent (scientificExponent r n.mantissa n.exponent) (mantissaOf r d (sigBytes n.integer n.fraction)).2)
          (mantissaOf r d (sigBytes n.integer n.fraction)).1).1
        (powFrac r (digitExponent (scientificExponent r n.mantissa n.exponent) (mantissaOf r d (sigBytes n.integer n.fraction)).2)
          (mantissaOf r d (sigBytes n.integer n.fraction)).1).2 := by
  obtain ⟨hr2, hev, hdbg, hcap⟩ := envRadix_facts h
  obtain ⟨hd0, hfitd⟩ := maxDigits_facts h hF hd
  have hpm := parseMantissa_value h hF hd n.integer n.fraction hvi hvf
  generalize hsci : scientificExponent r n.mantissa n.exponent = sciExp at *
  generalize hbs : sigBytes n.integer n.fraction = bs at *
  have hd20 : d + 1 < 2 ^ 26 := by
    have h1 : 2 ^ (d + 1) ≤ r ^ (d + 1) := Nat.pow_le_pow_left hr2 _
    have h2 : 2 ^ (d + 1) ≤ 2 ^ (64 * E.L.bigintLimbs) := Nat.le_trans h1 hfitd
    have h3 : d + 1 ≤ 64 * E.L.bigintLimbs := (Nat.pow_le_pow_iff_right (by decide)).mp h2
    omega
  have hc : (mantissaOf r d bs).2 ≤ d + 1 := by
    unfold mantissaOf; split
    · simp only; omega
    · split <;> simp
  have hMpos : (mantissaOf r d bs).1 ≠ 0 := by
    have hall := sig_value_pos (by omega : 0 < r) (by rw [hbs]; exact hne) (by rw [hbs]; exact hbytes)
    rw [hbs] at hall
    unfold mantissaOf; split
    · rename_i hle
      have := hall bs.length (List.length_pos_iff.mpr hne)
      rw [List.take_length] at this
      simp only; omega
    · have := hall d hd0
      split <;> simp only <;> omega
  generalize hMc : mantissaOf r d bs = Mc at *
  obtain ⟨M, c⟩ := Mc
  simp only at hc hMpos hpos hneg ⊢
  unfold slowRadix routeOf
  rw [hdbg, hd, hsci]
  simp only [Bool.false_and, Bool.false_eq_true, if_false]
  rw [digitComp_eq n.integer n.fraction fp sciExp d M c hpm (by omega) (by omega) (by omega)]
  unfold digitExponent at *
  unfold powFrac
  -- `digit_comp` branches on the sign of the exponent left after the `c` digits kept: the value is the integer `M·r^e`, rounded as a
  -- whole, or the fraction `M / r^(−e)`, decided against `b + h` with the estimate `fp`
  by_cases he : sciExp + 1 - (c : Int) ≥ 0
  · rw [if_pos he, if_pos he]
    exact positive_digit_comp_correct h hF hMpos he (by omega) (hpos he)
  · rw [if_neg he, if_neg he]
    obtain ⟨a1, a2, a4, a6, a7⟩ := hneg (by omega)
    exact negative_digit_comp_correct_total h lay hden hMpos fp a1 a2 a4 (by omega) (by omega) a6 a7

/-- exact value of the complete significant digit string, leading digit at `radix^sciExp` -/
def sigValue (radix : Nat) (bs : List Nat) (sciExp : Int) : Nat × Nat :=
  powFrac radix (digitExponent sciExp bs.length) (ofDigits radix (dv radix bs))

theorem roundNE_powFrac_shift {f : Fmt} (hf : WF f) {r : Nat} (hr : 0 < r) (P k : Nat) (e : Int) :
    roundNE f (powFrac r e (P * r ^ k)).1 (powFrac r e (P * r ^ k)).2 =
      roundNE f (powFrac r (e + k) P).1 (powFrac r (e + k) P).2 := by
  rw [LexVerif.Proof.RoundNE.powFrac_toNat, LexVerif.Proof.RoundNE.powFrac_toNat]
  apply roundNE_congr' hf (Nat.pow_pos hr) (Nat.pow_pos hr)
  show P * r ^ k * r ^ e.toNat * r ^ (-(e + k)).toNat = P * r ^ (e + k).toNat * r ^ (-e).toNat
  rw [Nat.mul_assoc P, Nat.mul_assoc P, Nat.mul_assoc P, ← Nat.pow_add, ← Nat.pow_add, ← Nat.pow_add]
  congr 2
  omega

/-- at most `max_digits` significant digits: the rounded number **is** the value of the digit string -/
theorem value_untruncated (radix d : Nat) (bs : List Nat) (sciExp : Int) (h : bs.length ≤ d) :
    powFrac radix (digitExponent sciExp (mantissaOf radix d bs).2) (mantissaOf radix d bs).1 =
      sigValue radix bs sciExp := by
  unfold mantissaOf sigValue
  rw [if_pos h]

theorem ofDigits_zero_tail (radix : Nat) (bs : List Nat) (h : anyNonzero bs = false) :
    ofDigits radix (dv radix bs) = 0 := by
  refine ofDigits_zeros radix _ fun x hx => ?_
  obtain ⟨c, hc, rfl⟩ := List.mem_map.mp hx
  have hcz : c = 48 := by simpa using List.any_eq_false.mp h c hc
  rw [hcz]; exact digitVal_48 radix

/-- more than `max_digits` digits but only zeros cut: same rounded value as the whole digit string -/
theorem value_zero_tail {f : Fmt} (hf : WF f) {radix : Nat} (hr : 0 < radix) (d : Nat) (bs : List Nat) (sciExp : Int)
    (h : d < bs.length) (hz : anyNonzero (bs.drop d) = false) :
    roundNE f (powFrac radix (digitExponent sciExp (mantissaOf radix d bs).2) (mantissaOf radix d bs).1).1
        (powFrac radix (digitExponent sciExp (mantissaOf radix d bs).2) (mantissaOf radix d bs).1).2 =
      roundNE f (sigValue radix bs sciExp).1 (sigValue radix bs sciExp).2 := by
  unfold mantissaOf sigValue
  rw [if_neg (by omega), hz]
  simp only [Bool.false_eq_true, if_false]
  have hsplit : ofDigits radix (dv radix bs) =
      ofDigits radix (dv radix (bs.take d)) * radix ^ (bs.length - d) := by
    conv => lhs; rw [← List.take_append_drop d bs]
    rw [ofDigits_dv_append, ofDigits_zero_tail radix _ hz, List.length_drop, Nat.add_zero]
  rw [hsplit, roundNE_powFrac_shift hf hr]
  unfold digitExponent
  have : sciExp + 1 - (bs.length : Int) + ((bs.length - d : Nat) : Int) = sciExp + 1 - (d : Int) := by omega
  rw [this]

/-- a non-zero cut tail may be replaced by a single digit `1` without changing the rounding — the purpose of
`max_digits` (no half-way point between two floats has that many significant digits). The digit string starts with a
non-zero digit (as `sigBytes` does). **Proved**: `truncation_invariant_proved`. -/
def truncation_invariant : Prop :=
  ∀ (E : Env) (r : Nat), EnvRadix E r → ∀ (F : FTy), IsFloat F → ∀ d, E.S.maxDigits F.fmt r = some d →
    ∀ (bs : List Nat) (sciExp : Int), ValidDigits r bs → (∀ c ∈ bs, c < 256) → (∀ c cs, bs = c :: cs → c ≠ 48) →
      d < bs.length → anyNonzero (bs.drop d) = true →
      roundNE F.fmt (powFrac r (digitExponent sciExp (mantissaOf r d bs).2) (mantissaOf r d bs).1).1
          (powFrac r (digitExponent sciExp (mantissaOf r d bs).2) (mantissaOf r d bs).1).2 =
        roundNE F.fmt (sigValue r bs sciExp).1 (sigValue r bs sciExp).2

theorem ofDigits_pos_of_anyNonzero {radix : Nat} (hr : 0 < radix) (bs : List Nat) (hb : ∀ c ∈ bs, c < 256)
    (h : anyNonzero bs = true) : 0 < ofDigits radix (dv radix bs) :=
  ofDigits_pos_of_any hr _ (anyNonzero_dv bs hb ▸ h)

theorem ofDigits_ge_of_head {radix : Nat} {c : Nat} {cs : List Nat} (hc : c < 256) (h48 : c ≠ 48) :
    radix ^ cs.length ≤ ofDigits radix (dv radix (c :: cs)) := by
  have hd := digitVal_ne_zero (radix := radix) hc h48
  simp only [dv, List.map_cons]
  rw [ofDigits_cons, List.length_map]
  have : 1 * radix ^ cs.length ≤ Binary.digitVal c radix * radix ^ cs.length := Nat.mul_le_mul_right _ (by omega)
  omega

/-- **`truncation_invariant` holds**: `Proof.SlowTruncation.roundNE_const_between` with the two table facts that define
`max_digits` (`Proof.SlowTables.halfwayB`, evaluated for every build and radix with a digit limit) -/
theorem truncation_invariant_proved : truncation_invariant := by
  intro E r h F hF d hd bs sciExp hv hb256 hhead hlen hz
  obtain ⟨hr2, hev, _, _⟩ := envRadix_facts h
  obtain ⟨_, _, lay, _⟩ := layout_of hF
  have hf := lay.wf
  obtain ⟨hd1, hi, hii⟩ := halfway_spec (halfway_of_envRadix h) (fmt_mem hF) hd
  have hrpos : 0 < r := by omega
  unfold mantissaOf sigValue digitExponent
  rw [if_neg (by omega), hz]
  simp only [if_true]
  have hsplit : ofDigits r (dv r bs) =
      ofDigits r (dv r (bs.take d)) * r ^ (bs.length - d) + ofDigits r (dv r (bs.drop d)) := by
    conv => lhs; rw [← List.take_append_drop d bs]
    rw [ofDigits_dv_append, List.length_drop]
  have htail1 := ofDigits_pos_of_anyNonzero hrpos (bs.drop d) (fun c hc => hb256 c (List.mem_of_mem_drop hc)) hz
  have htail2 := ofDigits_dv_lt (valid_drop hv d)
  rw [List.length_drop] at htail2
  have hP : r ^ (d - 1) ≤ ofDigits r (dv r (bs.take d)) := by
    cases hbs : bs with
    | nil => rw [hbs] at hlen; simp at hlen
    | cons c cs =>
      have h48 := hhead c cs hbs
      have hc : c < 256 := hb256 c (by rw [hbs]; exact List.mem_cons_self ..)
      obtain ⟨d', rfl⟩ : ∃ d', d = d' + 1 := ⟨d - 1, by omega⟩
      rw [List.take_succ_cons]
      have := ofDigits_ge_of_head (radix := r) (cs := cs.take d') hc h48
      rw [List.length_take, Nat.min_eq_left (by rw [hbs] at hlen; simp at hlen; omega)] at this
      simpa using this
  generalize hPv : ofDigits r (dv r (bs.take d)) = P at *
  generalize htl : ofDigits r (dv r (bs.drop d)) = tl at *
  generalize hS : ofDigits r (dv r bs) = S at *
  obtain ⟨m, hm⟩ : ∃ m, bs.length - d = m + 1 := ⟨bs.length - d - 1, by omega⟩
  rw [hm] at hsplit htail2
  -- both mantissas, at the exponent of the whole string, lie strictly between `P·r^(m+1)` and `(P+1)·r^(m+1)`
  have hshift := roundNE_powFrac_shift hf hrpos (P * r + 1) m (sciExp + 1 - (bs.length : Int))
  have hexp : sciExp + 1 - (bs.length : Int) + (m : Int) = sciExp + 1 - ((d + 1 : Nat) : Int) := by omega
  rw [hexp] at hshift
  rw [← hshift]
  have e1 : (P * r + 1) * r ^ m = P * r ^ (m + 1) + r ^ m := by rw [Nat.pow_succ]; ring
  have e2 : (P + 1) * r ^ (m + 1) = P * r ^ (m + 1) + r ^ (m + 1) := Nat.succ_mul ..
  have hlt : r ^ m < r ^ (m + 1) := Nat.pow_lt_pow_right (by omega) (Nat.lt_succ_self m)
  have hpos := Nat.pow_pos hrpos (n := m)
  have key := LexVerif.Proof.Truncation.roundNE_const_between hf (show r = 2 * (r / 2) by omega) (by omega) hd1 hi hii
    P (m + 1) ((P * r + 1) * r ^ m) S hP (by omega) (by omega) (by omega) (by omega) (by omega)
    (sciExp + 1 - (bs.length : Int)).toNat (-(sciExp + 1 - (bs.length : Int))).toNat
  rw [LexVerif.Proof.RoundNE.powFrac_toNat, LexVerif.Proof.RoundNE.powFrac_toNat]
  exact key

/-- whatever is cut, the number that is rounded is the value of the whole digit string: nothing cut
(`value_untruncated`), only zeros cut (`value_zero_tail`), or a non-zero tail (`truncation_invariant_proved`) -/
theorem roundNE_mantissaOf {E : Env} {r : Nat} (h : EnvRadix E r) {F : FTy} (hF : IsFloat F) {d : Nat}
    (hd : E.S.maxDigits F.fmt r = some d) {integer : List Nat} {fraction : Option (List Nat)}
    (hvi : ValidDigits r integer) (hvf : ∀ fr, fraction = some fr → ValidDigits r fr)
    (hbytes : ∀ c ∈ sigBytes integer fraction, c < 256) (sciExp : Int) :
    roundNE F.fmt
        (powFrac r (digitExponent sciExp (mantissaOf r d (sigBytes integer fraction)).2)
          (mantissaOf r d (sigBytes integer fraction)).1).1
        (powFrac r (digitExponent sciExp (mantissaOf r d (sigBytes integer fraction)).2)
          (mantissaOf r d (sigBytes integer fraction)).1).2 =
      roundNE F.fmt (sigValue r (sigBytes integer fraction) sciExp).1 (sigValue r (sigBytes integer fraction) sciExp).2 := by
  have hr2 := (envRadix_facts h).1
  obtain ⟨_, _, lay, _⟩ := layout_of hF
  by_cases hl : (sigBytes integer fraction).length ≤ d
  · rw [value_untruncated r d _ _ hl]
  · by_cases hz : anyNonzero ((sigBytes integer fraction).drop d) = true
    · exact truncation_invariant_proved E r h F hF d hd _ _ (validDigits_sigBytes hvi hvf) hbytes
        (fun c cs hcs => sigBytes_head hcs) (by omega) hz
    · exact value_zero_tail lay.wf (by omega) d _ _ (by omega) (by simpa using hz)

/-- **full statement** (a `Prop`): `slow_radix` returns the correctly rounded value of the complete digit string for
every build, radix with a digit limit, float type and input satisfying the moderate path's contract
(`slow_radix_correct` + `roundNE_mantissaOf`). -/
def slow_radix_correct_full : Prop :=
  ∀ (E : Env) (r : Nat), EnvRadix E r → ∀ (F : FTy) (p eb : Nat), Layout F p eb → IsFloat F →
    ∀ (radixFeature : Bool) (d : Nat), E.S.maxDigits F.fmt r = some d → ∀ (n : SNum) (fp : ExtendedFloat80),
    ValidDigits r n.integer → (∀ fr, n.fraction = some fr → ValidDigits r fr) →
    sigBytes n.integer n.fraction ≠ [] → (∀ c ∈ sigBytes n.integer n.fraction, c < 256) →
    -(2 ^ 27 : Int) < scientificExponent r n.mantissa n.exponent → scientificExponent r n.mantissa n.exponent < 2 ^ 27 →
    (0 ≤ digitExponent (scientificExponent r n.mantissa n.exponent) (mantissaOf r d (sigBytes n.integer n.fraction)).2 →
      (mantissaOf r d (sigBytes n.integer n.fraction)).1 *
        r ^ (digitExponent (scientificExponent r n.mantissa n.exponent) (mantissaOf r d (sigBytes n.integer n.fraction)).2).toNat <
        2 ^ (64 * E.L.bigintLimbs)) →
    (digitExponent (scientificExponent r n.mantissa n.exponent) (mantissaOf r d (sigBytes n.integer n.fraction)).2 < 0 →
      2 ^ 63 ≤ fp.mant ∧ fp.mant < 2 ^ 64 ∧ fp.exp < 2 ^ 20 ∧
      WeakBracket F fp (mantissaOf r d (sigBytes n.integer n.fraction)).1
        (r ^ (-digitExponent (scientificExponent r n.mantissa n.exponent) (mantissaOf r d (sigBytes n.integer n.fraction)).2).toNat) ∧
      NegFit E F p r (mantissaOf r d (sigBytes n.integer n.fraction)).1 fp
        (digitExponent (scientificExponent r n.mantissa n.exponent) (mantissaOf r d (sigBytes n.integer n.fraction)).2)) →
    ∃ res, slowRadix E F radixFeature r n fp = some res ∧ 0 ≤ res.exp ∧
      extendedToFloat F res = roundNE F.fmt
        (sigValue r (sigBytes n.integer n.fraction) (scientificExponent r n.mantissa n.exponent)).1
        (sigValue r (sigBytes n.integer n.fraction) (scientificExponent r n.mantissa n.exponent)).2

theorem slow_radix_correct_full_proved : slow_radix_correct_full := by
  intro E r h F p eb lay hF rf d hd n fp hvi hvf hne hbytes hs1 hs2 hpos hneg
  have hden : F.C.denormalExponent = 1 - F.C.exponentBias := by
    rcases hF with hF | hF <;> subst hF <;> decide
  obtain ⟨res, e1, e2, e3⟩ := slow_radix_correct h lay hF hden rf hd n fp hvi hvf hne hbytes hs1 hs2 hpos hneg
  exact ⟨res, e1, e2, by rw [e3, roundNE_mantissaOf h hF hd hvi hvf hbytes]⟩

def bytesOf (s : String) : List Nat := s.toList.map Char.toNat

/-- `9007199254740993·10^14 / 10^14 = 2^53 + 1` written with 30 digits is **exactly half-way** between `2^53` and
`2^53 + 2`: the slow path (decimal, binary64, error float as Eisel–Lemire returns it) answers the even neighbour;
one unit more in the 30th digit rounds up; one unit less rounds down -/
example :
    slowRadix envDefault FTy.f64 false 10 ⟨9007199254740993000, -3, bytesOf "900719925474099300000000000000", none⟩
      ⟨9223372036854776832, 1065⟩ = some ⟨0, 1076⟩ ∧
    slowRadix envDefault FTy.f64 false 10 ⟨9007199254740993000, -3, bytesOf "900719925474099300000000000001", none⟩
      ⟨9223372036854776832, 1065⟩ = some ⟨1, 1076⟩ ∧
    slowRadix envDefault FTy.f64 false 10 ⟨9007199254740992999, -3, bytesOf "900719925474099299999999999999", none⟩
      ⟨9223372036854776832, 1065⟩ = some ⟨0, 1076⟩ ∧
    extendedToFloat FTy.f64 ⟨0, 1076⟩ = roundNE f64 (2 ^ 53 + 1) 1 := by decide +kernel

/-- the hypotheses of `negative_digit_comp_correct` are satisfiable on that input: the error float is normalised, above the underflow cut, its
round-down `2^53` is finite and brackets `M / 10^14`, and the guard holds -/
example :
    mantissaOf 10 769 (bytesOf "900719925474099300000000000000") = (900719925474099300000000000000, 30) ∧
    scientificExponent 10 9007199254740993000 (-3) = 15 ∧
    roundedDown FTy.f64 ⟨9223372036854776832, 1065⟩ = 0x4340000000000000 ∧
    SlowBracket FTy.f64 ⟨9223372036854776832, 1065⟩ 900719925474099300000000000000 (10 ^ 14) ∧
    NegGuard envDefault FTy.f64 53 10 900719925474099300000000000000 ⟨9223372036854776832, 1065⟩ (-14) := by
  unfold SlowBracket NegGuard roundedDown
  decide +kernel

/-- `positive_digit_comp`: `(2^53 + 1)·2^50` (32 digits, exponent 0 relative to the digits) is a tie; its neighbours; and the overflow
boundary `2^1024 − 2^970` (half-way between the greatest finite double and `2^1024`) rounds to infinity -/
example :
    slowRadix envDefault FTy.f64 false 10 ⟨1014120480182583633, 13, bytesOf "10141204801825836337873532485632", none⟩
      ⟨9223372036854776824, 1115⟩ = some ⟨0, 1126⟩ ∧
    slowRadix envDefault FTy.f64 false 10 ⟨1014120480182583633, 13, bytesOf "10141204801825836337873532485633", none⟩
      ⟨9223372036854776824, 1115⟩ = some ⟨1, 1126⟩ ∧
    positiveDigitComp envDefault FTy.f64 10 (2 ^ 1024 - 2 ^ 970) 0 = some ⟨0, 2047⟩ ∧
    positiveDigitComp envDefault FTy.f64 10 (2 ^ 1024 - 2 ^ 970 - 1) 0 = some ⟨4503599627370495, 2046⟩ := by
  decide +kernel

/-- a radix-36 tie through `digit_comp`, binary32 -/
example : positiveDigitComp envRadix FTy.f32 36 (2 ^ 24 + 1) 3 =
    some ⟨(roundNE f32 ((2 ^ 24 + 1) * 36 ^ 3) 1) % 2 ^ 23, (roundNE f32 ((2 ^ 24 + 1) * 36 ^ 3) 1) / 2 ^ 23⟩ := by
  decide +kernel

/-- the capacity check is real: one limb beyond `BIGINT_LIMBS` and `Bigint::pow` returns `None` (the caller `unwrap`s) -/
example : positiveDigitComp envDefault FTy.f64 10 1 1195 = none ∧
    (positiveDigitComp envDefault FTy.f64 10 1 1194).isSome = true := by decide +kernel

/-- radix 11, `2179a75830112629` = `2^53 + 1`, an exact tie: `compare_bytes` compares digit values, so both spellings
give the even neighbour `2^53`. (The code before /repo commit 6651793 compared the input byte `'a'` with the upper-case
`'A'` that `digit_to_char_const` produces, answered `Greater`, and the lower-case spelling parsed to `2^53 + 2`: the
defect this model's correspondence stream exposed.) -/
theorem byte_comp_lowercase_regression :
    slowRadix envRadix FTy.f64 true 11 ⟨9007199254740993, 0, bytesOf "2179a75830112629", none⟩
      ⟨9223372036854776832, 1065⟩ = some ⟨0, 1076⟩ ∧
    slowRadix envRadix FTy.f64 true 11 ⟨9007199254740993, 0, bytesOf "2179A75830112629", none⟩
      ⟨9223372036854776832, 1065⟩ = some ⟨0, 1076⟩ ∧
    extendedToFloat FTy.f64 ⟨0, 1076⟩ = roundNE f64 (2 ^ 53 + 1) 1 := by decide +kernel

/-- `exponent + T` is the weight of the leading digit of `m·radix^exponent` -/
theorem scientific_exponent_spec {radix : Nat} (hr : 2 ≤ radix) (hr36 : radix ≤ 36) {m : Nat} (hm1 : 1 ≤ m)
    (hm : m < 2 ^ 64) {e : Int} (he1 : -(2 ^ 30 : Int) ≤ e) (he2 : e ≤ 2 ^ 30) :
    ∃ T : Nat, radix ^ T ≤ m ∧ m < radix ^ (T + 1) ∧ scientificExponent radix m e = e + T :=
  scientificExponent_spec hr hr36 hm1 hm he1 he2

/-- for a mantissa written with `k` digits (leading digit non-zero) that is `exponent + k − 1` -/
theorem scientific_exponent_digits {radix : Nat} (hr : 2 ≤ radix) (hr36 : radix ≤ 36) (d : Nat) (ds : List Nat)
    (hd0 : d ≠ 0) (hds : ∀ x ∈ d :: ds, x < radix) (hm : ofDigits radix (d :: ds) < 2 ^ 64) {e : Int}
    (he1 : -(2 ^ 30 : Int) ≤ e) (he2 : e ≤ 2 ^ 30) :
    scientificExponent radix (ofDigits radix (d :: ds)) e = e + ds.length := by
  have hpos := ofDigits_pos (by omega : 0 < radix) (d :: ds) ⟨d, List.mem_cons_self .., hd0⟩
  obtain ⟨T, t1, t2, t3⟩ := scientificExponent_spec hr hr36 hpos hm he1 he2
  have hlt := ofDigits_lt radix (d :: ds) hds
  have hge : radix ^ ds.length ≤ ofDigits radix (d :: ds) := by
    rw [ofDigits_cons]
    have : 1 * radix ^ ds.length ≤ d * radix ^ ds.length := Nat.mul_le_mul_right _ (by omega)
    omega
  rw [List.length_cons] at hlt
  have a1 : T < ds.length + 1 := (Nat.pow_lt_pow_iff_right (by omega : 1 < radix)).mp (Nat.lt_of_le_of_lt t1 hlt)
  have a2 : ds.length < T + 1 := (Nat.pow_lt_pow_iff_right (by omega : 1 < radix)).mp (Nat.lt_of_le_of_lt hge t2)
  rw [t3]
  have : T = ds.length := by omega
  rw [this]

/-- `small_mul` on a normalised limb vector (64-bit limbs, non-zero top limb): the value-level operation of
`Model.Slow` and the limb-level one of `Model.SlowBytes` return the same value and fail on the same inputs
(`try_push` beyond `SIZE` ⇔ the product needs more than `SIZE` limbs) -/
theorem small_mul_refines {cap : Nat} {x : Limbs} (h : Normalized x) (hlen : x.length ≤ cap) {y : Nat} (hy0 : y ≠ 0)
    (hy : y < 2 ^ 64) : (smallMulL cap x y).map valL = smallMul cap (valL x) y :=
  smallMul_refines h hlen hy0 hy

/-- `shl_limbs` likewise (`n + len > SIZE` ⇔ `n + limbsOf value > SIZE`) -/
theorem shl_limbs_refines {cap : Nat} {x : Limbs} (h : Normalized x) (n : Nat) :
    (shlLimbsL cap x n).map valL = shlLimbs cap (valL x) n := shlLimbs_refines h n

example : Normalized [5, 0, 7] ∧ (smallMulL 3 [5, 0, 7] (2 ^ 63)).map valL = none ∧
    (smallMulL 4 [5, 0, 7] (2 ^ 63)).map valL = some (valL [5, 0, 7] * 2 ^ 63) := by
  refine ⟨⟨?_, ?_⟩, by decide +kernel, by decide +kernel⟩
  · intro l hl; simp at hl; rcases hl with h | h | h <;> subst h <;> decide
  · intro l hl; simp at hl; subst hl; decide

end LexVerif.Props.C01Slow
