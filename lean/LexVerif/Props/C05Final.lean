import LexVerif.Props.C01SlowDomain
import LexVerif.Props.C05
import LexVerif.Proof.BinaryWide
import LexVerif.Proof.ComposeBell
/-!
# Props.C05Final — the non-decimal pipeline: `parseFloatAlgoModel slowModel = parseFloatModel` for every radix class

The analogue of `Props.C01Final.C01_decimal_full_proved` for the radices other than 10.

* **power-of-two radices** (2, 4, 8, 16, 32; exponent base a power of two — same base and the mixed-base pairs): the
  moderate path is `binary`. Untruncated mantissa: `binary` always decides and is right (`pipeline_binary_wide`).
  Truncated: a valid answer is right (`BinaryWide.binary_sticky_wide`), an undecided one is resolved by `slow_binary`
  (`slowBinary_correct_wide`) — `numberToFloat_pow2_truncated`. All three on the exponent window `ExpWide`; their
  instances on `±2^27` are `pipeline_binary`, `C05.binary_truncated_correct`, `C05.slowBinary_correct`.
* **generic radices** (the 29 radices with Bellerophon tables, `radix` builds, `compact` or not): the moderate path is
  `bellerophon` in every build. A valid answer is right (`bellerophon_radix_sound`), an invalid-marked one is a two-sided
  estimate that brackets the value (`Proof.BellEstimate`, `Proof.BellBracket`) — `moderateContract_bell`; what
  `slow_radix` makes of it is the hypothesis `hslow` (`digit_comp` for the even radices: proved on its domain in
  `Props.C01Slow`; `byte_comp` for the odd ones: `Props.C05Bytes`).
-/

namespace LexVerif.Props.C05Final

open LexVerif.Spec LexVerif.Model LexVerif.Model.ParseFloatAlgo

open LexVerif.Proof.RoundNE LexVerif.Proof.ExtRound LexVerif.Proof.Pipeline LexVerif.Proof.Bell LexVerif.Proof.Compose

open LexVerif.Props.C01 (IsLemireFloat IsI64 Bracket)

open LexVerif.Props.C01Main LexVerif.Props.C01SlowMain LexVerif.Props.C01Final LexVerif.Props.C05

open LexVerif.Proof.BinaryWide (ExpWide)

/-- a generic radix of a `radix` build: one of the 29 radices with Bellerophon tables, exponent base = radix -/
structure GenericClass (c : Cfg) : Prop where
  radix : c.feats.radix = true
  mem : c.mantissaRadix ∈ bellRadicesRadix
  base : c.exponentBase = c.mantissaRadix

theorem generic_not_pow2 {r : Nat} (h : r ∈ bellRadicesRadix) : isPowerTwo r = false ∧ r ≠ 10 ∧ 2 ≤ r ∧ r ≤ 36 := by
  have hall : ∀ x ∈ bellRadicesRadix, isPowerTwo x = false ∧ x ≠ 10 ∧ 2 ≤ x ∧ x ≤ 36 := by decide
  exact hall r h

theorem backend_generic (feats : Features) (hr : feats.radix = true) {r : Nat} (h : r ∈ bellRadicesRadix) :
    backend feats r = .bellerophon := by
  obtain ⟨h2, h10, _, _⟩ := generic_not_pow2 h
  unfold backend
  rw [hr, h2]
  simp only [if_true, Bool.false_eq_true, if_false, h10]
  split
  · split <;> rfl
  · rfl

theorem isBellTable_generic (feats : Features) {r : Nat} (h : r ∈ bellRadicesRadix) :
    IsBellTable (Bellerophon.powersOf feats r) r := by
  unfold Bellerophon.powersOf IsBellTable
  split
  · exact Or.inr ⟨List.mem_cons_of_mem _ h, rfl⟩
  · exact Or.inl ⟨h, rfl⟩

theorem radixSet_of_radix (feats : Features) (hr : feats.radix = true) : IsRadixSet (smallSetOf feats) := by
  unfold smallSetOf IsRadixSet
  split
  · exact Or.inr rfl
  · rw [hr, Bool.true_or]; exact Or.inl rfl

theorem mem_radices {S : LexVerif.Proof.Tables.SmallSet} (hS : IsRadixSet S) {r : Nat} (h2 : 2 ≤ r) (h36 : r ≤ 36) :
    r ∈ S.radices := by
  rcases hS with h | h <;> subst h
  · have hall : ∀ x < 37, 2 ≤ x → x ∈ LexVerif.Proof.Tables.SmallSet.Radix.radices := by decide
    exact hall r (by omega) h2
  · have hall : ∀ x < 37, 2 ≤ x → x ∈ LexVerif.Proof.Tables.SmallSet.CompactRadix.radices := by decide
    exact hall r (by omega) h2

theorem GenericClass.moderateOK {c : Cfg} (G : GenericClass c) {F : FTy} (hF : IsLemireFloat F) (n : Number)
    (hw : n.mantissa < 2 ^ 64)
    (hlow : n.manyDigits = true → 2 ^ 54 ≤ n.mantissa ∧ (F = FTy.f64 → 2 ^ 55 ≤ n.mantissa))
    (num den : Nat) (hd : 0 < den) (htv : TrueValue c.mantissaRadix (numOf n) num den) :
    ModerateOK c F n num den (Bracket F · num den) :=
  moderateOK_bellT hF c (backend_generic _ G.radix G.mem) (isBellTable_generic c.feats G.mem) n hw hlow num den hd htv

/-- the hypotheses of `numberToFloat_value` that a generic radix settles by itself: radix bounds, the fast path, and
`slow_path` = `slow_radix` -/
theorem numberToFloat_generic (slow : SlowRadix) {F : FTy} (hF : IsLemireFloat F) (c : Cfg) (G : GenericClass c) (n : Number)
    (hx : n.manyDigits = false → RatEq (powFrac c.exponentBase n.exponent n.mantissa) (valueOf c n))
    (hmod : ModerateOK c F n (valueOf c n).1 (valueOf c n).2 (Bracket F · (valueOf c n).1 (valueOf c n).2))
    (hslow : ∀ fp, moderatePath c F (numOf n) false = .ok fp → fp.exp < 0 →
      Bracket F fp (valueOf c n).1 (valueOf c n).2 →
      extendedToFloat F (slow c F n { fp with exp := fp.exp - invalidFp }) =
        roundNE F.fmt (valueOf c n).1 (valueOf c n).2) :
    numberToFloat slow c F n false = some (numberBits c F.fmt n) := by
  obtain ⟨h2p, _, h2, h36⟩ := generic_not_pow2 G.mem
  have hS := radixSet_of_radix c.feats G.radix
  apply numberToFloat_value slow hF c h2 h36 (by rw [G.base]; exact h2) n hx
    (fun _ => fastContract_radix hF c hS (mem_radices hS h2 h36) n) hmod
  intro fp hm hinv hbr
  rw [slowPath_of_not_pow2 slow c h2p]
  exact hslow fp hm hinv hbr

/-- **the moderate-path contract of the generic radices — unconditional**: `bellerophon` answers; a valid answer is the
correctly rounded `mantissa·radix^exponent`; an invalid-marked one brackets it -/
theorem moderateContract_bell {F : FTy} (hF : IsLemireFloat F) (c : Cfg) (G : GenericClass c)
    (n : Number) (hmany : n.manyDigits = false) (hw : n.mantissa < 2 ^ 64) : ModerateContract c F n := by
  obtain ⟨_, _, h2, _⟩ := generic_not_pow2 G.mem
  unfold ModerateContract
  rw [G.base]
  exact G.moderateOK hF n hw (fun h => by rw [hmany] at h; cases h) _ _ (powFrac_den_pos (by omega) _ _)
    (trueValue_self (by omega) (numOf n))

/-- **a generic-radix `Number`, truncated mantissa** (at least 55 bits, as every `u64_step`-digit mantissa has): the value
of all the digits is a true value of the `Number` (`htv`); a valid answer of `bellerophon` is right, an invalid-marked one
brackets the value; `hslow`: what `slow_radix` returns for it -/
theorem numberToFloat_generic_truncated {F : FTy} (hF : IsLemireFloat F) (slow : SlowRadix) (c : Cfg) (G : GenericClass c)
    (n : Number) (hmany : n.manyDigits = true) (hw : n.mantissa < 2 ^ 64) (hw54 : 2 ^ 54 ≤ n.mantissa)
    (hw55 : F = FTy.f64 → 2 ^ 55 ≤ n.mantissa)
    (htv : TrueValue c.mantissaRadix (numOf n) (litFrac c.mantissaRadix c.exponentBase (numberLit c n)).1
      (litFrac c.mantissaRadix c.exponentBase (numberLit c n)).2)
    (hslow : ∀ fp, moderatePath c F (numOf n) false = .ok fp → fp.exp < 0 →
      Bracket F fp (litFrac c.mantissaRadix c.exponentBase (numberLit c n)).1
        (litFrac c.mantissaRadix c.exponentBase (numberLit c n)).2 →
      extendedToFloat F (slow c F n { fp with exp := fp.exp - invalidFp }) =
        roundNE F.fmt (litFrac c.mantissaRadix c.exponentBase (numberLit c n)).1
          (litFrac c.mantissaRadix c.exponentBase (numberLit c n)).2) :
    numberToFloat slow c F n false = some (numberBits c F.fmt n) := by
  obtain ⟨_, _, h2, _⟩ := generic_not_pow2 G.mem
  exact numberToFloat_generic slow hF c G n (fun h => by rw [hmany] at h; cases h)
    (G.moderateOK hF n hw (fun _ => ⟨hw54, hw55⟩) _ _ (valueOf_den_pos c (by omega) (by rw [G.base]; omega) n) htv) hslow

theorem binary_no_panic (F : FTy) (b : Nat) (n : Num) (lossy : Bool) : Binary.binary F b n lossy ≠ .panic := by
  unfold Binary.binary
  simp only []
  repeat' split
  all_goals simp

theorem binary_sign (F : FTy) (b m : Nat) (e : Int) (neg many lossy : Bool) :
    Binary.binary F b ⟨m, e, neg, many⟩ lossy = Binary.binary F b ⟨m, e, false, many⟩ lossy := rfl

/-- what the syntax layer owes for a **truncated** `Number` of a power-of-two radix: the mantissa word holds the first
`u64_step` significant digits, more follow, and the value of the digit slices with the explicit exponent is
`(all significant digits)·base^exponent / radix^(number of digits beyond u64_step)` -/
structure TruncPow2At (c : Cfg) (n : Number) : Prop where
  exp : ExpWide n.exponent
  valid : ∀ x ∈ n.integer ++ n.fraction.getD [], x < 256 ∧ Binary.digitVal x c.mantissaRadix < c.mantissaRadix
  long : (smallSetOf c.feats).u64Step c.mantissaRadix < (sigDigits c.mantissaRadix n.integer n.fraction).length
  mant : n.mantissa = LexVerif.Proof.SlowBinary.valOf c.mantissaRadix 0
    ((sigDigits c.mantissaRadix n.integer n.fraction).take ((smallSetOf c.feats).u64Step c.mantissaRadix))
  value : RatEq (litFrac c.mantissaRadix c.exponentBase (numberLit c n))
    ((powFrac c.exponentBase n.exponent
        (LexVerif.Proof.SlowBinary.valOf c.mantissaRadix 0 (sigDigits c.mantissaRadix n.integer n.fraction))).1,
      (powFrac c.exponentBase n.exponent
        (LexVerif.Proof.SlowBinary.valOf c.mantissaRadix 0 (sigDigits c.mantissaRadix n.integer n.fraction))).2 *
        c.mantissaRadix ^ ((sigDigits c.mantissaRadix n.integer n.fraction).length -
          (smallSetOf c.feats).u64Step c.mantissaRadix))

theorem dropWhile_head {α : Type} (p : α → Bool) : ∀ (l : List α) (d : α) (rest : List α),
    l.dropWhile p = d :: rest → p d = false
  | [], _, _, h => by simp at h
  | x :: xs, d, rest, h => by
    rw [List.dropWhile_cons] at h
    split at h
    · exact dropWhile_head p xs d rest h
    · rename_i hx
      injection h with h1 _
      rw [← h1]; simpa using hx

theorem u64Step_pow2 (feats : Features) (hp : feats.powerOfTwo = true) {r : Nat} (hr : IsPow2 r) :
    r ^ (smallSetOf feats).u64Step r ≤ 2 ^ 64 ∧ 2 ^ 64 < r ^ ((smallSetOf feats).u64Step r + 1) ∧
    2 ^ 55 ≤ r ^ ((smallSetOf feats).u64Step r - 1) ∧ 1 ≤ (smallSetOf feats).u64Step r := by
  have hS := radixSet_of_pow2 feats hp
  rcases hS with h | h <;> rw [h] <;> rcases hr with h | h | h | h | h <;> subst h <;> decide

open LexVerif.Proof.SlowBinary in
/-- `C05.slowBinary_correct` for every exponent of `ExpWide` -/
theorem slowBinary_correct_wide {F p eb} (lay : Layout F p eb) (compact : Bool) (radix : Nat)
    (hradix : IsPow2 radix) (base : Nat) (hb : IsPow2 base)
    (u64step : Nat) (hfit : radix ^ u64step ≤ 2 ^ 64) (hmax : 2 ^ 64 < radix ^ (u64step + 1))
    (e : Int) (he : ExpWide e) (integer : List Nat) (fraction : Option (List Nat))
    (hvalid : ∀ c ∈ integer ++ fraction.getD [], c < 256 ∧ Binary.digitVal c radix < radix)
    (hund : ∃ fp, Binary.binary F base
        ⟨valOf radix 0 ((sigDigits radix integer fraction).take u64step), e, false, true⟩ false = .ok fp ∧
        fp.exp < 0) :
    extendedToFloat F (Binary.slowBinary F compact radix base u64step e integer fraction) =
      roundNE F.fmt (powFrac base e (valOf radix 0 (sigDigits radix integer fraction))).1
        ((powFrac base e (valOf radix 0 (sigDigits radix integer fraction))).2 *
          radix ^ ((sigDigits radix integer fraction).length - u64step)) :=
  slowBinary_digits_correct lay compact radix hradix hb u64step hfit hmax e he integer fraction
    hvalid hund

open LexVerif.Proof.SlowBinary in
/-- **a power-of-two-radix `Number`, truncated mantissa**: a valid answer of `binary` is `roundNE` of the whole literal
(`binary_sticky_wide`); an undecided one — the first `u64_step` digits exactly half-way above an even
significand — is resolved by `slow_binary` (`slowBinary_correct_wide`). No hypothesis beyond the syntax facts `TruncPow2At`. -/
theorem numberToFloat_pow2_truncated (slow : SlowRadix) {F : FTy} (hF : IsLemireFloat F) (c : Cfg)
    (hp : c.feats.powerOfTwo = true) (hr : IsPow2 c.mantissaRadix) (hb : IsPow2 c.exponentBase)
    (n : Number) (hmany : n.manyDigits = true) (T : TruncPow2At c n) :
    numberToFloat slow c F n false = some (numberBits c F.fmt n) := by
  obtain ⟨p, eb, lay⟩ := layout_of hF
  obtain ⟨hfit, hmax, h55, hstep1⟩ := u64Step_pow2 c.feats hp hr
  have hr2 : 2 ≤ c.mantissaRadix ∧ c.mantissaRadix ≤ 36 := by
    rcases hr with h | h | h | h | h <;> rw [h] <;> omega
  have hb2 : 2 ≤ c.exponentBase := by
    rcases hb with h | h | h | h | h <;> rw [h] <;> omega
  have hp53 : p ≤ 53 := (C01SlowDomain.floatNums_of hF lay).p53
  have hfp : F.fmt.p = p := by rw [lay.fmt]
  have hlitpos := litFrac_den_pos (show 0 < c.mantissaRadix by omega) (show 0 < c.exponentBase by omega) (numberLit c n)
  obtain ⟨hexp, hvalid, hlong, hmant, hvalue⟩ := T
  generalize hstep : (smallSetOf c.feats).u64Step c.mantissaRadix = step at *
  generalize hds : sigDigits c.mantissaRadix n.integer n.fraction = ds at *
  have hdlt : ∀ d ∈ ds, d < c.mantissaRadix := by
    intro d hd
    rw [← hds] at hd
    unfold sigDigits at hd
    have := (List.dropWhile_suffix _).subset hd
    obtain ⟨x, hx, rfl⟩ := List.mem_map.mp this
    exact (hvalid x hx).2
  obtain ⟨hsplit, htail⟩ := valOf_take_drop c.mantissaRadix ds hdlt step
  rw [← hmant] at hsplit
  have hw : n.mantissa < 2 ^ 64 := by
    rw [hmant]
    have := valOf_lt c.mantissaRadix (ds.take step) (fun d hd => hdlt d (List.mem_of_mem_take hd)) 0 0
      (by simp)
    rw [List.length_take, Nat.min_eq_left (by omega), Nat.zero_add] at this
    omega
  have hw55 : 2 ^ 55 ≤ n.mantissa := by
    cases hdd : ds with
    | nil => rw [hdd] at hlong; simp at hlong
    | cons d rest =>
      have hd0 : d ≠ 0 := by
        have := dropWhile_head (· == 0) _ d rest (by rw [← hdd, ← hds]; rfl)
        simpa using this
      obtain ⟨s', hs'⟩ : ∃ s', step = s' + 1 := ⟨step - 1, by omega⟩
      rw [hmant, hdd, hs', List.take_succ_cons]
      have h1 := valOf_ge_head c.mantissaRadix d (rest.take s')
      have hl : (rest.take s').length = s' := by
        rw [List.length_take, Nat.min_eq_left]
        rw [hdd] at hlong; simp at hlong; omega
      rw [hl] at h1
      have h2 : 1 * c.mantissaRadix ^ s' ≤ d * c.mantissaRadix ^ s' := Nat.mul_le_mul_right _ (by omega)
      have h3 : step - 1 = s' := by omega
      rw [h3] at h55
      omega
  have hM0 : n.mantissa ≠ 0 := by have := Nat.two_pow_pos 55; omega
  have hmp := moderatePath_of_binary (backend_binary c.feats hp hr) F (numOf n) false
  have hpfpos : 0 < (powFrac c.exponentBase n.exponent (valOf c.mantissaRadix 0 ds)).2 *
      c.mantissaRadix ^ (ds.length - step) :=
    Nat.mul_pos (powFrac_den_pos (by omega) _ _) (Nat.pow_pos (by omega))
  have hcg := roundNE_congr' lay.wf hlitpos hpfpos hvalue
  cases hbin : Binary.binary F c.exponentBase (numOf n) false with
  | panic => exact absurd hbin (binary_no_panic _ _ _ _)
  | ok fp =>
    -- `slow_binary` reads no estimate: nothing is handed over
    refine numberToFloat_value slow hF c hr2.1 hr2.2 hb2 n (fun h => by rw [hmany] at h; cases h)
      (fun h => by rw [hmany] at h; cases h) (H := fun _ => True)
      ⟨fp, by rw [hmp, hbin], fun hv => ?_, fun _ => trivial⟩ (fun fp' hm' hinv _ => ?_)
    · have hclz : clz64 n.mantissa < 11 := by
        obtain ⟨_, _, hlt, _⟩ := LexVerif.Proof.BinaryCorrect.clz_norm hM0 hw
        have : 2 ^ 55 * 2 ^ clz64 n.mantissa < 2 ^ 55 * 2 ^ 9 := by
          calc 2 ^ 55 * 2 ^ clz64 n.mantissa ≤ n.mantissa * 2 ^ clz64 n.mantissa := Nat.mul_le_mul_right _ hw55
            _ < 2 ^ 64 := hlt
            _ = 2 ^ 55 * 2 ^ 9 := by norm_num
        have h5 := Nat.lt_of_mul_lt_mul_left this
        have := (Nat.pow_lt_pow_iff_right (by decide : 1 < 2)).mp h5
        omega
      have hcs : clz64 (numOf n).mantissa <
          shiftOf F.fmt.p (Binary.calculatePower2 F c.exponentBase (numOf n).exponent (clz64 (numOf n).mantissa)) := by
        have : 64 - F.fmt.p ≤ shiftOf F.fmt.p
            (Binary.calculatePower2 F c.exponentBase (numOf n).exponent (clz64 (numOf n).mantissa)) := by
          unfold shiftOf; split <;> omega
        have e : (numOf n).mantissa = n.mantissa := rfl
        rw [e] at this ⊢
        omega
      have hsound := LexVerif.Proof.BinaryWide.binary_sticky_wide lay hb (numOf n) false hw hexp
        (c.mantissaRadix ^ (ds.length - step)) (valOf c.mantissaRadix 0 (ds.drop step)) htail (by
          intro h; have e : (numOf n).manyDigits = true := hmany; rw [e] at h; simp at h)
        hM0 (fun _ => hfp ▸ hcs) hbin hv
      have e2 : (numOf n).mantissa * c.mantissaRadix ^ (ds.length - step) + valOf c.mantissaRadix 0 (ds.drop step) =
          valOf c.mantissaRadix 0 ds := hsplit.symm
      have e3 : (numOf n).exponent = n.exponent := rfl
      rw [e2, e3, ← hcg] at hsound
      exact hsound
    · rw [hmp, hbin] at hm'
      obtain rfl := AlgoRes.ok.inj hm'
      have hsp : slowPath slow c F n { fp with exp := fp.exp - invalidFp } =
          Binary.slowBinary F c.feats.compact c.mantissaRadix c.exponentBase step n.exponent n.integer n.fraction := by
        unfold slowPath
        have h2 : isPowerTwo c.mantissaRadix = true := by
          rcases hr with h | h | h | h | h <;> rw [h] <;> decide
        rw [hp, h2, hstep]
        simp
      have hslow := slowBinary_correct_wide lay c.feats.compact c.mantissaRadix hr c.exponentBase hb step hfit hmax
        n.exponent hexp n.integer n.fraction hvalid (by
          rw [hds, ← hmant]
          refine ⟨fp, ?_, hinv⟩
          rw [← binary_sign F c.exponentBase n.mantissa n.exponent n.isNegative true false]
          have e : numOf n = ⟨n.mantissa, n.exponent, n.isNegative, true⟩ := by unfold numOf; rw [hmany]
          rw [← e]; exact hbin)
      rw [hds, ← hcg] at hslow
      rw [hsp]
      exact hslow

inductive RadixClass (c : Cfg) : Prop
  | pow2 (hp : c.feats.powerOfTwo = true) (hr : IsPow2 c.mantissaRadix) (hb : IsPow2 c.exponentBase)
  | generic (G : GenericClass c)

/-- what the syntax layer owes for one `Number` of a non-decimal radix (the analogue of
`C01Number.number_exact_of_syntax` / `number_truncated_of_syntax`; proved in `Props.C05Syntax`):
untruncated — exact words (power-of-two radices: with an exponent inside `±2^59`, `ExpWide`); truncated, power-of-two radix — `TruncPow2At`; truncated,
generic radix — a mantissa word of at least 55 bits and the value of all the digits in `[w, w+1)·radix^exponent` -/
def SyntaxFacts (c : Cfg) (n : Number) : Prop :=
  (n.manyDigits = false → NumberExactAt c n ∧ (IsPow2 c.mantissaRadix → ExpWide n.exponent)) ∧
  (n.manyDigits = true → IsPow2 c.mantissaRadix → TruncPow2At c n) ∧
  (n.manyDigits = true → GenericClass c → n.mantissa < 2 ^ 64 ∧ 2 ^ 54 ≤ n.mantissa ∧
    (c.mantissaRadix ≠ 31 → 2 ^ 55 ≤ n.mantissa) ∧
    TrueValue c.mantissaRadix (numOf n) (litFrac c.mantissaRadix c.exponentBase (numberLit c n)).1
      (litFrac c.mantissaRadix c.exponentBase (numberLit c n)).2)

/-- what `slow_radix` owes for one `Number` of a generic radix: called with the un-biased estimate of an invalid-marked
answer of `bellerophon` that brackets the value of the digits, it returns the nearest float -/
def SlowFacts (slow : SlowRadix) (c : Cfg) (F : FTy) (n : Number) : Prop :=
  ∀ fp, moderatePath c F (numOf n) false = .ok fp → fp.exp < 0 →
    Bracket F fp (litFrac c.mantissaRadix c.exponentBase (numberLit c n)).1
      (litFrac c.mantissaRadix c.exponentBase (numberLit c n)).2 →
    extendedToFloat F (slow c F n { fp with exp := fp.exp - invalidFp }) =
      roundNE F.fmt (litFrac c.mantissaRadix c.exponentBase (numberLit c n)).1
        (litFrac c.mantissaRadix c.exponentBase (numberLit c n)).2

/-- **C05, one `Number`**: every radix class, truncated or not -/
theorem numberToFloat_radix (slow : SlowRadix) {F : FTy} (hF : IsLemireFloat F) (c : Cfg) (R : RadixClass c)
    (n : Number) (hsyn : SyntaxFacts c n) (hslow : GenericClass c → SlowFacts slow c F n)
    (h31 : c.mantissaRadix = 31 → F = FTy.f64 → n.manyDigits = true → 2 ^ 55 ≤ n.mantissa) :
    numberToFloat slow c F n false = some (numberBits c F.fmt n) := by
  obtain ⟨s1, s2, s3⟩ := hsyn
  cases hmany : n.manyDigits with
  | false =>
    obtain ⟨hx, he⟩ := s1 hmany
    rcases R with ⟨hp, hr, hb⟩ | ⟨G⟩
    · have hr2 : 2 ≤ c.mantissaRadix ∧ c.mantissaRadix ≤ 36 := by
        rcases hr with h | h | h | h | h <;> rw [h] <;> omega
      have hb2 : 2 ≤ c.exponentBase := by
        rcases hb with h | h | h | h | h <;> rw [h] <;> omega
      rw [pipeline_binary_wide slow hF c hp hr hb n hmany hx.1 (he hr) hx.2.2]
      rw [(spec_forms hF c hr2.1 hr2.2 hb2 n hmany hx.2.2).2]
    · obtain ⟨_, _, h2, _⟩ := generic_not_pow2 G.mem
      exact numberToFloat_generic slow hF c G n (fun _ => hx.2.2)
        ((moderateContract_bell hF c G n hmany hx.1).ok hF h2 (by rw [G.base]; exact h2) hx.2.2) (hslow G)
  | true =>
    rcases R with ⟨hp, hr, hb⟩ | ⟨G⟩
    · exact numberToFloat_pow2_truncated slow hF c hp hr hb n hmany (s2 hmany hr)
    · obtain ⟨hw, hw54, hw55, htv⟩ := s3 hmany G
      exact numberToFloat_generic_truncated hF slow c G n hmany hw hw54 (fun hf => by
        by_cases h : c.mantissaRadix = 31
        · exact h31 h hf hmany
        · exact hw55 h) htv (hslow G)

/-- **`C05_radix_main`** — API level: for every radix class (power-of-two radices with every supported exponent base;
the 29 generic radices of `radix` builds, `compact` or not), `f32`/`f64`, complete and partial parser, the pipeline with
the modelled slow path prints what the specification prints (`Spec.litBits` with radix / base). Residual hypotheses,
per `Number` the input produces: `hsyn` (`SyntaxFacts`, the syntax layer for non-decimal radices) and, for generic radices
only, `hslow` (`SlowFacts`: `digit_comp` / `byte_comp` on the bracketing estimate). Power-of-two radices need `hsyn` only. -/
theorem C05_radix_main (feats : Features) (fmt : Format) (R : RadixClass ⟨feats, fmt, false⟩)
    (o : POpts) {F : FTy} (hF : IsLemireFloat F) (isPartial : Bool) (s : List Nat)
    (hsyn : ∀ n cnt, parseFloatSyntax ⟨feats, fmt, false⟩ o isPartial s (formatError feats fmt).isNone =
      .ok (.number n cnt) → SyntaxFacts ⟨feats, fmt, false⟩ n)
    (hslow : ∀ n cnt, parseFloatSyntax ⟨feats, fmt, false⟩ o isPartial s (formatError feats fmt).isNone =
      .ok (.number n cnt) → GenericClass ⟨feats, fmt, false⟩ → SlowFacts slowModel ⟨feats, fmt, false⟩ F n)
    (h31 : fmt.mantissaRadix = 31 → F = FTy.f64 → ∀ n cnt, parseFloatSyntax ⟨feats, fmt, false⟩ o isPartial s
      (formatError feats fmt).isNone = .ok (.number n cnt) → n.manyDigits = true → 2 ^ 55 ≤ n.mantissa) :
    parseFloatAlgoModel slowModel feats fmt o isPartial F s = parseFloatModel feats fmt o isPartial F.fmt s := by
  apply parseFloatAlgoModel_eq_valid
  intro _ n cnt hp
  exact numberToFloat_radix slowModel hF ⟨feats, fmt, false⟩ R n (hsyn n cnt hp) (hslow n cnt hp)
    (fun h hf => h31 h hf n cnt hp)

/-- **the full statement** (a `Prop`): the same without residual hypotheses, for the separator-free format classes of C12
and inputs of bytes shorter than `2^60`. `Props.C05Syntax` discharges `SyntaxFacts` (`C05_generic_main`: `SlowFacts` left;
`C05_pow2_main`: nothing left, for inputs shorter than `2^54` bytes). -/
def C05_radix_full : Prop :=
  ∀ (feats : Features) (fmt : Format), RadixClass ⟨feats, fmt, false⟩ →
    (feats.format = false ∨ C12.SepPrefixFree fmt) →
    ∀ (o : POpts) (F : FTy), IsLemireFloat F → ∀ (isPartial : Bool) (s : List Nat),
      (∀ x ∈ s, x < 256) → s.length < 2 ^ 60 →
      parseFloatAlgoModel slowModel feats fmt o isPartial F s = parseFloatModel feats fmt o isPartial F.fmt s

/-- non-vacuity of the class: hexadecimal with a binary exponent -/
example : RadixClass ⟨{ powerOfTwo := true }, ⟨0x0a02100000000000000000000000000c⟩, false⟩ :=
  .pow2 rfl (by unfold IsPow2; decide) (by unfold IsPow2; decide)

end LexVerif.Props.C05Final
