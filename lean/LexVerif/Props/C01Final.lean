import LexVerif.Props.C01Compact
import LexVerif.Props.C01Number
import LexVerif.Proof.ComposeBell
/-!
# Props.C01Final — C01 with Eisel–Lemire proved and the slow path modelled

The three named hypotheses of `Props.C01Main.C01_main` are discharged:
* `lemire_sound` by `Props.C01.lemire_sound_proved` (every exponent, every mantissa; valid answers are `roundNE`,
  invalid-marked ones bracket the value);
* `SlowPathCorrect slow` by the model of the real code, `Props.C01SlowMain.slowModel`, proved in `Props.C01Slow` on its
  domain `SlowDomain`; what Eisel–Lemire hands to it is characterised by `lemire_estimate_facts` (normalised mantissa,
  un-biased exponent within `±4096`, the bracket), and `SlowDomain` is derived from that;
* `NumberExact` by `Props.C01Number.number_exact_of_syntax` / `number_truncated_of_syntax`.

Per `Number`, everything is an instance of `C01Main.numberToFloat_value`: Eisel–Lemire (`moderateOK_lemire`) resp.
Bellerophon with the compact tables (`moderateOK_compact`) meets the moderate path's contract for the digit content,
exact or truncated, and hands the slow path an estimate of it from inside the table (`Compose.HandOff`); for a `Number`
that reads its digit slices (`C01Number.Reads`) such an estimate lies in the domain of the slow-path model, which resolves
it (`slowModel_resolves`) — `numberToFloat_decimal_of`, whichever algorithm; `numberToFloat_decimal`,
`numberToFloat_decimal_compact` per build.

`C01_main_slow` / `C01_main_decided` take `NumberExact` and a `SlowDomain` resp. "decides"
hypothesis. **`C01_decimal_correct_slow`** takes none: every input of a non-`compact` decimal build, any number of digits
(`Props.C01Trunc`: what `lemire` hands to the slow path for a truncated mantissa; `Props.C01Slow`:
`truncation_invariant_proved`, the `b = +∞` case). `C01_decimal_correct` and `C01_decimal_correct_all` are instances of it
with a hypothesis they do not need. `C01_decimal_correct_compact` is the same for `compact` builds (`Props.C01Compact`:
Bellerophon's two-sided estimate); together **`C01_decimal_full_proved`**: every build.
-/
namespace LexVerif.Props.C01Final
open LexVerif.Spec LexVerif.Model LexVerif.Model.ParseFloatAlgo
open LexVerif.Proof.RoundNE LexVerif.Proof.ExtRound LexVerif.Proof.Pipeline LexVerif.Proof.Compose LexVerif.Proof.Bell
open LexVerif.Props.C01 (IsLemireFloat IsI64 Bracket)
open LexVerif.Props.C01Main LexVerif.Props.C01SlowMain LexVerif.Props.C01SlowDomain LexVerif.Proof.Slow

theorem hden_of {F : FTy} (hF : IsLemireFloat F) : F.C.denormalExponent = 1 - F.C.exponentBias := by
  rcases hF with h | h <;> subst h <;> decide

open LexVerif.Proof.Lemire in
/-- **Eisel–Lemire meets the moderate path's contract**, decimal, any mantissa, for every value the words stand for.
Untruncated: `lemire_sound_proved`. Truncated (a word of 19 digits, `≥ 10^18`): the wrapper answers; a valid answer is the
rounding of every value in `[w, w+1]·10^q` (`lemire_wrapper_all`). An invalid-marked answer, either way, is a 4-unit
estimate of `w·10^q` from inside the table (`lemire_invalid_estOK`, `C01Trunc.lemire_truncated`), which is what
`lemire_handOff` takes (every 19-digit word is large enough for the widening). -/
theorem moderateOK_lemire {F : FTy} (hF : IsLemireFloat F) {p eb : Nat} (lay : Layout F p eb) (c : Cfg)
    (hcompact : c.feats.compact = false) (hr : c.mantissaRadix = 10) (n : Number) (hw64 : n.mantissa < 2 ^ 64)
    (hq : IsI64 n.exponent) (hlow : n.manyDigits = true → 10 ^ 18 ≤ n.mantissa ∧ n.mantissa + 1 < 2 ^ 64)
    (num den : Nat) (hd : 0 < den) (htv : TrueValue 10 (numOf n) num den) :
    ModerateOK c F n num den (HandOff F p (numOf n)) := by
  have hpd := powFrac_den_pos (show 0 < 10 by decide) n.exponent n.mantissa
  have same : ∀ {p' eb'}, Layout F p' eb' → p' = p := fun lay' => by
    have := lay'.fmt.symm.trans lay.fmt
    injection this
  rw [ModerateOK, moderatePath_lemire c hcompact hr]
  cases hmany : n.manyDigits with
  | false =>
    obtain ⟨fp, h1, h2, _⟩ := C01.lemire_sound_proved F hF n.exponent n.mantissa hq hw64
    refine ⟨fp, by rw [lemire_untruncated F (numOf n) hmany]; exact h1, fun hv => ?_, fun hinv => ?_⟩
    · rw [h2 hv]
      exact roundNE_congr' lay.wf hpd hd ((trueValue_iff_exact (n := numOf n) hmany num den).mp htv)
    · obtain ⟨w0, q1, q2⟩ := lemire_invalid_range hF h1 hinv
      obtain ⟨p', eb', lay', hest⟩ := C01.lemire_invalid_estOK F hF n.exponent n.mantissa fp hw64 h1 hinv
      obtain rfl := same lay'
      exact lemire_handOff hF lay (numOf n) w0 q1 q2 hest (fun h => absurd (hmany ▸ h : false = true) (by decide))
  | true =>
    obtain ⟨hw1, hw⟩ := hlow hmany
    have hnum : numOf n = ⟨n.mantissa, n.exponent, n.isNegative, true⟩ := by unfold numOf; rw [hmany]
    obtain ⟨fp, hm, hfacts⟩ := C01Trunc.lemire_truncated F hF n.exponent n.mantissa n.isNegative (by omega) hw
    refine ⟨fp, by rw [hnum]; exact hm, fun hv => ?_, fun hinv => ?_⟩
    · obtain ⟨t1, t2, _⟩ := htv.truncated hmany
      exact C01.lemire_wrapper_all F hF n.exponent hq n.mantissa n.isNegative hw hm hv _ _ hd t1 (Nat.le_of_lt t2)
    · obtain ⟨q1, q2, p', eb', lay', hest⟩ := hfacts hinv
      obtain rfl := same lay'
      have h18 : (2 : Nat) ^ 64 + 4 ≤ 36 * 10 ^ 18 := by decide
      have := hest.2.1
      exact lemire_handOff hF lay (numOf n) (by show n.mantissa ≠ 0; omega) q1 q2 hest
        (fun _ => by show fp.mant + 4 ≤ 36 * n.mantissa; omega)

/-- on its domain the slow-path model resolves a bracketing estimate (`slowModel_hslow`), and `slow_path` calls it -/
theorem slowModel_resolves {F : FTy} (hF : IsLemireFloat F) {p eb : Nat} (lay : Layout F p eb) (c : Cfg)
    (hb : 0 < c.exponentBase) (n : Number) (fp : ExtendedFloat80) {d : Nat}
    (D : SlowDomain c F p n { fp with exp := fp.exp - invalidFp } d)
    (hbr : Bracket F fp (valueOf c n).1 (valueOf c n).2) :
    extendedToFloat F (slowPath slowModel c F n { fp with exp := fp.exp - invalidFp }) =
      roundNE F.fmt (valueOf c n).1 (valueOf c n).2 := by
  rw [slowPath_generic slowModel c D.env]
  exact slowModel_hslow hF lay (hden_of hF) hb n fp D hbr

/-- **`C01_main_slow`** — API level: `NumberExact` is the only named hypothesis left; the slow path is the model.
(`NumberExact` is not instantiated anywhere: `C01_decimal_correct_slow` uses `C01Number.number_exact_of_syntax`, which
has two side conditions more.) -/
theorem C01_main_slow (hN : NumberExact) (feats : Features) (hcompact : feats.compact = false) (fmt : Format)
    (hr : fmt.mantissaRadix = 10) (hb : fmt.exponentBase = 10)
    (hclass : feats.format = false ∨ C12.SepPrefixFree fmt)
    (o : POpts) {F : FTy} (hF : IsLemireFloat F) (isPartial : Bool) (s : List Nat)
    (hfew : ∀ n cnt, parseFloatSyntax ⟨feats, fmt, false⟩ o isPartial s (formatError feats fmt).isNone =
      .ok (.number n cnt) → n.manyDigits = false)
    (hdom : ∀ n cnt, parseFloatSyntax ⟨feats, fmt, false⟩ o isPartial s (formatError feats fmt).isNone =
      .ok (.number n cnt) → ∀ fp, Lemire.computeFloat F n.exponent n.mantissa false = .ok fp → fp.exp < 0 →
      2 ^ 63 ≤ fp.mant → fp.mant < 2 ^ 64 → -(4096 : Int) ≤ fp.exp - invalidFp → fp.exp - invalidFp ≤ 4096 →
      ∀ {p eb : Nat}, Layout F p eb →
        ∃ d, SlowDomain ⟨feats, fmt, false⟩ F p n { fp with exp := fp.exp - invalidFp } d) :
    parseFloatAlgoModel slowModel feats fmt o isPartial F s = parseFloatModel feats fmt o isPartial F.fmt s := by
  apply parseFloatAlgoModel_eq
  intro n cnt hp
  have hmany := hfew n cnt hp
  have hx := hN ⟨feats, fmt, false⟩ o isPartial s _ n cnt rfl hclass hr hb hp hmany
  have hr' : (⟨feats, fmt, false⟩ : Cfg).mantissaRadix = 10 := hr
  have hb' : (⟨feats, fmt, false⟩ : Cfg).exponentBase = 10 := hb
  obtain ⟨p, eb, lay⟩ := layout_of hF
  apply numberToFloat_value slowModel hF ⟨feats, fmt, false⟩ (by omega) (by omega) (by omega) n (fun _ => hx.2.2)
    (fun _ => fastContract_decimal hF ⟨feats, fmt, false⟩ hr n)
    ((moderateContract_lemire C01.lemire_sound_proved hF ⟨feats, fmt, false⟩ hcompact hr hb n hmany hx.1 hx.2.1).ok hF (by omega) (by omega)
      hx.2.2)
  -- every estimate `compute_float` hands over is normalised, with an exponent within `±4096` (`lemire_estimate_facts`)
  intro fp hm hinv hbr
  rw [moderatePath_computeFloat _ hcompact hr' F n hmany] at hm
  obtain ⟨f1, f2, f3, f4, _⟩ := C01.lemire_estimate_facts F hF n.exponent n.mantissa fp hx.1 hm hinv
  obtain ⟨d, D⟩ := hdom n cnt hp fp hm hinv f1 f2 f3 f4 lay
  exact slowModel_resolves hF lay ⟨feats, fmt, false⟩ (by omega) n fp D hbr

/-- the inputs Eisel–Lemire decides need no slow path at all: `NumberExact` alone -/
theorem C01_main_decided (hN : NumberExact) (feats : Features) (hcompact : feats.compact = false) (fmt : Format)
    (hr : fmt.mantissaRadix = 10) (hb : fmt.exponentBase = 10)
    (hclass : feats.format = false ∨ C12.SepPrefixFree fmt)
    (o : POpts) {F : FTy} (hF : IsLemireFloat F) (isPartial : Bool) (s : List Nat) (slow : SlowRadix)
    (hfew : ∀ n cnt, parseFloatSyntax ⟨feats, fmt, false⟩ o isPartial s (formatError feats fmt).isNone =
      .ok (.number n cnt) → n.manyDigits = false)
    (hdec : ∀ n cnt, parseFloatSyntax ⟨feats, fmt, false⟩ o isPartial s (formatError feats fmt).isNone =
      .ok (.number n cnt) → ∀ fp, Lemire.computeFloat F n.exponent n.mantissa false = .ok fp → 0 ≤ fp.exp) :
    parseFloatAlgoModel slow feats fmt o isPartial F s = parseFloatModel feats fmt o isPartial F.fmt s := by
  apply parseFloatAlgoModel_eq
  intro n cnt hp
  have hmany := hfew n cnt hp
  have hx := hN ⟨feats, fmt, false⟩ o isPartial s _ n cnt rfl hclass hr hb hp hmany
  obtain ⟨hw, hq, hre⟩ := hx
  have hr' : (⟨feats, fmt, false⟩ : Cfg).mantissaRadix = 10 := hr
  have hb' : (⟨feats, fmt, false⟩ : Cfg).exponentBase = 10 := hb
  obtain ⟨fp, hm, hvalid, _⟩ := moderateContract_lemire C01.lemire_sound_proved hF ⟨feats, fmt, false⟩ hcompact hr hb n hmany hw hq
  have hv := hdec n cnt hp fp (by rw [← moderatePath_computeFloat _ hcompact hr' F n hmany]; exact hm)
  rw [numberToFloat_decided slow hF ⟨feats, fmt, false⟩ (by omega) (by omega) (by omega) n hmany hre
    (fastContract_decimal hF ⟨feats, fmt, false⟩ hr n) hm hv (hvalid hv)]
  rw [(spec_forms hF ⟨feats, fmt, false⟩ (by omega) (by omega) (by omega) n hmany hre).2]

theorem dp_not_digit (feats : Features) (fmt : Format) (o : POpts) (hr : 10 ≤ fmt.mantissaRadix)
    (hv : isValidOptionsPunctuation feats fmt o.exp o.dp = true) : charToDigit o.dp 10 = none :=
  C01Number.dp_not_digit_le feats fmt o hv 10 hr

/-- `hdec` as a Boolean -/
def wrapperDecides (F : FTy) (n : Num) : Bool :=
  match Lemire.lemire F n false with
  | .ok fp => decide (0 ≤ fp.exp)
  | _ => false

theorem wrapperDecides_spec (F : FTy) (n : Num) (h : wrapperDecides F n = true) :
    ∃ fp, Lemire.lemire F n false = .ok fp ∧ 0 ≤ fp.exp := by
  unfold wrapperDecides at h
  split at h
  · rename_i fp hfp
    exact ⟨fp, hfp, by simpa using h⟩
  · cases h

/-- non-vacuity of `hdec`: the words of a truncated input (`1.234567890123456789…`) on which the wrapper decides -/
example : ∃ fp, Lemire.lemire FTy.f64 ⟨1234567890123456789, -18, false, true⟩ false = .ok fp ∧ 0 ≤ fp.exp :=
  wrapperDecides_spec _ _ (by decide +kernel)

/-- **one decimal `Number` of the syntax pass, any number of digits, whichever algorithm the moderate path is**: the words
read the digit slices (`C01Number.Reads`), so the digit content is a true value of them (`C01Trunc.reads_tv`); if the
moderate path meets its contract for it and hands an estimate to the slow path (`HandOff`), the estimate lies in the domain
of the slow-path model (`C01Trunc.slowDomain_reads`: normalisation, exponent range, both capacity guards of the big-integer
code, all derived) and brackets the value, so the model resolves it -/
theorem numberToFloat_decimal_of {F : FTy} (hF : IsLemireFloat F) {p eb : Nat} (lay : Layout F p eb) (c : Cfg)
    (hr : c.mantissaRadix = 10) (hb : c.exponentBase = 10) {len : Nat} (n : Number) (R : C01Number.Reads c 10 19 1 len n)
    (hmod : ∀ num den, 0 < den → TrueValue 10 (numOf n) num den → ModerateOK c F n num den (HandOff F p (numOf n))) :
    numberToFloat slowModel c F n false = some (numberBits c F.fmt n) := by
  have hd := valueOf_den_pos c (by omega) (by omega) n
  have htv := C01Trunc.reads_tv R (by decide) hr hb
  apply numberToFloat_value slowModel hF c (by omega) (by omega) (by omega) n (fun h => (R.exact h).1.2.2)
    (fun _ => fastContract_decimal hF c hr n) (hmod _ _ hd htv)
  intro fp _ _ H
  obtain ⟨d, D⟩ := C01Trunc.slowDomain_reads hF lay c hr hb n R H
  exact slowModel_resolves hF lay c (by omega) n fp D (H.bracket lay hd htv)

theorem numberToFloat_decimal {F : FTy} (hF : IsLemireFloat F) (c : Cfg) (hcompact : c.feats.compact = false)
    (hr : c.mantissaRadix = 10) (hb : c.exponentBase = 10) {len : Nat} (hlen : len < 2 ^ 60) (n : Number)
    (R : C01Number.Reads c 10 19 1 len n) :
    numberToFloat slowModel c F n false = some (numberBits c F.fmt n) := by
  obtain ⟨p, eb, lay⟩ := layout_of hF
  have h19 := pow10_19
  exact numberToFloat_decimal_of hF lay c hr hb n R
    (moderateOK_lemire hF lay c hcompact hr n (R.w64 (by decide)) (R.isI64 (by decide) hlen)
      (fun h => ⟨(R.trunc h).2.2.2.1, by have := (R.trunc h).2.2.2.2.1; omega⟩))

/-- **`C01_decimal_correct_slow`** — decimal string→float is correctly rounded for **every** input of a non-`compact`
build: any number of digits, truncated mantissas whether or not the two-pass wrapper decides; radix 10, separator-free
format class, `f32`/`f64`, complete and partial parser, inputs shorter than `2^60` bytes.
`parseFloatAlgoModel slowModel` — syntax → `try_fast_path` → `lemire` (both passes, `compute_error`) → `slow_radix`
(`parse_mantissa` with its digit limit, `positive_digit_comp` / `negative_digit_comp`, big-integer arithmetic with its
capacity checks) → `to_native` — prints exactly what the specification prints: `Spec.litBits` of the digit content, the
same count, the same errors. **No residual hypothesis.** -/
theorem C01_decimal_correct_slow (feats : Features) (hcompact : feats.compact = false) (fmt : Format)
    (hr : fmt.mantissaRadix = 10) (hb : fmt.exponentBase = 10)
    (hclass : feats.format = false ∨ C12.SepPrefixFree fmt)
    (o : POpts) {F : FTy} (hF : IsLemireFloat F) (isPartial : Bool) (s : List Nat)
    (h256 : ∀ x ∈ s, x < 256) (hlen : s.length < 2 ^ 60) :
    parseFloatAlgoModel slowModel feats fmt o isPartial F s = parseFloatModel feats fmt o isPartial F.fmt s := by
  apply parseFloatAlgoModel_eq_valid
  intro hval n cnt hp
  exact numberToFloat_decimal hF ⟨feats, fmt, false⟩ hcompact hr hb hlen n
    (C01Number.reads_decimal ⟨feats, fmt, false⟩ rfl hclass hr hb o (dp_not_digit feats fmt o (by omega) hval) isPartial s _
      h256 hlen n cnt hp)

/-- **`C01_decimal_correct`** — decimal string→float is correctly rounded, API level, pipeline with the **modelled** slow
path, Eisel–Lemire **proved**, the syntax layer's `Number` **proved** exact: for every non-`compact` build, every decimal
format without digit separator and base prefix (every format when the `format` feature is off), all options, complete
and partial parser, float type `f32`/`f64`, and every input of bytes (shorter than `2^60`) whose `Number` is untruncated
(`many_digits = false`, i.e. at most 19 significant digits),
`parseFloatAlgoModel slowModel` — syntax → `try_fast_path` → `lemire` → `slow_radix` → `to_native` — prints exactly what
the specification model prints: `Spec.litBits` of the digit content (the nearest float, ties to even, overflow to
infinity, gradual underflow), the same count, the same errors. **No named hypothesis is left.** The restriction `hfew`
is not used: this is `C01_decimal_correct_slow`. -/
theorem C01_decimal_correct (feats : Features) (hcompact : feats.compact = false) (fmt : Format)
    (hr : fmt.mantissaRadix = 10) (hb : fmt.exponentBase = 10)
    (hclass : feats.format = false ∨ C12.SepPrefixFree fmt)
    (o : POpts) {F : FTy} (hF : IsLemireFloat F) (isPartial : Bool) (s : List Nat)
    (h256 : ∀ x ∈ s, x < 256) (hlen : s.length < 2 ^ 60)
    (hfew : ∀ n cnt, parseFloatSyntax ⟨feats, fmt, false⟩ o isPartial s (formatError feats fmt).isNone =
      .ok (.number n cnt) → n.manyDigits = false) :
    parseFloatAlgoModel slowModel feats fmt o isPartial F s = parseFloatModel feats fmt o isPartial F.fmt s :=
  C01_decimal_correct_slow feats hcompact fmt hr hb hclass o hF isPartial s h256 hlen

/-- **`C01_decimal_correct_all`** — the decimal theorem for **every** input, truncated mantissas included, with the one
residual hypothesis listed explicitly: `hdec` — on a truncated `Number` (more than 19 significant digits) the two-pass wrapper
of Eisel–Lemire answers validly (both `w` and `w+1` round to the same float), i.e. the slow path is not consulted. `hdec`
is a decidable statement about the input (evaluate `Lemire.lemire`); it fails only for inputs within `10^-19` relative distance
of a rounding boundary. `hdec` is not used: this is `C01_decimal_correct_slow`. -/
theorem C01_decimal_correct_all (feats : Features) (hcompact : feats.compact = false) (fmt : Format)
    (hr : fmt.mantissaRadix = 10) (hb : fmt.exponentBase = 10)
    (hclass : feats.format = false ∨ C12.SepPrefixFree fmt)
    (o : POpts) {F : FTy} (hF : IsLemireFloat F) (isPartial : Bool) (s : List Nat)
    (h256 : ∀ x ∈ s, x < 256) (hlen : s.length < 2 ^ 60)
    (hdec : ∀ n cnt, parseFloatSyntax ⟨feats, fmt, false⟩ o isPartial s (formatError feats fmt).isNone =
      .ok (.number n cnt) → n.manyDigits = true →
      ∃ fp, Lemire.lemire F (numOf n) false = .ok fp ∧ 0 ≤ fp.exp) :
    parseFloatAlgoModel slowModel feats fmt o isPartial F s = parseFloatModel feats fmt o isPartial F.fmt s :=
  C01_decimal_correct_slow feats hcompact fmt hr hb hclass o hF isPartial s h256 hlen

/-- non-vacuity: the standard format of the default build satisfies every hypothesis -/
example (s : List Nat) (h256 : ∀ x ∈ s, x < 256) (hlen : s.length < 2 ^ 60) :
    parseFloatAlgoModel slowModel {} Format.standard {} false FTy.f64 s =
      parseFloatModel {} Format.standard {} false f64 s :=
  C01_decimal_correct_slow {} rfl Format.standard rfl rfl (Or.inl rfl) {} (Or.inl rfl) false s h256 hlen

/-- the pipeline on 30-digit literals around the half-way point `2^53 + 1` (truncated mantissa, the wrapper does not
decide, `negative_digit_comp` does): just above rounds up, exactly half-way and just below round to even -/
example :
    parseFloatAlgoModel slowModel {} Format.standard {} false FTy.f64
      (C01Slow.bytesOf "9007199254740993.00000000000001") = "ok 4340000000000001 -" ∧
    parseFloatAlgoModel slowModel {} Format.standard {} false FTy.f64
      (C01Slow.bytesOf "9007199254740993.00000000000000") = "ok 4340000000000000 -" ∧
    parseFloatAlgoModel slowModel {} Format.standard {} false FTy.f64
      (C01Slow.bytesOf "9007199254740992.99999999999999") = "ok 4340000000000000 -" := by decide +kernel

open LexVerif.Props.C01Compact in
theorem moderatePath_compact (c : Cfg) (hcompact : c.feats.compact = true) (hr : c.mantissaRadix = 10) (F : FTy)
    (n : Num) : moderatePath c F n false = Bellerophon.bellerophon F compactP n false := by
  rw [moderatePath_of_bellerophon (by rw [hr]; exact backend_bellerophon_compact _ hcompact), hr]
  unfold Bellerophon.powersOf
  rw [hcompact]
  rfl

open LexVerif.Props.C01Compact in
/-- **Bellerophon with the compact decimal table meets the moderate path's contract**: a valid answer is right
(`bellerophon_sound`); what an invalid-marked one hands over: `bell_handOff` -/
theorem moderateOK_compact {F : FTy} (hF : IsLemireFloat F) {p eb : Nat} (lay : Layout F p eb) (c : Cfg)
    (hcompact : c.feats.compact = true) (hr : c.mantissaRadix = 10) (n : Number) (hw : n.mantissa < 2 ^ 64)
    (hlow : n.manyDigits = true → 10 ^ 18 ≤ n.mantissa)
    (num den : Nat) (hd : 0 < den) (htv : TrueValue 10 (numOf n) num den) :
    ModerateOK c F n num den (HandOff F p (numOf n)) := by
  have h59 : n.manyDigits = true → 2 ^ 59 ≤ n.mantissa := fun h =>
    Nat.le_trans (by decide : (2 : Nat) ^ 59 ≤ 10 ^ 18) (hlow h)
  rw [ModerateOK, moderatePath_compact c hcompact hr]
  cases hbel : Bellerophon.bellerophon F compactP (numOf n) false with
  | panic => exact absurd hbel (C01.bellerophon_no_panic F (numOf n) false)
  | ok fp =>
    refine ⟨fp, rfl, fun hv => ?_, fun hinv => ?_⟩
    · exact C01.bellerophon_sound F hF (numOf n) hw
        (fun h => Nat.le_trans (by decide : (2 : Nat) ^ 44 ≤ 2 ^ 59) (h59 h)) num den hd htv hbel hv
    · exact bell_handOff hF lay (numOf n) hw h59 hbel hinv

theorem numberToFloat_decimal_compact {F : FTy} (hF : IsLemireFloat F) (c : Cfg) (hcompact : c.feats.compact = true)
    (hr : c.mantissaRadix = 10) (hb : c.exponentBase = 10) {len : Nat} (n : Number)
    (R : C01Number.Reads c 10 19 1 len n) :
    numberToFloat slowModel c F n false = some (numberBits c F.fmt n) := by
  obtain ⟨p, eb, lay⟩ := layout_of hF
  exact numberToFloat_decimal_of hF lay c hr hb n R
    (moderateOK_compact hF lay c hcompact hr n (R.w64 (by decide)) (fun h => (R.trunc h).2.2.2.1))

/-- **`C01_decimal_correct_compact`** — the decimal theorem for `compact` builds: every input, any number of digits, no
residual hypothesis; the moderate path is Bellerophon -/
theorem C01_decimal_correct_compact (feats : Features) (hcompact : feats.compact = true) (fmt : Format)
    (hr : fmt.mantissaRadix = 10) (hb : fmt.exponentBase = 10)
    (hclass : feats.format = false ∨ C12.SepPrefixFree fmt)
    (o : POpts) {F : FTy} (hF : IsLemireFloat F) (isPartial : Bool) (s : List Nat)
    (h256 : ∀ x ∈ s, x < 256) (hlen : s.length < 2 ^ 60) :
    parseFloatAlgoModel slowModel feats fmt o isPartial F s = parseFloatModel feats fmt o isPartial F.fmt s := by
  apply parseFloatAlgoModel_eq_valid
  intro hval n cnt hp
  exact numberToFloat_decimal_compact hF ⟨feats, fmt, false⟩ hcompact hr hb n
    (C01Number.reads_decimal ⟨feats, fmt, false⟩ rfl hclass hr hb o (dp_not_digit feats fmt o (by omega) hval) isPartial s _
      h256 hlen n cnt hp)

/-- **the full statement** (a `Prop`; proved: `C01_decimal_full_proved`): decimal string→float is correctly
rounded for **every** build (`compact` or not, any other feature), every separator-free format class of C12, `f32`/`f64`,
complete and partial parser, every input shorter than `2^60` bytes -/
def C01_decimal_full : Prop :=
  ∀ (feats : Features) (fmt : Format), fmt.mantissaRadix = 10 → fmt.exponentBase = 10 →
    (feats.format = false ∨ C12.SepPrefixFree fmt) →
    ∀ (o : POpts) (F : FTy), IsLemireFloat F → ∀ (isPartial : Bool) (s : List Nat),
      (∀ x ∈ s, x < 256) → s.length < 2 ^ 60 →
      parseFloatAlgoModel slowModel feats fmt o isPartial F s = parseFloatModel feats fmt o isPartial F.fmt s

/-- **`C01_decimal_full` holds**: Eisel–Lemire builds by `C01_decimal_correct_slow`, `compact` builds by
`C01_decimal_correct_compact` -/
theorem C01_decimal_full_proved : C01_decimal_full := by
  intro feats fmt hr hb hclass o F hF isPartial s h256 hlen
  cases hc : feats.compact with
  | false => exact C01_decimal_correct_slow feats hc fmt hr hb hclass o hF isPartial s h256 hlen
  | true => exact C01_decimal_correct_compact feats hc fmt hr hb hclass o hF isPartial s h256 hlen

/-- non-vacuity for a `compact` build -/
example (s : List Nat) (h256 : ∀ x ∈ s, x < 256) (hlen : s.length < 2 ^ 60) :
    parseFloatAlgoModel slowModel { compact := true } Format.standard {} false FTy.f32 s =
      parseFloatModel { compact := true } Format.standard {} false f32 s :=
  C01_decimal_full_proved { compact := true } Format.standard rfl rfl (Or.inl rfl) {} FTy.f32 (Or.inr rfl) false s h256 hlen

end LexVerif.Props.C01Final
