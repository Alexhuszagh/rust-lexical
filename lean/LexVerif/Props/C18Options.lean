import LexVerif.Proof.GrammarSpecial
import LexVerif.Proof.OptionsValid
/-!
# C18 (options part) — the option validators are sound and complete w.r.t. the documented constraints

Byte constants: 78/110 = `N`/`n` and 73/105 = `I`/`i`, the letters a NaN string and the two infinity strings must
begin with; 50 = `MAX_SPECIAL_STRING_LENGTH` (`Model.OptionsValid.maxSpecialStringLength`).
The `build` functions are the tables of `Proof/OptionsValid` ("all entries pass"); the `is_valid` functions test the
same things in other groupings and are read through their common `if`-chain (`validChain`).
-/
namespace LexVerif.Props.C18
open LexVerif.Spec LexVerif.Model.OptionsValid
open LexVerif.Model (WOpts)

theorem ite_not_false {a r : Bool} : (if !a then false else r) = true ↔ a = true ∧ r = true := by
  cases a <;> simp

/-- the tests every validator applies to a present string, in any order -/
theorem specialString_spec (s : List Nat) (a b : Nat) :
    (s.length ≠ 0 ∧ s.length ≤ 50 ∧ firstIs s a b = true ∧ isValidLetterSlice s = true) ↔ SpecialString a b s := by
  unfold SpecialString
  rw [firstIs_eq, isValidLetterSlice_eq, decide_eq_true_eq, decide_eq_true_eq]
  constructor
  · rintro ⟨h1, h2, h3, h4⟩; exact ⟨by intro h; subst h; simp at h1, h2, h3, h4⟩
  · rintro ⟨h1, h2, h3, h4⟩; exact ⟨by intro h; exact h1 (List.length_eq_zero_iff.mp h), h2, h3, h4⟩

/-- **`build()` succeeds exactly on the documented-valid parse options** -/
theorem parseOptions_build_ok_iff_valid (o : POpts) :
    ParseFloat.build o = .ok () ↔ ParseOptionsValid o := by
  rw [build_chain, Proof.CheckChain.firstFailed_eq_ok_iff fun _ _ => by simp]
  exact parseChecks_pass_iff o

/-- shape shared by the `*_is_valid` functions on a present string `x`, with an extra length test `extra`; stated
on the chain itself because each of those functions unfolds to an instance of it -/
theorem validChain (x : List Nat) (a b : Nat) (extra : Bool) :
    (if (x.length == 0 || decide (x.length > maxSpecialStringLength)) = true then false
      else if (!firstIs x a b) = true then false
      else if extra = true then false
      else if (!isValidLetterSlice x) = true then false else true) = true ↔
    (SpecialString a b x ∧ extra = false) := by
  rw [← specialString_spec]
  unfold maxSpecialStringLength
  by_cases h0 : x.length = 0
  · simp [h0]
  by_cases h1 : x.length > 50
  · have : ¬ x.length ≤ 50 := by omega
    simp [h1, this]
  have h1' : x.length ≤ 50 := by omega
  by_cases h2 : firstIs x a b = true
  · by_cases h3 : isValidLetterSlice x = true <;> cases extra <;> simp [h0, h1, h1', h2, h3]
  · simp [h0, h1, h2]

/-- the validity function of a string option that is tested on its own (`nan_string` of both crates, `inf_string`
of the writer): each of the three is this expression by definition -/
theorem optString_spec (s : Option (List Nat)) (a b : Nat) :
    (if s.isNone then true
      else if (unwrapStr s).length == 0 || (unwrapStr s).length > maxSpecialStringLength then false
      else if !firstIs (unwrapStr s) a b then false
      else if !isValidLetterSlice (unwrapStr s) then false
      else true) = true ↔ OptSpecial a b s := by
  unfold OptSpecial
  cases s with
  | none => simp
  | some x =>
    have := validChain x a b false
    simp only [Bool.false_eq_true, if_false, and_true] at this
    simpa [unwrapStr] using this

theorem nanStrIsValid_spec (o : POpts) : ParseFloat.nanStrIsValid o = true ↔ OptSpecial 78 110 o.nan :=
  optString_spec o.nan 78 110

theorem infStrIsValid_spec (o : POpts) :
    ParseFloat.infStrIsValid o = true ↔
      ∀ a, o.inf = some a → SpecialString 73 105 a ∧ ∃ b, o.infinity = some b ∧ a.length ≤ b.length := by
  unfold ParseFloat.infStrIsValid
  cases hi : o.inf with
  | none => cases hy : o.infinity <;> simp
  | some a =>
    cases hy : o.infinity with
    | none => simp
    | some y =>
      have := validChain a 73 105 (decide (a.length > y.length))
      simp only [decide_eq_true_eq, decide_eq_false_iff_not, Nat.not_lt] at this
      simpa [unwrapStr] using this

theorem infinityStringIsValid_spec (o : POpts) :
    ParseFloat.infinityStringIsValid o = true ↔
      (o.inf.isSome = true → o.infinity.isSome = true) ∧
      ∀ y, o.infinity = some y → SpecialString 73 105 y ∧ (unwrapStr o.inf).length ≤ y.length := by
  unfold ParseFloat.infinityStringIsValid
  cases hy : o.infinity with
  | none => cases hi : o.inf <;> simp
  | some y =>
    have := validChain y 73 105 (decide (y.length < (unwrapStr o.inf).length))
    simp only [decide_eq_true_eq, decide_eq_false_iff_not, Nat.not_lt] at this
    simpa [unwrapStr] using this

theorem parseOptions_isValid_iff_valid (o : POpts) : ParseFloat.isValid o = true ↔ ParseOptionsValid o := by
  unfold ParseFloat.isValid ParseOptionsValid
  simp only [ite_not_false, isValidAscii_eq, decide_eq_true_eq, nanStrIsValid_spec, infStrIsValid_spec, infinityStringIsValid_spec,
    and_true]
  -- what is left is propositional once it is known which of the two infinity strings are present
  unfold OptSpecial
  cases o.inf <;> cases o.infinity <;> simp [unwrapStr]
  intro _ _ _ _ h _; exact h

theorem parseOptions_isValid_iff_build_ok (o : POpts) : ParseFloat.isValid o = true ↔ ParseFloat.build o = .ok () := by
  rw [parseOptions_isValid_iff_valid, parseOptions_build_ok_iff_valid]

/-- the numeric constraints `build` tests and `is_valid` omits -/
def WriteNumericValid (o : WOpts) : Prop :=
  (∀ mx mn, o.maxDigits = some mx → o.minDigits = some mn → mn ≤ mx) ∧
  (∀ p, o.posBreak = some p → 0 < p) ∧ (∀ n, o.negBreak = some n → n < 0)

theorem write_nanStrIsValid_spec (o : WOpts) : WriteFloat.nanStrIsValid o = true ↔ OptSpecial 78 110 o.nan :=
  optString_spec o.nan 78 110

theorem write_infStrIsValid_spec (o : WOpts) : WriteFloat.infStrIsValid o = true ↔ OptSpecial 73 105 o.inf :=
  optString_spec o.inf 73 105

theorem writeOptions_isValid_iff_strings (o : WOpts) : WriteFloat.isValid o = true ↔ WriteOptionsStringsValid o := by
  unfold WriteFloat.isValid WriteOptionsStringsValid
  simp only [ite_not_false, isValidAscii_eq, decide_eq_true_eq, write_nanStrIsValid_spec, write_infStrIsValid_spec, and_true]

/-- **`build()` of the write options succeeds exactly on the documented-valid options**
(`NonZero`: type invariant of the `Option<NonZero…>` fields; `min_significant_digits` is a `usize`) -/
theorem writeOptions_build_ok_iff_valid (o : WOpts) (hz : WriteFloat.NonZero o)
    (hm : ∀ m, o.minDigits = some m → m < 2 ^ 64) :
    WriteFloat.build o = .ok () ↔ WriteOptionsValid o := by
  rw [write_build_chain o hm, Proof.CheckChain.firstFailed_eq_ok_iff fun _ _ => by simp]
  exact writeChecks_pass_iff o hz

/-- **exact relation between `is_valid` and `build` for write options**: `build` additionally tests the digit
counts and the exponent breaks -/
theorem writeOptions_build_ok_iff_isValid_and_numeric (o : WOpts) (hz : WriteFloat.NonZero o)
    (hm : ∀ m, o.minDigits = some m → m < 2 ^ 64) :
    WriteFloat.build o = .ok () ↔ (WriteFloat.isValid o = true ∧ WriteNumericValid o) := by
  rw [writeOptions_build_ok_iff_valid o hz hm, writeOptions_isValid_iff_strings]
  unfold WriteOptionsValid WriteOptionsStringsValid WriteNumericValid
  constructor
  · rintro ⟨a, b, c, d, e, f, g⟩; exact ⟨⟨a, b, c, d⟩, e, f, g⟩
  · rintro ⟨⟨a, b, c, d⟩, e, f, g⟩; exact ⟨a, b, c, d, e, f, g⟩

/-- **`is_valid` is NOT equivalent to `build().is_ok()` for write options**: three decided witnesses
(`is_valid() = true` while `build()` returns the error) -/
theorem writeOptions_isValid_not_build_ok :
    (WriteFloat.isValid { maxDigits := some 3, minDigits := some 5 } = true ∧
      WriteFloat.build { maxDigits := some 3, minDigits := some 5 } = .error "InvalidFloatPrecision") ∧
    (WriteFloat.isValid { negBreak := some 1 } = true ∧
      WriteFloat.build { negBreak := some 1 } = .error "InvalidNegativeExponentBreak") ∧
    (WriteFloat.isValid { posBreak := some (-1) } = true ∧
      WriteFloat.build { posBreak := some (-1) } = .error "InvalidPositiveExponentBreak") :=
  ⟨⟨rfl, rfl⟩, ⟨rfl, rfl⟩, rfl, rfl⟩

/-- non-vacuity: the default options of both crates are valid -/
example : ParseFloat.build {} = .ok () ∧ WriteFloat.build {} = .ok () := ⟨rfl, rfl⟩
example : ParseOptionsValid {} := (parseOptions_build_ok_iff_valid {}).mp rfl

theorem integerOptions_always_valid (p : ParseInteger.Opts) (w : WriteInteger.Opts) :
    ParseInteger.isValid p = true ∧ ParseInteger.build p = .ok () ∧
    WriteInteger.isValid w = true ∧ WriteInteger.build w = .ok () := ⟨rfl, rfl, rfl, rfl⟩

/-! ## why validation matters to the parser: the XOR-0x20 fold -/

open LexVerif.Proof.Grammar in
/-- `starts_with_uncased` compares `input ^ pattern` against `0` and `0x20`. That is ASCII case-insensitive equality
**because** `build` has forced every configured special string to consist of letters: for valid options and every
byte string `l`, the XOR prefix test against each configured string equals the case-folded prefix test. -/
theorem xor_fold_is_case_fold (o : POpts) (hv : ParseFloat.build o = .ok ()) (t : List Nat)
    (ht : o.nan = some t ∨ o.inf = some t ∨ o.infinity = some t) (l : List Nat) (hl : ∀ x ∈ l, x < 256) :
    pfx xorEq l t = pfx LexVerif.Spec.eqUncased l t := by
  have hs := ((parseOptions_build_ok_iff_valid o).mp hv).letters ht
  apply pfx_xor t _ l
  intro y hy
  have := hs y hy
  unfold Letter at this
  simp only [LexVerif.Model.isValidLetter, Bool.or_eq_true, Bool.and_eq_true, decide_eq_true_eq]
  omega

/-- without validation the fold is not case folding: `'@' ^ '`' = 0x20` -/
example : LexVerif.Proof.Grammar.xorEq 64 96 = true ∧ LexVerif.Spec.eqUncased 64 96 = false := by decide

end LexVerif.Props.C18
