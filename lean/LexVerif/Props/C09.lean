import LexVerif.Proof.WriteFloatFixed
import LexVerif.Props.C03
import LexVerif.Proof.WriteFloatRun
/-!
# C09 — documented buffer bound, no out-of-slice access (property theorems)

The float statements are about `Model.WriteFloat.writeFloatB` (buffer-faithful model of `WriteFloat::write_float`, both
decimal back-ends) with either formula in `check_buffer`: `writeFloat` uses `buffer_size_const` as /repo has it (commit
fb7040b), `writeFloatOld` the formula before that commit.  The integer statements are about the sizes of `Gen.Sizes`.
* `float_bound`: with a buffer of at least `buffer_size_const` bytes, valid format/options and a decimal digit list as the
  digit generators produce, the call succeeds, returns at most `buffer_size_const` bytes and never writes at or beyond
  that index.  `float_bound_before_fix`: the same for the earlier formula, which needs `SafeOpts`;
  `float_bound_before_fix_full` (`def … : Prop`), the earlier formula without `SafeOpts`, is **false**: `bound_too_small_*`
  are witnesses (they replayed as panics on the implementation).
* `short_buffer_safe`, `short_buffer_safe_before_fix`: with ANY buffer the model yields `panic` or a result inside the
  buffer, never `fault`.
* `int_bound_before_fix`: `FORMATTED_SIZE(_DECIMAL)` of `Gen.Sizes` holds every numeral of every integer type and radix,
  sign included, for signed types; for unsigned types a required `+` does not fit (`int_plus_sign_exception_before_fix`).
  `int_bound`: with one more byte when the format requires a mantissa sign (/repo commit 2d9b865) it fits.
-/
namespace LexVerif.Props.C09
open LexVerif.Spec LexVerif.Model LexVerif.Model.WriteFloat LexVerif.Proof.WriteFloatBuf
open LexVerif.Proof.WriteFloatBound
open LexVerif.Proof.WriteFloatDragon (needDec length_le_needDec)
open LexVerif.Proof.WriteFloatRun

/-- hypotheses shared by the float theorems: a finite value on the decimal path, digits as the generators produce them -/
structure DecimalCall (feats : Features) (f : Fmt) (fmt : Format) (o : WOpts) (bits : Nat) (ds : List Nat) (sci : Int) : Prop where
  valid : FormatError.isValid feats fmt.raw = true
  mixed : mixedRadixOk feats fmt = true
  finite : f.isSpecial bits = false
  decimal : backend feats fmt = .decimal
  radix10 : fmt.mantissaRadix = 10
  expRadix10 : (effFmt feats fmt).exponentRadix = 10
  opts : NumOpts o
  digits1 : 1 ≤ ds.length
  digitsN : ds.length ≤ mantNeed f
  range : -324 ≤ sci ∧ sci ≤ 308

/-- `DecimalCall` from a conjunction that evaluates, for concrete calls -/
theorem decimalCall_of {feats : Features} {f : Fmt} {fmt : Format} {o : WOpts} {bits : Nat} {ds : List Nat} {sci : Int}
    (h : FormatError.isValid feats fmt.raw = true ∧ mixedRadixOk feats fmt = true ∧ f.isSpecial bits = false ∧
      backend feats fmt = .decimal ∧ fmt.mantissaRadix = 10 ∧ (effFmt feats fmt).exponentRadix = 10 ∧
      o.maxDigits ≠ some 0 ∧ o.minDigits.getD 0 ≤ o.maxDigits.getD (o.minDigits.getD 0) ∧
      (o.negBreak.getD (-5) ≤ 0 ∧ -(2 ^ 31) < o.negBreak.getD (-5)) ∧ (0 ≤ o.posBreak.getD 9 ∧ o.posBreak.getD 9 < 2 ^ 31) ∧
      1 ≤ ds.length ∧ ds.length ≤ mantNeed f ∧ -324 ≤ sci ∧ sci ≤ 308) :
    DecimalCall feats f fmt o bits ds sci := by
  obtain ⟨h1, h2, h3, h4, h5, h6, h7, h8, h9, h10, h11, h12, h13⟩ := h
  refine ⟨h1, h2, h3, h4, h5, h6, ⟨h7, ?_, h9, h10⟩, h11, h12, h13⟩
  intro a b ha hb
  rwa [ha, hb] at h8

/-- a call on the decimal path that passes `check_buffer` runs: it panics when the buffer is shorter than sign + slice need
of the back-end, and otherwise returns sign and `writeDecimal`, within that many bytes -/
theorem decimal_call (bound : Nat) (feats : Features) (f : Fmt) (fmt : Format) (o : WOpts) (bits : Nat) (ds : List Nat)
    (sci : Int) (buf : List Nat) (hc : DecimalCall feats f fmt o bits ds sci) (hbuf : bound ≤ buf.length)
    (hS : (floatSign feats f fmt bits).length ≤ buf.length) :
    Runs buf ((floatSign feats f fmt bits).length + needDec fmt feats f ds sci o)
      (floatSign feats f fmt bits ++ writeDecimal fmt feats ds sci o)
      (writeFloatB bound feats f fmt o false bits (ds, sci) buf) := by
  have h32 : ds.length ≤ 32 := by have := mantNeed_le f; have := hc.digitsN; omega
  have hr : ¬ Refused bound feats f fmt bits buf := by
    rintro (h | h | h | h)
    · omega
    · exact h hc.valid
    · exact h hc.mixed
    · omega
  exact writeFloatB_runs_decimal hr o ds sci hc.finite hc.decimal hc.digits1 (fun _ => h32) hc.opts.mx

/-- whenever sign + slice need of the back-end fit a bound that the buffer satisfies, the call returns, returns at most
`bound` bytes and writes no index `≥ bound` -/
theorem float_bound_of (bound : Nat) (feats : Features) (f : Fmt) (fmt : Format) (o : WOpts) (bits : Nat) (ds : List Nat)
    (sci : Int) (buf : List Nat) (hc : DecimalCall feats f fmt o bits ds sci)
    (hneed : (floatSign feats f fmt bits).length + needDec fmt feats f ds sci o ≤ bound) (hbuf : bound ≤ buf.length) :
    ∃ w, writeFloatB bound feats f fmt o false bits (ds, sci) buf = .done w ∧
      w.len ≤ bound ∧ w.hi ≤ bound ∧ w.bytes.length = buf.length := by
  have hle := length_le_needDec fmt feats f ds sci o
  obtain ⟨w, hw, _, hl, hb, hh⟩ := (decimal_call bound feats f fmt o bits ds sci buf hc hbuf (by omega)).2 (by omega)
  exact ⟨w, hw, by rw [hl, List.length_append]; omega, by omega, hb⟩

/-- a concrete call panics: the buffer passes `check_buffer` and is shorter than sign + slice need -/
theorem panics_of {bound : Nat} {feats : Features} {f : Fmt} {fmt : Format} {o : WOpts} {bits : Nat} {ds : List Nat}
    {sci : Int} {buf : List Nat} (hc : DecimalCall feats f fmt o bits ds sci) (hbuf : bound ≤ buf.length)
    (hS : (floatSign feats f fmt bits).length ≤ buf.length)
    (hlt : buf.length < (floatSign feats f fmt bits).length + needDec fmt feats f ds sci o) :
    writeFloatB bound feats f fmt o false bits (ds, sci) buf = .panic :=
  (decimal_call bound feats f fmt o bits ds sci buf hc hbuf hS).1 hlt

theorem returns_of {bound : Nat} {feats : Features} {f : Fmt} {fmt : Format} {o : WOpts} {bits : Nat} {ds : List Nat}
    {sci : Int} {buf : List Nat} (hc : DecimalCall feats f fmt o bits ds sci) (hbuf : bound ≤ buf.length)
    (hS : (floatSign feats f fmt bits).length ≤ buf.length)
    (hle : (floatSign feats f fmt bits).length + needDec fmt feats f ds sci o ≤ buf.length) :
    writeFloatB bound feats f fmt o false bits (ds, sci) buf ≠ .panic := by
  obtain ⟨w, hw, _⟩ := (decimal_call bound feats f fmt o bits ds sci buf hc hbuf hS).2 hle
  rw [hw]; exact Outcome.noConfusion

/-- **C09 `float_bound_before_fix`** (decimal path, both back-ends), the `buffer_size_const` formula BEFORE /repo commit fb7040b (`bufferSizeConstOld`): needed `SafeOpts`. -/
theorem float_bound_before_fix (feats : Features) (f : Fmt) (fmt : Format) (o : WOpts) (bits : Nat) (ds : List Nat) (sci : Int)
    (buf : List Nat) (hc : DecimalCall feats f fmt o bits ds sci) (hsafe : SafeOpts feats f fmt o)
    (hbuf : bufferSizeConstOld feats f fmt o ≤ buf.length) :
    ∃ w, writeFloatOld feats f fmt o false bits (ds, sci) buf = .done w ∧
      w.len ≤ bufferSizeConstOld feats f fmt o ∧ w.hi ≤ bufferSizeConstOld feats f fmt o ∧ w.bytes.length = buf.length :=
  float_bound_of _ feats f fmt o bits ds sci buf hc
    (need_le_bound feats f fmt o ds sci _ hc.radix10 hc.expRadix10 hc.opts hc.digits1 hc.digitsN hc.range
      (floatSign_length_le feats f fmt bits) hsafe) hbuf

/-- **C09 `float_bound`**: with the `buffer_size_const` of the current tree (repaired by /repo commit fb7040b) the bound
holds for ALL valid options and valid decimal formats — no `SafeOpts` — on both back-ends: the call returns, the result
and every index written lie below `bufferSizeConst`. -/
theorem float_bound (feats : Features) (f : Fmt) (fmt : Format) (o : WOpts) (bits : Nat) (ds : List Nat) (sci : Int)
    (buf : List Nat) (hc : DecimalCall feats f fmt o bits ds sci)
    (hbuf : bufferSizeConst feats f fmt o ≤ buf.length) :
    ∃ w, writeFloat feats f fmt o false bits (ds, sci) buf = .done w ∧
      w.len ≤ bufferSizeConst feats f fmt o ∧ w.hi ≤ bufferSizeConst feats f fmt o ∧
      w.bytes.length = buf.length := by
  have hneed := need_le_fixed feats f fmt o ds sci _ hc.radix10 hc.expRadix10 hc.opts hc.digits1 hc.digitsN hc.range
    (floatSign_length_le feats f fmt bits)
  exact float_bound_of _ feats f fmt o bits ds sci buf hc hneed hbuf

/-- the formula of /repo commit fb7040b is never smaller than the one before it -/
theorem bound_ge_before_fix (feats : Features) (f : Fmt) (fmt : Format) (o : WOpts) (hno : NumOpts o) :
    bufferSizeConstOld feats f fmt o ≤ bufferSizeConst feats f fmt o :=
  bufferSizeConst_le_fixed feats f fmt o

/-- the three witnesses against the formula before the repair succeed under the current one -/
example :
    bufferSizeConst {} LexVerif.Spec.f64 ⟨0xa0a0a0000000000000000000000000c⟩ { maxDigits := some 10, negBreak := some (-100) } = 130 ∧
    writeFloat {} LexVerif.Spec.f64 ⟨0xa0a0a0000000000000000000000000c⟩ { maxDigits := some 10, negBreak := some (-100) } false
      0x2b2bff2ee48e0530 ([1], -100) (List.replicate 130 170) ≠ .panic ∧
    writeFloat {} LexVerif.Spec.f64 ⟨0xa0a0a0000000000000000000000000c⟩ { minDigits := some 100 } false 0x01b01297d23ab683
      ([1, 5], -300) (List.replicate 114 170) ≠ .panic ∧
    bufferSizeConst {} LexVerif.Spec.f64 ⟨0xa0a0a0000000000000000000000000c⟩ { minDigits := some 100 } = 114 ∧
    writeFloat { compact := true } LexVerif.Spec.f64 ⟨0xa0a0a0000000000000000000000000c⟩
      { maxDigits := some 1, posBreak := some 100 } false 0xd4b249ad2594c37d ([1], 100) (List.replicate 130 170) ≠ .panic := by
  refine ⟨by decide +kernel, ?_, ?_, by decide +kernel, ?_⟩
  · exact returns_of (decimalCall_of (by decide +kernel)) (by decide +kernel) (by decide +kernel) (by decide +kernel)
  · exact returns_of (decimalCall_of (by decide +kernel)) (by decide +kernel) (by decide +kernel) (by decide +kernel)
  · exact returns_of (decimalCall_of (by decide +kernel)) (by decide +kernel) (by decide +kernel) (by decide +kernel)

/-- the full statement (no option exclusion) for the formula before the repair — false, see the witnesses below; the current formula satisfies it: `float_bound` -/
def float_bound_before_fix_full : Prop :=
  ∀ (feats : Features) (f : Fmt) (fmt : Format) (o : WOpts) (bits : Nat) (ds : List Nat) (sci : Int) (buf : List Nat),
    DecimalCall feats f fmt o bits ds sci → bufferSizeConstOld feats f fmt o ≤ buf.length →
    ∃ w, writeFloatOld feats f fmt o false bits (ds, sci) buf = .done w ∧ w.hi ≤ bufferSizeConstOld feats f fmt o

/-- whatever bound `check_buffer` compares with, and whatever the buffer length, format, options and value, the model of
`write_float` (decimal back-ends and special values) never reaches `fault`; a result, if any, lies inside the buffer and nothing at or
beyond `buf.length` was written (`hi ≤ buf.length`).  Non-decimal back-ends are reported as `.other` (not modelled here). -/
theorem short_buffer_safe_of (bound : Nat) (feats : Features) (f : Fmt) (fmt : Format) (o : WOpts) (bits : Nat)
    (ds : List Nat) (sci : Int) (buf : List Nat) (hds : 1 ≤ ds.length) (hds32 : ds.length ≤ 32) (hmx : o.maxDigits ≠ some 0) :
    writeFloatB bound feats f fmt o false bits (ds, sci) buf ≠ .fault ∧
    ∀ w, writeFloatB bound feats f fmt o false bits (ds, sci) buf = .done w →
      w.bytes.length = buf.length ∧ w.len ≤ buf.length ∧ w.hi ≤ buf.length := by
  have hpanic : ∀ out : Outcome, out = .panic →
      out ≠ .fault ∧ ∀ w, out = .done w → w.bytes.length = buf.length ∧ w.len ≤ buf.length ∧ w.hi ≤ buf.length :=
    fun out h => h ▸ ⟨Outcome.noConfusion, fun w hw => by cases hw⟩
  by_cases hr : Refused bound feats f fmt bits buf
  · exact hpanic _ (writeFloatB_refused hr o false (ds, sci))
  by_cases hsp : f.isSpecial bits = true
  · cases hs : (if f.isNaN bits = true then o.nan else o.inf) with
    | none => exact hpanic _ (writeFloatB_disabled bound feats f fmt o false bits (ds, sci) buf hsp hs)
    | some s => exact (writeFloatB_runs_special hr o false (ds, sci) hsp hs).inside
  · have hfin : f.isSpecial bits = false := by simpa using hsp
    by_cases hbe : backend feats fmt = .decimal
    · exact (writeFloatB_runs_decimal hr o ds sci hfin hbe hds (fun _ => hds32) hmx).inside
    · rw [writeFloatB_other hr o false (ds, sci) hfin hbe]
      exact ⟨Outcome.noConfusion, fun w hw => by cases hw⟩

/-- **C09 `short_buffer_safe_before_fix`** (formula before the repair in `check_buffer`) -/
theorem short_buffer_safe_before_fix (feats : Features) (f : Fmt) (fmt : Format) (o : WOpts) (bits : Nat) (ds : List Nat) (sci : Int)
    (buf : List Nat) (hds : 1 ≤ ds.length) (hds32 : ds.length ≤ 32) (hmx : o.maxDigits ≠ some 0) :
    writeFloatOld feats f fmt o false bits (ds, sci) buf ≠ .fault ∧
    ∀ w, writeFloatOld feats f fmt o false bits (ds, sci) buf = .done w →
      w.bytes.length = buf.length ∧ w.len ≤ buf.length ∧ w.hi ≤ buf.length :=
  short_buffer_safe_of _ feats f fmt o bits ds sci buf hds hds32 hmx

/-- **C09 `short_buffer_safe`**: the same with the formula of the current tree -/
theorem short_buffer_safe (feats : Features) (f : Fmt) (fmt : Format) (o : WOpts) (bits : Nat) (ds : List Nat)
    (sci : Int) (buf : List Nat) (hds : 1 ≤ ds.length) (hds32 : ds.length ≤ 32) (hmx : o.maxDigits ≠ some 0) :
    writeFloat feats f fmt o false bits (ds, sci) buf ≠ .fault ∧
    ∀ w, writeFloat feats f fmt o false bits (ds, sci) buf = .done w →
      w.bytes.length = buf.length ∧ w.len ≤ buf.length ∧ w.hi ≤ buf.length :=
  short_buffer_safe_of _ feats f fmt o bits ds sci buf hds hds32 hmx

/-- radix-10 format with explicit exponent base / radix (`NumberFormatBuilder::decimal()`) -/
def fmt10 : Format := ⟨0xa0a0a0000000000000000000000000c⟩

/-- non-vacuity of `float_bound_before_fix`: `1.2345` with 3..2 digits in a 64-byte buffer (default build) -/
example : writeFloatOld {} LexVerif.Spec.f64 fmt10 { maxDigits := some 3, minDigits := some 2 } false 0x3ff3c083126e978d
    ([1, 2, 3, 4, 5], 0) (List.replicate 64 170) =
      .done ⟨[49, 46, 50, 51, 53] ++ List.replicate 59 170, 4, 5⟩ := by decide +kernel

example : SafeOpts {} LexVerif.Spec.f64 fmt10 { maxDigits := some 3, minDigits := some 2 } := by
  unfold SafeOpts; decide +kernel

/-- **Witness 1 (finding)**: `negative_exponent_break = -100`, `max_significant_digits = 10`, value `1e-100`, Dragonbox
build: `buffer_size_const` is 112, but after 101 leading zeros the digit writer demands a 20-byte slice. -/
theorem bound_too_small_digit_writer :
    bufferSizeConstOld {} LexVerif.Spec.f64 fmt10 { maxDigits := some 10, negBreak := some (-100) } = 112 ∧
    writeFloatOld {} LexVerif.Spec.f64 fmt10 { maxDigits := some 10, negBreak := some (-100) } false 0x2b2bff2ee48e0530
      ([1], -100) (List.replicate 112 170) = .panic ∧
    writeFloatOld {} LexVerif.Spec.f64 fmt10 { maxDigits := some 10, negBreak := some (-100) } false 0x2b2bff2ee48e0530
      ([1], -100) (List.replicate 122 170) ≠ .panic := by
  have hc : DecimalCall {} LexVerif.Spec.f64 fmt10 { maxDigits := some 10, negBreak := some (-100) } 0x2b2bff2ee48e0530
      [1] (-100) := decimalCall_of (by decide +kernel)
  exact ⟨by decide +kernel, panics_of hc (by decide +kernel) (by decide +kernel) (by decide +kernel),
    returns_of hc (by decide +kernel) (by decide +kernel) (by decide +kernel)⟩

/-- **Witness 2 (finding)**: `min_significant_digits = 100`, default breaks, value `1.5e-300`, Dragonbox build:
`buffer_size_const` is 111; after 101 mantissa bytes, `e`, `-` the exponent writer demands a 10-byte slice. -/
theorem bound_too_small_exponent_writer :
    bufferSizeConstOld {} LexVerif.Spec.f64 fmt10 { minDigits := some 100 } = 111 ∧
    writeFloatOld {} LexVerif.Spec.f64 fmt10 { minDigits := some 100 } false 0x01b01297d23ab683
      ([1, 5], -300) (List.replicate 111 170) = .panic ∧
    writeFloatOld {} LexVerif.Spec.f64 fmt10 { minDigits := some 100 } false 0x01b01297d23ab683
      ([1, 5], -300) (List.replicate 114 170) ≠ .panic := by
  have hc : DecimalCall {} LexVerif.Spec.f64 fmt10 { minDigits := some 100 } 0x01b01297d23ab683 [1, 5] (-300) :=
    decimalCall_of (by decide +kernel)
  exact ⟨by decide +kernel, panics_of hc (by decide +kernel) (by decide +kernel) (by decide +kernel),
    returns_of hc (by decide +kernel) (by decide +kernel) (by decide +kernel)⟩

/-- **Witness 3 (finding)**: `positive_exponent_break = 100`, `max_significant_digits = 1`, value `-1e100`:
`buffer_size_const` is 103 but sign + 101 digits + ".0" are 104 bytes — Dragonbox **and** `compact` builds. -/
theorem bound_too_small_positive_break :
    bufferSizeConstOld {} LexVerif.Spec.f64 fmt10 { maxDigits := some 1, posBreak := some 100 } = 103 ∧
    writeFloatOld {} LexVerif.Spec.f64 fmt10 { maxDigits := some 1, posBreak := some 100 } false 0xd4b249ad2594c37d
      ([1], 100) (List.replicate 103 170) = .panic ∧
    writeFloatOld { compact := true } LexVerif.Spec.f64 fmt10 { maxDigits := some 1, posBreak := some 100 } false
      0xd4b249ad2594c37d ([1], 100) (List.replicate 103 170) = .panic :=
  ⟨by decide +kernel,
    panics_of (decimalCall_of (by decide +kernel)) (by decide +kernel) (by decide +kernel) (by decide +kernel),
    panics_of (decimalCall_of (by decide +kernel)) (by decide +kernel) (by decide +kernel) (by decide +kernel)⟩

/-- the witnesses lie in the excluded regions -/
example : ¬ SafeOpts {} LexVerif.Spec.f64 fmt10 { maxDigits := some 10, negBreak := some (-100) } := by
  unfold SafeOpts; decide +kernel
example : ¬ SafeOpts {} LexVerif.Spec.f64 fmt10 { minDigits := some 100 } := by unfold SafeOpts; decide +kernel
example : ¬ SafeOpts { compact := true } LexVerif.Spec.f64 fmt10 { maxDigits := some 1, posBreak := some 100 } := by
  unfold SafeOpts; decide +kernel

/-- the unrestricted statement is false (Witness 1) -/
theorem float_bound_before_fix_full_false : ¬ float_bound_before_fix_full := by
  intro h
  have hc : DecimalCall {} LexVerif.Spec.f64 fmt10 { maxDigits := some 10, negBreak := some (-100) } 0x2b2bff2ee48e0530
      [1] (-100) := decimalCall_of (by decide +kernel)
  obtain ⟨w, hw, _⟩ := h {} LexVerif.Spec.f64 fmt10 { maxDigits := some 10, negBreak := some (-100) } 0x2b2bff2ee48e0530
    [1] (-100) (List.replicate 112 170) hc (by decide +kernel)
  rw [bound_too_small_digit_writer.2.1] at hw
  cases hw

def intTypes : List Gen.Sizes.Ty := Gen.Sizes.types.filter (fun t => !t.float)

def magOf (t : Gen.Sizes.Ty) : Nat := if t.signed then t.minMag else t.max
def sgnOf (t : Gen.Sizes.Ty) : Nat := if t.signed then 1 else 0

/-- the documented size leaves room for the sign of a signed type and for every digit of the largest magnitude -/
def intFits (feats : Features) (t : Gen.Sizes.Ty) (r : Nat) : Bool :=
  decide (sgnOf t < intBufferSizeConstOld feats t.name r) &&
  decide (magOf t < r ^ (intBufferSizeConstOld feats t.name r - sgnOf t))

def featureSets : List Features :=
  [{}, { compact := true }, { powerOfTwo := true, radix := true }, { powerOfTwo := true },
   { compact := true, powerOfTwo := true, radix := true }]
def radicesOf (feats : Features) : List Nat :=
  if feats.radix then (List.range 35).map (· + 2) else if feats.powerOfTwo then [2, 4, 8, 10, 16, 32] else [10]

/-- every (feature set, integer type, radix) row of the dumped size tables fits (kernel-evaluated, 12 types × 35 radices) -/
theorem int_sizes_fit :
    featureSets.all (fun feats => intTypes.all (fun t => (radicesOf feats).all (fun r => intFits feats t r))) = true := by
  decide +kernel

/-- **C09 `int_bound_before_fix`**: a value of magnitude at most the type's largest magnitude, written in radix `r` with the `-`
sign of a signed type, fits `FORMATTED_SIZE(_DECIMAL)` (`Gen.Sizes`, dumped from the crate). -/
theorem int_bound_before_fix (feats : Features) (t : Gen.Sizes.Ty) (r v : Nat) (hfit : intFits feats t r = true) (hr : 2 ≤ r)
    (hv : v ≤ magOf t) :
    (numeral r v).length + sgnOf t ≤ intBufferSizeConstOld feats t.name r := by
  unfold intFits at hfit
  simp only [Bool.and_eq_true, decide_eq_true_eq] at hfit
  obtain ⟨h1, h2⟩ := hfit
  have hlen := LexVerif.Spec.toDigits_length_le r v (intBufferSizeConstOld feats t.name r - sgnOf t) hr (by omega) (by omega)
  unfold numeral
  rw [List.length_map]
  omega

/-- non-vacuity: `i8` in radix 2 (`radix` build): 8 digits + sign ≤ 16 -/
example : intFits { powerOfTwo := true, radix := true } ⟨"i8", 8, true, false, 128, 127⟩ 2 = true := by decide +kernel

/-- **the stated exception (known finding)**: for unsigned types the size has no room for the `+` written under
`format` + `required_mantissa_sign`: `u8` 255 needs 3 digits + 1 sign = 4 > `FORMATTED_SIZE_DECIMAL` = 3. -/
theorem int_plus_sign_exception_before_fix :
    (numeral 10 255).length + 1 > intBufferSizeConstOld {} "u8" 10 := by decide +kernel

/-! ### the integer size of the current tree (repaired by /repo commit 2d9b865)

`lexical_write_integer::Options::buffer_size_const` + 1 when the format requires a mantissa sign (`format` feature). -/

def intBufferSizeConst (feats : Features) (name : String) (radix : Nat) (reqSign : Bool) : Nat :=
  intBufferSizeConstOld feats name radix + (if feats.format = true ∧ reqSign = true then 1 else 0)

/-- **`int_bound`**: when the format requires a mantissa sign, the size of /repo commit 2d9b865 holds sign (`-` or `+`, also
for unsigned types) plus numeral; it is never smaller than the size before that commit. -/
theorem int_bound (feats : Features) (t : Gen.Sizes.Ty) (r v : Nat) (reqSign : Bool) (hfit : intFits feats t r = true)
    (hr : 2 ≤ r) (hv : v ≤ magOf t) (hsign : feats.format = true ∧ reqSign = true) :
    (numeral r v).length + 1 ≤ intBufferSizeConst feats t.name r reqSign ∧
    intBufferSizeConstOld feats t.name r ≤ intBufferSizeConst feats t.name r reqSign := by
  have h := int_bound_before_fix feats t r v hfit hr hv
  unfold intBufferSizeConst
  rw [if_pos hsign]
  omega

/-- on C03's writer model: the current size is at least the size under which C03 proves the integer writers correct
(`requiredSize` = documented size + 1 for unsigned types with a required `+`) … -/
def writeIntSize (feats : Features) (t : IntTy) (radix : Nat) (reqSign : Bool) : Nat :=
  LexVerif.Model.WriteInt.bufferSizeConst feats t radix + (if feats.format = true ∧ reqSign = true then 1 else 0)

theorem requiredSize_le_size (feats : Features) (t : IntTy) (radix : Nat) (reqSign : Bool) :
    LexVerif.Model.WriteInt.requiredSize feats t radix reqSign ≤ writeIntSize feats t radix reqSign ∧
    LexVerif.Model.WriteInt.bufferSizeConst feats t radix ≤ writeIntSize feats t radix reqSign := by
  unfold LexVerif.Model.WriteInt.requiredSize writeIntSize
  repeat' split
  all_goals simp_all

/-- … hence, with the repair, a buffer of the documented size suffices for every `compact` integer write, unsigned `+`
included (C03's `writeInt_correct_compact` transferred). -/
theorem writeInt_size_suffices_compact (feats : Features) (t : IntTy) (radix : Nat) (reqSign checkValid : Bool)
    (v : Int) (buffer : LexVerif.Model.WriteInt.Buf) (hc : feats.compact = true)
    (hwf : LexVerif.Model.WriteInt.FeaturesWF feats) (hbits : LexVerif.Model.WriteInt.ValidBits t.bits)
    (hvalid : LexVerif.Model.WriteInt.validRadix feats radix = true) (hv : t.inRange v)
    (hbuf : writeIntSize feats t radix reqSign ≤ buffer.length) :
    ∃ out, LexVerif.Model.WriteInt.writeInt feats t radix reqSign checkValid v buffer = .ok out :=
  ⟨_, LexVerif.Props.C03.writeInt_correct_compact feats t radix reqSign checkValid v buffer hc hwf hbits hvalid hv
    (Nat.le_trans (requiredSize_le_size feats t radix reqSign).1 hbuf)⟩

end LexVerif.Props.C09
