import LexVerif.Proof.NumberSyntax
/-!
# C01 — `NumberExact`: the `Number` the syntax layer builds denotes the digit content, decimal

`Proof.NumberSyntax` proves, for every mantissa radix whose `u64_step` digits fit a `u64`, that the `Number` an accepted
`parse_number` builds reads its digit slices (`Reads`, `reads_of_syntax`). Here the decimal case `r = bs = 10`,
`stp = 19` (`reads_decimal`), and its two halves written out: `number_exact_of_syntax`, `number_truncated_of_syntax`.
-/
namespace LexVerif.Props.C01Number
open LexVerif LexVerif.Spec LexVerif.Model LexVerif.Model.ParseFloatAlgo
open LexVerif.Proof.Sep LexVerif.Proof.Slow LexVerif.Proof.Pipeline LexVerif.Proof.RoundNE
open LexVerif.Props.C01Main LexVerif.Props.C01SlowDomain LexVerif.Props.C12
open LexVerif.Props.C01 (IsI64)

theorem u64Step_decimal (feats : Features) : u64Step feats 10 = 19 := by
  unfold u64Step
  cases feats.radix <;> cases feats.powerOfTwo <;> rfl

theorem reads_decimal (c : Cfg) (hd : c.debug = false)
    (hclass : c.feats.format = false ∨ SepPrefixFree c.fmt) (hr : c.mantissaRadix = 10) (hb : c.exponentBase = 10)
    (o : POpts) (hdp : charToDigit o.dp 10 = none) (isPartial : Bool) (s : List Nat) (fv : Bool)
    (h256 : ∀ x ∈ s, x < 256) (hlen : s.length < 2 ^ 60) (n : Number) (cnt : Nat)
    (hp : parseFloatSyntax c o isPartial s fv = .ok (.number n cnt)) : Reads c 10 19 1 s.length n :=
  reads_of_syntax 10 19 (by decide) (by decide) (by decide) c (u64Step_decimal _) (fun _ => by omega) hd hclass hr 10 1
    (by decide) (by decide) hb (fun x => by rw [scaleVal_same_base c (hr.trans hb.symm)]; simp) o hdp isPartial s fv
    h256 hlen n cnt hp

/-- **`NumberExact`, proved** (with the two side conditions the statement in `Props.C01Main` lacks: the decimal point of
the options is not a digit — implied by `is_valid_options_punctuation` — and the input is shorter than `2^60` bytes):
every untruncated decimal `Number` the syntax layer produces for a format without digit separator and base prefix is
exact, its digit slices are plain, and it has at most 19 significant digits. -/
theorem number_exact_of_syntax (c : Cfg) (hd : c.debug = false)
    (hclass : c.feats.format = false ∨ SepPrefixFree c.fmt) (hr : c.mantissaRadix = 10) (hb : c.exponentBase = 10)
    (o : POpts) (hdp : charToDigit o.dp 10 = none) (isPartial : Bool) (s : List Nat) (fv : Bool)
    (h256 : ∀ x ∈ s, x < 256) (hlen : s.length < 2 ^ 60) (n : Number) (cnt : Nat)
    (hp : parseFloatSyntax c o isPartial s fv = .ok (.number n cnt)) (hmany : n.manyDigits = false) :
    NumberExactAt c n ∧ PlainSlices c n ∧ (sigBytes n.integer n.fraction).length ≤ 19 := by
  obtain ⟨hx, hs, hfew, _⟩ := (reads_decimal c hd hclass hr hb o hdp isPartial s fv h256 hlen n cnt hp).exact hmany
  exact ⟨hx, hs, hfew⟩

/-- **the truncated decimal `Number`**: the slices are plain, there are more than 19 significant digits, `mantissa = w` is
the value of the first 19 of them (`10^18 ≤ w < 10^19`) and `exponent = q` is such that the exact value `V` of the digit
content satisfies `w·10^q ≤ V < (w+1)·10^q` -/
theorem number_truncated_of_syntax (c : Cfg) (hd : c.debug = false)
    (hclass : c.feats.format = false ∨ SepPrefixFree c.fmt) (hr : c.mantissaRadix = 10) (hb : c.exponentBase = 10)
    (o : POpts) (hdp : charToDigit o.dp 10 = none) (isPartial : Bool) (s : List Nat) (fv : Bool)
    (h256 : ∀ x ∈ s, x < 256) (hlen : s.length < 2 ^ 60) (n : Number) (cnt : Nat)
    (hp : parseFloatSyntax c o isPartial s fv = .ok (.number n cnt)) (hmany : n.manyDigits = true) :
    PlainSlices c n ∧ 19 < (sigBytes n.integer n.fraction).length ∧
    n.mantissa = ofDigits 10 (dv 10 ((sigBytes n.integer n.fraction).take 19)) ∧
    10 ^ 18 ≤ n.mantissa ∧ n.mantissa < 10 ^ 19 ∧
    n.exponent = ((sigBytes n.integer n.fraction).length : Int) - 19 + n.explicitExp - ((n.fraction.getD []).length : Int) ∧
    -(2 ^ 40 : Int) ≤ n.explicitExp ∧ n.explicitExp ≤ 2 ^ 40 ∧
    n.integer.length < 2 ^ 60 ∧ (n.fraction.getD []).length < 2 ^ 60 := by
  obtain ⟨hs, hN, hw, hw1, hw2, hq, hE1, hE2, hl1, hl2⟩ :=
    (reads_decimal c hd hclass hr hb o hdp isPartial s fv h256 hlen n cnt hp).trunc hmany
  exact ⟨hs, hN, hw, hw1, hw2, by rw [hq]; push_cast; ring, hE1, hE2, Nat.lt_of_le_of_lt hl1 hlen,
    Nat.lt_of_le_of_lt hl2 hlen⟩

end LexVerif.Props.C01Number
