import LexVerif.Props.C08
import LexVerif.Props.C02
/-!
# C08 — decimal value round trip tied to the Dragonbox model (C08 ∘ C02)

`Props.C08.roundtrip_decimal_value` has one named hypothesis, `WriterDigitsShortest`. Here it is discharged from
C02's correctness predicate of the Dragonbox model (`dragonboxOk t bits`: `to_decimal` returns, up to trailing zeros
of the significand, a member of `Spec.shortest`): `writerDigitsShortest_of_dragonboxOk`. With C02's
`dragonbox_correct_holds` this gives `roundtrip_decimal_value_holds`: every finite non-zero f32 / f64, every valid
decimal format, every compatible option pair without a digit limit, both signs.
The digits handed to the formatting layer are the decimal digits of `to_decimal`'s significand, the scientific
exponent is `exponent + digit count − 1` (`algorithm.rs::write_float`).
-/
namespace LexVerif.Props.C08
open LexVerif.Spec LexVerif.Model LexVerif.Model.WriteFloat LexVerif.Model.Dragonbox LexVerif.Proof.RoundTrip
open LexVerif.Proof.RoundNE LexVerif.Proof.DragonboxSpec

theorem normDec_value : ∀ (n d : Nat) (e : Int),
    ((normDec n d e).1 : ℚ) * (10 : ℚ) ^ (normDec n d e).2 = (d : ℚ) * (10 : ℚ) ^ e
  | 0, _, _ => rfl
  | n + 1, d, e => by
    unfold normDec
    split
    · rename_i h
      rw [normDec_value n (d / 10) (e + 1)]
      have h1 : d = 10 * (d / 10) := by omega
      rw [zpow_add₀ (by norm_num : (10 : ℚ) ≠ 0), zpow_one]
      conv_rhs => rw [h1]
      push_cast
      ring
    · rfl

theorem fmtRange_fmtOf (t : FTy) : FmtRange (fmtOf t) := by
  cases t
  · exact fmtRange_f32
  · exact fmtRange_f64

/-- C02's per-input correctness predicate of the Dragonbox model gives the hypothesis of the value round trip -/
theorem writerDigitsShortest_of_dragonboxOk (t : FTy) (bits : Nat) (h0 : 0 < bits) (hfin : bits < (fmtOf t).infBits)
    (h : dragonboxOk t bits = true) :
    ∃ m e, toDecimal t bits = some (m, e) ∧
      WriterDigitsShortest (fmtOf t) bits (toDigits 10 m) (e + ((toDigits 10 m).length : Int) - 1) := by
  unfold dragonboxOk at h
  cases hd : toDecimal t bits with
  | none => simp [hd] at h
  | some p =>
    obtain ⟨m, e⟩ := p
    simp only [hd] at h
    have hmem : normDec 20 m e ∈ shortest (fmtOf t) bits := by simpa using h
    have hval := normDec_value 20 m e
    have hm : m ≠ 0 := by
      intro hz
      subst hz
      have hrt := LexVerif.Props.RoundNE.shortest_roundtrips (LexVerif.Proof.DragonboxShortest.wf_fmtOf t) h0 hfin
        (D := (normDec 20 0 e).1) (E := (normDec 20 0 e).2) hmem
      have h1 : (normDec 20 0 e).1 = 0 := by simp [normDec]
      rw [h1] at hrt
      rw [decFrac_zero, roundNE_zero] at hrt
      omega
    refine ⟨m, e, rfl, ⟨toDigits_ne_nil 10 m (by omega), toDigits_digit_lt 10 m (by omega), ?_⟩,
      (normDec 20 m e).1, (normDec 20 m e).2, hmem, ?_⟩
    · intro h0'
      exact absurd h0' (toDigits_head_ne_zero 10 m (by omega) hm)
    · rw [hval, ofDigits_toDigits 10 m (by omega)]
      congr 2
      omega

/-- conclusion of the value round trip for the Dragonbox model's digits of `bits` (non-`compact` builds) -/
def RoundTripsAll (t : FTy) (bits : Nat) : Prop :=
  ∃ m e, toDecimal t bits = some (m, e) ∧
    ∀ (feats : Features) (fmt : Format) (wo : WOpts) (po : POpts) (neg : Bool),
      FormatValid feats (unpack fmt.raw) → fmt.mantissaRadix = 10 → fmt.exponentBase = 10 →
      OptionsAgree feats fmt wo po → PrefixClear feats fmt po.dp po.exp → wo.maxDigits = none →
      ∃ l : FloatLit,
        grammarFloatComplete feats fmt po (writerSign feats fmt neg ++
            writeDecimal fmt feats (toDigits 10 m) (e + ((toDigits 10 m).length : Int) - 1) wo) =
          .num l (writerSign feats fmt neg ++
            writeDecimal fmt feats (toDigits 10 m) (e + ((toDigits 10 m).length : Int) - 1) wo).length ∧
        litBits (fmtOf t) fmt.mantissaRadix fmt.exponentBase l = bits + (if neg then (fmtOf t).signBit else 0)

theorem roundTripsAll_of_dragonboxOk (t : FTy) (bits : Nat) (h0 : 0 < bits) (hfin : bits < (fmtOf t).infBits)
    (h : dragonboxOk t bits = true) : RoundTripsAll t bits := by
  obtain ⟨m, e, hd, hW⟩ := writerDigitsShortest_of_dragonboxOk t bits h0 hfin h
  refine ⟨m, e, hd, ?_⟩
  intro feats fmt wo po neg hv h10 hb ha hc hm
  exact roundtrip_decimal_value (fmtOf t) (LexVerif.Proof.DragonboxShortest.wf_fmtOf t) (fmtRange_fmtOf t) feats fmt wo po bits _ _ neg hv h10 hb ha hc hm
    h0 hfin hW

/-- FULL STATEMENT (proved: `roundtrip_decimal_value_holds`): every finite non-zero float, written by the Dragonbox
model's digits through the formatting-layer model in any valid decimal format with any compatible options (no digit
limit), is read back by the documented grammar as the same bits. -/
def roundtrip_decimal_value_full : Prop :=
  ∀ (t : FTy) (bits : Nat), 0 < bits → bits < (fmtOf t).infBits → RoundTripsAll t bits

/-- the full statement follows from C02's `dragonbox_correct` -/
theorem roundtrip_decimal_value_of_dragonbox_correct (h : LexVerif.Props.C02.dragonbox_correct) :
    roundtrip_decimal_value_full :=
  fun t bits h0 hfin => roundTripsAll_of_dragonboxOk t bits h0 hfin (h t bits h0 hfin)

/-- **the full statement holds** (default, non-`compact` builds): C02's `dragonbox_correct` is proved for every finite
non-zero f32 / f64 (`Props.C02.dragonbox_correct_holds`) -/
theorem roundtrip_decimal_value_holds : roundtrip_decimal_value_full :=
  roundtrip_decimal_value_of_dragonbox_correct LexVerif.Props.C02.dragonbox_correct_holds

/-- the instance for a zero mantissa field (every power of two of f32 and f64) -/
theorem roundtrip_decimal_value_partial (t : FTy) (e : Nat) (h0 : 0 < e) (he : e < 2 ^ t.exponentSize.toNat - 1)
    (hfin : e * 2 ^ t.ms < (fmtOf t).infBits) : RoundTripsAll t (e * 2 ^ t.ms) :=
  roundtrip_decimal_value_holds t _ (Nat.mul_pos h0 (Nat.pow_pos (by omega))) hfin

/-- non-vacuity: f64 `1.0` (exponent field 1023) -/
example : RoundTripsAll .f64 (1023 * 2 ^ FTy.f64.ms) :=
  roundtrip_decimal_value_partial .f64 1023 (by decide) (by decide) (by decide)

end LexVerif.Props.C08
