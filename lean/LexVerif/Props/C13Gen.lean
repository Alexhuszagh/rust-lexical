import LexVerif.Props.C13
import LexVerif.Proof.SepEnable
/-!
# C13 (continued) — `strip_preserves` beyond the all-I+L+T+C class

`Props/C13.lean` proves R1 (`strip_preserves`) for the class where every digit component carries all four separator
flags. A component WITHOUT separator flags of a separator format behaves like a separator-free component, and the run
of `parse_number` over an input with separators can be compared with the run over the stripped input for ANY `peek`
variant, as long as the stored digit slices are re-scanned consistently by the many-digits path (`Proof.Sep.Rescan`;
it fails for `is_itc!` without the repair `Fix.itc` — finding `C13-sep-itc-without-leading-value` — and `Fix.itc` is
`true`).

* `strip_preserves_gen`: the general theorem (`GenStrip`: release, valid separator format — any of the 15 `peek`
  variants on each component —, no base prefix / suffix, leading zeros allowed, STANDARD's required digits, the separator
  is no sign / decimal point / exponent character / digit; `Rescan` for the integer and fraction component;
  `PeekStable` for the integer component).
* `strip_preserves_all`: every flag combination on every component; the hypotheses `… ≠ .pred .itc ∨ Fix.itc = true`
  on the integer and the fraction component are met by `Fix.itc = true` (`Proof/SepLocal.lean`: the skip predicates
  look at a small neighbourhood only, and replacing a neighbour that is neither digit nor separator by "no neighbour"
  — what the re-scan of a stored slice sees at its boundary — never turns a skip into a non-skip, except for `is_itc`).
  Without the repair `Fix.itc` the exclusion is necessary: `strip_witness_itc` (Props/C13.lean); with it (as the model
  is switched) `strip_preserves_all_fixed` needs none. I+L+C needs no exclusion for R1 (what `Fix.ilc` repairs is R2: a
  trailing separator accepted at the end of input; deleting it does not change the number).
* `strip_preserves_mix`: instance — integer / fraction component without flags or I+L+T+C; the exponent component with
  ANY flag combination.
-/
namespace LexVerif.Props.C13
open LexVerif LexVerif.Model LexVerif.Spec LexVerif.Proof.Sep

instance (c : Cfg) (l : List Nat) : Decidable (NoSep c l) := by unfold NoSep; infer_instance

/-- R1, general form (see the module docstring) -/
theorem strip_preserves_gen (c : Cfg) (o : POpts) (hG : GenStrip c o) (hresI : Rescan c .integer)
    (hresF : Rescan c .fraction) (hstab : PeekStable c .integer) (s : List Nat) (hb : ∀ x ∈ s, x < 256) (fv : Bool)
    (n : Number) (cnt : Nat) (f : Fmt) (h : parseFloatSyntax c o false s fv = .ok (.number n cnt)) :
    ∃ n', parseFloatSyntax c o false (nonSep c s) fv = .ok (.number n' (nonSep c s).length) ∧ NumRel c n n' ∧
      numberBits c f n' = numberBits c f n := by
  obtain ⟨n', h1, h2, h3⟩ := parseFloatSyntax_strip_gen c o hG.stripClass hG.dpSign hstab s (Or.inr ⟨hresI, hb⟩)
    (Or.inr ⟨hresF, hb⟩) fv n cnt h
  exact ⟨n', h1, h2, numberBits_of_numRel c o hG.stripClass f n n' h2 h3⟩

/-- R1 for the mixed class: the integer and the fraction component each have no separator flag or all four; the
exponent component may have any flag combination. An input the complete parser accepts as a number is accepted as the
same number after deleting the separators. -/
theorem strip_preserves_mix (c : Cfg) (o : POpts) (hG : GenStrip c o) (hM : MixOK c) (s : List Nat)
    (hb : ∀ x ∈ s, x < 256) (fv : Bool) (n : Number) (cnt : Nat) (f : Fmt)
    (h : parseFloatSyntax c o false s fv = .ok (.number n cnt)) :
    ∃ n', parseFloatSyntax c o false (nonSep c s) fv = .ok (.number n' (nonSep c s).length) ∧ NumRel c n n' ∧
      numberBits c f n' = numberBits c f n := by
  obtain ⟨n', h1, h2, h3⟩ := parseFloatSyntax_strip_mix c o hG hM s hb fv n cnt h
  exact ⟨n', h1, h2, numberBits_of_numRel c o hG.stripClass f n n' h2 h3⟩

/-- R1 for every class (the I+T+C hypotheses are met by `Fix.itc = true`): any of the 15 `peek` variants (no flag,
I, L, T, I+L, I+T, L+T, I+L+T, and these with C) on every component. -/
theorem strip_preserves_all (c : Cfg) (o : POpts) (hG : GenStrip c o) (hI : c.skip .integer ≠ .pred .itc ∨ Fix.itc = true)
    (hF : c.skip .fraction ≠ .pred .itc ∨ Fix.itc = true) (s : List Nat) (hb : ∀ x ∈ s, x < 256) (fv : Bool) (n : Number) (cnt : Nat)
    (f : Fmt) (h : parseFloatSyntax c o false s fv = .ok (.number n cnt)) :
    ∃ n', parseFloatSyntax c o false (nonSep c s) fv = .ok (.number n' (nonSep c s).length) ∧ NumRel c n n' ∧
      numberBits c f n' = numberBits c f n := by
  obtain ⟨n', h1, h2, h3⟩ := parseFloatSyntax_strip_all c o hG hI hF s hb fv n cnt h
  exact ⟨n', h1, h2, numberBits_of_numRel c o hG.stripClass f n n' h2 h3⟩

/-- R3, general form. The separator-free form `nonSep c s` of `s` is accepted as a number, no run of separators in
`s` directly precedes a sign character, and none of the digit iterators of the run over `s` stops on a separator
(`NonStuck`: the integer iterator after `is_consumed` and after its digits, the fraction iterator, the exponent
iterator) — then `s` is accepted as the same number, with the same value. Any separator predicates (I+T+C on the
integer / fraction component through `Fix.itc = true`, as for `strip_preserves_all`). `NonStuck` is exactly what "every separator of `s` is at a position the flags
enable" has to deliver; it holds for free for I+L+T+C components (`insert_preserves_seps`). -/
theorem insert_preserves_gen (c : Cfg) (o : POpts) (hG : GenStrip c o) (hI : c.skip .integer ≠ .pred .itc ∨ Fix.itc = true)
    (hF : c.skip .fraction ≠ .pred .itc ∨ Fix.itc = true) (s : List Nat) (hb : ∀ x ∈ s, x < 256) (hP : NoSepBeforeSign c s)
    (hNS : NonStuck c o s) (fv : Bool) (n' : Number) (cnt : Nat) (f : Fmt)
    (h : parseFloatSyntax c o false (nonSep c s) fv = .ok (.number n' cnt)) :
    ∃ n, parseFloatSyntax c o false s fv = .ok (.number n s.length) ∧ NumRel c n n' ∧
      numberBits c f n = numberBits c f n' := by
  obtain ⟨n, h1, h2, h3⟩ := parseFloatSyntax_insert_gen c o hG.stripClass s
    (Or.inr ⟨rescan_any c o hG .integer (by decide) hI, hb⟩)
    (Or.inr ⟨rescan_any c o hG .fraction (by decide) hF, hb⟩) hP hNS fv n' cnt h
  exact ⟨n, h1, h2, (numberBits_of_numRel c o hG.stripClass f n n' h2 h3).symm⟩

/-- R3 when the separators sit in I+L+T+C components only (`SepsOnlyIn`: for every digit component that is not
I+L+T+C — whatever its flags — its part of the input contains no separator byte; `OptsOK`: the exponent character is
no digit, no sign, not the decimal point, also up to the case folding the parser applies): separators inserted anywhere
in the I+L+T+C components, except directly before a sign, keep the input accepted as the same number. With all three
components I+L+T+C this is `insert_preserves` of `Props/C13.lean`; with no-flag components it is the mixed class. -/
theorem insert_preserves_seps (c : Cfg) (o : POpts) (hG : GenStrip c o) (hO : OptsOK c o)
    (hI : c.skip .integer ≠ .pred .itc ∨ Fix.itc = true) (hF : c.skip .fraction ≠ .pred .itc ∨ Fix.itc = true) (s : List Nat) (hb : ∀ x ∈ s, x < 256)
    (hP : NoSepBeforeSign c s) (hS : SepsOnlyIn c o s) (fv : Bool) (n' : Number) (cnt : Nat) (f : Fmt)
    (h : parseFloatSyntax c o false (nonSep c s) fv = .ok (.number n' cnt)) :
    ∃ n, parseFloatSyntax c o false s fv = .ok (.number n s.length) ∧ NumRel c n n' ∧
      numberBits c f n = numberBits c f n' :=
  insert_preserves_gen c o hG hI hF s hb hP (nonStuck_of_sepsOnlyIn c o hG hO s hS) fv n' cnt f h

/-- R3 with the documented position rules, every flag combination (I+T+C through `Fix.itc = true`).
`DocEnabled c o s`: the integer part of
`s` (behind the optional sign, up to the first byte that is neither digit nor separator), the fraction part (behind the
decimal point) and the exponent part (behind the exponent character and its optional sign) consist of digits and
separators, and every separator in them is at a position the flags of the component enable — a digit of the component
before and after it (through separators): needs I; only after: L; only before: T; next to another separator: C
(`DocEnabledAt`, docs/DigitSeparators.md). Then: if the stripped input is accepted as a number, so is `s`, as the same
number with the same value. (`Proof/SepEnable.lean`: an enabled run is skipped by each of the 14 predicates of `peek` —
`enabled_holds` —, hence no iterator stops on a separator.) -/
theorem insert_preserves_doc (c : Cfg) (o : POpts) (hG : GenStrip c o) (hI : c.skip .integer ≠ .pred .itc ∨ Fix.itc = true)
    (hF : c.skip .fraction ≠ .pred .itc ∨ Fix.itc = true) (s : List Nat) (hb : ∀ x ∈ s, x < 256) (hP : NoSepBeforeSign c s)
    (hD : DocEnabled c o s) (fv : Bool) (n' : Number) (cnt : Nat) (f : Fmt)
    (h : parseFloatSyntax c o false (nonSep c s) fv = .ok (.number n' cnt)) :
    ∃ n, parseFloatSyntax c o false s fv = .ok (.number n s.length) ∧ NumRel c n n' ∧
      numberBits c f n = numberBits c f n' :=
  insert_preserves_gen c o hG hI hF s hb hP (nonStuck_of_docEnabled c o hG s hD) fv n' cnt f h

/-- R1 without any flag exclusion; `hfix` is what the definition of `Fix.itc` gives (`rfl`) -/
theorem strip_preserves_all_fixed (hfix : Fix.itc = true) (c : Cfg) (o : POpts) (hG : GenStrip c o) (s : List Nat)
    (hb : ∀ x ∈ s, x < 256) (fv : Bool) (n : Number) (cnt : Nat) (f : Fmt)
    (h : parseFloatSyntax c o false s fv = .ok (.number n cnt)) :
    ∃ n', parseFloatSyntax c o false (nonSep c s) fv = .ok (.number n' (nonSep c s).length) ∧ NumRel c n n' ∧
      numberBits c f n' = numberBits c f n :=
  strip_preserves_all c o hG (Or.inr hfix) (Or.inr hfix) s hb fv n cnt f h

/-- … and so does R3 under the documented position rules -/
theorem insert_preserves_doc_fixed (hfix : Fix.itc = true) (c : Cfg) (o : POpts) (hG : GenStrip c o) (s : List Nat)
    (hb : ∀ x ∈ s, x < 256) (hP : NoSepBeforeSign c s) (hD : DocEnabled c o s) (fv : Bool) (n' : Number) (cnt : Nat)
    (f : Fmt) (h : parseFloatSyntax c o false (nonSep c s) fv = .ok (.number n' cnt)) :
    ∃ n, parseFloatSyntax c o false s fv = .ok (.number n s.length) ∧ NumRel c n n' ∧
      numberBits c f n = numberBits c f n' :=
  insert_preserves_doc c o hG (Or.inr hfix) (Or.inr hfix) s hb hP hD fv n' cnt f h

theorem genStrip_cfgOf (bits : Nat) (hreach : ∀ k, (cfgOf bits).skip k ≠ .unreachable)
    (hfix : (cfgOf bits).digitSeparator = 0x5f ∧ (cfgOf bits).basePrefix = 0 ∧ (cfgOf bits).baseSuffix = 0 ∧
      (cfgOf bits).noFloatLeadingZeros = false ∧ (cfgOf bits).requiredExponentDigits = true ∧
      (cfgOf bits).requiredMantissaDigits = true ∧ (cfgOf bits).mantissaRadix = 10 ∧ (cfgOf bits).exponentRadix = 10 ∧
      (cfgOf bits).caseSensitiveExponent = false) :
    GenStrip (cfgOf bits) {} := by
  obtain ⟨h1, h2, h3, h4, h5, h6, h7, h8, h9⟩ := hfix
  have hsep : ∀ x, (cfgOf bits).isSep x = true → x = 0x5f := by
    intro x hx; simp only [Cfg.isSep, h1, Bool.and_eq_true, decide_eq_true_eq] at hx; exact hx.2
  refine ⟨⟨rfl, hreach, fun _ => by rw [h7]; decide⟩, by rw [h1]; decide, h2, h3, h4, h5, h6, ?_, ?_, ?_, ?_, ?_, ?_, ?_,
    by rw [h7]; decide, by rw [h7]; decide, by rw [h8]; decide, by decide⟩
  · simp [Cfg.isSep, h1]
  · simp [Cfg.isSep, h1]
  · simp [Cfg.isSep, h1]
  · intro x hx; rw [hsep x hx]; simp only [matchesExp, h9, Bool.false_and, Bool.false_eq_true, if_false]; decide
  · rw [h7]; decide
  · intro x hx; rw [hsep x hx, h7]; decide
  · intro x hx; rw [hsep x hx, h8]; decide

/-- `sepmix`-style format: integer no flag, fraction I+L+T+C, exponent internal only -/
def cMixA : Cfg := cfgOf 0x496
/-- integer I+L+T+C, fraction no flag, exponent trailing+consecutive -/
def cMixB : Cfg := cfgOf 0xb49

theorem mixA_genStrip : GenStrip cMixA {} :=
  genStrip_cfgOf 0x496 (by intro k; cases k <;> decide) (by decide)
theorem mixA_ok : MixOK cMixA := ⟨Or.inl (by decide), Or.inr (by decide)⟩
theorem mixB_genStrip : GenStrip cMixB {} :=
  genStrip_cfgOf 0xb49 (by intro k; cases k <;> decide) (by decide)
theorem mixB_ok : MixOK cMixB := ⟨Or.inr (by decide), Or.inl (by decide)⟩

/-- non-vacuity: `12._3_4__5_e1_0` is accepted by `cMixA` (21+ digit variant exercises the re-scan) -/
example : numIs (parseFloatSyntax cMixA {} false [49,50,46,95,51,95,52,95,95,53,95,101,49,95,48]) 15 12345 7
    (some [95,51,95,52,95,95,53,95]) = true := by decide

example : numIs (parseFloatSyntax cMixA {} false
    [49,50,51,52,53,54,55,56,57,48,49,46,95,50,51,52,53,54,55,56,57,48,95,49,50,51,52,53]) 28
    1234567890123456789 (-8) (some [95,50,51,52,53,54,55,56,57,48,95,49,50,51,52,53]) = true := by decide

/-! ### the uniform classes of the catalogue (`c13_dec_uni_*`, fmtcat_sep.py) are instances -/

/-- uniform format: the same flag letters on integer, fraction and exponent (bits 0–2 internal, 3–5 leading,
6–8 trailing, 9–11 consecutive of `cfgOf`) -/
def cUni (i l t cc : Bool) : Cfg :=
  cfgOf ((if i then 0x7 else 0) + (if l then 0x38 else 0) + (if t then 0x1c0 else 0) + (if cc then 0xe00 else 0))

theorem uni_genStrip : ∀ i l t cc : Bool, (i || l || t) = true → GenStrip (cUni i l t cc) {} := by
  intro i l t cc h
  cases i <;> cases l <;> cases t <;> cases cc <;> first
    | (simp at h; done)
    | exact genStrip_cfgOf _ (by intro k; cases k <;> decide) (by decide)

/-- R1 for the thirteen uniform classes I, L, T, I+L, I+T, L+T, I+L+T, I+C, L+C, T+C, I+L+C, L+T+C, I+L+T+C: every
one but I+T+C -/
theorem strip_preserves_uniform (i l t cc : Bool) (h : (i || l || t) = true)
    (hitc : ¬ (i = true ∧ l = false ∧ t = true ∧ cc = true)) (s : List Nat) (hb : ∀ x ∈ s, x < 256) (fv : Bool)
    (n : Number) (cnt : Nat) (f : Fmt) (hp : parseFloatSyntax (cUni i l t cc) {} false s fv = .ok (.number n cnt)) :
    ∃ n', parseFloatSyntax (cUni i l t cc) {} false (nonSep (cUni i l t cc) s) fv
        = .ok (.number n' (nonSep (cUni i l t cc) s).length) ∧ NumRel (cUni i l t cc) n n' ∧
      numberBits (cUni i l t cc) f n' = numberBits (cUni i l t cc) f n := by
  refine strip_preserves_all _ _ (uni_genStrip i l t cc h) ?_ ?_ s hb fv n cnt f hp <;>
  · cases i <;> cases l <;> cases t <;> cases cc <;> first
      | (simp at h; done)
      | (exfalso; exact hitc ⟨rfl, rfl, rfl, rfl⟩)
      | decide

/-- non-vacuity: internal-only (`c13_dec_uni_i`): `1_2.3_4e1_0` is accepted; 21 digits with separators re-scan -/
example : numIs (parseFloatSyntax (cUni true false false false) {} false [49,95,50,46,51,95,52,101,49,95,48]) 11 1234 8
    (some [51,95,52]) = true := by decide

example : numIs (parseFloatSyntax (cUni true false false false) {} false
    [49,95,50,51,52,53,54,55,56,57,48,49,46,50,51,52,53,54,55,56,57,48,95,49,50,51,52,53]) 28
    1234567890123456789 (-8) (some [50,51,52,53,54,55,56,57,48,95,49,50,51,52,53]) = true := by decide

/-- leading+trailing+consecutive (`c13_dec_uni_ltc`): `__12__.__5__e__3__` -/
example : numIs (parseFloatSyntax (cUni false true true true) {} false
    [95,95,49,50,95,95,46,95,95,53,95,95,101,95,95,51,95,95]) 18 125 2 (some [95,95,53,95,95]) = true := by decide

theorem optsOK_cfgOf (bits : Nat) (h7 : (cfgOf bits).mantissaRadix = 10)
    (h9 : (cfgOf bits).caseSensitiveExponent = false) : OptsOK (cfgOf bits) {} := by
  have hm : ∀ x, matchesExp (cfgOf bits) {} x = eqIgnoreCase x 101 := by
    intro x; simp [matchesExp, h9]
  refine ⟨?_, by rw [hm, hm]; decide, by rw [hm]; decide⟩
  intro x hx
  rw [hm] at hx
  have hx2 : x = 101 ∨ x = 69 := by
    simp only [eqIgnoreCase, lowerAscii] at hx
    split at hx <;> simp at hx <;> omega
  rw [h7]
  rcases hx2 with rfl | rfl <;> decide

/-- non-vacuity of `insert_preserves_seps`, mixed class `cMixA` (integer: no flag, fraction: I+L+T+C, exponent:
internal only): `12._3__4_e10` — separators in the fraction only; its stripped form `12.34e10` is accepted -/
example : GenStrip cMixA {} ∧ OptsOK cMixA {} ∧ cMixA.skip .integer ≠ .pred .itc ∧ cMixA.skip .fraction ≠ .pred .itc ∧
    NoSepBeforeSign cMixA [49,50,46,95,51,95,95,52,95,101,49,48] ∧
    SepsOnlyIn cMixA {} [49,50,46,95,51,95,95,52,95,101,49,48] ∧
    numIs (parseFloatSyntax cMixA {} false (nonSep cMixA [49,50,46,95,51,95,95,52,95,101,49,48])) 8 1234 8
      (some [51,52]) = true :=
  ⟨mixA_genStrip, optsOK_cfgOf 0x496 (by decide) (by decide), by decide, by decide,
   noSepBeforeSign_of_B _ _ (by decide), ⟨by decide, by decide, by decide⟩, by decide⟩

/-- … and indeed `12._3__4_e10` itself is accepted with the same mantissa / exponent -/
example : numIs (parseFloatSyntax cMixA {} false [49,50,46,95,51,95,95,52,95,101,49,48]) 12 1234 8
    (some [95,51,95,95,52,95]) = true := by decide

/-- a separator in the part of a component that is not I+L+T+C violates `SepsOnlyIn` — and is indeed rejected:
`1_2.34` under `cMixA` (integer without flags) -/
example : ¬ SepsOnlyIn cMixA {} [49,95,50,46,51,52] ∧
    (parseFloatSyntax cMixA {} false [49,95,50,46,51,52]).toBool = false := by
  refine ⟨fun h => ?_, by decide⟩
  have := h.int (by decide) 95 (by decide)
  revert this; decide

/-- non-vacuity of `insert_preserves_doc`, internal-only class (`c13_dec_uni_i`): `-1_2.3_4e+1_0` — every separator
between two digits of its component; integer part `[1,4)`, fraction part `[5,8)`, exponent part `[10,13)` -/
example : DocEnabled (cUni true false false false) {} [45,49,95,50,46,51,95,52,101,43,49,95,48] :=
  ⟨4, partEnabled_of_B _ _ _ _ _ _ (by decide),
   fun _ => ⟨8, partEnabled_of_B _ _ _ _ _ _ (by decide),
     fun x hx _ => ⟨13, by
       have : x = 101 := by simpa using hx.symm
       exact partEnabled_of_B _ _ _ _ _ _ (by decide)⟩⟩,
   fun h => absurd (by decide) h⟩

/-- … a leading separator is not enabled by the internal flag: `_12` violates the rule (and is rejected) -/
example : ¬ DocEnabledAt (cUni true false false false) ((cUni true false false false).sepFlags .integer) [95,49,50] 0 ∧
    (parseFloatSyntax (cUni true false false false) {} false [95,49,50]).toBool = false := by
  refine ⟨by decide, by decide⟩

/-- leading+trailing+consecutive (`c13_dec_uni_ltc`): `__12__.__5__` -/
example : DocEnabled (cUni false true true true) {} [95,95,49,50,95,95,46,95,95,53,95,95] :=
  ⟨6, partEnabled_of_B _ _ _ _ _ _ (by decide),
   fun _ => ⟨12, partEnabled_of_B _ _ _ _ _ _ (by decide), fun x hx _ => by simp at hx⟩,
   fun h => absurd (by decide) h⟩

end LexVerif.Props.C13
