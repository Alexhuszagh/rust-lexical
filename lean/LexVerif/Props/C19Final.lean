import LexVerif.Props.C19
import LexVerif.Proof.NumberTrueValue
import LexVerif.Props.C01Main
import LexVerif.Props.C01Number
/-!
# Props.C19Final — lossy float parsing on the pipeline model changes only the magnitude, by at most one pattern

`Model.ParseFloatAlgo.parseFloatAlgoModel … (lossy := true)` is `parse_complete` / `parse_partial` with `options.lossy()`:
the same syntax layer (the `lossy` flag is not an input of it), `try_fast_path`, the moderate path with `lossy = true`
(which always answers with a valid float), no slow path. The specification side is the oracle `parseFloatModel`
(`Spec.litBits`; by `Props.C01Final.C01_decimal_full_proved` it is also what the non-lossy pipeline prints:
`C19_lossy_vs_exact_decimal` in `Props.C19FinalExact`).

* `LossyRel`: the two printed results are the same string (errors, special values, `ok 0`), or both are `ok <bits> <count>`
  with the same count and `Close` bits — same sign, magnitudes at most one pattern apart (`CloseDown`: the lossy one is
  the correct one or the pattern just **below**);
* `lossyRel_of_numbers`: the API statement reduced to one obligation per parsed `Number`;
* `lossy_number_core`: fast-path answers are untouched; a moderate-path answer within one pattern is `Close`;
* decimal: `C19_decimal_lossy_lemire` (non-`compact`: Eisel–Lemire, `CloseDown`), `C19_decimal_lossy_compact`
  (Bellerophon, `Close`), every separator-free format class of C12, every digit count, both float types, complete and partial parser —
  `C19_lossy_decimal_proved`;
* `C19_decimal_decided`: the lossy result **equals** the oracle whenever the input is untruncated and Eisel–Lemire
  decides (in particular on every fast-path input and whenever the value is exactly representable);
* radices: `lossy_number_pow2`, `lossy_number_bellerophon` per `Number` (the syntax layer's exactness for non-decimal
  radices is a hypothesis there).

What is **not** true and therefore not stated: that an infinite correct result is preserved — the lossy parser rounds
the first 19 digits only, so `2^1024 − 2^970` written out (309 digits, a tie that rounds to `+∞`) parses to the largest
finite double under `lossy` (`lossy_overflow_witness`).
-/
namespace LexVerif.Props.C19Final
open LexVerif.Spec LexVerif.Model LexVerif.Model.ParseFloatAlgo
open LexVerif.Proof.RoundNE LexVerif.Proof.ExtRound LexVerif.Proof.Pipeline LexVerif.Proof.Compose
open LexVerif.Props.C01 (IsLemireFloat IsI64)
open LexVerif.Props.C01Main

/-- bits of the same sign whose magnitudes are finite-or-infinite patterns at most one apart -/
def Close (F : FTy) (vl ve : Nat) : Prop :=
  ∃ ml me sgn, vl = ml + sgn ∧ ve = me + sgn ∧ (sgn = 0 ∨ sgn = F.fmt.signBit) ∧
    me ≤ F.fmt.infBits ∧ ml ≤ me + 1 ∧ me ≤ ml + 1

/-- … and the lossy magnitude is the correct one or the pattern just below it (so a correct `±0` is preserved) -/
def CloseDown (F : FTy) (vl ve : Nat) : Prop :=
  ∃ ml me sgn, vl = ml + sgn ∧ ve = me + sgn ∧ (sgn = 0 ∨ sgn = F.fmt.signBit) ∧
    me ≤ F.fmt.infBits ∧ ml ≤ me ∧ me ≤ ml + 1

theorem CloseDown.close {F : FTy} {vl ve : Nat} (h : CloseDown F vl ve) : Close F vl ve := by
  obtain ⟨ml, me, sgn, h1, h2, h3, h4, h5, h6⟩ := h
  exact ⟨ml, me, sgn, h1, h2, h3, h4, by omega, h6⟩

theorem close_refl {F : FTy} (neg : Bool) {m : Nat} (hm : m ≤ F.fmt.infBits) :
    CloseDown F (m + if neg then F.fmt.signBit else 0) (m + if neg then F.fmt.signBit else 0) :=
  ⟨m, m, _, rfl, rfl, by cases neg <;> simp, hm, Nat.le_refl _, Nat.le_succ _⟩

theorem closeDown_zero {F : FTy} {vl ve sgn : Nat} (h : CloseDown F vl ve) (hz : ve = sgn)
    (hs : sgn = 0 ∨ sgn = F.fmt.signBit) (hinf : F.fmt.infBits < F.fmt.signBit) : vl = ve := by
  obtain ⟨ml, me, s2, h1, h2, h3, h4, h5, h6⟩ := h
  have : me = 0 ∧ s2 = sgn := by
    rcases hs with hs | hs <;> rcases h3 with h3 | h3 <;> omega
  omega

/-- the relation between the oracle's line and the lossy pipeline's line -/
def LossyRel (R : Nat → Nat → Prop) (exact lossy : String) : Prop :=
  exact = lossy ∨ ∃ (vl ve : Nat) (cnt : String),
    lossy = s!"ok {toHex vl} {cnt}" ∧ exact = s!"ok {toHex ve} {cnt}" ∧ R vl ve

theorem LossyRel.same (R : Nat → Nat → Prop) (a : String) : LossyRel R a a := Or.inl rfl

/-- **the `lossy` flag is not an input of the syntax layer**: acceptance, errors, counts, special values and `ok 0` are
shared verbatim by `parseFloatModel` and the lossy pipeline; the two lines can differ only in the bits of a parsed
`Number`. -/
theorem lossyRel_of_numbers (R : Nat → Nat → Prop) (slow : SlowRadix) (feats : Features) (fmt : Format) (o : POpts)
    (isPartial : Bool) (F : FTy) (s : List Nat)
    (h : isValidOptionsPunctuation feats fmt o.exp o.dp = true → ∀ n cnt,
      parseFloatSyntax ⟨feats, fmt, false⟩ o isPartial s (formatError feats fmt).isNone = .ok (.number n cnt) →
      ∃ vl, numberToFloat slow ⟨feats, fmt, false⟩ F n true = some vl ∧
        R vl (numberBits ⟨feats, fmt, false⟩ F.fmt n)) :
    LossyRel R (parseFloatModel feats fmt o isPartial F.fmt s)
      (parseFloatAlgoModel slow feats fmt o isPartial F s true) := by
  apply api_rel (LossyRel R) (LossyRel.same R)
  intro hval n cnt hp
  obtain ⟨vl, h1, h2⟩ := h hval n cnt hp
  unfold renderParsedAlgo renderParsed
  simp only []
  rw [h1]
  exact Or.inr ⟨vl, _, _, rfl, rfl, h2⟩

theorem wf_of {F : FTy} (hF : IsLemireFloat F) : WF F.fmt := by
  rcases hF with h | h <;> subst h
  · exact wf_f64
  · exact wf_f32

theorem toNative_bits (F : FTy) (fp : ExtendedFloat80) (neg : Bool) :
    toNative F fp neg = extendedToFloat F fp + (if neg then F.fmt.signBit else 0) := by
  unfold toNative FastPath.withSign
  cases neg <;> simp

/-- **the lossy pipeline for one `Number`**: a fast-path answer is returned as it is (the fast path does not look at
`lossy`); otherwise the valid answer of the lossy moderate path is returned with the sign — the slow path is not
consulted -/
theorem lossy_number_core (slow : SlowRadix) {F : FTy} (c : Cfg) (n : Number) (num den : Nat)
    (hfnp : FastPath.tryFastPath (smallSetOf c.feats) F c.mantissaRadix c.exponentBase (numOf n) ≠ .panic)
    (hfast : ∀ v, FastPath.tryFastPath (smallSetOf c.feats) F c.mantissaRadix c.exponentBase (numOf n) = .some v →
      v = roundSigned F.fmt n.isNegative num den)
    {fp : ExtendedFloat80} (hm : moderatePath c F (numOf n) true = .ok fp) (hv : 0 ≤ fp.exp) :
    ∃ vl, numberToFloat slow c F n true = some vl ∧
      (vl = roundSigned F.fmt n.isNegative num den ∨
        vl = extendedToFloat F fp + (if n.isNegative then F.fmt.signBit else 0)) := by
  rcases numberToFloat_cases slow hfnp hfast hm with h | h
  · exact ⟨_, h, .inl rfl⟩
  · exact ⟨_, h, .inr (by rw [resolve_valid hv, toNative_bits])⟩

theorem closeDown_of {F : FTy} (hF : IsLemireFloat F) (neg : Bool) (num den ml vl : Nat) (hd : 0 < den)
    (h : vl = roundSigned F.fmt neg num den ∨ vl = ml + (if neg then F.fmt.signBit else 0))
    (h1 : ml ≤ roundNE F.fmt num den) (h2 : roundNE F.fmt num den ≤ ml + 1) :
    CloseDown F vl (roundSigned F.fmt neg num den) := by
  have hinf := roundNE_le_infBits (wf_of hF) num hd
  rcases h with h | h
  · rw [h]; unfold roundSigned; exact close_refl neg hinf
  · rw [h]; unfold roundSigned
    exact ⟨ml, _, _, rfl, rfl, by cases neg <;> simp, hinf, h1, h2⟩

theorem close_of {F : FTy} (hF : IsLemireFloat F) (neg : Bool) (num den ml vl : Nat) (hd : 0 < den)
    (h : vl = roundSigned F.fmt neg num den ∨ vl = ml + (if neg then F.fmt.signBit else 0))
    (h1 : ml ≤ roundNE F.fmt num den + 1) (h2 : roundNE F.fmt num den ≤ ml + 1) :
    Close F vl (roundSigned F.fmt neg num den) := by
  have hinf := roundNE_le_infBits (wf_of hF) num hd
  rcases h with h | h
  · rw [h]; unfold roundSigned; exact (close_refl neg hinf).close
  · rw [h]; unfold roundSigned
    exact ⟨ml, _, _, rfl, rfl, by cases neg <;> simp, hinf, h1, h2⟩

theorem lemire_lossy_eq (F : FTy) (n : Num) :
    Lemire.lemire F n true = Lemire.computeFloat F n.exponent n.mantissa true := by
  unfold Lemire.lemire
  cases Lemire.computeFloat F n.exponent n.mantissa true <;> simp

theorem moderatePath_lemire_lossy (c : Cfg) (hcompact : c.feats.compact = false) (hr : c.mantissaRadix = 10)
    (F : FTy) (n : Num) :
    moderatePath c F n true = Lemire.computeFloat F n.exponent n.mantissa true := by
  rw [moderatePath_lemire c hcompact hr]
  exact lemire_lossy_eq F n

/-- the two relative errors — the computed product (`2^−61`) and the truncation to 19 digits (`≤ 10^−18`) — stay
below `2^−58` together -/
theorem rel_compose (P Q w : Nat) (hw : 10 ^ 18 ≤ w) (h : P * (w * 2 ^ 61) < Q * ((2 ^ 61 + 1) * (w + 1))) :
    P * 2 ^ 58 ≤ Q * (2 ^ 58 + 1) := by
  have hk : (2 ^ 61 + 1) * (w + 1) * 2 ^ 58 ≤ (2 ^ 58 + 1) * (w * 2 ^ 61) := by
    have e1 : (2 ^ 61 + 1) * (w + 1) * 2 ^ 58 = 2 ^ 58 * (2 ^ 61 + 1) * w + 2 ^ 58 * (2 ^ 61 + 1) := by ring
    have e2 : (2 ^ 58 + 1) * (w * 2 ^ 61) = (2 ^ 58 + 1) * 2 ^ 61 * w := by ring
    rw [e1, e2]
    have e3 : (2 ^ 58 + 1) * 2 ^ 61 = 2 ^ 58 * (2 ^ 61 + 1) + 7 * 2 ^ 58 := by norm_num
    rw [e3, Nat.add_mul]
    have e4 : 2 ^ 58 * (2 ^ 61 + 1) ≤ 7 * 2 ^ 58 * 10 ^ 18 := by norm_num
    have e5 : 7 * 2 ^ 58 * 10 ^ 18 ≤ 7 * 2 ^ 58 * w := Nat.mul_le_mul_left _ hw
    exact Nat.add_le_add_left (Nat.le_trans e4 e5) _
  have hα : 0 < w * 2 ^ 61 := Nat.mul_pos (by omega) (Nat.two_pow_pos _)
  apply Nat.le_of_lt
  apply Nat.lt_of_mul_lt_mul_right (a := w * 2 ^ 61)
  calc P * 2 ^ 58 * (w * 2 ^ 61) = P * (w * 2 ^ 61) * 2 ^ 58 := by ring
    _ < Q * ((2 ^ 61 + 1) * (w + 1)) * 2 ^ 58 := Nat.mul_lt_mul_of_pos_right h (Nat.two_pow_pos _)
    _ = Q * ((2 ^ 61 + 1) * (w + 1) * 2 ^ 58) := by ring
    _ ≤ Q * ((2 ^ 58 + 1) * (w * 2 ^ 61)) := Nat.mul_le_mul_left _ hk
    _ = Q * (2 ^ 58 + 1) * (w * 2 ^ 61) := by ring

open LexVerif.Proof.Bell in
/-- **lossy Eisel–Lemire for one decimal `Number`** (untruncated, or truncated to 19 digits `≥ 10^18`): the result is
`roundNE` of the true value `num/den` (`TrueValue`) or the pattern just below, with the sign of the literal -/
theorem lossy_number_lemire (slow : SlowRadix) {F : FTy} (hF : IsLemireFloat F) (c : Cfg)
    (hcompact : c.feats.compact = false) (hr : c.mantissaRadix = 10) (hb : c.exponentBase = 10) (n : Number)
    (hw : n.mantissa < 2 ^ 64) (hq : IsI64 n.exponent) (hw18 : n.manyDigits = true → 10 ^ 18 ≤ n.mantissa)
    (num den : Nat) (hd : 0 < den) (htv : TrueValue 10 (numOf n) num den) :
    ∃ vl, numberToFloat slow c F n true = some vl ∧ CloseDown F vl (roundSigned F.fmt n.isNegative num den) := by
  have hf := wf_of hF
  obtain ⟨fp, n', d', h1, h2, hd', h3, hlo, hhi⟩ := C19.lossy_lemire_value F hF n.exponent hq n.mantissa hw
  have hden : 0 < (powFrac 10 n.exponent n.mantissa).2 := powFrac_den_pos (by decide) _ _
  have htr := fun hmany => (TrueValue.truncated (n := numOf n) hmany htv).2.2
  obtain ⟨tv1, tv2⟩ := htv
  have hmn : (numOf n).mantissa = n.mantissa := rfl
  have hen : (numOf n).exponent = n.exponent := rfl
  have hmd : (numOf n).manyDigits = n.manyDigits := rfl
  rw [hmn, hen] at tv1
  rw [hmn, hen, hmd] at tv2
  have hp58 : 2 ^ F.fmt.p ≤ 2 ^ 58 := by rcases hF with h | h <;> subst h <;> decide
  generalize hA : powFrac 10 n.exponent n.mantissa = A at *
  -- x' ≤ w·10^q ≤ X
  have hmono : roundNE F.fmt n' d' ≤ roundNE F.fmt num den := by
    apply roundNE_mono' hf hd' hd
    apply Nat.le_of_mul_le_mul_right _ hden
    calc n' * den * A.2 = n' * A.2 * den := by ring
      _ ≤ A.1 * d' * den := Nat.mul_le_mul_right _ hlo
      _ = A.1 * den * d' := by ring
      _ ≤ num * A.2 * d' := Nat.mul_le_mul_right _ tv1
      _ = num * d' * A.2 := by ring
  cases hmany : n.manyDigits with
  | false =>
    rw [hmany] at tv2
    simp only [Bool.false_eq_true, if_false] at tv2
    have hstep : roundNE F.fmt num den ≤ roundNE F.fmt n' d' + 1 := by
      apply roundNE_step hf hd' hd (show 2 ^ F.fmt.p ≤ 2 ^ 61 from Nat.le_trans hp58 (by decide))
      apply Nat.le_of_mul_le_mul_right _ hden
      calc num * d' * 2 ^ 61 * A.2 = num * A.2 * (d' * 2 ^ 61) := by ring
        _ ≤ A.1 * den * (d' * 2 ^ 61) := Nat.mul_le_mul_right _ tv2
        _ = A.1 * d' * 2 ^ 61 * den := by ring
        _ ≤ n' * A.2 * (2 ^ 61 + 1) * den := Nat.mul_le_mul_right _ hhi
        _ = n' * den * (2 ^ 61 + 1) * A.2 := by ring
    have hfc := fastContract_decimal hF c hr n
    have hcg : roundNE F.fmt A.1 A.2 = roundNE F.fmt num den :=
      roundNE_congr' hf hden hd (Nat.le_antisymm tv1 tv2)
    obtain ⟨vl, e1, e2⟩ := lossy_number_core slow c n num den hfc.1 (fun v hv => by
        rw [hfc.2 v hv, hb, hA]
        unfold roundSigned
        rw [hcg])
      (by rw [moderatePath_lemire_lossy c hcompact hr]; exact h1) h2
    exact ⟨vl, e1, closeDown_of hF _ num den (roundNE F.fmt n' d') vl hd (by rw [h3] at e2; exact e2) hmono hstep⟩
  | true =>
    have hw1 := hw18 hmany
    -- `num/den < (w+1)·10^q`, relative to `w·10^q`
    have trel : num * A.2 * n.mantissa < A.1 * den * (n.mantissa + 1) := by
      have := htr hmany (show 0 < n.mantissa by omega)
      rwa [hmn, hen, hA] at this
    have hstep : roundNE F.fmt num den ≤ roundNE F.fmt n' d' + 1 := by
      apply roundNE_step hf hd' hd hp58
      apply rel_compose (num * d') (n' * den) n.mantissa hw1
      apply Nat.lt_of_mul_lt_mul_right (a := A.2)
      calc num * d' * (n.mantissa * 2 ^ 61) * A.2 = (num * A.2 * n.mantissa) * (d' * 2 ^ 61) := by ring
        _ < (A.1 * den * (n.mantissa + 1)) * (d' * 2 ^ 61) :=
          Nat.mul_lt_mul_of_pos_right trel (Nat.mul_pos hd' (Nat.two_pow_pos _))
        _ = (A.1 * d' * 2 ^ 61) * ((n.mantissa + 1) * den) := by ring
        _ ≤ (n' * A.2 * (2 ^ 61 + 1)) * ((n.mantissa + 1) * den) := Nat.mul_le_mul_right _ hhi
        _ = n' * den * ((2 ^ 61 + 1) * (n.mantissa + 1)) * A.2 := by ring
    have hnone := fast_none_of_many (smallSetOf c.feats) F c.mantissaRadix c.exponentBase (numOf n) hmany
    obtain ⟨vl, e1, e2⟩ := lossy_number_core slow c n num den (by rw [hnone]; simp)
      (fun v hv => by rw [hnone] at hv; exact absurd hv (by simp))
      (by rw [moderatePath_lemire_lossy c hcompact hr]; exact h1) h2
    exact ⟨vl, e1, closeDown_of hF _ num den (roundNE F.fmt n' d') vl hd (by rw [h3] at e2; exact e2) hmono hstep⟩

theorem numberBits_decimal {F : FTy} (hF : IsLemireFloat F) (c : Cfg) (hr : c.mantissaRadix = 10)
    (hb : c.exponentBase = 10) (n : Number)
    (hx : n.manyDigits = false →
      RatEq (powFrac c.exponentBase n.exponent n.mantissa) (litFrac c.mantissaRadix c.exponentBase (numberLit c n))) :
    numberBits c F.fmt n =
      roundSigned F.fmt n.isNegative (litFrac 10 10 (numberLit c n)).1 (litFrac 10 10 (numberLit c n)).2 := by
  rw [numberBits_round hF c (by omega) (by omega) (by omega) n hx, valueOf_eq hr hb]

open LexVerif.Proof.Bell in
/-- what the syntax layer gives the lossy pipeline for one decimal `Number`, truncated or not: machine-sized words, a
truncated mantissa of 19 digits, and the digit content as a true value of the words -/
theorem decimal_number_tv (feats : Features) (fmt : Format) (hr : fmt.mantissaRadix = 10) (hb : fmt.exponentBase = 10)
    (hclass : feats.format = false ∨ C12.SepPrefixFree fmt) (o : POpts)
    (hval : isValidOptionsPunctuation feats fmt o.exp o.dp = true) (isPartial : Bool) (s : List Nat) (fv : Bool)
    (h256 : ∀ x ∈ s, x < 256) (hlen : s.length < 2 ^ 60) (n : Number) (cnt : Nat)
    (hp : parseFloatSyntax ⟨feats, fmt, false⟩ o isPartial s fv = .ok (.number n cnt)) :
    n.mantissa < 2 ^ 64 ∧ IsI64 n.exponent ∧ (n.manyDigits = true → 10 ^ 18 ≤ n.mantissa) ∧
    (n.manyDigits = false → RatEq (powFrac (⟨feats, fmt, false⟩ : Cfg).exponentBase n.exponent n.mantissa)
      (litFrac (⟨feats, fmt, false⟩ : Cfg).mantissaRadix (⟨feats, fmt, false⟩ : Cfg).exponentBase
        (numberLit ⟨feats, fmt, false⟩ n))) ∧
    TrueValue 10 (numOf n) (litFrac 10 10 (numberLit ⟨feats, fmt, false⟩ n)).1
      (litFrac 10 10 (numberLit ⟨feats, fmt, false⟩ n)).2 := by
  have R := C01Number.reads_decimal ⟨feats, fmt, false⟩ rfl hclass hr hb o (C01Number.dp_not_digit_le feats fmt o hval 10 (by omega))
    isPartial s fv h256 hlen n cnt hp
  have htv := C01Trunc.reads_tv R (by decide) hr hb
  rw [valueOf_eq (c := ⟨feats, fmt, false⟩) hr hb] at htv
  exact ⟨R.w64 (by decide), R.isI64 (by decide) hlen, fun h => (R.trunc h).2.2.2.1, fun h => (R.exact h).1.2.2, htv⟩

/-- **C19, decimal, Eisel–Lemire builds**: for every non-`compact` build, every separator-free format class of C12,
all options, `f32`/`f64`, complete and partial parser and every input (any number of digits), the lossy pipeline prints
the oracle's line, or `ok` with the same count and bits of the same sign whose magnitude is the correctly rounded one or
the pattern just below it. -/
theorem C19_decimal_lossy_lemire (slow : SlowRadix) (feats : Features) (hcompact : feats.compact = false)
    (fmt : Format) (hr : fmt.mantissaRadix = 10) (hb : fmt.exponentBase = 10)
    (hclass : feats.format = false ∨ C12.SepPrefixFree fmt)
    (o : POpts) {F : FTy} (hF : IsLemireFloat F) (isPartial : Bool) (s : List Nat)
    (h256 : ∀ x ∈ s, x < 256) (hlen : s.length < 2 ^ 60) :
    LossyRel (CloseDown F) (parseFloatModel feats fmt o isPartial F.fmt s)
      (parseFloatAlgoModel slow feats fmt o isPartial F s true) := by
  apply lossyRel_of_numbers
  intro hval n cnt hp
  obtain ⟨hw, hI, hw18, hx, htv⟩ := decimal_number_tv feats fmt hr hb hclass o hval isPartial s _ h256 hlen n cnt hp
  rw [numberBits_decimal hF ⟨feats, fmt, false⟩ hr hb n hx]
  exact lossy_number_lemire slow hF ⟨feats, fmt, false⟩ hcompact hr hb n hw hI hw18 _ _
    (litFrac_den_pos (by decide) (by decide) _) htv

open LexVerif.Proof.Bell in
/-- **lossy Bellerophon for one `Number`**, any radix with Bellerophon tables (`IsBellTable`: 10 under `compact`, the 29
generic radices in `radix` builds): the result is `roundNE` of the true value or an adjacent pattern, with the sign of
the literal. The fast-path contract is a hypothesis (`fastContract_decimal`, `fastContract_radix`). -/
theorem lossy_number_bellerophon (slow : SlowRadix) {F : FTy} (hF : IsLemireFloat F) (c : Cfg)
    (hback : backend c.feats c.mantissaRadix = .bellerophon)
    (hP : C05.IsBellTable (Bellerophon.powersOf c.feats c.mantissaRadix) c.mantissaRadix)
    (n : Number) (hw : n.mantissa < 2 ^ 64) (hw55 : n.manyDigits = true → 2 ^ 55 ≤ n.mantissa)
    (hfnp : FastPath.tryFastPath (smallSetOf c.feats) F c.mantissaRadix c.exponentBase (numOf n) ≠ .panic)
    (num den : Nat) (hd : 0 < den)
    (hfast : ∀ v, FastPath.tryFastPath (smallSetOf c.feats) F c.mantissaRadix c.exponentBase (numOf n) = .some v →
      v = roundSigned F.fmt n.isNegative num den)
    (htv : TrueValue c.mantissaRadix (numOf n) num den) :
    ∃ vl, numberToFloat slow c F n true = some vl ∧ Close F vl (roundSigned F.fmt n.isNegative num den) := by
  obtain ⟨fp, h1, h2, h3, h4⟩ := C19.lossy_bellerophon_neighbour F hF _ c.mantissaRadix hP (numOf n) hw hw55 num den hd htv
  have hm : moderatePath c F (numOf n) true = .ok fp := by rw [moderatePath_of_bellerophon hback]; exact h1
  obtain ⟨vl, e1, e2⟩ := lossy_number_core slow c n num den hfnp hfast hm h2
  exact ⟨vl, e1, close_of hF _ num den _ vl hd e2 h3 h4⟩

open LexVerif.Proof.Bell in
/-- **C19, decimal, `compact` builds** (moderate path: Bellerophon): the lossy pipeline prints the oracle's line, or `ok`
with the same count and bits of the same sign at most one pattern away from the correctly rounded ones. -/
theorem C19_decimal_lossy_compact (slow : SlowRadix) (feats : Features) (hcompact : feats.compact = true)
    (fmt : Format) (hr : fmt.mantissaRadix = 10) (hb : fmt.exponentBase = 10)
    (hclass : feats.format = false ∨ C12.SepPrefixFree fmt)
    (o : POpts) {F : FTy} (hF : IsLemireFloat F) (isPartial : Bool) (s : List Nat)
    (h256 : ∀ x ∈ s, x < 256) (hlen : s.length < 2 ^ 60) :
    LossyRel (Close F) (parseFloatModel feats fmt o isPartial F.fmt s)
      (parseFloatAlgoModel slow feats fmt o isPartial F s true) := by
  apply lossyRel_of_numbers
  intro hval n cnt hp
  have hr' : (⟨feats, fmt, false⟩ : Cfg).mantissaRadix = 10 := hr
  have hb' : (⟨feats, fmt, false⟩ : Cfg).exponentBase = 10 := hb
  have hlpos := litFrac_den_pos (r := 10) (b := 10) (by decide) (by decide) (numberLit ⟨feats, fmt, false⟩ n)
  have hf := wf_of hF
  have hback : backend (⟨feats, fmt, false⟩ : Cfg).feats (⟨feats, fmt, false⟩ : Cfg).mantissaRadix = .bellerophon := by
    rw [hr']; exact backend_bellerophon_compact _ hcompact
  have hP : C05.IsBellTable (Bellerophon.powersOf (⟨feats, fmt, false⟩ : Cfg).feats
      (⟨feats, fmt, false⟩ : Cfg).mantissaRadix) (⟨feats, fmt, false⟩ : Cfg).mantissaRadix := by
    rw [hr']
    refine Or.inr ⟨by decide, ?_⟩
    unfold Bellerophon.powersOf
    simp only [hcompact, if_true]
  obtain ⟨hw, _, hw18, hx, htv⟩ := decimal_number_tv feats fmt hr hb hclass o hval isPartial s _ h256 hlen n cnt hp
  rw [numberBits_decimal hF _ hr' hb' n hx]
  have hfc := fastContract_decimal hF ⟨feats, fmt, false⟩ hr' n
  refine lossy_number_bellerophon slow hF ⟨feats, fmt, false⟩ hback hP n hw
    (fun h => Nat.le_trans (by decide) (hw18 h)) hfc.1 _ _ hlpos (fun v hv => ?_) (by rw [hr']; exact htv)
  -- a fast-path answer exists for untruncated words only, which are exact
  cases hmany : n.manyDigits with
  | true => rw [fast_none_of_many _ _ _ _ _ hmany] at hv; cases hv
  | false =>
    have hre := hx hmany
    unfold RatEq at hre
    rw [hr', hb'] at hre
    rw [hfc.2 v hv, hb']
    unfold roundSigned
    rw [roundNE_congr' hf (powFrac_den_pos (by decide) _ _) hlpos hre]

/-- **lossy `binary` for one untruncated `Number`** (radices 2, 4, 8, 16, 32, mixed exponent bases included): the lossy
result **is** the correctly rounded one -/
theorem lossy_number_pow2_exact (slow : SlowRadix) {F : FTy} (hF : IsLemireFloat F) (c : Cfg)
    (hp : c.feats.powerOfTwo = true) (hr : C05.IsPow2 c.mantissaRadix) (hb : C05.IsPow2 c.exponentBase)
    (n : Number) (hw : n.mantissa < 2 ^ 64) (he : C05.ExpInRange n.exponent) :
    numberToFloat slow c F n true = some (roundSigned F.fmt n.isNegative
      (powFrac c.exponentBase n.exponent n.mantissa).1 (powFrac c.exponentBase n.exponent n.mantissa).2) := by
  obtain ⟨p, eb, lay⟩ := layout_of hF
  have hS := radixSet_of_pow2 c.feats hp
  have hfc := fastContract_radix hF c hS (pow2_mem_radices hS hr) n
  obtain ⟨fp, a1, a2, a3⟩ := C19.lossy_pow2_exact lay hb (numOf n) hw he
  have hm : moderatePath c F (numOf n) true = .ok fp := by
    rw [moderatePath_of_binary (backend_binary _ hp hr)]; exact a1
  obtain ⟨vl, e1, e2⟩ := lossy_number_core slow c n _ _ hfc.1 hfc.2 hm a2
  rw [e1]
  rcases e2 with e2 | e2
  · rw [e2]
  · rw [e2]
    have : (numOf n).mantissa = n.mantissa ∧ (numOf n).exponent = n.exponent := ⟨rfl, rfl⟩
    rw [this.1, this.2] at a3
    rw [a3]; rfl

/-- **lossy `binary` for one truncated `Number`** (`u64_step` digits, at least `p` bits): the correctly rounded float of
any true value in `[M, M+1)·base^e`, or the pattern just below it -/
theorem lossy_number_pow2 (slow : SlowRadix) {F : FTy} (hF : IsLemireFloat F) (c : Cfg)
    (hp : c.feats.powerOfTwo = true) (hr : C05.IsPow2 c.mantissaRadix) (hb : C05.IsPow2 c.exponentBase)
    (n : Number) (hmany : n.manyDigits = true) (hM : 2 ^ F.fmt.p ≤ n.mantissa) (hw : n.mantissa + 1 < 2 ^ 64)
    (he : C05.ExpInRange n.exponent) (num den : Nat) (hd : 0 < den)
    (hlo : (powFrac c.exponentBase n.exponent n.mantissa).1 * den ≤ num * (powFrac c.exponentBase n.exponent n.mantissa).2)
    (hhi : num * (powFrac c.exponentBase n.exponent (n.mantissa + 1)).2 <
      (powFrac c.exponentBase n.exponent (n.mantissa + 1)).1 * den) :
    ∃ vl, numberToFloat slow c F n true = some vl ∧ CloseDown F vl (roundSigned F.fmt n.isNegative num den) := by
  obtain ⟨p, eb, lay⟩ := layout_of hF
  have hfp : F.fmt.p = p := by rw [lay.fmt]
  obtain ⟨fp, a1, a2, a3⟩ := C19.lossy_pow2_neighbour lay hb (numOf n) (by rw [← hfp]; exact hM) hw he num den hd hlo hhi
  have hm : moderatePath c F (numOf n) true = .ok fp := by
    rw [moderatePath_of_binary (backend_binary _ hp hr)]; exact a1
  have hnone := fast_none_of_many (smallSetOf c.feats) F c.mantissaRadix c.exponentBase (numOf n) hmany
  obtain ⟨vl, e1, e2⟩ := lossy_number_core slow c n num den (by rw [hnone]; simp)
    (fun v hv => by rw [hnone] at hv; exact absurd hv (by simp)) hm a2
  exact ⟨vl, e1, closeDown_of hF _ num den _ vl hd e2 (by rcases a3 with h | h <;> omega)
    (by rcases a3 with h | h <;> omega)⟩

/-- **C19, decimal — proved** (`C19_lossy_decimal_proved`): for every build, every separator-free decimal format class of
C12, all options, `f32`/`f64`, complete and partial parser, every input shorter than `2^60` bytes and **any** stand-in
for `slow_radix` (lossy parsing never calls it): the lossy pipeline accepts, rejects and counts exactly as the oracle,
special values and `ok 0` are printed identically, and the bits of a parsed number have the oracle's sign and a
magnitude at most one pattern from the correctly rounded one. -/
def C19_lossy_decimal : Prop :=
  ∀ (slow : SlowRadix) (feats : Features) (fmt : Format), fmt.mantissaRadix = 10 → fmt.exponentBase = 10 →
    (feats.format = false ∨ C12.SepPrefixFree fmt) →
    ∀ (o : POpts) (F : FTy), IsLemireFloat F → ∀ (isPartial : Bool) (s : List Nat),
      (∀ x ∈ s, x < 256) → s.length < 2 ^ 60 →
      LossyRel (Close F) (parseFloatModel feats fmt o isPartial F.fmt s)
        (parseFloatAlgoModel slow feats fmt o isPartial F s true)

theorem lossyRel_mono {R S : Nat → Nat → Prop} (h : ∀ a b, R a b → S a b) {x y : String} (hr : LossyRel R x y) :
    LossyRel S x y := by
  rcases hr with hr | ⟨vl, ve, cnt, h1, h2, h3⟩
  · exact Or.inl hr
  · exact Or.inr ⟨vl, ve, cnt, h1, h2, h _ _ h3⟩

theorem C19_lossy_decimal_proved : C19_lossy_decimal := by
  intro slow feats fmt hr hb hclass o F hF isPartial s h256 hlen
  cases hc : feats.compact with
  | false =>
    exact lossyRel_mono (fun _ _ h => h.close)
      (C19_decimal_lossy_lemire slow feats hc fmt hr hb hclass o hF isPartial s h256 hlen)
  | true => exact C19_decimal_lossy_compact slow feats hc fmt hr hb hclass o hF isPartial s h256 hlen

/-- **the full property** (a `Prop`): the same for **every** radix the format may name. Proved: the decimal
instance (`C19_lossy_decimal_proved`) and, per `Number`, the other radices (`lossy_number_pow2_exact`,
`lossy_number_pow2`, `lossy_number_bellerophon`); not done: assembling these with the syntax facts of the non-decimal
radices (`Props.C05Number`: the `mantissa` / `exponent` words are the (truncated) value of the digit slices) into this
API statement. -/
def C19_lossy_full : Prop :=
  ∀ (slow : SlowRadix) (feats : Features) (fmt : Format),
    (formatError feats fmt).isNone → checkRadix feats fmt = true →
    (feats.format = false ∨ C12.SepPrefixFree fmt) →
    ∀ (o : POpts) (F : FTy), IsLemireFloat F → ∀ (isPartial : Bool) (s : List Nat),
      (∀ x ∈ s, x < 256) → s.length < 2 ^ 60 →
      LossyRel (Close F) (parseFloatModel feats fmt o isPartial F.fmt s)
        (parseFloatAlgoModel slow feats fmt o isPartial F s true)

theorem eq_of_lossyRel_eq {x y : String} (h : LossyRel (fun a b => a = b) x y) : x = y := by
  rcases h with h | ⟨vl, ve, cnt, h1, h2, h3⟩
  · exact h
  · rw [h1, h2, h3]

/-- **C19, "equal whenever the fast or moderate path decides"** (decimal, Eisel–Lemire builds): if every `Number` parsed
from the input is untruncated and non-lossy `compute_float` decides it (in particular: every fast-path input, every
exactly representable value), the lossy pipeline prints exactly the oracle's line. -/
theorem C19_decimal_decided (slow : SlowRadix) (feats : Features) (hcompact : feats.compact = false)
    (fmt : Format) (hr : fmt.mantissaRadix = 10) (hb : fmt.exponentBase = 10)
    (hclass : feats.format = false ∨ C12.SepPrefixFree fmt)
    (o : POpts) {F : FTy} (hF : IsLemireFloat F) (isPartial : Bool) (s : List Nat)
    (h256 : ∀ x ∈ s, x < 256) (hlen : s.length < 2 ^ 60)
    (hdec : ∀ n cnt, parseFloatSyntax ⟨feats, fmt, false⟩ o isPartial s (formatError feats fmt).isNone =
      .ok (.number n cnt) → n.manyDigits = false ∧
        ∃ fp, Lemire.computeFloat F n.exponent n.mantissa false = .ok fp ∧ 0 ≤ fp.exp) :
    parseFloatModel feats fmt o isPartial F.fmt s = parseFloatAlgoModel slow feats fmt o isPartial F s true := by
  apply eq_of_lossyRel_eq
  apply lossyRel_of_numbers
  intro hval n cnt hp
  obtain ⟨hmany, fp, hcf, hv⟩ := hdec n cnt hp
  have hr' : (⟨feats, fmt, false⟩ : Cfg).mantissaRadix = 10 := hr
  have hb' : (⟨feats, fmt, false⟩ : Cfg).exponentBase = 10 := hb
  obtain ⟨hw, hI, _, hx, _⟩ := decimal_number_tv feats fmt hr hb hclass o hval isPartial s _ h256 hlen n cnt hp
  obtain ⟨hl, hrn⟩ := C19.lossy_lemire_agrees F hF n.exponent hI n.mantissa hw hcf hv
  have hfc := fastContract_decimal hF ⟨feats, fmt, false⟩ hr' n
  have hsf := spec_forms hF ⟨feats, fmt, false⟩ (by omega) (by omega) (by omega) n hmany (hx hmany)
  rw [hsf.2, ← hsf.1, hb']
  obtain ⟨vl, e1, e2⟩ := lossy_number_core slow ⟨feats, fmt, false⟩ n _ _ hfc.1 (fun v hv' => by
      rw [hfc.2 v hv', hb'])
    (by rw [moderatePath_lemire_lossy _ hcompact hr']; exact hl) hv
  refine ⟨vl, e1, ?_⟩
  rcases e2 with e2 | e2
  · exact e2
  · rw [e2, hrn]; rfl

/-- `2^1024 − 2^970`, the midpoint between the largest finite double and `2^1024`, in decimal (309 digits) -/
def overflowTie : List Nat := [49, 55, 57, 55, 54, 57, 51, 49, 51, 52, 56, 54, 50, 51, 49, 53, 56, 48, 55, 57, 51, 55, 50, 56, 57, 55, 49, 52, 48, 53, 51, 48, 51, 52, 49, 53, 48, 55, 57, 57, 51, 52, 49, 51, 50, 55, 49, 48, 48, 51, 55, 56, 50, 54, 57, 51, 54, 49, 55, 51, 55, 55, 56, 57, 56, 48, 52, 52, 52, 57, 54, 56, 50, 57, 50, 55, 54, 52, 55, 53, 48, 57, 52, 54, 54, 52, 57, 48, 49, 55, 57, 55, 55, 53, 56, 55, 50, 48, 55, 48, 57, 54, 51, 51, 48, 50, 56, 54, 52, 49, 54, 54, 57, 50, 56, 56, 55, 57, 49, 48, 57, 52, 54, 53, 53, 53, 53, 52, 55, 56, 53, 49, 57, 52, 48, 52, 48, 50, 54, 51, 48, 54, 53, 55, 52, 56, 56, 54, 55, 49, 53, 48, 53, 56, 50, 48, 54, 56, 49, 57, 48, 56, 57, 48, 50, 48, 48, 48, 55, 48, 56, 51, 56, 51, 54, 55, 54, 50, 55, 51, 56, 53, 52, 56, 52, 53, 56, 49, 55, 55, 49, 49, 53, 51, 49, 55, 54, 52, 52, 55, 53, 55, 51, 48, 50, 55, 48, 48, 54, 57, 56, 53, 53, 53, 55, 49, 51, 54, 54, 57, 53, 57, 54, 50, 50, 56, 52, 50, 57, 49, 52, 56, 49, 57, 56, 54, 48, 56, 51, 52, 57, 51, 54, 52, 55, 53, 50, 57, 50, 55, 49, 57, 48, 55, 52, 49, 54, 56, 52, 52, 52, 51, 54, 53, 53, 49, 48, 55, 48, 52, 51, 52, 50, 55, 49, 49, 53, 53, 57, 54, 57, 57, 53, 48, 56, 48, 57, 51, 48, 52, 50, 56, 56, 48, 49, 55, 55, 57, 48, 52, 49, 55, 52, 52, 57, 55, 55, 57, 50]

/-- **`lossy_overflow_witness`**: the correctly rounded value of `overflowTie` is `+∞` (a tie, to even); the lossy
pipeline rounds its first 19 digits only and answers with the largest finite double — one pattern below, as
`CloseDown` allows. (The implementation does the same: `pf f64 … 0 1 …` prints `ok 7fefffffffffffff`.) -/
theorem lossy_overflow_witness :
    parseFloatModel {} Format.standard {} false f64 overflowTie = "ok 7ff0000000000000 -" ∧
    parseFloatAlgoModel slowOracle {} Format.standard {} false FTy.f64 overflowTie true = "ok 7fefffffffffffff -" := by
  decide +kernel

end LexVerif.Props.C19Final
