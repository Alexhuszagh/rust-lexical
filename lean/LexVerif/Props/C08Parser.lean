import LexVerif.Props.C08
import LexVerif.Props.C12
import LexVerif.Props.C17
/-!
# C08 — writer model → *parser model* (C08 ∘ C12)

`Props.C08.roundtrip_float_shape` ends at the documented grammar.  `Props.C12.accepts_iff_grammar_partial` relates the
grammar to the float parser model `Model.parseFloatSyntax` for every format without digit separator and base prefix
(all formats when the `format` feature is off).  Composition: on the bytes the decimal writer model emits, the
complete parser model of the same format never answers with an `Error`, and whenever it returns a value, that value is
a **number** (not a special, not zero-by-emptiness) that consumed the whole text and carries the written sign.
What C12 leaves open stays open here: the panic / fault exits of the many-digit re-parse (C10), and
`numberBits = litBits` (C01).
-/
namespace LexVerif.Props.C08
open LexVerif.Spec LexVerif.Model LexVerif.Model.WriteFloat LexVerif.Proof.RoundTrip LexVerif.Props.C12
open LexVerif.Proof.Grammar
open LexVerif.Proof.WriteFloatBuf (effFmt_exponentRadix)

theorem prefixClear_of_sepPrefixFree (feats : Features) (fmt : Format) (dp expc : Nat)
    (h : feats.format = false ∨ SepPrefixFree fmt) : PrefixClear feats fmt dp expc := by
  left
  rcases syn_pre feats fmt with h0 | ⟨hf, h1⟩
  · exact h0
  · rcases h with h | h
    · rw [hf] at h; cases h
    · rw [h1]; exact h.2.1

/-- on the decimal writer's bytes the complete parser model returns no `.err`, and whatever it accepts is a `Number`
over the whole text with the written sign (acceptance itself and the digits are `roundtrip_float_shape`'s, on the
grammar) -/
theorem roundtrip_float_parser_model (c : Cfg) (hd : c.debug = false)
    (hfmt : c.feats.format = false ∨ SepPrefixFree c.fmt)
    (hr8 : c.feats.powerOfTwo = false → c.mantissaRadix ≤ 10)
    (wo : WOpts) (po : POpts) (ds : List Nat) (sci : Int) (neg : Bool)
    (hv : FormatValid c.feats (unpack c.fmt.raw)) (h10 : c.fmt.mantissaRadix = 10)
    (ha : OptionsAgree c.feats c.fmt wo po) (hin : WriterInput ds sci)
    (wf : SpecialsWF po) (hlet : LettersOnly po) (fv : Bool) :
    (∀ k i, parseFloatSyntax c po false (writerSign c.feats c.fmt neg ++ writeDecimal c.fmt c.feats ds sci wo) fv
        ≠ .error (.err k i)) ∧
    (∀ p, parseFloatSyntax c po false (writerSign c.feats c.fmt neg ++ writeDecimal c.fmt c.feats ds sci wo) fv = .ok p →
      ∃ n, p = .number n (writerSign c.feats c.fmt neg ++ writeDecimal c.fmt c.feats ds sci wo).length ∧
        n.isNegative = neg) := by
  have hclear := prefixClear_of_sepPrefixFree c.feats c.fmt po.dp po.exp hfmt
  obtain ⟨l, hg, hneg, _⟩ := roundtrip_float_shape c.feats c.fmt wo po ds sci neg hv h10 ha hin hclear
  generalize hout : writerSign c.feats c.fmt neg ++ writeDecimal c.fmt c.feats ds sci wo = out at hg ⊢
  have hy := synFacts_of_valid c.feats c.fmt hv
  have her : 2 ≤ (effFmt c.feats c.fmt).exponentRadix ∧ (effFmt c.feats c.fmt).exponentRadix ≤ 36 := by
    rw [effFmt_exponentRadix, ← syn_expRadix c.feats c.fmt]; exact ⟨hy.expRadix2, hy.expRadix36⟩
  have hb : ∀ x ∈ out, x < 256 := by
    intro x hx
    rw [← hout, List.mem_append] at hx
    rcases hx with hx | hx
    · rw [writerSign_eq] at hx
      repeat' split at hx
      all_goals simp at hx
      all_goals omega
    · have := LexVerif.Props.C17.ascii_only_decimal c.fmt c.feats ds sci wo hin.ok.lt ha.writeValid her.1 her.2 x hx
      omega
  have hs : out ≠ [] := by
    intro h0
    rw [h0] at hg
    simp [grammarFloatComplete, grammarFloatSyn] at hg
  have hbody : (splitSign out).2 ≠ [] := by
    intro h0
    -- nothing after the sign: the grammar cannot derive a number with digits
    have hsd := shapeOf_digits c.fmt c.feats ds sci wo hin ha.nonZero.1
    obtain ⟨d, dd, hd', t, ht⟩ := render_head wo.dp wo.exp (effFmt c.feats c.fmt).exponentRadix
      (plusReqOf (effFmt c.feats c.fmt) c.feats) (shapeOf c.fmt c.feats ds sci wo) hsd.full.1
    have hsp := splitSign_signBytes (mantSign c.feats c.fmt neg)
      ((shapeOf c.fmt c.feats ds sci wo).render wo.dp wo.exp (effFmt c.feats c.fmt).exponentRadix
        (plusReqOf (effFmt c.feats c.fmt) c.feats))
      (by intro x hx; rw [ht] at hx; simp at hx; subst hx; exact digitChar_ne_sign d)
    rw [← hout, writerSign, writeDecimal_shape, hsp, ht] at h0
    cases h0
  obtain ⟨h1, h2⟩ := accepts_iff_grammar_partial c hd hfmt hr8 po wf hlet out hb fv hbody
  constructor
  · intro k i he
    have := h2 k i he
    rw [hg] at this
    cases this
  · intro p hp
    have hag := verdict_grammar c po out hs p (h1 p hp)
    rw [hg] at hag
    cases p with
    | zero n => exact absurd hag (by simp [Agrees])
    | special sp ng n => exact absurd hag (by simp [Agrees])
    | number n cnt =>
      obtain ⟨e1, _, e3⟩ := hag
      exact ⟨n, by rw [e1], by rw [e3, hneg]⟩

/-- non-vacuity: STANDARD in the default build, `-1.5e300` -/
example :=
  roundtrip_float_parser_model ⟨{}, Format.standard, false⟩ rfl (Or.inl rfl) (by decide) {} {} [1, 5] 300 true std_valid
    (by decide) (default_agree _ _ (by decide)) ⟨⟨by decide, by decide, by decide⟩, by decide⟩ default_specials_wf
    (by intro t ht y hy; rcases ht with h | h | h <;> simp at h <;> subst h <;> revert y hy <;> decide) true

/-- … and the instance computed on the parser model -/
example : (match parseFloatSyntax ⟨{}, Format.standard, false⟩ {} false
      (writerSign {} Format.standard true ++ writeDecimal Format.standard {} [1, 5] 300 {}) with
    | .ok (.number n cnt) => n.isNegative && cnt == 8 && n.mantissa == 15 && n.exponent == 299
    | _ => false) = true := by decide +kernel

end LexVerif.Props.C08
