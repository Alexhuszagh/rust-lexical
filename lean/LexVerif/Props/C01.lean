import LexVerif.Spec.Decimal
import LexVerif.Props.TablesParse
import LexVerif.Proof.FastPathExact
import LexVerif.Proof.LitBits
import LexVerif.Proof.LemireWide
import LexVerif.Proof.BellSound
import LexVerif.Proof.NumberValue
/-!
# C01 — decimal string→float parsing is correctly rounded (property theorems)

The oracle is `Spec.litBits` (exact rational value, `roundNE`). Theorems about the oracle itself are in
`Props/RoundNE.lean`; table theorems (Eisel–Lemire powers, small powers, limits) in `Props/TablesParse.lean`.

Algorithm level (models `Model.FastPath`, `Model.Lemire`, `Model.Bellerophon`, tied to the code by the component ops
`fp`/`cf`/`lm`, see `Model/Ops/ParseAlgos.lean`): `fastPath_exact_f64`/`_f32` (**complete**); `lemire_sound`, the full
statement for `compute_float`, a `Prop` proved by `lemire_sound_proved`, with its parts `lemire_sound_partial`,
`lemire_sound_nonneg`, `lemire_neg_sound`, `lemire_fallback_brackets`; `lemire_wrapper` for the `many_digits` two-pass
wrapper; `bellerophon_sound` (`compact` builds, **complete** on the model, truncated mantissas included).
-/
namespace LexVerif.Props.C01
open LexVerif.Spec LexVerif.Model LexVerif.Proof.Tables
open LexVerif.Proof.RoundNE LexVerif.Proof.ExtRound LexVerif.Proof.FastPathExact LexVerif.Proof.Lemire
open LexVerif.Props.TablesParse

/-- zero mantissa digits give a correctly signed zero whatever the exponent (underflow/overflow clause) -/
theorem litBits_zero (f : Fmt) (r b : Nat) (l : FloatLit)
    (h : ofDigits r (l.intDigits ++ l.fracDigits) = 0) :
    litBits f r b l = if l.neg then f.signBit else 0 :=
  litBits_of_mantissa_zero f r b l h

theorem roundNE_zero (f : Fmt) (den : Nat) : roundNE f 0 den = 0 :=
  LexVerif.Proof.RoundNE.roundNE_zero f den

theorem fastTables_of {S : SmallSet} {f : Fmt} (hpow : FloatPowStmt S f)
    (hlim : ∀ r ∈ S.radices, limitsOk S f r = true) (hint : IntPowStmt S)
    {r : Nat} (hr : r ∈ S.radices) (hri : r ∈ S.intRadices) (hpos : 0 < r)
    (hml : S.mantissaLimit f r ≤ S.f64MantissaLimit r) : FastTables S f r :=
  { pow := (hpow r hr).2, lim := hlim r hr, int := fun e he => ((hint r hri).2.2 e he).1, rpos := hpos,
    powSize := (hpow r hr).1, intSize := Int.lt_of_le_of_lt hml (hint r hri).2.1 }

theorem lim_f64 {S : SmallSet} (h : ∀ r ∈ S.radices, (limitsOk S f32 r && limitsOk S f64 r) = true) :
    ∀ r ∈ S.radices, limitsOk S f64 r = true := fun r hr => by
  have := h r hr; simp only [Bool.and_eq_true] at this; exact this.2
theorem lim_f32 {S : SmallSet} (h : ∀ r ∈ S.radices, (limitsOk S f32 r && limitsOk S f64 r) = true) :
    ∀ r ∈ S.radices, limitsOk S f32 r = true := fun r hr => by
  have := h r hr; simp only [Bool.and_eq_true] at this; exact this.1

/-- the three `Gen.SmallPowers` instances (feature sets `default`, `radix`/`power-of-two`, `compact`) -/
def IsSmallSet (S : SmallSet) : Prop := S = SmallSet.Default ∨ S = SmallSet.Radix ∨ S = SmallSet.CompactRadix

theorem fastTables_decimal {S : SmallSet} (hS : IsSmallSet S) :
    FastTables S f64 10 ∧ FastTables S f32 10 := by
  rcases hS with h | h | h <;> subst h
  · exact ⟨fastTables_of small_f64_powers_default (lim_f64 limits_ok_default) small_int_powers_default
        (by decide) (by decide) (by decide) (by decide),
      fastTables_of small_f32_powers_default (lim_f32 limits_ok_default) small_int_powers_default
        (by decide) (by decide) (by decide) (by decide)⟩
  · exact ⟨fastTables_of small_f64_powers_radix (lim_f64 limits_ok_radix) small_int_powers_radix
        (by decide) (by decide) (by decide) (by decide),
      fastTables_of small_f32_powers_radix (lim_f32 limits_ok_radix) small_int_powers_radix
        (by decide) (by decide) (by decide) (by decide)⟩
  · exact ⟨fastTables_of small_f64_powers_compact (lim_f64 limits_ok_compact) small_int_powers_compact
        (by decide) (by decide) (by decide) (by decide),
      fastTables_of small_f32_powers_compact (lim_f32 limits_ok_compact) small_int_powers_compact
        (by decide) (by decide) (by decide) (by decide)⟩

/-- **C01.3 `fastPath_exact`** (decimal, binary64): whenever `Number::try_fast_path` answers `Some(v)` — normal
or disguised fast path, any sign — `v` is the correctly rounded value of `mantissa · 10^exponent`.
Assumption (stated in `Model.ExtFloat`): hardware `u64 → f64`, `*`, `/` are IEEE round-to-nearest-even. -/
theorem fastPath_exact_f64 {S : SmallSet} (hS : IsSmallSet S) (expBase : Nat) (n : Num) (v : Nat)
    (h : FastPath.tryFastPath S FTy.f64 10 expBase n = .some v) :
    v = roundSigned f64 n.isNegative (powFrac 10 n.exponent n.mantissa).1 (powFrac 10 n.exponent n.mantissa).2 :=
  LexVerif.Proof.FastPathExact.fastPath_exact layout_f64 (fastTables_decimal hS).1 expBase n v h

/-- the same for binary32 -/
theorem fastPath_exact_f32 {S : SmallSet} (hS : IsSmallSet S) (expBase : Nat) (n : Num) (v : Nat)
    (h : FastPath.tryFastPath S FTy.f32 10 expBase n = .some v) :
    v = roundSigned f32 n.isNegative (powFrac 10 n.exponent n.mantissa).1 (powFrac 10 n.exponent n.mantissa).2 :=
  LexVerif.Proof.FastPathExact.fastPath_exact layout_f32 (fastTables_decimal hS).2 expBase n v h

/-- the fast path never panics (checked table indices stay inside the tables) -/
theorem fastPath_no_panic {S : SmallSet} (hS : IsSmallSet S) (F : FTy) (hF : F = FTy.f64 ∨ F = FTy.f32)
    (expBase : Nat) (n : Num) : FastPath.tryFastPath S F 10 expBase n ≠ .panic := by
  rcases hF with h | h <;> subst h
  · exact LexVerif.Proof.FastPathExact.fastPath_no_panic (fastTables_decimal hS).1 expBase n
  · exact LexVerif.Proof.FastPathExact.fastPath_no_panic (fastTables_decimal hS).2 expBase n

/-- non-vacuity: the fast path does answer — normal (`12345e10`), division (`5e-3`), disguised (`-12345e30`,
`max_exponent = 22`, shift 8), and declines a mantissa above `2^53` -/
example : FastPath.tryFastPath SmallSet.Default FTy.f64 10 10 ⟨12345, 10, false, false⟩ = .some 0x42dc11bc59710000 ∧
    FastPath.tryFastPath SmallSet.Default FTy.f64 10 10 ⟨5, -3, false, false⟩ = .some 0x3f747ae147ae147b ∧
    FastPath.tryFastPath SmallSet.Default FTy.f64 10 10 ⟨12345, 30, true, false⟩ = .some 0xc703053e72afbcad ∧
    FastPath.tryFastPath SmallSet.Default FTy.f64 10 10 ⟨2 ^ 53 + 1, 0, false, false⟩ = .none ∧
    FastPath.tryFastPath SmallSet.Radix FTy.f32 10 10 ⟨16777216, 10, false, false⟩ = .some 0x5c1502f9 := by
  decide +kernel

/-- the two float types the Eisel–Lemire path is instantiated with -/
def IsLemireFloat (F : FTy) : Prop := F = FTy.f64 ∨ F = FTy.f32

/-- the float obtained by truncating the (un-biased) extended float `fp` — what the slow path starts from -/
def roundedDown (F : FTy) (fp : ExtendedFloat80) : Nat :=
  extendedToFloat F (Bellerophon.round F { fp with exp := fp.exp - invalidFp } Bellerophon.roundDown)

/-- an undecided result brackets the value: with `b` the extended float rounded **down** to the float format, the
correctly rounded value is `b` or the next float, `b ≤ roundNE x ≤ b + 1` (as bit patterns).
This is exactly what `slow_radix` relies on (`negative_digit_comp` compares the digits with `b + ½ulp` and returns
`b` or its successor; `positive_digit_comp` ignores the estimate). The stricter `b ≤ x < next(b)` is **not** what
the fall-back of `compute_float` guarantees: with an all-ones low word the true product may carry into `hi`, so
`x` can reach `next(b)` (by less than one unit of the 128-bit product). -/
def Bracket (F : FTy) (fp : ExtendedFloat80) (num den : Nat) : Prop :=
  roundedDown F fp ≤ roundNE F.fmt num den ∧ roundNE F.fmt num den ≤ roundedDown F fp + 1

/-- **C01.5 `lemire_sound` — full statement** (a `Prop`): for every `i64` exponent and every `u64` mantissa,
non-lossy `compute_float` never panics and answers either with a valid float that is `roundNE (w·10^q)`, or with an
invalid-marked extended float that brackets it. The theorem is `lemire_sound_proved`. -/
def lemire_sound : Prop :=
  ∀ F, IsLemireFloat F → ∀ (q : Int) (w : Nat), IsI64 q → w < 2 ^ 64 →
    ∃ fp, Lemire.computeFloat F q w false = .ok fp ∧
      (0 ≤ fp.exp → extendedToFloat F fp = roundNE F.fmt (powFrac 10 q w).1 (powFrac 10 q w).2) ∧
      (fp.exp < 0 → Bracket F fp (powFrac 10 q w).1 (powFrac 10 q w).2)

def LemirePartialDomain (F : FTy) (q : Int) (w : Nat) : Prop :=
  w = 0 ∨ q < F.C.smallestPowerOfTen ∨ q > F.C.largestPowerOfTen ∨ (0 ≤ q ∧ q ≤ 27)

theorem lemFacts_of {F : FTy} (hF : IsLemireFloat F) : ∃ p eb sm lg rlo rhi, LemFacts F p eb sm lg rlo rhi := by
  rcases hF with h | h <;> subst h
  · exact ⟨_, _, _, _, _, _, lemFacts_f64⟩
  · exact ⟨_, _, _, _, _, _, lemFacts_f32⟩

theorem lemLayout_of {F : FTy} (hF : IsLemireFloat F) :
    ∃ p eb sm lg a b, LemLayout F p eb sm lg a b ∧ (27 : Int) ≤ lg ∧ b < 28 := by
  obtain ⟨p, eb, sm, lg, rlo, rhi, LF⟩ := lemFacts_of hF
  exact ⟨p, eb, sm, lg, rlo, rhi, LF.LL, Int.ofNat_le.mpr LF.lg27, LF.rhi28⟩

/-- **`compute_float` on every input**: it answers; a valid answer is `roundNE (w·10^q)`; an invalid-marked answer —
only off `LemirePartialDomain` — is an estimate of the value (`Proof.Lemire.EstOK`: normalised mantissa, small
un-biased exponent, value within `[mant, mant + 4)` at that exponent), and the lossy answer is close to it
(`LossyOK`). The three ranges of `q` are `Proof.Lemire.computeFloat_cases`; the rest are the early exits. -/
theorem computeFloat_total (F : FTy) (hF : IsLemireFloat F) (q : Int) (w : Nat) (hw : w < 2 ^ 64) :
    ∃ p eb, Layout F p eb ∧ ∃ fp, Lemire.computeFloat F q w false = .ok fp ∧
      (0 ≤ fp.exp → extendedToFloat F fp = roundNE F.fmt (powFrac 10 q w).1 (powFrac 10 q w).2) ∧
      (fp.exp < 0 → ¬ LemirePartialDomain F q w ∧ EstOK F p fp (powFrac 10 q w).1 (powFrac 10 q w).2 ∧
        LossyOK F q w (powFrac 10 q w).1 (powFrac 10 q w).2) := by
  obtain ⟨p, eb, sm, lg, rlo, rhi, LF⟩ := lemFacts_of hF
  have LL := LF.LL
  have hlg27 := LF.lg27
  refine ⟨p, eb, LL.lay, ?_⟩
  by_cases hw0 : w = 0
  · subst hw0
    refine ⟨⟨0, 0⟩, ?_, fun _ => ?_, fun h => absurd h (by decide)⟩
    · unfold Lemire.computeFloat; rw [if_pos (Or.inl rfl)]; rfl
    · rw [LexVerif.Proof.BinaryCorrect.ext_zero LL.lay, LexVerif.Proof.RoundNE.powFrac_zero]
  by_cases hsm : q < F.C.smallestPowerOfTen
  · obtain ⟨c1, c2⟩ := cutoff_zero LL q w false hw hsm
    exact ⟨_, c1, fun _ => by rw [c2, LexVerif.Proof.BinaryCorrect.ext_zero LL.lay], fun h => absurd h (by decide)⟩
  by_cases hlg : q > F.C.largestPowerOfTen
  · obtain ⟨c1, c2⟩ := cutoff_inf LL q w false hw0 hlg
    refine ⟨_, c1, fun _ => by rw [c2, LexVerif.Proof.BinaryCorrect.ext_infinite LL.lay], fun h => absurd h ?_⟩
    show ¬ F.C.infinitePower < 0
    rw [LL.lay.infp]; omega
  · obtain ⟨fp, e1, e2, e3⟩ := computeFloat_cases LF q (by rw [LL.smallest] at hsm; omega)
      (by rw [LL.largest] at hlg; omega) w hw0 hw
    refine ⟨fp, e1, e2, fun h => ⟨fun hdom => ?_, (e3 h).2⟩⟩
    have := (e3 h).1
    rcases hdom with h | h | h | h
    · exact hw0 h
    · exact hsm h
    · exact hlg h
    · omega

theorem cfSound_all (F : FTy) (hF : IsLemireFloat F) (q : Int) (w : Nat) (hw : w < 2 ^ 64) : CFSound F q w := by
  intro fp h hv
  obtain ⟨_, _, _, fp2, e1, e2, _⟩ := computeFloat_total F hF q w hw
  obtain rfl : fp2 = fp := AlgoRes.ok.inj (e1.symm.trans h)
  exact e2 hv

/-- **C01.5 `lemire_sound_partial`** — the part of `lemire_sound` where no fall-back can occur: on
`LemirePartialDomain` (zero mantissa; below `SMALLEST_POWER_OF_TEN`; above `LARGEST_POWER_OF_TEN`; the exact-product
range `0 ≤ q ≤ 27` where `5^q < 2^64`) and for **every** `w < 2^64`, `compute_float` answers with a *valid* float
and that float is `roundNE (w·10^q)`. -/
theorem lemire_sound_partial (F : FTy) (hF : IsLemireFloat F) (q : Int) (w : Nat) (hw : w < 2 ^ 64)
    (hdom : LemirePartialDomain F q w) :
    ∃ fp, Lemire.computeFloat F q w false = .ok fp ∧ 0 ≤ fp.exp ∧
      extendedToFloat F fp = roundNE F.fmt (powFrac 10 q w).1 (powFrac 10 q w).2 := by
  obtain ⟨_, _, _, fp, e1, e2, e3⟩ := computeFloat_total F hF q w hw
  have hv : 0 ≤ fp.exp := by
    apply Classical.byContradiction; intro hc
    exact (e3 (by omega)).1 hdom
  exact ⟨fp, e1, hv, e2 hv⟩

/-- **C01.5 `lemire_sound_nonneg`** — the valid-answer half of `lemire_sound` for `q ≥ 0`: `compute_float` answers, and
a valid answer is `roundNE (w·10^q)` (the argument is in `Proof.LemireStable`: stability of the upper product bits, no
continued-fraction bound). -/
theorem lemire_sound_nonneg (F : FTy) (hF : IsLemireFloat F) (q : Int) (hq : 0 ≤ q) (w : Nat) (hw : w < 2 ^ 64) :
    ∃ fp, Lemire.computeFloat F q w false = .ok fp ∧
      (0 ≤ fp.exp → extendedToFloat F fp = roundNE F.fmt (powFrac 10 q w).1 (powFrac 10 q w).2) := by
  obtain ⟨_, _, _, fp, e1, e2, _⟩ := computeFloat_total F hF q w hw
  exact ⟨fp, e1, e2⟩

/-- valid answers for negative exponents inside the table, `SMALLEST_POWER_OF_TEN ≤ q ≤ −1` (theorem:
`lemire_neg_sound`). Three sub-cases:
* `q ≤ −28`, normal result (`Proof.LemireNegSmall`, first part): the rows are reciprocals truncated down — the stability argument of
  `Proof.LemireStable` with denominator `5^|q|`; no tie (`5^28 ∤ w`);
* `q ≤ −28`, subnormal result or zero (`cfRound_sub`): the further shift drops sticky bits that cannot matter;
* `−27 ≤ q ≤ −1` (`Proof.LemireNegSmall`, second part): the rows are reciprocals rounded **up**; a borrow when `lo = 0` is excluded
  by divisibility (`N` and the boundary are multiples of `2^129`, `2^127` apart at most); the round-to-even test is
  exact: a tie shows as `lo = 0` and forces `5^|q|·2^p ≤ w` (the window), the pattern `lo ≤ 1` is a tie after the second
  multiplication and impossible without it (`tieOk`, a kernel-evaluated check per row of the window). -/
def LemireNegSound : Prop :=
  ∀ F, IsLemireFloat F → ∀ (q : Int) (w : Nat), F.C.smallestPowerOfTen ≤ q → q < 0 → w < 2 ^ 64 → CFSound F q w

/-- **`LemireNegSound` holds**: `compute_float` is right for every negative exponent inside the table. -/
theorem lemire_neg_sound : LemireNegSound :=
  fun F hF q w _ _ hw => cfSound_all F hF q w hw

/-- non-vacuity of the negative range: an exact tie in the window (`9007199254740993·10^3 / 10^3`, to even), a normal
result at `q = −300`, a subnormal one at `q = −330`, underflow to zero at `q = −342`; `f32`: window and subnormal -/
example : Lemire.computeFloat FTy.f64 (-3) 9007199254740993000 false = .ok ⟨0, 1076⟩ ∧
    Lemire.computeFloat FTy.f64 (-300) 12345678901234567 false = .ok ⟨3764213625273715, 79⟩ ∧
    Lemire.computeFloat FTy.f64 (-330) 12345678901234567 false = .ok ⟨2498793228, 0⟩ ∧
    Lemire.computeFloat FTy.f64 (-342) 3 false = .ok ⟨0, 0⟩ ∧
    Lemire.computeFloat FTy.f32 (-10) 16777217 false = .ok ⟨6022912, 117⟩ ∧
    Lemire.computeFloat FTy.f32 (-50) 16777217 false = .ok ⟨120, 0⟩ := by
  decide +kernel

/-- the invalid-marked answers (`lo` all ones outside `[−27, 55]`) bracket the value (theorem:
`lemire_fallback_brackets`): the exact value lies in `[hi, hi + 2)` units of the upper word, so `roundNE` is the
rounded-down estimate or its successor — in the subnormal and normal range, below it (`b = 0`) and above it
(`b = +∞`). -/
def LemireFallbackBrackets : Prop :=
  ∀ F, IsLemireFloat F → ∀ (q : Int) (w : Nat) (fp : ExtendedFloat80), IsI64 q → w < 2 ^ 64 →
    Lemire.computeFloat F q w false = .ok fp → fp.exp < 0 →
    Bracket F fp (powFrac 10 q w).1 (powFrac 10 q w).2

/-- `lemire_sound` from the two named halves (`Props.C01Main` states its main theorem relative to them) -/
theorem lemire_sound_reduction (hneg : LemireNegSound) (hfb : LemireFallbackBrackets) : lemire_sound := by
  intro F hF q w hq hw
  obtain ⟨_, _, _, fp, hcf, hvalid, _⟩ := computeFloat_total F hF q w hw
  refine ⟨fp, hcf, fun hv => ?_, hfb F hF q w fp hq hw hcf⟩
  by_cases hr : F.C.smallestPowerOfTen ≤ q ∧ q < 0
  · exact hneg F hF q w hr.1 hr.2 hw fp hcf hv
  · exact hvalid hv

/-- **the `many_digits` wrapper** (`lemire()`): if `compute_float` is right on `w` and on `w + 1`
(`CFSound`, e.g. by `lemire_sound_partial`), then a *valid* answer of `lemire` for the truncated mantissa `w`
is `roundNE x` for **every** `x` with `w·10^q ≤ x ≤ (w+1)·10^q` — in particular for the value of the
untruncated literal.  (`roundNE` is monotone; the wrapper answers only when both passes agree.) -/
theorem lemire_wrapper (F : FTy) (hF : IsLemireFloat F) (q : Int) (w : Nat) (neg : Bool) (hq : IsI64 q)
    (hw : w + 1 < 2 ^ 64) (S0 : CFSound F q w) (S1 : CFSound F q (w + 1)) {fp : ExtendedFloat80}
    (h : Lemire.lemire F ⟨w, q, neg, true⟩ false = .ok fp) (hv : 0 ≤ fp.exp)
    (num den : Nat) (hd : 0 < den)
    (hlo : (powFrac 10 q w).1 * den ≤ num * (powFrac 10 q w).2)
    (hhi : num * (powFrac 10 q (w + 1)).2 ≤ (powFrac 10 q (w + 1)).1 * den) :
    extendedToFloat F fp = roundNE F.fmt num den := by
  obtain ⟨p, eb, sm, lg, a, b, LL, _, _⟩ := lemLayout_of hF
  exact LexVerif.Proof.Lemire.lemire_wrapper LL q w neg hq.1 hq.2 hw S0 S1 h hv num den hd hlo hhi

/-- an invalid-marked answer of `compute_float` is an estimate of the value (`Proof.Lemire.EstOK`): normalised
mantissa, small un-biased exponent, value within `[mant, mant + 4)` at that exponent -/
theorem lemire_invalid_facts (F : FTy) (hF : IsLemireFloat F) (q : Int) (w : Nat) (fp : ExtendedFloat80)
    (hw : w < 2 ^ 64) (hcf : Lemire.computeFloat F q w false = .ok fp) (hinv : fp.exp < 0) :
    ∃ p eb, Layout F p eb ∧ LexVerif.Proof.Lemire.EstOK F p fp (powFrac 10 q w).1 (powFrac 10 q w).2 ∧
      LexVerif.Proof.Lemire.LossyOK F q w (powFrac 10 q w).1 (powFrac 10 q w).2 := by
  obtain ⟨p, eb, lay, fp2, e1, _, e3⟩ := computeFloat_total F hF q w hw
  obtain rfl : fp2 = fp := AlgoRes.ok.inj (e1.symm.trans hcf)
  exact ⟨p, eb, lay, (e3 hinv).2⟩

theorem lemire_invalid_estOK (F : FTy) (hF : IsLemireFloat F) (q : Int) (w : Nat) (fp : ExtendedFloat80)
    (hw : w < 2 ^ 64) (hcf : Lemire.computeFloat F q w false = .ok fp) (hinv : fp.exp < 0) :
    ∃ p eb, Layout F p eb ∧ LexVerif.Proof.Lemire.EstOK F p fp (powFrac 10 q w).1 (powFrac 10 q w).2 := by
  obtain ⟨p, eb, lay, hest, _⟩ := lemire_invalid_facts F hF q w fp hw hcf hinv
  exact ⟨p, eb, lay, hest⟩

/-- **`LemireFallbackBrackets` holds** (`Proof.Lemire.bracket_of_estOK`) -/
theorem lemire_fallback_brackets : LemireFallbackBrackets := by
  intro F hF q w fp _ hw hcf hinv
  obtain ⟨p, eb, lay, hest, _⟩ := lemire_invalid_facts F hF q w fp hw hcf hinv
  exact LexVerif.Proof.Lemire.bracket_of_estOK lay fp _ _ (powFrac_pos (by decide) q w) hest

/-- what the slow path may assume about the estimate Eisel–Lemire hands over (`SlowDomain.negSide` of
`Props.C01SlowMain`: normalised mantissa, exponent far inside `±2^20`), together with the bracket -/
theorem lemire_estimate_facts (F : FTy) (hF : IsLemireFloat F) (q : Int) (w : Nat) (fp : ExtendedFloat80)
    (hw : w < 2 ^ 64) (hcf : Lemire.computeFloat F q w false = .ok fp) (hinv : fp.exp < 0) :
    2 ^ 63 ≤ fp.mant ∧ fp.mant < 2 ^ 64 ∧ -(4096 : Int) ≤ fp.exp - invalidFp ∧ fp.exp - invalidFp ≤ 4096 ∧
      Bracket F fp (powFrac 10 q w).1 (powFrac 10 q w).2 := by
  obtain ⟨p, eb, lay, hest, _⟩ := lemire_invalid_facts F hF q w fp hw hcf hinv
  exact ⟨hest.1, hest.2.1, hest.2.2.1, hest.2.2.2.1, LexVerif.Proof.Lemire.bracket_of_estOK lay fp _ _ (powFrac_pos (by decide) q w) hest⟩

/-- **C01.5 `lemire_sound` — proved, unconditional**: for every `i64` exponent and every `u64` mantissa, non-lossy
`compute_float` never panics and answers either with a valid float that is `roundNE (w·10^q)`, or with an
invalid-marked extended float that brackets it. -/
theorem lemire_sound_proved : lemire_sound := lemire_sound_reduction lemire_neg_sound lemire_fallback_brackets

/-- the wrapper for **every** exponent: a valid answer of `lemire` for a truncated mantissa is `roundNE` of every value
in `[w, w + 1]·10^q`, with no hypothesis on `compute_float` left (`cfSound_all`) -/
theorem lemire_wrapper_all (F : FTy) (hF : IsLemireFloat F) (q : Int) (hq : IsI64 q)
    (w : Nat) (neg : Bool) (hw : w + 1 < 2 ^ 64) {fp : ExtendedFloat80}
    (h : Lemire.lemire F ⟨w, q, neg, true⟩ false = .ok fp) (hv : 0 ≤ fp.exp)
    (num den : Nat) (hd : 0 < den)
    (hlo : (powFrac 10 q w).1 * den ≤ num * (powFrac 10 q w).2)
    (hhi : num * (powFrac 10 q (w + 1)).2 ≤ (powFrac 10 q (w + 1)).1 * den) :
    extendedToFloat F fp = roundNE F.fmt num den :=
  lemire_wrapper F hF q w neg hq hw (cfSound_all F hF q w (by omega)) (cfSound_all F hF q (w + 1) hw)
    h hv num den hd hlo hhi

/-- the wrapper for **every** `q ≥ 0`: a valid answer of `lemire` for a truncated mantissa is `roundNE` of every value in
`[w, w + 1]·10^q` (`lemire_wrapper_all` restricted) -/
theorem lemire_wrapper_nonneg (F : FTy) (hF : IsLemireFloat F) (q : Int) (hq0 : 0 ≤ q) (hq : IsI64 q)
    (w : Nat) (neg : Bool) (hw : w + 1 < 2 ^ 64) {fp : ExtendedFloat80}
    (h : Lemire.lemire F ⟨w, q, neg, true⟩ false = .ok fp) (hv : 0 ≤ fp.exp)
    (num den : Nat) (hd : 0 < den)
    (hlo : (powFrac 10 q w).1 * den ≤ num * (powFrac 10 q w).2)
    (hhi : num * (powFrac 10 q (w + 1)).2 ≤ (powFrac 10 q (w + 1)).1 * den) :
    extendedToFloat F fp = roundNE F.fmt num den :=
  lemire_wrapper_all F hF q hq w neg hw h hv num den hd hlo hhi

/-- non-vacuity of the truncated-row range: valid answers at `q = 280` (f64), `q = 28` with a 19-digit mantissa,
`q = 30` (f32) -/
example : Lemire.computeFloat FTy.f64 280 12345678901234567 false = .ok ⟨2297654681327541, 2006⟩ ∧
    Lemire.computeFloat FTy.f64 28 9999999999999999999 false = .ok ⟨426781030260828, 1179⟩ ∧
    Lemire.computeFloat FTy.f32 30 87654321 false = .ok ⟨254775, 253⟩ := by
  decide +kernel

/-- `compute_float` never panics: the checked index into `POWER_OF_FIVE_128` is always in range -/
theorem computeFloat_no_panic (F : FTy) (hF : IsLemireFloat F) (q : Int) (w : Nat) (lossy : Bool) :
    Lemire.computeFloat F q w lossy ≠ .panic := by
  obtain ⟨p, eb, sm, lg, a, b, LL, _, _⟩ := lemLayout_of hF
  exact LexVerif.Proof.Lemire.computeFloat_no_panic LL q w lossy

theorem lemire_wrapper_exact_range (F : FTy) (hF : IsLemireFloat F) (q : Int) (hq0 : 0 ≤ q) (hq27 : q ≤ 27)
    (w : Nat) (neg : Bool) (hw : w + 1 < 2 ^ 64) {fp : ExtendedFloat80}
    (h : Lemire.lemire F ⟨w, q, neg, true⟩ false = .ok fp) (hv : 0 ≤ fp.exp)
    (num den : Nat) (hd : 0 < den)
    (hlo : (powFrac 10 q w).1 * den ≤ num * (powFrac 10 q w).2)
    (hhi : num * (powFrac 10 q (w + 1)).2 ≤ (powFrac 10 q (w + 1)).1 * den) :
    extendedToFloat F fp = roundNE F.fmt num den := by
  exact lemire_wrapper_all F hF q ⟨by omega, by omega⟩ w neg hw h hv num den hd hlo hhi

/-! non-vacuity: `compute_float` evaluated on each part of the proved domain, and one undecided answer -/
example : LemirePartialDomain FTy.f64 (-343) 5 ∧ LemirePartialDomain FTy.f64 309 5 ∧
    LemirePartialDomain FTy.f64 27 (2 ^ 64 - 1) ∧ LemirePartialDomain FTy.f32 (-66) 1 := by
  refine ⟨Or.inr (Or.inl (by decide)), Or.inr (Or.inr (Or.inl (by decide))),
    Or.inr (Or.inr (Or.inr (by decide))), Or.inr (Or.inl (by decide))⟩
/-- `9007199254740993 = 2^53 + 1` is a tie at `q = 0` (even neighbour below), `…995` rounds up; the largest
mantissa at the largest exact exponent; an exponent-cut-off -/
example : Lemire.computeFloat FTy.f64 0 9007199254740993 false = .ok ⟨0, 1076⟩ ∧
    Lemire.computeFloat FTy.f64 0 9007199254740995 false = .ok ⟨2, 1076⟩ ∧
    Lemire.computeFloat FTy.f64 27 (2 ^ 64 - 1) false = .ok ⟨2772357986812930, 1176⟩ ∧
    Lemire.computeFloat FTy.f32 27 (2 ^ 64 - 1) false = .ok ⟨0, 255⟩ ∧
    Lemire.computeFloat FTy.f64 (-343) 5 false = .ok ⟨0, 0⟩ := by decide +kernel
/-- the wrapper's hypothesis is satisfiable: `lemire` answers validly for a truncated mantissa … -/
example : Lemire.lemire FTy.f64 ⟨1234567890123456789, 5, false, true⟩ false = .ok ⟨2854998426820717, 1099⟩ := by
  decide +kernel
/-- … and declines when `w` and `w + 1` round differently (marker: negative exponent) -/
example : Lemire.lemire FTy.f64 ⟨9007199254740993, 0, false, true⟩ false = .ok ⟨9223372036854776832, -31703⟩ := by
  decide +kernel

/-- **C01.5' `bellerophon_sound`** (**complete** on the model): a valid non-lossy answer of `bellerophon` for
the mantissa `w` is `roundNE x` for the true value `x` of the literal: `x = w·10^e` when nothing was truncated,
any `x ∈ [w, w+1)·10^e` when `many_digits` is set (`TrueValue`). Hypothesis for truncated mantissas:
`w ≥ 2^44` — `parse_number` sets `many_digits` only after accumulating 19 digits (`w ≥ 10^18`), and below `2^44`
the cap `min(ctlz + 1, 20)` of the booked truncation error (`8 << min(ctlz+1, 20)`, /repo commit 5dc6041) would be reached.
Ingredients: the table facts of `Proof.BellTables.bellCheck` (tables **and** exponent formula of the model's
accessors; derived from the closed form of the tables, `bellCheck_of_tables`, only `bellCheap` is evaluated), `mul` = exact product rounded half-up, the error accounting against the
*truncated* large powers (`scale_bound`), and `error_is_accurate` ⇒ same rounding for every value within the
booked errors (`accurate_round`; the booked eighths are compared as whole units, which is what covers the
under-booked table error). -/
theorem bellerophon_sound (F : FTy) (hF : IsLemireFloat F) (n : Num) (hw : n.mantissa < 2 ^ 64)
    (hmw : n.manyDigits = true → 2 ^ 44 ≤ n.mantissa) (num den : Nat) (hd : 0 < den)
    (htv : LexVerif.Proof.Bell.TrueValue 10 n num den) {fp : ExtendedFloat80}
    (h : Bellerophon.bellerophon F (Gen.Bellerophon.CompactRadix.powers 10) n false = .ok fp) (hv : 0 ≤ fp.exp) :
    extendedToFloat F fp = roundNE F.fmt num den := by
  have hc := LexVerif.Proof.Bell.bellFacts_of
    (LexVerif.Proof.Bell.bellCheck_compact 10 (by decide))
  rcases hF with h' | h' <;> subst h'
  · exact LexVerif.Proof.Bell.bellerophon_sound_all layout_f64 (by decide) hc n hw hmw num den hd htv h hv
  · exact LexVerif.Proof.Bell.bellerophon_sound_all layout_f32 (by decide) hc n hw hmw num den hd htv h hv

/-- the untruncated case in closed form -/
theorem bellerophon_sound_untruncated (F : FTy) (hF : IsLemireFloat F) (n : Num) (hmany : n.manyDigits = false)
    (hw : n.mantissa < 2 ^ 64) {fp : ExtendedFloat80}
    (h : Bellerophon.bellerophon F (Gen.Bellerophon.CompactRadix.powers 10) n false = .ok fp) (hv : 0 ≤ fp.exp) :
    extendedToFloat F fp =
      roundNE F.fmt (powFrac 10 n.exponent n.mantissa).1 (powFrac 10 n.exponent n.mantissa).2 := by
  have hc := LexVerif.Proof.Bell.bellFacts_of
    (LexVerif.Proof.Bell.bellCheck_compact 10 (by decide))
  rcases hF with h' | h' <;> subst h'
  · exact LexVerif.Proof.Bell.bellerophon_untruncated_sound layout_f64 (by decide) hc n hmany hw h hv
  · exact LexVerif.Proof.Bell.bellerophon_untruncated_sound layout_f32 (by decide) hc n hmany hw h hv

/-- `bellerophon` never panics (remainder by `step`, three checked table indices) -/
theorem bellerophon_no_panic (F : FTy) (n : Num) (lossy : Bool) :
    Bellerophon.bellerophon F (Gen.Bellerophon.CompactRadix.powers 10) n lossy ≠ .panic :=
  LexVerif.Proof.Bell.bellerophon_no_panic
    (LexVerif.Proof.Bell.bellFacts_of (LexVerif.Proof.Bell.bellCheck_compact 10 (by decide))) n lossy

/-- the hypothesis on truncated mantissas holds for what `parse_number` produces: 19 significant digits -/
example : (2 : Nat) ^ 44 ≤ 10 ^ 18 := by decide

/-- non-vacuity of the truncated case: `3000000000000000000…e7` with more digits following (`many_digits`):
`bellerophon` answers validly, and `TrueValue` holds e.g. for the literal `30000000000000000005e6` -/
example : Bellerophon.bellerophon FTy.f64 (Gen.Bellerophon.CompactRadix.powers 10)
      ⟨3000000000000000000, 7, false, true⟩ false = .ok ⟨2481319682245593, 1107⟩ ∧
    LexVerif.Proof.Bell.TrueValue 10 ⟨3000000000000000000, 7, false, true⟩ (30000000000000000005 * 10 ^ 6) 1 := by
  refine ⟨by decide +kernel, ?_⟩
  unfold LexVerif.Proof.Bell.TrueValue
  decide +kernel

/-- non-vacuity: a decided and an undecided decimal case (values from the compiled crate, op `bel`) -/
example : Bellerophon.bellerophon FTy.f64 (Gen.Bellerophon.CompactRadix.powers 10) ⟨12345, 10, false, false⟩ false =
      .ok ⟨3397200372629504, 1069⟩ ∧
    Bellerophon.bellerophon FTy.f64 (Gen.Bellerophon.CompactRadix.powers 10)
        ⟨9007199254740993, 0, false, false⟩ false = .ok ⟨9223372036854776832, -31703⟩ ∧
    Bellerophon.bellerophon FTy.f64 (Gen.Bellerophon.CompactRadix.powers 10)
        ⟨9007199254740993, 300, false, false⟩ false = .ok ⟨0, 2047⟩ := by
  decide +kernel

end LexVerif.Props.C01
