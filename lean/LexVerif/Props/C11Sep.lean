import LexVerif.Props.C11
import LexVerif.Proof.ParseNumberC11SepSpecial
/-!
# C11 (B) `partial_prefix` for formats WITH digit-separator flags on integer / fraction / exponent

`partial s = ok (number x, n) → complete (s.take n) = ok (number x, n)` on the float syntax model.

* `partial_prefix_sep_number`: every format of the class `SepCfg` — release build with the `format` feature, a
  digit-separator byte, **any** of the 14 separator predicates (or none) independently on integer, fraction and exponent
  (I+T+C and I+L+C included), base suffix allowed, no base prefix (`SepCfg.preRep`), mantissa digits required — and
  every input and options whose punctuation does not collide with the separator. The only exclusion inside the class is the exact shape of the open defect
  "exponent `is_digit` uses the mantissa radix": an exponent predicate that can ask for a digit after the separator
  (i, il, ic; ilc at the first exponent position) needs `mantissa_radix ≤ exponent_radix`.
* `witness_sep_hex_i / _il / _ic`: the exclusion is exact for i, il, ic — decided counter-examples `1p1_a`
  (radix 16, exponent radix 10; the implementation agrees, finding C11/C13 "exponent digit test uses mantissa radix").
* `partial_prefix_sep_special`: special-value results (`nan`, `inf`, `infinity`, with or without
  `special_digit_separator`) of the same class, when no byte matching the head of a special string (in either case) is
  a mantissa digit, the decimal point (`SpecialHeadsOK`, necessary: `witness_B_radix24_nan`) or the separator
  (`SpecialHeadsNoSep`). The special iterator is no-skip or skips every separator run: its parser commutes with EVERY cut
  at or behind the match for EVERY format (`parsePositiveSpecial_prefix`), and the number parser fails on the cut buffer
  for the same reason it failed on the whole one (it meets separators and then the head of the special string).
* `partial_prefix_sep`: both kinds of result; `partial_prefix_sep_model`, `partial_prefix_sep_model_number`: the same at
  the API level (`parse_partial_with_options` / `parse_with_options`), `SepCfg` derived from the validation
  (`sepCfg_of_valid`).

Why truncation at the returned count cannot change a skip decision before the count: `Proof/ParseNumberC11SepPeek.lean`.
The count the partial parser returns may stand AFTER trailing separators that a `peek` skipped (`1__2__x` → 6 with
I+L+T+C); the complete parser on those 6 bytes makes the same skips and ends at 6 = length.
-/
namespace LexVerif.Props.C11
open LexVerif LexVerif.Model LexVerif.Spec
open LexVerif.Proof.C11

/-- **C11 (B), number results, formats with separator flags** -/
theorem partial_prefix_sep_number (c : Cfg) (o : POpts) (s : List Nat) (x : Number) (cnt : Nat)
    (H : SepCfg c o) (hE : ExpRadixOK c) (hm : c.requiredMantissaDigits = true)
    (h : parseFloatSyntax c o true s = .ok (.number x cnt)) :
    parseFloatSyntax c o false (s.take cnt) = .ok (.number x cnt) :=
  partial_prefix_sep_number_g H hE s true x cnt hm h

/-- the pieces: `parse_number` returns the same number and count on the buffer cut at its count -/
theorem parseNumber_prefix_sep (c : Cfg) (o : POpts) (p : Bool) (b : Bytes) (neg fv : Bool) (r : Number) (count : Nat)
    (H : SepCfg c o) (hE : ExpRadixOK c) (hm : c.requiredMantissaDigits = true) (hv : C12.Bytes.Valid b)
    (h : parseNumber c p o b neg fv = .ok (r, count)) :
    b.index < count ∧ count ≤ b.slc.length ∧ parseNumber c p o (trunc count b) neg fv = .ok (r, count) :=
  parseNumber_truncS H hE p b neg fv r count hm hv h

/-- … and one `peek` of any component iterator at an admissible cut (`Adm`: at or behind the new cursor; exactly at it
when it rests on a separator; behind it when it rests on a mantissa digit and the predicate looks for digits) -/
theorem peek_prefix_sep (c : Cfg) (k : Comp) (b b' : Bytes) (v : Option Nat) (hv : C12.Bytes.Valid b)
    (hp : peek c k b = .ok (v, b')) (n : Nat) (ha : Adm c k n b') :
    peek c k (trunc n b) = .ok (if b'.index < n then v else none, trunc n b') :=
  peek_trunc c k b b' v hv hp n ha

def fmtUniILTC : Format := ⟨0xa0a0a000000005f00000fff0000000c⟩   -- c13_dec_uni_iltc
def fmtUniITC : Format := ⟨0xa0a0a000000005f00000fc70000000c⟩    -- c13_dec_uni_itc
def fmtUniILC : Format := ⟨0xa0a0a000000005f00000e3f0000000c⟩    -- c13_dec_uni_ilc
def fmtUniI : Format := ⟨0xa0a0a000000005f000000070000000c⟩      -- c13_dec_uni_i
def fmtHexUniLT : Format := ⟨0xa0210000000005f000001f80000000c⟩  -- c13_hex_uni_lt
def fmtHexUniI : Format := ⟨0xa0210000000005f000000070000000c⟩   -- c13_hex_uni_i
def fmtHexUniIL : Format := ⟨0xa0210000000005f0000003f0000000c⟩  -- c13_hex_uni_il
def fmtHexUniIC : Format := ⟨0xa0210000000005f00000e070000000c⟩  -- c13_hex_uni_ic

example : SepCfg ⟨featsRadixFormat, fmtUniILTC, false⟩ {} :=
  sepCfg_of_B _ _ (by decide +kernel)
example : SepCfg ⟨featsRadixFormat, fmtUniITC, false⟩ {} :=
  sepCfg_of_B _ _ (by decide +kernel)
example : SepCfg ⟨featsRadixFormat, fmtUniILC, false⟩ {} :=
  sepCfg_of_B _ _ (by decide +kernel)
example : SepCfg ⟨featsRadixFormat, fmtUniI, false⟩ {} :=
  sepCfg_of_B _ _ (by decide +kernel)
/-- fraction-only separator format of the regressions in `Props/C11.lean`: the integer iterator is contiguous, the fraction one skips -/
example : SepCfg ⟨featsRadixFormat, fmtSepFracI, false⟩ {} :=
  sepCfg_of_B _ _ (by decide +kernel)
/-- hex float (radix 16, exponent radix 10, exponent character `p`) with L+T everywhere: no digit-seeking predicate,
so no radix condition -/
example : SepCfg ⟨featsRadixFormat, fmtHexUniLT, false⟩ { exp := 112 } :=
  sepCfg_of_B _ _ (by decide +kernel)

/-- hex float with base prefix `x` and L+T separators (`c13_hex_uni_lt` + prefix): `0x_1_.8p1_z` → count 10 -/
def fmtHexUniLTPrefix : Format := ⟨0xa0210007800005f000001f80000000c⟩

/- With the repaired base-prefix phase modelled (`Model.prefixRepair = true`) the class `SepCfg` excludes base prefixes
(`SepCfg.preRep`): separator + prefix formats are covered by the evaluation below and by the correspondence only. -/

example : fmtHexUniLTPrefix.basePrefix = 120 ∧ formatError featsRadixFormat fmtHexUniLTPrefix = none ∧
    parseFloatSyntax ⟨featsRadixFormat, fmtHexUniLTPrefix, false⟩ { exp := 112 } true
        [48, 120, 95, 49, 95, 46, 56, 112, 49, 95, 122]
      = .ok (.number ⟨24, -3, false, false, [95, 49, 95], some [56], 1⟩ 10) ∧
    parseFloatSyntax ⟨featsRadixFormat, fmtHexUniLTPrefix, false⟩ { exp := 112 } false
        [48, 120, 95, 49, 95, 46, 56, 112, 49, 95]
      = .ok (.number ⟨24, -3, false, false, [95, 49, 95], some [56], 1⟩ 10) := by decide +kernel

/-- the radix condition: trivially for the decimal formats, by "no digit-seeking predicate" for hex L+T — and the
digit-seeking hex formats `c13_hex_uni_i / il / ic` do NOT satisfy its checkable form -/
example : ExpRadixOK ⟨featsRadixFormat, fmtUniITC, false⟩ ∧ ExpRadixOK ⟨featsRadixFormat, fmtHexUniLT, false⟩ ∧
    ExpRadixOK ⟨featsRadixFormat, fmtHexUniLTPrefix, false⟩ :=
  ⟨expRadixOK_of _ (by decide +kernel), expRadixOK_of _ (by decide +kernel), expRadixOK_of _ (by decide +kernel)⟩

/-- I+L+T+C: `1__2__x` → count 6 (the cursor stands after the trailing separators), `1__2__` complete → same number -/
example : parseFloatSyntax ⟨featsRadixFormat, fmtUniILTC, false⟩ {} true [49, 95, 95, 50, 95, 95, 120]
      = .ok (.number ⟨12, 0, false, false, [49, 95, 95, 50, 95, 95], none, 0⟩ 6) ∧
    parseFloatSyntax ⟨featsRadixFormat, fmtUniILTC, false⟩ {} false [49, 95, 95, 50, 95, 95]
      = .ok (.number ⟨12, 0, false, false, [49, 95, 95, 50, 95, 95], none, 0⟩ 6) := by decide +kernel

/-- internal only: `1_2_x` → count 3 (the second `_` is not followed by a digit: not skipped) -/
example : parseFloatSyntax ⟨featsRadixFormat, fmtUniI, false⟩ {} true [49, 95, 50, 95, 120]
      = .ok (.number ⟨12, 0, false, false, [49, 95, 50], none, 0⟩ 3) := by decide +kernel

/-- hex L+T: `1p1_x` → (2.0, 4): trailing separator, the cut at 4 keeps "no digit follows" (and `1p1_a` → count 3:
the mantissa-radix digit `a` forbids the trailing separator) -/
example : parseFloatModel featsRadixFormat fmtHexUniLT { exp := 112 } true f64 [49, 112, 49, 95, 120]
      = "ok 4000000000000000 4" ∧
    parseFloatModel featsRadixFormat fmtHexUniLT { exp := 112 } false f64 [49, 112, 49, 95]
      = "ok 4000000000000000 -" := by decide +kernel

/-! ## the exclusion is exact: i, il, ic with `mantissa_radix > exponent_radix` -/

/-- the three formats have a digit-seeking exponent predicate and radix 16 > exponent radix 10 -/
example : digitLookB ⟨featsRadixFormat, fmtHexUniI, false⟩ .exponent = true ∧
    digitLookB ⟨featsRadixFormat, fmtHexUniIL, false⟩ .exponent = true ∧
    digitLookB ⟨featsRadixFormat, fmtHexUniIC, false⟩ .exponent = true ∧
    fmtHexUniI.mantissaRadix = 16 ∧ fmtHexUniI.exponentRadix = 10 := by decide +kernel

/-- `1p1_a`: partial = (2.0, 4) — `_` is skipped because the mantissa-radix digit `a` follows — complete `1p1_` fails -/
theorem witness_sep_hex_i :
    parseFloatModel featsRadixFormat fmtHexUniI { exp := 112 } true f64 [49, 112, 49, 95, 97] = "ok 4000000000000000 4" ∧
    parseFloatModel featsRadixFormat fmtHexUniI { exp := 112 } false f64 [49, 112, 49, 95] = "err InvalidDigit 3" := by
  decide +kernel

theorem witness_sep_hex_il :
    parseFloatModel featsRadixFormat fmtHexUniIL { exp := 112 } true f64 [49, 112, 49, 95, 97] = "ok 4000000000000000 4" ∧
    parseFloatModel featsRadixFormat fmtHexUniIL { exp := 112 } false f64 [49, 112, 49, 95] = "err InvalidDigit 3" := by
  decide +kernel

theorem witness_sep_hex_ic :
    parseFloatModel featsRadixFormat fmtHexUniIC { exp := 112 } true f64 [49, 112, 49, 95, 97] = "ok 4000000000000000 4" ∧
    parseFloatModel featsRadixFormat fmtHexUniIC { exp := 112 } false f64 [49, 112, 49, 95] = "err InvalidDigit 3" := by
  decide +kernel

/-- **C11 (B) for `parse_partial_with_options` / `parse_with_options`, number results, separator formats**: validated
format and options (release build, `format` feature), a separator byte, mantissa digits required, the radix condition
for digit-seeking exponent predicates, and the separator is not the other ASCII case of the exponent, base-prefix or
base-suffix character (the validation compares these bytes exactly, the parser folds case). `hprr` says: no base prefix (`Model.prefixRepair` is `true`). -/
theorem partial_prefix_sep_model_number (feats : Features) (fmt : Format) (o : POpts) (f : Fmt) (s : List Nat)
    (x : Number) (cnt : Nat)
    (hfeat : feats.radix = true → feats.powerOfTwo = true) (hf : feats.format = true)
    (hm : (⟨feats, fmt, false⟩ : Cfg).requiredMantissaDigits = true)
    (h1 : optionsError o = none) (h2 : formatError feats fmt = none)
    (h3 : isValidOptionsPunctuation feats fmt o.exp o.dp = true) (h4 : checkRadix feats fmt = true)
    (hsep : fmt.digitSeparator ≠ 0)
    (hexp : digitLookB ⟨feats, fmt, false⟩ .exponent = true → fmt.mantissaRadix ≤ fmt.exponentRadix)
    (hexpc : matchByte o.exp ((⟨feats, fmt, false⟩ : Cfg).caseSensitiveExponent && feats.format)
      (some fmt.digitSeparator) = false)
    (hsuf : matchByte (⟨feats, fmt, false⟩ : Cfg).baseSuffix (⟨feats, fmt, false⟩ : Cfg).caseSensitiveBaseSuffix
      (some fmt.digitSeparator) = false)
    (hpre : matchByte (⟨feats, fmt, false⟩ : Cfg).basePrefix (⟨feats, fmt, false⟩ : Cfg).caseSensitiveBasePrefix
      (some fmt.digitSeparator) = false)
    (hprr : prefixRepair = true → fmt.basePrefix = 0)
    (h : parseFloatSyntax ⟨feats, fmt, false⟩ o true s = .ok (.number x cnt)) :
    parseFloatModel feats fmt o true f s = renderParsed ⟨feats, fmt, false⟩ f true (.number x cnt) ∧
    parseFloatModel feats fmt o false f (s.take cnt) = renderParsed ⟨feats, fmt, false⟩ f false (.number x cnt) := by
  have H := sepCfg_of_valid feats fmt o hfeat hf h1 h2 h3 hsep hexpc hsuf hpre hprr
  exact model_prefix_of_syntax feats fmt o f s (.number x cnt) h1 h2 h3 h4 h
    (partial_prefix_sep_number ⟨feats, fmt, false⟩ o s x cnt H (expRadixOK_of _ hexp) hm h)

/-- non-vacuity of the API-level hypotheses: `c13_dec_uni_itc` with default options -/
example : formatError featsRadixFormat fmtUniITC = none ∧ optionsError {} = none ∧
    isValidOptionsPunctuation featsRadixFormat fmtUniITC 101 46 = true ∧ checkRadix featsRadixFormat fmtUniITC = true ∧
    fmtUniITC.digitSeparator ≠ 0 ∧
    (⟨featsRadixFormat, fmtUniITC, false⟩ : Cfg).requiredMantissaDigits = true ∧
    matchByte 101 ((⟨featsRadixFormat, fmtUniITC, false⟩ : Cfg).caseSensitiveExponent && true) (some fmtUniITC.digitSeparator) = false ∧
    parseFloatModel featsRadixFormat fmtUniITC {} true f64 [49, 95, 95, 50, 46, 53, 95, 120] = "ok 4029000000000000 7" ∧
    parseFloatModel featsRadixFormat fmtUniITC {} false f64 [49, 95, 95, 50, 46, 53, 95] = "ok 4029000000000000 -" := by
  decide +kernel

/-- the special-value parser commutes with the cut at its count — every format, feature set and build -/
theorem parsePositiveSpecial_prefix (c : Cfg) (o : POpts) (b : Bytes) (sp : Special) (cnt : Nat)
    (hv : C12.Bytes.Valid b) (hidx : b.index ≤ cnt) (h : parsePositiveSpecial c o b = .ok (some (sp, cnt))) :
    cnt ≤ b.slc.length ∧ parsePositiveSpecial c o (trunc cnt b) = .ok (some (sp, cnt)) :=
  parsePositiveSpecial_truncS o b sp cnt hv hidx h

/-- **C11 (B), special-value results, formats with a separator byte** -/
theorem partial_prefix_sep_special (c : Cfg) (o : POpts) (s : List Nat) (sp : Special) (neg : Bool) (cnt : Nat)
    (H : SepCfg c o) (hm : c.requiredMantissaDigits = true) (hh : SpecialHeadsOK c o) (hhs : SpecialHeadsNoSep c o)
    (h : parseFloatSyntax c o true s = .ok (.special sp neg cnt)) :
    parseFloatSyntax c o false (s.take cnt) = .ok (.special sp neg cnt) :=
  partial_prefix_sep_special_g H s true sp neg cnt hm hh hhs h

/-- **C11 (B), formats with separator flags, every result** -/
theorem partial_prefix_sep (c : Cfg) (o : POpts) (s : List Nat) (p : Parsed)
    (H : SepCfg c o) (hE : ExpRadixOK c) (hm : c.requiredMantissaDigits = true) (hh : SpecialHeadsOK c o)
    (hhs : SpecialHeadsNoSep c o)
    (h : parseFloatSyntax c o true s = .ok p) :
    parseFloatSyntax c o false (s.take (pcount p)) = .ok p := by
  cases p with
  | number x cnt => exact partial_prefix_sep_number c o s x cnt H hE hm h
  | special sp ng cnt => exact partial_prefix_sep_special c o s sp ng cnt H hm hh hhs h
  | zero n => exact absurd h (partial_not_zero o s true n hm)

/-- `special_digit_separator` with I+L+T+C everywhere (`_` in numbers and in special values) -/
def fmtUniILTCSpecial : Format := ⟨0xa0a0a000000005f00001fff0000000c⟩

example : SepCfg ⟨featsRadixFormat, fmtUniILTCSpecial, false⟩ {} :=
  sepCfg_of_B _ _ (by decide +kernel)

/-- `-_n_a__n__x` → (NaN, 9): sign, leading separator, separators inside and behind the match; the complete parser on
the 9 bytes returns the same -/
example : (⟨featsRadixFormat, fmtUniILTCSpecial, false⟩ : Cfg).specialSep = true ∧
    formatError featsRadixFormat fmtUniILTCSpecial = none ∧
    parseFloatSyntax ⟨featsRadixFormat, fmtUniILTCSpecial, false⟩ {} true [45, 95, 110, 95, 97, 95, 95, 110, 95, 120]
      = .ok (.special .nan true 9) ∧
    parseFloatSyntax ⟨featsRadixFormat, fmtUniILTCSpecial, false⟩ {} false [45, 95, 110, 95, 97, 95, 95, 110, 95]
      = .ok (.special .nan true 9) := by decide +kernel

/-- without `special_digit_separator` (`c13_dec_uni_itc`): `inf_x` → (inf, 3) -/
example : parseFloatSyntax ⟨featsRadixFormat, fmtUniITC, false⟩ {} true [105, 110, 102, 95, 120] = .ok (.special .inf false 3) ∧
    parseFloatSyntax ⟨featsRadixFormat, fmtUniITC, false⟩ {} false [105, 110, 102] = .ok (.special .inf false 3) := by
  decide +kernel

/-- **C11 (B) at the API level, separator formats, every result**: additionally mantissa radix ≤ 18, and neither the
decimal point nor the separator is one of `I i N n` -/
theorem partial_prefix_sep_model (feats : Features) (fmt : Format) (o : POpts) (f : Fmt) (s : List Nat) (q : Parsed)
    (hfeat : feats.radix = true → feats.powerOfTwo = true) (hf : feats.format = true)
    (hm : (⟨feats, fmt, false⟩ : Cfg).requiredMantissaDigits = true)
    (h1 : optionsError o = none) (h2 : formatError feats fmt = none)
    (h3 : isValidOptionsPunctuation feats fmt o.exp o.dp = true) (h4 : checkRadix feats fmt = true)
    (hsep : fmt.digitSeparator ≠ 0)
    (hexp : digitLookB ⟨feats, fmt, false⟩ .exponent = true → fmt.mantissaRadix ≤ fmt.exponentRadix)
    (hexpc : matchByte o.exp ((⟨feats, fmt, false⟩ : Cfg).caseSensitiveExponent && feats.format)
      (some fmt.digitSeparator) = false)
    (hsuf : matchByte (⟨feats, fmt, false⟩ : Cfg).baseSuffix (⟨feats, fmt, false⟩ : Cfg).caseSensitiveBaseSuffix
      (some fmt.digitSeparator) = false)
    (hpre : matchByte (⟨feats, fmt, false⟩ : Cfg).basePrefix (⟨feats, fmt, false⟩ : Cfg).caseSensitiveBasePrefix
      (some fmt.digitSeparator) = false)
    (hprr : prefixRepair = true → fmt.basePrefix = 0)
    (hr18 : fmt.mantissaRadix ≤ 18) (hdp : o.dp ≠ 73 ∧ o.dp ≠ 105 ∧ o.dp ≠ 78 ∧ o.dp ≠ 110)
    (hsl : fmt.digitSeparator ≠ 73 ∧ fmt.digitSeparator ≠ 105 ∧ fmt.digitSeparator ≠ 78 ∧ fmt.digitSeparator ≠ 110)
    (h : parseFloatSyntax ⟨feats, fmt, false⟩ o true s = .ok q) :
    parseFloatModel feats fmt o true f s = renderParsed ⟨feats, fmt, false⟩ f true q ∧
    parseFloatModel feats fmt o false f (s.take (pcount q)) = renderParsed ⟨feats, fmt, false⟩ f false q := by
  have H := sepCfg_of_valid feats fmt o hfeat hf h1 h2 h3 hsep hexpc hsuf hpre hprr
  have hh : SpecialHeadsOK ⟨feats, fmt, false⟩ o := specialHeadsOK_of_valid _ _ h1 hr18 hdp
  have hhs : SpecialHeadsNoSep ⟨feats, fmt, false⟩ o :=
    specialHeadsNoSep_of_valid _ _ h1 (by simpa [Cfg.digitSeparator, hf] using hsl)
  exact model_prefix_of_syntax feats fmt o f s q h1 h2 h3 h4 h
    (partial_prefix_sep ⟨feats, fmt, false⟩ o s q H (expRadixOK_of _ hexp) hm hh hhs h)

/-- the statement for every validated call with a `format` build: beyond validity only the two necessary exclusions
(the radix condition — `witness_sep_hex_i`; special heads that are digits / the decimal point — `witness_B_radix24_nan`)
and required mantissa digits (`witness_B_nodigits_sign`). Open: a base prefix (`SepCfg.preRep`); a separator that is
the other ASCII case of the exponent or base-suffix character, or one of `I i N n` (`SpecialHeadsNoSep`) -/
def partial_prefix_sep_full : Prop :=
  ∀ (feats : Features) (fmt : Format) (o : POpts) (s : List Nat) (p : Parsed),
    (feats.radix = true → feats.powerOfTwo = true) → feats.format = true →
    optionsError o = none → formatError feats fmt = none →
    isValidOptionsPunctuation feats fmt o.exp o.dp = true → checkRadix feats fmt = true →
    (⟨feats, fmt, false⟩ : Cfg).requiredMantissaDigits = true →
    (digitLookB ⟨feats, fmt, false⟩ .exponent = true → fmt.mantissaRadix ≤ fmt.exponentRadix) →
    SpecialHeadsOK ⟨feats, fmt, false⟩ o →
    parseFloatSyntax ⟨feats, fmt, false⟩ o true s = .ok p →
    parseFloatSyntax ⟨feats, fmt, false⟩ o false (s.take (pcount p)) = .ok p

/-- proved part: a separator byte (without one: `partial_prefix_contiguous`) that does not collide (up to ASCII case)
with the exponent character, the base prefix / suffix or the heads of the special strings -/
theorem partial_prefix_sep_full_partial (feats : Features) (fmt : Format) (o : POpts) (s : List Nat) (p : Parsed)
    (hfeat : feats.radix = true → feats.powerOfTwo = true) (hf : feats.format = true)
    (h1 : optionsError o = none) (h2 : formatError feats fmt = none)
    (h3 : isValidOptionsPunctuation feats fmt o.exp o.dp = true)
    (hm : (⟨feats, fmt, false⟩ : Cfg).requiredMantissaDigits = true)
    (hexp : digitLookB ⟨feats, fmt, false⟩ .exponent = true → fmt.mantissaRadix ≤ fmt.exponentRadix)
    (hh : SpecialHeadsOK ⟨feats, fmt, false⟩ o)
    (hsep : fmt.digitSeparator ≠ 0)
    (hexpc : matchByte o.exp ((⟨feats, fmt, false⟩ : Cfg).caseSensitiveExponent && feats.format)
      (some fmt.digitSeparator) = false)
    (hsuf : matchByte (⟨feats, fmt, false⟩ : Cfg).baseSuffix (⟨feats, fmt, false⟩ : Cfg).caseSensitiveBaseSuffix
      (some fmt.digitSeparator) = false)
    (hpre : matchByte (⟨feats, fmt, false⟩ : Cfg).basePrefix (⟨feats, fmt, false⟩ : Cfg).caseSensitiveBasePrefix
      (some fmt.digitSeparator) = false)
    (hprr : prefixRepair = true → fmt.basePrefix = 0)
    (hsl : fmt.digitSeparator ≠ 73 ∧ fmt.digitSeparator ≠ 105 ∧ fmt.digitSeparator ≠ 78 ∧ fmt.digitSeparator ≠ 110)
    (h : parseFloatSyntax ⟨feats, fmt, false⟩ o true s = .ok p) :
    parseFloatSyntax ⟨feats, fmt, false⟩ o false (s.take (pcount p)) = .ok p :=
  partial_prefix_sep _ o s p (sepCfg_of_valid feats fmt o hfeat hf h1 h2 h3 hsep hexpc hsuf hpre hprr)
    (expRadixOK_of _ hexp) hm hh
    (specialHeadsNoSep_of_valid _ _ h1 (by simpa [Cfg.digitSeparator, hf] using hsl)) h

end LexVerif.Props.C11
