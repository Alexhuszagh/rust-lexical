import LexVerif.Spec.Shortest
import LexVerif.Model.FormatDecimal
import LexVerif.Model.Dragonbox
import LexVerif.Props.RoundNE
import LexVerif.Props.TablesWrite
import LexVerif.Proof.DragonboxLogs
import LexVerif.Proof.DragonboxArith
import LexVerif.Proof.DragonboxTrailing
import LexVerif.Proof.DragonboxSpec
import LexVerif.Proof.DragonboxShorter
import LexVerif.Proof.GrisuCached
import LexVerif.Proof.GrisuSpec
import LexVerif.Proof.DragonboxNormalSpec
import LexVerif.Proof.GrisuMain
/-!
# C02 — float→decimal output round-trips exactly and is shortest (property theorems)

The oracle is `Spec.shortest`; its sanity theorems are in `Props/RoundNE.lean`, the cache / log-table
theorems in `Props/TablesWrite.lean`. Here: facts about the formatting layer on which the byte-level
comparison relies, and — section "Dragonbox" — theorems about the Lean model of `algorithm.rs`
(`Model/Dragonbox.lean`, tied to the code by the `td` component correspondence):
* the five `floor_log*` literal formulas are the true floor logarithms on their documented domains;
* the arithmetic kernels (`umul*`, `divide_by_pow10`, `check_div_pow10`, `div_pow10`, `remove_trailing_zeros`) are exact
  for ALL inputs in their stated ranges;
* `dragonbox_correct` (full statement) is PROVED (`dragonbox_correct_holds`): `dragonbox_correct_shorter_partial` — the
  `compute_nearest_shorter` branch (every float with a zero mantissa field, both types, kernel-evaluated) — and
  `dragonbox_correct_normal` — the `compute_nearest_normal` branch for EVERY mantissa and exponent of binary32 and binary64
  (subnormals included), from `dragonbox_exact_computation` (kernel-checked Farey certificates, one per cache entry:
  `compute_mul`, `compute_delta`, `compute_mul_parity` are exact floors / parities / integrality tests of `n·2^(e-1)·10^k`)
  and the interval case analysis of the algorithm (`Proof/DragonboxMath.lean`, `Proof/DragonboxNormal*.lean`).
-/
namespace LexVerif.Props.C02
open LexVerif.Spec LexVerif.Model

/-- with default options no digit is dropped or changed by the rounding step -/
theorem truncateAndRound_default (ds : List Nat) (o : WOpts) (h : o.maxDigits = none) :
    truncateAndRound ds o = (ds, false) := by
  simp [truncateAndRound, h]

/-- the interval of a float contains the float itself: `lo ≤ v ≤ hi` (units of 2^e2) -/
theorem interval_contains_value (f : Fmt) (bits : Nat) :
    (interval f bits).lo ≤ (interval f bits).v ∧ (interval f bits).v ≤ (interval f bits).hi := by
  unfold interval
  constructor
  · simp only; split <;> omega
  · simp only; omega

section Dragonbox
open LexVerif.Model.Dragonbox LexVerif.Proof.DragonboxSpec LexVerif.Proof LexVerif.Spec.Tables
open LexVerif.Gen.Dragonbox LexVerif.Proof.RoundNE

/-! ### the logarithm approximations: literal formula = dumped table = true floor logarithm -/

theorem floorLog5Pow2_true (q : Int) (h1 : -1492 ≤ q) (h2 : q ≤ 1492) : IsFloorLog5Pow2 q (floorLog5Pow2 q) := by
  rw [DragonboxLogs.floorLog5Pow2_eq q h1 h2]; exact TablesWrite.floor_log5_pow2_exact q h1 h2

theorem floorLog10Pow2_true (q : Int) (h1 : -1700 ≤ q) (h2 : q ≤ 1700) : IsFloorLog10Pow2 q (floorLog10Pow2 q) := by
  rw [DragonboxLogs.floorLog10Pow2_eq q h1 h2]; exact TablesWrite.floor_log10_pow2_exact q h1 h2

theorem floorLog2Pow10_true (q : Int) (h1 : -1233 ≤ q) (h2 : q ≤ 1233) : IsFloorLog2Pow10 q (floorLog2Pow10 q) := by
  rw [DragonboxLogs.floorLog2Pow10_eq q h1 h2]; exact TablesWrite.floor_log2_pow10_exact q h1 h2

theorem floorLog5Pow2MinusLog5_3_true (q : Int) (h1 : -2427 ≤ q) (h2 : q ≤ 2427) :
    IsFloorLog5Pow2MinusLog5_3 q (floorLog5Pow2MinusLog5_3 q) := by
  rw [DragonboxLogs.floorLog5Pow2MinusLog5_3_eq q h1 h2]
  exact TablesWrite.floor_log5_pow2_minus_log5_3_exact q h1 h2

/-- in particular at `-295` and `97`, where the source comment claims the formula is off: it is exact on all of
`[-1700, 1700]`, which contains every binary exponent of a finite float -/
theorem floorLog10Pow2MinusLog10_4Over3_true (q : Int) (h1 : -1700 ≤ q) (h2 : q ≤ 1700) :
    IsFloorLog10Pow2MinusLog10_4Over3 q (floorLog10Pow2MinusLog10_4Over3 q) := by
  rw [DragonboxLogs.floorLog10Pow2MinusLog10_4Over3_eq q h1 h2]
  exact TablesWrite.floor_log10_pow2_minus_log10_4_over_3_exact q h1 h2

/-- the per-type constants dumped from the crate are the source formulas evaluated with the model's `floor_log*`
(`DIV_BY_5_THRESHOLD` is 39 / 86 since /repo 9f5296f, not `floor_log2_pow10(kappa + 1)` = 6 / 9) -/
theorem dragonbox_model_consts :
    F32.fcPmHalfLower = -F32.kappa - floorLog5Pow2 F32.kappa
    ∧ F64.fcPmHalfLower = -F64.kappa - floorLog5Pow2 F64.kappa
    ∧ F32.divBy5Threshold = floorLog2Pow10 (floorLog5Pow2 (F32.mantissaSize + 2) + F32.kappa + 1)
    ∧ F64.divBy5Threshold = floorLog2Pow10 (floorLog5Pow2 (F64.mantissaSize + 2) + F64.kappa + 1)
    ∧ F32.divBy5Threshold = 39 ∧ F64.divBy5Threshold = 86
    ∧ floorLog2Pow10 (F32.kappa + 1) = 6 ∧ floorLog2Pow10 (F64.kappa + 1) = 9 := by decide

/-- the endpoint tests of the shorter-interval case, as computed by the model (`count_factors`, `pow64`, `floor_log2`
loops), agree with the lists dumped from the crate on every exponent of the dump range -/
theorem endpoints_match_dump :
    (∀ e ∈ (List.range 256).map (fun i => (i : Int) - 150),
        isRightEndpoint .f32 e = F32.rightEndpoints.contains e ∧ isLeftEndpoint .f32 e = F32.leftEndpoints.contains e)
    ∧ (∀ e ∈ (List.range 2048).map (fun i => (i : Int) - 1075),
        isRightEndpoint .f64 e = F64.rightEndpoints.contains e ∧ isLeftEndpoint .f64 e = F64.leftEndpoints.contains e) := by
  -- both sides are membership in a window (`DragonboxArith.isRightEndpoint_eq`), whatever the exponent
  have hr : ∀ e : Int, ([0, 1, 2, 3] : List Int).contains e = decide (0 ≤ e ∧ e ≤ 3) := fun e => by
    rw [Bool.eq_iff_iff]
    simp only [List.contains_cons, List.contains_nil, Bool.or_false, Bool.or_eq_true, beq_iff_eq, decide_eq_true_eq]
    omega
  have hl : ∀ e : Int, ([2, 3] : List Int).contains e = decide (2 ≤ e ∧ e ≤ 3) := fun e => by
    rw [Bool.eq_iff_iff]
    simp only [List.contains_cons, List.contains_nil, Bool.or_false, Bool.or_eq_true, beq_iff_eq, decide_eq_true_eq]
    omega
  have h : ∀ (t : FTy) (e : Int), isRightEndpoint t e = ([0, 1, 2, 3] : List Int).contains e
      ∧ isLeftEndpoint t e = ([2, 3] : List Int).contains e := fun t e =>
    ⟨(DragonboxArith.isRightEndpoint_eq t e).trans (hr e).symm, (DragonboxArith.isLeftEndpoint_eq t e).trans (hl e).symm⟩
  exact ⟨fun e _ => h .f32 e, fun e _ => h .f64 e⟩

/-- `umul128_upper64(x, y) = ⌊x·y / 2^64⌋` -/
theorem umul128_upper64_exact {x y : Nat} (hx : x < 2 ^ 64) (hy : y < 2 ^ 64) :
    umul128Upper64 x y = x * y / 2 ^ 64 := DragonboxArith.umul128Upper64_eq hx hy

/-- `umul192_upper128` = bits 64..191 of the exact 192-bit product -/
theorem umul192_upper128_exact {x hi lo : Nat} (hx : x < 2 ^ 64) (hh : hi < 2 ^ 64) (hl : lo < 2 ^ 64) :
    umul192Upper128 x hi lo = (x * (hi * 2 ^ 64 + lo) / 2 ^ 128, x * (hi * 2 ^ 64 + lo) / 2 ^ 64 % 2 ^ 64) :=
  DragonboxArith.umul192Upper128_eq hx hh hl

/-- `umul192_lower128` = bits 0..127 of the exact product -/
theorem umul192_lower128_exact {x yhi ylo : Nat} (hx : x < 2 ^ 64) (hl : ylo < 2 ^ 64) :
    (umul192Lower128 x yhi ylo).1 * 2 ^ 64 + (umul192Lower128 x yhi ylo).2 = x * (yhi * 2 ^ 64 + ylo) % 2 ^ 128 :=
  DragonboxArith.umul192Lower128_eq hx hl

theorem umul96_upper64_exact {x y : Nat} (hx : x < 2 ^ 32) (hy : y < 2 ^ 64) :
    umul96Upper64 x y = x * y / 2 ^ 32 := DragonboxArith.umul96Upper64_eq hx hy

theorem umul96_lower64_exact (x y : Nat) : umul96Lower64 x y = x * y % 2 ^ 64 := rfl

/-- f32 `divide_by_pow10` (the `· 1374389535 >> 37` trick) is `n / 100` on the whole `u32` range -/
theorem divide_by_pow10_f32_exact {n : Nat} (hn : n < 2 ^ 32) (nMax : Nat) :
    divideByPow10 .f32 n 2 nMax = n / 100 := DragonboxArith.divideByPow10_f32 hn nMax

/-- f64 `divide_by_pow10` (`umul128_upper64(n, 2361183241434822607) >> 7`) is `n / 1000` for every `n ≤ n_max`, for the
`n_max` the callers pass and more generally whenever the source's own guard on `n_max` holds -/
theorem divide_by_pow10_f64_exact {n nMax : Nat} (hmax : nMax ≤ 15534100272597517998) (hn : n ≤ nMax) :
    divideByPow10 .f64 n 3 nMax = n / 1000 := DragonboxArith.divideByPow10_64_eq hmax hn

theorem divide_by_pow10_f64_callers {n : Nat} (hn : n ≤ 2 ^ 53 * 1000 - 1) :
    divideByPow10 .f64 n 3 (2 ^ 53 * 1000 - 1) = n / 1000 := DragonboxArith.divideByPow10_f64 hn

/-- `check_div_pow10` / `div_pow10` on their precondition `n ≤ 10^(kappa+1)` -/
theorem check_div_pow10_exact :
    (∀ n ∈ List.range 101, checkDivPow10 .f32 n = (n / 10, decide (n % 10 = 0)))
    ∧ (∀ n ∈ List.range 1001, checkDivPow10 .f64 n = (n / 100, decide (n % 100 = 0)))
    ∧ (∀ n ∈ List.range 101, divPow10 .f32 n = n / 10)
    ∧ (∀ n ∈ List.range 1001, divPow10 .f64 n = n / 100) :=
  ⟨DragonboxArith.checkDivPow10_f32, DragonboxArith.checkDivPow10_f64, DragonboxArith.divPow10_f32,
   DragonboxArith.divPow10_f64⟩

/-- `remove_trailing_zeros` (f32): for EVERY non-zero `u32` the result is `(m, s)` with `n = m·10^s` and `10 ∤ m`
(so `s` is maximal) -/
theorem remove_trailing_zeros_f32_exact {n : Nat} (h0 : 0 < n) (hn : n < 2 ^ 32) :
    ∃ s m, removeTrailingZeros .f32 n = (m, s) ∧ n = m * 10 ^ s ∧ m % 10 ≠ 0 :=
  DragonboxTrailing.removeTrailingZeros_f32 h0 hn

/-- `remove_trailing_zeros` (f64): same for every non-zero `n < 2^32·10^8 ≈ 4.29·10^17` (Dragonbox significands are
`< 10^17`; above the bound the code truncates `n / 10^8` to 32 bits) -/
theorem remove_trailing_zeros_f64_exact {n : Nat} (h0 : 0 < n) (hn : n < 2 ^ 32 * 10 ^ 8) :
    ∃ s m, removeTrailingZeros .f64 n = (m, s) ∧ n = m * 10 ^ s ∧ m % 10 ≠ 0 :=
  DragonboxTrailing.removeTrailingZeros_f64 h0 hn

/-- the stated bound of the f64 version is sharp: at `2^32·10^8 + 10^8` the 32-bit truncation of `n / 10^8` loses the
value (`1·10^8 ≠ n`); unreachable from `to_decimal`, whose significands are below `10^17` -/
theorem remove_trailing_zeros_f64_bound_sharp :
    removeTrailingZeros .f64 (2 ^ 32 * 10 ^ 8 + 10 ^ 8) = (1, 8) := by decide +kernel

/-- FULL STATEMENT (proved below: `dragonbox_correct_holds`): for every finite non-zero float of either type the model's
`to_decimal` does not fault and returns, up to trailing zeros of the significand, one of the pairs of the oracle
`Spec.shortest` (which round-trips, has the fewest digits and is closest — `Props.RoundNE.shortest_*`). -/
def dragonbox_correct : Prop :=
  ∀ (t : FTy) (bits : Nat), 0 < bits → bits < (fmtOf t).infBits → dragonboxOk t bits = true

theorem mem_expChunk {t : FTy} {lo hi e : Nat} (h1 : lo ≤ e) (h2 : e < hi) (h0 : 0 < e) :
    e * 2 ^ t.ms ∈ expChunk t lo hi := by
  unfold expChunk
  apply List.mem_map.mpr
  exact ⟨e, List.mem_filter.mpr ⟨List.mem_range.mpr h2, by simp [h1, h0]⟩, rfl⟩

theorem shorter_bits_finite {t : FTy} {e : Nat} (h0 : 0 < e) (he : e < 2 ^ t.exponentSize.toNat - 1) :
    0 < e * 2 ^ t.ms ∧ e * 2 ^ t.ms < (fmtOf t).infBits := by
  refine ⟨Nat.mul_pos h0 (Nat.two_pow_pos _), ?_⟩
  cases t
  · show e * 2 ^ 23 < 255 * 2 ^ 23
    have : e < 255 := he
    omega
  · show e * 2 ^ 52 < 2047 * 2 ^ 52
    have : e < 2047 := he
    omega

/-- the whole `compute_nearest_shorter` branch — every float whose mantissa field is zero (exponent field
`1 … 254` for f32, `1 … 2046` for f64; for each of the 2300 inputs the kernel runs the model and checks the answer into the oracle,
`Proof/DragonboxShorter.lean`) -/
theorem dragonbox_correct_shorter_partial (t : FTy) (e : Nat) (h0 : 0 < e) (he : e < 2 ^ t.exponentSize.toNat - 1) :
    dragonboxOk t (e * 2 ^ t.ms) = true := by
  obtain ⟨hpos, hfin⟩ := shorter_bits_finite h0 he
  have hm : e * 2 ^ t.ms &&& t.mantissaMask = 0 := by
    unfold FTy.mantissaMask
    rw [Nat.and_two_pow_sub_one_eq_mod, Nat.mul_mod_left]
  obtain ⟨_, _, _, _, hd⟩ := LexVerif.Proof.DragonboxShortest.zero_mantissa_form t _ hpos hfin hm
  apply dragonboxOk_of_shorterOk hpos hfin hd
  cases t with
  | f32 => exact List.all_eq_true.mp shorter32_all _ (mem_expChunk (Nat.zero_le _) he h0)
  | f64 => exact List.all_eq_true.mp shorter64_all _ (mem_expChunk (Nat.zero_le _) he h0)

/-- what `dragonboxOk` gives: the returned decimal, trailing zeros stripped, is a pair of `Spec.shortest` and re-parses
(exact `roundNE`) to the same bits -/
theorem dragonboxOk_roundtrips {t : FTy} {bits : Nat} (h0 : 0 < bits) (hfin : bits < (fmtOf t).infBits)
    (h : dragonboxOk t bits = true) :
    ∃ m e, toDecimal t bits = some (m, e) ∧ normDec 20 m e ∈ shortest (fmtOf t) bits ∧
      roundNE (fmtOf t) (decFrac (normDec 20 m e).1 (normDec 20 m e).2).1 (decFrac (normDec 20 m e).1 (normDec 20 m e).2).2
        = bits := by
  unfold dragonboxOk at h
  cases hd : toDecimal t bits with
  | none => simp [hd] at h
  | some p =>
    obtain ⟨m, e⟩ := p
    simp only [hd] at h
    have hmem : normDec 20 m e ∈ shortest (fmtOf t) bits := by simpa using h
    exact ⟨m, e, rfl, hmem, LexVerif.Props.RoundNE.shortest_roundtrips (DragonboxShortest.wf_fmtOf t) h0 hfin
      (D := (normDec 20 m e).1) (E := (normDec 20 m e).2) hmem⟩

/-- every float with a zero mantissa field is written by the model as a decimal that
round-trips and is a shortest, closest one (the latter two via `Props.RoundNE.shortest_minimal/closest` from membership) -/
theorem dragonbox_roundtrips_partial (t : FTy) (e : Nat) (h0 : 0 < e) (he : e < 2 ^ t.exponentSize.toNat - 1) :
    ∃ m x, toDecimal t (e * 2 ^ t.ms) = some (m, x) ∧ normDec 20 m x ∈ shortest (fmtOf t) (e * 2 ^ t.ms) ∧
      roundNE (fmtOf t) (decFrac (normDec 20 m x).1 (normDec 20 m x).2).1 (decFrac (normDec 20 m x).1 (normDec 20 m x).2).2
        = e * 2 ^ t.ms := by
  obtain ⟨hpos, hfin⟩ := shorter_bits_finite h0 he
  exact dragonboxOk_roundtrips hpos hfin (dragonbox_correct_shorter_partial t e h0 he)


section Normal
open LexVerif.Proof.DragonboxExp LexVerif.Proof.DragonboxNormalSpec
open LexVerif.Proof.DragonboxShortest

/-- **exact computation**, every binary exponent `e` of a finite float (254 + 2046 exponents, each certified by the kernel through the
certificate of its cache entry: `Proof/DragonboxExp.lean`) and EVERY significand `q` that occurs with it: there are `k = -minus_k`, `β`, the cache
entry `pow5` — exactly the values the model computes — and a fraction `a/b = 2^(e-1)·10^k` such that
(a) `compute_mul((2q+1)·2^β)` is `⌊(2q+1)·a/b⌋` with its integrality flag, (b) `compute_delta` is `⌊2a/b⌋`,
(c) `compute_mul_parity` of `2q-1` and `2q` gives the parity of the floor and the integrality of `n·a/b`;
the only exception is the integrality flag of the CENTRE for the two binary32 inputs `excFloats`
(`29711844·2^-82`, `29711844·2^-81` of the source comment; `center_flag_wrong_f32` shows the flag is really wrong there). -/
theorem dragonbox_exact_computation (t : FTy) (e : Int) (h1 : t.denormalExponent ≤ e)
    (h2 : e ≤ ((2 ^ t.exponentSize.toNat - 2 : Nat) : Int) - t.exponentBias) :
    ∃ d : ExpData,
      d.minusK = i32 (floorLog10Pow2 e - t.kappa)
      ∧ dragonboxPower t (i32 (-d.minusK)) = some d.pow5
      ∧ i32 (e + floorLog2Pow10 (i32 (-d.minusK))) = (d.beta : Int)
      ∧ 0 < d.b ∧ (d.a : ℚ) / d.b = (2 : ℚ) ^ (e - 1) * (10 : ℚ) ^ (-d.minusK)
      ∧ ∀ q, 1 ≤ q → q < 2 ^ (fmtOf t).p → (e ≠ t.denormalExponent → 2 ^ ((fmtOf t).p - 1) ≤ q) →
          computeMul t (shl64 (shl64 q 1 ||| 1) d.beta) d.pow5
            = ((2 * q + 1) * d.a / d.b, decide (d.b ∣ (2 * q + 1) * d.a))
          ∧ computeDelta t d.pow5 d.beta = 2 * d.a / d.b
          ∧ computeMulParity t (sub64 (shl64 q 1) 1) d.pow5 d.beta
            = (decide ((2 * q - 1) * d.a / d.b % 2 = 1), decide (d.b ∣ (2 * q - 1) * d.a))
          ∧ (computeMulParity t (shl64 q 1) d.pow5 d.beta).1 = decide (2 * q * d.a / d.b % 2 = 1)
          ∧ ((e, q) ∉ excFloats t →
              (computeMulParity t (shl64 q 1) d.pow5 d.beta).2 = decide (d.b ∣ 2 * q * d.a)) := by
  obtain ⟨d, F⟩ := facts_all t e h1 h2
  refine ⟨d, F.hKm, F.hpow, F.hbetaM, F.hpos.1, x_value F, ?_⟩
  intro q hq1 hq2 hqn
  rw [← prec_eq] at hq2 hqn
  exact LexVerif.Proof.DragonboxNormal.exact_all F hq1 hq2 hqn

/-- the exclusion in `dragonbox_exact_computation` is necessary: at `e = -81`, `2q = 29711844` the model's flag says
"`y` is an integer" although `29711844 · 2^-82 · 10^26` is not (`b = 2^56 ∤ 29711844 · 5^26`) -/
theorem center_flag_wrong_f32 :
    (match expData .f32 (-81) with
     | some d => (computeMulParity .f32 29711844 d.pow5 d.beta).2 && !(decide (d.b ∣ 29711844 * d.a))
     | none => false) = true := by decide +kernel

/-- **the normal branch is correct for all inputs**: every finite float of either type with a non-zero mantissa field
(all normal floats off the powers of two and all subnormals) is written by the model of `compute_nearest_normal` as a pair
of `Spec.shortest` -/
theorem dragonbox_correct_normal (t : FTy) (bits : Nat) (h0 : 0 < bits) (hfin : bits < (fmtOf t).infBits)
    (hm : bits &&& t.mantissaMask ≠ 0) : dragonboxOk t bits = true :=
  normal_ok t bits h0 hfin hm

/-- the binade edges — mantissa field `1` and all-ones — for every exponent field of binary32 (subnormals included: the
smallest and the largest subnormal) and every 4th exponent field of binary64: instances of the normal branch. Together
with the shorter-interval theorem this covers the three patterns nearest to every power of two of binary32. -/
theorem dragonbox_correct_edges_partial :
    (∀ e, e < 255 → dragonboxOk .f32 (e * 2 ^ 23 + 1) = true ∧ dragonboxOk .f32 (e * 2 ^ 23 + (2 ^ 23 - 1)) = true)
    ∧ (∀ e, e < 2047 → e % 4 = 0 →
        dragonboxOk .f64 (e * 2 ^ 52 + 1) = true ∧ dragonboxOk .f64 (e * 2 ^ 52 + (2 ^ 52 - 1)) = true) := by
  have h32 : ∀ e m, e < 255 → 0 < m → m < 2 ^ 23 → dragonboxOk .f32 (e * 2 ^ 23 + m) = true := fun e m he h0 hm =>
    dragonbox_correct_normal .f32 _ (by omega) (show _ < 255 * 2 ^ 23 by omega)
      (by show (e * 2 ^ 23 + m) &&& (2 ^ 23 - 1) ≠ 0; rw [Nat.and_two_pow_sub_one_eq_mod]; omega)
  have h64 : ∀ e m, e < 2047 → 0 < m → m < 2 ^ 52 → dragonboxOk .f64 (e * 2 ^ 52 + m) = true := fun e m he h0 hm =>
    dragonbox_correct_normal .f64 _ (by omega) (show _ < 2047 * 2 ^ 52 by omega)
      (by show (e * 2 ^ 52 + m) &&& (2 ^ 52 - 1) ≠ 0; rw [Nat.and_two_pow_sub_one_eq_mod]; omega)
  exact ⟨fun e he => ⟨h32 e 1 he (by decide) (by decide), h32 e _ he (by decide) (by decide)⟩,
    fun e he _ => ⟨h64 e 1 he (by decide) (by decide), h64 e _ he (by decide) (by decide)⟩⟩

/-- **C02 on the Dragonbox model, all finite non-zero floats of binary32 and binary64** -/
theorem dragonbox_correct_holds : dragonbox_correct := by
  intro t bits h0 hfin
  by_cases hm : bits &&& t.mantissaMask = 0
  · obtain ⟨e, he0, he1, hb, _⟩ := zero_mantissa_form t bits h0 hfin hm
    rw [hb]; exact dragonbox_correct_shorter_partial t e he0 he1
  · exact dragonbox_correct_normal t bits h0 hfin hm

/-- consequence: the model's output for ANY finite non-zero float re-parses (exact `roundNE`) to the same bits, is in
`Spec.shortest` (hence has the fewest digits and is closest: `Props.RoundNE.shortest_minimal/closest`) -/
theorem dragonbox_roundtrips (t : FTy) (bits : Nat) (h0 : 0 < bits) (hfin : bits < (fmtOf t).infBits) :
    ∃ m x, toDecimal t bits = some (m, x) ∧ normDec 20 m x ∈ shortest (fmtOf t) bits ∧
      roundNE (fmtOf t) (decFrac (normDec 20 m x).1 (normDec 20 m x).2).1 (decFrac (normDec 20 m x).1 (normDec 20 m x).2).2
        = bits :=
  dragonboxOk_roundtrips h0 hfin (dragonbox_correct_holds t bits h0 hfin)

/-- signed zeros: `to_decimal` of `±0` is `(0, 0)` (the sign is written by the caller from the sign bit) -/
theorem dragonbox_zero (t : FTy) : toDecimal t 0 = some (0, 0) ∧ toDecimal t t.signMask = some (0, 0) := by
  cases t <;> decide

/-! non-vacuity: the hypotheses of `dragonbox_correct_normal` / `dragonbox_exact_computation` are satisfiable -/
example : dragonboxOk .f64 0x3FF8000000000000 = true :=
  dragonbox_correct_normal .f64 0x3FF8000000000000 (by decide) (by decide) (by decide)
example : dragonboxOk .f32 1 = true := dragonbox_correct_normal .f32 1 (by decide) (by decide) (by decide)
example : FTy.f64.denormalExponent ≤ 0 ∧ (0 : Int) ≤ ((2 ^ FTy.f64.exponentSize.toNat - 2 : Nat) : Int) - FTy.f64.exponentBias := by
  decide

end Normal

/-! non-vacuity and samples (normal branch, evaluated) -/
example : toDecimal .f64 0x3FF8000000000000 = some (15, -1) := by decide +kernel
example : toDecimal .f32 0x00800000 = some (11754944, -45) := by decide +kernel
example : dragonboxOk .f64 0x7FEFFFFFFFFFFFFF = true := by decide +kernel
/-- 8.55e21 (the endpoint family of /repo 9f5296f) is written shortest by the model -/
example : toDecimal .f64 0x447CF7C4F4A7C4B0 ≠ none ∧ dragonboxOk .f64 (0x447CF7C4F4A7C4B0) = true := by decide +kernel
example : 0 < 1 ∧ (1 : Nat) < 2 ^ FTy.f64.exponentSize.toNat - 1 := by decide

end Dragonbox

/-! ## Grisu (`compact` builds) -/
section Grisu
open LexVerif.Model.Dragonbox LexVerif.Proof.DragonboxSpec LexVerif.Proof.GrisuSpec LexVerif.Proof
open LexVerif.Gen.Grisu

/-- the model of `cached_grisu_power` — which replaces the `f64` multiplication by `ONE_LOG_TEN` with its exact rational
value — returns on EVERY admissible argument `-1140 … 1089` what the compiled crate returned (R dump): together with
`Props.TablesWrite.grisu_cached` (row, binary exponent and the window `-60 ≤ e + e_c + 64 ≤ -32` are right) -/
theorem grisu_cached_power_model (i : Nat) (h : i < LexVerif.Proof.Tables.Grisu.cachedRows.length) :
    LexVerif.Model.Grisu.cachedGrisuPower (cachedLo + i) =
      some (⟨LexVerif.Proof.Tables.Grisu.cachedRows[i].1,
              (LexVerif.Proof.Tables.Grisu.cachedRows[i].2.1 : Int) - cachedBinExpBias⟩,
            (LexVerif.Proof.Tables.Grisu.cachedRows[i].2.2 : Int) - cachedKBias) :=
  GrisuCached.cachedGrisuPower_eq_dump i h

/-- the round-trip property of the model's `grisu` (proved: `grisu_roundtrip_holds`): for every finite non-zero float it yields
1…17 (f64) / 1…9 (f32) decimal digit characters without a leading zero whose value `digits·10^k` rounds back to the float -/
def grisu_roundtrip : Prop :=
  ∀ (t : FTy) (bits : Nat), 0 < bits → bits < (fmtOf t).infBits → grisuOk t bits = true

/-- instances of `grisu_roundtrip`: all 254 powers of two of binary32, 128 powers of two of binary64 spread over the
whole exponent range, the smallest subnormal and the largest finite pattern of both types -/
theorem grisu_roundtrip_partial :
    (∀ e, 0 < e → e < 255 → grisuOk .f32 (e * 2 ^ 23) = true)
    ∧ (∀ i, i < 128 → grisuOk .f64 ((16 * i + 1) * 2 ^ 52) = true)
    ∧ grisuOk .f64 1 = true ∧ grisuOk .f64 0x7FEFFFFFFFFFFFFF = true
    ∧ grisuOk .f32 1 = true ∧ grisuOk .f32 0x7F7FFFFF = true := by
  have f32inf : (fmtOf .f32).infBits = 255 * 2 ^ 23 := by decide
  have f64inf : (fmtOf .f64).infBits = 2047 * 2 ^ 52 := by decide
  refine ⟨fun e h0 he => ?_, fun i hi => ?_, ?_, ?_, ?_, ?_⟩
  · exact GrisuMain.grisu_ok .f32 _ (by omega) (by omega)
  · exact GrisuMain.grisu_ok .f64 _ (by omega) (by omega)
  · exact GrisuMain.grisu_ok .f64 _ (by decide) (by decide)
  · exact GrisuMain.grisu_ok .f64 _ (by decide) (by decide)
  · exact GrisuMain.grisu_ok .f32 _ (by decide) (by decide)
  · exact GrisuMain.grisu_ok .f32 _ (by decide) (by decide)

/-- **C02 on the Grisu model (`compact` builds), all finite non-zero floats of binary32 and binary64**: from what
`cached_grisu_power` can return (`Proof/GrisuCached.lean`: a table row that passed the window test `-60 … -32`, each of the
87 rows kernel-checked to satisfy `|c̃ − 10^k/2^e| ≤ 1/2`), `mul` = correctly rounded 64×64 product, the error analysis of
the three products (the shrunk interval `[m⁻·c̃ + 1, m⁺·c̃ − 1]` lies strictly inside the scaled rounding interval), and the
loop invariants of `generate_digits` / `round_digit` (`Proof/GrisuDigitStep.lean`, `GrisuLoop1`, `GrisuLoop2`, `GrisuDigits`). -/
theorem grisu_roundtrip_holds : grisu_roundtrip :=
  fun t bits h0 hfin => LexVerif.Proof.GrisuMain.grisu_ok t bits h0 hfin

theorem grisu_roundtrips (t : FTy) (bits : Nat) (h0 : 0 < bits) (hfin : bits < (fmtOf t).infBits) :
    ∃ ds k, LexVerif.Model.Grisu.grisu t bits = some (ds, k)
      ∧ (∀ c ∈ ds, 48 ≤ c ∧ c ≤ 57) ∧ 1 ≤ ds.length ∧ ds.length ≤ maxDigits t ∧ ds.head? ≠ some 48
      ∧ roundNE (fmtOf t) (decFracN (ofDigits 10 (ds.map (· - 48))) k).1 (decFracN (ofDigits 10 (ds.map (· - 48))) k).2
          = bits := by
  have h := grisu_roundtrip_holds t bits h0 hfin
  unfold grisuOk at h
  cases hg : LexVerif.Model.Grisu.grisu t bits with
  | none => rw [hg] at h; simp at h
  | some p =>
    obtain ⟨ds, k⟩ := p
    rw [hg] at h
    simp only [Bool.and_eq_true, List.all_eq_true, decide_eq_true_eq, beq_iff_eq, bne_iff_ne, ne_eq] at h
    obtain ⟨⟨⟨⟨a, b⟩, c⟩, d⟩, e⟩ := h
    exact ⟨ds, k, rfl, a, c, b, d, e⟩

example : LexVerif.Model.Grisu.grisu .f64 0x3FF8000000000000 = some ([49, 53], -1) := by decide +kernel
example : grisuOk .f32 0x3DCCCCCD = true := grisu_roundtrip_holds .f32 0x3DCCCCCD (by decide) (by decide)

end Grisu

end LexVerif.Props.C02
