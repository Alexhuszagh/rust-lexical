import LexVerif.Props.C04
/-!
# C16 — cargo features are additive (property theorems)

For the default (decimal, STANDARD) integer-parsing API the model of the parser equals one and the same
specification whatever the feature set: the result cannot depend on the features.
-/
namespace LexVerif.Props.C16
open LexVerif.Spec LexVerif.Model LexVerif.Proof.ParseInt LexVerif.Props.C04

/-- default-API integer parsing is feature independent: two feature sets give the same model result on every input -/
theorem parseInt_feature_independent (feats₁ feats₂ : Features) (t : IntTy) (ht : IsIntTy t)
    (p nm : Bool) (s : List Nat) (hs : ∀ b ∈ s, b < 256) :
    Model.ParseInt.parseInt feats₁ t 10 p nm s = Model.ParseInt.parseInt feats₂ t 10 p nm s := by
  rw [parseInt_model_eq_spec feats₁ t ht 10 (by decide) (by decide) (Or.inr rfl) p nm s hs,
      parseInt_model_eq_spec feats₂ t ht 10 (by decide) (by decide) (Or.inr rfl) p nm s hs]

end LexVerif.Props.C16
