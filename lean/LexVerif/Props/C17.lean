import LexVerif.Proof.WriteFloatAscii
import LexVerif.Proof.RoundTripModel
/-!
# C17 — every byte the decimal float writer and the integer writers emit under valid options is 7-bit ASCII

`ValidOpts` is what `OptionsBuilder::build` = `Ok` guarantees (`validOpts_of_build`): punctuation bytes pass
`is_valid_ascii`, special strings consist of ASCII letters.
* `ascii_only_decimal`: the list-level decimal writer (either back-end), all decimal digit lists / exponents / options, every
  format whose exponent radix is 2..36;
* `ascii_only`: the buffer-faithful `write_float` model — whatever it returns (finite decimal values and special values)
  is ASCII, sign byte included;
* `ascii_only_int`: sign + numeral of the integer writers, any radix 2..36.
The facade half of C17 (`lexical::to_string*` = `lexical_core::write*`) is checked by correspondence (`props/C17.py`).
-/
namespace LexVerif.Props.C17
open LexVerif.Spec LexVerif.Model LexVerif.Model.WriteFloat LexVerif.Proof.WriteFloatAscii LexVerif.Proof.WriteFloatBuf

/-- the list-level decimal writer only emits ASCII -/
theorem ascii_only_decimal (fmt : Format) (feats : Features) (ds : List Nat) (sci : Int) (o : WOpts)
    (hd : ∀ d ∈ ds, d < 10) (hv : wOptsError o = none)
    (hr : 2 ≤ (effFmt feats fmt).exponentRadix) (hr36 : (effFmt feats fmt).exponentRadix ≤ 36) :
    ∀ b ∈ writeDecimal fmt feats ds sci o, b < 128 := by
  have hvo := validOpts_of_build o hv
  show Asc (writeDecimal fmt feats ds sci o)
  rw [Proof.RoundTrip.writeDecimal_shape]
  exact Proof.RoundTrip.allP_render (fun d h => digitChar_lt_128 d (by omega)) _ _ _ _ _
    (Proof.RoundTrip.shapeOf_below fmt feats ds sci o hd) (fun _ => hvo.dp)
    (fun e _ => Proof.RoundTrip.allP_expText _ _ _ e hvo.exp (by omega) (by omega) (asc_numeral _ _ hr hr36))

/-- non-vacuity: `-1.5e-7` with `^` as exponent character and `,` as decimal point -/
example : writeDecimal Format.standard {} [1, 5] (-7) { exp := 94, dp := 44 } = [49, 44, 53, 94, 45, 55] := by decide +kernel
example : wOptsError { exp := 94, dp := 44 } = none := by decide +kernel

/-- **C17 `ascii_only`** on the buffer-faithful model of `WriteFloat::write_float`: every byte of the returned slice is
`< 0x80` — sign, digits, configured punctuation, exponent, special strings. -/
theorem ascii_only (feats : Features) (f : Fmt) (fmt : Format) (o : WOpts) (debug : Bool) (bits : Nat) (ds : List Nat)
    (sci : Int) (buf : List Nat) (w : Written)
    (hd : ∀ d ∈ ds, d < 10) (hds : 1 ≤ ds.length) (hmx : o.maxDigits ≠ some 0) (hv : wOptsError o = none)
    (hr : 2 ≤ (effFmt feats fmt).exponentRadix) (hr36 : (effFmt feats fmt).exponentRadix ≤ 36)
    (h : writeFloat feats f fmt o debug bits (ds, sci) buf = .done w) :
    ∀ b ∈ w.bytes.take w.len, b < 128 := by
  have hvo := validOpts_of_build o hv
  show Asc (w.bytes.take w.len)
  have hsign : Asc (floatSign feats f fmt bits) := fun b hb => by rcases mem_floatSign hb with rfl | rfl <;> omega
  cases hsp : f.isSpecial bits with
  | false =>
    rw [Proof.RoundTrip.writeFloat_done_finite feats f fmt o debug bits ds sci buf w hds hmx hsp h]
    exact allP_append hsign (ascii_only_decimal fmt feats ds sci o hd hv hr hr36)
  | true =>
    obtain ⟨s, hs, ht⟩ := Proof.RoundTrip.writeFloat_done_special feats f fmt o debug bits (ds, sci) buf w hsp h
    rw [ht]
    refine allP_append hsign ?_
    split at hs
    · exact hvo.nan s hs
    · exact hvo.inf s hs

/-- sign and numeral of the integer writers (`Spec`-level output proved equal to the model's in C03) -/
theorem ascii_only_int (r n : Nat) (neg plus : Bool) (hr : 2 ≤ r) (hr36 : r ≤ 36) :
    ∀ b ∈ (if neg then [45] else if plus then [43] else []) ++ numeral r n, b < 128 := by
  show Asc _
  apply allP_append
  · repeat' split
    all_goals simp
  · exact asc_numeral r n hr hr36

/-- special strings that `OptionsBuilder::build` rejects are exactly what would break ASCII: a witness -/
example : wOptsError { nan := some [78, 0xe9, 78] } = some "InvalidNanString" := by decide +kernel
example : wOptsError { dp := 0x80 } = some "InvalidDecimalPoint" := by decide +kernel

end LexVerif.Props.C17
