import LexVerif.Props.C01Slow
import LexVerif.Props.C01Main
/-!
# C01 — the slow-path model as the `slow_radix` of the pipeline theorem (`Props/C01Main.lean`)

`Model.ParseFloatAlgo` takes `slow_radix` as a parameter `slow : SlowRadix`, and `Props.C01Main.C01_main` assumes the
contract `SlowPathCorrect slow` (for **every** `Number` and every estimate with `Props.C01.Bracket`). Here the parameter
is instantiated with the model of the real code, `slowModel` (`Model.Slow` / `Model.SlowBytes`).

* `slowModel_hslow` — the per-input obligation `hslow` of `C01Main.numberToFloat_value` holds for `slowModel` on the
  explicit domain `SlowDomain` (what `Props.C01Slow.slow_radix_correct` needs): the pipeline's weak `Bracket` is exactly
  the precondition `WeakBracket` of `negative_digit_comp_correct_total`. Hence the numeric half of `parse_complete`,
  with the **modelled** slow path, returns what the specification prints, given the fast- and moderate-path contracts
  and `SlowDomain` for the estimates the moderate path produces (`Props.C01Final.slowModel_resolves`).

`SlowPathCorrect slowModel` itself is **not** provable as stated: it quantifies over `Number`s whose `mantissa` /
`exponent` words need not agree with the digit slices (the real `slow_radix` takes the scale from
`scientific_exponent(mantissa, exponent)`), and over estimates outside the domain (not normalised, capacity guards).
`SlowDomain.value` is the consistency it lacks.
-/
namespace LexVerif.Props.C01SlowMain
open LexVerif LexVerif.Spec LexVerif.Model LexVerif.Model.Slow LexVerif.Model.ParseFloatAlgo
open LexVerif.Proof.RoundNE LexVerif.Proof.ExtRound LexVerif.Proof.Pipeline LexVerif.Proof.Slow
open LexVerif.Props.C01Slow LexVerif.Props.C01Main
open LexVerif.Props.C01 (IsLemireFloat Bracket)

/-- the model of the real `slow_radix` as the pipeline's parameter (`none` = panic is excluded on `SlowDomain`) -/
def slowModel : SlowRadix := fun c F n fp =>
  (slowRadix (envOf c.feats) F c.feats.radix c.mantissaRadix ⟨n.mantissa, n.exponent, n.integer, n.fraction⟩ fp).getD ⟨0, 0⟩

def sciOf (c : Cfg) (n : Number) : Int := scientificExponent c.mantissaRadix n.mantissa n.exponent

/-- the inputs on which the slow-path model is proved: a build/radix with a digit limit `d`; validated, separator-free
digit bytes with a significant digit; a `Number` whose `mantissa`/`exponent` words put the leading digit where the
digits and the explicit exponent put it (`value`); the capacity
guard of `positive_digit_comp`; for a negative exponent a normalised estimate above the underflow cut with a finite
round-down — or one to `+∞` — and the matching capacity guard of `negative_digit_comp` (`NegFit`). (`fp` is the **un-biased** estimate.) -/
structure SlowDomain (c : Cfg) (F : FTy) (p : Nat) (n : Number) (fp : ExtendedFloat80) (d : Nat) : Prop where
  env : EnvRadix (envOf c.feats) c.mantissaRadix
  maxd : (envOf c.feats).S.maxDigits F.fmt c.mantissaRadix = some d
  validInt : ValidDigits c.mantissaRadix n.integer
  validFrac : ∀ fr, n.fraction = some fr → ValidDigits c.mantissaRadix fr
  nonempty : sigBytes n.integer n.fraction ≠ []
  bytes : ∀ x ∈ sigBytes n.integer n.fraction, x < 256
  sciLo : -(2 ^ 27 : Int) < sciOf c n
  sciHi : sciOf c n < 2 ^ 27
  value : RatEq (litFrac c.mantissaRadix c.exponentBase (numberLit c n))
    (sigValue c.mantissaRadix (sigBytes n.integer n.fraction) (sciOf c n))
  posGuard : 0 ≤ digitExponent (sciOf c n) (mantissaOf c.mantissaRadix d (sigBytes n.integer n.fraction)).2 →
    (mantissaOf c.mantissaRadix d (sigBytes n.integer n.fraction)).1 *
      c.mantissaRadix ^ (digitExponent (sciOf c n) (mantissaOf c.mantissaRadix d (sigBytes n.integer n.fraction)).2).toNat <
      2 ^ (64 * (envOf c.feats).L.bigintLimbs)
  negSide : digitExponent (sciOf c n) (mantissaOf c.mantissaRadix d (sigBytes n.integer n.fraction)).2 < 0 →
    2 ^ 63 ≤ fp.mant ∧ fp.mant < 2 ^ 64 ∧ fp.exp < 2 ^ 20 ∧
    NegFit (envOf c.feats) F p c.mantissaRadix (mantissaOf c.mantissaRadix d (sigBytes n.integer n.fraction)).1 fp
      (digitExponent (sciOf c n) (mantissaOf c.mantissaRadix d (sigBytes n.integer n.fraction)).2)

theorem roundNE_value {c : Cfg} {F : FTy} (hF : IsFloat F) {p eb : Nat} (lay : Layout F p eb) {n : Number}
    {fp : ExtendedFloat80} {d : Nat} (D : SlowDomain c F p n fp d) (hb : 0 < c.exponentBase) :
    roundNE F.fmt
        (powFrac c.mantissaRadix (digitExponent (sciOf c n) (mantissaOf c.mantissaRadix d (sigBytes n.integer n.fraction)).2)
          (mantissaOf c.mantissaRadix d (sigBytes n.integer n.fraction)).1).1
        (powFrac c.mantissaRadix (digitExponent (sciOf c n) (mantissaOf c.mantissaRadix d (sigBytes n.integer n.fraction)).2)
          (mantissaOf c.mantissaRadix d (sigBytes n.integer n.fraction)).1).2 =
      roundNE F.fmt (litFrac c.mantissaRadix c.exponentBase (numberLit c n)).1
        (litFrac c.mantissaRadix c.exponentBase (numberLit c n)).2 := by
  have hr2 := (envRadix_facts D.env).1
  have hrp : 0 < c.mantissaRadix := by omega
  have h1 : roundNE F.fmt (litFrac c.mantissaRadix c.exponentBase (numberLit c n)).1
      (litFrac c.mantissaRadix c.exponentBase (numberLit c n)).2 =
      roundNE F.fmt (sigValue c.mantissaRadix (sigBytes n.integer n.fraction) (sciOf c n)).1
        (sigValue c.mantissaRadix (sigBytes n.integer n.fraction) (sciOf c n)).2 :=
    roundNE_congr' lay.wf (litFrac_den_pos hrp hb _) (powFrac_den_pos hrp _ _) D.value
  rw [h1]
  exact roundNE_mantissaOf D.env hF D.maxd D.validInt D.validFrac D.bytes _

theorem slowModel_hslow {c : Cfg} {F : FTy} (hF : IsLemireFloat F) {p eb : Nat} (lay : Layout F p eb)
    (hden : F.C.denormalExponent = 1 - F.C.exponentBias) (hb : 0 < c.exponentBase) (n : Number) (fp : ExtendedFloat80)
    {d : Nat} (D : SlowDomain c F p n { fp with exp := fp.exp - invalidFp } d)
    (hbr : Bracket F fp (litFrac c.mantissaRadix c.exponentBase (numberLit c n)).1
      (litFrac c.mantissaRadix c.exponentBase (numberLit c n)).2) :
    extendedToFloat F (slowModel c F n { fp with exp := fp.exp - invalidFp }) =
      roundNE F.fmt (litFrac c.mantissaRadix c.exponentBase (numberLit c n)).1
        (litFrac c.mantissaRadix c.exponentBase (numberLit c n)).2 := by
  have hv := roundNE_value hF lay D hb
  obtain ⟨res, e1, _, e3⟩ := slow_radix_correct D.env lay hF hden c.feats.radix D.maxd
    ⟨n.mantissa, n.exponent, n.integer, n.fraction⟩ { fp with exp := fp.exp - invalidFp }
    D.validInt D.validFrac D.nonempty D.bytes D.sciLo D.sciHi D.posGuard (by
      intro hneg
      obtain ⟨a1, a2, a4, a6⟩ := D.negSide hneg
      refine ⟨a1, a2, a4, ?_, a6⟩
      -- the pipeline's bracket is the weak bracket of the value the slow path rounds
      unfold WeakBracket
      have hpf : ∀ (e : Int) (M : Nat), e < 0 →
          powFrac c.mantissaRadix e M = (M, c.mantissaRadix ^ (-e).toNat) := by
        intro e M he; unfold powFrac; rw [if_neg (by omega)]
      have := hpf _ (mantissaOf c.mantissaRadix d (sigBytes n.integer n.fraction)).1 hneg
      unfold sciOf at this hv
      rw [this] at hv
      simp only at hv
      dsimp only
      rw [hv]
      exact hbr)
  unfold slowModel
  unfold sciOf at hv
  rw [e1, Option.getD_some, e3, hv]

/-- the radices with a digit limit are not powers of two: `slow_path` dispatches to `slow_radix` -/
theorem slowPath_generic (slow : SlowRadix) (c : Cfg) {E : Env} (h : EnvRadix E c.mantissaRadix) (F : FTy) (n : Number)
    (fp : ExtendedFloat80) : slowPath slow c F n fp = slow c F n fp := by
  have hnp : isPowerTwo c.mantissaRadix = false := by
    have hall : ∀ x ∈ digitRadices, isPowerTwo x = false := by decide
    rcases h with ⟨_, hr⟩ | ⟨_, hr⟩
    · rw [hr]; decide
    · exact hall _ hr
  exact slowPath_of_not_pow2 slow c hnp F n fp

end LexVerif.Props.C01SlowMain
