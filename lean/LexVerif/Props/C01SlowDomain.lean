import LexVerif.Props.C01SlowMain
import LexVerif.Proof.BellBracket
import LexVerif.Proof.ComposeBell
/-!
# C01 — the `SlowDomain` conditions hold for what a moderate path hands over

`Props.C01SlowMain.slowModel_hslow` needs `SlowDomain` for each invalid-marked estimate of the moderate path.
Here those conditions are **derived**, for any algorithm whose invalid-marked answer is a two-sided estimate
(`Proof.Bell.Est2`) of every true value of the `Number`'s words (`Proof.Bell.TrueValue`), from inside the power table —
`Proof.Compose.HandOff`:

* `slowDomain_of_est`: the eleven conditions from the digit-level facts and an estimate of `M / 10^j`; only the guard of
  `negative_digit_comp` looks at the estimate (`negFit_of_weak`: both big integers stay inside `BIGINT_LIMBS` in every
  build, whether the estimate rounds down to a finite float or to `+∞`);
* `slowDomain_tv`: the same from a `HandOff`, with the scientific exponent computed (`scientificExponent_spec`) and the
  bracket (`HandOff.bracket`); `slowDomain_exact_tv`: untruncated `Number`s — from `NumberExactAt` (the
  `mantissa`/`exponent` words denote the digit content) the leading significant digit sits at `10^sci_exp` (`sci_key`);
* `lemire_handOff`: what Eisel–Lemire hands over is one (`Proof.Bell.lemire_invalid_est`); `slowDomain_of_exact`: from the
  cut-offs of `compute_float` (an invalid-marked answer implies `SMALLEST_POWER_OF_TEN ≤ q ≤ LARGEST_POWER_OF_TEN`,
  `w ≠ 0`: `lemire_invalid_range`) and `Props.C01.lemire_invalid_estOK`. Truncated `Number`s: `Props.C01Trunc`;
  Bellerophon: `Props.C01Compact`.

What remains about the input is `PlainSlices` (the stored digit slices are validated separator-free digit bytes whose
digit values are what `numberLit` reads) and "at most 19 significant digits" (what `many_digits = false` means).
-/
namespace LexVerif.Props.C01SlowDomain
open LexVerif LexVerif.Spec LexVerif.Model LexVerif.Model.Slow LexVerif.Model.ParseFloatAlgo
open LexVerif.Proof.RoundNE LexVerif.Proof.ExtRound LexVerif.Proof.Pipeline LexVerif.Proof.Slow LexVerif.Proof.Tables
open LexVerif.Props.C01Slow LexVerif.Props.C01Main LexVerif.Props.C01SlowMain
open LexVerif.Props.C01 (IsLemireFloat IsI64 Bracket)

theorem litFrac_eq (r : Nat) (l : FloatLit) :
    litFrac r r l = (ofDigits r (l.intDigits ++ l.fracDigits) * r ^ l.exp.toNat,
      r ^ l.fracDigits.length * r ^ (-l.exp).toNat) :=
  C01Number.litFrac_bases r r l

theorem exp_unique {r : Nat} (hr : 2 ≤ r) {a b P Q A B : Nat} (h : a * r ^ P = b * r ^ Q)
    (ha1 : r ^ A ≤ a) (ha2 : a < r ^ (A + 1)) (hb1 : r ^ B ≤ b) (hb2 : b < r ^ (B + 1)) : A + P = B + Q := by
  have hrp : 0 < r := by omega
  have l1 : r ^ (A + P) ≤ a * r ^ P := by rw [Nat.pow_add]; exact Nat.mul_le_mul_right _ ha1
  have u1 : a * r ^ P < r ^ (A + 1 + P) := by
    rw [Nat.pow_add]; exact Nat.mul_lt_mul_of_pos_right ha2 (Nat.pow_pos hrp)
  have l2 : r ^ (B + Q) ≤ b * r ^ Q := by rw [Nat.pow_add]; exact Nat.mul_le_mul_right _ hb1
  have u2 : b * r ^ Q < r ^ (B + 1 + Q) := by
    rw [Nat.pow_add]; exact Nat.mul_lt_mul_of_pos_right hb2 (Nat.pow_pos hrp)
  rw [h] at l1 u1
  have c1 : A + P < B + 1 + Q := (Nat.pow_lt_pow_iff_right (by omega : 1 < r)).mp (Nat.lt_of_le_of_lt l1 u2)
  have c2 : B + Q < A + 1 + P := (Nat.pow_lt_pow_iff_right (by omega : 1 < r)).mp (Nat.lt_of_le_of_lt l2 u1)
  omega

theorem sig_value_bounds {radix : Nat} (hr : 2 ≤ radix) {integer : List Nat} {fraction : Option (List Nat)}
    (hne : sigBytes integer fraction ≠ []) (hv : ValidDigits radix (sigBytes integer fraction))
    (hb : ∀ c ∈ sigBytes integer fraction, c < 256) :
    radix ^ ((sigBytes integer fraction).length - 1) ≤ ofDigits radix (dv radix (sigBytes integer fraction)) ∧
    ofDigits radix (dv radix (sigBytes integer fraction)) < radix ^ (sigBytes integer fraction).length := by
  refine ⟨?_, ofDigits_dv_lt hv⟩
  cases hs : sigBytes integer fraction with
  | nil => exact absurd hs hne
  | cons c cs =>
    rw [List.length_cons, Nat.add_sub_cancel]
    exact ofDigits_ge_of_head (hb c (by rw [hs]; exact List.mem_cons_self ..)) (sigBytes_head hs)

theorem sigBytes_lt {c : Cfg} {n : Number} (hs : PlainSlices c n) : ∀ x ∈ sigBytes n.integer n.fraction, x < 256 := by
  intro x hx
  rcases mem_sigBytes hx with h | ⟨fr, hfr, h⟩
  · exact hs.bytesInt x h
  · exact hs.bytesFrac fr hfr x h

theorem lemire_invalid_range {F : FTy} (hF : IsLemireFloat F) {q : Int} {w : Nat} {fp : ExtendedFloat80}
    (hcf : Lemire.computeFloat F q w false = .ok fp) (hinv : fp.exp < 0) :
    w ≠ 0 ∧ -342 ≤ q ∧ q ≤ 308 := by
  have hc : -342 ≤ F.C.smallestPowerOfTen ∧ F.C.largestPowerOfTen ≤ 308 ∧ 0 ≤ F.C.infinitePower := by
    rcases hF with h | h <;> subst h <;> decide
  unfold Lemire.computeFloat at hcf
  by_cases h1 : w = 0 ∨ q < F.C.smallestPowerOfTen
  · rw [if_pos h1] at hcf
    injection hcf with hcf; subst hcf
    exact absurd hinv (by decide)
  · rw [if_neg h1] at hcf
    by_cases h2 : q > F.C.largestPowerOfTen
    · rw [if_pos h2] at hcf
      injection hcf with hcf; subst hcf
      unfold Lemire.fpInf at hinv
      simp only at hinv
      omega
    · refine ⟨fun h => h1 (Or.inl h), ?_, ?_⟩ <;> omega

theorem maxDigits_decimal (feats : Features) {F : FTy} (hF : IsLemireFloat F) :
    ∃ d, (envOf feats).S.maxDigits F.fmt 10 = some d ∧ 19 ≤ d := by
  obtain ⟨c, p2, r, f, sd⟩ := feats
  rcases hF with h | h <;> subst h <;> cases c <;> cases p2 <;> cases r <;> exact ⟨_, rfl, by decide⟩

theorem cap_ge (feats : Features) : 62 ≤ (envOf feats).L.bigintLimbs := by
  obtain ⟨c, p2, r, f, sd⟩ := feats
  cases c <;> cases p2 <;> cases r <;> exact Nat.le_of_ble_eq_true rfl

/-- the round-down of a normalised estimate, in the `(k, q)` coordinates the capacity guard is written in — above and
below the underflow cut -/
theorem roundedDown_kq {F : FTy} {p eb : Nat} (lay : Layout F p eb) (fp : ExtendedFloat80) (hm1 : 2 ^ 63 ≤ fp.mant)
    (hm2 : fp.mant < 2 ^ 64) (hfin : C01Slow.roundedDown F fp < F.fmt.infBits) :
    C01Slow.roundedDown F fp = (fp.exp + 64 - p - 1).toNat * 2 ^ (p - 1) + fp.mant / 2 ^ shiftOf p fp.exp ∧
    fp.mant / 2 ^ shiftOf p fp.exp < 2 * 2 ^ (p - 1) := by
  have hp := lay.hp; have hp64 := lay.hp64; have heb := lay.heb
  have hfp : F.fmt.p = p := by rw [lay.fmt]
  by_cases hp2 : -fp.exp + 1 ≤ 64
  · obtain ⟨_, qb, _, _, _⟩ := LexVerif.Proof.BinaryCorrect.quot_bounds hp (by omega) hm1 hm2 fp.exp hp2
    refine ⟨?_, qb⟩
    unfold C01Slow.roundedDown at hfin ⊢
    rw [round_down_bits lay fp hm1 hm2 hp2, encode_eq_min lay] at hfin ⊢
    omega
  · obtain ⟨hk0, hq0⟩ := kq_tiny lay fp hm2 (by omega)
    rw [hk0, hq0, roundedDown_tiny lay fp hm2 (by omega)]
    have := Nat.two_pow_pos (p - 1)
    omega

/-- the numeric facts about `f32` / `f64` that the capacity guards need (`floatNums_f64`, `floatNums_f32`) -/
structure FloatNums (F : FTy) (p : Nat) : Prop where
  p53 : p ≤ 53
  bias0 : 0 ≤ F.C.exponentBias
  bias : F.C.exponentBias ≤ 1075
  big : roundNE F.fmt (2 ^ 64) 1 < F.fmt.infBits
  bigk : roundNE F.fmt (2 ^ 64) 1 ≤ 1087 * 2 ^ (p - 1)

theorem floatNums_f64 : FloatNums FTy.f64 53 := ⟨by decide, by decide, by decide, by decide +kernel, by decide +kernel⟩
theorem floatNums_f32 : FloatNums FTy.f32 24 := ⟨by decide, by decide, by decide, by decide +kernel, by decide +kernel⟩

theorem floatNums_of {F : FTy} (hF : IsLemireFloat F) {p eb : Nat} (lay : Layout F p eb) : FloatNums F p := by
  have hfmt := lay.fmt
  rcases hF with h | h <;> subst h
  · have : p = 53 := by
      have h1 : FTy.f64.fmt.p = p := by rw [hfmt]
      exact h1.symm
    subst this; exact floatNums_f64
  · have : p = 24 := by
      have h1 : FTy.f32.fmt.p = p := by rw [hfmt]
      exact h1.symm
    subst this; exact floatNums_f32

theorem pow10_19 : 10 ^ 19 < 2 ^ 64 := by decide
theorem pow10_20 : 2 ^ 64 < 10 ^ 20 := by decide

/-- where the leading digit sits: if `w·r^q` is the value of `S` with `fl` fraction digits and explicit exponent `E`,
`w` has `T + 1` digits and `S` has `len`, then `q + T = E − fl + len − 1` -/
theorem sci_key {r : Nat} (hr : 2 ≤ r) {w S fl T len : Nat} {q E : Int}
    (h : w * r ^ q.toNat * (r ^ fl * r ^ (-E).toNat) = S * r ^ E.toNat * r ^ (-q).toNat)
    (t1 : r ^ T ≤ w) (t2 : w < r ^ (T + 1)) (hlen : 1 ≤ len) (s1 : r ^ (len - 1) ≤ S) (s2 : S < r ^ len) :
    q + T + 1 - (len : Int) = E - (fl : Int) := by
  have hu := exp_unique hr (a := w) (b := S) (P := q.toNat + (fl + (-E).toNat)) (Q := E.toNat + (-q).toNat)
    (A := T) (B := len - 1)
    (by rw [Nat.pow_add, Nat.pow_add, Nat.pow_add, ← Nat.mul_assoc w, ← Nat.mul_assoc S]; exact h)
    t1 t2 s1 (by rw [Nat.sub_add_cancel hlen]; exact s2)
  omega

theorem ratEq_powFrac (r S fl : Nat) (E x : Int) (hx : x = E - (fl : Int)) :
    S * r ^ E.toNat * (powFrac r x S).2 = (powFrac r x S).1 * (r ^ fl * r ^ (-E).toNat) := by
  rw [powFrac_eq]
  have := C01Number.pow_balance r (x := E) (y := x) (P := 0) (Q := fl) (by omega) S
  rwa [Nat.pow_zero, Nat.one_mul] at this

set_option exponentiation.threshold 5000 in
/-- `3968 = 64·62` bits is the smallest `BIGINT_LIMBS` of any build (`cap_ge`); `770 = 769 + 1` digits is the most
`parse_mantissa` keeps (`maxDigits_decimal_le`); `1130` bounds `j = −e` (for a table exponent `q ≥ −342`: `j = cnt − 19 − q ≤ 770 − 19 + 342`);
`2^55·5^1130` bounds `(2Q+4)·5^j` for a significand `Q < 2^53` -/
theorem pow_caps : 4 * 10 ^ 770 < 2 ^ 3968 ∧ 2 ^ 55 * 5 ^ 1130 < 2 ^ 3968 ∧ 10 ^ 1130 < 2 ^ 3968 :=
  ⟨by decide +kernel, by decide +kernel, by decide +kernel⟩

end LexVerif.Props.C01SlowDomain

namespace LexVerif.Props.C01Trunc
open LexVerif LexVerif.Spec LexVerif.Model LexVerif.Model.Slow LexVerif.Model.ParseFloatAlgo
open LexVerif.Proof.RoundNE LexVerif.Proof.ExtRound LexVerif.Proof.Pipeline LexVerif.Proof.Slow LexVerif.Proof.Tables
open LexVerif.Props.C01Slow LexVerif.Props.C01Main LexVerif.Props.C01SlowMain
open LexVerif.Props.C01 (IsLemireFloat IsI64 Bracket)
open LexVerif.Props.C01SlowDomain

/-- both big integers of `negative_digit_comp` are about as large as the digits (`M < 10^770`) or as `b + h` scaled
(`< 2^55·5^j`): `theor ≤ 4·M` when it is the one shifted left, `real < (2Q+4)·5^j` when that one is — because the estimate
is close to `M / 10^j` (`lo`: at most twice the value; `hi`: less than `ch ≤ 2^Sf` units below it). `Q < 2^53`: a
significand of `p ≤ 53` bits; the other constants are those of `pow_caps` -/
theorem neg_guard_bounds (Q K Sf mant M j L ch : Nat) (be : Int) (hbe : be = (K : Int) + j - (L + 1))
    (hQ : Q = mant / 2 ^ Sf) (hS40 : ch ≤ 2 ^ Sf) (hQ0 : Q = 0 → K = 0) (hQ53 : Q < 2 ^ 53)
    (hj : j ≤ 1130) (hM : M < 10 ^ 770)
    (lo : mant * 2 ^ K * 10 ^ j ≤ 2 * (M * 2 ^ L * 2 ^ Sf)) (hi : M * 2 ^ L * 2 ^ Sf < (mant + ch) * 2 ^ K * 10 ^ j) :
    (2 * Q + 1) * 5 ^ j * 2 ^ be.toNat < 2 ^ 3968 ∧ M * 2 ^ (-be).toNat < 2 ^ 3968 := by
  obtain ⟨c1, c2, c3⟩ := pow_caps
  have h10 : (10 : Nat) ^ j = 5 ^ j * 2 ^ j := by rw [← Nat.mul_pow]
  have h5j : 5 ^ j ≤ 5 ^ 1130 := Nat.pow_le_pow_right (by decide) hj
  have h10j : 10 ^ j ≤ 10 ^ 1130 := Nat.pow_le_pow_right (by decide) hj
  have hSpos := Nat.two_pow_pos Sf
  have hQm : Q * 2 ^ Sf ≤ mant := by rw [hQ]; exact Nat.div_mul_le_self _ _
  have hmQ : mant < 2 ^ Sf * (Q + 1) := by rw [hQ]; exact Nat.lt_mul_div_succ mant hSpos
  by_cases hb : 0 ≤ be
  · obtain ⟨n, hn⟩ : ∃ n : Nat, be = (n : Int) := ⟨be.toNat, by omega⟩
    have e1 : be.toNat = n := by omega
    have e2 : (-be).toNat = 0 := by omega
    rw [e1, e2, Nat.pow_zero, Nat.mul_one]
    have hKj : K + j = n + L + 1 := by omega
    refine ⟨?_, by omega⟩
    by_cases hq0 : Q = 0
    · have hK0 := hQ0 hq0
      have hnj : n ≤ j := by omega
      have : 2 ^ n ≤ 2 ^ j := Nat.pow_le_pow_right (by decide) hnj
      rw [hq0]
      calc (2 * 0 + 1) * 5 ^ j * 2 ^ n = 5 ^ j * 2 ^ n := by ring
        _ ≤ 5 ^ j * 2 ^ j := Nat.mul_le_mul_left _ this
        _ = 10 ^ j := h10.symm
        _ < 2 ^ 3968 := by omega
    · have k1 : Q * 2 ^ K * 10 ^ j ≤ 2 * (M * 2 ^ L) := by
        apply Nat.le_of_mul_le_mul_right _ hSpos
        calc Q * 2 ^ K * 10 ^ j * 2 ^ Sf = (Q * 2 ^ Sf) * 2 ^ K * 10 ^ j := by ring
          _ ≤ mant * 2 ^ K * 10 ^ j := Nat.mul_le_mul_right _ (Nat.mul_le_mul_right _ hQm)
          _ ≤ 2 * (M * 2 ^ L * 2 ^ Sf) := lo
          _ = 2 * (M * 2 ^ L) * 2 ^ Sf := by ring
      have k2 : Q * 5 ^ j * 2 ^ n ≤ M := by
        apply Nat.le_of_mul_le_mul_right _ (Nat.two_pow_pos (L + 1))
        calc Q * 5 ^ j * 2 ^ n * 2 ^ (L + 1) = Q * 5 ^ j * 2 ^ (n + L + 1) := by
              rw [Nat.pow_add, Nat.pow_add, Nat.pow_add]; ring
          _ = Q * 5 ^ j * 2 ^ (K + j) := by rw [hKj]
          _ = Q * 2 ^ K * 10 ^ j := by rw [h10, Nat.pow_add]; ring
          _ ≤ 2 * (M * 2 ^ L) := k1
          _ = M * 2 ^ (L + 1) := by rw [Nat.pow_succ]; ring
      have k3 : (2 * Q + 1) * 5 ^ j * 2 ^ n ≤ 4 * (Q * 5 ^ j * 2 ^ n) := by
        have : 2 * Q + 1 ≤ 4 * Q := by omega
        calc (2 * Q + 1) * 5 ^ j * 2 ^ n = (2 * Q + 1) * (5 ^ j * 2 ^ n) := by ring
          _ ≤ 4 * Q * (5 ^ j * 2 ^ n) := Nat.mul_le_mul_right _ this
          _ = 4 * (Q * 5 ^ j * 2 ^ n) := by ring
      omega
  · obtain ⟨n, hn⟩ : ∃ n : Nat, -be = (n : Int) := ⟨(-be).toNat, by omega⟩
    have e1 : be.toNat = 0 := by omega
    have e2 : (-be).toNat = n := by omega
    rw [e1, e2, Nat.pow_zero, Nat.mul_one]
    have hKj : n + (K + j) = L + 1 := by omega
    constructor
    · calc (2 * Q + 1) * 5 ^ j ≤ 2 ^ 55 * 5 ^ 1130 := Nat.mul_le_mul (by omega) h5j
        _ < 2 ^ 3968 := c2
    · have k1 : M * 2 ^ L < (Q + 2) * 2 ^ K * 10 ^ j := by
        apply Nat.lt_of_mul_lt_mul_right (a := 2 ^ Sf)
        calc M * 2 ^ L * 2 ^ Sf < (mant + ch) * 2 ^ K * 10 ^ j := hi
          _ ≤ (2 ^ Sf * (Q + 1) + 2 ^ Sf) * 2 ^ K * 10 ^ j :=
              Nat.mul_le_mul_right _ (Nat.mul_le_mul_right _ (by omega))
          _ = (Q + 2) * 2 ^ K * 10 ^ j * 2 ^ Sf := by ring
      have k2 : M * 2 ^ n < (2 * Q + 4) * 5 ^ j := by
        apply Nat.lt_of_mul_lt_mul_right (a := 2 ^ (K + j))
        calc M * 2 ^ n * 2 ^ (K + j) = M * 2 ^ (n + (K + j)) := by rw [Nat.pow_add]; ring
          _ = 2 * (M * 2 ^ L) := by rw [hKj, Nat.pow_succ]; ring
          _ < 2 * ((Q + 2) * 2 ^ K * 10 ^ j) := Nat.mul_lt_mul_of_pos_left k1 (by decide)
          _ = (2 * Q + 4) * 5 ^ j * 2 ^ (K + j) := by rw [h10, Nat.pow_add]; ring
      calc M * 2 ^ n < (2 * Q + 4) * 5 ^ j := k2
        _ ≤ 2 ^ 55 * 5 ^ 1130 := Nat.mul_le_mul (by omega) h5j
        _ < 2 ^ 3968 := c2

/-- the same when the estimate rounds down to `+∞` (`K ≥ 2^eb − 2 = 2·bf`): the value is at least `2^bf`, so
`theor = bh(+∞)·10^j`-scaled is at most `4·M` -/
theorem neg_guard_inf_bounds (p bf K mant M j L Sf : Nat) (hp : 2 ≤ p) (hpb : p + 1 ≤ bf) (hK : 2 * bf ≤ K)
    (hmant : 2 ^ Sf * 2 ^ (p - 1) ≤ mant) (hL : L = bf + (p - 1) - 1) (hM : M < 10 ^ 770)
    (lo : mant * 2 ^ K * 10 ^ j ≤ 2 * (M * 2 ^ L * 2 ^ Sf)) :
    (2 * 2 ^ (p - 1) + 1) * 5 ^ j * 2 ^ (((2 * bf : Nat) : Int) - ((bf + (p - 1) : Nat) : Int) + j).toNat < 2 ^ 3968 ∧
    M * 2 ^ (-(((2 * bf : Nat) : Int) - ((bf + (p - 1) : Nat) : Int) + j)).toNat < 2 ^ 3968 := by
  obtain ⟨c1, _, _⟩ := pow_caps
  have h10 : (10 : Nat) ^ j = 5 ^ j * 2 ^ j := by rw [← Nat.mul_pow]
  have e1 : (((2 * bf : Nat) : Int) - ((bf + (p - 1) : Nat) : Int) + j).toNat = bf - (p - 1) + j := by omega
  have e2 : (-(((2 * bf : Nat) : Int) - ((bf + (p - 1) : Nat) : Int) + j)).toNat = 0 := by omega
  rw [e1, e2, Nat.pow_zero, Nat.mul_one]
  refine ⟨?_, by omega⟩
  have hSpos := Nat.two_pow_pos Sf
  have k0 : 2 ^ (2 * bf) ≤ 2 ^ K := Nat.pow_le_pow_right (by decide) hK
  have k1 : 2 ^ (p - 1) * 2 ^ (2 * bf) * 10 ^ j ≤ 2 * (M * 2 ^ L) := by
    apply Nat.le_of_mul_le_mul_right _ hSpos
    calc 2 ^ (p - 1) * 2 ^ (2 * bf) * 10 ^ j * 2 ^ Sf = (2 ^ Sf * 2 ^ (p - 1)) * 2 ^ (2 * bf) * 10 ^ j := by ring
      _ ≤ mant * 2 ^ K * 10 ^ j := Nat.mul_le_mul_right _ (Nat.mul_le_mul hmant k0)
      _ ≤ 2 * (M * 2 ^ L * 2 ^ Sf) := lo
      _ = 2 * (M * 2 ^ L) * 2 ^ Sf := by ring
  have k2 : 2 ^ (bf + 1) * 10 ^ j ≤ 2 * M := by
    apply Nat.le_of_mul_le_mul_right _ (Nat.two_pow_pos L)
    calc 2 ^ (bf + 1) * 10 ^ j * 2 ^ L = 2 ^ (bf + 1 + L) * 10 ^ j := by rw [Nat.pow_add]; ring
      _ = 2 ^ (p - 1 + 2 * bf) * 10 ^ j := by congr 2; omega
      _ = 2 ^ (p - 1) * 2 ^ (2 * bf) * 10 ^ j := by rw [Nat.pow_add]
      _ ≤ 2 * (M * 2 ^ L) := k1
      _ = 2 * M * 2 ^ L := by ring
  have k3 : 2 * 2 ^ (p - 1) + 1 ≤ 2 ^ (p + 1) := by
    have : 2 ^ (p + 1) = 4 * 2 ^ (p - 1) := by
      rw [show p + 1 = (p - 1) + 2 by omega, Nat.pow_add]; ring
    have := Nat.two_pow_pos (p - 1)
    omega
  calc (2 * 2 ^ (p - 1) + 1) * 5 ^ j * 2 ^ (bf - (p - 1) + j)
      ≤ 2 ^ (p + 1) * 5 ^ j * 2 ^ (bf - (p - 1) + j) :=
        Nat.mul_le_mul_right _ (Nat.mul_le_mul_right _ k3)
    _ = 2 ^ (p + 1 + (bf - (p - 1))) * 10 ^ j := by rw [h10, Nat.pow_add, Nat.pow_add]; ring
    _ = 2 * (2 ^ (bf + 1) * 10 ^ j) := by
        rw [show p + 1 + (bf - (p - 1)) = (bf + 1) + 1 by omega, Nat.pow_succ]; ring
    _ ≤ 2 * (2 * M) := Nat.mul_le_mul_left _ k2
    _ < 2 ^ 3968 := by omega

end LexVerif.Props.C01Trunc

namespace LexVerif.Props.C01SlowDomain
open LexVerif LexVerif.Spec LexVerif.Model LexVerif.Model.Slow LexVerif.Model.ParseFloatAlgo
open LexVerif.Proof.RoundNE LexVerif.Proof.ExtRound LexVerif.Proof.Pipeline LexVerif.Proof.Slow LexVerif.Proof.Tables
open LexVerif.Props.C01Slow LexVerif.Props.C01Main LexVerif.Props.C01SlowMain
open LexVerif.Props.C01 (IsLemireFloat IsI64 Bracket)

/-- an estimate at most twice the value and less than `ch ≤ 2^(64−p)/2` units below it keeps both big integers of
`negative_digit_comp` inside `BIGINT_LIMBS` (`M < 10^770`, `−1130 ≤ e < 0`), whether it rounds down to a finite float or
to `+∞` -/
theorem negFit_of_weak {F : FTy} (hF : IsLemireFloat F) {p eb : Nat} (lay : Layout F p eb) (feats : Features)
    (est : ExtendedFloat80) (M : Nat) (e : Int) (hneg : e < 0) (he : -(1130 : Int) ≤ e) (hM770 : M < 10 ^ 770)
    (ch : Nat) (hch : 2 * ch ≤ 2 ^ (64 - p)) (f1 : 2 ^ 63 ≤ est.mant) (f2 : est.mant < 2 ^ 64)
    (lo2 : est.mant * 2 ^ (est.exp + 64 - ↑p - 1).toNat * 10 ^ (-e).toNat ≤
      2 * (M * 2 ^ L F.fmt * 2 ^ shiftOf p est.exp))
    (hi : M * 2 ^ L F.fmt * 2 ^ shiftOf p est.exp <
      (est.mant + ch) * 2 ^ (est.exp + 64 - ↑p - 1).toNat * 10 ^ (-e).toNat) :
    C01Slow.NegFit (Slow.envOf feats) F p 10 M est e := by
  have hp := lay.hp
  have hp53 := (floatNums_of hF lay).p53
  have hLb : (F.C.exponentBias : Int) = (L F.fmt : Int) + 1 := by
    rw [lay.bias, LexVerif.Proof.BinaryCorrect.L_eq lay]
    have := lay.hL127
    omega
  have hcap := cap_ge feats
  have hcapp : 2 ^ 3968 ≤ 2 ^ (64 * (Slow.envOf feats).L.bigintLimbs) :=
    Nat.pow_le_pow_right (by decide) (by omega)
  have hS3 : 64 - p ≤ shiftOf p est.exp := by
    unfold shiftOf; split <;> omega
  have hSch : ch ≤ 2 ^ shiftOf p est.exp := by
    have : 2 ^ (64 - p) ≤ 2 ^ shiftOf p est.exp := Nat.pow_le_pow_right (by decide) hS3
    omega
  by_cases hfin' : C01Slow.roundedDown F est < F.fmt.infBits
  · refine Or.inl ⟨hfin', ?_⟩
    obtain ⟨kq1, kq2⟩ := roundedDown_kq lay est f1 f2 hfin'
    have hQ0 : est.mant / 2 ^ shiftOf p est.exp = 0 → (est.exp + 64 - ↑p - 1).toNat = 0 := by
      intro h0
      by_cases hp2 : -est.exp + 1 ≤ 64
      · obtain ⟨qa, _, _, _, _⟩ := LexVerif.Proof.BinaryCorrect.quot_bounds hp (by omega) f1 f2 est.exp hp2
        apply Classical.byContradiction; intro hK
        have := (qa (by omega)).2.1
        have := Nat.two_pow_pos (p - 1)
        omega
      · omega
    have hQ53 : est.mant / 2 ^ shiftOf p est.exp < 2 ^ 53 := by
      have : 2 * 2 ^ (p - 1) ≤ 2 ^ 53 := by
        rw [← Nat.pow_succ']
        exact Nat.pow_le_pow_right (by decide) (by omega)
      omega
    generalize hj : (-e).toNat = j, hK : (est.exp + 64 - ↑p - 1).toNat = K,
      hQ : est.mant / 2 ^ shiftOf p est.exp = Q at *
    obtain ⟨g1, g2⟩ := C01Trunc.neg_guard_bounds Q K (shiftOf p est.exp) est.mant M j (L F.fmt) ch
      ((K : Int) - F.C.exponentBias - e) (by omega) hQ.symm hSch hQ0 hQ53
      (by omega) hM770 lo2 hi
    unfold C01Slow.NegGuard
    simp only [hK, hQ, hj]
    exact ⟨Nat.lt_of_lt_of_le g1 hcapp, Nat.lt_of_lt_of_le g2 hcapp⟩
  · -- the estimate rounds down to `+∞`
    have hinfpos := LexVerif.Proof.RoundNE.infBits_pos lay.wf
    have hfp : F.fmt.p = p := by rw [lay.fmt]
    have hfe : F.fmt.ebits = eb := by rw [lay.fmt]
    have hinf : F.fmt.infBits = (2 ^ eb - 1) * 2 ^ (p - 1) := by rw [lay.fmt]; rfl
    have hp2 : -est.exp + 1 ≤ 64 := by
      apply Classical.byContradiction; intro hcon
      rw [C01Slow.roundedDown_tiny lay est f2 (by omega)] at hfin'
      omega
    obtain ⟨qa, qb, _, _, _⟩ := LexVerif.Proof.BinaryCorrect.quot_bounds hp (by omega) f1 f2 est.exp hp2
    have hrd : C01Slow.roundedDown F est =
        encode F.fmt (est.exp + 64 - ↑p - 1).toNat (est.mant / 2 ^ shiftOf p est.exp) := by
      unfold C01Slow.roundedDown
      exact round_down_bits lay est f1 f2 hp2
    have hov : F.fmt.infBits ≤ (est.exp + 64 - ↑p - 1).toNat * 2 ^ (p - 1) +
        est.mant / 2 ^ shiftOf p est.exp := by
      rw [hrd, encode_eq_min lay] at hfin'
      omega
    have heq : C01Slow.roundedDown F est = F.fmt.infBits := by
      rw [hrd]; exact encode_of_inf_le (hfp ▸ hov)
    refine Or.inr ⟨heq, ?_⟩
    have heb := lay.heb
    have h2eb : 2 ^ eb = 2 * 2 ^ (eb - 1) := LexVerif.Proof.RoundNE.two_pow_pred (by omega)
    have hTpos := Nat.two_pow_pos (p - 1)
    have hebpos := Nat.two_pow_pos (eb - 1)
    generalize hK : (est.exp + 64 - ↑p - 1).toNat = K at *
    have hK2 : 2 * (2 ^ (eb - 1) - 1) ≤ K := by
      rw [hinf] at hov
      apply Classical.byContradiction; intro hcon
      have h1 : K + 3 ≤ 2 ^ eb := by omega
      have h2 : (K + 3) * 2 ^ (p - 1) ≤ 2 ^ eb * 2 ^ (p - 1) := Nat.mul_le_mul_right _ h1
      have h3 : (2 ^ eb - 1) * 2 ^ (p - 1) + 2 ^ (p - 1) = 2 ^ eb * 2 ^ (p - 1) := by
        rw [← Nat.succ_mul]; congr 1; omega
      have h4 : (K + 3) * 2 ^ (p - 1) = K * 2 ^ (p - 1) + 3 * 2 ^ (p - 1) := by ring
      omega
    have hKpos : 0 < K := by
      have : 2 ≤ 2 ^ (eb - 1) := by
        calc 2 = 2 ^ 1 := rfl
          _ ≤ 2 ^ (eb - 1) := Nat.pow_le_pow_right (by decide) (by omega)
      omega
    obtain ⟨hSf, _, hmant⟩ := qa hKpos
    generalize hj : (-e).toNat = j at *
    obtain ⟨g1, g2⟩ := C01Trunc.neg_guard_inf_bounds p (2 ^ (eb - 1) - 1) K est.mant M j (L F.fmt)
      (shiftOf p est.exp) hp lay.hpb hK2 hmant (LexVerif.Proof.BinaryCorrect.L_eq lay) hM770 lo2
    unfold C01Slow.NegGuardInf
    rw [hfe, lay.bias]
    have e1 : ((2 ^ eb - 2 : Nat) : Int) - ((2 ^ (eb - 1) - 1 + (p - 1) : Nat) : Int) -
        e =
        ((2 * (2 ^ (eb - 1) - 1) : Nat) : Int) - ((2 ^ (eb - 1) - 1 + (p - 1) : Nat) : Int) + j := by
      have : 2 ^ eb - 2 = 2 * (2 ^ (eb - 1) - 1) := by omega
      rw [this]; omega
    rw [e1]
    simp only [hj]
    exact ⟨Nat.lt_of_lt_of_le g1 hcapp, Nat.lt_of_lt_of_le g2 hcapp⟩

section estimate
open LexVerif.Proof.Bell
open LexVerif.Proof.Compose (HandOff)

/-- **`SlowDomain` from a two-sided estimate**: the scientific exponent `sciV` puts the leading digit where the digits and
the explicit exponent put it (`hkey`); `(M, cnt)` is what `parse_mantissa` keeps; `est` is a two-sided estimate
(`Proof.Bell.Est2`) of `M / 10^j`. Only the guard of `negative_digit_comp` looks at the estimate. -/
theorem slowDomain_of_est {F : FTy} (hF : IsLemireFloat F) {p eb : Nat} (lay : Layout F p eb) (c : Cfg)
    (hr : c.mantissaRadix = 10) (hb : c.exponentBase = 10) (n : Number) (hs : PlainSlices c n)
    (hne : sigBytes n.integer n.fraction ≠ [])
    (sciV : Int) (hsci : sciOf c n = sciV) (hs1 : -360 ≤ sciV) (hs2 : sciV + 1 ≤ 400)
    (hkey : sciV + 1 - ((sigBytes n.integer n.fraction).length : Int) =
      n.explicitExp - ((n.fraction.getD []).length : Int))
    (d : Nat) (hd : (Slow.envOf c.feats).S.maxDigits F.fmt 10 = some d)
    (M cnt : Nat) (hmo : mantissaOf 10 d (sigBytes n.integer n.fraction) = (M, cnt))
    (hMlt : M < 10 ^ cnt) (hcnt : cnt ≤ 770)
    (est : ExtendedFloat80) (hexp : est.exp < 2 ^ 20)
    (cl ch : Nat) (hcl62 : cl ≤ 2 ^ 62) (hch : 2 * ch ≤ 2 ^ (64 - p))
    (hestM : sciV + 1 - (cnt : Int) < 0 → Est2 F p est cl ch M (10 ^ (-(sciV + 1 - (cnt : Int))).toNat)) :
    SlowDomain c F p n est d := by
  have h27 : (2 : Int) ^ 27 = 134217728 := by norm_num
  have hbs := sigBytes_lt hs
  have hV := C01Number.litFrac_plain 10 10 c hr n hs
  generalize hsig : sigBytes n.integer n.fraction = sig at *
  generalize hS : ofDigits 10 (dv 10 sig) = S at *
  generalize hfle : (n.fraction.getD []).length = fl at *
  constructor
  · rw [hr]; exact envRadix_decimal c.feats
  · rw [hr]; exact hd
  · exact hs.validInt
  · exact hs.validFrac
  · rw [hsig]; exact hne
  · rw [hsig]; exact hbs
  · rw [hsci]; omega
  · rw [hsci]; omega
  · rw [hr, hb, hsig, hsci]
    unfold sigValue digitExponent
    rw [hV, powFrac_eq, hS]
    rw [← powFrac_eq]
    exact ratEq_powFrac 10 S fl n.explicitExp _ (by omega)
  · rw [hr, hsig, hsci, hmo]
    intro hpos
    unfold digitExponent at hpos ⊢
    simp only at hpos ⊢
    exact positive_guard_decimal (envRadix_decimal c.feats) hMlt (by omega)
  · rw [hr, hsig, hsci, hmo]
    intro hneg
    unfold digitExponent at hneg ⊢
    simp only at hneg ⊢
    obtain ⟨f1, f2, lo, hi⟩ := hestM hneg
    refine ⟨f1, f2, hexp, ?_⟩
    have hM770 : M < 10 ^ 770 := Nat.lt_of_lt_of_le hMlt (Nat.pow_le_pow_right (by decide) hcnt)
    -- the estimate is at most twice the value
    have lo2 : est.mant * 2 ^ (est.exp + 64 - ↑p - 1).toNat * 10 ^ (-(sciV + 1 - (cnt : Int))).toNat ≤
        2 * (M * 2 ^ L F.fmt * 2 ^ shiftOf p est.exp) := by
      have h2 : 2 * (cl * 2 ^ (est.exp + 64 - ↑p - 1).toNat * 10 ^ (-(sciV + 1 - (cnt : Int))).toNat) ≤
          est.mant * 2 ^ (est.exp + 64 - ↑p - 1).toNat * 10 ^ (-(sciV + 1 - (cnt : Int))).toNat := by
        have : 2 * cl ≤ est.mant := by
          have : (2 : Nat) ^ 63 = 2 * 2 ^ 62 := by norm_num
          omega
        calc 2 * (cl * 2 ^ (est.exp + 64 - ↑p - 1).toNat * 10 ^ (-(sciV + 1 - (cnt : Int))).toNat)
            = (2 * cl) * 2 ^ (est.exp + 64 - ↑p - 1).toNat * 10 ^ (-(sciV + 1 - (cnt : Int))).toNat := by ring
          _ ≤ est.mant * 2 ^ (est.exp + 64 - ↑p - 1).toNat * 10 ^ (-(sciV + 1 - (cnt : Int))).toNat :=
              Nat.mul_le_mul_right _ (Nat.mul_le_mul_right _ this)
      omega
    exact negFit_of_weak hF lay c.feats est M _ hneg (by omega) hM770 ch hch f1 f2 lo2 hi

/-- **the slow path's domain for any moderate path**: all that is used of the algorithm is what it hands over
(`Compose.HandOff`): the words `nm` come from inside the table and the answer is a two-sided estimate of every true value
(`Proof.Bell.TrueValue`) of them. `htvLit`, `htvM`: the value of all the digits and of the digits `parse_mantissa` keeps
are such true values. -/
theorem slowDomain_tv {F : FTy} (hF : IsLemireFloat F) {p eb : Nat} (lay : Layout F p eb) (c : Cfg)
    (hr : c.mantissaRadix = 10) (hb : c.exponentBase = 10) (n : Number) (hs : PlainSlices c n)
    (hne : sigBytes n.integer n.fraction ≠ []) (hw64 : n.mantissa < 2 ^ 64)
    (hkey : ∀ T : Nat, 10 ^ T ≤ n.mantissa → n.mantissa < 10 ^ (T + 1) →
      n.exponent + T + 1 - ((sigBytes n.integer n.fraction).length : Int) =
        n.explicitExp - ((n.fraction.getD []).length : Int))
    (d : Nat) (hd : (Slow.envOf c.feats).S.maxDigits F.fmt 10 = some d)
    (M cnt : Nat) (hmo : mantissaOf 10 d (sigBytes n.integer n.fraction) = (M, cnt))
    (hMlt : M < 10 ^ cnt) (hcnt : cnt ≤ 770) (many : Bool) {fp : ExtendedFloat80}
    (H : HandOff F p ⟨n.mantissa, n.exponent, n.isNegative, many⟩ fp)
    (htvLit : TrueValue 10 ⟨n.mantissa, n.exponent, n.isNegative, many⟩ (litFrac 10 10 (numberLit c n)).1
      (litFrac 10 10 (numberLit c n)).2)
    (htvM : ∀ T : Nat, 10 ^ T ≤ n.mantissa → n.mantissa < 10 ^ (T + 1) → n.exponent + T + 1 - (cnt : Int) < 0 →
      TrueValue 10 ⟨n.mantissa, n.exponent, n.isNegative, many⟩ M (10 ^ (-(n.exponent + T + 1 - (cnt : Int))).toNat)) :
    SlowDomain c F p n { fp with exp := fp.exp - invalidFp } d ∧
    Bracket F fp (litFrac 10 10 (numberLit c n)).1 (litFrac 10 10 (numberLit c n)).2 := by
  have hq1 : -350 ≤ n.exponent := H.expLo
  have hq2 : n.exponent ≤ 309 := H.expHi
  obtain ⟨cl, ch, _, hcl62, hch, _, hest⟩ := H.est
  obtain ⟨T, t1, t2, t3⟩ := scientificExponent_spec (radix := 10) (by decide) (by decide)
    (Nat.pos_of_ne_zero H.nonzero) hw64 (e := n.exponent) (by omega) (by omega)
  have hT19 : T ≤ 19 := by
    have : 10 ^ T < 10 ^ 20 := Nat.lt_of_le_of_lt t1 (Nat.lt_trans hw64 pow10_20)
    have := (Nat.pow_lt_pow_iff_right (by decide : 1 < 10)).mp this
    omega
  have hsci : sciOf c n = n.exponent + T := by unfold sciOf; rw [hr, t3]
  have hlitpos : 0 < (litFrac 10 10 (numberLit c n)).2 := litFrac_den_pos (by decide) (by decide) _
  exact ⟨slowDomain_of_est hF lay c hr hb n hs hne (n.exponent + T) hsci (by omega) (by omega)
      (hkey T t1 t2) d hd M cnt hmo hMlt hcnt _ H.exp cl ch hcl62 hch
      (fun hneg => hest _ _ (Nat.pow_pos (by decide)) (htvM T t1 t2 hneg)),
    H.bracket lay hlitpos htvLit⟩

/-- **untruncated `Number`s**: exact words, plain digit slices, at most 19 significant digits. The digit-level facts
(`sci_key`, what `parse_mantissa` keeps, the value of `S / 10^j`) for `slowDomain_tv`, once for both moderate paths. -/
theorem slowDomain_exact_tv {F : FTy} (hF : IsLemireFloat F) {p eb : Nat} (lay : Layout F p eb) (c : Cfg)
    (hr : c.mantissaRadix = 10) (hb : c.exponentBase = 10) (n : Number)
    (hx : NumberExactAt c n) (hs : PlainSlices c n) (hfew : (sigBytes n.integer n.fraction).length ≤ 19)
    {fp : ExtendedFloat80} (H : HandOff F p ⟨n.mantissa, n.exponent, n.isNegative, false⟩ fp) :
    ∃ d, SlowDomain c F p n { fp with exp := fp.exp - invalidFp } d ∧
      Bracket F fp (litFrac 10 10 (numberLit c n)).1 (litFrac 10 10 (numberLit c n)).2 := by
  have hw0 : n.mantissa ≠ 0 := H.nonzero
  obtain ⟨hw, hq, hre⟩ := hx
  obtain ⟨d, hd, hd19⟩ := maxDigits_decimal c.feats hF
  have hvs : ValidDigits 10 (sigBytes n.integer n.fraction) := by
    have := valid_sigBytes hs.validInt hs.validFrac
    rwa [hr] at this
  have hbs := sigBytes_lt hs
  have hV := C01Number.litFrac_plain 10 10 c hr n hs
  rw [hr, hb, powFrac_eq, hV] at hre
  unfold RatEq at hre
  simp only at hre
  have hm0 : 0 < n.mantissa := Nat.pos_of_ne_zero hw0
  have hS0 : ofDigits 10 (dv 10 (sigBytes n.integer n.fraction)) ≠ 0 := by
    intro h0
    rw [h0, Nat.zero_mul, Nat.zero_mul] at hre
    have : 0 < n.mantissa * 10 ^ n.exponent.toNat *
        (10 ^ (n.fraction.getD []).length * 10 ^ (-n.explicitExp).toNat) :=
      Nat.mul_pos (Nat.mul_pos hm0 (Nat.pow_pos (by decide)))
        (Nat.mul_pos (Nat.pow_pos (by decide)) (Nat.pow_pos (by decide)))
    omega
  have hne : sigBytes n.integer n.fraction ≠ [] := by
    intro h0; rw [h0] at hS0; exact hS0 rfl
  obtain ⟨sb1, sb2⟩ := sig_value_bounds (radix := 10) (by decide) (integer := n.integer) (fraction := n.fraction)
    hne hvs hbs
  have hlen : 1 ≤ (sigBytes n.integer n.fraction).length := List.length_pos_iff.mpr hne
  have hmant : mantissaOf 10 d (sigBytes n.integer n.fraction) =
      (ofDigits 10 (dv 10 (sigBytes n.integer n.fraction)), (sigBytes n.integer n.fraction).length) := by
    unfold mantissaOf; rw [if_pos (by omega)]
  generalize hsig : sigBytes n.integer n.fraction = sig at *
  generalize hS : ofDigits 10 (dv 10 sig) = S at *
  generalize hfle : (n.fraction.getD []).length = fl at *
  have hkey : ∀ T : Nat, 10 ^ T ≤ n.mantissa → n.mantissa < 10 ^ (T + 1) →
      n.exponent + T + 1 - (sig.length : Int) = n.explicitExp - (fl : Int) := by
    intro T t1 t2
    exact sci_key (by decide) hre t1 t2 hlen sb1 sb2
  refine ⟨d, ?_⟩
  apply slowDomain_tv hF lay c hr hb n hs (by rw [hsig]; exact hne) hw
    (by rw [hsig, hfle]; exact hkey) d hd S sig.length (by rw [hsig]; exact hmant) sb2 (by omega) false H ?_ ?_
  · rw [hV]
    apply trueValue_of_eq
    rw [powFrac_eq]
    exact hre
  · intro T t1 t2 hneg
    apply trueValue_of_eq
    rw [powFrac_eq]
    dsimp only
    have hk := hkey T t1 t2
    have e3 : n.explicitExp.toNat + (-(n.exponent + ↑T + 1 - (sig.length : Int))).toNat =
        fl + (-n.explicitExp).toNat := by omega
    have hpos : 0 < 10 ^ fl * 10 ^ (-n.explicitExp).toNat :=
      Nat.mul_pos (Nat.pow_pos (by decide)) (Nat.pow_pos (by decide))
    apply Nat.eq_of_mul_eq_mul_right hpos
    calc n.mantissa * 10 ^ n.exponent.toNat * 10 ^ (-(n.exponent + ↑T + 1 - (sig.length : Int))).toNat *
          (10 ^ fl * 10 ^ (-n.explicitExp).toNat)
        = n.mantissa * 10 ^ n.exponent.toNat * (10 ^ fl * 10 ^ (-n.explicitExp).toNat) *
            10 ^ (-(n.exponent + ↑T + 1 - (sig.length : Int))).toNat := by ring
      _ = S * 10 ^ n.explicitExp.toNat * 10 ^ (-n.exponent).toNat *
            10 ^ (-(n.exponent + ↑T + 1 - (sig.length : Int))).toNat := by rw [hre]
      _ = S * 10 ^ (-n.exponent).toNat *
            10 ^ (n.explicitExp.toNat + (-(n.exponent + ↑T + 1 - (sig.length : Int))).toNat) := by
          rw [Nat.pow_add]; ring
      _ = S * 10 ^ (-n.exponent).toNat * (10 ^ fl * 10 ^ (-n.explicitExp).toNat) := by
          rw [e3, Nat.pow_add]

end estimate

open LexVerif.Proof.Compose (HandOff) in
/-- **what Eisel–Lemire hands over**: an invalid-marked answer for words from inside its table that is a 4-unit estimate of
`w·10^q` is a `(1, 40)`-estimate of every true value of the words (`Proof.Bell.lemire_invalid_est`; a truncated word must be
large enough for the widening) -/
theorem lemire_handOff {F : FTy} (hF : IsLemireFloat F) {p eb : Nat} (lay : Layout F p eb) (nm : Num)
    (hw0 : nm.mantissa ≠ 0) (hq1 : -342 ≤ nm.exponent) (hq2 : nm.exponent ≤ 308) {fp : ExtendedFloat80}
    (hest : LexVerif.Proof.Lemire.EstOK F p fp (powFrac 10 nm.exponent nm.mantissa).1 (powFrac 10 nm.exponent nm.mantissa).2)
    (h36 : nm.manyDigits = true → fp.mant + 4 ≤ 36 * nm.mantissa) : HandOff F p nm fp := by
  have hp53 := (floatNums_of hF lay).p53
  have h11 : 2 ^ 11 ≤ 2 ^ (64 - p) := Nat.pow_le_pow_right (by decide) (by omega)
  have hx4 := hest.2.2.2.1
  exact ⟨hw0, by omega, by omega, by omega, 1, 40, by omega, by decide, by omega, by decide,
    LexVerif.Proof.Bell.lemire_invalid_est nm (Nat.pos_of_ne_zero hw0) hest h36⟩

/-- **`SlowDomain` for the untruncated decimal `Number`s**: an exact `Number` with plain digit slices and at most 19
significant digits, and an invalid-marked answer of `compute_float` for it: every condition of the slow-path model's
domain holds (for the un-biased estimate). -/
theorem slowDomain_of_exact {F : FTy} (hF : IsLemireFloat F) {p eb : Nat} (lay : Layout F p eb) (c : Cfg)
    (hr : c.mantissaRadix = 10) (hb : c.exponentBase = 10) (n : Number) (hx : NumberExactAt c n)
    (hs : PlainSlices c n) (hfew : (sigBytes n.integer n.fraction).length ≤ 19)
    (fp : ExtendedFloat80) (hcf : Lemire.computeFloat F n.exponent n.mantissa false = .ok fp) (hinv : fp.exp < 0) :
    ∃ d, SlowDomain c F p n { fp with exp := fp.exp - invalidFp } d := by
  obtain ⟨hw0, hq1, hq2⟩ := lemire_invalid_range hF hcf hinv
  obtain ⟨p', eb', lay', hest⟩ := C01.lemire_invalid_estOK F hF n.exponent n.mantissa fp hx.1 hcf hinv
  obtain ⟨hpp, hee⟩ : p = p' ∧ eb = eb' := by
    have := lay.fmt.symm.trans lay'.fmt
    injection this with a b
    exact ⟨a, b⟩
  subst hpp hee
  obtain ⟨d, D, _⟩ := slowDomain_exact_tv hF lay c hr hb n hx hs hfew
    (lemire_handOff hF lay ⟨n.mantissa, n.exponent, n.isNegative, false⟩ hw0 hq1 hq2 hest (fun h => absurd h (by simp)))
  exact ⟨d, D⟩

end LexVerif.Props.C01SlowDomain
