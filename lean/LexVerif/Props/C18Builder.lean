import LexVerif.Props.C18
/-!
# C18 (builder part) — `rebuild ∘ build_unchecked` and `build_unchecked ∘ rebuild`, exactly

Proves the two statements that are stated as `Prop`s in `Props/C18.lean`:
* `rebuild_build : rebuild_build_full` — `rebuild (build b) = normalize b` for builders within field ranges;
* `build_rebuild : build_rebuild_full` — which bits `build (rebuild f)` keeps, clears and fills.
-/
namespace LexVerif.Props.C18
open LexVerif.Model.FormatError LexVerif.Proof.Bits

theorem mem_sep_iff (fl : Flag) : fl ∈ Flag.all.drop 18 ↔ 32 ≤ pos fl := by cases fl <;> decide

theorem flagWord_lt (b : Builder) : b.flagWord < 2 ^ 45 := by
  apply Nat.lt_pow_two_of_testBit
  intro i hi
  rw [testBit_flagWord, List.any_eq_false]
  intro x _ hx
  simp only [Bool.and_eq_true, decide_eq_true_eq] at hx
  have := pos_lt x; omega

/-- some digit-separator flag is set: a bit of the flag word among the positions 32..44 (`mem_sep_iff`) -/
theorem sepCond (b : Builder) :
    (b.flagWord &&& G.DIGIT_SEPARATOR_FLAG_MASK != 0) = (Flag.all.drop 18).any b.flags := by
  have m : ∀ i, G.DIGIT_SEPARATOR_FLAG_MASK.testBit i = decide (32 ≤ i ∧ i < 45) := by
    intro i
    rw [show G.DIGIT_SEPARATOR_FLAG_MASK = (2 ^ 13 - 1) <<< 32 by decide, Nat.testBit_shiftLeft, Nat.testBit_two_pow_sub_one]
    by_cases h : 32 ≤ i <;> simp [h]; omega
  rw [Bool.eq_iff_iff, bne_iff_ne, List.any_eq_true]
  constructor
  · intro h
    obtain ⟨i, hi⟩ := Nat.exists_testBit_of_ne_zero h
    rw [Nat.testBit_and, m, testBit_flagWord, Bool.and_eq_true, List.any_eq_true, decide_eq_true_eq] at hi
    obtain ⟨⟨fl, _, hfl⟩, h32, _⟩ := hi
    simp only [Bool.and_eq_true, decide_eq_true_eq] at hfl
    exact ⟨fl, (mem_sep_iff fl).mpr (by omega), hfl.1⟩
  · rintro ⟨fl, hm, hf⟩ h0
    have := congrArg (·.testBit (pos fl)) h0
    simp [Nat.testBit_and, m, testBit_flagWord_pos, hf, (mem_sep_iff fl).mp hm, pos_lt fl] at this

/-- every byte is shifted past bit 63 -/
theorem testBit_build (b : Builder) (i : Nat) (hi : i < 64) : b.build.testBit i = b.flagWord.testBit i := by
  have hs : ∀ x s : Nat, 64 ≤ s → (x <<< s).testBit i = false := by
    intro x s hs; rw [Nat.testBit_shiftLeft]; simp; omega
  unfold Builder.build
  simp only [Nat.testBit_or, hs _ _ (show 64 ≤ G.BASE_PREFIX_SHIFT by decide), hs _ _ (show 64 ≤ G.BASE_SUFFIX_SHIFT by decide),
    hs _ _ (show 64 ≤ G.MANTISSA_RADIX_SHIFT by decide), hs _ _ (show 64 ≤ G.EXPONENT_BASE_SHIFT by decide),
    hs _ _ (show 64 ≤ G.EXPONENT_RADIX_SHIFT by decide), Bool.or_false]
  split
  · rw [Nat.testBit_or, hs _ _ (show 64 ≤ G.DIGIT_SEPARATOR_SHIFT by decide), Bool.or_false]
  · rfl

theorem hasFlag_build (b : Builder) (fl : Flag) : hasFlag b.build fl.mask = b.flags fl := by
  rw [hasFlag_testBit, testBit_build _ _ (by have := pos_lt fl; omega), testBit_flagWord_pos]

theorem build_eq (b : Builder) (hr : b.InRange) :
    b.build = b.flagWord + (if (Flag.all.drop 18).any b.flags = true then b.digitSeparator else 0) * 2 ^ 64 +
      b.basePrefix * 2 ^ 88 + b.baseSuffix * 2 ^ 96 + b.mantissaRadix * 2 ^ 104 + b.exponentBase * 2 ^ 112 +
      b.exponentRadix * 2 ^ 120 := by
  obtain ⟨r1, r2, r3, r4, r5, r6⟩ := hr
  have hw := flagWord_lt b
  unfold Builder.build
  simp only [sepCond]
  show (((((if (Flag.all.drop 18).any b.flags = true then b.flagWord ||| b.digitSeparator <<< 64 else b.flagWord) |||
    b.basePrefix <<< 88) ||| b.baseSuffix <<< 96) ||| b.mantissaRadix <<< 104) ||| b.exponentBase <<< 112) |||
    b.exponentRadix <<< 120 = _
  have e0 : (if (Flag.all.drop 18).any b.flags = true then b.flagWord ||| b.digitSeparator <<< 64 else b.flagWord) =
      b.flagWord + (if (Flag.all.drop 18).any b.flags = true then b.digitSeparator else 0) * 2 ^ 64 := by
    split
    · exact or_shiftLeft _ _ _ (by omega)
    · simp
  rw [e0]
  have hs : (if (Flag.all.drop 18).any b.flags = true then b.digitSeparator else 0) < 256 := by split <;> omega
  generalize (if (Flag.all.drop 18).any b.flags = true then b.digitSeparator else 0) = s at *
  rw [or_shiftLeft _ _ 88 (by omega), or_shiftLeft _ _ 96 (by omega), or_shiftLeft _ _ 104 (by omega),
    or_shiftLeft _ _ 112 (by omega), or_shiftLeft _ _ 120 (by omega)]

/-- `bytes_unpack` with the `Model.Format` accessors unfolded: they are these quotients by definition, and the
proofs below rewrite with that form -/
theorem bytes_arith (f : Nat) :
    digitSeparator f = f / 2 ^ 64 % 256 ∧ basePrefix f = f / 2 ^ 88 % 256 ∧ baseSuffix f = f / 2 ^ 96 % 256 ∧
    mantissaRadix f = f / 2 ^ 104 % 256 ∧
    exponentBase f = (if f / 2 ^ 112 % 256 = 0 then f / 2 ^ 104 % 256 else f / 2 ^ 112 % 256) ∧
    exponentRadix f = (if f / 2 ^ 120 % 256 = 0 then f / 2 ^ 104 % 256 else f / 2 ^ 120 % 256) :=
  bytes_unpack f

theorem sum_fields (f w s p q m e r : Nat) (hw : w < 2 ^ 45) (hs : s < 256) (hp : p < 256) (hq : q < 256)
    (hm : m < 256) (he : e < 256) (hr : r < 256)
    (hf : f = w + s * 2 ^ 64 + p * 2 ^ 88 + q * 2 ^ 96 + m * 2 ^ 104 + e * 2 ^ 112 + r * 2 ^ 120) :
    f % 2 ^ 64 = w ∧ f / 2 ^ 64 % 256 = s ∧ f / 2 ^ 88 % 256 = p ∧ f / 2 ^ 96 % 256 = q ∧
    f / 2 ^ 104 % 256 = m ∧ f / 2 ^ 112 % 256 = e ∧ f / 2 ^ 120 % 256 = r ∧ f / 2 ^ 72 % 2 ^ 16 = 0 ∧
    f / 2 ^ 120 = r ∧ f / 2 ^ 88 % 2 ^ 24 = p + q * 2 ^ 8 + m * 2 ^ 16 := by
  subst hf
  refine ⟨?_, ?_, ?_, ?_, ?_, ?_, ?_, ?_, ?_, ?_⟩ <;> omega

/-- **(c) `rebuild ∘ build_unchecked`** -/
theorem rebuild_build : rebuild_build_full := by
  intro b hr
  have hb := build_eq b hr
  obtain ⟨r1, r2, r3, r4, r5, r6⟩ := hr
  have hs : (if (Flag.all.drop 18).any b.flags = true then b.digitSeparator else 0) < 256 := by split <;> omega
  obtain ⟨-, s1, s2, s3, s4, s5, s6, -, -, -⟩ := sum_fields _ _ _ _ _ _ _ _ (flagWord_lt b) hs r2 r3 r4 r5 r6 hb
  obtain ⟨a1, a2, a3, a4, a5, a6⟩ := bytes_arith b.build
  rw [s4, s5] at a5
  rw [s4, s6] at a6
  simp only [rebuild, normalize, Builder.mk.injEq]
  refine ⟨?_, ?_, ?_, ?_, ?_, ?_, ?_⟩
  · rw [a1, s1]
  · rw [a2, s2]
  · rw [a3, s3]
  · rw [a4, s4]; exact Nat.mod_eq_of_lt r4
  · rw [a5]; split
    · exact Nat.mod_eq_of_lt r4
    · exact Nat.mod_eq_of_lt r5
  · rw [a6]; split
    · exact Nat.mod_eq_of_lt r4
    · exact Nat.mod_eq_of_lt r6
  · funext fl; exact hasFlag_build b fl

theorem flagWord_rebuild (f : Nat) : (rebuild f).flagWord = f % 2 ^ 18 + (f / 2 ^ 32 % 2 ^ 13) * 2 ^ 32 := by
  rw [← and_flagMask]
  exact ((and_flagMask_eq_iff f _).mpr fun fl => (hasFlag_testBit f fl).symm).symm

theorem rebuild_inRange (f : Nat) : (rebuild f).InRange := by
  unfold Builder.InRange rebuild
  obtain ⟨a1, a2, a3, -, -, -⟩ := bytes_arith f
  simp only [a1, a2, a3]
  refine ⟨?_, ?_, ?_, ?_, ?_, ?_⟩ <;> omega

theorem mod_two_pow_add (x s n t : Nat) (h : t = s + n) : x % 2 ^ t = x % 2 ^ s + x / 2 ^ s % 2 ^ n * 2 ^ s := by
  rw [h, Nat.pow_add, Nat.mod_mul, Nat.mul_comm]

/-- the low-word goal of `build_rebuild` once `f % 2 ^ 64` is split into its four fields `a b c d`, of which the
flag word keeps `a` and `c` -/
theorem add_add_add_sub_sub (a b c d : Nat) : a + c = a + b + c + d - b - d := by omega

/-- **(c) `build_unchecked ∘ rebuild`** -/
theorem build_rebuild : build_rebuild_full := by
  intro f hf
  have hr := rebuild_inRange f
  have hb := build_eq (rebuild f) hr
  have hW := flagWord_rebuild f
  have hc := sepCond (rebuild f)
  have m : G.DIGIT_SEPARATOR_FLAG_MASK = (2 ^ 13 - 1) <<< 32 := by decide
  rw [m, and_shifted_mask, hW] at hc
  have ec : (f % 2 ^ 18 + f / 2 ^ 32 % 2 ^ 13 * 2 ^ 32) / 2 ^ 32 % 2 ^ 13 = f / 2 ^ 32 % 2 ^ 13 := by omega
  rw [ec] at hc
  have hs : (if (Flag.all.drop 18).any (rebuild f).flags = true then (rebuild f).digitSeparator else 0) < 256 := by
    have := hr.1; split <;> omega
  obtain ⟨hlow, s1, -, -, -, s5, -, s72, s120, s88⟩ :=
    sum_fields _ _ _ _ _ _ _ _ (flagWord_lt _) hs hr.2.1 hr.2.2.1 hr.2.2.2.1 hr.2.2.2.2.1 hr.2.2.2.2.2 hb
  show _ ∧ _ ∧ _ ∧ _ ∧ _ ∧ _
  generalize (rebuild f).build = g at *
  -- `rebuild_bytes`, with the accessors of `Model.Format` read as quotients
  have d : (rebuild f).digitSeparator = f / 2 ^ 64 % 256 ∧ (rebuild f).basePrefix = f / 2 ^ 88 % 256 ∧
      (rebuild f).baseSuffix = f / 2 ^ 96 % 256 ∧ (rebuild f).mantissaRadix = f / 2 ^ 104 % 256 ∧
      (rebuild f).exponentBase = (if f / 2 ^ 112 % 256 = 0 then f / 2 ^ 104 % 256 else f / 2 ^ 112 % 256) ∧
      (rebuild f).exponentRadix = (if f / 2 ^ 120 % 256 = 0 then f / 2 ^ 104 % 256 else f / 2 ^ 120 % 256) :=
    rebuild_bytes f
  obtain ⟨d1, d2, d3, d4, d5, d6⟩ := d
  rw [d1] at s1; rw [d2, d3, d4] at s88; rw [d5] at s5; rw [d6] at s120
  rw [hW] at hlow
  clear hb hs hr d1 d2 d3 d4 d5 d6 m
  refine ⟨?_, ?_, s72, ?_, ?_, ?_⟩
  · -- the low word of `f` is its four fields 0..17, 18..31, 32..44, 45..63, of which the flag word keeps two
    have h64 : f % 2 ^ 64 = f % 2 ^ 45 + f / 2 ^ 45 % 2 ^ 19 * 2 ^ 45 := mod_two_pow_add f 45 19 64 rfl
    have h45 : f % 2 ^ 45 = f % 2 ^ 32 + f / 2 ^ 32 % 2 ^ 13 * 2 ^ 32 := mod_two_pow_add f 32 13 45 rfl
    have h32 : f % 2 ^ 32 = f % 2 ^ 18 + f / 2 ^ 18 % 2 ^ 14 * 2 ^ 18 := mod_two_pow_add f 18 14 32 rfl
    rw [hlow, h64, h45, h32]
    exact add_add_add_sub_sub _ _ _ _
  · rw [s1]
    clear s1 s5 s72 s120 s88 hlow
    by_cases h0 : f / 2 ^ 32 % 2 ^ 13 = 0
    · have : (Flag.all.drop 18).any (rebuild f).flags = false := by
        rw [← hc, h0]; rfl
      simp [this, h0]
    · have : (Flag.all.drop 18).any (rebuild f).flags = true := by
        rw [← hc]
        have : f / 2 ^ 32 % 2 ^ 13 * 2 ^ 32 ≠ 0 := Nat.mul_ne_zero h0 (by decide)
        simp only [bne_iff_ne, ne_eq, this, not_false_eq_true]
      simp [this, h0]
  · rw [s88]; clear s1 s5 s72 s120 s88 hlow hc hW
    have e1 : f / 2 ^ 96 = f / 2 ^ 88 / 2 ^ 8 := by rw [Nat.div_div_eq_div_mul, ← Nat.pow_add]
    have e2 : f / 2 ^ 104 = f / 2 ^ 88 / 2 ^ 16 := by rw [Nat.div_div_eq_div_mul, ← Nat.pow_add]
    rw [e1, e2]
    generalize f / 2 ^ 88 = x
    omega
  · exact s5
  · exact s120

end LexVerif.Props.C18
