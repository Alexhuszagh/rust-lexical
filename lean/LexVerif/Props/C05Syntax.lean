import LexVerif.Props.C05Final
import LexVerif.Props.C05Number
import LexVerif.Proof.NumberTrueValue
/-!
# Props.C05Syntax — the syntax facts of `C05_radix_main`, discharged

`Props.C05Final.C05_radix_main` has two residual hypotheses per `Number`: `SyntaxFacts` (the syntax layer) and, for generic
radices, `SlowFacts`. Here `SyntaxFacts` is **proved** from `Props.C01Number.reads_of_syntax` (the words read the digit slices):

* generic radices (exponent base = radix) — `syntaxFacts_generic`, giving `C05_generic_main` (only `SlowFacts` is left, and a 55-bit mantissa for
  radix 31 with `f64`);
* power-of-two radices, exponent base = radix **and the five mixed-base pairs** (`BasePair`; `Reads` carries the
  scale factor `k = log radix / log base` of the implicit exponent) — `syntaxFacts_pow2`, giving `C05_pow2_main`,
  **unconditional** for inputs shorter than `2^54` bytes: the exponent word is inside `ExpWide` (`±2^59`) by the syntax
  layer, and `binary` is right there (`Proof.BinaryWide`: the saturating `calculate_power2` of /repo commit 220c4cc);
* `C05_radix_full_partial`: both, with the remaining hypotheses listed.
-/
namespace LexVerif.Props.C05Syntax
open LexVerif LexVerif.Spec LexVerif.Model LexVerif.Model.ParseFloatAlgo
open LexVerif.Proof.Slow LexVerif.Proof.Pipeline LexVerif.Proof.RoundNE LexVerif.Proof.Bell
open LexVerif.Props.C01Main LexVerif.Props.C01SlowMain LexVerif.Props.C01SlowDomain LexVerif.Props.C05 LexVerif.Props.C05Final
open LexVerif.Props.C01 (IsLemireFloat IsI64)

/-- the (mantissa radix, exponent base) pairs the code supports, with `k = log(radix)/log(base)`: equal bases, and the
five mixed pairs 4/2, 8/2, 16/2, 32/2, 16/4 -/
inductive BasePair : Nat → Nat → Nat → Prop
  | same (r : Nat) : BasePair r r 1
  | r4b2 : BasePair 4 2 2
  | r8b2 : BasePair 8 2 3
  | r16b2 : BasePair 16 2 4
  | r32b2 : BasePair 32 2 5
  | r16b4 : BasePair 16 4 2

theorem BasePair.pow {r b k : Nat} (h : BasePair r b k) : r = b ^ k := by
  cases h <;> simp

theorem BasePair.k5 {r b k : Nat} (h : BasePair r b k) : k ≤ 5 := by
  cases h <;> omega

theorem BasePair.k1 {r b k : Nat} (h : BasePair r b k) : 1 ≤ k := by
  cases h <;> omega

theorem BasePair.isPow2 {r b k : Nat} (h : BasePair r b k) (hr : IsPow2 r) : IsPow2 b := by
  cases h
  · exact hr
  all_goals (unfold IsPow2; decide)

theorem BasePair.scale (c : Cfg) {k : Nat} (h : BasePair c.mantissaRadix c.exponentBase k) (x : Int) :
    LexVerif.Proof.Sep.scaleVal c x = x * k := by
  generalize hr : c.mantissaRadix = r at h
  generalize hb : c.exponentBase = b at h
  unfold LexVerif.Proof.Sep.scaleVal
  cases h
  · rw [if_pos (by rw [hr, hb])]; simp
  · rw [if_neg (by rw [hr, hb]; decide), hr, hb]; simp [log2Radix]
  · rw [if_neg (by rw [hr, hb]; decide), hr, hb]; simp [log2Radix]
  · rw [if_neg (by rw [hr, hb]; decide), hr, hb]; simp [log2Radix]
  · rw [if_neg (by rw [hr, hb]; decide), hr, hb]; simp [log2Radix]
  · rw [if_neg (by rw [hr, hb]; decide), hr, hb]
    simp only [log2Radix]
    have : x * ((4 : Nat) : Int) = x * 2 * 2 := by push_cast; ring
    simp
    have e : x * 4 = x * 2 * 2 := by ring
    rw [e, Int.mul_tdiv_cancel _ (by decide)]

theorem step_facts : ∀ r, r < 37 → 2 ≤ r →
    r ^ u64StepTable.getD (r - 2) 1 ≤ 2 ^ 64 ∧ 1 ≤ u64StepTable.getD (r - 2) 1 := by decide +kernel

theorem step_generic55 : ∀ x ∈ bellRadicesRadix, x ≠ 31 → 2 ^ 55 ≤ x ^ (u64StepTable.getD (x - 2) 1 - 1) := by
  decide +kernel

theorem step_generic54 : ∀ x ∈ bellRadicesRadix, 2 ^ 54 ≤ x ^ (u64StepTable.getD (x - 2) 1 - 1) := by
  decide +kernel

theorem u64Step_radix (feats : Features) (hr : feats.radix = true) {r : Nat} (h2 : 2 ≤ r) (h36 : r ≤ 36) :
    u64Step feats r = u64StepTable.getD (r - 2) 1 := by
  unfold u64Step
  rw [hr]
  simp [h2, h36]

theorem u64Step_pow2_eq (feats : Features) (hp : feats.powerOfTwo = true) {r : Nat} (hr : IsPow2 r) :
    u64Step feats r = (smallSetOf feats).u64Step r := by
  unfold u64Step smallSetOf
  rw [hp]
  rcases hr with h | h | h | h | h <;> subst h <;> cases feats.radix <;> cases feats.compact <;> rfl

theorem generic_not_isPow2 {r : Nat} (h : r ∈ bellRadicesRadix) : ¬ IsPow2 r := by
  have hall : ∀ x ∈ bellRadicesRadix, ¬ (x = 2 ∨ x = 4 ∨ x = 8 ∨ x = 16 ∨ x = 32) := by decide
  exact hall r h

theorem dropWhile_replicate_zero (z : Nat) (l : List Nat) :
    (List.replicate z 0 ++ l).dropWhile (· == 0) = l.dropWhile (· == 0) := by
  induction z with
  | zero => rfl
  | succ k ih => rw [List.replicate_succ, List.cons_append, List.dropWhile_cons]; simpa using ih

theorem sigDigits_eq (r : Nat) (i : List Nat) (f : Option (List Nat)) (h256 : ∀ x ∈ sigBytes i f, x < 256) :
    sigDigits r i f = dv r (sigBytes i f) := by
  obtain ⟨z, hz⟩ := sig_decomp i f
  have e1 : sigDigits r i f = (dv r (i ++ f.getD [])).dropWhile (· == 0) := rfl
  have e2 : dv r (List.replicate z 48 ++ sigBytes i f) = List.replicate z 0 ++ dv r (sigBytes i f) := by
    rw [dv_append, dv_zeros]
  rw [e1, hz, e2, dropWhile_replicate_zero]
  cases hsb : sigBytes i f with
  | nil => rfl
  | cons c cs =>
    have hc48 := LexVerif.Proof.Slow.sigBytes_head hsb
    have hc := h256 c (by rw [hsb]; exact List.mem_cons_self)
    have hne : Binary.digitVal c r ≠ 0 := digitVal_ne_zero hc hc48
    have e3 : dv r (c :: cs) = Binary.digitVal c r :: dv r cs := rfl
    rw [e3, List.dropWhile_cons]
    simp [hne]

theorem dv_take (r : Nat) (bs : List Nat) (k : Nat) : (dv r bs).take k = dv r (bs.take k) := by
  unfold dv; rw [List.map_take]

/-- **`SyntaxFacts` for a generic radix** (exponent base = radix, separator-free format class, valid punctuation, input of
bytes shorter than `2^60`). Every `u64_step`-digit mantissa has 54 bits; 55 for every radix but 31 (`31^11 ≈ 2^54.5`). -/
theorem syntaxFacts_generic (feats : Features) (fmt : Format) (G : GenericClass ⟨feats, fmt, false⟩)
    (hfeat : feats.radix = true → feats.powerOfTwo = true)
    (hclass : feats.format = false ∨ C12.SepPrefixFree fmt) (o : POpts)
    (hval : isValidOptionsPunctuation feats fmt o.exp o.dp = true) (isPartial : Bool) (s : List Nat) (fv : Bool)
    (h256 : ∀ x ∈ s, x < 256) (hlen : s.length < 2 ^ 60) (n : Number) (cnt : Nat)
    (hp : parseFloatSyntax ⟨feats, fmt, false⟩ o isPartial s fv = .ok (.number n cnt)) :
    SyntaxFacts ⟨feats, fmt, false⟩ n := by
  have hmem : fmt.mantissaRadix ∈ bellRadicesRadix := G.mem
  have hbase : fmt.exponentBase = fmt.mantissaRadix := G.base
  have hrad : feats.radix = true := G.radix
  obtain ⟨_, _, h2, h36⟩ := generic_not_pow2 hmem
  have hnp := generic_not_isPow2 hmem
  obtain ⟨hfit, hstp1⟩ := step_facts fmt.mantissaRadix (by omega) h2
  have hstep := u64Step_radix feats hrad h2 h36
  have hr8 : (⟨feats, fmt, false⟩ : Cfg).feats.powerOfTwo = false → (⟨feats, fmt, false⟩ : Cfg).mantissaRadix ≤ 10 := by
    intro h
    have : feats.powerOfTwo = true := hfeat hrad
    have h' : feats.powerOfTwo = false := h
    rw [this] at h'; cases h'
  have hdp := C05Number.dp_not_digit_r feats fmt o hval
  have hsc1 : ∀ x : Int, LexVerif.Proof.Sep.scaleVal ⟨feats, fmt, false⟩ x = x * (1 : Nat) := by
    intro x; rw [C01Number.scaleVal_same_base ⟨feats, fmt, false⟩ hbase.symm]; simp
  have R := C01Number.reads_of_syntax fmt.mantissaRadix _ h2 hstp1 hfit ⟨feats, fmt, false⟩ hstep hr8 rfl hclass rfl
    fmt.mantissaRadix 1 (by decide) (by simp) hbase hsc1 o hdp isPartial s fv h256 hlen n cnt hp
  refine ⟨fun hmany => ⟨(R.exact hmany).1, fun hpw => absurd hpw hnp⟩, fun _ hpw => absurd hpw hnp, fun hmany _ => ?_⟩
  have hw1 := (R.trunc hmany).2.2.2.1
  exact ⟨R.w64 hfit, Nat.le_trans (step_generic54 _ hmem) hw1, fun h => Nat.le_trans (step_generic55 _ hmem h) hw1,
    C01Trunc.reads_tv R (by omega : 0 < fmt.mantissaRadix) rfl hbase⟩

open LexVerif.Proof.SlowBinary in
/-- **`SyntaxFacts` for a power-of-two radix with any supported exponent base** (`BasePair`: the radix itself, or the mixed
pairs 4/2, 8/2, 16/2, 32/2, 16/4), inputs shorter than `2^54` bytes: the exponent word is then inside `ExpWide` -/
theorem syntaxFacts_pow2 (feats : Features) (fmt : Format) (hpf : feats.powerOfTwo = true)
    (hpw : IsPow2 fmt.mantissaRadix) {k : Nat} (hpair : BasePair fmt.mantissaRadix fmt.exponentBase k)
    (hclass : feats.format = false ∨ C12.SepPrefixFree fmt) (o : POpts)
    (hval : isValidOptionsPunctuation feats fmt o.exp o.dp = true) (isPartial : Bool) (s : List Nat) (fv : Bool)
    (h256 : ∀ x ∈ s, x < 256) (hlen54 : s.length < 2 ^ 54) (n : Number) (cnt : Nat)
    (hp : parseFloatSyntax ⟨feats, fmt, false⟩ o isPartial s fv = .ok (.number n cnt)) :
    SyntaxFacts ⟨feats, fmt, false⟩ n := by
  have hlen : s.length < 2 ^ 60 := Nat.lt_of_lt_of_le hlen54 (Nat.pow_le_pow_right (by decide) (by decide))
  have h54 : (2 : Nat) ^ 54 = 18014398509481984 := by decide
  have h59 : (2 : Int) ^ 59 = 576460752303423488 := by decide
  have h40 : (2 : Int) ^ 40 = 1099511627776 := by decide
  have hkc : k = 1 ∨ k = 2 ∨ k = 3 ∨ k = 4 ∨ k = 5 := by
    have := hpair.k1; have := hpair.k5; omega
  have h2 : 2 ≤ fmt.mantissaRadix := by rcases hpw with h | h | h | h | h <;> rw [h] <;> omega
  obtain ⟨hfit, _, _, hstp1⟩ := u64Step_pow2 feats hpf hpw
  have hstep := u64Step_pow2_eq feats hpf hpw
  have hr8 : (⟨feats, fmt, false⟩ : Cfg).feats.powerOfTwo = false → (⟨feats, fmt, false⟩ : Cfg).mantissaRadix ≤ 10 := by
    intro h
    have h' : feats.powerOfTwo = false := h
    rw [hpf] at h'; cases h'
  have hdp := C05Number.dp_not_digit_r feats fmt o hval
  have hsc : ∀ x : Int, LexVerif.Proof.Sep.scaleVal ⟨feats, fmt, false⟩ x = x * k :=
    BasePair.scale ⟨feats, fmt, false⟩ hpair
  have hrk := hpair.pow
  have R := C01Number.reads_of_syntax fmt.mantissaRadix _ h2 hstp1 hfit ⟨feats, fmt, false⟩ hstep hr8 rfl hclass rfl
    fmt.exponentBase k hpair.k5 hrk rfl hsc o hdp isPartial s fv h256 hlen n cnt hp
  refine ⟨fun hmany => ?_, fun hmany _ => ?_, fun _ G => absurd hpw (generic_not_isPow2 G.mem)⟩
  · obtain ⟨hx, _, _, hbd⟩ := R.exact hmany
    exact ⟨hx, fun _ => by unfold LexVerif.Proof.BinaryWide.ExpWide; omega⟩
  · obtain ⟨hs, hN, hw, hw1, hwlt, hq, hE1, hE2, hl1, hl2⟩ := R.trunc hmany
    have hbs : ∀ x ∈ sigBytes n.integer n.fraction, x < 256 := by
      intro x hx
      rcases mem_sigBytes hx with h | ⟨fr, hfr, h⟩
      · exact hs.bytesInt x h
      · exact hs.bytesFrac fr hfr x h
    -- `TruncPow2At` speaks of `SlowBinary.sigDigits` / `valOf`; `Reads` of `dv`, `sigBytes`, `ofDigits`: the same digits
    have hsd := sigDigits_eq fmt.mantissaRadix n.integer n.fraction hbs
    have hV := C01Number.litFrac_plain fmt.mantissaRadix fmt.exponentBase ⟨feats, fmt, false⟩ rfl n hs
    have hr' : (⟨feats, fmt, false⟩ : Cfg).mantissaRadix = fmt.mantissaRadix := rfl
    have hb' : (⟨feats, fmt, false⟩ : Cfg).exponentBase = fmt.exponentBase := rfl
    have hf' : (⟨feats, fmt, false⟩ : Cfg).feats = feats := rfl
    have hexp : LexVerif.Proof.BinaryWide.ExpWide n.exponent := by
      have hNle := C01Number.sigBytes_length_le n.integer n.fraction
      have hstp64 : (smallSetOf feats).u64Step fmt.mantissaRadix ≤ 64 := by
        have h1 : 2 ^ (smallSetOf feats).u64Step fmt.mantissaRadix ≤
            fmt.mantissaRadix ^ (smallSetOf feats).u64Step fmt.mantissaRadix := Nat.pow_le_pow_left h2 _
        exact (Nat.pow_le_pow_iff_right (by decide : 1 < 2)).mp (Nat.le_trans h1 hfit)
      unfold LexVerif.Proof.BinaryWide.ExpWide
      rw [hq]
      generalize (sigBytes n.integer n.fraction).length = N at *
      generalize (smallSetOf feats).u64Step fmt.mantissaRadix = stp at *
      generalize (n.fraction.getD []).length = fl at *
      rcases hkc with rfl | rfl | rfl | rfl | rfl <;> push_cast <;> constructor <;> omega
    constructor
    · exact hexp
    · intro x hx
      rw [hr']
      rcases List.mem_append.mp hx with h | h
      · exact ⟨hs.bytesInt x h, hs.validInt x h⟩
      · cases hfr : n.fraction with
        | none => rw [hfr] at h; simp at h
        | some fr =>
          rw [hfr] at h
          exact ⟨hs.bytesFrac fr hfr x h, hs.validFrac fr hfr x h⟩
    · rw [hr', hf', hsd, dv_length]; exact hN
    · rw [hr', hf', hsd, dv_take]
      exact hw
    · rw [hr', hb', hf', hsd, dv_length, hV]
      have e0 : valOf fmt.mantissaRadix 0 (dv fmt.mantissaRadix (sigBytes n.integer n.fraction)) =
          ofDigits fmt.mantissaRadix (dv fmt.mantissaRadix (sigBytes n.integer n.fraction)) := rfl
      rw [e0, powFrac_eq]
      unfold RatEq
      dsimp only
      generalize (smallSetOf feats).u64Step fmt.mantissaRadix = stp at *
      generalize ofDigits fmt.mantissaRadix (dv fmt.mantissaRadix (sigBytes n.integer n.fraction)) = S
      generalize (sigBytes n.integer n.fraction).length = N at *
      generalize (n.fraction.getD []).length = fl at *
      generalize fmt.exponentBase = b at *
      rw [hrk, ← Nat.pow_mul, ← Nat.pow_mul]
      have hq' : n.exponent = ((k * (N - stp) : Nat) : Int) - ((k * fl : Nat) : Int) + n.explicitExp := by
        rw [hq]; push_cast [Nat.cast_sub (Nat.le_of_lt hN)]; ring
      generalize k * (N - stp) = T1 at *
      generalize k * fl = T2 at *
      rw [Nat.mul_comm (b ^ (-n.exponent).toNat)]
      exact C01Number.pow_balance b (x := n.explicitExp) (y := n.exponent) (P := T1) (Q := T2) (by omega) S

/-- **`C05_generic_main`** — generic radices (the 29 radices with Bellerophon tables, `radix` builds, `compact` or not,
exponent base = radix), separator-free format classes of C12, `f32`/`f64`, complete and partial parser, inputs of bytes
shorter than `2^60`: the pipeline with the modelled slow path prints what the specification prints. The syntax layer is
discharged; what remains, per `Number` of the input: `hslow` (`SlowFacts`: what `digit_comp` / `byte_comp` make of a
bracketing invalid-marked estimate) and, for radix 31 with `f64` only, `h31` (a truncated mantissa of at least 55 bits;
`f32` needs 54, which every `u64_step`-digit mantissa has). -/
theorem C05_generic_main (feats : Features) (fmt : Format) (G : GenericClass ⟨feats, fmt, false⟩)
    (hfeat : feats.radix = true → feats.powerOfTwo = true)
    (hclass : feats.format = false ∨ C12.SepPrefixFree fmt)
    (o : POpts) {F : FTy} (hF : IsLemireFloat F) (isPartial : Bool) (s : List Nat)
    (h256 : ∀ x ∈ s, x < 256) (hlen : s.length < 2 ^ 60)
    (h31 : fmt.mantissaRadix = 31 → F = FTy.f64 → ∀ n cnt, parseFloatSyntax ⟨feats, fmt, false⟩ o isPartial s
      (formatError feats fmt).isNone = .ok (.number n cnt) → n.manyDigits = true → 2 ^ 55 ≤ n.mantissa)
    (hslow : ∀ n cnt, parseFloatSyntax ⟨feats, fmt, false⟩ o isPartial s (formatError feats fmt).isNone =
      .ok (.number n cnt) → SlowFacts slowModel ⟨feats, fmt, false⟩ F n) :
    parseFloatAlgoModel slowModel feats fmt o isPartial F s = parseFloatModel feats fmt o isPartial F.fmt s := by
  apply C01Final.parseFloatAlgoModel_eq_valid
  intro hval n cnt hp
  exact numberToFloat_radix slowModel hF ⟨feats, fmt, false⟩ (.generic G) n
    (syntaxFacts_generic feats fmt G hfeat hclass o hval isPartial s _ h256 hlen n cnt hp)
    (fun _ => hslow n cnt hp) (fun h hf => h31 h hf n cnt hp)

/-- **`C05_pow2_main`** — power-of-two radices (2, 4, 8, 16, 32) with every supported exponent base (`BasePair`: the radix
itself and the five mixed pairs 4/2, 8/2, 16/2, 32/2, 16/4 — hex floats with a binary exponent), every `power-of-two` build:
inputs of bytes shorter than `2^54`: **unconditional** — no slow-path hypothesis (`binary` / `slow_binary` are proved) and no
exponent hypothesis (`binary` with the saturating `calculate_power2` of /repo commit 220c4cc is right on `ExpWide`, which the
syntax layer guarantees for such inputs: the explicit exponent saturates below `2^40`). -/
theorem C05_pow2_main (feats : Features) (fmt : Format) (hpf : feats.powerOfTwo = true)
    (hpw : IsPow2 fmt.mantissaRadix) {k : Nat} (hpair : BasePair fmt.mantissaRadix fmt.exponentBase k)
    (hclass : feats.format = false ∨ C12.SepPrefixFree fmt)
    (o : POpts) {F : FTy} (hF : IsLemireFloat F) (isPartial : Bool) (s : List Nat)
    (h256 : ∀ x ∈ s, x < 256) (hlen : s.length < 2 ^ 54) :
    parseFloatAlgoModel slowModel feats fmt o isPartial F s = parseFloatModel feats fmt o isPartial F.fmt s := by
  apply C01Final.parseFloatAlgoModel_eq_valid
  intro hval n cnt hp
  have hb2 : IsPow2 (⟨feats, fmt, false⟩ : Cfg).exponentBase := hpair.isPow2 hpw
  exact numberToFloat_radix slowModel hF ⟨feats, fmt, false⟩ (.pow2 hpf hpw hb2) n
    (syntaxFacts_pow2 feats fmt hpf hpw hpair hclass o hval isPartial s _ h256 hlen n cnt hp)
    (fun G => absurd hpw (generic_not_isPow2 G.mem))
    (fun h => by
      have h' : fmt.mantissaRadix = 31 := h
      rw [h'] at hpw; unfold IsPow2 at hpw; omega)

/-- **`C05_radix_full_partial`** — what is proved of `C05_radix_full`, with the remaining hypotheses listed. For every
non-decimal radix class — power-of-two radices 2, 4, 8, 16, 32 of `power-of-two` builds with the exponent base equal to the
radix or one of the five mixed pairs (`BasePair`), and the 29 generic radices of `radix` builds (`compact` or not) with
exponent base = radix —, separator-free format classes of C12, `f32`/`f64`, complete and partial parser, inputs of bytes
shorter than `2^54`: `parseFloatAlgoModel slowModel = parseFloatModel`.

* power-of-two radices: **no remaining hypothesis**;
* generic radices: `hslow` — per `Number` of the input, `SlowFacts`: what `slow_radix` (`digit_comp` for even, `byte_comp`
  for odd radices) returns for the un-biased, invalid-marked Bellerophon estimate that brackets the value. Its content is
  proved on the models (`Props.C01Slow.slow_radix_correct_full_proved`, `Props.C05Bytes.slow_radix_bytes_correct`) under
  their domain conditions — `SlowDomain` (capacity of `BIGINT_LIMBS`, exponent range) resp. `FirstDigitFits` and no capacity
  failure of the 18-limb `Bigfloat` — which are not derived from the input here;
* radix 31, `f64`: `h31` — a truncated mantissa word of at least 55 bits (`31^11 ≈ 2^54.5`; the bracketing of an
  invalid-marked estimate is proved from 55 bits for `f64`, from 54 for `f32`). -/
theorem C05_radix_full_partial (feats : Features) (fmt : Format)
    (R : (feats.powerOfTwo = true ∧ IsPow2 fmt.mantissaRadix ∧ ∃ k, BasePair fmt.mantissaRadix fmt.exponentBase k) ∨
      GenericClass ⟨feats, fmt, false⟩)
    (hfeat : feats.radix = true → feats.powerOfTwo = true)
    (hclass : feats.format = false ∨ C12.SepPrefixFree fmt)
    (o : POpts) {F : FTy} (hF : IsLemireFloat F) (isPartial : Bool) (s : List Nat)
    (h256 : ∀ x ∈ s, x < 256) (hlen : s.length < 2 ^ 54)
    (hslow : GenericClass ⟨feats, fmt, false⟩ → ∀ n cnt, parseFloatSyntax ⟨feats, fmt, false⟩ o isPartial s
      (formatError feats fmt).isNone = .ok (.number n cnt) → SlowFacts slowModel ⟨feats, fmt, false⟩ F n)
    (h31 : fmt.mantissaRadix = 31 → F = FTy.f64 → ∀ n cnt, parseFloatSyntax ⟨feats, fmt, false⟩ o isPartial s
      (formatError feats fmt).isNone = .ok (.number n cnt) → n.manyDigits = true → 2 ^ 55 ≤ n.mantissa) :
    parseFloatAlgoModel slowModel feats fmt o isPartial F s = parseFloatModel feats fmt o isPartial F.fmt s := by
  rcases R with ⟨hpf, hpw, k, hpair⟩ | G
  · exact C05_pow2_main feats fmt hpf hpw hpair hclass o hF isPartial s h256 hlen
  · exact C05_generic_main feats fmt G hfeat hclass o hF isPartial s h256
      (Nat.lt_of_lt_of_le hlen (Nat.pow_le_pow_right (by decide) (by decide))) h31 (hslow G)

/-- non-vacuity: the hexadecimal format (exponent base 16) of a `power-of-two` build; the radix-3 format of a `radix` build -/
example (s : List Nat) (h256 : ∀ x ∈ s, x < 256) (hlen : s.length < 2 ^ 54) :
    parseFloatAlgoModel slowModel { powerOfTwo := true } ⟨0x0a10100000000000000000000000000c⟩ {} false FTy.f64 s =
      parseFloatModel { powerOfTwo := true } ⟨0x0a10100000000000000000000000000c⟩ {} false f64 s :=
  C05_pow2_main { powerOfTwo := true } ⟨0x0a10100000000000000000000000000c⟩ rfl
    (by unfold IsPow2; decide) (BasePair.same 16) (Or.inl rfl) {} (Or.inl rfl) false s h256 hlen

/-- non-vacuity for a mixed-base pair: hexadecimal digits with a binary exponent (hex floats) -/
example (s : List Nat) (h256 : ∀ x ∈ s, x < 256) (hlen : s.length < 2 ^ 54) :
    parseFloatAlgoModel slowModel { powerOfTwo := true } ⟨0x0a02100000000000000000000000000c⟩ {} false FTy.f64 s =
      parseFloatModel { powerOfTwo := true } ⟨0x0a02100000000000000000000000000c⟩ {} false f64 s :=
  C05_pow2_main { powerOfTwo := true } ⟨0x0a02100000000000000000000000000c⟩ rfl
    (by unfold IsPow2; decide) (k := 4)
    (by
      have h1 : (⟨0x0a02100000000000000000000000000c⟩ : Format).mantissaRadix = 16 := by decide
      have h2 : (⟨0x0a02100000000000000000000000000c⟩ : Format).exponentBase = 2 := by decide
      rw [h1, h2]; exact .r16b2)
    (Or.inl rfl) {} (Or.inl rfl) false s h256 hlen

example : GenericClass ⟨{ powerOfTwo := true, radix := true }, ⟨0x0303030000000000000000000000000c⟩, false⟩ :=
  ⟨rfl, by decide, by decide⟩

/-- the pipeline on 46-digit radix-3 literals around the half-way point `2^53 + 1` (truncated mantissa, Bellerophon cannot
decide, `byte_comp` does): just above rounds up, exactly half-way and just below round to even -/
example :
    parseFloatAlgoModel slowModel { powerOfTwo := true, radix := true } ⟨0x0303030000000000000000000000000c⟩ {} false FTy.f64
      (C01Slow.bytesOf "1121202011211211122211100012101120.000000000001") = "ok 4340000000000001 -" ∧
    parseFloatAlgoModel slowModel { powerOfTwo := true, radix := true } ⟨0x0303030000000000000000000000000c⟩ {} false FTy.f64
      (C01Slow.bytesOf "1121202011211211122211100012101120.000000000000") = "ok 4340000000000000 -" ∧
    parseFloatAlgoModel slowModel { powerOfTwo := true, radix := true } ⟨0x0303030000000000000000000000000c⟩ {} false FTy.f64
      (C01Slow.bytesOf "1121202011211211122211100012101112.222222222222") = "ok 4340000000000000 -" := by decide +kernel

end LexVerif.Props.C05Syntax
