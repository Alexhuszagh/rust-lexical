import LexVerif.Proof.WriteFloatRound
import LexVerif.Proof.WriteFloatDragon
import LexVerif.Proof.RoundTripShape
import LexVerif.Spec.StdFloat
/-!
# C14 — write options control digits and notation (property theorems, decimal writer)

Everything is stated on the list-level formatting model (`Model.FormatDecimal` / `Model.WriteFloat.writeDecimal`), which
`Proof.WriteFloatDragon.decimalB_lays` proves byte-equal to the buffer-faithful model of the Rust functions without its
`debug` panics, for every non-empty digit list (at most 32 digits in `compact` builds, the size of the temporary),
exponent and option set (`max_significant_digits` is a `NonZero`).
* `digits_rounded`: Round = numeric round-half-to-even of the digit list as a number; `digits_truncated`: Truncate =
  prefix; `digits_unchanged`: no maximum, or enough room ⇒ digits untouched; `digits_count`: between 1 and `max`.
* `layout_scientific`, `layout_negative`: the exact text (padding to `min`, trimming, punctuation bytes; a carry leaves
  the single digit 1 and moves the exponent / the decimal point by one) of the scientific and the `0.00…` notation.
* `notation_choice_*`, `notation_iff`: scientific ⇔ not forbidden ∧ (required ∨ outside the breaks); judged on the
  un-carried exponent by `algorithm.rs` and on the carried one by `compact.rs`.
* `trim_exact`, `trim_only_integral` (semantic: integral after rounding ⇔ trimmed), `trim_scientific`, and the
  regression theorems `trim_after_rounding_*` (finding C14-decimal-trim-after-rounding).
* `carry_padding_regression` (finding C14-negative-exponent-carry-padding) and `digits_written_count`: kept
  digits plus zero padding ≤ max (max digits, min digits, integer digits + 1) in positional notation, for every option set.
* `punctuation_positional`: positional output consists of decimal digits and the configured decimal point only.
* `value_full`: the value of the emitted text through the parser specification — a `def … : Prop`, not proved.
-/
namespace LexVerif.Props.C14
open LexVerif.Spec LexVerif.Model LexVerif.Model.WriteFloat
open LexVerif.Proof.WriteFloatRound LexVerif.Proof.WriteFloatAscii LexVerif.Proof.WriteFloatBuf

/-- **`digits_rounded`** — string-level half-even is numeric half-even. -/
theorem digits_rounded (ds : List Nat) (o : WOpts) (mx : Nat) (hd : ∀ d ∈ ds, d < 10) (hmx : o.maxDigits = some mx)
    (h1 : 1 ≤ mx) (h2 : mx < ds.length) (hround : o.truncate = false) :
    ofDigits 10 (truncateAndRound ds o).1 *
        10 ^ (mx + (if (truncateAndRound ds o).2 = true then 1 else 0) - (truncateAndRound ds o).1.length)
      = roundHalfEven (ofDigits 10 ds) (10 ^ (ds.length - mx)) :=
  truncateAndRound_numeric ds o mx hd hmx h1 h2 hround

/-- non-vacuity, two ties, one above the half and a carry: 125→12, 135→14, 1251→13 (2 digits); 9996→10·10² (3 digits,
carry) -/
example : truncateAndRound [1, 2, 5] { maxDigits := some 2 } = ([1, 2], false) := by decide
example : truncateAndRound [1, 3, 5] { maxDigits := some 2 } = ([1, 4], false) := by decide
example : truncateAndRound [1, 2, 5, 1] { maxDigits := some 2 } = ([1, 3], false) := by decide
example : truncateAndRound [9, 9, 9, 6] { maxDigits := some 3 } = ([1], true) := by decide
example : roundHalfEven 9996 10 = 1000 := by decide

/-- **Truncate = prefix** -/
theorem digits_truncated (ds : List Nat) (o : WOpts) (mx : Nat) (hmx : o.maxDigits = some mx) (h2 : mx < ds.length)
    (ht : o.truncate = true) : truncateAndRound ds o = (ds.take mx, false) := by
  unfold truncateAndRound
  rw [hmx]
  simp only [ht, if_true]
  rw [if_neg (by omega)]

/-- no maximum, or at least as many places as digits: nothing changes -/
theorem digits_unchanged (ds : List Nat) (o : WOpts) (h : ∀ mx, o.maxDigits = some mx → ds.length ≤ mx) :
    truncateAndRound ds o = (ds, false) := by
  rcases truncateAndRound_cases ds o with ⟨_, e⟩ | ⟨mx, hm, hlen, _⟩
  · exact e
  · exact absurd (h mx hm) (Nat.not_le.mpr hlen)

/-- between one and `max` digits survive; a carry leaves exactly the digit `1` -/
theorem digits_count (ds : List Nat) (o : WOpts) (hds : 1 ≤ ds.length) (hmx : o.maxDigits ≠ some 0) :
    1 ≤ (truncateAndRound ds o).1.length ∧ (truncateAndRound ds o).1.length ≤ ds.length ∧
    (∀ mx, o.maxDigits = some mx → (truncateAndRound ds o).1.length ≤ mx) ∧
    ((truncateAndRound ds o).2 = true → (truncateAndRound ds o).1 = [1]) :=
  truncateAndRound_length ds o hds hmx

/-- **scientific**: first digit, configured point, remaining digits, zero padding up to `min`, then
the configured exponent character, sign and the exponent **plus one after a carry**. -/
theorem layout_scientific (fmt : Format) (feats : Features) (ds : List Nat) (e : Int) (o : WOpts) (r : Nat) :
    writeScientific fmt feats ds e o r =
      (if ¬ fmt.noExponentWithoutFraction = true ∧ (roundSci ds o).1.length = 1 ∧ o.trim = true then
         [digitChar ((roundSci ds o).1.headD 0)]
       else if (roundSci ds o).1.length < minExactDigits (roundSci ds o).1.length o then
         [digitChar ((roundSci ds o).1.headD 0), o.dp] ++ chars (roundSci ds o).1.tail ++
           zeros (minExactDigits (roundSci ds o).1.length o - (roundSci ds o).1.length)
       else if (roundSci ds o).1.length = 1 then [digitChar ((roundSci ds o).1.headD 0), o.dp, 48]
       else [digitChar ((roundSci ds o).1.headD 0), o.dp] ++ chars (roundSci ds o).1.tail)
      ++ ([o.exp] ++ expSign fmt feats (e + (if (roundSci ds o).2 = true then 1 else 0)) ++
          numeral r (e + (if (roundSci ds o).2 = true then 1 else 0)).natAbs) := by
  rw [LexVerif.Proof.WriteFloatDragon.writeScientific_flat, LexVerif.Proof.WriteFloatBuf.writeExponent_eq]
  rfl

/-- **negative exponent, positional** (`carry`: `0.0999…` → one zero fewer, `0.99…` → `1.0`; as in /repo's
fix C14-negative-exponent-carry-padding the `0` of that `1.0` counts as a written digit, like `10.0` of the positive layout:
the `min` padding starts from `count + 1 = 2` digits) -/
theorem layout_negative (ds : List Nat) (e : Int) (o : WOpts) :
    writeNegative ds e o =
      (if (truncateAndRound ds o).2 = true ∧ e.natAbs = 1 then
        (if o.trim = true then [49] else [49, o.dp, 48] ++
          (if (truncateAndRound ds o).1.length + 1 < minExactDigits ((truncateAndRound ds o).1.length + 1) o then
            zeros (minExactDigits ((truncateAndRound ds o).1.length + 1) o - ((truncateAndRound ds o).1.length + 1))
           else []))
      else
        [48, o.dp] ++ zeros (if (truncateAndRound ds o).2 = true then e.natAbs - 2 else e.natAbs - 1)
          ++ chars (truncateAndRound ds o).1 ++
          (if (truncateAndRound ds o).1.length < minExactDigits (truncateAndRound ds o).1.length o then
            zeros (minExactDigits (truncateAndRound ds o).1.length o - (truncateAndRound ds o).1.length) else [])) := by
  unfold writeNegative
  generalize truncateAndRound ds o = tr
  obtain ⟨a, c⟩ := tr
  rfl

/-- a minimum digit count is always honoured by zero padding -/
theorem min_padding (c : Nat) (o : WOpts) (mn : Nat) (h : o.minDigits = some mn) :
    minExactDigits c o = max mn c := by unfold minExactDigits; rw [h]

/-- number of digits before the decimal point of the rounded value (positional notation, value ≥ 1) -/
def leadingOf (ds : List Nat) (e : Int) (o : WOpts) : Nat :=
  e.toNat + 1 + (if (truncateAndRound ds o).2 = true then 1 else 0)

/-- the rounded value is integral: every digit past the decimal point is `0` (in particular: there is none) -/
def IntegralAfterRounding (ds : List Nat) (e : Int) (o : WOpts) : Prop :=
  ∀ d ∈ (truncateAndRound ds o).1.drop (leadingOf ds e o), d = 0

theorem chars_zeros (l : List Nat) (h : ∀ d ∈ l, d = 0) : chars l = zeros l.length := by
  induction l with
  | nil => rfl
  | cons d t ih =>
    have hd : d = 0 := h d (List.mem_cons_self ..)
    have := ih (fun x hx => h x (List.mem_cons_of_mem _ hx))
    simp only [chars, zeros, List.map_cons, List.length_cons, List.replicate_succ] at this ⊢
    rw [this, hd]; rfl

theorem zeros_append (a b : Nat) : zeros a ++ zeros b = zeros (a + b) := by
  simp [zeros, List.replicate_append_replicate]

/-- **`trim_exact`** (the layout of fix C14-decimal-trim-after-rounding; positional notation of a value ≥ 1): whenever the
rounded value is integral, the output with `trim_floats` is exactly its integer digits, and the output without `trim_floats` is
that followed by the decimal point and at least one `0` (the `.0`, the zero digits left by rounding, the `min` padding)
— `trim_floats` removes exactly that and nothing else. -/
theorem trim_exact (ds : List Nat) (e : Int) (o : WOpts) (hint : IntegralAfterRounding ds e o) :
    writePositive ds e { o with trim := true } =
      chars ((truncateAndRound ds o).1.take (leadingOf ds e o)) ++
        zeros (leadingOf ds e o - (truncateAndRound ds o).1.length) ∧
    ∃ z, 1 ≤ z ∧
      writePositive ds e { o with trim := false } = writePositive ds e { o with trim := true } ++ [o.dp] ++ zeros z := by
  unfold IntegralAfterRounding leadingOf at hint
  -- both outputs unfold to the same rounded digits `T` and the same number `L` of integer places; by whether the point
  -- falls behind `T` (only padding follows it) or inside it (the cut-off digits are the zeros of `hint`)
  unfold leadingOf writePositive roundPos trimPos
  have h1 : truncateAndRound ds { o with trim := false } = truncateAndRound ds o := rfl
  have h2 : truncateAndRound ds { o with trim := true } = truncateAndRound ds o := rfl
  have h3 : ∀ c, minExactDigits c { o with trim := false } = minExactDigits c o := fun _ => rfl
  simp only [h1, h2, h3]
  generalize truncateAndRound ds o = tr at hint ⊢
  obtain ⟨T, c⟩ := tr
  dsimp only at hint ⊢
  generalize e.toNat + 1 + (if c = true then 1 else 0) = L at hint ⊢
  have hall : (T.drop L).all (fun x => decide (x = 0)) = true := by
    simp only [List.all_eq_true, decide_eq_true_eq]; exact hint
  by_cases hge : L ≥ T.length
  · have hng : ¬ T.length > L := by omega
    have htake : T.take L = T := List.take_of_length_le hge
    simp only [hng, hge, false_and, and_false, if_false, if_true, Bool.false_eq_true, htake]
    refine ⟨trivial, ?_⟩
    by_cases hp : minExactDigits (L + 1) o > L + 1
    · refine ⟨1 + (minExactDigits (L + 1) o - (L + 1)), by omega, ?_⟩
      simp only [hp, if_true]
      rw [← zeros_append]
      simp [zeros]
    · refine ⟨1, by omega, ?_⟩
      simp only [hp, if_false]
      simp [zeros]
  · have hgt : T.length > L := by omega
    have hlen : (T.take L).length = L := by simp; omega
    simp only [hgt, hall, and_self, if_true, hlen, Nat.le_refl, ge_iff_le, Nat.sub_self, Bool.false_eq_true, false_and,
      if_false, hge]
    refine ⟨by simp [zeros]; omega, ?_⟩
    have hz : chars (T.drop L) = zeros (T.length - L) := by
      rw [chars_zeros _ hint]; simp
    rw [hz]
    by_cases hp : minExactDigits T.length o > T.length
    · refine ⟨(T.length - L) + (minExactDigits T.length o - T.length), by omega, ?_⟩
      simp only [hp, if_true]
      rw [← zeros_append]
      simp [zeros]
    · refine ⟨T.length - L, by omega, ?_⟩
      simp only [hp, if_false]
      simp [zeros]

/-- … and when a non-zero digit remains after the point, `trim_floats` changes nothing. -/
theorem trim_only_integral (ds : List Nat) (e : Int) (o : WOpts) (hfrac : ¬ IntegralAfterRounding ds e o) :
    writePositive ds e { o with trim := true } = writePositive ds e { o with trim := false } := by
  unfold IntegralAfterRounding leadingOf at hfrac
  unfold writePositive roundPos trimPos
  have h1 : truncateAndRound ds { o with trim := false } = truncateAndRound ds o := rfl
  have h2 : truncateAndRound ds { o with trim := true } = truncateAndRound ds o := rfl
  have h3 : ∀ c, minExactDigits c { o with trim := false } = minExactDigits c o := fun _ => rfl
  have h4 : ∀ c, minExactDigits c { o with trim := true } = minExactDigits c o := fun _ => rfl
  simp only [h1, h2, h3, h4]
  generalize truncateAndRound ds o = tr at hfrac ⊢
  obtain ⟨T, c⟩ := tr
  dsimp only at hfrac ⊢
  generalize e.toNat + 1 + (if c = true then 1 else 0) = L at hfrac ⊢
  have hall : ¬ ((T.drop L).all (fun x => decide (x = 0)) = true) := by
    simp only [List.all_eq_true, decide_eq_true_eq]; exact hfrac
  have hgt : ¬ L ≥ T.length := by
    intro hge
    apply hfrac
    rw [List.drop_of_length_le hge]
    intro d hd; cases hd
  simp only [hall, and_false, if_false, Bool.false_eq_true, false_and, hgt]

/-- scientific notation: an all-zero fraction left by rounding is dropped under `trim_floats`
(`2.00…e-292` → `2e-292` unless the format forbids an exponent without fraction) -/
theorem trim_scientific (o : WOpts) (ds : List Nat) (htrim : o.trim = true) (hz : ∀ d ∈ ds.tail, d = 0) :
    trimSci o ds = ds.take 1 := by
  unfold trimSci
  rw [if_pos ⟨htrim, by simp only [List.all_eq_true, decide_eq_true_eq]; exact hz⟩]

/-- **regression for the finding C14-decimal-trim-after-rounding**: `64.00001f32` (digits 6400001, also
6400002) with `max_significant_digits = 3`, `min = 2` and `trim_floats` is written `64` — Dragonbox and compact layouts. -/
theorem trim_after_rounding_positive :
    writeDigitsN Format.standard {} [6, 4, 0, 0, 0, 0, 1] 1 { maxDigits := some 3, minDigits := some 2, trim := true } = [54, 52] ∧
    writeDigitsC Format.standard {} [6, 4, 0, 0, 0, 0, 1] 1 { maxDigits := some 3, minDigits := some 2, trim := true } = [54, 52] ∧
    writeDigitsN Format.standard {} [6, 4, 0, 0, 0, 0, 1] 1 { maxDigits := some 3, minDigits := some 2 } = [54, 52, 46, 48] := by
  decide +kernel

/-- **regression**: `2.0000000000000004e-292` (digits 20000000000000004) with `max_significant_digits = 2` and
`trim_floats` is written `2e-292`; without `trim_floats` `2.0e-292`. -/
theorem trim_after_rounding_scientific :
    writeDigitsN Format.standard {} [2, 0, 0, 0, 0, 0, 0, 0, 0, 0, 0, 0, 0, 0, 0, 0, 4] (-292) { maxDigits := some 2, trim := true } =
      [50, 101, 45, 50, 57, 50] ∧
    writeDigitsC Format.standard {} [2, 0, 0, 0, 0, 0, 0, 0, 0, 0, 0, 0, 0, 0, 0, 0, 4] (-292) { maxDigits := some 2, trim := true } =
      [50, 101, 45, 50, 57, 50] ∧
    writeDigitsN Format.standard {} [2, 0, 0, 0, 0, 0, 0, 0, 0, 0, 0, 0, 0, 0, 0, 0, 4] (-292) { maxDigits := some 2 } =
      [50, 46, 48, 101, 45, 50, 57, 50] := by
  decide +kernel

/-- the digits that survive rounding **and** trimming: between one and `max` -/
theorem digits_kept_count (ds : List Nat) (e : Int) (o : WOpts) (hds : 1 ≤ ds.length) (hmx : o.maxDigits ≠ some 0) :
    (1 ≤ (roundSci ds o).1.length ∧ (∀ mx, o.maxDigits = some mx → (roundSci ds o).1.length ≤ mx)) ∧
    (1 ≤ (roundPos ds e o).1.length ∧ (∀ mx, o.maxDigits = some mx → (roundPos ds e o).1.length ≤ mx)) := by
  obtain ⟨a1, _, a3, _, _⟩ := roundSci_length ds o hds hmx
  obtain ⟨b1, _, b3, _, _⟩ := roundPos_length ds e o hds hmx
  exact ⟨⟨a1, a3⟩, ⟨b1, b3⟩⟩

/-- **regression for the finding C14-negative-exponent-carry-padding**: `0.9996` (digits 9996, exponent −1) with
`max_significant_digits = min_significant_digits = 3` is written `1.00` (not `1.000`), with `max = min = 2` `1.0` (not
`1.00`) — the Dragonbox layout; the compact layout rounds before choosing the layout and writes the same. -/
theorem carry_padding_regression :
    writeDigitsN Format.standard {} [9, 9, 9, 6] (-1) { maxDigits := some 3, minDigits := some 3 } = [49, 46, 48, 48] ∧
    writeDigitsN Format.standard {} [9, 9, 9, 6] (-1) { maxDigits := some 2, minDigits := some 2 } = [49, 46, 48] ∧
    writeDigitsC Format.standard {} [9, 9, 9, 6] (-1) { maxDigits := some 3, minDigits := some 3 } = [49, 46, 48, 48] ∧
    writeDigitsC Format.standard {} [9, 9, 9, 6] (-1) { maxDigits := some 2, minDigits := some 2 } = [49, 46, 48] ∧
    writeDigitsN Format.standard {} [9, 9, 9, 6] (-1) { maxDigits := some 3, minDigits := some 3, trim := true } = [49] ∧
    writeDigitsN Format.standard {} [9, 9, 9, 6] (-1) { maxDigits := some 3, minDigits := some 5 } = [49, 46, 48, 48, 48, 48] := by
  decide +kernel

/-- significant digits of a positional text: the bytes other than the decimal point, from the first byte that is not `0` -/
def sigWritten (out : List Nat) (dp : Nat) : Nat :=
  ((out.filter (fun b => decide (b ≠ dp))).dropWhile (fun b => decide (b = 48))).length

theorem sigWritten_le (out : List Nat) (dp : Nat) : sigWritten out dp ≤ out.length :=
  Nat.le_trans (List.dropWhile_sublist _).length_le (List.length_filter_le _ _)

theorem sigWritten_prefix (z l : List Nat) (dp : Nat) (hz : ∀ b ∈ z, b = 48 ∨ b = dp) :
    sigWritten (z ++ l) dp ≤ l.length := by
  induction z with
  | nil => exact sigWritten_le l dp
  | cons b t ih =>
    have iht := ih (fun x hx => hz x (List.mem_cons_of_mem _ hx))
    unfold sigWritten at iht ⊢
    by_cases hb : b = dp
    · simpa [List.filter_cons, hb] using iht
    · have h48 : b = 48 := (hz b (List.mem_cons_self ..)).resolve_right hb
      subst h48
      simpa [List.filter_cons, hb] using iht

theorem sigWritten_point (a b : List Nat) (dp : Nat) : sigWritten (a ++ [dp] ++ b) dp ≤ a.length + b.length := by
  unfold sigWritten
  refine Nat.le_trans (List.dropWhile_sublist _).length_le ?_
  simp only [List.filter_append, List.length_append]
  have h1 := List.length_filter_le (fun b => decide (b ≠ dp)) a
  have h2 := List.length_filter_le (fun b => decide (b ≠ dp)) b
  have h3 : ([dp].filter (fun b => decide (b ≠ dp))).length = 0 := by simp
  omega

open LexVerif.Proof.WriteFloatBound in
/-- `0.` and the zeros in front are not significant -/
theorem sigWritten_negFlat (lead : Nat) (T : List Nat) (o : WOpts) :
    sigWritten (negFlat lead T o) o.dp ≤ max (o.minDigits.getD 0) T.length := by
  have := sigWritten_prefix ([48, o.dp] ++ zeros lead) (chars T ++ pad T.length o) o.dp (by
    intro b hb
    simp only [List.mem_append, List.mem_cons, List.not_mem_nil, or_false, zeros, List.mem_replicate] at hb
    rcases hb with (hb | hb) | hb
    · exact Or.inl hb
    · exact Or.inr hb
    · exact Or.inl hb.2)
  unfold negFlat
  rw [List.append_assoc ([48, o.dp] ++ _)]
  refine Nat.le_trans this ?_
  simp only [List.length_append, chars_length, pad_length]
  omega

open LexVerif.Proof.WriteFloatBound in
/-- the point is not a digit; `leading + 1` is the mandatory `.0` of an integral value -/
theorem sigWritten_posFlat (leading : Nat) (K : List Nat) (o : WOpts) :
    sigWritten (posFlat leading K o) o.dp ≤ max (max K.length (o.minDigits.getD 0)) (leading + 1) := by
  unfold posFlat
  by_cases hge : leading ≥ K.length
  · rw [if_pos hge]
    by_cases c2 : o.trim = true
    · rw [if_pos c2]
      refine Nat.le_trans (sigWritten_le _ _) ?_
      simp only [List.length_append, chars_length, zeros_length]; omega
    · rw [if_neg c2]
      have := sigWritten_point (chars K ++ zeros (leading - K.length)) ([48] ++ pad (leading + 1) o) o.dp
      rw [show chars K ++ zeros (leading - K.length) ++ [o.dp, 48] ++ pad (leading + 1) o =
        chars K ++ zeros (leading - K.length) ++ [o.dp] ++ ([48] ++ pad (leading + 1) o) by simp]
      refine Nat.le_trans this ?_
      simp only [List.length_append, chars_length, zeros_length, List.length_cons, List.length_nil, pad_length]
      omega
  · rw [if_neg hge]
    have := sigWritten_point (chars (K.take leading)) (chars (K.drop leading) ++ pad K.length o) o.dp
    rw [List.append_assoc (chars (K.take leading) ++ [o.dp])]
    refine Nat.le_trans this ?_
    simp only [List.length_append, chars_length, List.length_take, List.length_drop, pad_length]
    omega

/-- **`digits_written_count`** (every option set): in positional notation the
significant digits written — kept digits plus zero padding — are at most
`max (max_significant_digits, min_significant_digits, integer digits + 1)` (the `+ 1` is the mandatory `.0` of an integral
value: `1.0` below one after a carry, `ddd.0` above one). -/
theorem digits_written_count (ds : List Nat) (e : Int) (o : WOpts) (mx : Nat) (hds : 1 ≤ ds.length)
    (hmx : o.maxDigits = some mx) (h1 : 1 ≤ mx) :
    sigWritten (writeNegative ds e o) o.dp ≤
      max (max mx (o.minDigits.getD 0)) (if (truncateAndRound ds o).2 = true ∧ e.natAbs = 1 then 1 + 1 else 0) ∧
    sigWritten (writePositive ds e o) o.dp ≤ max (max mx (o.minDigits.getD 0)) (leadingOf ds e o + 1) := by
  have hm0 : o.maxDigits ≠ some 0 := by rw [hmx]; intro h; cases h; omega
  -- the kept digits are at most `mx`; the rest is the count of the layout they are put in
  constructor
  · have hc := (truncateAndRound_length ds o hds hm0).2.2.1 mx hmx
    rw [LexVerif.Proof.WriteFloatDragon.writeNegative_flat]
    split
    · exact Nat.le_trans (sigWritten_posFlat 1 [1] o) (by simp only [List.length_singleton]; omega)
    · exact Nat.le_trans (sigWritten_negFlat _ _ o) (by omega)
  · have hc := (roundPos_length ds e o hds hm0).2.2.1 mx hmx
    rw [LexVerif.Proof.WriteFloatDragon.writePositive_flat]
    refine Nat.le_trans (sigWritten_posFlat _ _ o) ?_
    show _ ≤ max _ (e.toNat + 1 + (if (roundPos ds e o).2 = true then 1 else 0) + 1)
    omega

/-- non-vacuity: the bound is attained by the repaired case (`1.00`: 3 digits = max = min) and by the `.0` term
(`0.95` with `max = 1`: `1.0`, 2 digits = integer digits + 1; `9.96` with `max = 2`: `10.0`, 3 digits) -/
example : sigWritten (writeNegative [9, 9, 9, 6] (-1) { maxDigits := some 3, minDigits := some 3 }) 46 = 3 := by decide
example : sigWritten (writeNegative [9, 5] (-1) { maxDigits := some 1 }) 46 = 2 := by decide
example : sigWritten (writePositive [9, 9, 6] 0 { maxDigits := some 2 }) 46 = 3 := by decide
example : sigWritten (writeNegative [1, 2, 3, 4] (-3) { maxDigits := some 2, minDigits := some 4 }) 46 = 4 := by decide

/-- `algorithm.rs` (Dragonbox builds): judged on the scientific exponent of the float (before rounding) -/
theorem notation_choice_N (fmt : Format) (feats : Features) (ds : List Nat) (e : Int) (o : WOpts) :
    writeDigitsN fmt feats ds e o =
      if ¬ fmt.noExponentNotation = true ∧
          (fmt.requiredExponentNotation = true ∨ e < o.negBreak.getD (-5) ∨ e > o.posBreak.getD 9) then
        writeScientific fmt feats ds e o fmt.exponentRadix
      else if e < 0 then writeNegative ds e o else writePositive ds e o := rfl

/-- `compact.rs` (Grisu builds): rounded first, judged on the carried exponent -/
theorem notation_choice_C (fmt : Format) (feats : Features) (ds : List Nat) (e : Int) (o : WOpts) :
    writeDigitsC fmt feats ds e o =
      if ¬ fmt.noExponentNotation = true ∧
          (fmt.requiredExponentNotation = true ∨
            e + (if (truncateAndRound ds o).2 = true then 1 else 0) < o.negBreak.getD (-5) ∨
            e + (if (truncateAndRound ds o).2 = true then 1 else 0) > o.posBreak.getD 9) then
        writeScientific fmt feats (truncateAndRound ds o).1 (e + (if (truncateAndRound ds o).2 = true then 1 else 0))
          { o with maxDigits := none } fmt.exponentRadix
      else if e + (if (truncateAndRound ds o).2 = true then 1 else 0) < 0 then
        writeNegative (truncateAndRound ds o).1 (e + (if (truncateAndRound ds o).2 = true then 1 else 0))
          { o with maxDigits := none }
      else writePositive (truncateAndRound ds o).1 (e + (if (truncateAndRound ds o).2 = true then 1 else 0))
          { o with maxDigits := none } := rfl

def DigitOrPoint (o : WOpts) (b : Nat) : Prop := (48 ≤ b ∧ b ≤ 57) ∨ b = o.dp

theorem digitChar_digit (o : WOpts) (d : Nat) (h : d < 10) : DigitOrPoint o (digitChar d) := by
  unfold DigitOrPoint digitChar; rw [if_pos h]; omega

/-- **`punctuation_positional`**: positional output consists of decimal digits and the configured decimal point only -/
theorem punctuation_positional (ds : List Nat) (e : Int) (o : WOpts) (hd : ∀ d ∈ ds, d < 10) :
    (∀ b ∈ writeNegative ds e o, DigitOrPoint o b) ∧ (∀ b ∈ writePositive ds e o, DigitOrPoint o b) :=
  ⟨Proof.RoundTrip.allP_writeNegative (digitChar_digit o) ds e o hd (Or.inr rfl),
   Proof.RoundTrip.allP_writePositive (digitChar_digit o) ds e o hd (Or.inr rfl)⟩

/-- **`notation_iff`** (Dragonbox builds): when the exponent character is not a decimal digit and differs from the decimal
point (what `is_valid_options_punctuation` demands), it occurs in the output **iff** the format does not forbid exponent
notation and requires it or the scientific exponent is outside the break points. -/
theorem notation_iff (fmt : Format) (feats : Features) (ds : List Nat) (e : Int) (o : WOpts) (hd : ∀ d ∈ ds, d < 10)
    (hexp : ¬ (48 ≤ o.exp ∧ o.exp ≤ 57)) (hne : o.exp ≠ o.dp) :
    o.exp ∈ writeDigitsN fmt feats ds e o ↔
      (¬ fmt.noExponentNotation = true ∧
        (fmt.requiredExponentNotation = true ∨ e < o.negBreak.getD (-5) ∨ e > o.posBreak.getD 9)) := by
  rw [notation_choice_N]
  obtain ⟨hneg, hpos⟩ := punctuation_positional ds e o hd
  by_cases c : ¬ fmt.noExponentNotation = true ∧
      (fmt.requiredExponentNotation = true ∨ e < o.negBreak.getD (-5) ∨ e > o.posBreak.getD 9)
  · rw [if_pos c]
    simp only [c, iff_true]
    rw [layout_scientific]
    simp
  · rw [if_neg c]
    simp only [c, iff_false]
    intro hmem
    have hp : DigitOrPoint o o.exp := by
      split at hmem
      · exact hneg _ hmem
      · exact hpos _ hmem
    rcases hp with hp | hp
    · exact hexp hp
    · exact hne hp

/-- non-vacuity: `1.5e10` is scientific with the default breaks and positional with `positive_exponent_break = 10` -/
example : writeDigitsN Format.standard {} [1, 5] 10 {} = [49, 46, 53, 101, 49, 48] := by decide +kernel
example : writeDigitsN Format.standard {} [1, 5] 10 { posBreak := some 10 } =
    [49, 53, 48, 48, 48, 48, 48, 48, 48, 48, 48, 46, 48] := by decide +kernel

/-- The text re-parsed by the parser specification denotes exactly the rounded digits × 10^exponent.
Not proved in Lean (needs the `Spec.StdFloat` recogniser to be inverted on every layout); it is what the
correspondence checks on every op (`props/C14.py`, value law with exact rationals). -/
def value_full : Prop :=
  ∀ (ds : List Nat) (e : Int) (o : WOpts), (∀ d ∈ ds, d < 10) → 1 ≤ ds.length → ds.head? ≠ some 0 → wOptsError o = none →
    o.exp = 101 → o.dp = 46 →
    ∃ (l : FloatLit) (n : Nat),
      parseStdComplete 10 10 {} (writeDigitsN Format.standard {} ds e o) = .num l n ∧
      (ofDigits 10 (l.intDigits ++ l.fracDigits) : Int) * 10 ^ ((truncateAndRound ds o).1.length - 1) * 10 ^ (l.exp.toNat) * 10 ^ ((-(e + (if (truncateAndRound ds o).2 = true then 1 else 0))).toNat)
        = (ofDigits 10 (truncateAndRound ds o).1 : Int) * 10 ^ l.fracDigits.length * 10 ^ ((-l.exp).toNat) *
            10 ^ ((e + (if (truncateAndRound ds o).2 = true then 1 else 0)).toNat)

end LexVerif.Props.C14
