import LexVerif.Spec.StdFloat
import LexVerif.Props.C05
import LexVerif.Props.C01
import LexVerif.Proof.RoundNEStep
import LexVerif.Proof.BellLossy
/-!
# C19 — lossy float parsing changes only precision (property theorems)

On the specification level the `lossy` option is not an input of the grammar at all: acceptance, the
consumed count and the literal depend on the bytes, the radices and the punctuation only.

Algorithm level, on the models: where the non-lossy algorithm decides, the lossy answer is the same float
(`lossy_pow2_agrees`, `lossy_lemire_agrees`); otherwise it is the correctly rounded float or an adjacent pattern —
power-of-two radices (`Model.Binary`: `lossy_pow2_exact`, `lossy_pow2_neighbour`), Bellerophon (decimal in `compact` builds
and the 29 generic radices: `lossy_bellerophon_neighbour`), Eisel–Lemire (`Model.Lemire`: `lossy_lemire_value`,
`lossy_lemire_neighbour_proved`).
-/
namespace LexVerif.Props.C19
open LexVerif.Spec LexVerif.Model
open LexVerif.Proof.RoundNE LexVerif.Proof.ExtRound LexVerif.Proof.BinaryCorrect LexVerif.Props.C05

/-- the grammar never looks at `lossy` (partial parser) -/
theorem parseStd_lossy_irrelevant (r er : Nat) (o : POpts) (b : Bool) (s : List Nat) :
    parseStd r er { o with lossy := b } s = parseStd r er o s := by
  rfl

/-- the grammar never looks at `lossy` (complete parser) -/
theorem parseStdComplete_lossy_irrelevant (r er : Nat) (o : POpts) (b : Bool) (s : List Nat) :
    parseStdComplete r er { o with lossy := b } s = parseStdComplete r er o s := by
  rfl

/-- lossy `binary` always answers, with `roundNE (mantissa · base^exponent)` -/
theorem lossy_pow2_exact {F : FTy} {p eb : Nat} (lay : Layout F p eb) {base : Nat} (hb : IsPow2 base) (n : Num)
    (hm : n.mantissa < 2 ^ 64) (he : ExpInRange n.exponent) :
    ∃ fp, Binary.binary F base n true = .ok fp ∧ 0 ≤ fp.exp ∧
      extendedToFloat F fp =
        roundNE F.fmt (powFrac base n.exponent n.mantissa).1 (powFrac base n.exponent n.mantissa).2 := by
  obtain ⟨fp, h1, h2⟩ := binary_valid lay hb n true hm he.1 he.2 (Or.inr rfl)
  exact ⟨fp, h1, h2, binary_exact lay hb n true hm he.1 he.2 h1 h2⟩

/-- whenever the non-lossy `binary` decides, lossy and non-lossy agree bit for bit -/
theorem lossy_pow2_agrees {F : FTy} {p eb : Nat} (lay : Layout F p eb) {base : Nat} (hb : IsPow2 base) (n : Num)
    (hm : n.mantissa < 2 ^ 64) (he : ExpInRange n.exponent)
    {fp fpl : ExtendedFloat80} (h : Binary.binary F base n false = .ok fp) (hv : 0 ≤ fp.exp)
    (hl : Binary.binary F base n true = .ok fpl) :
    extendedToFloat F fpl = extendedToFloat F fp := by
  obtain ⟨fp', h1, _, h3⟩ := lossy_pow2_exact lay hb n hm he
  rw [hl] at h1; injection h1 with h1; subst h1
  rw [h3, binary_exact lay hb n false hm he.1 he.2 h hv]

/-- **`lossy_pow2_neighbour`** (**complete**): for a truncated mantissa `M ≥ 2^p` (a `u64_step`-digit mantissa
has at least 55 bits) and any true value `x ∈ [M, M+1)·base^e`, the lossy answer is `roundNE x` or the pattern
just below it: lossy parsing in a power-of-two radix is off by at most one unit in the last place, and only
downwards. -/
theorem lossy_pow2_neighbour {F : FTy} {p eb : Nat} (lay : Layout F p eb) {base : Nat} (hb : IsPow2 base)
    (n : Num) (hM : 2 ^ p ≤ n.mantissa) (hm : n.mantissa + 1 < 2 ^ 64) (he : ExpInRange n.exponent)
    (num den : Nat) (hd : 0 < den)
    (hlo : (powFrac base n.exponent n.mantissa).1 * den ≤ num * (powFrac base n.exponent n.mantissa).2)
    (hhi : num * (powFrac base n.exponent (n.mantissa + 1)).2 < (powFrac base n.exponent (n.mantissa + 1)).1 * den) :
    ∃ fp, Binary.binary F base n true = .ok fp ∧ 0 ≤ fp.exp ∧
      (extendedToFloat F fp = roundNE F.fmt num den ∨ extendedToFloat F fp + 1 = roundNE F.fmt num den) := by
  have hf := lay.wf
  have hfp : F.fmt.p = p := by rw [lay.fmt]
  obtain ⟨lg, hlg⟩ := isPow2Base_of base hb
  have hbpos : 0 < base := by rw [hlg.1]; exact Nat.two_pow_pos _
  have hden : ∀ m, 0 < (powFrac base n.exponent m).2 := powFrac_pos hbpos n.exponent
  obtain ⟨fp, a1, a2, a3⟩ := lossy_pow2_exact lay hb n (by omega) he
  refine ⟨fp, a1, a2, ?_⟩
  rw [a3]
  have hmono := roundNE_mono' hf (hden n.mantissa) hd hlo
  -- (M+1)·base^e = M·base^e · (M+1)/M
  have hrel : num * (powFrac base n.exponent n.mantissa).2 * n.mantissa ≤
      (powFrac base n.exponent n.mantissa).1 * den * (n.mantissa + 1) := by
    have h2 : (powFrac base n.exponent (n.mantissa + 1)).2 = (powFrac base n.exponent n.mantissa).2 := by
      unfold powFrac; split <;> rfl
    have h1 : (powFrac base n.exponent (n.mantissa + 1)).1 * n.mantissa =
        (powFrac base n.exponent n.mantissa).1 * (n.mantissa + 1) := by
      unfold powFrac; split
      · simp only []; ring
      · simp only []; ring
    rw [h2] at hhi
    have := Nat.mul_le_mul_right n.mantissa (Nat.le_of_lt hhi)
    calc num * (powFrac base n.exponent n.mantissa).2 * n.mantissa
        ≤ (powFrac base n.exponent (n.mantissa + 1)).1 * den * n.mantissa := this
      _ = (powFrac base n.exponent (n.mantissa + 1)).1 * n.mantissa * den := by ring
      _ = (powFrac base n.exponent n.mantissa).1 * (n.mantissa + 1) * den := by rw [h1]
      _ = (powFrac base n.exponent n.mantissa).1 * den * (n.mantissa + 1) := by ring
  have hstep := roundNE_step hf (hden n.mantissa) hd (by rw [hfp]; exact hM) hrel
  omega

/-- the lossy answer is the correctly rounded float of the **truncated** value, hence never
above the correctly rounded float of the true value, and the latter is at most that of `(M+1)·base^e` -/
theorem lossy_pow2_bracket_partial {F : FTy} {p eb : Nat} (lay : Layout F p eb) {base : Nat} (hb : IsPow2 base)
    (n : Num) (hm : n.mantissa + 1 < 2 ^ 64) (he : ExpInRange n.exponent) (num den : Nat) (hd : 0 < den)
    (hlo : (powFrac base n.exponent n.mantissa).1 * den ≤ num * (powFrac base n.exponent n.mantissa).2)
    (hhi : num * (powFrac base n.exponent (n.mantissa + 1)).2 ≤ (powFrac base n.exponent (n.mantissa + 1)).1 * den) :
    ∃ fp fp1, Binary.binary F base n true = .ok fp ∧
      Binary.binary F base { n with mantissa := n.mantissa + 1 } true = .ok fp1 ∧
      extendedToFloat F fp ≤ roundNE F.fmt num den ∧ roundNE F.fmt num den ≤ extendedToFloat F fp1 := by
  have hf := lay.wf
  obtain ⟨lg, hlg⟩ := isPow2Base_of base hb
  have hbpos : 0 < base := by rw [hlg.1]; exact Nat.two_pow_pos _
  have hden : ∀ m, 0 < (powFrac base n.exponent m).2 := powFrac_pos hbpos n.exponent
  obtain ⟨fp, a1, _, a3⟩ := lossy_pow2_exact lay hb n (by omega) he
  obtain ⟨fp1, b1, _, b3⟩ := lossy_pow2_exact lay hb { n with mantissa := n.mantissa + 1 } hm he
  refine ⟨fp, fp1, a1, b1, ?_, ?_⟩
  · rw [a3]; exact roundNE_mono' hf (hden _) hd hlo
  · rw [b3]; exact roundNE_mono' hf hd (hden _) hhi

open LexVerif.Proof.Bell in
/-- **`lossy_bellerophon_neighbour`** (**complete** on the model): with `lossy`, `bellerophon::<F, FORMAT>` always
answers, and its answer is `roundNE` of the true value of the literal or a pattern adjacent to it — for every
radix with Bellerophon tables (`IsBellTable`: the 29 generic radices in `radix` builds; those and 10 in `compact`
builds), every exponent, untruncated mantissas and truncated ones of at least 55 bits (every `u64_step`-digit
mantissa). Decimal parsing in non-`compact` builds uses Eisel–Lemire instead: `lossy_lemire_neighbour_proved` below. -/
theorem lossy_bellerophon_neighbour (F : FTy) (hF : F = FTy.f64 ∨ F = FTy.f32)
    (P : Gen.Bellerophon.Powers) (r : Nat) (hP : IsBellTable P r) (n : Num) (hw : n.mantissa < 2 ^ 64)
    (hmw : n.manyDigits = true → 2 ^ 55 ≤ n.mantissa) (num den : Nat) (hd : 0 < den)
    (htv : TrueValue r n num den) :
    ∃ fp, Bellerophon.bellerophon F P n true = .ok fp ∧ 0 ≤ fp.exp ∧
      extendedToFloat F fp ≤ roundNE F.fmt num den + 1 ∧ roundNE F.fmt num den ≤ extendedToFloat F fp + 1 := by
  have hc : BellFacts r P := bellFacts_of_isBellTable hP
  rcases hF with h' | h' <;> subst h'
  · exact bellerophon_lossy_neighbour layout_f64 (by decide) hc n hw hmw num den hd htv
  · exact bellerophon_lossy_neighbour layout_f32 (by decide) hc n hw hmw num den hd htv

/-- **`lossy_lemire_agrees`**: lossy and non-lossy `compute_float` run the same code unless the non-lossy one falls
back (`lo` all ones outside `[−27, 55]`); so whenever the non-lossy answer is valid, the lossy answer is the same
float — and by `lemire_sound_proved` it is `roundNE (w·10^q)`: lossy decimal parsing of an untruncated mantissa is
exact except on the fall-back inputs. -/
theorem lossy_lemire_agrees (F : FTy) (hF : C01.IsLemireFloat F) (q : Int) (hq : C01.IsI64 q) (w : Nat)
    (hw : w < 2 ^ 64) {fp : ExtendedFloat80} (h : Lemire.computeFloat F q w false = .ok fp) (hv : 0 ≤ fp.exp) :
    Lemire.computeFloat F q w true = .ok fp ∧
      extendedToFloat F fp = roundNE F.fmt (powFrac 10 q w).1 (powFrac 10 q w).2 := by
  refine ⟨?_, C01.cfSound_all F hF q w hw fp h hv⟩
  obtain ⟨p, eb, sm, lg, rlo, rhi, LF⟩ := C01.lemFacts_of hF
  have LL := LF.LL
  by_cases h1 : w = 0 ∨ q < F.C.smallestPowerOfTen
  · unfold Lemire.computeFloat at h ⊢
    rw [if_pos h1] at h ⊢
    exact h
  by_cases h2 : q > F.C.largestPowerOfTen
  · unfold Lemire.computeFloat at h ⊢
    rw [if_neg h1, if_pos h2] at h ⊢
    exact h
  have hsm342 := LL.sm342
  have hlg308 := LL.lg308
  have hq1 : -(sm : Int) ≤ q := by rw [LL.smallest] at h1; omega
  have hq2 : q ≤ lg := by rw [LL.largest] at h2; omega
  obtain ⟨hi5, lo5, hrow, hhi5, hlo5, hhi5n⟩ := LexVerif.Proof.Lemire.row_norm (q + 342).toNat (by omega)
  obtain ⟨lo, hi, _, hcf, hlossy⟩ := LexVerif.Proof.Lemire.computeFloat_mid LL hq1 hq2 (fun h0 => h1 (Or.inl h0)) hw
    hrow hhi5 hlo5 hhi5n
  rw [hlossy]
  rw [hcf] at h
  split at h
  · exfalso
    injection h with h; subst h
    have := LexVerif.Proof.Lemire.computeErrorScaled_neg LL.lay q hi (clz64 w) (by omega) (by omega)
    omega
  · exact h

/-- **`lossy_lemire_neighbour`** (theorem: `lossy_lemire_neighbour_proved`): lossy `compute_float` always answers with
a valid float, which is `roundNE (w·10^q)` or the pattern just below it. Off the fall-back inputs by
`lossy_lemire_agrees`; on them `cfRound` computes `roundNE` of the *computed* product `z = hi·2^64 + lo` (no tie: `lo` is
all ones), the exact product lies in `[z, z + 2^64 + 1)`, a relative error below `2^−61`
(`Proof.Lemire.LossyOK`), and `Proof.RoundNEStep.roundNE_step` turns that into at most one pattern. -/
def lossy_lemire_neighbour : Prop :=
  ∀ F, C01.IsLemireFloat F → ∀ (q : Int) (w : Nat), C01.IsI64 q → w < 2 ^ 64 →
    ∃ fp, Lemire.computeFloat F q w true = .ok fp ∧ 0 ≤ fp.exp ∧
      (extendedToFloat F fp = roundNE F.fmt (powFrac 10 q w).1 (powFrac 10 q w).2 ∨
        extendedToFloat F fp + 1 = roundNE F.fmt (powFrac 10 q w).1 (powFrac 10 q w).2)

/-- **the lossy Eisel–Lemire answer as a value** (every exponent, every mantissa): a valid float that is `roundNE` of
some `n'/d'` with `n'/d' ≤ w·10^q ≤ (n'/d')·(1 + 2^−61)` -/
theorem lossy_lemire_value (F : FTy) (hF : C01.IsLemireFloat F) (q : Int) (hq : C01.IsI64 q) (w : Nat)
    (hw : w < 2 ^ 64) :
    ∃ fp n' d', Lemire.computeFloat F q w true = .ok fp ∧ 0 ≤ fp.exp ∧ 0 < d' ∧
      extendedToFloat F fp = roundNE F.fmt n' d' ∧ n' * (powFrac 10 q w).2 ≤ (powFrac 10 q w).1 * d' ∧
      (powFrac 10 q w).1 * d' * 2 ^ 61 ≤ n' * (powFrac 10 q w).2 * (2 ^ 61 + 1) := by
  obtain ⟨fp0, h0, hvalid, _⟩ := C01.lemire_sound_proved F hF q w hq hw
  have hden := powFrac_pos (base := 10) (by decide) q w
  by_cases hv : 0 ≤ fp0.exp
  · obtain ⟨hl, hr⟩ := lossy_lemire_agrees F hF q hq w hw h0 hv
    refine ⟨fp0, (powFrac 10 q w).1, (powFrac 10 q w).2, hl, hv, hden, hr, Nat.le_refl _, ?_⟩
    exact Nat.mul_le_mul_left _ (Nat.le_succ _)
  · obtain ⟨_, _, _, _, hl⟩ := C01.lemire_invalid_facts F hF q w fp0 hw h0 (by omega)
    exact hl

theorem lossy_lemire_neighbour_proved : lossy_lemire_neighbour := by
  intro F hF q w hq hw
  obtain ⟨fp, n', d', h1, h2, hd', h3, hlo, hhi⟩ := lossy_lemire_value F hF q hq w hw
  have hf : WF F.fmt := by rcases hF with h | h <;> subst h <;> [exact wf_f64; exact wf_f32]
  have hp61 : 2 ^ F.fmt.p ≤ 2 ^ 61 := by
    rcases hF with h | h <;> subst h <;> decide
  have hden := powFrac_pos (base := 10) (by decide) q w
  refine ⟨fp, h1, h2, ?_⟩
  rw [h3]
  have hmono := roundNE_mono' hf hd' hden hlo
  have hstep := roundNE_step hf hd' hden hp61 hhi
  omega

/-- non-vacuity (decimal, `compact`): `2^53 + 1` is a tie: non-lossy declines, lossy rounds the estimate -/
example : Bellerophon.bellerophon FTy.f64 (Gen.Bellerophon.CompactRadix.powers 10)
      ⟨9007199254740993, 0, false, false⟩ true = .ok ⟨0, 1076⟩ ∧
    Bellerophon.bellerophon FTy.f64 (Gen.Bellerophon.CompactRadix.powers 10)
      ⟨9007199254740993, 0, false, false⟩ false = .ok ⟨9223372036854776832, -31703⟩ := by
  decide +kernel

/-- non-vacuity: a truncated, exactly-half-way-even mantissa: non-lossy declines, lossy rounds the mantissa -/
example : Binary.binary FTy.f64 16 ⟨0x20000000000001, 0, false, true⟩ true = .ok ⟨0, 1076⟩ ∧
    Binary.binary FTy.f64 16 ⟨0x20000000000001, 0, false, true⟩ false = .ok ⟨9223372036854776832, -31703⟩ := by
  decide +kernel

end LexVerif.Props.C19
