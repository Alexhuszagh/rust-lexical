import LexVerif.Props.C07
/-!
# C14 for the generic-radix writer (radix.rs): root causes of the findings, laws of the repaired model

Model: `Model/WriteRadix.lean` (byte-exact with radix.rs). `writeFloat cf feats f fmt o bits len wf mf`:
`wf` / `mf` = the repairs fixes/C07-generic-radix-positional-truncation.diff and
fixes/C14-generic-digit-options-min-and-literal.diff (defaults `false` = without them; the driver runs both `true`,
`repoHasWindowFix`, `repoHasMinPadFix`); the tie-parity repair
fixes/C14-generic-radix-tie-parity.diff is `truncateAndRoundP true`.
-/
namespace LexVerif.Props.C14Radix
open LexVerif.Spec LexVerif.Model LexVerif.Model.WriteRadix LexVerif.Props.C07
open LexVerif.Proof.WriteRadixWF LexVerif.Proof.WriteRadixFix LexVerif.Proof.WriteRadixFrac
open LexVerif.Proof.WriteRadixTermInt
open LexVerif.Model.WriteInt (Res)

/-- radix 12 plain format -/
def fmt12 : Format := ⟨0xc0c0c0000000000000000000000000c⟩

/-! ## decided root causes (writer without the repairs) and the repaired outputs -/

/-- **C14-generic-digit-options-fewer-than-min**: `write_float_nonscientific` pads to `min_significant_digits` against
a `digit_count` that includes the leading zeros (`"0"`, `"0"` of `0.01`): binary32 1/9 in radix 3, min 3 → `"0.01"`
(one significant digit). `wf f32 303030000000000000000000000000c 3de38e39 - 3 - - r 0 101 46 4e614e 696e66 -`.
Repaired: `"0.0100"`. -/
theorem finding_min_counts_leading_zeros :
    WriteRadix.writeFloat true featsRadix f32 fmt3 { minDigits := some 3 } 0x3de38e39 256 = .ok [48, 46, 48, 49]
    ∧ WriteRadix.writeFloat true featsRadix f32 fmt3 { minDigits := some 3 } 0x3de38e39 256 true true
        = .ok [48, 46, 48, 49, 48, 48] := by
  refine ⟨by decide +kernel, by decide +kernel⟩

/-- **C14-generic-digit-options-not-a-literal**: after rounding to `max_significant_digits` the kept fraction digits can
all be zeros; they are trimmed and nothing is written after the point: binary32 `1 + 2^-23` in radix 3, max 2 → `"1."`.
`wf f32 303030000000000000000000000000c 3f800001 2 - - - r 0 101 46 4e614e 696e66 -`.
Repaired: `"1.0"`, and `"1"` with `trim_floats`. -/
theorem finding_point_without_fraction :
    WriteRadix.writeFloat true featsRadix f32 fmt3 { maxDigits := some 2 } 0x3f800001 256 = .ok [49, 46]
    ∧ WriteRadix.writeFloat true featsRadix f32 fmt3 { maxDigits := some 2 } 0x3f800001 256 true true
        = .ok [49, 46, 48]
    ∧ WriteRadix.writeFloat true featsRadix f32 fmt3 { maxDigits := some 2, trim := true } 0x3f800001 256 true true
        = .ok [49] := by
  refine ⟨by decide +kernel, by decide +kernel, by decide +kernel⟩

/-- **tie parity on the ASCII character** (`last & 1` in the even-radix branch of `truncate_and_round`): the
exact tie `A.6` (10.5) in radix 12 cut to one digit keeps the buffer `"A6"` under half-to-even, but the snapshot tests
the parity of `'A'` = 65 and rounds up to `B`; `B.6` (11.5) is rounded DOWN. Scratch-buffer level, both variants;
op: `wf f32 c0c0c0000000000000000000000000c 41280000 1 - - - r 0 101 46 4e614e 696e66 -` → `"B.0"` (repaired `"A.0"`). -/
theorem finding_tie_parity_on_character :
    truncateAndRoundP false 12 { maxDigits := some 1 } [65, 54] 0 2 = .ok ([66, 54], 1, false)
    ∧ truncateAndRoundP true 12 { maxDigits := some 1 } [65, 54] 0 2 = .ok ([65, 54], 1, false)
    ∧ truncateAndRoundP false 12 { maxDigits := some 1 } [66, 54] 0 2 = .ok ([66, 54], 1, false)
    ∧ truncateAndRoundP true 12 { maxDigits := some 1 } [66, 54] 0 2 = .ok ([49, 54], 1, true) := by
  refine ⟨by decide, by decide, by decide, by decide⟩

/-- the same through the whole writer, whichever way the switch stands -/
theorem tie_parity_whole_writer :
    WriteRadix.writeFloat true featsRadix f32 fmt12 { maxDigits := some 1 } 0x41280000 256
      = .ok (if repoHasTieParityFix then [65, 46, 48] else [66, 46, 48]) := by decide +kernel

/-! ## laws of the repaired positional writer -/

/-- **LITERAL law** (every option set): the text is integer digits, then nothing or the point followed by AT LEAST ONE
digit, then nothing or the exponent — never `"1."`, `"0."`, `"-0."` -/
theorem radix_literal_law {f : Fmt} (hf : StdFmt f) {r : Nat} (hr : r ∈ genericRadices) (feats : Features)
    (fmt : Format) (hfr : fmt.mantissaRadix = r) (o : WOpts) {bits : Nat} (hb : bits < f.infBits) (len : Nat)
    {text : List Nat} (hw : WriteRadix.writeFloat true feats f fmt o bits len true true = .ok text) :
    StrictShape o.dp o.exp text := by
  obtain ⟨h3, h36⟩ := genericRadices_bounds r hr
  obtain ⟨g, t, hg, hl, rfl⟩ := writeFloat_eq_ok hw
  rw [hfr] at hg hl
  exact layoutTextW_strict (WriteFloat.effFmt feats fmt) feats o g
    (generate_ints hf.fok (by omega) h36 (hf.radix_lt h36) hf.fuel.2.1 hg).2 hl

/-- **DIGIT-COUNT law** of the repaired tail: with `min_significant_digits = mn`, unless the value is trimmed to an
integer, a point is written and at least `mn` digits stand at and after position `leading` (the first significant
digit), provided that digit is kept -/
theorem radix_min_digits_law (leading : Nat) (o : WOpts) (digits : List Nat) (il mn : Nat)
    (hmin : o.minDigits = some mn)
    (hlead : leading < digits.length - rtrimCount 48 ((digits.drop (min digits.length il)).take (digits.length - il)))
    (hnt : ¬ (digits.length - il - rtrimCount 48 ((digits.drop (min digits.length il)).take (digits.length - il)) = 0
      ∧ o.trim = true)) :
    ∃ fd, (nonsciFinish2 leading o digits il).text
        = digits.take (min digits.length il) ++ List.replicate (il - min digits.length il) 48 ++ o.dp :: fd ∧
      mn + leading ≤ il + fd.length := by
  have hex : ∀ c, mn ≤ minExactDigits c o := by
    intro c; unfold minExactDigits; rw [hmin]; exact Nat.le_max_left _ _
  unfold nonsciFinish2
  dsimp only
  generalize hz : rtrimCount 48 ((digits.drop (min digits.length il)).take (digits.length - il)) = zeros at *
  split
  · rename_i hfc
    generalize hbody : ((digits.drop (min digits.length il)).take (digits.length - il)).take
      (digits.length - il - zeros) = body
    have hbl : body.length = digits.length - il - zeros := by
      rw [← hbody]
      simp only [List.length_take, List.length_drop]
      omega
    have hx := hex (digits.length - zeros - min leading (digits.length - zeros - 1))
    generalize minExactDigits (digits.length - zeros - min leading (digits.length - zeros - 1)) o = ex at *
    refine ⟨body ++ List.replicate (if ex > digits.length - zeros - min leading (digits.length - zeros - 1)
      then ex - (digits.length - zeros - min leading (digits.length - zeros - 1)) else 0) 48, by simp, ?_⟩
    simp only [List.length_append, List.length_replicate, hbl]
    split <;> omega
  · rename_i hfc
    have ht : ¬ o.trim = true := fun ht => hnt ⟨by omega, ht⟩
    rw [if_neg ht]
    have hx := hex (digits.length - zeros + 1 - min leading (digits.length - zeros + 1 - 1))
    generalize minExactDigits (digits.length - zeros + 1 - min leading (digits.length - zeros + 1 - 1)) o = ex at *
    refine ⟨48 :: List.replicate (if ex > digits.length - zeros + 1 - min leading (digits.length - zeros + 1 - 1)
      then ex - (digits.length - zeros + 1 - min leading (digits.length - zeros + 1 - 1)) else 0) 48, by simp, ?_⟩
    simp only [List.length_cons, List.length_replicate]
    split <;> omega

/-- **NOTATION law**: exponent notation iff it is not forbidden and (required or the scientific exponent of the
UNROUNDED digits is outside the break points) -/
theorem radix_notation_law (mf : Bool) (fmt : Format) (feats : Features) (o : WOpts) (r : Nat) (g : Gen) :
    layoutTextW mf fmt feats o r g =
      if ¬ fmt.noExponentNotation ∧ (fmt.requiredExponentNotation ∨
          (sciExpOf g < o.negBreak.getD (-5) ∨ sciExpOf g > o.posBreak.getD 9))
      then sciText fmt feats o r g (sciExpOf g) else nonsciTextW mf o r g := rfl

/-- **VALUE law, full statement (NOT proved; judged exactly on every op of the stream by props/C14.py `radix_laws`).**
On a window of valid digits with `mx + (leading zeros) < window length`, Round mode, the repaired
`truncate_and_round` keeps digits whose value (scaled to the window) is a multiple of the unit `u` of the last kept
digit, within `u/2` of the window's value, and even in units of `u` at an exact tie. -/
def C14_radix_value_law : Prop :=
  ∀ (r mx : Nat) (o : WOpts) (buf : List Nat) (s e : Nat) (x : List Nat × Nat × Bool),
    2 ≤ r → r ≤ 36 → s ≤ e → e ≤ buf.length → LexVerif.Proof.WriteRadixRound.Win r buf s (e - s) →
    o.maxDigits = some mx → 1 ≤ mx → o.truncate = false →
    mx + ltrimCount 48 ((buf.drop s).take (e - s)) < e - s →
    truncateAndRoundP true r o buf s e = .ok x →
    let W := ofDigits r (((buf.drop s).take (e - s)).map LexVerif.Proof.WriteRadixMid.byteDigit)
    let u := r ^ (e - s - (mx + ltrimCount 48 ((buf.drop s).take (e - s))))
    let kept := ofDigits r (((x.1.drop s).take x.2.1).map LexVerif.Proof.WriteRadixMid.byteDigit)
      * r ^ (if x.2.2 then e - s else e - s - x.2.1)
    u ∣ kept ∧ 2 * (kept - W) ≤ u ∧ 2 * (W - kept) ≤ u ∧ (2 * (kept - W) = u ∨ 2 * (W - kept) = u → kept / u % 2 = 0)

end LexVerif.Props.C14Radix
