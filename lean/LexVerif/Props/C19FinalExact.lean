import LexVerif.Props.C19Final
import LexVerif.Props.C01Final
/-!
# Props.C19FinalExact — the lossy pipeline against the non-lossy one

The oracle of `Props.C19Final` is what the non-lossy decimal pipeline with the modelled slow path prints
(`Props.C01Final.C01_decimal_full_proved`), so `C19_lossy_decimal_proved` compares the two pipelines.
-/
namespace LexVerif.Props.C19Final
open LexVerif.Spec LexVerif.Model LexVerif.Model.ParseFloatAlgo
open LexVerif.Props.C01 (IsLemireFloat)

/-- **lossy vs. non-lossy on the same pipeline** (decimal, slow path modelled): the oracle is what the non-lossy
pipeline prints (`C01_decimal_full_proved`) -/
theorem C19_lossy_vs_exact_decimal (slow : SlowRadix) (feats : Features) (fmt : Format)
    (hr : fmt.mantissaRadix = 10) (hb : fmt.exponentBase = 10) (hclass : feats.format = false ∨ C12.SepPrefixFree fmt)
    (o : POpts) (F : FTy) (hF : IsLemireFloat F) (isPartial : Bool) (s : List Nat)
    (h256 : ∀ x ∈ s, x < 256) (hlen : s.length < 2 ^ 60) :
    LossyRel (Close F) (parseFloatAlgoModel C01SlowMain.slowModel feats fmt o isPartial F s)
      (parseFloatAlgoModel slow feats fmt o isPartial F s true) := by
  rw [C01Final.C01_decimal_full_proved feats fmt hr hb hclass o F hF isPartial s h256 hlen]
  exact C19_lossy_decimal_proved slow feats fmt hr hb hclass o F hF isPartial s h256 hlen

end LexVerif.Props.C19Final
