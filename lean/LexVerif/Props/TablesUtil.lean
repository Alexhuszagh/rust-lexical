import LexVerif.Gen.Digits
import LexVerif.Gen.IntLimits
import LexVerif.Spec.Numeral
import LexVerif.Model.ParseInt
/-!
# TablesUtil — lexical-util dispatch functions equal their specifications on the whole domain

`Gen.Digits` / `Gen.IntLimits` are regenerated from the compiled crate on every run: `char_to_digit_const`,
`char_is_digit_const`, `char_to_valid_digit_const` for all 256 bytes x radix 2..=36, `digit_to_char_const`
for every digit, `Integer::overflow_digits` for the 12 integer types x 35 radices. A change to any arm of
those functions changes a generated row and breaks the theorem naming the function.
-/
namespace LexVerif.Props.TablesUtil
open LexVerif.Spec LexVerif.Gen

def rowsAgree (tab : List (List Nat)) (f : Nat → Nat → Nat) : Bool :=
  (tab.zipIdx.all fun (row, i) => row.zipIdx.all fun (v, c) => v == f (i + 2) c) && tab.length == 35

/-- `char_to_digit_const(c, r)` is the specification's `digitVal r c` (255 encodes `None`), all 35 x 256 cases -/
theorem char_to_digit_spec :
    rowsAgree Digits.charToDigit (fun r c => (digitVal r c).getD 255) = true ∧
    Digits.charToDigit.all (fun row => row.length == 256) = true := by
  decide +kernel

/-- `char_is_digit_const(c, r)` ⇔ `digitVal r c` is some digit -/
theorem char_is_digit_spec :
    rowsAgree Digits.charIsDigit (fun r c => if (digitVal r c).isSome then 1 else 0) = true := by
  decide +kernel

/-- on bytes that ARE digits of the radix, `char_to_valid_digit_const` returns the digit value -/
theorem char_to_valid_digit_spec :
    (Digits.charToValidDigit.zipIdx.all fun (row, i) => row.zipIdx.all fun (v, c) =>
      match digitVal (i + 2) c with
      | some d => v == d
      | none => true) = true := by
  decide +kernel

/-- `digit_to_char_const(d, r)` is `digitChar d` (`0-9` then `A-Z`) for every digit of every radix -/
theorem digit_to_char_spec :
    (Digits.digitToChar.zipIdx.all fun (row, i) => row.length == i + 2 && row.zipIdx.all fun (v, d) => v == digitChar d) = true := by
  decide +kernel

/-- the model's `overflowDigits` is the crate's `Integer::overflow_digits` for all 12 types and 35 radices -/
theorem overflow_digits_model :
    (IntLimits.overflowDigits.all fun (_, bits, signed, row) =>
      row.length == 35 && row.zipIdx.all fun (v, i) => v == Model.ParseInt.overflowDigits ⟨bits, signed⟩ (i + 2)) = true ∧
    IntLimits.overflowDigits.length = 12 := by
  decide +kernel

/-- safety of the unchecked prefix: `radix ^ overflow_digits ≤ 2^(bits-1)` (signed) / `2^bits` (unsigned),
i.e. that many digits can never leave the type's range -/
theorem overflow_digits_safe :
    (IntLimits.overflowDigits.all fun (_, bits, signed, row) =>
      row.zipIdx.all fun (v, i) => decide ((i + 2) ^ v ≤ 2 ^ (if signed then bits - 1 else bits))) = true := by
  decide +kernel

end LexVerif.Props.TablesUtil
