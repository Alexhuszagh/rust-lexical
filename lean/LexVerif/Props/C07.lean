import LexVerif.Props.RoundNE
import LexVerif.Proof.WriteRadixInt
import LexVerif.Proof.WriteBinaryShape
import LexVerif.Proof.WriteRadixFrac
import LexVerif.Proof.WriteRadixIntText
import LexVerif.Proof.WriteRadixRound
import LexVerif.Proof.WriteRadixError
import LexVerif.Proof.WriteRadixMid
import LexVerif.Proof.WriteRadixBig
import LexVerif.Proof.WriteRadixSmall
import LexVerif.Proof.WriteRadixFix
import Mathlib.Tactic.SplitIfs
/-!
# C07 — generic-radix float output

1. the judge: the check measures, for each written output, the distance between the float and the nearest float of the
   output's exact value; monotonicity of `roundNE` makes that measurement meaningful.
2. `RadixInteger`: the abstract integer path (`Model/WriteRadixInt.lean`, assumption `IeeeExact`).
3. `RadixFull`: theorems about the WHOLE writer `Model/WriteRadix.lean` (hardware arithmetic modelled exactly as
   "exact result, then round to nearest even"; tied to radix.rs byte-for-byte by the `wf` correspondence):
   well-formedness, termination / fuel adequacy, integer exactness with the `IeeeExact` assumption discharged, and the
   ulp clause: `radix_error_bound : C07_radix_error_bound` states the judge's limits 2048 (f64) / 256 (f32) patterns; the
   three range theorems prove 1364 / 196 (`[0,1)`), 34 (`[1,2^p)`) and 1340 / 246 (`[2^p,∞)`, stated with a margin:
   `error_big` proves 1304 / 210). The text-level exclusion is `PositionalFits`; then the positional findings and the
   repaired writers.
-/
namespace LexVerif.Props.C07
open LexVerif.Spec LexVerif.Proof.RoundNE LexVerif.Props.RoundNE

/-- the judge's nearest-float map is monotone in the exact value (f64 instance) -/
theorem judge_monotone_f64 (a b c d : Nat) (hb : 0 < b) (hd : 0 < d) (h : (a : ℚ) / b ≤ (c : ℚ) / d) :
    roundNE f64 a b ≤ roundNE f64 c d :=
  roundNE_mono wf_f64 hb hd h

/-! ## the integer part of radix.rs (model `Model/WriteRadixInt.lean`, tied by the `wf` correspondence on integral floats)

IEEE ASSUMPTION, explicit: `IeeeExact lim ops` — on operands that are integers below `lim = 2^53` (f64) / `2^24` (f32),
the float operations `%`, `-`, `/` return the exact result whenever that result is an integer below `lim` (i.e. is
representable; IEEE-754 requires correctly rounded `-`, `/` and an exact remainder). The hardware is trusted to satisfy
it; the Lean driver runs the model with `exactOps`, which satisfies it by definition (`exactOps_satisfies_assumption`). -/
section RadixInteger
open LexVerif.Model LexVerif.Model.WriteBinary LexVerif.Model.WriteRadixInt LexVerif.Proof.WriteRadixInt
open LexVerif.Proof.WriteBinaryDigits LexVerif.Proof.WriteBinaryShape

theorem exactOps_satisfies_assumption (lim : Nat) : IeeeExact lim exactOps := by
  intro a b _ hb _
  exact ⟨rfl, fun _ => rfl, rfl, fun _ => rfl⟩

/-- `radix_integer_exact` (digits): for a float whose value is an integer `1 ≤ n < lim ≤ 2^64`, any radix `2 ≤ r < lim`,
the digit loop of radix.rs produces exactly the canonical numeral `toDigits r n`; it has no leading zero, so
`sci_exp = digit count - 1`. -/
theorem radix_integer_exact (ops : FOps) (r lim n : Nat) (hx : IeeeExact lim ops) (hr : 2 ≤ r) (hrl : r < lim)
    (h0 : 0 < n) (hl : n < lim) (h64 : lim ≤ 2 ^ 64) :
    integerDigits ops r n = toDigits r n ∧ ltrimZeroCount (integerDigits ops r n) = 0 := by
  have h := integerDigits_eq ops r lim n hx hr hrl h0 hl h64
  exact ⟨h, by rw [h]; exact ltrimZeroCount_toDigits r n hr h0⟩

/-- positional notation: the integer part written is `toDigits r n` (never trimmed), the fraction is absent or zeros -/
theorem radix_integer_exact_positional (o : WOpts) (ds : List Nat) :
    (nonsciLayout o ds).int = ds ∧ (∀ d ∈ (nonsciLayout o ds).frac, d = 0) ∧ (nonsciLayout o ds).exp = none := by
  unfold nonsciLayout
  split
  · exact ⟨rfl, by simp, rfl⟩
  · refine ⟨rfl, ?_, rfl⟩
    intro d hd
    rcases List.mem_append.mp hd with h | h
    · simpa using h
    · rw [pad_eq] at h; exact (List.mem_replicate.mp h).2

/-- scientific notation: one integer digit; the written digits and `toDigits r n` agree up to trailing zeros; the
exponent is the one passed in (`digit count - 1`) — so the text denotes `n` exactly -/
theorem radix_integer_exact_scientific (fmt : Format) (o : WOpts) (ds : List Nat) (e : Int) (hne : ds ≠ []) :
    ∃ j k, (sciLayout fmt o ds e).int ++ (sciLayout fmt o ds e).frac ++ List.replicate k 0 = ds ++ List.replicate j 0
      ∧ (sciLayout fmt o ds e).int.length = 1 ∧ (sciLayout fmt o ds e).exp = some e := by
  obtain ⟨d0, tail, rfl⟩ := List.exists_cons_of_ne_nil hne
  -- the layout places `d0 :: rtrimZeros tail` (`Proof.Layouts`); the trimmed zeros come back behind
  obtain ⟨j, hd, -⟩ := sciLayout_placed fmt o d0 tail e
  obtain ⟨k, hk, -⟩ := rtrimZeros_spec tail
  have hsh := sciLayout_toShape fmt o d0 tail e
  refine ⟨j, k, ?_, by simpa [Proof.WriteBinaryParse.toShape, Proof.RoundTrip.sciOf] using congrArg (List.length ∘ Proof.RoundTrip.Shape.ints) hsh,
    by simpa [Proof.WriteBinaryParse.toShape, Proof.RoundTrip.sciOf] using congrArg Proof.RoundTrip.Shape.exp hsh⟩
  rw [hd]
  conv => rhs; rw [hk]
  simp [List.replicate_append_replicate, Nat.add_comm]

/-- the whole integer path: with the digits of `radix_integer_exact`, `radix::write_float` chooses between exactly these
two layouts on `sci_exp = digit count - 1` -/
theorem radix_integer_layout (fmt : Format) (o : WOpts) (ops : FOps) (lim n : Nat)
    (hx : IeeeExact lim ops) (hr : 2 ≤ fmt.mantissaRadix) (hrl : fmt.mantissaRadix < lim)
    (h0 : 0 < n) (hl : n < lim) (h64 : lim ≤ 2 ^ 64) :
    layoutInt fmt o ops n = sciLayout fmt o (toDigits fmt.mantissaRadix n)
        (Dragonbox.i32 (Dragonbox.i32 (((toDigits fmt.mantissaRadix n).length : Int) - (0 : Nat)) - 1))
    ∨ layoutInt fmt o ops n = nonsciLayout o (toDigits fmt.mantissaRadix n) := by
  obtain ⟨h1, h2⟩ := radix_integer_exact ops fmt.mantissaRadix lim n hx hr hrl h0 hl h64
  unfold layoutInt
  simp only
  rw [h2, h1]
  split
  · exact Or.inl rfl
  · exact Or.inr rfl

/-- non-vacuity: 2^53 - 1 in radix 36, by the kernel -/
example : integerDigits exactOps 36 (2 ^ 53 - 1) = toDigits 36 (2 ^ 53 - 1) := by decide +kernel
example : render ⟨12 + 3 * 2 ^ 104⟩ { radix := true, powerOfTwo := true } {}
    (layoutInt ⟨12 + 3 * 2 ^ 104⟩ {} exactOps 5000) = [50, 48, 50, 49, 50, 48, 49, 50, 46, 48] := by decide +kernel

end RadixInteger

/-! ## the whole writer (`Model/WriteRadix.lean`)

`cf` selects the round-up back-trace: `true` = /repo at or after dbb7ae7 (carry repaired; what the driver runs,
`WriteRadix.repoHasCarryFix`), `false` = the original snapshot (finding C07-generic-radix-roundup-invalid-digit). -/
section RadixFull
open LexVerif.Model LexVerif.Model.WriteRadix LexVerif.Model.WriteRadixInt
open LexVerif.Proof.WriteRadixF LexVerif.Proof.WriteRadixWF LexVerif.Proof.WriteRadixTerm
open LexVerif.Proof.WriteRadixTermInt LexVerif.Proof.WriteRadixFrac LexVerif.Proof.WriteRadixInteger
open LexVerif.Proof.WriteRadixRound LexVerif.Proof.WriteRadixError LexVerif.Proof.WriteRadixMid
open LexVerif.Proof.WriteRadixBig LexVerif.Proof.WriteRadixSmall LexVerif.Proof.WriteRadixFix
open LexVerif.Model.WriteInt (Res)

/-- binary32 or binary64 (radix.rs runs in the float's own type) -/
def StdFmt (f : Fmt) : Prop := f = f64 ∨ f = f32

theorem StdFmt.fok {f : Fmt} (h : StdFmt f) : FOK f := by rcases h with rfl | rfl; exacts [fok_f64, fok_f32]
theorem StdFmt.radix_lt {f : Fmt} (h : StdFmt f) {r : Nat} (hr : r ≤ 36) : r < 2 * 2 ^ (f.p - 1) := by
  rcases h with rfl | rfl
  · exact Nat.lt_of_le_of_lt hr (by decide)
  · exact Nat.lt_of_le_of_lt hr (by decide)
theorem StdFmt.predOne {f : Fmt} (h : StdFmt f) {r : Nat} (hr : r ∈ genericRadices) : PredOne f r := by
  rcases h with rfl | rfl; exacts [predOne_table_f64 r hr, predOne_table_f32 r hr]
theorem StdFmt.fuel {f : Fmt} (h : StdFmt f) : Proof.RoundNE.L f ≤ halfSize ∧ f.bias + 2 ≤ halfSize ∧ f.p ≤ halfSize := by
  rcases h with rfl | rfl <;> decide
theorem genericRadices_bounds : ∀ r ∈ genericRadices, 3 ≤ r ∧ r ≤ 36 := by decide

/-- digit generation on a finite pattern returns; every byte between the cursors is a digit of the radix and fewer than
1100 of them are integer digits -/
theorem StdFmt.generate_ready {f : Fmt} (hf : StdFmt f) {r : Nat} (hr : r ∈ genericRadices) {bits : Nat}
    (hb : bits < f.infBits) : ∃ g, generate true f r bits = .ok g ∧ (∀ c ∈ g.ints ++ g.fracs, DigitByte r c) ∧
      g.ints ≠ [] ∧ g.ints.length < halfSize := by
  obtain ⟨h3, h36⟩ := genericRadices_bounds r hr
  obtain ⟨g, hg, hlen⟩ := generate_total hf.fok (by omega : 2 ≤ r) (hf.radix_lt h36) true hf.fuel.1 hf.fuel.2.1 h36 hb
  obtain ⟨hd, hne⟩ := generate_digitBytes hf.fok (by omega) h36 (hf.radix_lt h36) hf.fuel.2.1 (hf.predOne hr) hb hg
  have : f.bias + 2 < halfSize := by rcases hf with rfl | rfl <;> decide
  exact ⟨g, hg, hd, hne, by omega⟩

/-- **C07 well-formedness, writer with the positional repairs switched off** (`wf = mf = false`: /repo at dbb7ae7,
f386e72, 2de23fc; the writer the driver runs, `repoHasWindowFix = repoHasMinPadFix = true`, is covered by
`radix_wellformed_repaired`). For every finite
binary32/binary64 pattern, every generic radix, every format with that mantissa radix (any exponent radix ≥ 2), every
feature set and EVERY option set (max/min significant digits, rounding mode, breaks, trim, punctuation): whatever
`radix::write_float` writes is a non-empty run of digits below the radix, optionally the decimal point and digits
below the radix, optionally the exponent character, an optional sign and digits of the exponent radix. No exclusion. -/
theorem radix_wellformed {f : Fmt} (hf : StdFmt f) {r : Nat} (hr : r ∈ genericRadices) (feats : Features)
    (fmt : Format) (hfr : fmt.mantissaRadix = r) (her : 2 ≤ fmt.exponentRadix) (o : WOpts)
    {bits : Nat} (hb : bits < f.infBits) (len : Nat) {text : List Nat}
    (hw : WriteRadix.writeFloat true feats f fmt o bits len = .ok text) :
    WellFormed r fmt.exponentRadix o.dp o.exp text := by
  subst hfr
  obtain ⟨h3, h36⟩ := genericRadices_bounds _ hr
  obtain ⟨g, hg, hd, hne, _⟩ := hf.generate_ready hr hb
  exact writeFloat_wellFormed_of_digits true false false feats f fmt o (by omega) h36 her hg hd hne hw

/-- **the same for either version of the back-trace, under the exact excluded case**: every FRACTION byte the digit
generation left in the scratch buffer is a digit of the radix (the integer bytes always are). For the original
snapshot (`cf = false`) this hypothesis fails exactly on the recorded round-up finding (`snapshot_roundup_invalid_digit`). -/
theorem radix_wellformed_of_valid_fraction (cf : Bool) {f : Fmt} (hf : StdFmt f) {r : Nat} (hr : r ∈ genericRadices)
    (feats : Features) (fmt : Format) (hfr : fmt.mantissaRadix = r) (her : 2 ≤ fmt.exponentRadix) (o : WOpts)
    {bits : Nat} (len : Nat) {g : Gen} (hg : generate cf f r bits = .ok g)
    (hfrac : ∀ c ∈ g.fracs, DigitByte r c) {text : List Nat}
    (hw : WriteRadix.writeFloat cf feats f fmt o bits len = .ok text) :
    WellFormed r fmt.exponentRadix o.dp o.exp text := by
  subst hfr
  obtain ⟨h3, h36⟩ := genericRadices_bounds _ hr
  obtain ⟨hints, hne⟩ := generate_ints hf.fok (by omega) h36 (hf.radix_lt h36) hf.fuel.2.1 hg
  exact writeFloat_wellFormed_of_digits cf false false feats f fmt o (by omega) h36 her hg
    (fun c hc => (List.mem_append.mp hc).elim (hints c) (hfrac c)) hne hw

/-- radix 3 plain format (`mantissa_radix = exponent_base = exponent_radix = 3`, default flags) -/
def fmt3 : Format := ⟨0x303030000000000000000000000000c⟩
/-- radix 36 with `required_exponent_notation` -/
def fmt36req : Format := ⟨0x2424240000000000000000000000400c⟩
def featsRadix : Features := { radix := true, powerOfTwo := true }
def featsRadixFormat : Features := { radix := true, powerOfTwo := true, format := true }

theorem not_digitByte3_51 : ¬ DigitByte 3 51 := by
  rintro ⟨d, hd, h⟩
  unfold digitChar at h
  split at h <;> omega

/-- decided witness, ORIGINAL SNAPSHOT: the float just below 7/9 (binary32 `0x3f471c71`) in radix 3 is written
`"0.203"` — `'3'` is not a digit of the radix — and the text is not well-formed … -/
theorem snapshot_roundup_invalid_digit :
    WriteRadix.writeFloat false featsRadix f32 fmt3 {} 0x3f471c71 256 = .ok [48, 46, 50, 48, 51]
    ∧ ¬ WellFormed 3 3 46 101 [48, 46, 50, 48, 51] := by
  refine ⟨by decide +kernel, fun h => ?_⟩
  rcases h.bytes 51 (by simp) with h | h | h | h | h | h
  · exact not_digitByte3_51 h
  · exact not_digitByte3_51 h
  all_goals omega

/-- … while the repaired code writes `"0.21"` for the same float (non-vacuity of `radix_wellformed`) -/
theorem repaired_roundup_example :
    WriteRadix.writeFloat true featsRadix f32 fmt3 {} 0x3f471c71 256 = .ok [48, 46, 50, 49] := by decide +kernel

example : WellFormed 3 3 46 101 [48, 46, 50, 49] :=
  radix_wellformed (Or.inr rfl) (by decide) featsRadix fmt3 (by decide) (by decide) {} (by decide) 256
    repaired_roundup_example

/-- regression (finding class C14-generic-digit-options, repaired in /repo 2de23fc): binary32 1/9 in radix 3 with
`max_significant_digits = 2` is `"0.01"` (before that commit `"0.01\\0"`: a NUL byte read past the digits) -/
theorem max_digits_regression :
    WriteRadix.writeFloat true featsRadix f32 fmt3 { maxDigits := some 2, negBreak := some (-20) } 0x3de38e39 256
      = .ok [48, 46, 48, 49] := by decide +kernel

/-- regression (repaired in /repo f386e72): with `required_exponent_notation` the zero, the negative zero's magnitude and
the smallest subnormal (whose digits are all zero) give `"0.0^0"` (before that commit: PANIC on `digits[0]` of an empty
slice) -/
theorem zero_required_exponent_regression :
    WriteRadix.writeFloat true featsRadixFormat f64 fmt36req { exp := 94 } 0 256 = .ok [48, 46, 48, 94, 48]
    ∧ WriteRadix.writeFloat true featsRadixFormat f64 fmt36req { exp := 94 } 1 256 = .ok [48, 46, 48, 94, 48]
    ∧ WriteRadix.writeFloat true featsRadixFormat f32 fmt36req { exp := 94, trim := true } 0 256 = .ok [48, 94, 48] := by
  refine ⟨by decide +kernel, by decide +kernel, by decide +kernel⟩

/-- **the writer never PANICs except for a too short `bytes`** (positional repairs switched off, `wf = mf = false`; the
writer the driver runs is covered by `radix_write_total_repaired`): for every finite pattern, every
generic radix, format, feature set and EVERY option set (`max_significant_digits` a `NonZero`), digit generation and the
layout — `truncate_and_round`, `round_up`, both notations — return; the call PANICs iff the caller's slice is shorter than
the highest index `hi` touched. Subsumes the two repaired PANICs (zero under `required_exponent_notation`; radix 17 with
128 significant digits, corpus/C07.ops). -/
theorem radix_write_total {f : Fmt} (hf : StdFmt f) {r : Nat} (hr : r ∈ genericRadices) (feats : Features)
    (fmt : Format) (hfr : fmt.mantissaRadix = r) (o : WOpts) (ho : o.maxDigits ≠ some 0)
    {bits : Nat} (hb : bits < f.infBits) (len : Nat) :
    ∃ t : Text, WriteRadix.writeFloat true feats f fmt o bits len = if t.hi > len then .panic else .ok t.text := by
  subst hfr
  obtain ⟨h3, h36⟩ := genericRadices_bounds _ hr
  obtain ⟨g, hg, hd, hne, hil⟩ := hf.generate_ready hr hb
  exact writeFloat_total_of_digits true false false feats f fmt o ho (by omega) h36 len hg hd hne hil

/-- **the fraction loop terminates within the scratch buffer**: for every finite pattern and radix 2..36 the fraction
part of `write_float` returns (no index past the 1100 bytes right of the decimal point): `delta` at least doubles per
iteration and the loop exits once `delta ≥ 1 ≥ fraction`, so at most 1075 (f64) / 150 (f32) digits are written. -/
theorem radix_fraction_terminates (cf : Bool) {f : Fmt} (hf : StdFmt f) {r : Nat} (hr : 2 ≤ r) (hr36 : r ≤ 36)
    {bits : Nat} (hb : bits < f.infBits) : ∃ x, genFraction cf f r bits = .ok x :=
  genFraction_total cf hf.fok hf.fuel.1 hr hr36 (hf.radix_lt hr36) hb

/-- **the integer loops terminate within the scratch buffer**, for every starting value up to `+∞`: the exponent field
of `integer` drops by at least one per zero-padding step, after which at most `p + 1` digits follow; at most `bias + 2`
(1025 / 129) bytes are written. -/
theorem radix_integer_terminates {f : Fmt} (hf : StdFmt f) {r : Nat} (hr : 2 ≤ r) (hr36 : r ≤ 36) {x : Nat}
    (hx : x ≤ f.infBits) : ∃ ints, genInteger f r x = .ok ints ∧ ints.length ≤ f.bias + 2 :=
  genInteger_total hf.fok hr (hf.radix_lt hr36) hr36 hf.fuel.2.1 hx

/-- **digit generation never PANICs** (both loops, carry included) -/
theorem radix_generate_total (cf : Bool) {f : Fmt} (hf : StdFmt f) {r : Nat} (hr : 2 ≤ r) (hr36 : r ≤ 36)
    {bits : Nat} (hb : bits < f.infBits) : ∃ g, generate cf f r bits = .ok g ∧ g.ints.length ≤ f.bias + 2 :=
  generate_total hf.fok hr (hf.radix_lt hr36) cf hf.fuel.1 hf.fuel.2.1 hr36 hb

/-! ### integer exactness — the `IeeeExact` assumption discharged -/

/-- the three float operations of the integer path as the full model computes them (exact result, then `roundNE`),
read back as integers -/
def modelOps (f : Fmt) : FOps :=
  ⟨fun a b => Proof.RoundNE.ival f (fmod f (ofNat f a) (ofNat f b)) / unit f,
   fun a b => Proof.RoundNE.ival f (fsub f (ofNat f a) (ofNat f b)) / unit f,
   fun a b => Proof.RoundNE.ival f (fdiv f (ofNat f a) (ofNat f b)) / unit f⟩

/-- **`IeeeExact` holds of the modelled arithmetic**: for the full model it is a theorem, not an assumption -/
theorem ieeeExact_modelOps {f : Fmt} (h : FOK f) : IeeeExact (2 * 2 ^ (f.p - 1)) (modelOps f) := by
  intro a b ha hb0 hb
  have hu := unit_pos f
  have val : ∀ {n : Nat}, n < 2 * 2 ^ (f.p - 1) → Proof.RoundNE.ival f (ofNat f n) / unit f = n := by
    intro n hn; rw [(ofNat_ival h hn).1, Nat.mul_div_cancel _ hu]
  refine ⟨?_, ?_, ?_, ?_⟩
  · show Proof.RoundNE.ival f (fmod f (ofNat f a) (ofNat f b)) / unit f = a % b
    rw [fmod_ofNat h ha hb hb0]
    exact val (Nat.lt_trans (Nat.mod_lt _ hb0) hb)
  · intro hle
    show Proof.RoundNE.ival f (fsub f (ofNat f a) (ofNat f b)) / unit f = a - b
    rw [fsub_ofNat h ha hle]
    exact val (by omega)
  · show Proof.RoundNE.ival f (fsub f (ofNat f a) (ofNat f 0)) / unit f = a
    rw [fsub_ofNat h ha (Nat.zero_le _)]
    exact val ha
  · intro hdvd
    show Proof.RoundNE.ival f (fdiv f (ofNat f a) (ofNat f b)) / unit f = a / b
    rw [fdiv_ofNat h ha hb hb0 hdvd]
    exact val (Nat.lt_of_le_of_lt (Nat.div_le_self _ _) ha)

/-- **C07 integer clause on the full model** (either back-trace): for the float of an integer `0 < n < 2^p`
(`2^53` / `2^24`) and every radix 2..36, digit generation of the whole writer yields exactly the canonical numeral
`toDigits r n` as integer digits, no fraction digit and nothing else — the integer-path model's digits
(`integerDigits`), with no arithmetic assumption. -/
theorem radix_integer_exact_full (cf : Bool) {f : Fmt} (hf : StdFmt f) {r : Nat} (hr : 2 ≤ r) (hr36 : r ≤ 36)
    {n : Nat} (h0 : 0 < n) (hn : n < 2 * 2 ^ (f.p - 1)) :
    generate cf f r (ofNat f n) = .ok ⟨(toDigits r n).map digitChar, [], []⟩
    ∧ integerDigits (modelOps f) r n = toDigits r n := by
  refine ⟨generate_integral cf hf.fok hf.fuel.2.2 hr hr36 (hf.radix_lt hr36) hn, ?_⟩
  have h64 : 2 * 2 ^ (f.p - 1) ≤ 2 ^ 64 := by rcases hf with rfl | rfl <;> decide
  exact (radix_integer_exact (modelOps f) r _ n (ieeeExact_modelOps hf.fok) hr (hf.radix_lt hr36) h0 hn h64).1

/-- **the full model on an integral float equals the integer-path model, text level**: for the float of an integer
`0 < n < 2^p`, default `max_significant_digits`, any other options / format flags / feature set, the whole writer
returns exactly the bytes `render (layoutInt …)` of the integer-path model (run on the modelled arithmetic), or PANICs
iff the caller's slice is shorter than the highest index `hi` it touches. With `radix_integer_exact*` this carries the
positional / scientific exactness statements over to the full model. -/
theorem radix_integer_text_full (cf : Bool) {f : Fmt} (hf : StdFmt f) (feats : Features) (fmt : Format)
    (hr : 2 ≤ fmt.mantissaRadix) (hr36 : fmt.mantissaRadix ≤ 36) (o : WOpts) (ho : o.maxDigits = none)
    {n : Nat} (h0 : 0 < n) (hn : n < 2 * 2 ^ (f.p - 1)) (len : Nat) :
    ∃ hi, WriteRadix.writeFloat cf feats f fmt o (ofNat f n) len =
      if hi > len then .panic
      else .ok (WriteBinary.render (WriteFloat.effFmt feats fmt) feats o
        (layoutInt (WriteFloat.effFmt feats fmt) o (modelOps f) n)) := by
  have hmr : (WriteFloat.effFmt feats fmt).mantissaRadix = fmt.mantissaRadix :=
    LexVerif.Proof.WriteFloatBuf.effFmt_byte feats fmt _ (by decide)
  obtain ⟨hgen, hdig⟩ := radix_integer_exact_full cf hf hr hr36 h0 hn
  obtain ⟨d0, t, hdt, hd0⟩ := LexVerif.Proof.WriteBinaryDigits.toDigits_head_pos fmt.mantissaRadix n hr h0
  have h64 : 2 * 2 ^ (f.p - 1) ≤ 2 ^ 64 := by rcases hf with rfl | rfl <;> decide
  have hlen : (toDigits fmt.mantissaRadix n).length ≤ 64 := by
    apply toDigits_length_le _ _ 64 hr (by decide)
    calc n < 2 ^ 64 := by omega
      _ ≤ fmt.mantissaRadix ^ 64 := Nat.pow_le_pow_left hr 64
  rw [hdt] at hlen hdig
  obtain ⟨hi, hl⟩ := LexVerif.Proof.WriteRadixIntText.layoutText_int (WriteFloat.effFmt feats fmt) feats o ho
    (modelOps f) n d0 t (by rw [hmr]; exact hdig) hd0 (by simp only [List.length_cons] at hlen; omega)
  rw [hmr] at hl
  rw [hdt] at hgen
  exact ⟨hi, writeFloat_of_ok (wf := false) len hgen hl⟩

/-- non-vacuity: `2^53 - 1` and `2^24 - 1` are such integers -/
example : generate true f64 36 (ofNat f64 (2 ^ 53 - 1)) = .ok ⟨(toDigits 36 (2 ^ 53 - 1)).map digitChar, [], []⟩ :=
  (radix_integer_exact_full true (Or.inl rfl) (by decide) (by decide) (by decide) (by decide)).1
example : generate false f32 3 (ofNat f32 (2 ^ 24 - 1)) = .ok ⟨(toDigits 3 (2 ^ 24 - 1)).map digitChar, [], []⟩ :=
  (radix_integer_exact_full false (Or.inr rfl) (by decide) (by decide) (by decide) (by decide)).1

/-- the split `float = integer + fraction` is exact (`floor` and the subtraction do not round) -/
theorem radix_split_exact {f : Fmt} (hf : StdFmt f) {bits : Nat} (hb : bits < f.infBits) :
    Proof.RoundNE.ival f (ffloor f bits) + Proof.RoundNE.ival f (fsub f bits (ffloor f bits)) = Proof.RoundNE.ival f bits := by
  rw [(ffloor_exact hf.fok.wf hb).1, fsub_ffloor_exact hf.fok.wf hb, Nat.mul_comm]
  exact Nat.div_add_mod _ _

/-- **one iteration of the fraction loop is exact up to ONE rounding**: with `fraction ≤ 1`,
`P = round(fraction · base)` is the only inexact operation; `digit = ⌊P⌋ ≤ radix` and the next `fraction = P - digit`
exactly, so `digit + fraction' = P` and `fraction' < 1` (values in units of `2^-L`). -/
theorem radix_fraction_step_partial {f : Fmt} (hf : StdFmt f) {r : Nat} (hr36 : r ≤ 36) {x : Nat} (hx : x ≤ one f) :
    let P := fmul f x (ofNat f r)
    let digit := asU32 f P
    digit * unit f + Proof.RoundNE.ival f (fsub f P (ofNat f digit)) = Proof.RoundNE.ival f P
      ∧ digit ≤ r ∧ fsub f P (ofNat f digit) < one f := by
  intro P digit
  obtain ⟨_, hle, _, hlt⟩ := frac_step hf.fok hr36 (hf.radix_lt hr36) hx
  exact ⟨frac_split hf.fok hr36 (hf.radix_lt hr36) hx, hle, hlt⟩

/-- **accumulated error of the fraction digits** (an ingredient of the ulp clause). Whatever the fraction loop
returns is, for some `n ≥ 1`, the `n`-digit trace `d₁ … dₙ` of the iteration (`fracIter`), either as it stands or after
the final round-up back-trace; and for that trace, in units of `2^-L` (`U = 2^L` is 1.0, `B = 2^(bias+3)` is half an
ulp of a float below 64):

    | fraction · rⁿ  −  (d₁…dₙ)ᵣ · U  −  fractionₙ |  ≤  B · (1 + r + … + rⁿ⁻¹)

i.e. `|fraction − 0.d₁…dₙ − fractionₙ·r⁻ⁿ| < 2^(5−p)/(r−1)` — an ABSOLUTE error below `2^-48/(r−1)` (f64),
`2^-19/(r−1)` (f32). (Used for `1 ≤ |x| < 2^p`; below 1 the RELATIVE bound `fracIter_close` is needed.) -/
theorem radix_fraction_error_partial (cf : Bool) {f : Fmt} (hf : StdFmt f) {r : Nat} (hr36 : r ≤ 36)
    {fuel x delta : Nat} {acc : List Nat} {out : List Nat × List Nat × Bool} (hx : x ≤ one f)
    (h : fracLoop cf f r (ofNat f r) fuel x delta acc = .ok out) :
    ∃ n, 1 ≤ n ∧ n ≤ fuel ∧
      (out = (((fracIter f r n x).1.map (digitToCharConst · r)).reverse ++ acc, [], false) ∨
       out = backtrace cf r (((fracIter f r n x).1.map (digitToCharConst · r)).reverse ++ acc) []) ∧
      (fracIter f r n x).1.length = n ∧
      ofDigits r (fracIter f r n x).1 * unit f + Proof.RoundNE.ival f (fracIter f r n x).2
        ≤ Proof.RoundNE.ival f x * r ^ n + errB f * geom r n ∧
      Proof.RoundNE.ival f x * r ^ n
        ≤ ofDigits r (fracIter f r n x).1 * unit f + Proof.RoundNE.ival f (fracIter f r n x).2 + errB f * geom r n := by
  obtain ⟨n, h1, h2, _, h3⟩ := fracLoop_run cf f r fuel x delta acc out h
  obtain ⟨e1, _, _, e4, e5⟩ := fracIter_err hf.fok hr36 (hf.radix_lt hr36) n x hx
  exact ⟨n, h1, h2, h3.imp And.left And.left, e1, e4, e5⟩

/-- the error constant is `2^-48` (f64) / `2^-19` (f32) of 1.0, and the geometric sum is `(rⁿ − 1)/(r − 1)` -/
example : errB f64 * 2 ^ 48 = unit f64 ∧ errB f32 * 2 ^ 19 = unit f32 := by decide +kernel
theorem geom_closed {r : Nat} (hr : 1 ≤ r) : ∀ n, geom r n * (r - 1) + 1 = r ^ n
  | 0 => by simp [geom]
  | n + 1 => by
    obtain ⟨k, rfl⟩ : ∃ k, r = k + 1 := ⟨r - 1, by omega⟩
    have ih := geom_closed hr n
    simp only [Nat.add_sub_cancel] at ih ⊢
    unfold geom
    calc ((k + 1) ^ n + geom (k + 1) n) * k + 1 = (k + 1) ^ n * k + (geom (k + 1) n * k + 1) := by ring
      _ = (k + 1) ^ n * k + (k + 1) ^ n := by rw [ih]
      _ = (k + 1) ^ (n + 1) := by ring

/-- the digit is `< radix`, not only `≤` (`fraction.as_u32()` never yields the radix itself); independent of the
back-trace -/
theorem radix_fraction_digit_lt {f : Fmt} (hf : StdFmt f) {r : Nat} (hr : r ∈ genericRadices) {x : Nat}
    (hx : x < one f) : asU32 f (fmul f x (ofNat f r)) < r :=
  fracDigit_lt hf.fok (genericRadices_bounds r hr).2 (hf.radix_lt (genericRadices_bounds r hr).2) (hf.predOne hr) hx

/-- **C07 ulp clause, full statement (digit level) — proved below as `radix_error_bound` from the three range theorems
`radix_error_bound_small_partial`, `radix_error_bound_mid_partial`, `radix_error_bound_big_partial`.**
For every finite binary32/binary64 pattern and every generic radix, the digits `ints . fracs` the writer generates
denote a number whose nearest float is within 2048 (f64) / 256 (f32) patterns of the input. -/
def C07_radix_error_bound : Prop :=
  ∀ (f : Fmt), StdFmt f → ∀ r ∈ genericRadices, ∀ bits < f.infBits, ∀ g, generate true f r bits = .ok g →
    ulpDist (roundNE f (ofDigits r ((g.ints ++ g.fracs).map byteDigit)) (r ^ g.fracs.length)) bits
      ≤ (if f = f64 then 2048 else 256)

theorem StdFmt.radixFmt {f : Fmt} (h : StdFmt f) : ∃ Ns Z, RadixFmt f Ns Z := by
  rcases h with rfl | rfl; exacts [⟨_, _, radixFmt_f64⟩, ⟨_, _, radixFmt_f32⟩]

/-- **C07 ulp clause on the range `1 ≤ |x| < 2^p`** (`2^53` / `2^24`), every generic radix, binary32 and binary64:
the digits the writer generates denote a number whose nearest float is at most **34 patterns (ulps of the original
float's neighbourhood)** from the input — at most 17 above, at most 34 below (the value is within 16.5 ulp of the
input: half an ulp from `delta`, 16 ulp from the accumulated roundings; below a power of two the spacing halves).
At most `2p` digits are generated, so `PositionalFits` holds and the text is laid out from all of them
(`radix_layout_keeps_all_digits`, default `max_significant_digits`). The judge's limits are 2048 / 256. -/
theorem radix_error_bound_mid_partial {f : Fmt} (hf : StdFmt f) {r : Nat} (hr : r ∈ genericRadices) {bits : Nat}
    (h1 : one f ≤ bits) (h2 : bits < (f.bias + f.p) * 2 ^ (f.p - 1)) {g : Gen}
    (hg : generate true f r bits = .ok g) :
    ulpDist (roundNE f (ofDigits r ((g.ints ++ g.fracs).map byteDigit)) (r ^ g.fracs.length)) bits ≤ 34
    ∧ PositionalFits g := by
  obtain ⟨h3, h36⟩ := genericRadices_bounds r hr
  obtain ⟨Ns, Z, m⟩ := hf.radixFmt
  obtain ⟨e1, e2⟩ := error_mid m h3 h36 (hf.predOne hr) h1 h2 hg
  refine ⟨e1, ?_⟩
  unfold PositionalFits maxDigitLength
  have : 2 * f.p ≤ 232 := by rcases hf with rfl | rfl <;> decide
  omega

/-- **C07 ulp clause on the range `|x| ≥ 2^p`** (every finite float from `2^53` / `2^24` up to the largest), every
generic radix: such a float is an even integer, there are no fraction digits, and the digits the integer loops produce
(zero padding `integer /= base` — each step within a factor `1 ± 2^-p`, at most 613 / 66 steps because `3^z` cannot exceed
the float's range — then one doubly rounded digit step, then exact steps) denote a number whose nearest float is at most
**1340 patterns (binary64) / 246 patterns (binary32)** from the input — stated with a margin: `error_big` proves
`2·Z + 78`, 1304 / 210. The judge's limits are 2048 / 256.
(`PositionalFits` can fail here: more than 232 integer digits in positional notation are cut to zeros.) -/
theorem radix_error_bound_big_partial {f : Fmt} (hf : StdFmt f) {r : Nat} (hr : r ∈ genericRadices) {bits : Nat}
    (h1 : (f.bias + f.p) * 2 ^ (f.p - 1) ≤ bits) (h2 : bits < f.infBits) {g : Gen}
    (hg : generate true f r bits = .ok g) :
    ulpDist (roundNE f (ofDigits r ((g.ints ++ g.fracs).map byteDigit)) (r ^ g.fracs.length)) bits
      ≤ (if f = f64 then 1340 else 246) := by
  obtain ⟨h3, h36⟩ := genericRadices_bounds r hr
  rcases hf with rfl | rfl
  · exact Nat.le_trans (error_big radixFmt_f64 h3 h36 h1 h2 hg) (by decide)
  · exact Nat.le_trans (error_big radixFmt_f32 h3 h36 h1 h2 hg) (by decide)

/-- **C07 ulp clause on the range `0 ≤ |x| < 1`** (zero, subnormals and every float below 1), every generic radix: the
float is its own fraction; every `round(fraction · base)` has a RELATIVE error `≤ 2^-p` (exact for subnormal results), the
telescoped error after `N` digits is `≤ (N + 1)` ulps of the input, the exit residual `≤ 2` ulps, and `N ≤ 679` / `95`
because `delta` grows by a factor `≥ 3(1 − 2^-p)` per step and the loop ends once `delta ≥ 1`. The nearest float of the
digits is at most **1364 patterns (binary64) / 196 patterns (binary32)** from the input (limits 2048 / 256). -/
theorem radix_error_bound_small_partial {f : Fmt} (hf : StdFmt f) {r : Nat} (hr : r ∈ genericRadices) {bits : Nat}
    (h1 : bits < one f) {g : Gen} (hg : generate true f r bits = .ok g) :
    ulpDist (roundNE f (ofDigits r ((g.ints ++ g.fracs).map byteDigit)) (r ^ g.fracs.length)) bits
      ≤ (if f = f64 then 1364 else 196) := by
  obtain ⟨h3, h36⟩ := genericRadices_bounds r hr
  rcases hf with rfl | rfl
  · exact error_small radixFmt_f64 h3 h36 (predOne_table_f64 r hr) h1 hg
  · exact error_small radixFmt_f32 h3 h36 (predOne_table_f32 r hr) h1 hg

/-- the range of `radix_error_bound_mid_partial` in bit patterns: `[1.0, 2^p)` -/
example : one f64 = 0x3ff0000000000000 ∧ (f64.bias + f64.p) * 2 ^ (f64.p - 1) = 0x4340000000000000
    ∧ one f32 = 0x3f800000 ∧ (f32.bias + f32.p) * 2 ^ (f32.p - 1) = 0x4b800000 := by decide +kernel

/-- non-vacuity: binary32 10.7 in radix 3 -/
example : ∃ g, generate true f32 3 0x412b3333 = .ok g ∧
    ulpDist (roundNE f32 (ofDigits 3 ((g.ints ++ g.fracs).map byteDigit)) (3 ^ g.fracs.length)) 0x412b3333 ≤ 34 := by
  obtain ⟨g, hg, _⟩ := radix_generate_total true (Or.inr rfl : StdFmt f32) (r := 3) (by decide) (by decide)
    (bits := 0x412b3333) (by decide)
  exact ⟨g, hg, (radix_error_bound_mid_partial (Or.inr rfl) (by decide) (by decide +kernel) (by decide +kernel) hg).1⟩

/-- **the exclusion for the text** (finding C07-generic-radix-positional-truncation): the layout only looks at the
first 232 bytes of the generated digits. `PositionalFits g` — integer and fraction digits together are at most 232 —
is the exact condition under which (default `max_significant_digits`) the text is laid out from ALL generated digits:
`layoutText = layoutAll`. -/
theorem radix_layout_keeps_all_digits (fmt : Format) (feats : Features) (o : WOpts) (ho : o.maxDigits = none)
    (r : Nat) (g : Gen) (hfit : PositionalFits g) : layoutText fmt feats o r g = layoutAll fmt feats o g :=
  layoutText_all fmt feats o ho r g hfit

/-- decided witness of the excluded case: 232 fraction zeros followed by `1` (a value `3^-233`; such buffers arise,
e.g. corpus op `wf f64 6060…0c e05fa782cd98f39 - - 1 -700 …` replayed through the correspondence) do not fit, and the
positional text is `"0."` — the only significant digit is gone, while the layout of all digits keeps it -/
theorem positional_truncation_witness :
    let g : Gen := ⟨[48], List.replicate 232 48 ++ [49], []⟩
    ¬ PositionalFits g
    ∧ (layoutText fmt3 featsRadix { negBreak := some (-700) } 3 g).bind (fun t => .ok t.text) = .ok [48, 46]
    ∧ (layoutAll fmt3 featsRadix { negBreak := some (-700) } g).bind (fun t => .ok t.text)
        = .ok ([48, 46] ++ List.replicate 232 48 ++ [49]) := by
  refine ⟨by decide +kernel, by decide +kernel, by decide +kernel⟩

/-- **C07 ulp clause — the full statement is a theorem** (digit level): the three ranges `[0,1)`, `[1,2^p)`, `[2^p,∞)`
cover every finite pattern; proved constants 1364 (binary64) and 246 (binary32), below the judge's 2048 / 256. What the
TEXT denotes equals what the digits denote when the layout keeps all digits: default `max_significant_digits` and
`PositionalFits` (`radix_layout_keeps_all_digits`; always true for `1 ≤ |x| < 2^p`); the excluded case is the recorded
finding C07-generic-radix-positional-truncation (`positional_truncation_witness`). -/
theorem radix_error_bound : C07_radix_error_bound := by
  intro f hf r hr bits hb g hg
  by_cases h1 : bits < one f
  · have := radix_error_bound_small_partial hf hr h1 hg
    rcases hf with rfl | rfl
    · simp only [if_true] at this ⊢; omega
    · rw [if_neg (by decide)] at this ⊢; omega
  · by_cases h2 : bits < (f.bias + f.p) * 2 ^ (f.p - 1)
    · have := (radix_error_bound_mid_partial hf hr (Nat.le_of_not_lt h1) h2 hg).1
      split <;> omega
    · have := radix_error_bound_big_partial hf hr (Nat.le_of_not_lt h2) hb hg
      rcases hf with rfl | rfl
      · simp only [if_true] at this ⊢; omega
      · rw [if_neg (by decide)] at this ⊢; omega

/-! ### the positional findings and their repairs

`writeFloat … wf mf`: `wf` = fixes/C07-generic-radix-positional-truncation.diff (digit window starts at the first
significant digit), `mf` = fixes/C14-generic-digit-options-min-and-literal.diff; the defaults `false` are the writer without these repairs,
the driver runs `WriteRadix.repoHasWindowFix = repoHasMinPadFix = true`. -/

/-- **root cause of C07-generic-radix-positional-truncation, decided**: the 232-byte window of
`write_float_nonscientific` starts at the first INTEGER digit; with 232 leading fraction zeros the only significant digit
falls outside (`"0."`); the repaired window keeps it. -/
theorem positional_truncation_root_cause :
    let g : Gen := ⟨[48], List.replicate 232 48 ++ [49], []⟩
    let o : WOpts := { negBreak := some (-700) }
    (layoutText fmt3 featsRadix o 3 g).bind (fun t => .ok t.text) = .ok [48, 46]
    ∧ (layoutTextW false fmt3 featsRadix o 3 g).bind (fun t => .ok t.text)
        = .ok ([48, 46] ++ List.replicate 232 48 ++ [49])
    ∧ ¬ PositionalFits g ∧ SigFits g := by
  refine ⟨by decide +kernel, by decide +kernel, by decide +kernel, by decide +kernel⟩

/-- with the repaired window the layout uses ALL digits whenever at most 232 of them are SIGNIFICANT -/
theorem radix_layoutW_keeps_all_digits (mf : Bool) (o : WOpts) (ho : o.maxDigits = none) (r : Nat) (g : Gen)
    (hfit : SigFits g) :
    nonsciTextW mf o r g = .ok (if mf then
        nonsciFinish2 (min (ltrimCount 48 (g.ints ++ g.fracs)) (g.ints.length + g.fracs.length - 1)) o
          (g.ints ++ g.fracs) g.ints.length
      else nonsciFinish o (g.ints ++ g.fracs) g.ints.length) := by
  unfold nonsciTextW
  dsimp only
  rw [truncateAndRound_none _ o ho]
  simp only [Res.bind, Bool.false_eq_true, false_and, if_false, Nat.add_zero]
  rw [buf_take_all g hfit]

/-- well-formedness for the repaired writers too (every option set, either tail) -/
theorem radix_wellformed_repaired (mf : Bool) {f : Fmt} (hf : StdFmt f) {r : Nat} (hr : r ∈ genericRadices)
    (feats : Features) (fmt : Format) (hfr : fmt.mantissaRadix = r) (her : 2 ≤ fmt.exponentRadix) (o : WOpts)
    {bits : Nat} (hb : bits < f.infBits) (len : Nat) {text : List Nat}
    (hw : WriteRadix.writeFloat true feats f fmt o bits len true mf = .ok text) :
    WellFormed r fmt.exponentRadix o.dp o.exp text := by
  subst hfr
  obtain ⟨h3, h36⟩ := genericRadices_bounds _ hr
  obtain ⟨g, hg, hd, hne, _⟩ := hf.generate_ready hr hb
  exact writeFloat_wellFormed_of_digits true true mf feats f fmt o (by omega) h36 her hg hd hne hw

/-- … and they never PANIC either (except for a too short output slice) -/
theorem radix_write_total_repaired (mf : Bool) {f : Fmt} (hf : StdFmt f) {r : Nat} (hr : r ∈ genericRadices)
    (feats : Features) (fmt : Format) (hfr : fmt.mantissaRadix = r) (o : WOpts) (ho : o.maxDigits ≠ some 0)
    {bits : Nat} (hb : bits < f.infBits) (len : Nat) :
    ∃ t : Text, WriteRadix.writeFloat true feats f fmt o bits len true mf
      = if t.hi > len then .panic else .ok t.text := by
  subst hfr
  obtain ⟨h3, h36⟩ := genericRadices_bounds _ hr
  obtain ⟨g, hg, hd, hne, hil⟩ := hf.generate_ready hr hb
  exact writeFloat_total_of_digits true true mf feats f fmt o ho (by omega) h36 len hg hd hne hil

end RadixFull

end LexVerif.Props.C07
