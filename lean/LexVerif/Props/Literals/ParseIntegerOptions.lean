import LexVerif.Gen.Literals
import LexVerif.Spec.LiteralsExpected
/-!
# Literals.ParseIntegerOptions — lexical-parse-integer/src/options.rs still has the literals and token shape the models were transcribed from

`Gen.Literals.ParseIntegerOptions` is re-extracted from /repo's source text on every run; `Spec.LiteralsExpected.ParseIntegerOptions` is the
committed snapshot. One theorem per fn / macro item, so a failing obligation names the item whose source moved;
`items_same` catches added or removed items. (Written by `extractors.literals.snapshot()`.)
-/
namespace LexVerif.Props.Literals.ParseIntegerOptions
open LexVerif

theorem items_same : Gen.Literals.ParseIntegerOptions.items = Spec.LiteralsExpected.ParseIntegerOptions.items := rfl
theorem k_new : Gen.Literals.ParseIntegerOptions.k_new = Spec.LiteralsExpected.ParseIntegerOptions.k_new := rfl
theorem k_get_no_multi_digit : Gen.Literals.ParseIntegerOptions.k_get_no_multi_digit = Spec.LiteralsExpected.ParseIntegerOptions.k_get_no_multi_digit := rfl
theorem k_no_multi_digit : Gen.Literals.ParseIntegerOptions.k_no_multi_digit = Spec.LiteralsExpected.ParseIntegerOptions.k_no_multi_digit := rfl
theorem k_is_valid : Gen.Literals.ParseIntegerOptions.k_is_valid = Spec.LiteralsExpected.ParseIntegerOptions.k_is_valid := rfl
theorem k_build_unchecked : Gen.Literals.ParseIntegerOptions.k_build_unchecked = Spec.LiteralsExpected.ParseIntegerOptions.k_build_unchecked := rfl
theorem k_build_strict : Gen.Literals.ParseIntegerOptions.k_build_strict = Spec.LiteralsExpected.ParseIntegerOptions.k_build_strict := rfl
theorem k_build : Gen.Literals.ParseIntegerOptions.k_build = Spec.LiteralsExpected.ParseIntegerOptions.k_build := rfl
theorem k_default : Gen.Literals.ParseIntegerOptions.k_default = Spec.LiteralsExpected.ParseIntegerOptions.k_default := rfl
theorem k_from_radix : Gen.Literals.ParseIntegerOptions.k_from_radix = Spec.LiteralsExpected.ParseIntegerOptions.k_from_radix := rfl
theorem k_set_no_multi_digit : Gen.Literals.ParseIntegerOptions.k_set_no_multi_digit = Spec.LiteralsExpected.ParseIntegerOptions.k_set_no_multi_digit := rfl
theorem k_builder : Gen.Literals.ParseIntegerOptions.k_builder = Spec.LiteralsExpected.ParseIntegerOptions.k_builder := rfl
theorem k_rebuild : Gen.Literals.ParseIntegerOptions.k_rebuild = Spec.LiteralsExpected.ParseIntegerOptions.k_rebuild := rfl

end LexVerif.Props.Literals.ParseIntegerOptions
