import LexVerif.Gen.Literals
import LexVerif.Spec.LiteralsExpected
/-!
# Literals.UtilNum — lexical-util/src/num.rs still has the literals and token shape the models were transcribed from

`Gen.Literals.UtilNum` is re-extracted from /repo's source text on every run; `Spec.LiteralsExpected.UtilNum` is the
committed snapshot. One theorem per fn / macro item, so a failing obligation names the item whose source moved;
`items_same` catches added or removed items. (Written by `extractors.literals.snapshot()`.)
-/
namespace LexVerif.Props.Literals.UtilNum
open LexVerif

theorem items_same : Gen.Literals.UtilNum.items = Spec.LiteralsExpected.UtilNum.items := rfl
theorem k_as_u8 : Gen.Literals.UtilNum.k_as_u8 = Spec.LiteralsExpected.UtilNum.k_as_u8 := rfl
theorem k_as_u16 : Gen.Literals.UtilNum.k_as_u16 = Spec.LiteralsExpected.UtilNum.k_as_u16 := rfl
theorem k_as_u32 : Gen.Literals.UtilNum.k_as_u32 = Spec.LiteralsExpected.UtilNum.k_as_u32 := rfl
theorem k_as_u64 : Gen.Literals.UtilNum.k_as_u64 = Spec.LiteralsExpected.UtilNum.k_as_u64 := rfl
theorem k_as_u128 : Gen.Literals.UtilNum.k_as_u128 = Spec.LiteralsExpected.UtilNum.k_as_u128 := rfl
theorem k_as_usize : Gen.Literals.UtilNum.k_as_usize = Spec.LiteralsExpected.UtilNum.k_as_usize := rfl
theorem k_as_i8 : Gen.Literals.UtilNum.k_as_i8 = Spec.LiteralsExpected.UtilNum.k_as_i8 := rfl
theorem k_as_i16 : Gen.Literals.UtilNum.k_as_i16 = Spec.LiteralsExpected.UtilNum.k_as_i16 := rfl
theorem k_as_i32 : Gen.Literals.UtilNum.k_as_i32 = Spec.LiteralsExpected.UtilNum.k_as_i32 := rfl
theorem k_as_i64 : Gen.Literals.UtilNum.k_as_i64 = Spec.LiteralsExpected.UtilNum.k_as_i64 := rfl
theorem k_as_i128 : Gen.Literals.UtilNum.k_as_i128 = Spec.LiteralsExpected.UtilNum.k_as_i128 := rfl
theorem k_as_isize : Gen.Literals.UtilNum.k_as_isize = Spec.LiteralsExpected.UtilNum.k_as_isize := rfl
theorem k_as_f32 : Gen.Literals.UtilNum.k_as_f32 = Spec.LiteralsExpected.UtilNum.k_as_f32 := rfl
theorem k_as_f64 : Gen.Literals.UtilNum.k_as_f64 = Spec.LiteralsExpected.UtilNum.k_as_f64 := rfl
theorem k_from_u32 : Gen.Literals.UtilNum.k_from_u32 = Spec.LiteralsExpected.UtilNum.k_from_u32 := rfl
theorem k_from_u64 : Gen.Literals.UtilNum.k_from_u64 = Spec.LiteralsExpected.UtilNum.k_from_u64 := rfl
theorem k_as_f16 : Gen.Literals.UtilNum.k_as_f16 = Spec.LiteralsExpected.UtilNum.k_as_f16 := rfl
theorem k_as_bf16 : Gen.Literals.UtilNum.k_as_bf16 = Spec.LiteralsExpected.UtilNum.k_as_bf16 := rfl
theorem k_as_primitive_macro : Gen.Literals.UtilNum.k_as_primitive_macro = Spec.LiteralsExpected.UtilNum.k_as_primitive_macro := rfl
theorem k_half_as_primitive_macro : Gen.Literals.UtilNum.k_half_as_primitive_macro = Spec.LiteralsExpected.UtilNum.k_half_as_primitive_macro := rfl
theorem k_as_cast : Gen.Literals.UtilNum.k_as_cast = Spec.LiteralsExpected.UtilNum.k_as_cast := rfl
theorem k_as_cast_macro : Gen.Literals.UtilNum.k_as_cast_macro = Spec.LiteralsExpected.UtilNum.k_as_cast_macro := rfl
theorem k_primitive_macro : Gen.Literals.UtilNum.k_primitive_macro = Spec.LiteralsExpected.UtilNum.k_primitive_macro := rfl
theorem k_number_impl_macro : Gen.Literals.UtilNum.k_number_impl_macro = Spec.LiteralsExpected.UtilNum.k_number_impl_macro := rfl
theorem k_leading_zeros : Gen.Literals.UtilNum.k_leading_zeros = Spec.LiteralsExpected.UtilNum.k_leading_zeros := rfl
theorem k_trailing_zeros : Gen.Literals.UtilNum.k_trailing_zeros = Spec.LiteralsExpected.UtilNum.k_trailing_zeros := rfl
theorem k_pow : Gen.Literals.UtilNum.k_pow = Spec.LiteralsExpected.UtilNum.k_pow := rfl
theorem k_checked_pow : Gen.Literals.UtilNum.k_checked_pow = Spec.LiteralsExpected.UtilNum.k_checked_pow := rfl
theorem k_overflowing_pow : Gen.Literals.UtilNum.k_overflowing_pow = Spec.LiteralsExpected.UtilNum.k_overflowing_pow := rfl
theorem k_checked_add : Gen.Literals.UtilNum.k_checked_add = Spec.LiteralsExpected.UtilNum.k_checked_add := rfl
theorem k_checked_sub : Gen.Literals.UtilNum.k_checked_sub = Spec.LiteralsExpected.UtilNum.k_checked_sub := rfl
theorem k_checked_mul : Gen.Literals.UtilNum.k_checked_mul = Spec.LiteralsExpected.UtilNum.k_checked_mul := rfl
theorem k_overflowing_add : Gen.Literals.UtilNum.k_overflowing_add = Spec.LiteralsExpected.UtilNum.k_overflowing_add := rfl
theorem k_overflowing_sub : Gen.Literals.UtilNum.k_overflowing_sub = Spec.LiteralsExpected.UtilNum.k_overflowing_sub := rfl
theorem k_overflowing_mul : Gen.Literals.UtilNum.k_overflowing_mul = Spec.LiteralsExpected.UtilNum.k_overflowing_mul := rfl
theorem k_wrapping_add : Gen.Literals.UtilNum.k_wrapping_add = Spec.LiteralsExpected.UtilNum.k_wrapping_add := rfl
theorem k_wrapping_sub : Gen.Literals.UtilNum.k_wrapping_sub = Spec.LiteralsExpected.UtilNum.k_wrapping_sub := rfl
theorem k_wrapping_mul : Gen.Literals.UtilNum.k_wrapping_mul = Spec.LiteralsExpected.UtilNum.k_wrapping_mul := rfl
theorem k_wrapping_neg : Gen.Literals.UtilNum.k_wrapping_neg = Spec.LiteralsExpected.UtilNum.k_wrapping_neg := rfl
theorem k_saturating_add : Gen.Literals.UtilNum.k_saturating_add = Spec.LiteralsExpected.UtilNum.k_saturating_add := rfl
theorem k_saturating_sub : Gen.Literals.UtilNum.k_saturating_sub = Spec.LiteralsExpected.UtilNum.k_saturating_sub := rfl
theorem k_saturating_mul : Gen.Literals.UtilNum.k_saturating_mul = Spec.LiteralsExpected.UtilNum.k_saturating_mul := rfl
theorem k_ceil_divmod : Gen.Literals.UtilNum.k_ceil_divmod = Spec.LiteralsExpected.UtilNum.k_ceil_divmod := rfl
theorem k_ceil_div : Gen.Literals.UtilNum.k_ceil_div = Spec.LiteralsExpected.UtilNum.k_ceil_div := rfl
theorem k_ceil_mod : Gen.Literals.UtilNum.k_ceil_mod = Spec.LiteralsExpected.UtilNum.k_ceil_mod := rfl
theorem k_bit_length : Gen.Literals.UtilNum.k_bit_length = Spec.LiteralsExpected.UtilNum.k_bit_length := rfl
theorem k_is_odd : Gen.Literals.UtilNum.k_is_odd = Spec.LiteralsExpected.UtilNum.k_is_odd := rfl
theorem k_is_even : Gen.Literals.UtilNum.k_is_even = Spec.LiteralsExpected.UtilNum.k_is_even := rfl
theorem k_overflow_digits : Gen.Literals.UtilNum.k_overflow_digits = Spec.LiteralsExpected.UtilNum.k_overflow_digits := rfl
theorem k_integer_impl_macro : Gen.Literals.UtilNum.k_integer_impl_macro = Spec.LiteralsExpected.UtilNum.k_integer_impl_macro := rfl
theorem k_signed_integer_impl_macro : Gen.Literals.UtilNum.k_signed_integer_impl_macro = Spec.LiteralsExpected.UtilNum.k_signed_integer_impl_macro := rfl
theorem k_unsigned_integer_impl_macro : Gen.Literals.UtilNum.k_unsigned_integer_impl_macro = Spec.LiteralsExpected.UtilNum.k_unsigned_integer_impl_macro := rfl
theorem k_to_bits : Gen.Literals.UtilNum.k_to_bits = Spec.LiteralsExpected.UtilNum.k_to_bits := rfl
theorem k_from_bits : Gen.Literals.UtilNum.k_from_bits = Spec.LiteralsExpected.UtilNum.k_from_bits := rfl
theorem k_ln : Gen.Literals.UtilNum.k_ln = Spec.LiteralsExpected.UtilNum.k_ln := rfl
theorem k_floor : Gen.Literals.UtilNum.k_floor = Spec.LiteralsExpected.UtilNum.k_floor := rfl
theorem k_is_sign_positive : Gen.Literals.UtilNum.k_is_sign_positive = Spec.LiteralsExpected.UtilNum.k_is_sign_positive := rfl
theorem k_is_sign_negative : Gen.Literals.UtilNum.k_is_sign_negative = Spec.LiteralsExpected.UtilNum.k_is_sign_negative := rfl
theorem k_is_denormal : Gen.Literals.UtilNum.k_is_denormal = Spec.LiteralsExpected.UtilNum.k_is_denormal := rfl
theorem k_is_special : Gen.Literals.UtilNum.k_is_special = Spec.LiteralsExpected.UtilNum.k_is_special := rfl
theorem k_is_nan : Gen.Literals.UtilNum.k_is_nan = Spec.LiteralsExpected.UtilNum.k_is_nan := rfl
theorem k_is_inf : Gen.Literals.UtilNum.k_is_inf = Spec.LiteralsExpected.UtilNum.k_is_inf := rfl
theorem k_needs_negative_sign : Gen.Literals.UtilNum.k_needs_negative_sign = Spec.LiteralsExpected.UtilNum.k_needs_negative_sign := rfl
theorem k_exponent : Gen.Literals.UtilNum.k_exponent = Spec.LiteralsExpected.UtilNum.k_exponent := rfl
theorem k_mantissa : Gen.Literals.UtilNum.k_mantissa = Spec.LiteralsExpected.UtilNum.k_mantissa := rfl
theorem k_next : Gen.Literals.UtilNum.k_next = Spec.LiteralsExpected.UtilNum.k_next := rfl
theorem k_next_positive : Gen.Literals.UtilNum.k_next_positive = Spec.LiteralsExpected.UtilNum.k_next_positive := rfl
theorem k_prev : Gen.Literals.UtilNum.k_prev = Spec.LiteralsExpected.UtilNum.k_prev := rfl
theorem k_prev_positive : Gen.Literals.UtilNum.k_prev_positive = Spec.LiteralsExpected.UtilNum.k_prev_positive := rfl
theorem k_round_positive_even : Gen.Literals.UtilNum.k_round_positive_even = Spec.LiteralsExpected.UtilNum.k_round_positive_even := rfl
theorem k_max_finite : Gen.Literals.UtilNum.k_max_finite = Spec.LiteralsExpected.UtilNum.k_max_finite := rfl
theorem k_min_finite : Gen.Literals.UtilNum.k_min_finite = Spec.LiteralsExpected.UtilNum.k_min_finite := rfl
theorem k_float_literals_macro : Gen.Literals.UtilNum.k_float_literals_macro = Spec.LiteralsExpected.UtilNum.k_float_literals_macro := rfl
theorem k_float_masks_macro : Gen.Literals.UtilNum.k_float_masks_macro = Spec.LiteralsExpected.UtilNum.k_float_masks_macro := rfl
theorem k_float_one_macro : Gen.Literals.UtilNum.k_float_one_macro = Spec.LiteralsExpected.UtilNum.k_float_one_macro := rfl
theorem k_float_two_macro : Gen.Literals.UtilNum.k_float_two_macro = Spec.LiteralsExpected.UtilNum.k_float_two_macro := rfl
theorem k_float_max_macro : Gen.Literals.UtilNum.k_float_max_macro = Spec.LiteralsExpected.UtilNum.k_float_max_macro := rfl
theorem k_float_min_macro : Gen.Literals.UtilNum.k_float_min_macro = Spec.LiteralsExpected.UtilNum.k_float_min_macro := rfl
theorem k_float_nan_macro : Gen.Literals.UtilNum.k_float_nan_macro = Spec.LiteralsExpected.UtilNum.k_float_nan_macro := rfl

end LexVerif.Props.Literals.UtilNum
