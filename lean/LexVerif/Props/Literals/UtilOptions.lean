import LexVerif.Gen.Literals
import LexVerif.Spec.LiteralsExpected
/-!
# Literals.UtilOptions — lexical-util/src/options.rs still has the literals and token shape the models were transcribed from

`Gen.Literals.UtilOptions` is re-extracted from /repo's source text on every run; `Spec.LiteralsExpected.UtilOptions` is the
committed snapshot. One theorem per fn / macro item, so a failing obligation names the item whose source moved;
`items_same` catches added or removed items. (Written by `extractors.literals.snapshot()`.)
-/
namespace LexVerif.Props.Literals.UtilOptions
open LexVerif

theorem items_same : Gen.Literals.UtilOptions.items = Spec.LiteralsExpected.UtilOptions.items := rfl
theorem k_write_options_doc_macro : Gen.Literals.UtilOptions.k_write_options_doc_macro = Spec.LiteralsExpected.UtilOptions.k_write_options_doc_macro := rfl
theorem k_is_valid : Gen.Literals.UtilOptions.k_is_valid = Spec.LiteralsExpected.UtilOptions.k_is_valid := rfl
theorem k_buffer_size : Gen.Literals.UtilOptions.k_buffer_size = Spec.LiteralsExpected.UtilOptions.k_buffer_size := rfl
theorem k_literal_macro : Gen.Literals.UtilOptions.k_literal_macro = Spec.LiteralsExpected.UtilOptions.k_literal_macro := rfl

end LexVerif.Props.Literals.UtilOptions
