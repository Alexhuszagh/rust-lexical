import LexVerif.Gen.Literals
import LexVerif.Spec.LiteralsExpected
/-!
# Literals.UtilNoskip — lexical-util/src/noskip.rs still has the literals and token shape the models were transcribed from

`Gen.Literals.UtilNoskip` is re-extracted from /repo's source text on every run; `Spec.LiteralsExpected.UtilNoskip` is the
committed snapshot. One theorem per fn / macro item, so a failing obligation names the item whose source moved;
`items_same` catches added or removed items. (Written by `extractors.literals.snapshot()`.)
-/
namespace LexVerif.Props.Literals.UtilNoskip
open LexVerif

theorem items_same : Gen.Literals.UtilNoskip.items = Spec.LiteralsExpected.UtilNoskip.items := rfl
theorem k_bytes : Gen.Literals.UtilNoskip.k_bytes = Spec.LiteralsExpected.UtilNoskip.k_bytes := rfl
theorem k_new : Gen.Literals.UtilNoskip.k_new = Spec.LiteralsExpected.UtilNoskip.k_new := rfl
theorem k_from_parts : Gen.Literals.UtilNoskip.k_from_parts = Spec.LiteralsExpected.UtilNoskip.k_from_parts := rfl
theorem k_integer_iter : Gen.Literals.UtilNoskip.k_integer_iter = Spec.LiteralsExpected.UtilNoskip.k_integer_iter := rfl
theorem k_fraction_iter : Gen.Literals.UtilNoskip.k_fraction_iter = Spec.LiteralsExpected.UtilNoskip.k_fraction_iter := rfl
theorem k_exponent_iter : Gen.Literals.UtilNoskip.k_exponent_iter = Spec.LiteralsExpected.UtilNoskip.k_exponent_iter := rfl
theorem k_special_iter : Gen.Literals.UtilNoskip.k_special_iter = Spec.LiteralsExpected.UtilNoskip.k_special_iter := rfl
theorem k_get_buffer : Gen.Literals.UtilNoskip.k_get_buffer = Spec.LiteralsExpected.UtilNoskip.k_get_buffer := rfl
theorem k_cursor : Gen.Literals.UtilNoskip.k_cursor = Spec.LiteralsExpected.UtilNoskip.k_cursor := rfl
theorem k_set_cursor : Gen.Literals.UtilNoskip.k_set_cursor = Spec.LiteralsExpected.UtilNoskip.k_set_cursor := rfl
theorem k_current_count : Gen.Literals.UtilNoskip.k_current_count = Spec.LiteralsExpected.UtilNoskip.k_current_count := rfl
theorem k_step_by_unchecked : Gen.Literals.UtilNoskip.k_step_by_unchecked = Spec.LiteralsExpected.UtilNoskip.k_step_by_unchecked := rfl
theorem k_peek_many_unchecked : Gen.Literals.UtilNoskip.k_peek_many_unchecked = Spec.LiteralsExpected.UtilNoskip.k_peek_many_unchecked := rfl
theorem k_take_n : Gen.Literals.UtilNoskip.k_take_n = Spec.LiteralsExpected.UtilNoskip.k_take_n := rfl
theorem k_is_consumed : Gen.Literals.UtilNoskip.k_is_consumed = Spec.LiteralsExpected.UtilNoskip.k_is_consumed := rfl
theorem k_increment_count : Gen.Literals.UtilNoskip.k_increment_count = Spec.LiteralsExpected.UtilNoskip.k_increment_count := rfl
theorem k_peek : Gen.Literals.UtilNoskip.k_peek = Spec.LiteralsExpected.UtilNoskip.k_peek := rfl
theorem k_is_digit : Gen.Literals.UtilNoskip.k_is_digit = Spec.LiteralsExpected.UtilNoskip.k_is_digit := rfl
theorem k_next : Gen.Literals.UtilNoskip.k_next = Spec.LiteralsExpected.UtilNoskip.k_next := rfl
theorem k_len : Gen.Literals.UtilNoskip.k_len = Spec.LiteralsExpected.UtilNoskip.k_len := rfl

end LexVerif.Props.Literals.UtilNoskip
