import LexVerif.Gen.Literals
import LexVerif.Spec.LiteralsExpected
/-!
# Literals.WriteFloatFloat — lexical-write-float/src/float.rs still has the literals and token shape the models were transcribed from

`Gen.Literals.WriteFloatFloat` is re-extracted from /repo's source text on every run; `Spec.LiteralsExpected.WriteFloatFloat` is the
committed snapshot. One theorem per fn / macro item, so a failing obligation names the item whose source moved;
`items_same` catches added or removed items. (Written by `extractors.literals.snapshot()`.)
-/
namespace LexVerif.Props.Literals.WriteFloatFloat
open LexVerif

theorem items_same : Gen.Literals.WriteFloatFloat.items = Spec.LiteralsExpected.WriteFloatFloat.items := rfl

end LexVerif.Props.Literals.WriteFloatFloat
