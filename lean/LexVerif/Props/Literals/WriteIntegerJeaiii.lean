import LexVerif.Gen.Literals
import LexVerif.Spec.LiteralsExpected
/-!
# Literals.WriteIntegerJeaiii — lexical-write-integer/src/jeaiii.rs still has the literals and token shape the models were transcribed from

`Gen.Literals.WriteIntegerJeaiii` is re-extracted from /repo's source text on every run; `Spec.LiteralsExpected.WriteIntegerJeaiii` is the
committed snapshot. One theorem per fn / macro item, so a failing obligation names the item whose source moved;
`items_same` catches added or removed items. (Written by `extractors.literals.snapshot()`.)
-/
namespace LexVerif.Props.Literals.WriteIntegerJeaiii
open LexVerif

theorem items_same : Gen.Literals.WriteIntegerJeaiii.items = Spec.LiteralsExpected.WriteIntegerJeaiii.items := rfl
theorem k_next2 : Gen.Literals.WriteIntegerJeaiii.k_next2 = Spec.LiteralsExpected.WriteIntegerJeaiii.k_next2 := rfl
theorem k_u128_divrem_10_10pow10 : Gen.Literals.WriteIntegerJeaiii.k_u128_divrem_10_10pow10 = Spec.LiteralsExpected.WriteIntegerJeaiii.k_u128_divrem_10_10pow10 := rfl
theorem k_div128_rem_1e10 : Gen.Literals.WriteIntegerJeaiii.k_div128_rem_1e10 = Spec.LiteralsExpected.WriteIntegerJeaiii.k_div128_rem_1e10 := rfl
theorem k_i_macro : Gen.Literals.WriteIntegerJeaiii.k_i_macro = Spec.LiteralsExpected.WriteIntegerJeaiii.k_i_macro := rfl
theorem k_write_n_macro : Gen.Literals.WriteIntegerJeaiii.k_write_n_macro = Spec.LiteralsExpected.WriteIntegerJeaiii.k_write_n_macro := rfl
theorem k_print_n_macro : Gen.Literals.WriteIntegerJeaiii.k_print_n_macro = Spec.LiteralsExpected.WriteIntegerJeaiii.k_print_n_macro := rfl
theorem k_write_digits_macro : Gen.Literals.WriteIntegerJeaiii.k_write_digits_macro = Spec.LiteralsExpected.WriteIntegerJeaiii.k_write_digits_macro := rfl
theorem k_from_u8 : Gen.Literals.WriteIntegerJeaiii.k_from_u8 = Spec.LiteralsExpected.WriteIntegerJeaiii.k_from_u8 := rfl
theorem k_from_u16 : Gen.Literals.WriteIntegerJeaiii.k_from_u16 = Spec.LiteralsExpected.WriteIntegerJeaiii.k_from_u16 := rfl
theorem k_from_u32 : Gen.Literals.WriteIntegerJeaiii.k_from_u32 = Spec.LiteralsExpected.WriteIntegerJeaiii.k_from_u32 := rfl
theorem k_from_u64_impl : Gen.Literals.WriteIntegerJeaiii.k_from_u64_impl = Spec.LiteralsExpected.WriteIntegerJeaiii.k_from_u64_impl := rfl
theorem k_from_u64 : Gen.Literals.WriteIntegerJeaiii.k_from_u64 = Spec.LiteralsExpected.WriteIntegerJeaiii.k_from_u64 := rfl
theorem k_from_i64 : Gen.Literals.WriteIntegerJeaiii.k_from_i64 = Spec.LiteralsExpected.WriteIntegerJeaiii.k_from_i64 := rfl
theorem k_from_u128 : Gen.Literals.WriteIntegerJeaiii.k_from_u128 = Spec.LiteralsExpected.WriteIntegerJeaiii.k_from_u128 := rfl

end LexVerif.Props.Literals.WriteIntegerJeaiii
