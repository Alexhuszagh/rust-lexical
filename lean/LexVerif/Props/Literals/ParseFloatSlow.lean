import LexVerif.Gen.Literals
import LexVerif.Spec.LiteralsExpected
/-!
# Literals.ParseFloatSlow — lexical-parse-float/src/slow.rs still has the literals and token shape the models were transcribed from

`Gen.Literals.ParseFloatSlow` is re-extracted from /repo's source text on every run; `Spec.LiteralsExpected.ParseFloatSlow` is the
committed snapshot. One theorem per fn / macro item, so a failing obligation names the item whose source moved;
`items_same` catches added or removed items. (Written by `extractors.literals.snapshot()`.)
-/
namespace LexVerif.Props.Literals.ParseFloatSlow
open LexVerif

theorem items_same : Gen.Literals.ParseFloatSlow.items = Spec.LiteralsExpected.ParseFloatSlow.items := rfl
theorem k_slow_radix : Gen.Literals.ParseFloatSlow.k_slow_radix = Spec.LiteralsExpected.ParseFloatSlow.k_slow_radix := rfl
theorem k_digit_comp : Gen.Literals.ParseFloatSlow.k_digit_comp = Spec.LiteralsExpected.ParseFloatSlow.k_digit_comp := rfl
theorem k_positive_digit_comp : Gen.Literals.ParseFloatSlow.k_positive_digit_comp = Spec.LiteralsExpected.ParseFloatSlow.k_positive_digit_comp := rfl
theorem k_negative_digit_comp : Gen.Literals.ParseFloatSlow.k_negative_digit_comp = Spec.LiteralsExpected.ParseFloatSlow.k_negative_digit_comp := rfl
theorem k_try_parse_8digits_macro : Gen.Literals.ParseFloatSlow.k_try_parse_8digits_macro = Spec.LiteralsExpected.ParseFloatSlow.k_try_parse_8digits_macro := rfl
theorem k_add_digit_macro : Gen.Literals.ParseFloatSlow.k_add_digit_macro = Spec.LiteralsExpected.ParseFloatSlow.k_add_digit_macro := rfl
theorem k_add_temporary_macro : Gen.Literals.ParseFloatSlow.k_add_temporary_macro = Spec.LiteralsExpected.ParseFloatSlow.k_add_temporary_macro := rfl
theorem k_round_up_truncated_macro : Gen.Literals.ParseFloatSlow.k_round_up_truncated_macro = Spec.LiteralsExpected.ParseFloatSlow.k_round_up_truncated_macro := rfl
theorem k_round_up_nonzero_macro : Gen.Literals.ParseFloatSlow.k_round_up_nonzero_macro = Spec.LiteralsExpected.ParseFloatSlow.k_round_up_nonzero_macro := rfl
theorem k_parse_mantissa : Gen.Literals.ParseFloatSlow.k_parse_mantissa = Spec.LiteralsExpected.ParseFloatSlow.k_parse_mantissa := rfl
theorem k_integer_compare_macro : Gen.Literals.ParseFloatSlow.k_integer_compare_macro = Spec.LiteralsExpected.ParseFloatSlow.k_integer_compare_macro := rfl
theorem k_fraction_compare_macro : Gen.Literals.ParseFloatSlow.k_fraction_compare_macro = Spec.LiteralsExpected.ParseFloatSlow.k_fraction_compare_macro := rfl
theorem k_byte_comp : Gen.Literals.ParseFloatSlow.k_byte_comp = Spec.LiteralsExpected.ParseFloatSlow.k_byte_comp := rfl
theorem k_compare_bytes : Gen.Literals.ParseFloatSlow.k_compare_bytes = Spec.LiteralsExpected.ParseFloatSlow.k_compare_bytes := rfl
theorem k_scientific_exponent : Gen.Literals.ParseFloatSlow.k_scientific_exponent = Spec.LiteralsExpected.ParseFloatSlow.k_scientific_exponent := rfl
theorem k_b : Gen.Literals.ParseFloatSlow.k_b = Spec.LiteralsExpected.ParseFloatSlow.k_b := rfl
theorem k_bh : Gen.Literals.ParseFloatSlow.k_bh = Spec.LiteralsExpected.ParseFloatSlow.k_bh := rfl
theorem k_integral_binary_factor : Gen.Literals.ParseFloatSlow.k_integral_binary_factor = Spec.LiteralsExpected.ParseFloatSlow.k_integral_binary_factor := rfl

end LexVerif.Props.Literals.ParseFloatSlow
