import LexVerif.Gen.Literals
import LexVerif.Spec.LiteralsExpected
/-!
# Literals.UtilMul — lexical-util/src/mul.rs still has the literals and token shape the models were transcribed from

`Gen.Literals.UtilMul` is re-extracted from /repo's source text on every run; `Spec.LiteralsExpected.UtilMul` is the
committed snapshot. One theorem per fn / macro item, so a failing obligation names the item whose source moved;
`items_same` catches added or removed items. (Written by `extractors.literals.snapshot()`.)
-/
namespace LexVerif.Props.Literals.UtilMul
open LexVerif

theorem items_same : Gen.Literals.UtilMul.items = Spec.LiteralsExpected.UtilMul.items := rfl
theorem k_mul : Gen.Literals.UtilMul.k_mul = Spec.LiteralsExpected.UtilMul.k_mul := rfl
theorem k_mulhi : Gen.Literals.UtilMul.k_mulhi = Spec.LiteralsExpected.UtilMul.k_mulhi := rfl

end LexVerif.Props.Literals.UtilMul
