import LexVerif.Gen.Literals
import LexVerif.Spec.LiteralsExpected
/-!
# Literals.UtilDiv128 — lexical-util/src/div128.rs still has the literals and token shape the models were transcribed from

`Gen.Literals.UtilDiv128` is re-extracted from /repo's source text on every run; `Spec.LiteralsExpected.UtilDiv128` is the
committed snapshot. One theorem per fn / macro item, so a failing obligation names the item whose source moved;
`items_same` catches added or removed items. (Written by `extractors.literals.snapshot()`.)
-/
namespace LexVerif.Props.Literals.UtilDiv128
open LexVerif

theorem items_same : Gen.Literals.UtilDiv128.items = Spec.LiteralsExpected.UtilDiv128.items := rfl
theorem k_pow2_u128_divrem : Gen.Literals.UtilDiv128.k_pow2_u128_divrem = Spec.LiteralsExpected.UtilDiv128.k_pow2_u128_divrem := rfl
theorem k_fast_u128_divrem : Gen.Literals.UtilDiv128.k_fast_u128_divrem = Spec.LiteralsExpected.UtilDiv128.k_fast_u128_divrem := rfl
theorem k_moderate_u128_divrem : Gen.Literals.UtilDiv128.k_moderate_u128_divrem = Spec.LiteralsExpected.UtilDiv128.k_moderate_u128_divrem := rfl
theorem k_slow_u128_divrem : Gen.Literals.UtilDiv128.k_slow_u128_divrem = Spec.LiteralsExpected.UtilDiv128.k_slow_u128_divrem := rfl
theorem k_u128_divrem : Gen.Literals.UtilDiv128.k_u128_divrem = Spec.LiteralsExpected.UtilDiv128.k_u128_divrem := rfl
theorem k_u128_divrem_2 : Gen.Literals.UtilDiv128.k_u128_divrem_2 = Spec.LiteralsExpected.UtilDiv128.k_u128_divrem_2 := rfl
theorem k_u128_divrem_3 : Gen.Literals.UtilDiv128.k_u128_divrem_3 = Spec.LiteralsExpected.UtilDiv128.k_u128_divrem_3 := rfl
theorem k_u128_divrem_4 : Gen.Literals.UtilDiv128.k_u128_divrem_4 = Spec.LiteralsExpected.UtilDiv128.k_u128_divrem_4 := rfl
theorem k_u128_divrem_5 : Gen.Literals.UtilDiv128.k_u128_divrem_5 = Spec.LiteralsExpected.UtilDiv128.k_u128_divrem_5 := rfl
theorem k_u128_divrem_6 : Gen.Literals.UtilDiv128.k_u128_divrem_6 = Spec.LiteralsExpected.UtilDiv128.k_u128_divrem_6 := rfl
theorem k_u128_divrem_7 : Gen.Literals.UtilDiv128.k_u128_divrem_7 = Spec.LiteralsExpected.UtilDiv128.k_u128_divrem_7 := rfl
theorem k_u128_divrem_8 : Gen.Literals.UtilDiv128.k_u128_divrem_8 = Spec.LiteralsExpected.UtilDiv128.k_u128_divrem_8 := rfl
theorem k_u128_divrem_9 : Gen.Literals.UtilDiv128.k_u128_divrem_9 = Spec.LiteralsExpected.UtilDiv128.k_u128_divrem_9 := rfl
theorem k_u128_divrem_10 : Gen.Literals.UtilDiv128.k_u128_divrem_10 = Spec.LiteralsExpected.UtilDiv128.k_u128_divrem_10 := rfl
theorem k_u128_divrem_11 : Gen.Literals.UtilDiv128.k_u128_divrem_11 = Spec.LiteralsExpected.UtilDiv128.k_u128_divrem_11 := rfl
theorem k_u128_divrem_12 : Gen.Literals.UtilDiv128.k_u128_divrem_12 = Spec.LiteralsExpected.UtilDiv128.k_u128_divrem_12 := rfl
theorem k_u128_divrem_13 : Gen.Literals.UtilDiv128.k_u128_divrem_13 = Spec.LiteralsExpected.UtilDiv128.k_u128_divrem_13 := rfl
theorem k_u128_divrem_14 : Gen.Literals.UtilDiv128.k_u128_divrem_14 = Spec.LiteralsExpected.UtilDiv128.k_u128_divrem_14 := rfl
theorem k_u128_divrem_15 : Gen.Literals.UtilDiv128.k_u128_divrem_15 = Spec.LiteralsExpected.UtilDiv128.k_u128_divrem_15 := rfl
theorem k_u128_divrem_16 : Gen.Literals.UtilDiv128.k_u128_divrem_16 = Spec.LiteralsExpected.UtilDiv128.k_u128_divrem_16 := rfl
theorem k_u128_divrem_17 : Gen.Literals.UtilDiv128.k_u128_divrem_17 = Spec.LiteralsExpected.UtilDiv128.k_u128_divrem_17 := rfl
theorem k_u128_divrem_18 : Gen.Literals.UtilDiv128.k_u128_divrem_18 = Spec.LiteralsExpected.UtilDiv128.k_u128_divrem_18 := rfl
theorem k_u128_divrem_19 : Gen.Literals.UtilDiv128.k_u128_divrem_19 = Spec.LiteralsExpected.UtilDiv128.k_u128_divrem_19 := rfl
theorem k_u128_divrem_20 : Gen.Literals.UtilDiv128.k_u128_divrem_20 = Spec.LiteralsExpected.UtilDiv128.k_u128_divrem_20 := rfl
theorem k_u128_divrem_21 : Gen.Literals.UtilDiv128.k_u128_divrem_21 = Spec.LiteralsExpected.UtilDiv128.k_u128_divrem_21 := rfl
theorem k_u128_divrem_22 : Gen.Literals.UtilDiv128.k_u128_divrem_22 = Spec.LiteralsExpected.UtilDiv128.k_u128_divrem_22 := rfl
theorem k_u128_divrem_23 : Gen.Literals.UtilDiv128.k_u128_divrem_23 = Spec.LiteralsExpected.UtilDiv128.k_u128_divrem_23 := rfl
theorem k_u128_divrem_24 : Gen.Literals.UtilDiv128.k_u128_divrem_24 = Spec.LiteralsExpected.UtilDiv128.k_u128_divrem_24 := rfl
theorem k_u128_divrem_25 : Gen.Literals.UtilDiv128.k_u128_divrem_25 = Spec.LiteralsExpected.UtilDiv128.k_u128_divrem_25 := rfl
theorem k_u128_divrem_26 : Gen.Literals.UtilDiv128.k_u128_divrem_26 = Spec.LiteralsExpected.UtilDiv128.k_u128_divrem_26 := rfl
theorem k_u128_divrem_27 : Gen.Literals.UtilDiv128.k_u128_divrem_27 = Spec.LiteralsExpected.UtilDiv128.k_u128_divrem_27 := rfl
theorem k_u128_divrem_28 : Gen.Literals.UtilDiv128.k_u128_divrem_28 = Spec.LiteralsExpected.UtilDiv128.k_u128_divrem_28 := rfl
theorem k_u128_divrem_29 : Gen.Literals.UtilDiv128.k_u128_divrem_29 = Spec.LiteralsExpected.UtilDiv128.k_u128_divrem_29 := rfl
theorem k_u128_divrem_30 : Gen.Literals.UtilDiv128.k_u128_divrem_30 = Spec.LiteralsExpected.UtilDiv128.k_u128_divrem_30 := rfl
theorem k_u128_divrem_31 : Gen.Literals.UtilDiv128.k_u128_divrem_31 = Spec.LiteralsExpected.UtilDiv128.k_u128_divrem_31 := rfl
theorem k_u128_divrem_32 : Gen.Literals.UtilDiv128.k_u128_divrem_32 = Spec.LiteralsExpected.UtilDiv128.k_u128_divrem_32 := rfl
theorem k_u128_divrem_33 : Gen.Literals.UtilDiv128.k_u128_divrem_33 = Spec.LiteralsExpected.UtilDiv128.k_u128_divrem_33 := rfl
theorem k_u128_divrem_34 : Gen.Literals.UtilDiv128.k_u128_divrem_34 = Spec.LiteralsExpected.UtilDiv128.k_u128_divrem_34 := rfl
theorem k_u128_divrem_35 : Gen.Literals.UtilDiv128.k_u128_divrem_35 = Spec.LiteralsExpected.UtilDiv128.k_u128_divrem_35 := rfl
theorem k_u128_divrem_36 : Gen.Literals.UtilDiv128.k_u128_divrem_36 = Spec.LiteralsExpected.UtilDiv128.k_u128_divrem_36 := rfl

end LexVerif.Props.Literals.UtilDiv128
