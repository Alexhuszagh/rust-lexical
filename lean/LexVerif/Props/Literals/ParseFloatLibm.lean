import LexVerif.Gen.Literals
import LexVerif.Spec.LiteralsExpected
/-!
# Literals.ParseFloatLibm — lexical-parse-float/src/libm.rs still has the literals and token shape the models were transcribed from

`Gen.Literals.ParseFloatLibm` is re-extracted from /repo's source text on every run; `Spec.LiteralsExpected.ParseFloatLibm` is the
committed snapshot. One theorem per fn / macro item, so a failing obligation names the item whose source moved;
`items_same` catches added or removed items. (Written by `extractors.literals.snapshot()`.)
-/
namespace LexVerif.Props.Literals.ParseFloatLibm
open LexVerif

theorem items_same : Gen.Literals.ParseFloatLibm.items = Spec.LiteralsExpected.ParseFloatLibm.items := rfl
theorem k_i_macro : Gen.Literals.ParseFloatLibm.k_i_macro = Spec.LiteralsExpected.ParseFloatLibm.k_i_macro := rfl
theorem k_powf : Gen.Literals.ParseFloatLibm.k_powf = Spec.LiteralsExpected.ParseFloatLibm.k_powf := rfl
theorem k_sqrtf : Gen.Literals.ParseFloatLibm.k_sqrtf = Spec.LiteralsExpected.ParseFloatLibm.k_sqrtf := rfl
theorem k_fabsf : Gen.Literals.ParseFloatLibm.k_fabsf = Spec.LiteralsExpected.ParseFloatLibm.k_fabsf := rfl
theorem k_scalbnf : Gen.Literals.ParseFloatLibm.k_scalbnf = Spec.LiteralsExpected.ParseFloatLibm.k_scalbnf := rfl
theorem k_powd : Gen.Literals.ParseFloatLibm.k_powd = Spec.LiteralsExpected.ParseFloatLibm.k_powd := rfl
theorem k_fabsd : Gen.Literals.ParseFloatLibm.k_fabsd = Spec.LiteralsExpected.ParseFloatLibm.k_fabsd := rfl
theorem k_scalbnd : Gen.Literals.ParseFloatLibm.k_scalbnd = Spec.LiteralsExpected.ParseFloatLibm.k_scalbnd := rfl
theorem k_sqrtd : Gen.Literals.ParseFloatLibm.k_sqrtd = Spec.LiteralsExpected.ParseFloatLibm.k_sqrtd := rfl
theorem k_get_high_word : Gen.Literals.ParseFloatLibm.k_get_high_word = Spec.LiteralsExpected.ParseFloatLibm.k_get_high_word := rfl
theorem k_with_set_high_word : Gen.Literals.ParseFloatLibm.k_with_set_high_word = Spec.LiteralsExpected.ParseFloatLibm.k_with_set_high_word := rfl
theorem k_with_set_low_word : Gen.Literals.ParseFloatLibm.k_with_set_low_word = Spec.LiteralsExpected.ParseFloatLibm.k_with_set_low_word := rfl

end LexVerif.Props.Literals.ParseFloatLibm
