import LexVerif.Gen.Literals
import LexVerif.Spec.LiteralsExpected
/-!
# Literals.ParseFloatParse — lexical-parse-float/src/parse.rs still has the literals and token shape the models were transcribed from

`Gen.Literals.ParseFloatParse` is re-extracted from /repo's source text on every run; `Spec.LiteralsExpected.ParseFloatParse` is the
committed snapshot. One theorem per fn / macro item, so a failing obligation names the item whose source moved;
`items_same` catches added or removed items. (Written by `extractors.literals.snapshot()`.)
-/
namespace LexVerif.Props.Literals.ParseFloatParse
open LexVerif

theorem items_same : Gen.Literals.ParseFloatParse.items = Spec.LiteralsExpected.ParseFloatParse.items := rfl
theorem k_is_power_two_macro : Gen.Literals.ParseFloatParse.k_is_power_two_macro = Spec.LiteralsExpected.ParseFloatParse.k_is_power_two_macro := rfl
theorem k_check_radix_macro : Gen.Literals.ParseFloatParse.k_check_radix_macro = Spec.LiteralsExpected.ParseFloatParse.k_check_radix_macro := rfl
theorem k_parse_complete : Gen.Literals.ParseFloatParse.k_parse_complete = Spec.LiteralsExpected.ParseFloatParse.k_parse_complete := rfl
theorem k_parse_partial : Gen.Literals.ParseFloatParse.k_parse_partial = Spec.LiteralsExpected.ParseFloatParse.k_parse_partial := rfl
theorem k_fast_path_complete : Gen.Literals.ParseFloatParse.k_fast_path_complete = Spec.LiteralsExpected.ParseFloatParse.k_fast_path_complete := rfl
theorem k_fast_path_partial : Gen.Literals.ParseFloatParse.k_fast_path_partial = Spec.LiteralsExpected.ParseFloatParse.k_fast_path_partial := rfl
theorem k_parse_float_impl_macro : Gen.Literals.ParseFloatParse.k_parse_float_impl_macro = Spec.LiteralsExpected.ParseFloatParse.k_parse_float_impl_macro := rfl
theorem k_parse_float_as_f32_macro : Gen.Literals.ParseFloatParse.k_parse_float_as_f32_macro = Spec.LiteralsExpected.ParseFloatParse.k_parse_float_as_f32_macro := rfl
theorem k_parse_mantissa_sign : Gen.Literals.ParseFloatParse.k_parse_mantissa_sign = Spec.LiteralsExpected.ParseFloatParse.k_parse_mantissa_sign := rfl
theorem k_parse_exponent_sign : Gen.Literals.ParseFloatParse.k_parse_exponent_sign = Spec.LiteralsExpected.ParseFloatParse.k_parse_exponent_sign := rfl
theorem k_parse_number_macro : Gen.Literals.ParseFloatParse.k_parse_number_macro = Spec.LiteralsExpected.ParseFloatParse.k_parse_number_macro := rfl
theorem k_to_native_macro : Gen.Literals.ParseFloatParse.k_to_native_macro = Spec.LiteralsExpected.ParseFloatParse.k_to_native_macro := rfl
theorem k_moderate_path : Gen.Literals.ParseFloatParse.k_moderate_path = Spec.LiteralsExpected.ParseFloatParse.k_moderate_path := rfl
theorem k_slow_path : Gen.Literals.ParseFloatParse.k_slow_path = Spec.LiteralsExpected.ParseFloatParse.k_slow_path := rfl
theorem k_parse_number : Gen.Literals.ParseFloatParse.k_parse_number = Spec.LiteralsExpected.ParseFloatParse.k_parse_number := rfl
theorem k_parse_partial_number : Gen.Literals.ParseFloatParse.k_parse_partial_number = Spec.LiteralsExpected.ParseFloatParse.k_parse_partial_number := rfl
theorem k_parse_complete_number : Gen.Literals.ParseFloatParse.k_parse_complete_number = Spec.LiteralsExpected.ParseFloatParse.k_parse_complete_number := rfl
theorem k_parse_digits : Gen.Literals.ParseFloatParse.k_parse_digits = Spec.LiteralsExpected.ParseFloatParse.k_parse_digits := rfl
theorem k_parse_8digits : Gen.Literals.ParseFloatParse.k_parse_8digits = Spec.LiteralsExpected.ParseFloatParse.k_parse_8digits := rfl
theorem k_parse_u64_digits : Gen.Literals.ParseFloatParse.k_parse_u64_digits = Spec.LiteralsExpected.ParseFloatParse.k_parse_u64_digits := rfl
theorem k_is_special_eq : Gen.Literals.ParseFloatParse.k_is_special_eq = Spec.LiteralsExpected.ParseFloatParse.k_is_special_eq := rfl
theorem k_parse_positive_special : Gen.Literals.ParseFloatParse.k_parse_positive_special = Spec.LiteralsExpected.ParseFloatParse.k_parse_positive_special := rfl
theorem k_parse_partial_special : Gen.Literals.ParseFloatParse.k_parse_partial_special = Spec.LiteralsExpected.ParseFloatParse.k_parse_partial_special := rfl
theorem k_parse_special : Gen.Literals.ParseFloatParse.k_parse_special = Spec.LiteralsExpected.ParseFloatParse.k_parse_special := rfl

end LexVerif.Props.Literals.ParseFloatParse
