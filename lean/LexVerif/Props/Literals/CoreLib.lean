import LexVerif.Gen.Literals
import LexVerif.Spec.LiteralsExpected
/-!
# Literals.CoreLib — lexical-core/src/lib.rs still has the literals and token shape the models were transcribed from

`Gen.Literals.CoreLib` is re-extracted from /repo's source text on every run; `Spec.LiteralsExpected.CoreLib` is the
committed snapshot. One theorem per fn / macro item, so a failing obligation names the item whose source moved;
`items_same` catches added or removed items. (Written by `extractors.literals.snapshot()`.)
-/
namespace LexVerif.Props.Literals.CoreLib
open LexVerif

theorem items_same : Gen.Literals.CoreLib.items = Spec.LiteralsExpected.CoreLib.items := rfl
theorem k_from_lexical_impl_macro : Gen.Literals.CoreLib.k_from_lexical_impl_macro = Spec.LiteralsExpected.CoreLib.k_from_lexical_impl_macro := rfl
theorem k_from_lexical : Gen.Literals.CoreLib.k_from_lexical = Spec.LiteralsExpected.CoreLib.k_from_lexical := rfl
theorem k_from_lexical_partial : Gen.Literals.CoreLib.k_from_lexical_partial = Spec.LiteralsExpected.CoreLib.k_from_lexical_partial := rfl
theorem k_from_lexical_with_options : Gen.Literals.CoreLib.k_from_lexical_with_options = Spec.LiteralsExpected.CoreLib.k_from_lexical_with_options := rfl
theorem k_from_lexical_partial_with_options : Gen.Literals.CoreLib.k_from_lexical_partial_with_options = Spec.LiteralsExpected.CoreLib.k_from_lexical_partial_with_options := rfl
theorem k_integer_from_lexical_macro : Gen.Literals.CoreLib.k_integer_from_lexical_macro = Spec.LiteralsExpected.CoreLib.k_integer_from_lexical_macro := rfl
theorem k_float_from_lexical_macro : Gen.Literals.CoreLib.k_float_from_lexical_macro = Spec.LiteralsExpected.CoreLib.k_float_from_lexical_macro := rfl
theorem k_to_lexical_impl_macro : Gen.Literals.CoreLib.k_to_lexical_impl_macro = Spec.LiteralsExpected.CoreLib.k_to_lexical_impl_macro := rfl
theorem k_to_lexical : Gen.Literals.CoreLib.k_to_lexical = Spec.LiteralsExpected.CoreLib.k_to_lexical := rfl
theorem k_to_lexical_with_options : Gen.Literals.CoreLib.k_to_lexical_with_options = Spec.LiteralsExpected.CoreLib.k_to_lexical_with_options := rfl
theorem k_integer_to_lexical_macro : Gen.Literals.CoreLib.k_integer_to_lexical_macro = Spec.LiteralsExpected.CoreLib.k_integer_to_lexical_macro := rfl
theorem k_float_to_lexical_macro : Gen.Literals.CoreLib.k_float_to_lexical_macro = Spec.LiteralsExpected.CoreLib.k_float_to_lexical_macro := rfl
theorem k_write : Gen.Literals.CoreLib.k_write = Spec.LiteralsExpected.CoreLib.k_write := rfl
theorem k_write_with_options : Gen.Literals.CoreLib.k_write_with_options = Spec.LiteralsExpected.CoreLib.k_write_with_options := rfl
theorem k_parse : Gen.Literals.CoreLib.k_parse = Spec.LiteralsExpected.CoreLib.k_parse := rfl
theorem k_parse_partial : Gen.Literals.CoreLib.k_parse_partial = Spec.LiteralsExpected.CoreLib.k_parse_partial := rfl
theorem k_parse_with_options : Gen.Literals.CoreLib.k_parse_with_options = Spec.LiteralsExpected.CoreLib.k_parse_with_options := rfl
theorem k_parse_partial_with_options : Gen.Literals.CoreLib.k_parse_partial_with_options = Spec.LiteralsExpected.CoreLib.k_parse_partial_with_options := rfl

end LexVerif.Props.Literals.CoreLib
