import LexVerif.Gen.Literals
import LexVerif.Spec.LiteralsExpected
/-!
# Literals.UtilIterator — lexical-util/src/iterator.rs still has the literals and token shape the models were transcribed from

`Gen.Literals.UtilIterator` is re-extracted from /repo's source text on every run; `Spec.LiteralsExpected.UtilIterator` is the
committed snapshot. One theorem per fn / macro item, so a failing obligation names the item whose source moved;
`items_same` catches added or removed items. (Written by `extractors.literals.snapshot()`.)
-/
namespace LexVerif.Props.Literals.UtilIterator
open LexVerif

theorem items_same : Gen.Literals.UtilIterator.items = Spec.LiteralsExpected.UtilIterator.items := rfl
theorem k_as_ptr : Gen.Literals.UtilIterator.k_as_ptr = Spec.LiteralsExpected.UtilIterator.k_as_ptr := rfl
theorem k_as_slice : Gen.Literals.UtilIterator.k_as_slice = Spec.LiteralsExpected.UtilIterator.k_as_slice := rfl
theorem k_get_buffer : Gen.Literals.UtilIterator.k_get_buffer = Spec.LiteralsExpected.UtilIterator.k_get_buffer := rfl
theorem k_buffer_length : Gen.Literals.UtilIterator.k_buffer_length = Spec.LiteralsExpected.UtilIterator.k_buffer_length := rfl
theorem k_is_buffer_empty : Gen.Literals.UtilIterator.k_is_buffer_empty = Spec.LiteralsExpected.UtilIterator.k_is_buffer_empty := rfl
theorem k_cursor : Gen.Literals.UtilIterator.k_cursor = Spec.LiteralsExpected.UtilIterator.k_cursor := rfl
theorem k_set_cursor : Gen.Literals.UtilIterator.k_set_cursor = Spec.LiteralsExpected.UtilIterator.k_set_cursor := rfl
theorem k_current_count : Gen.Literals.UtilIterator.k_current_count = Spec.LiteralsExpected.UtilIterator.k_current_count := rfl
theorem k_is_contiguous : Gen.Literals.UtilIterator.k_is_contiguous = Spec.LiteralsExpected.UtilIterator.k_is_contiguous := rfl
theorem k_first : Gen.Literals.UtilIterator.k_first = Spec.LiteralsExpected.UtilIterator.k_first := rfl
theorem k_first_is_cased : Gen.Literals.UtilIterator.k_first_is_cased = Spec.LiteralsExpected.UtilIterator.k_first_is_cased := rfl
theorem k_first_is_uncased : Gen.Literals.UtilIterator.k_first_is_uncased = Spec.LiteralsExpected.UtilIterator.k_first_is_uncased := rfl
theorem k_first_is : Gen.Literals.UtilIterator.k_first_is = Spec.LiteralsExpected.UtilIterator.k_first_is := rfl
theorem k_step_by_unchecked : Gen.Literals.UtilIterator.k_step_by_unchecked = Spec.LiteralsExpected.UtilIterator.k_step_by_unchecked := rfl
theorem k_step_unchecked : Gen.Literals.UtilIterator.k_step_unchecked = Spec.LiteralsExpected.UtilIterator.k_step_unchecked := rfl
theorem k_peek_many_unchecked : Gen.Literals.UtilIterator.k_peek_many_unchecked = Spec.LiteralsExpected.UtilIterator.k_peek_many_unchecked := rfl
theorem k_peek_u32 : Gen.Literals.UtilIterator.k_peek_u32 = Spec.LiteralsExpected.UtilIterator.k_peek_u32 := rfl
theorem k_peek_u64 : Gen.Literals.UtilIterator.k_peek_u64 = Spec.LiteralsExpected.UtilIterator.k_peek_u64 := rfl
theorem k_is_consumed : Gen.Literals.UtilIterator.k_is_consumed = Spec.LiteralsExpected.UtilIterator.k_is_consumed := rfl
theorem k_increment_count : Gen.Literals.UtilIterator.k_increment_count = Spec.LiteralsExpected.UtilIterator.k_increment_count := rfl
theorem k_peek : Gen.Literals.UtilIterator.k_peek = Spec.LiteralsExpected.UtilIterator.k_peek := rfl
theorem k_try_read : Gen.Literals.UtilIterator.k_try_read = Spec.LiteralsExpected.UtilIterator.k_try_read := rfl
theorem k_peek_is_cased : Gen.Literals.UtilIterator.k_peek_is_cased = Spec.LiteralsExpected.UtilIterator.k_peek_is_cased := rfl
theorem k_peek_is_uncased : Gen.Literals.UtilIterator.k_peek_is_uncased = Spec.LiteralsExpected.UtilIterator.k_peek_is_uncased := rfl
theorem k_peek_is : Gen.Literals.UtilIterator.k_peek_is = Spec.LiteralsExpected.UtilIterator.k_peek_is := rfl
theorem k_read_if : Gen.Literals.UtilIterator.k_read_if = Spec.LiteralsExpected.UtilIterator.k_read_if := rfl
theorem k_read_if_value_cased : Gen.Literals.UtilIterator.k_read_if_value_cased = Spec.LiteralsExpected.UtilIterator.k_read_if_value_cased := rfl
theorem k_read_if_value_uncased : Gen.Literals.UtilIterator.k_read_if_value_uncased = Spec.LiteralsExpected.UtilIterator.k_read_if_value_uncased := rfl
theorem k_read_if_value : Gen.Literals.UtilIterator.k_read_if_value = Spec.LiteralsExpected.UtilIterator.k_read_if_value := rfl
theorem k_skip_zeros : Gen.Literals.UtilIterator.k_skip_zeros = Spec.LiteralsExpected.UtilIterator.k_skip_zeros := rfl
theorem k_is_digit : Gen.Literals.UtilIterator.k_is_digit = Spec.LiteralsExpected.UtilIterator.k_is_digit := rfl

end LexVerif.Props.Literals.UtilIterator
