import LexVerif.Gen.Literals
import LexVerif.Spec.LiteralsExpected
/-!
# Literals.WriteIntegerRadix — lexical-write-integer/src/radix.rs still has the literals and token shape the models were transcribed from

`Gen.Literals.WriteIntegerRadix` is re-extracted from /repo's source text on every run; `Spec.LiteralsExpected.WriteIntegerRadix` is the
committed snapshot. One theorem per fn / macro item, so a failing obligation names the item whose source moved;
`items_same` catches added or removed items. (Written by `extractors.literals.snapshot()`.)
-/
namespace LexVerif.Props.Literals.WriteIntegerRadix
open LexVerif

theorem items_same : Gen.Literals.WriteIntegerRadix.items = Spec.LiteralsExpected.WriteIntegerRadix.items := rfl
theorem k_radix : Gen.Literals.WriteIntegerRadix.k_radix = Spec.LiteralsExpected.WriteIntegerRadix.k_radix := rfl
theorem k_radix_impl_macro : Gen.Literals.WriteIntegerRadix.k_radix_impl_macro = Spec.LiteralsExpected.WriteIntegerRadix.k_radix_impl_macro := rfl

end LexVerif.Props.Literals.WriteIntegerRadix
