import LexVerif.Gen.Literals
import LexVerif.Spec.LiteralsExpected
/-!
# Literals.ParseFloatBellerophon — lexical-parse-float/src/bellerophon.rs still has the literals and token shape the models were transcribed from

`Gen.Literals.ParseFloatBellerophon` is re-extracted from /repo's source text on every run; `Spec.LiteralsExpected.ParseFloatBellerophon` is the
committed snapshot. One theorem per fn / macro item, so a failing obligation names the item whose source moved;
`items_same` catches added or removed items. (Written by `extractors.literals.snapshot()`.)
-/
namespace LexVerif.Props.Literals.ParseFloatBellerophon
open LexVerif

theorem items_same : Gen.Literals.ParseFloatBellerophon.items = Spec.LiteralsExpected.ParseFloatBellerophon.items := rfl
theorem k_bellerophon : Gen.Literals.ParseFloatBellerophon.k_bellerophon = Spec.LiteralsExpected.ParseFloatBellerophon.k_bellerophon := rfl
theorem k_error_scale : Gen.Literals.ParseFloatBellerophon.k_error_scale = Spec.LiteralsExpected.ParseFloatBellerophon.k_error_scale := rfl
theorem k_error_halfscale : Gen.Literals.ParseFloatBellerophon.k_error_halfscale = Spec.LiteralsExpected.ParseFloatBellerophon.k_error_halfscale := rfl
theorem k_error_is_accurate : Gen.Literals.ParseFloatBellerophon.k_error_is_accurate = Spec.LiteralsExpected.ParseFloatBellerophon.k_error_is_accurate := rfl
theorem k_normalize : Gen.Literals.ParseFloatBellerophon.k_normalize = Spec.LiteralsExpected.ParseFloatBellerophon.k_normalize := rfl
theorem k_mul : Gen.Literals.ParseFloatBellerophon.k_mul = Spec.LiteralsExpected.ParseFloatBellerophon.k_mul := rfl
theorem k_get_small : Gen.Literals.ParseFloatBellerophon.k_get_small = Spec.LiteralsExpected.ParseFloatBellerophon.k_get_small := rfl
theorem k_get_large : Gen.Literals.ParseFloatBellerophon.k_get_large = Spec.LiteralsExpected.ParseFloatBellerophon.k_get_large := rfl
theorem k_get_small_int : Gen.Literals.ParseFloatBellerophon.k_get_small_int = Spec.LiteralsExpected.ParseFloatBellerophon.k_get_small_int := rfl

end LexVerif.Props.Literals.ParseFloatBellerophon
