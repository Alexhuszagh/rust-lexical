import LexVerif.Gen.Literals
import LexVerif.Spec.LiteralsExpected
/-!
# Literals.UtilFeatureFormat — lexical-util/src/feature_format.rs still has the literals and token shape the models were transcribed from

`Gen.Literals.UtilFeatureFormat` is re-extracted from /repo's source text on every run; `Spec.LiteralsExpected.UtilFeatureFormat` is the
committed snapshot. One theorem per fn / macro item, so a failing obligation names the item whose source moved;
`items_same` catches added or removed items. (Written by `extractors.literals.snapshot()`.)
-/
namespace LexVerif.Props.Literals.UtilFeatureFormat
open LexVerif

theorem items_same : Gen.Literals.UtilFeatureFormat.items = Spec.LiteralsExpected.UtilFeatureFormat.items := rfl
theorem k_from_flag_macro : Gen.Literals.UtilFeatureFormat.k_from_flag_macro = Spec.LiteralsExpected.UtilFeatureFormat.k_from_flag_macro := rfl
theorem k_new : Gen.Literals.UtilFeatureFormat.k_new = Spec.LiteralsExpected.UtilFeatureFormat.k_new := rfl
theorem k_is_valid : Gen.Literals.UtilFeatureFormat.k_is_valid = Spec.LiteralsExpected.UtilFeatureFormat.k_is_valid := rfl
theorem k_error : Gen.Literals.UtilFeatureFormat.k_error = Spec.LiteralsExpected.UtilFeatureFormat.k_error := rfl
theorem k_is_valid_radix : Gen.Literals.UtilFeatureFormat.k_is_valid_radix = Spec.LiteralsExpected.UtilFeatureFormat.k_is_valid_radix := rfl
theorem k_error_radix : Gen.Literals.UtilFeatureFormat.k_error_radix = Spec.LiteralsExpected.UtilFeatureFormat.k_error_radix := rfl
theorem k_required_integer_digits : Gen.Literals.UtilFeatureFormat.k_required_integer_digits = Spec.LiteralsExpected.UtilFeatureFormat.k_required_integer_digits := rfl
theorem k_required_fraction_digits : Gen.Literals.UtilFeatureFormat.k_required_fraction_digits = Spec.LiteralsExpected.UtilFeatureFormat.k_required_fraction_digits := rfl
theorem k_required_exponent_digits : Gen.Literals.UtilFeatureFormat.k_required_exponent_digits = Spec.LiteralsExpected.UtilFeatureFormat.k_required_exponent_digits := rfl
theorem k_required_mantissa_digits : Gen.Literals.UtilFeatureFormat.k_required_mantissa_digits = Spec.LiteralsExpected.UtilFeatureFormat.k_required_mantissa_digits := rfl
theorem k_required_digits : Gen.Literals.UtilFeatureFormat.k_required_digits = Spec.LiteralsExpected.UtilFeatureFormat.k_required_digits := rfl
theorem k_no_positive_mantissa_sign : Gen.Literals.UtilFeatureFormat.k_no_positive_mantissa_sign = Spec.LiteralsExpected.UtilFeatureFormat.k_no_positive_mantissa_sign := rfl
theorem k_required_mantissa_sign : Gen.Literals.UtilFeatureFormat.k_required_mantissa_sign = Spec.LiteralsExpected.UtilFeatureFormat.k_required_mantissa_sign := rfl
theorem k_no_exponent_notation : Gen.Literals.UtilFeatureFormat.k_no_exponent_notation = Spec.LiteralsExpected.UtilFeatureFormat.k_no_exponent_notation := rfl
theorem k_no_positive_exponent_sign : Gen.Literals.UtilFeatureFormat.k_no_positive_exponent_sign = Spec.LiteralsExpected.UtilFeatureFormat.k_no_positive_exponent_sign := rfl
theorem k_required_exponent_sign : Gen.Literals.UtilFeatureFormat.k_required_exponent_sign = Spec.LiteralsExpected.UtilFeatureFormat.k_required_exponent_sign := rfl
theorem k_no_exponent_without_fraction : Gen.Literals.UtilFeatureFormat.k_no_exponent_without_fraction = Spec.LiteralsExpected.UtilFeatureFormat.k_no_exponent_without_fraction := rfl
theorem k_no_special : Gen.Literals.UtilFeatureFormat.k_no_special = Spec.LiteralsExpected.UtilFeatureFormat.k_no_special := rfl
theorem k_case_sensitive_special : Gen.Literals.UtilFeatureFormat.k_case_sensitive_special = Spec.LiteralsExpected.UtilFeatureFormat.k_case_sensitive_special := rfl
theorem k_no_integer_leading_zeros : Gen.Literals.UtilFeatureFormat.k_no_integer_leading_zeros = Spec.LiteralsExpected.UtilFeatureFormat.k_no_integer_leading_zeros := rfl
theorem k_no_float_leading_zeros : Gen.Literals.UtilFeatureFormat.k_no_float_leading_zeros = Spec.LiteralsExpected.UtilFeatureFormat.k_no_float_leading_zeros := rfl
theorem k_required_exponent_notation : Gen.Literals.UtilFeatureFormat.k_required_exponent_notation = Spec.LiteralsExpected.UtilFeatureFormat.k_required_exponent_notation := rfl
theorem k_case_sensitive_exponent : Gen.Literals.UtilFeatureFormat.k_case_sensitive_exponent = Spec.LiteralsExpected.UtilFeatureFormat.k_case_sensitive_exponent := rfl
theorem k_case_sensitive_base_prefix : Gen.Literals.UtilFeatureFormat.k_case_sensitive_base_prefix = Spec.LiteralsExpected.UtilFeatureFormat.k_case_sensitive_base_prefix := rfl
theorem k_case_sensitive_base_suffix : Gen.Literals.UtilFeatureFormat.k_case_sensitive_base_suffix = Spec.LiteralsExpected.UtilFeatureFormat.k_case_sensitive_base_suffix := rfl
theorem k_integer_internal_digit_separator : Gen.Literals.UtilFeatureFormat.k_integer_internal_digit_separator = Spec.LiteralsExpected.UtilFeatureFormat.k_integer_internal_digit_separator := rfl
theorem k_fraction_internal_digit_separator : Gen.Literals.UtilFeatureFormat.k_fraction_internal_digit_separator = Spec.LiteralsExpected.UtilFeatureFormat.k_fraction_internal_digit_separator := rfl
theorem k_exponent_internal_digit_separator : Gen.Literals.UtilFeatureFormat.k_exponent_internal_digit_separator = Spec.LiteralsExpected.UtilFeatureFormat.k_exponent_internal_digit_separator := rfl
theorem k_internal_digit_separator : Gen.Literals.UtilFeatureFormat.k_internal_digit_separator = Spec.LiteralsExpected.UtilFeatureFormat.k_internal_digit_separator := rfl
theorem k_integer_leading_digit_separator : Gen.Literals.UtilFeatureFormat.k_integer_leading_digit_separator = Spec.LiteralsExpected.UtilFeatureFormat.k_integer_leading_digit_separator := rfl
theorem k_fraction_leading_digit_separator : Gen.Literals.UtilFeatureFormat.k_fraction_leading_digit_separator = Spec.LiteralsExpected.UtilFeatureFormat.k_fraction_leading_digit_separator := rfl
theorem k_exponent_leading_digit_separator : Gen.Literals.UtilFeatureFormat.k_exponent_leading_digit_separator = Spec.LiteralsExpected.UtilFeatureFormat.k_exponent_leading_digit_separator := rfl
theorem k_leading_digit_separator : Gen.Literals.UtilFeatureFormat.k_leading_digit_separator = Spec.LiteralsExpected.UtilFeatureFormat.k_leading_digit_separator := rfl
theorem k_integer_trailing_digit_separator : Gen.Literals.UtilFeatureFormat.k_integer_trailing_digit_separator = Spec.LiteralsExpected.UtilFeatureFormat.k_integer_trailing_digit_separator := rfl
theorem k_fraction_trailing_digit_separator : Gen.Literals.UtilFeatureFormat.k_fraction_trailing_digit_separator = Spec.LiteralsExpected.UtilFeatureFormat.k_fraction_trailing_digit_separator := rfl
theorem k_exponent_trailing_digit_separator : Gen.Literals.UtilFeatureFormat.k_exponent_trailing_digit_separator = Spec.LiteralsExpected.UtilFeatureFormat.k_exponent_trailing_digit_separator := rfl
theorem k_trailing_digit_separator : Gen.Literals.UtilFeatureFormat.k_trailing_digit_separator = Spec.LiteralsExpected.UtilFeatureFormat.k_trailing_digit_separator := rfl
theorem k_integer_consecutive_digit_separator : Gen.Literals.UtilFeatureFormat.k_integer_consecutive_digit_separator = Spec.LiteralsExpected.UtilFeatureFormat.k_integer_consecutive_digit_separator := rfl
theorem k_fraction_consecutive_digit_separator : Gen.Literals.UtilFeatureFormat.k_fraction_consecutive_digit_separator = Spec.LiteralsExpected.UtilFeatureFormat.k_fraction_consecutive_digit_separator := rfl
theorem k_exponent_consecutive_digit_separator : Gen.Literals.UtilFeatureFormat.k_exponent_consecutive_digit_separator = Spec.LiteralsExpected.UtilFeatureFormat.k_exponent_consecutive_digit_separator := rfl
theorem k_consecutive_digit_separator : Gen.Literals.UtilFeatureFormat.k_consecutive_digit_separator = Spec.LiteralsExpected.UtilFeatureFormat.k_consecutive_digit_separator := rfl
theorem k_special_digit_separator : Gen.Literals.UtilFeatureFormat.k_special_digit_separator = Spec.LiteralsExpected.UtilFeatureFormat.k_special_digit_separator := rfl
theorem k_digit_separator : Gen.Literals.UtilFeatureFormat.k_digit_separator = Spec.LiteralsExpected.UtilFeatureFormat.k_digit_separator := rfl
theorem k_has_digit_separator : Gen.Literals.UtilFeatureFormat.k_has_digit_separator = Spec.LiteralsExpected.UtilFeatureFormat.k_has_digit_separator := rfl
theorem k_base_prefix : Gen.Literals.UtilFeatureFormat.k_base_prefix = Spec.LiteralsExpected.UtilFeatureFormat.k_base_prefix := rfl
theorem k_has_base_prefix : Gen.Literals.UtilFeatureFormat.k_has_base_prefix = Spec.LiteralsExpected.UtilFeatureFormat.k_has_base_prefix := rfl
theorem k_base_suffix : Gen.Literals.UtilFeatureFormat.k_base_suffix = Spec.LiteralsExpected.UtilFeatureFormat.k_base_suffix := rfl
theorem k_has_base_suffix : Gen.Literals.UtilFeatureFormat.k_has_base_suffix = Spec.LiteralsExpected.UtilFeatureFormat.k_has_base_suffix := rfl
theorem k_mantissa_radix : Gen.Literals.UtilFeatureFormat.k_mantissa_radix = Spec.LiteralsExpected.UtilFeatureFormat.k_mantissa_radix := rfl
theorem k_radix : Gen.Literals.UtilFeatureFormat.k_radix = Spec.LiteralsExpected.UtilFeatureFormat.k_radix := rfl
theorem k_radix2 : Gen.Literals.UtilFeatureFormat.k_radix2 = Spec.LiteralsExpected.UtilFeatureFormat.k_radix2 := rfl
theorem k_radix4 : Gen.Literals.UtilFeatureFormat.k_radix4 = Spec.LiteralsExpected.UtilFeatureFormat.k_radix4 := rfl
theorem k_radix8 : Gen.Literals.UtilFeatureFormat.k_radix8 = Spec.LiteralsExpected.UtilFeatureFormat.k_radix8 := rfl
theorem k_exponent_base : Gen.Literals.UtilFeatureFormat.k_exponent_base = Spec.LiteralsExpected.UtilFeatureFormat.k_exponent_base := rfl
theorem k_exponent_radix : Gen.Literals.UtilFeatureFormat.k_exponent_radix = Spec.LiteralsExpected.UtilFeatureFormat.k_exponent_radix := rfl
theorem k_flags : Gen.Literals.UtilFeatureFormat.k_flags = Spec.LiteralsExpected.UtilFeatureFormat.k_flags := rfl
theorem k_interface_flags : Gen.Literals.UtilFeatureFormat.k_interface_flags = Spec.LiteralsExpected.UtilFeatureFormat.k_interface_flags := rfl
theorem k_digit_separator_flags : Gen.Literals.UtilFeatureFormat.k_digit_separator_flags = Spec.LiteralsExpected.UtilFeatureFormat.k_digit_separator_flags := rfl
theorem k_exponent_flags : Gen.Literals.UtilFeatureFormat.k_exponent_flags = Spec.LiteralsExpected.UtilFeatureFormat.k_exponent_flags := rfl
theorem k_integer_digit_separator_flags : Gen.Literals.UtilFeatureFormat.k_integer_digit_separator_flags = Spec.LiteralsExpected.UtilFeatureFormat.k_integer_digit_separator_flags := rfl
theorem k_fraction_digit_separator_flags : Gen.Literals.UtilFeatureFormat.k_fraction_digit_separator_flags = Spec.LiteralsExpected.UtilFeatureFormat.k_fraction_digit_separator_flags := rfl
theorem k_exponent_digit_separator_flags : Gen.Literals.UtilFeatureFormat.k_exponent_digit_separator_flags = Spec.LiteralsExpected.UtilFeatureFormat.k_exponent_digit_separator_flags := rfl
theorem k_builder : Gen.Literals.UtilFeatureFormat.k_builder = Spec.LiteralsExpected.UtilFeatureFormat.k_builder := rfl
theorem k_rebuild : Gen.Literals.UtilFeatureFormat.k_rebuild = Spec.LiteralsExpected.UtilFeatureFormat.k_rebuild := rfl
theorem k_default : Gen.Literals.UtilFeatureFormat.k_default = Spec.LiteralsExpected.UtilFeatureFormat.k_default := rfl
theorem k_radix_error_impl : Gen.Literals.UtilFeatureFormat.k_radix_error_impl = Spec.LiteralsExpected.UtilFeatureFormat.k_radix_error_impl := rfl
theorem k_format_error_impl : Gen.Literals.UtilFeatureFormat.k_format_error_impl = Spec.LiteralsExpected.UtilFeatureFormat.k_format_error_impl := rfl

end LexVerif.Props.Literals.UtilFeatureFormat
