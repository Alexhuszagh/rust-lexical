import LexVerif.Gen.Literals
import LexVerif.Spec.LiteralsExpected
/-!
# Literals.WriteFloatApi — lexical-write-float/src/api.rs still has the literals and token shape the models were transcribed from

`Gen.Literals.WriteFloatApi` is re-extracted from /repo's source text on every run; `Spec.LiteralsExpected.WriteFloatApi` is the
committed snapshot. One theorem per fn / macro item, so a failing obligation names the item whose source moved;
`items_same` catches added or removed items. (Written by `extractors.literals.snapshot()`.)
-/
namespace LexVerif.Props.Literals.WriteFloatApi
open LexVerif

theorem items_same : Gen.Literals.WriteFloatApi.items = Spec.LiteralsExpected.WriteFloatApi.items := rfl
theorem k_float_to_lexical_macro : Gen.Literals.WriteFloatApi.k_float_to_lexical_macro = Spec.LiteralsExpected.WriteFloatApi.k_float_to_lexical_macro := rfl
theorem k_to_lexical : Gen.Literals.WriteFloatApi.k_to_lexical = Spec.LiteralsExpected.WriteFloatApi.k_to_lexical := rfl
theorem k_to_lexical_with_options : Gen.Literals.WriteFloatApi.k_to_lexical_with_options = Spec.LiteralsExpected.WriteFloatApi.k_to_lexical_with_options := rfl

end LexVerif.Props.Literals.WriteFloatApi
