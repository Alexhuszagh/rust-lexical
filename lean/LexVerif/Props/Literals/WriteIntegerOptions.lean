import LexVerif.Gen.Literals
import LexVerif.Spec.LiteralsExpected
/-!
# Literals.WriteIntegerOptions — lexical-write-integer/src/options.rs still has the literals and token shape the models were transcribed from

`Gen.Literals.WriteIntegerOptions` is re-extracted from /repo's source text on every run; `Spec.LiteralsExpected.WriteIntegerOptions` is the
committed snapshot. One theorem per fn / macro item, so a failing obligation names the item whose source moved;
`items_same` catches added or removed items. (Written by `extractors.literals.snapshot()`.)
-/
namespace LexVerif.Props.Literals.WriteIntegerOptions
open LexVerif

theorem items_same : Gen.Literals.WriteIntegerOptions.items = Spec.LiteralsExpected.WriteIntegerOptions.items := rfl
theorem k_new : Gen.Literals.WriteIntegerOptions.k_new = Spec.LiteralsExpected.WriteIntegerOptions.k_new := rfl
theorem k_is_valid : Gen.Literals.WriteIntegerOptions.k_is_valid = Spec.LiteralsExpected.WriteIntegerOptions.k_is_valid := rfl
theorem k_build_unchecked : Gen.Literals.WriteIntegerOptions.k_build_unchecked = Spec.LiteralsExpected.WriteIntegerOptions.k_build_unchecked := rfl
theorem k_build_strict : Gen.Literals.WriteIntegerOptions.k_build_strict = Spec.LiteralsExpected.WriteIntegerOptions.k_build_strict := rfl
theorem k_build : Gen.Literals.WriteIntegerOptions.k_build = Spec.LiteralsExpected.WriteIntegerOptions.k_build := rfl
theorem k_default : Gen.Literals.WriteIntegerOptions.k_default = Spec.LiteralsExpected.WriteIntegerOptions.k_default := rfl
theorem k_from_radix : Gen.Literals.WriteIntegerOptions.k_from_radix = Spec.LiteralsExpected.WriteIntegerOptions.k_from_radix := rfl
theorem k_buffer_size_const : Gen.Literals.WriteIntegerOptions.k_buffer_size_const = Spec.LiteralsExpected.WriteIntegerOptions.k_buffer_size_const := rfl
theorem k_builder : Gen.Literals.WriteIntegerOptions.k_builder = Spec.LiteralsExpected.WriteIntegerOptions.k_builder := rfl
theorem k_rebuild : Gen.Literals.WriteIntegerOptions.k_rebuild = Spec.LiteralsExpected.WriteIntegerOptions.k_rebuild := rfl
theorem k_buffer_size : Gen.Literals.WriteIntegerOptions.k_buffer_size = Spec.LiteralsExpected.WriteIntegerOptions.k_buffer_size := rfl

end LexVerif.Props.Literals.WriteIntegerOptions
