import LexVerif.Gen.Literals
import LexVerif.Spec.LiteralsExpected
/-!
# Literals.UtilStep — lexical-util/src/step.rs still has the literals and token shape the models were transcribed from

`Gen.Literals.UtilStep` is re-extracted from /repo's source text on every run; `Spec.LiteralsExpected.UtilStep` is the
committed snapshot. One theorem per fn / macro item, so a failing obligation names the item whose source moved;
`items_same` catches added or removed items. (Written by `extractors.literals.snapshot()`.)
-/
namespace LexVerif.Props.Literals.UtilStep
open LexVerif

theorem items_same : Gen.Literals.UtilStep.items = Spec.LiteralsExpected.UtilStep.items := rfl
theorem k_min_step : Gen.Literals.UtilStep.k_min_step = Spec.LiteralsExpected.UtilStep.k_min_step := rfl
theorem k_max_step : Gen.Literals.UtilStep.k_max_step = Spec.LiteralsExpected.UtilStep.k_max_step := rfl
theorem k_u64_step : Gen.Literals.UtilStep.k_u64_step = Spec.LiteralsExpected.UtilStep.k_u64_step := rfl
theorem k_max_step_2 : Gen.Literals.UtilStep.k_max_step_2 = Spec.LiteralsExpected.UtilStep.k_max_step_2 := rfl
theorem k_min_step_2 : Gen.Literals.UtilStep.k_min_step_2 = Spec.LiteralsExpected.UtilStep.k_min_step_2 := rfl
theorem k_max_step_3 : Gen.Literals.UtilStep.k_max_step_3 = Spec.LiteralsExpected.UtilStep.k_max_step_3 := rfl
theorem k_min_step_3 : Gen.Literals.UtilStep.k_min_step_3 = Spec.LiteralsExpected.UtilStep.k_min_step_3 := rfl
theorem k_max_step_4 : Gen.Literals.UtilStep.k_max_step_4 = Spec.LiteralsExpected.UtilStep.k_max_step_4 := rfl
theorem k_min_step_4 : Gen.Literals.UtilStep.k_min_step_4 = Spec.LiteralsExpected.UtilStep.k_min_step_4 := rfl
theorem k_max_step_5 : Gen.Literals.UtilStep.k_max_step_5 = Spec.LiteralsExpected.UtilStep.k_max_step_5 := rfl
theorem k_min_step_5 : Gen.Literals.UtilStep.k_min_step_5 = Spec.LiteralsExpected.UtilStep.k_min_step_5 := rfl
theorem k_max_step_6 : Gen.Literals.UtilStep.k_max_step_6 = Spec.LiteralsExpected.UtilStep.k_max_step_6 := rfl
theorem k_min_step_6 : Gen.Literals.UtilStep.k_min_step_6 = Spec.LiteralsExpected.UtilStep.k_min_step_6 := rfl
theorem k_max_step_7 : Gen.Literals.UtilStep.k_max_step_7 = Spec.LiteralsExpected.UtilStep.k_max_step_7 := rfl
theorem k_min_step_7 : Gen.Literals.UtilStep.k_min_step_7 = Spec.LiteralsExpected.UtilStep.k_min_step_7 := rfl
theorem k_max_step_8 : Gen.Literals.UtilStep.k_max_step_8 = Spec.LiteralsExpected.UtilStep.k_max_step_8 := rfl
theorem k_min_step_8 : Gen.Literals.UtilStep.k_min_step_8 = Spec.LiteralsExpected.UtilStep.k_min_step_8 := rfl
theorem k_max_step_9 : Gen.Literals.UtilStep.k_max_step_9 = Spec.LiteralsExpected.UtilStep.k_max_step_9 := rfl
theorem k_min_step_9 : Gen.Literals.UtilStep.k_min_step_9 = Spec.LiteralsExpected.UtilStep.k_min_step_9 := rfl
theorem k_max_step_10 : Gen.Literals.UtilStep.k_max_step_10 = Spec.LiteralsExpected.UtilStep.k_max_step_10 := rfl
theorem k_min_step_10 : Gen.Literals.UtilStep.k_min_step_10 = Spec.LiteralsExpected.UtilStep.k_min_step_10 := rfl
theorem k_max_step_11 : Gen.Literals.UtilStep.k_max_step_11 = Spec.LiteralsExpected.UtilStep.k_max_step_11 := rfl
theorem k_min_step_11 : Gen.Literals.UtilStep.k_min_step_11 = Spec.LiteralsExpected.UtilStep.k_min_step_11 := rfl
theorem k_max_step_12 : Gen.Literals.UtilStep.k_max_step_12 = Spec.LiteralsExpected.UtilStep.k_max_step_12 := rfl
theorem k_min_step_12 : Gen.Literals.UtilStep.k_min_step_12 = Spec.LiteralsExpected.UtilStep.k_min_step_12 := rfl
theorem k_max_step_13 : Gen.Literals.UtilStep.k_max_step_13 = Spec.LiteralsExpected.UtilStep.k_max_step_13 := rfl
theorem k_min_step_13 : Gen.Literals.UtilStep.k_min_step_13 = Spec.LiteralsExpected.UtilStep.k_min_step_13 := rfl
theorem k_max_step_14 : Gen.Literals.UtilStep.k_max_step_14 = Spec.LiteralsExpected.UtilStep.k_max_step_14 := rfl
theorem k_min_step_14 : Gen.Literals.UtilStep.k_min_step_14 = Spec.LiteralsExpected.UtilStep.k_min_step_14 := rfl
theorem k_max_step_15 : Gen.Literals.UtilStep.k_max_step_15 = Spec.LiteralsExpected.UtilStep.k_max_step_15 := rfl
theorem k_min_step_15 : Gen.Literals.UtilStep.k_min_step_15 = Spec.LiteralsExpected.UtilStep.k_min_step_15 := rfl
theorem k_max_step_16 : Gen.Literals.UtilStep.k_max_step_16 = Spec.LiteralsExpected.UtilStep.k_max_step_16 := rfl
theorem k_min_step_16 : Gen.Literals.UtilStep.k_min_step_16 = Spec.LiteralsExpected.UtilStep.k_min_step_16 := rfl
theorem k_max_step_17 : Gen.Literals.UtilStep.k_max_step_17 = Spec.LiteralsExpected.UtilStep.k_max_step_17 := rfl
theorem k_min_step_17 : Gen.Literals.UtilStep.k_min_step_17 = Spec.LiteralsExpected.UtilStep.k_min_step_17 := rfl
theorem k_max_step_18 : Gen.Literals.UtilStep.k_max_step_18 = Spec.LiteralsExpected.UtilStep.k_max_step_18 := rfl
theorem k_min_step_18 : Gen.Literals.UtilStep.k_min_step_18 = Spec.LiteralsExpected.UtilStep.k_min_step_18 := rfl
theorem k_max_step_19 : Gen.Literals.UtilStep.k_max_step_19 = Spec.LiteralsExpected.UtilStep.k_max_step_19 := rfl
theorem k_min_step_19 : Gen.Literals.UtilStep.k_min_step_19 = Spec.LiteralsExpected.UtilStep.k_min_step_19 := rfl
theorem k_max_step_20 : Gen.Literals.UtilStep.k_max_step_20 = Spec.LiteralsExpected.UtilStep.k_max_step_20 := rfl
theorem k_min_step_20 : Gen.Literals.UtilStep.k_min_step_20 = Spec.LiteralsExpected.UtilStep.k_min_step_20 := rfl
theorem k_max_step_21 : Gen.Literals.UtilStep.k_max_step_21 = Spec.LiteralsExpected.UtilStep.k_max_step_21 := rfl
theorem k_min_step_21 : Gen.Literals.UtilStep.k_min_step_21 = Spec.LiteralsExpected.UtilStep.k_min_step_21 := rfl
theorem k_max_step_22 : Gen.Literals.UtilStep.k_max_step_22 = Spec.LiteralsExpected.UtilStep.k_max_step_22 := rfl
theorem k_min_step_22 : Gen.Literals.UtilStep.k_min_step_22 = Spec.LiteralsExpected.UtilStep.k_min_step_22 := rfl
theorem k_max_step_23 : Gen.Literals.UtilStep.k_max_step_23 = Spec.LiteralsExpected.UtilStep.k_max_step_23 := rfl
theorem k_min_step_23 : Gen.Literals.UtilStep.k_min_step_23 = Spec.LiteralsExpected.UtilStep.k_min_step_23 := rfl
theorem k_max_step_24 : Gen.Literals.UtilStep.k_max_step_24 = Spec.LiteralsExpected.UtilStep.k_max_step_24 := rfl
theorem k_min_step_24 : Gen.Literals.UtilStep.k_min_step_24 = Spec.LiteralsExpected.UtilStep.k_min_step_24 := rfl
theorem k_max_step_25 : Gen.Literals.UtilStep.k_max_step_25 = Spec.LiteralsExpected.UtilStep.k_max_step_25 := rfl
theorem k_min_step_25 : Gen.Literals.UtilStep.k_min_step_25 = Spec.LiteralsExpected.UtilStep.k_min_step_25 := rfl
theorem k_max_step_26 : Gen.Literals.UtilStep.k_max_step_26 = Spec.LiteralsExpected.UtilStep.k_max_step_26 := rfl
theorem k_min_step_26 : Gen.Literals.UtilStep.k_min_step_26 = Spec.LiteralsExpected.UtilStep.k_min_step_26 := rfl
theorem k_max_step_27 : Gen.Literals.UtilStep.k_max_step_27 = Spec.LiteralsExpected.UtilStep.k_max_step_27 := rfl
theorem k_min_step_27 : Gen.Literals.UtilStep.k_min_step_27 = Spec.LiteralsExpected.UtilStep.k_min_step_27 := rfl
theorem k_max_step_28 : Gen.Literals.UtilStep.k_max_step_28 = Spec.LiteralsExpected.UtilStep.k_max_step_28 := rfl
theorem k_min_step_28 : Gen.Literals.UtilStep.k_min_step_28 = Spec.LiteralsExpected.UtilStep.k_min_step_28 := rfl
theorem k_max_step_29 : Gen.Literals.UtilStep.k_max_step_29 = Spec.LiteralsExpected.UtilStep.k_max_step_29 := rfl
theorem k_min_step_29 : Gen.Literals.UtilStep.k_min_step_29 = Spec.LiteralsExpected.UtilStep.k_min_step_29 := rfl
theorem k_max_step_30 : Gen.Literals.UtilStep.k_max_step_30 = Spec.LiteralsExpected.UtilStep.k_max_step_30 := rfl
theorem k_min_step_30 : Gen.Literals.UtilStep.k_min_step_30 = Spec.LiteralsExpected.UtilStep.k_min_step_30 := rfl
theorem k_max_step_31 : Gen.Literals.UtilStep.k_max_step_31 = Spec.LiteralsExpected.UtilStep.k_max_step_31 := rfl
theorem k_min_step_31 : Gen.Literals.UtilStep.k_min_step_31 = Spec.LiteralsExpected.UtilStep.k_min_step_31 := rfl
theorem k_max_step_32 : Gen.Literals.UtilStep.k_max_step_32 = Spec.LiteralsExpected.UtilStep.k_max_step_32 := rfl
theorem k_min_step_32 : Gen.Literals.UtilStep.k_min_step_32 = Spec.LiteralsExpected.UtilStep.k_min_step_32 := rfl
theorem k_max_step_33 : Gen.Literals.UtilStep.k_max_step_33 = Spec.LiteralsExpected.UtilStep.k_max_step_33 := rfl
theorem k_min_step_33 : Gen.Literals.UtilStep.k_min_step_33 = Spec.LiteralsExpected.UtilStep.k_min_step_33 := rfl
theorem k_max_step_34 : Gen.Literals.UtilStep.k_max_step_34 = Spec.LiteralsExpected.UtilStep.k_max_step_34 := rfl
theorem k_min_step_34 : Gen.Literals.UtilStep.k_min_step_34 = Spec.LiteralsExpected.UtilStep.k_min_step_34 := rfl
theorem k_max_step_35 : Gen.Literals.UtilStep.k_max_step_35 = Spec.LiteralsExpected.UtilStep.k_max_step_35 := rfl
theorem k_min_step_35 : Gen.Literals.UtilStep.k_min_step_35 = Spec.LiteralsExpected.UtilStep.k_min_step_35 := rfl
theorem k_max_step_36 : Gen.Literals.UtilStep.k_max_step_36 = Spec.LiteralsExpected.UtilStep.k_max_step_36 := rfl
theorem k_min_step_36 : Gen.Literals.UtilStep.k_min_step_36 = Spec.LiteralsExpected.UtilStep.k_min_step_36 := rfl

end LexVerif.Props.Literals.UtilStep
