import LexVerif.Gen.Literals
import LexVerif.Spec.LiteralsExpected
/-!
# Literals.ParseFloatBinary — lexical-parse-float/src/binary.rs still has the literals and token shape the models were transcribed from

`Gen.Literals.ParseFloatBinary` is re-extracted from /repo's source text on every run; `Spec.LiteralsExpected.ParseFloatBinary` is the
committed snapshot. One theorem per fn / macro item, so a failing obligation names the item whose source moved;
`items_same` catches added or removed items. (Written by `extractors.literals.snapshot()`.)
-/
namespace LexVerif.Props.Literals.ParseFloatBinary
open LexVerif

theorem items_same : Gen.Literals.ParseFloatBinary.items = Spec.LiteralsExpected.ParseFloatBinary.items := rfl
theorem k_binary : Gen.Literals.ParseFloatBinary.k_binary = Spec.LiteralsExpected.ParseFloatBinary.k_binary := rfl
theorem k_parse_u64_digits : Gen.Literals.ParseFloatBinary.k_parse_u64_digits = Spec.LiteralsExpected.ParseFloatBinary.k_parse_u64_digits := rfl
theorem k_slow_binary : Gen.Literals.ParseFloatBinary.k_slow_binary = Spec.LiteralsExpected.ParseFloatBinary.k_slow_binary := rfl

end LexVerif.Props.Literals.ParseFloatBinary
