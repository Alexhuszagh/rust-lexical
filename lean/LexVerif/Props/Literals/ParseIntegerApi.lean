import LexVerif.Gen.Literals
import LexVerif.Spec.LiteralsExpected
/-!
# Literals.ParseIntegerApi — lexical-parse-integer/src/api.rs still has the literals and token shape the models were transcribed from

`Gen.Literals.ParseIntegerApi` is re-extracted from /repo's source text on every run; `Spec.LiteralsExpected.ParseIntegerApi` is the
committed snapshot. One theorem per fn / macro item, so a failing obligation names the item whose source moved;
`items_same` catches added or removed items. (Written by `extractors.literals.snapshot()`.)
-/
namespace LexVerif.Props.Literals.ParseIntegerApi
open LexVerif

theorem items_same : Gen.Literals.ParseIntegerApi.items = Spec.LiteralsExpected.ParseIntegerApi.items := rfl
theorem k_integer_from_lexical_macro : Gen.Literals.ParseIntegerApi.k_integer_from_lexical_macro = Spec.LiteralsExpected.ParseIntegerApi.k_integer_from_lexical_macro := rfl
theorem k_from_lexical : Gen.Literals.ParseIntegerApi.k_from_lexical = Spec.LiteralsExpected.ParseIntegerApi.k_from_lexical := rfl
theorem k_from_lexical_partial : Gen.Literals.ParseIntegerApi.k_from_lexical_partial = Spec.LiteralsExpected.ParseIntegerApi.k_from_lexical_partial := rfl
theorem k_from_lexical_with_options : Gen.Literals.ParseIntegerApi.k_from_lexical_with_options = Spec.LiteralsExpected.ParseIntegerApi.k_from_lexical_with_options := rfl
theorem k_from_lexical_partial_with_options : Gen.Literals.ParseIntegerApi.k_from_lexical_partial_with_options = Spec.LiteralsExpected.ParseIntegerApi.k_from_lexical_partial_with_options := rfl

end LexVerif.Props.Literals.ParseIntegerApi
