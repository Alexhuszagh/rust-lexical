import LexVerif.Gen.Literals
import LexVerif.Spec.LiteralsExpected
/-!
# Literals.UtilExtendedFloat — lexical-util/src/extended_float.rs still has the literals and token shape the models were transcribed from

`Gen.Literals.UtilExtendedFloat` is re-extracted from /repo's source text on every run; `Spec.LiteralsExpected.UtilExtendedFloat` is the
committed snapshot. One theorem per fn / macro item, so a failing obligation names the item whose source moved;
`items_same` catches added or removed items. (Written by `extractors.literals.snapshot()`.)
-/
namespace LexVerif.Props.Literals.UtilExtendedFloat
open LexVerif

theorem items_same : Gen.Literals.UtilExtendedFloat.items = Spec.LiteralsExpected.UtilExtendedFloat.items := rfl
theorem k_mantissa : Gen.Literals.UtilExtendedFloat.k_mantissa = Spec.LiteralsExpected.UtilExtendedFloat.k_mantissa := rfl
theorem k_exponent : Gen.Literals.UtilExtendedFloat.k_exponent = Spec.LiteralsExpected.UtilExtendedFloat.k_exponent := rfl

end LexVerif.Props.Literals.UtilExtendedFloat
