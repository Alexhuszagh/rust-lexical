import LexVerif.Gen.Literals
import LexVerif.Spec.LiteralsExpected
/-!
# Literals.UtilDigit — lexical-util/src/digit.rs still has the literals and token shape the models were transcribed from

`Gen.Literals.UtilDigit` is re-extracted from /repo's source text on every run; `Spec.LiteralsExpected.UtilDigit` is the
committed snapshot. One theorem per fn / macro item, so a failing obligation names the item whose source moved;
`items_same` catches added or removed items. (Written by `extractors.literals.snapshot()`.)
-/
namespace LexVerif.Props.Literals.UtilDigit
open LexVerif

theorem items_same : Gen.Literals.UtilDigit.items = Spec.LiteralsExpected.UtilDigit.items := rfl
theorem k_char_to_valid_digit_const : Gen.Literals.UtilDigit.k_char_to_valid_digit_const = Spec.LiteralsExpected.UtilDigit.k_char_to_valid_digit_const := rfl
theorem k_char_to_digit_const : Gen.Literals.UtilDigit.k_char_to_digit_const = Spec.LiteralsExpected.UtilDigit.k_char_to_digit_const := rfl
theorem k_char_is_digit_const : Gen.Literals.UtilDigit.k_char_is_digit_const = Spec.LiteralsExpected.UtilDigit.k_char_is_digit_const := rfl
theorem k_digit_to_char_const : Gen.Literals.UtilDigit.k_digit_to_char_const = Spec.LiteralsExpected.UtilDigit.k_digit_to_char_const := rfl
theorem k_char_to_digit : Gen.Literals.UtilDigit.k_char_to_digit = Spec.LiteralsExpected.UtilDigit.k_char_to_digit := rfl
theorem k_char_is_digit : Gen.Literals.UtilDigit.k_char_is_digit = Spec.LiteralsExpected.UtilDigit.k_char_is_digit := rfl
theorem k_digit_to_char : Gen.Literals.UtilDigit.k_digit_to_char = Spec.LiteralsExpected.UtilDigit.k_digit_to_char := rfl

end LexVerif.Props.Literals.UtilDigit
