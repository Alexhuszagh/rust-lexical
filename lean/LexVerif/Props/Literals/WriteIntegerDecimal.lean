import LexVerif.Gen.Literals
import LexVerif.Spec.LiteralsExpected
/-!
# Literals.WriteIntegerDecimal — lexical-write-integer/src/decimal.rs still has the literals and token shape the models were transcribed from

`Gen.Literals.WriteIntegerDecimal` is re-extracted from /repo's source text on every run; `Spec.LiteralsExpected.WriteIntegerDecimal` is the
committed snapshot. One theorem per fn / macro item, so a failing obligation names the item whose source moved;
`items_same` catches added or removed items. (Written by `extractors.literals.snapshot()`.)
-/
namespace LexVerif.Props.Literals.WriteIntegerDecimal
open LexVerif

theorem items_same : Gen.Literals.WriteIntegerDecimal.items = Spec.LiteralsExpected.WriteIntegerDecimal.items := rfl
theorem k_fast_log10 : Gen.Literals.WriteIntegerDecimal.k_fast_log10 = Spec.LiteralsExpected.WriteIntegerDecimal.k_fast_log10 := rfl
theorem k_fast_digit_count : Gen.Literals.WriteIntegerDecimal.k_fast_digit_count = Spec.LiteralsExpected.WriteIntegerDecimal.k_fast_digit_count := rfl
theorem k_fallback_digit_count : Gen.Literals.WriteIntegerDecimal.k_fallback_digit_count = Spec.LiteralsExpected.WriteIntegerDecimal.k_fallback_digit_count := rfl
theorem k_decimal_count : Gen.Literals.WriteIntegerDecimal.k_decimal_count = Spec.LiteralsExpected.WriteIntegerDecimal.k_decimal_count := rfl
theorem k_decimal : Gen.Literals.WriteIntegerDecimal.k_decimal = Spec.LiteralsExpected.WriteIntegerDecimal.k_decimal := rfl
theorem k_decimal_signed : Gen.Literals.WriteIntegerDecimal.k_decimal_signed = Spec.LiteralsExpected.WriteIntegerDecimal.k_decimal_signed := rfl
theorem k_decimal_impl_macro : Gen.Literals.WriteIntegerDecimal.k_decimal_impl_macro = Spec.LiteralsExpected.WriteIntegerDecimal.k_decimal_impl_macro := rfl

end LexVerif.Props.Literals.WriteIntegerDecimal
