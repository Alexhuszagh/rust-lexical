import LexVerif.Gen.Literals
import LexVerif.Spec.LiteralsExpected
/-!
# Literals.UtilFormatBuilder — lexical-util/src/format_builder.rs still has the literals and token shape the models were transcribed from

`Gen.Literals.UtilFormatBuilder` is re-extracted from /repo's source text on every run; `Spec.LiteralsExpected.UtilFormatBuilder` is the
committed snapshot. One theorem per fn / macro item, so a failing obligation names the item whose source moved;
`items_same` catches added or removed items. (Written by `extractors.literals.snapshot()`.)
-/
namespace LexVerif.Props.Literals.UtilFormatBuilder
open LexVerif

theorem items_same : Gen.Literals.UtilFormatBuilder.items = Spec.LiteralsExpected.UtilFormatBuilder.items := rfl
theorem k_add_flag_macro : Gen.Literals.UtilFormatBuilder.k_add_flag_macro = Spec.LiteralsExpected.UtilFormatBuilder.k_add_flag_macro := rfl
theorem k_add_flags_macro : Gen.Literals.UtilFormatBuilder.k_add_flags_macro = Spec.LiteralsExpected.UtilFormatBuilder.k_add_flags_macro := rfl
theorem k_has_flag_macro : Gen.Literals.UtilFormatBuilder.k_has_flag_macro = Spec.LiteralsExpected.UtilFormatBuilder.k_has_flag_macro := rfl
theorem k_unwrap_or_zero : Gen.Literals.UtilFormatBuilder.k_unwrap_or_zero = Spec.LiteralsExpected.UtilFormatBuilder.k_unwrap_or_zero := rfl
theorem k_new : Gen.Literals.UtilFormatBuilder.k_new = Spec.LiteralsExpected.UtilFormatBuilder.k_new := rfl
theorem k_binary : Gen.Literals.UtilFormatBuilder.k_binary = Spec.LiteralsExpected.UtilFormatBuilder.k_binary := rfl
theorem k_octal : Gen.Literals.UtilFormatBuilder.k_octal = Spec.LiteralsExpected.UtilFormatBuilder.k_octal := rfl
theorem k_decimal : Gen.Literals.UtilFormatBuilder.k_decimal = Spec.LiteralsExpected.UtilFormatBuilder.k_decimal := rfl
theorem k_hexadecimal : Gen.Literals.UtilFormatBuilder.k_hexadecimal = Spec.LiteralsExpected.UtilFormatBuilder.k_hexadecimal := rfl
theorem k_from_radix : Gen.Literals.UtilFormatBuilder.k_from_radix = Spec.LiteralsExpected.UtilFormatBuilder.k_from_radix := rfl
theorem k_get_digit_separator : Gen.Literals.UtilFormatBuilder.k_get_digit_separator = Spec.LiteralsExpected.UtilFormatBuilder.k_get_digit_separator := rfl
theorem k_get_mantissa_radix : Gen.Literals.UtilFormatBuilder.k_get_mantissa_radix = Spec.LiteralsExpected.UtilFormatBuilder.k_get_mantissa_radix := rfl
theorem k_get_exponent_base : Gen.Literals.UtilFormatBuilder.k_get_exponent_base = Spec.LiteralsExpected.UtilFormatBuilder.k_get_exponent_base := rfl
theorem k_get_exponent_radix : Gen.Literals.UtilFormatBuilder.k_get_exponent_radix = Spec.LiteralsExpected.UtilFormatBuilder.k_get_exponent_radix := rfl
theorem k_get_base_prefix : Gen.Literals.UtilFormatBuilder.k_get_base_prefix = Spec.LiteralsExpected.UtilFormatBuilder.k_get_base_prefix := rfl
theorem k_get_base_suffix : Gen.Literals.UtilFormatBuilder.k_get_base_suffix = Spec.LiteralsExpected.UtilFormatBuilder.k_get_base_suffix := rfl
theorem k_get_required_integer_digits : Gen.Literals.UtilFormatBuilder.k_get_required_integer_digits = Spec.LiteralsExpected.UtilFormatBuilder.k_get_required_integer_digits := rfl
theorem k_get_required_fraction_digits : Gen.Literals.UtilFormatBuilder.k_get_required_fraction_digits = Spec.LiteralsExpected.UtilFormatBuilder.k_get_required_fraction_digits := rfl
theorem k_get_required_exponent_digits : Gen.Literals.UtilFormatBuilder.k_get_required_exponent_digits = Spec.LiteralsExpected.UtilFormatBuilder.k_get_required_exponent_digits := rfl
theorem k_get_required_mantissa_digits : Gen.Literals.UtilFormatBuilder.k_get_required_mantissa_digits = Spec.LiteralsExpected.UtilFormatBuilder.k_get_required_mantissa_digits := rfl
theorem k_get_no_positive_mantissa_sign : Gen.Literals.UtilFormatBuilder.k_get_no_positive_mantissa_sign = Spec.LiteralsExpected.UtilFormatBuilder.k_get_no_positive_mantissa_sign := rfl
theorem k_get_required_mantissa_sign : Gen.Literals.UtilFormatBuilder.k_get_required_mantissa_sign = Spec.LiteralsExpected.UtilFormatBuilder.k_get_required_mantissa_sign := rfl
theorem k_get_no_exponent_notation : Gen.Literals.UtilFormatBuilder.k_get_no_exponent_notation = Spec.LiteralsExpected.UtilFormatBuilder.k_get_no_exponent_notation := rfl
theorem k_get_no_positive_exponent_sign : Gen.Literals.UtilFormatBuilder.k_get_no_positive_exponent_sign = Spec.LiteralsExpected.UtilFormatBuilder.k_get_no_positive_exponent_sign := rfl
theorem k_get_required_exponent_sign : Gen.Literals.UtilFormatBuilder.k_get_required_exponent_sign = Spec.LiteralsExpected.UtilFormatBuilder.k_get_required_exponent_sign := rfl
theorem k_get_no_exponent_without_fraction : Gen.Literals.UtilFormatBuilder.k_get_no_exponent_without_fraction = Spec.LiteralsExpected.UtilFormatBuilder.k_get_no_exponent_without_fraction := rfl
theorem k_get_no_special : Gen.Literals.UtilFormatBuilder.k_get_no_special = Spec.LiteralsExpected.UtilFormatBuilder.k_get_no_special := rfl
theorem k_get_case_sensitive_special : Gen.Literals.UtilFormatBuilder.k_get_case_sensitive_special = Spec.LiteralsExpected.UtilFormatBuilder.k_get_case_sensitive_special := rfl
theorem k_get_no_integer_leading_zeros : Gen.Literals.UtilFormatBuilder.k_get_no_integer_leading_zeros = Spec.LiteralsExpected.UtilFormatBuilder.k_get_no_integer_leading_zeros := rfl
theorem k_get_no_float_leading_zeros : Gen.Literals.UtilFormatBuilder.k_get_no_float_leading_zeros = Spec.LiteralsExpected.UtilFormatBuilder.k_get_no_float_leading_zeros := rfl
theorem k_get_required_exponent_notation : Gen.Literals.UtilFormatBuilder.k_get_required_exponent_notation = Spec.LiteralsExpected.UtilFormatBuilder.k_get_required_exponent_notation := rfl
theorem k_get_case_sensitive_exponent : Gen.Literals.UtilFormatBuilder.k_get_case_sensitive_exponent = Spec.LiteralsExpected.UtilFormatBuilder.k_get_case_sensitive_exponent := rfl
theorem k_get_case_sensitive_base_prefix : Gen.Literals.UtilFormatBuilder.k_get_case_sensitive_base_prefix = Spec.LiteralsExpected.UtilFormatBuilder.k_get_case_sensitive_base_prefix := rfl
theorem k_get_case_sensitive_base_suffix : Gen.Literals.UtilFormatBuilder.k_get_case_sensitive_base_suffix = Spec.LiteralsExpected.UtilFormatBuilder.k_get_case_sensitive_base_suffix := rfl
theorem k_get_integer_internal_digit_separator : Gen.Literals.UtilFormatBuilder.k_get_integer_internal_digit_separator = Spec.LiteralsExpected.UtilFormatBuilder.k_get_integer_internal_digit_separator := rfl
theorem k_get_fraction_internal_digit_separator : Gen.Literals.UtilFormatBuilder.k_get_fraction_internal_digit_separator = Spec.LiteralsExpected.UtilFormatBuilder.k_get_fraction_internal_digit_separator := rfl
theorem k_get_exponent_internal_digit_separator : Gen.Literals.UtilFormatBuilder.k_get_exponent_internal_digit_separator = Spec.LiteralsExpected.UtilFormatBuilder.k_get_exponent_internal_digit_separator := rfl
theorem k_get_integer_leading_digit_separator : Gen.Literals.UtilFormatBuilder.k_get_integer_leading_digit_separator = Spec.LiteralsExpected.UtilFormatBuilder.k_get_integer_leading_digit_separator := rfl
theorem k_get_fraction_leading_digit_separator : Gen.Literals.UtilFormatBuilder.k_get_fraction_leading_digit_separator = Spec.LiteralsExpected.UtilFormatBuilder.k_get_fraction_leading_digit_separator := rfl
theorem k_get_exponent_leading_digit_separator : Gen.Literals.UtilFormatBuilder.k_get_exponent_leading_digit_separator = Spec.LiteralsExpected.UtilFormatBuilder.k_get_exponent_leading_digit_separator := rfl
theorem k_get_integer_trailing_digit_separator : Gen.Literals.UtilFormatBuilder.k_get_integer_trailing_digit_separator = Spec.LiteralsExpected.UtilFormatBuilder.k_get_integer_trailing_digit_separator := rfl
theorem k_get_fraction_trailing_digit_separator : Gen.Literals.UtilFormatBuilder.k_get_fraction_trailing_digit_separator = Spec.LiteralsExpected.UtilFormatBuilder.k_get_fraction_trailing_digit_separator := rfl
theorem k_get_exponent_trailing_digit_separator : Gen.Literals.UtilFormatBuilder.k_get_exponent_trailing_digit_separator = Spec.LiteralsExpected.UtilFormatBuilder.k_get_exponent_trailing_digit_separator := rfl
theorem k_get_integer_consecutive_digit_separator : Gen.Literals.UtilFormatBuilder.k_get_integer_consecutive_digit_separator = Spec.LiteralsExpected.UtilFormatBuilder.k_get_integer_consecutive_digit_separator := rfl
theorem k_get_fraction_consecutive_digit_separator : Gen.Literals.UtilFormatBuilder.k_get_fraction_consecutive_digit_separator = Spec.LiteralsExpected.UtilFormatBuilder.k_get_fraction_consecutive_digit_separator := rfl
theorem k_get_exponent_consecutive_digit_separator : Gen.Literals.UtilFormatBuilder.k_get_exponent_consecutive_digit_separator = Spec.LiteralsExpected.UtilFormatBuilder.k_get_exponent_consecutive_digit_separator := rfl
theorem k_get_special_digit_separator : Gen.Literals.UtilFormatBuilder.k_get_special_digit_separator = Spec.LiteralsExpected.UtilFormatBuilder.k_get_special_digit_separator := rfl
theorem k_digit_separator : Gen.Literals.UtilFormatBuilder.k_digit_separator = Spec.LiteralsExpected.UtilFormatBuilder.k_digit_separator := rfl
theorem k_radix : Gen.Literals.UtilFormatBuilder.k_radix = Spec.LiteralsExpected.UtilFormatBuilder.k_radix := rfl
theorem k_mantissa_radix : Gen.Literals.UtilFormatBuilder.k_mantissa_radix = Spec.LiteralsExpected.UtilFormatBuilder.k_mantissa_radix := rfl
theorem k_exponent_base : Gen.Literals.UtilFormatBuilder.k_exponent_base = Spec.LiteralsExpected.UtilFormatBuilder.k_exponent_base := rfl
theorem k_exponent_radix : Gen.Literals.UtilFormatBuilder.k_exponent_radix = Spec.LiteralsExpected.UtilFormatBuilder.k_exponent_radix := rfl
theorem k_base_prefix : Gen.Literals.UtilFormatBuilder.k_base_prefix = Spec.LiteralsExpected.UtilFormatBuilder.k_base_prefix := rfl
theorem k_base_suffix : Gen.Literals.UtilFormatBuilder.k_base_suffix = Spec.LiteralsExpected.UtilFormatBuilder.k_base_suffix := rfl
theorem k_required_integer_digits : Gen.Literals.UtilFormatBuilder.k_required_integer_digits = Spec.LiteralsExpected.UtilFormatBuilder.k_required_integer_digits := rfl
theorem k_required_fraction_digits : Gen.Literals.UtilFormatBuilder.k_required_fraction_digits = Spec.LiteralsExpected.UtilFormatBuilder.k_required_fraction_digits := rfl
theorem k_required_exponent_digits : Gen.Literals.UtilFormatBuilder.k_required_exponent_digits = Spec.LiteralsExpected.UtilFormatBuilder.k_required_exponent_digits := rfl
theorem k_required_mantissa_digits : Gen.Literals.UtilFormatBuilder.k_required_mantissa_digits = Spec.LiteralsExpected.UtilFormatBuilder.k_required_mantissa_digits := rfl
theorem k_required_digits : Gen.Literals.UtilFormatBuilder.k_required_digits = Spec.LiteralsExpected.UtilFormatBuilder.k_required_digits := rfl
theorem k_no_positive_mantissa_sign : Gen.Literals.UtilFormatBuilder.k_no_positive_mantissa_sign = Spec.LiteralsExpected.UtilFormatBuilder.k_no_positive_mantissa_sign := rfl
theorem k_required_mantissa_sign : Gen.Literals.UtilFormatBuilder.k_required_mantissa_sign = Spec.LiteralsExpected.UtilFormatBuilder.k_required_mantissa_sign := rfl
theorem k_no_exponent_notation : Gen.Literals.UtilFormatBuilder.k_no_exponent_notation = Spec.LiteralsExpected.UtilFormatBuilder.k_no_exponent_notation := rfl
theorem k_no_positive_exponent_sign : Gen.Literals.UtilFormatBuilder.k_no_positive_exponent_sign = Spec.LiteralsExpected.UtilFormatBuilder.k_no_positive_exponent_sign := rfl
theorem k_required_exponent_sign : Gen.Literals.UtilFormatBuilder.k_required_exponent_sign = Spec.LiteralsExpected.UtilFormatBuilder.k_required_exponent_sign := rfl
theorem k_no_exponent_without_fraction : Gen.Literals.UtilFormatBuilder.k_no_exponent_without_fraction = Spec.LiteralsExpected.UtilFormatBuilder.k_no_exponent_without_fraction := rfl
theorem k_no_special : Gen.Literals.UtilFormatBuilder.k_no_special = Spec.LiteralsExpected.UtilFormatBuilder.k_no_special := rfl
theorem k_case_sensitive_special : Gen.Literals.UtilFormatBuilder.k_case_sensitive_special = Spec.LiteralsExpected.UtilFormatBuilder.k_case_sensitive_special := rfl
theorem k_no_integer_leading_zeros : Gen.Literals.UtilFormatBuilder.k_no_integer_leading_zeros = Spec.LiteralsExpected.UtilFormatBuilder.k_no_integer_leading_zeros := rfl
theorem k_no_float_leading_zeros : Gen.Literals.UtilFormatBuilder.k_no_float_leading_zeros = Spec.LiteralsExpected.UtilFormatBuilder.k_no_float_leading_zeros := rfl
theorem k_required_exponent_notation : Gen.Literals.UtilFormatBuilder.k_required_exponent_notation = Spec.LiteralsExpected.UtilFormatBuilder.k_required_exponent_notation := rfl
theorem k_case_sensitive_exponent : Gen.Literals.UtilFormatBuilder.k_case_sensitive_exponent = Spec.LiteralsExpected.UtilFormatBuilder.k_case_sensitive_exponent := rfl
theorem k_case_sensitive_base_prefix : Gen.Literals.UtilFormatBuilder.k_case_sensitive_base_prefix = Spec.LiteralsExpected.UtilFormatBuilder.k_case_sensitive_base_prefix := rfl
theorem k_case_sensitive_base_suffix : Gen.Literals.UtilFormatBuilder.k_case_sensitive_base_suffix = Spec.LiteralsExpected.UtilFormatBuilder.k_case_sensitive_base_suffix := rfl
theorem k_integer_internal_digit_separator : Gen.Literals.UtilFormatBuilder.k_integer_internal_digit_separator = Spec.LiteralsExpected.UtilFormatBuilder.k_integer_internal_digit_separator := rfl
theorem k_fraction_internal_digit_separator : Gen.Literals.UtilFormatBuilder.k_fraction_internal_digit_separator = Spec.LiteralsExpected.UtilFormatBuilder.k_fraction_internal_digit_separator := rfl
theorem k_exponent_internal_digit_separator : Gen.Literals.UtilFormatBuilder.k_exponent_internal_digit_separator = Spec.LiteralsExpected.UtilFormatBuilder.k_exponent_internal_digit_separator := rfl
theorem k_internal_digit_separator : Gen.Literals.UtilFormatBuilder.k_internal_digit_separator = Spec.LiteralsExpected.UtilFormatBuilder.k_internal_digit_separator := rfl
theorem k_integer_leading_digit_separator : Gen.Literals.UtilFormatBuilder.k_integer_leading_digit_separator = Spec.LiteralsExpected.UtilFormatBuilder.k_integer_leading_digit_separator := rfl
theorem k_fraction_leading_digit_separator : Gen.Literals.UtilFormatBuilder.k_fraction_leading_digit_separator = Spec.LiteralsExpected.UtilFormatBuilder.k_fraction_leading_digit_separator := rfl
theorem k_exponent_leading_digit_separator : Gen.Literals.UtilFormatBuilder.k_exponent_leading_digit_separator = Spec.LiteralsExpected.UtilFormatBuilder.k_exponent_leading_digit_separator := rfl
theorem k_leading_digit_separator : Gen.Literals.UtilFormatBuilder.k_leading_digit_separator = Spec.LiteralsExpected.UtilFormatBuilder.k_leading_digit_separator := rfl
theorem k_integer_trailing_digit_separator : Gen.Literals.UtilFormatBuilder.k_integer_trailing_digit_separator = Spec.LiteralsExpected.UtilFormatBuilder.k_integer_trailing_digit_separator := rfl
theorem k_fraction_trailing_digit_separator : Gen.Literals.UtilFormatBuilder.k_fraction_trailing_digit_separator = Spec.LiteralsExpected.UtilFormatBuilder.k_fraction_trailing_digit_separator := rfl
theorem k_exponent_trailing_digit_separator : Gen.Literals.UtilFormatBuilder.k_exponent_trailing_digit_separator = Spec.LiteralsExpected.UtilFormatBuilder.k_exponent_trailing_digit_separator := rfl
theorem k_trailing_digit_separator : Gen.Literals.UtilFormatBuilder.k_trailing_digit_separator = Spec.LiteralsExpected.UtilFormatBuilder.k_trailing_digit_separator := rfl
theorem k_integer_consecutive_digit_separator : Gen.Literals.UtilFormatBuilder.k_integer_consecutive_digit_separator = Spec.LiteralsExpected.UtilFormatBuilder.k_integer_consecutive_digit_separator := rfl
theorem k_fraction_consecutive_digit_separator : Gen.Literals.UtilFormatBuilder.k_fraction_consecutive_digit_separator = Spec.LiteralsExpected.UtilFormatBuilder.k_fraction_consecutive_digit_separator := rfl
theorem k_exponent_consecutive_digit_separator : Gen.Literals.UtilFormatBuilder.k_exponent_consecutive_digit_separator = Spec.LiteralsExpected.UtilFormatBuilder.k_exponent_consecutive_digit_separator := rfl
theorem k_consecutive_digit_separator : Gen.Literals.UtilFormatBuilder.k_consecutive_digit_separator = Spec.LiteralsExpected.UtilFormatBuilder.k_consecutive_digit_separator := rfl
theorem k_special_digit_separator : Gen.Literals.UtilFormatBuilder.k_special_digit_separator = Spec.LiteralsExpected.UtilFormatBuilder.k_special_digit_separator := rfl
theorem k_digit_separator_flags : Gen.Literals.UtilFormatBuilder.k_digit_separator_flags = Spec.LiteralsExpected.UtilFormatBuilder.k_digit_separator_flags := rfl
theorem k_integer_digit_separator_flags : Gen.Literals.UtilFormatBuilder.k_integer_digit_separator_flags = Spec.LiteralsExpected.UtilFormatBuilder.k_integer_digit_separator_flags := rfl
theorem k_fraction_digit_separator_flags : Gen.Literals.UtilFormatBuilder.k_fraction_digit_separator_flags = Spec.LiteralsExpected.UtilFormatBuilder.k_fraction_digit_separator_flags := rfl
theorem k_exponent_digit_separator_flags : Gen.Literals.UtilFormatBuilder.k_exponent_digit_separator_flags = Spec.LiteralsExpected.UtilFormatBuilder.k_exponent_digit_separator_flags := rfl
theorem k_build_unchecked : Gen.Literals.UtilFormatBuilder.k_build_unchecked = Spec.LiteralsExpected.UtilFormatBuilder.k_build_unchecked := rfl
theorem k_build_strict : Gen.Literals.UtilFormatBuilder.k_build_strict = Spec.LiteralsExpected.UtilFormatBuilder.k_build_strict := rfl
theorem k_build : Gen.Literals.UtilFormatBuilder.k_build = Spec.LiteralsExpected.UtilFormatBuilder.k_build := rfl
theorem k_rebuild : Gen.Literals.UtilFormatBuilder.k_rebuild = Spec.LiteralsExpected.UtilFormatBuilder.k_rebuild := rfl
theorem k_default : Gen.Literals.UtilFormatBuilder.k_default = Spec.LiteralsExpected.UtilFormatBuilder.k_default := rfl

end LexVerif.Props.Literals.UtilFormatBuilder
