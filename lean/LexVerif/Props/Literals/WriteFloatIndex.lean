import LexVerif.Gen.Literals
import LexVerif.Spec.LiteralsExpected
/-!
# Literals.WriteFloatIndex — lexical-write-float/src/index.rs still has the literals and token shape the models were transcribed from

`Gen.Literals.WriteFloatIndex` is re-extracted from /repo's source text on every run; `Spec.LiteralsExpected.WriteFloatIndex` is the
committed snapshot. One theorem per fn / macro item, so a failing obligation names the item whose source moved;
`items_same` catches added or removed items. (Written by `extractors.literals.snapshot()`.)
-/
namespace LexVerif.Props.Literals.WriteFloatIndex
open LexVerif

theorem items_same : Gen.Literals.WriteFloatIndex.items = Spec.LiteralsExpected.WriteFloatIndex.items := rfl
theorem k_index_unchecked_macro : Gen.Literals.WriteFloatIndex.k_index_unchecked_macro = Spec.LiteralsExpected.WriteFloatIndex.k_index_unchecked_macro := rfl

end LexVerif.Props.Literals.WriteFloatIndex
