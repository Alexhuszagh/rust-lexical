import LexVerif.Gen.Literals
import LexVerif.Spec.LiteralsExpected
/-!
# Literals.UtilConstants — lexical-util/src/constants.rs still has the literals and token shape the models were transcribed from

`Gen.Literals.UtilConstants` is re-extracted from /repo's source text on every run; `Spec.LiteralsExpected.UtilConstants` is the
committed snapshot. One theorem per fn / macro item, so a failing obligation names the item whose source moved;
`items_same` catches added or removed items. (Written by `extractors.literals.snapshot()`.)
-/
namespace LexVerif.Props.Literals.UtilConstants
open LexVerif

theorem items_same : Gen.Literals.UtilConstants.items = Spec.LiteralsExpected.UtilConstants.items := rfl
theorem k_formatted_size_impl_macro : Gen.Literals.UtilConstants.k_formatted_size_impl_macro = Spec.LiteralsExpected.UtilConstants.k_formatted_size_impl_macro := rfl

end LexVerif.Props.Literals.UtilConstants
