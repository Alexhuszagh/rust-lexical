import LexVerif.Gen.Literals
import LexVerif.Spec.LiteralsExpected
/-!
# Literals.UtilAlgorithm — lexical-util/src/algorithm.rs still has the literals and token shape the models were transcribed from

`Gen.Literals.UtilAlgorithm` is re-extracted from /repo's source text on every run; `Spec.LiteralsExpected.UtilAlgorithm` is the
committed snapshot. One theorem per fn / macro item, so a failing obligation names the item whose source moved;
`items_same` catches added or removed items. (Written by `extractors.literals.snapshot()`.)
-/
namespace LexVerif.Props.Literals.UtilAlgorithm
open LexVerif

theorem items_same : Gen.Literals.UtilAlgorithm.items = Spec.LiteralsExpected.UtilAlgorithm.items := rfl
theorem k_copy_to_dst : Gen.Literals.UtilAlgorithm.k_copy_to_dst = Spec.LiteralsExpected.UtilAlgorithm.k_copy_to_dst := rfl
theorem k_rtrim_char_count : Gen.Literals.UtilAlgorithm.k_rtrim_char_count = Spec.LiteralsExpected.UtilAlgorithm.k_rtrim_char_count := rfl
theorem k_ltrim_char_count : Gen.Literals.UtilAlgorithm.k_ltrim_char_count = Spec.LiteralsExpected.UtilAlgorithm.k_ltrim_char_count := rfl
theorem k_cannot_overflow : Gen.Literals.UtilAlgorithm.k_cannot_overflow = Spec.LiteralsExpected.UtilAlgorithm.k_cannot_overflow := rfl

end LexVerif.Props.Literals.UtilAlgorithm
