import LexVerif.Gen.Literals
import LexVerif.Spec.LiteralsExpected
/-!
# Literals.ParseFloatFloat — lexical-parse-float/src/float.rs still has the literals and token shape the models were transcribed from

`Gen.Literals.ParseFloatFloat` is re-extracted from /repo's source text on every run; `Spec.LiteralsExpected.ParseFloatFloat` is the
committed snapshot. One theorem per fn / macro item, so a failing obligation names the item whose source moved;
`items_same` catches added or removed items. (Written by `extractors.literals.snapshot()`.)
-/
namespace LexVerif.Props.Literals.ParseFloatFloat
open LexVerif

theorem items_same : Gen.Literals.ParseFloatFloat.items = Spec.LiteralsExpected.ParseFloatFloat.items := rfl
theorem k_min_exponent_fast_path : Gen.Literals.ParseFloatFloat.k_min_exponent_fast_path = Spec.LiteralsExpected.ParseFloatFloat.k_min_exponent_fast_path := rfl
theorem k_max_exponent_fast_path : Gen.Literals.ParseFloatFloat.k_max_exponent_fast_path = Spec.LiteralsExpected.ParseFloatFloat.k_max_exponent_fast_path := rfl
theorem k_max_exponent_disguised_fast_path : Gen.Literals.ParseFloatFloat.k_max_exponent_disguised_fast_path = Spec.LiteralsExpected.ParseFloatFloat.k_max_exponent_disguised_fast_path := rfl
theorem k_pow_fast_path : Gen.Literals.ParseFloatFloat.k_pow_fast_path = Spec.LiteralsExpected.ParseFloatFloat.k_pow_fast_path := rfl
theorem k_int_pow_fast_path : Gen.Literals.ParseFloatFloat.k_int_pow_fast_path = Spec.LiteralsExpected.ParseFloatFloat.k_int_pow_fast_path := rfl
theorem k_powf : Gen.Literals.ParseFloatFloat.k_powf = Spec.LiteralsExpected.ParseFloatFloat.k_powf := rfl
theorem k_powd : Gen.Literals.ParseFloatFloat.k_powd = Spec.LiteralsExpected.ParseFloatFloat.k_powd := rfl
theorem k_extended_to_float : Gen.Literals.ParseFloatFloat.k_extended_to_float = Spec.LiteralsExpected.ParseFloatFloat.k_extended_to_float := rfl

end LexVerif.Props.Literals.ParseFloatFloat
