import LexVerif.Gen.Literals
import LexVerif.Spec.LiteralsExpected
/-!
# Literals.ParseFloatMask — lexical-parse-float/src/mask.rs still has the literals and token shape the models were transcribed from

`Gen.Literals.ParseFloatMask` is re-extracted from /repo's source text on every run; `Spec.LiteralsExpected.ParseFloatMask` is the
committed snapshot. One theorem per fn / macro item, so a failing obligation names the item whose source moved;
`items_same` catches added or removed items. (Written by `extractors.literals.snapshot()`.)
-/
namespace LexVerif.Props.Literals.ParseFloatMask
open LexVerif

theorem items_same : Gen.Literals.ParseFloatMask.items = Spec.LiteralsExpected.ParseFloatMask.items := rfl
theorem k_lower_n_mask : Gen.Literals.ParseFloatMask.k_lower_n_mask = Spec.LiteralsExpected.ParseFloatMask.k_lower_n_mask := rfl
theorem k_lower_n_halfway : Gen.Literals.ParseFloatMask.k_lower_n_halfway = Spec.LiteralsExpected.ParseFloatMask.k_lower_n_halfway := rfl
theorem k_nth_bit : Gen.Literals.ParseFloatMask.k_nth_bit = Spec.LiteralsExpected.ParseFloatMask.k_nth_bit := rfl

end LexVerif.Props.Literals.ParseFloatMask
