import LexVerif.Gen.Literals
import LexVerif.Spec.LiteralsExpected
/-!
# Literals.WriteFloatCompact — lexical-write-float/src/compact.rs still has the literals and token shape the models were transcribed from

`Gen.Literals.WriteFloatCompact` is re-extracted from /repo's source text on every run; `Spec.LiteralsExpected.WriteFloatCompact` is the
committed snapshot. One theorem per fn / macro item, so a failing obligation names the item whose source moved;
`items_same` catches added or removed items. (Written by `extractors.literals.snapshot()`.)
-/
namespace LexVerif.Props.Literals.WriteFloatCompact
open LexVerif

theorem items_same : Gen.Literals.WriteFloatCompact.items = Spec.LiteralsExpected.WriteFloatCompact.items := rfl
theorem k_write_float : Gen.Literals.WriteFloatCompact.k_write_float = Spec.LiteralsExpected.WriteFloatCompact.k_write_float := rfl
theorem k_write_float_scientific : Gen.Literals.WriteFloatCompact.k_write_float_scientific = Spec.LiteralsExpected.WriteFloatCompact.k_write_float_scientific := rfl
theorem k_write_float_negative_exponent : Gen.Literals.WriteFloatCompact.k_write_float_negative_exponent = Spec.LiteralsExpected.WriteFloatCompact.k_write_float_negative_exponent := rfl
theorem k_write_float_positive_exponent : Gen.Literals.WriteFloatCompact.k_write_float_positive_exponent = Spec.LiteralsExpected.WriteFloatCompact.k_write_float_positive_exponent := rfl
theorem k_round_digit : Gen.Literals.WriteFloatCompact.k_round_digit = Spec.LiteralsExpected.WriteFloatCompact.k_round_digit := rfl
theorem k_generate_digits : Gen.Literals.WriteFloatCompact.k_generate_digits = Spec.LiteralsExpected.WriteFloatCompact.k_generate_digits := rfl
theorem k_grisu : Gen.Literals.WriteFloatCompact.k_grisu = Spec.LiteralsExpected.WriteFloatCompact.k_grisu := rfl
theorem k_from_float : Gen.Literals.WriteFloatCompact.k_from_float = Spec.LiteralsExpected.WriteFloatCompact.k_from_float := rfl
theorem k_normalize : Gen.Literals.WriteFloatCompact.k_normalize = Spec.LiteralsExpected.WriteFloatCompact.k_normalize := rfl
theorem k_normalized_boundaries : Gen.Literals.WriteFloatCompact.k_normalized_boundaries = Spec.LiteralsExpected.WriteFloatCompact.k_normalized_boundaries := rfl
theorem k_mul : Gen.Literals.WriteFloatCompact.k_mul = Spec.LiteralsExpected.WriteFloatCompact.k_mul := rfl
theorem k_cached_grisu_power : Gen.Literals.WriteFloatCompact.k_cached_grisu_power = Spec.LiteralsExpected.WriteFloatCompact.k_cached_grisu_power := rfl
theorem k_fast_binary_power : Gen.Literals.WriteFloatCompact.k_fast_binary_power = Spec.LiteralsExpected.WriteFloatCompact.k_fast_binary_power := rfl
theorem k_fast_decimal_power : Gen.Literals.WriteFloatCompact.k_fast_decimal_power = Spec.LiteralsExpected.WriteFloatCompact.k_fast_decimal_power := rfl
theorem k_verif_cached_grisu_power : Gen.Literals.WriteFloatCompact.k_verif_cached_grisu_power = Spec.LiteralsExpected.WriteFloatCompact.k_verif_cached_grisu_power := rfl
theorem k_verif_fast_binary_power : Gen.Literals.WriteFloatCompact.k_verif_fast_binary_power = Spec.LiteralsExpected.WriteFloatCompact.k_verif_fast_binary_power := rfl
theorem k_verif_fast_decimal_power : Gen.Literals.WriteFloatCompact.k_verif_fast_decimal_power = Spec.LiteralsExpected.WriteFloatCompact.k_verif_fast_decimal_power := rfl
theorem k_grisu_power : Gen.Literals.WriteFloatCompact.k_grisu_power = Spec.LiteralsExpected.WriteFloatCompact.k_grisu_power := rfl
theorem k_grisu_impl_macro : Gen.Literals.WriteFloatCompact.k_grisu_impl_macro = Spec.LiteralsExpected.WriteFloatCompact.k_grisu_impl_macro := rfl
theorem k_grisu_unimpl_macro : Gen.Literals.WriteFloatCompact.k_grisu_unimpl_macro = Spec.LiteralsExpected.WriteFloatCompact.k_grisu_unimpl_macro := rfl

end LexVerif.Props.Literals.WriteFloatCompact
