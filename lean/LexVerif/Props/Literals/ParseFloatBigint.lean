import LexVerif.Gen.Literals
import LexVerif.Spec.LiteralsExpected
/-!
# Literals.ParseFloatBigint — lexical-parse-float/src/bigint.rs still has the literals and token shape the models were transcribed from

`Gen.Literals.ParseFloatBigint` is re-extracted from /repo's source text on every run; `Spec.LiteralsExpected.ParseFloatBigint` is the
committed snapshot. One theorem per fn / macro item, so a failing obligation names the item whose source moved;
`items_same` catches added or removed items. (Written by `extractors.literals.snapshot()`.)
-/
namespace LexVerif.Props.Literals.ParseFloatBigint
open LexVerif

theorem items_same : Gen.Literals.ParseFloatBigint.items = Spec.LiteralsExpected.ParseFloatBigint.items := rfl
theorem k_index_unchecked_macro : Gen.Literals.ParseFloatBigint.k_index_unchecked_macro = Spec.LiteralsExpected.ParseFloatBigint.k_index_unchecked_macro := rfl
theorem k_new : Gen.Literals.ParseFloatBigint.k_new = Spec.LiteralsExpected.ParseFloatBigint.k_new := rfl
theorem k_from_u32 : Gen.Literals.ParseFloatBigint.k_from_u32 = Spec.LiteralsExpected.ParseFloatBigint.k_from_u32 := rfl
theorem k_from_u64 : Gen.Literals.ParseFloatBigint.k_from_u64 = Spec.LiteralsExpected.ParseFloatBigint.k_from_u64 := rfl
theorem k_hi64 : Gen.Literals.ParseFloatBigint.k_hi64 = Spec.LiteralsExpected.ParseFloatBigint.k_hi64 := rfl
theorem k_pow : Gen.Literals.ParseFloatBigint.k_pow = Spec.LiteralsExpected.ParseFloatBigint.k_pow := rfl
theorem k_bit_length : Gen.Literals.ParseFloatBigint.k_bit_length = Spec.LiteralsExpected.ParseFloatBigint.k_bit_length := rfl
theorem k_mul_assign : Gen.Literals.ParseFloatBigint.k_mul_assign = Spec.LiteralsExpected.ParseFloatBigint.k_mul_assign := rfl
theorem k_default : Gen.Literals.ParseFloatBigint.k_default = Spec.LiteralsExpected.ParseFloatBigint.k_default := rfl
theorem k_from_float : Gen.Literals.ParseFloatBigint.k_from_float = Spec.LiteralsExpected.ParseFloatBigint.k_from_float := rfl
theorem k_shl_bits : Gen.Literals.ParseFloatBigint.k_shl_bits = Spec.LiteralsExpected.ParseFloatBigint.k_shl_bits := rfl
theorem k_shl_limbs : Gen.Literals.ParseFloatBigint.k_shl_limbs = Spec.LiteralsExpected.ParseFloatBigint.k_shl_limbs := rfl
theorem k_shl : Gen.Literals.ParseFloatBigint.k_shl = Spec.LiteralsExpected.ParseFloatBigint.k_shl := rfl
theorem k_leading_zeros : Gen.Literals.ParseFloatBigint.k_leading_zeros = Spec.LiteralsExpected.ParseFloatBigint.k_leading_zeros := rfl
theorem k_hi_macro : Gen.Literals.ParseFloatBigint.k_hi_macro = Spec.LiteralsExpected.ParseFloatBigint.k_hi_macro := rfl
theorem k_as_mut_ptr : Gen.Literals.ParseFloatBigint.k_as_mut_ptr = Spec.LiteralsExpected.ParseFloatBigint.k_as_mut_ptr := rfl
theorem k_as_ptr : Gen.Literals.ParseFloatBigint.k_as_ptr = Spec.LiteralsExpected.ParseFloatBigint.k_as_ptr := rfl
theorem k_try_from : Gen.Literals.ParseFloatBigint.k_try_from = Spec.LiteralsExpected.ParseFloatBigint.k_try_from := rfl
theorem k_set_len : Gen.Literals.ParseFloatBigint.k_set_len = Spec.LiteralsExpected.ParseFloatBigint.k_set_len := rfl
theorem k_len : Gen.Literals.ParseFloatBigint.k_len = Spec.LiteralsExpected.ParseFloatBigint.k_len := rfl
theorem k_is_empty : Gen.Literals.ParseFloatBigint.k_is_empty = Spec.LiteralsExpected.ParseFloatBigint.k_is_empty := rfl
theorem k_capacity : Gen.Literals.ParseFloatBigint.k_capacity = Spec.LiteralsExpected.ParseFloatBigint.k_capacity := rfl
theorem k_push_unchecked : Gen.Literals.ParseFloatBigint.k_push_unchecked = Spec.LiteralsExpected.ParseFloatBigint.k_push_unchecked := rfl
theorem k_try_push : Gen.Literals.ParseFloatBigint.k_try_push = Spec.LiteralsExpected.ParseFloatBigint.k_try_push := rfl
theorem k_pop_unchecked : Gen.Literals.ParseFloatBigint.k_pop_unchecked = Spec.LiteralsExpected.ParseFloatBigint.k_pop_unchecked := rfl
theorem k_pop : Gen.Literals.ParseFloatBigint.k_pop = Spec.LiteralsExpected.ParseFloatBigint.k_pop := rfl
theorem k_extend_unchecked : Gen.Literals.ParseFloatBigint.k_extend_unchecked = Spec.LiteralsExpected.ParseFloatBigint.k_extend_unchecked := rfl
theorem k_try_extend : Gen.Literals.ParseFloatBigint.k_try_extend = Spec.LiteralsExpected.ParseFloatBigint.k_try_extend := rfl
theorem k_truncate_unchecked : Gen.Literals.ParseFloatBigint.k_truncate_unchecked = Spec.LiteralsExpected.ParseFloatBigint.k_truncate_unchecked := rfl
theorem k_resize_unchecked : Gen.Literals.ParseFloatBigint.k_resize_unchecked = Spec.LiteralsExpected.ParseFloatBigint.k_resize_unchecked := rfl
theorem k_try_resize : Gen.Literals.ParseFloatBigint.k_try_resize = Spec.LiteralsExpected.ParseFloatBigint.k_try_resize := rfl
theorem k_hi16 : Gen.Literals.ParseFloatBigint.k_hi16 = Spec.LiteralsExpected.ParseFloatBigint.k_hi16 := rfl
theorem k_hi32 : Gen.Literals.ParseFloatBigint.k_hi32 = Spec.LiteralsExpected.ParseFloatBigint.k_hi32 := rfl
theorem k_from_u16 : Gen.Literals.ParseFloatBigint.k_from_u16 = Spec.LiteralsExpected.ParseFloatBigint.k_from_u16 := rfl
theorem k_rview : Gen.Literals.ParseFloatBigint.k_rview = Spec.LiteralsExpected.ParseFloatBigint.k_rview := rfl
theorem k_normalize : Gen.Literals.ParseFloatBigint.k_normalize = Spec.LiteralsExpected.ParseFloatBigint.k_normalize := rfl
theorem k_is_normalized : Gen.Literals.ParseFloatBigint.k_is_normalized = Spec.LiteralsExpected.ParseFloatBigint.k_is_normalized := rfl
theorem k_quorem : Gen.Literals.ParseFloatBigint.k_quorem = Spec.LiteralsExpected.ParseFloatBigint.k_quorem := rfl
theorem k_add_small : Gen.Literals.ParseFloatBigint.k_add_small = Spec.LiteralsExpected.ParseFloatBigint.k_add_small := rfl
theorem k_mul_small : Gen.Literals.ParseFloatBigint.k_mul_small = Spec.LiteralsExpected.ParseFloatBigint.k_mul_small := rfl
theorem k_eq : Gen.Literals.ParseFloatBigint.k_eq = Spec.LiteralsExpected.ParseFloatBigint.k_eq := rfl
theorem k_partial_cmp : Gen.Literals.ParseFloatBigint.k_partial_cmp = Spec.LiteralsExpected.ParseFloatBigint.k_partial_cmp := rfl
theorem k_cmp : Gen.Literals.ParseFloatBigint.k_cmp = Spec.LiteralsExpected.ParseFloatBigint.k_cmp := rfl
theorem k_deref : Gen.Literals.ParseFloatBigint.k_deref = Spec.LiteralsExpected.ParseFloatBigint.k_deref := rfl
theorem k_deref_mut : Gen.Literals.ParseFloatBigint.k_deref_mut = Spec.LiteralsExpected.ParseFloatBigint.k_deref_mut := rfl
theorem k_get_unchecked : Gen.Literals.ParseFloatBigint.k_get_unchecked = Spec.LiteralsExpected.ParseFloatBigint.k_get_unchecked := rfl
theorem k_get : Gen.Literals.ParseFloatBigint.k_get = Spec.LiteralsExpected.ParseFloatBigint.k_get := rfl
theorem k_index : Gen.Literals.ParseFloatBigint.k_index = Spec.LiteralsExpected.ParseFloatBigint.k_index := rfl
theorem k_nonzero : Gen.Literals.ParseFloatBigint.k_nonzero = Spec.LiteralsExpected.ParseFloatBigint.k_nonzero := rfl
theorem k_u32_to_hi16_1 : Gen.Literals.ParseFloatBigint.k_u32_to_hi16_1 = Spec.LiteralsExpected.ParseFloatBigint.k_u32_to_hi16_1 := rfl
theorem k_u32_to_hi16_2 : Gen.Literals.ParseFloatBigint.k_u32_to_hi16_2 = Spec.LiteralsExpected.ParseFloatBigint.k_u32_to_hi16_2 := rfl
theorem k_u32_to_hi32_1 : Gen.Literals.ParseFloatBigint.k_u32_to_hi32_1 = Spec.LiteralsExpected.ParseFloatBigint.k_u32_to_hi32_1 := rfl
theorem k_u32_to_hi32_2 : Gen.Literals.ParseFloatBigint.k_u32_to_hi32_2 = Spec.LiteralsExpected.ParseFloatBigint.k_u32_to_hi32_2 := rfl
theorem k_u32_to_hi64_1 : Gen.Literals.ParseFloatBigint.k_u32_to_hi64_1 = Spec.LiteralsExpected.ParseFloatBigint.k_u32_to_hi64_1 := rfl
theorem k_u32_to_hi64_2 : Gen.Literals.ParseFloatBigint.k_u32_to_hi64_2 = Spec.LiteralsExpected.ParseFloatBigint.k_u32_to_hi64_2 := rfl
theorem k_u32_to_hi64_3 : Gen.Literals.ParseFloatBigint.k_u32_to_hi64_3 = Spec.LiteralsExpected.ParseFloatBigint.k_u32_to_hi64_3 := rfl
theorem k_u64_to_hi16_1 : Gen.Literals.ParseFloatBigint.k_u64_to_hi16_1 = Spec.LiteralsExpected.ParseFloatBigint.k_u64_to_hi16_1 := rfl
theorem k_u64_to_hi16_2 : Gen.Literals.ParseFloatBigint.k_u64_to_hi16_2 = Spec.LiteralsExpected.ParseFloatBigint.k_u64_to_hi16_2 := rfl
theorem k_u64_to_hi32_1 : Gen.Literals.ParseFloatBigint.k_u64_to_hi32_1 = Spec.LiteralsExpected.ParseFloatBigint.k_u64_to_hi32_1 := rfl
theorem k_u64_to_hi32_2 : Gen.Literals.ParseFloatBigint.k_u64_to_hi32_2 = Spec.LiteralsExpected.ParseFloatBigint.k_u64_to_hi32_2 := rfl
theorem k_u64_to_hi64_1 : Gen.Literals.ParseFloatBigint.k_u64_to_hi64_1 = Spec.LiteralsExpected.ParseFloatBigint.k_u64_to_hi64_1 := rfl
theorem k_u64_to_hi64_2 : Gen.Literals.ParseFloatBigint.k_u64_to_hi64_2 = Spec.LiteralsExpected.ParseFloatBigint.k_u64_to_hi64_2 := rfl
theorem k_scalar_add : Gen.Literals.ParseFloatBigint.k_scalar_add = Spec.LiteralsExpected.ParseFloatBigint.k_scalar_add := rfl
theorem k_scalar_mul : Gen.Literals.ParseFloatBigint.k_scalar_mul = Spec.LiteralsExpected.ParseFloatBigint.k_scalar_mul := rfl
theorem k_small_add_from : Gen.Literals.ParseFloatBigint.k_small_add_from = Spec.LiteralsExpected.ParseFloatBigint.k_small_add_from := rfl
theorem k_small_add : Gen.Literals.ParseFloatBigint.k_small_add = Spec.LiteralsExpected.ParseFloatBigint.k_small_add := rfl
theorem k_small_mul : Gen.Literals.ParseFloatBigint.k_small_mul = Spec.LiteralsExpected.ParseFloatBigint.k_small_mul := rfl
theorem k_large_add_from : Gen.Literals.ParseFloatBigint.k_large_add_from = Spec.LiteralsExpected.ParseFloatBigint.k_large_add_from := rfl
theorem k_large_add : Gen.Literals.ParseFloatBigint.k_large_add = Spec.LiteralsExpected.ParseFloatBigint.k_large_add := rfl
theorem k_long_mul : Gen.Literals.ParseFloatBigint.k_long_mul = Spec.LiteralsExpected.ParseFloatBigint.k_long_mul := rfl
theorem k_large_mul : Gen.Literals.ParseFloatBigint.k_large_mul = Spec.LiteralsExpected.ParseFloatBigint.k_large_mul := rfl
theorem k_large_quorem : Gen.Literals.ParseFloatBigint.k_large_quorem = Spec.LiteralsExpected.ParseFloatBigint.k_large_quorem := rfl
theorem k_compare : Gen.Literals.ParseFloatBigint.k_compare = Spec.LiteralsExpected.ParseFloatBigint.k_compare := rfl
theorem k_split_radix : Gen.Literals.ParseFloatBigint.k_split_radix = Spec.LiteralsExpected.ParseFloatBigint.k_split_radix := rfl

end LexVerif.Props.Literals.ParseFloatBigint
