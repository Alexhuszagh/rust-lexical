import LexVerif.Gen.Literals
import LexVerif.Spec.LiteralsExpected
/-!
# Literals.WriteIntegerAlgorithm — lexical-write-integer/src/algorithm.rs still has the literals and token shape the models were transcribed from

`Gen.Literals.WriteIntegerAlgorithm` is re-extracted from /repo's source text on every run; `Spec.LiteralsExpected.WriteIntegerAlgorithm` is the
committed snapshot. One theorem per fn / macro item, so a failing obligation names the item whose source moved;
`items_same` catches added or removed items. (Written by `extractors.literals.snapshot()`.)
-/
namespace LexVerif.Props.Literals.WriteIntegerAlgorithm
open LexVerif

theorem items_same : Gen.Literals.WriteIntegerAlgorithm.items = Spec.LiteralsExpected.WriteIntegerAlgorithm.items := rfl
theorem k_i_macro : Gen.Literals.WriteIntegerAlgorithm.k_i_macro = Spec.LiteralsExpected.WriteIntegerAlgorithm.k_i_macro := rfl
theorem k_write_digits_macro : Gen.Literals.WriteIntegerAlgorithm.k_write_digits_macro = Spec.LiteralsExpected.WriteIntegerAlgorithm.k_write_digits_macro := rfl
theorem k_write_digit_macro : Gen.Literals.WriteIntegerAlgorithm.k_write_digit_macro = Spec.LiteralsExpected.WriteIntegerAlgorithm.k_write_digit_macro := rfl
theorem k_write_digits : Gen.Literals.WriteIntegerAlgorithm.k_write_digits = Spec.LiteralsExpected.WriteIntegerAlgorithm.k_write_digits := rfl
theorem k_write_step_digits : Gen.Literals.WriteIntegerAlgorithm.k_write_step_digits = Spec.LiteralsExpected.WriteIntegerAlgorithm.k_write_step_digits := rfl
theorem k_algorithm : Gen.Literals.WriteIntegerAlgorithm.k_algorithm = Spec.LiteralsExpected.WriteIntegerAlgorithm.k_algorithm := rfl
theorem k_algorithm_u128 : Gen.Literals.WriteIntegerAlgorithm.k_algorithm_u128 = Spec.LiteralsExpected.WriteIntegerAlgorithm.k_algorithm_u128 := rfl

end LexVerif.Props.Literals.WriteIntegerAlgorithm
