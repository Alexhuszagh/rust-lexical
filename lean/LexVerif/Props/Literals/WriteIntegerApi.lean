import LexVerif.Gen.Literals
import LexVerif.Spec.LiteralsExpected
/-!
# Literals.WriteIntegerApi — lexical-write-integer/src/api.rs still has the literals and token shape the models were transcribed from

`Gen.Literals.WriteIntegerApi` is re-extracted from /repo's source text on every run; `Spec.LiteralsExpected.WriteIntegerApi` is the
committed snapshot. One theorem per fn / macro item, so a failing obligation names the item whose source moved;
`items_same` catches added or removed items. (Written by `extractors.literals.snapshot()`.)
-/
namespace LexVerif.Props.Literals.WriteIntegerApi
open LexVerif

theorem items_same : Gen.Literals.WriteIntegerApi.items = Spec.LiteralsExpected.WriteIntegerApi.items := rfl
theorem k_unsigned : Gen.Literals.WriteIntegerApi.k_unsigned = Spec.LiteralsExpected.WriteIntegerApi.k_unsigned := rfl
theorem k_signed : Gen.Literals.WriteIntegerApi.k_signed = Spec.LiteralsExpected.WriteIntegerApi.k_signed := rfl
theorem k_unsigned_to_lexical_macro : Gen.Literals.WriteIntegerApi.k_unsigned_to_lexical_macro = Spec.LiteralsExpected.WriteIntegerApi.k_unsigned_to_lexical_macro := rfl
theorem k_to_lexical : Gen.Literals.WriteIntegerApi.k_to_lexical = Spec.LiteralsExpected.WriteIntegerApi.k_to_lexical := rfl
theorem k_to_lexical_with_options : Gen.Literals.WriteIntegerApi.k_to_lexical_with_options = Spec.LiteralsExpected.WriteIntegerApi.k_to_lexical_with_options := rfl
theorem k_signed_to_lexical_macro : Gen.Literals.WriteIntegerApi.k_signed_to_lexical_macro = Spec.LiteralsExpected.WriteIntegerApi.k_signed_to_lexical_macro := rfl

end LexVerif.Props.Literals.WriteIntegerApi
