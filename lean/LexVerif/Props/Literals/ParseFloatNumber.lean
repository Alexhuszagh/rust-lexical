import LexVerif.Gen.Literals
import LexVerif.Spec.LiteralsExpected
/-!
# Literals.ParseFloatNumber — lexical-parse-float/src/number.rs still has the literals and token shape the models were transcribed from

`Gen.Literals.ParseFloatNumber` is re-extracted from /repo's source text on every run; `Spec.LiteralsExpected.ParseFloatNumber` is the
committed snapshot. One theorem per fn / macro item, so a failing obligation names the item whose source moved;
`items_same` catches added or removed items. (Written by `extractors.literals.snapshot()`.)
-/
namespace LexVerif.Props.Literals.ParseFloatNumber
open LexVerif

theorem items_same : Gen.Literals.ParseFloatNumber.items = Spec.LiteralsExpected.ParseFloatNumber.items := rfl
theorem k_is_fast_path : Gen.Literals.ParseFloatNumber.k_is_fast_path = Spec.LiteralsExpected.ParseFloatNumber.k_is_fast_path := rfl
theorem k_try_fast_path : Gen.Literals.ParseFloatNumber.k_try_fast_path = Spec.LiteralsExpected.ParseFloatNumber.k_try_fast_path := rfl
theorem k_force_fast_path : Gen.Literals.ParseFloatNumber.k_force_fast_path = Spec.LiteralsExpected.ParseFloatNumber.k_force_fast_path := rfl

end LexVerif.Props.Literals.ParseFloatNumber
