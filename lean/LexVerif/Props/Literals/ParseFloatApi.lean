import LexVerif.Gen.Literals
import LexVerif.Spec.LiteralsExpected
/-!
# Literals.ParseFloatApi — lexical-parse-float/src/api.rs still has the literals and token shape the models were transcribed from

`Gen.Literals.ParseFloatApi` is re-extracted from /repo's source text on every run; `Spec.LiteralsExpected.ParseFloatApi` is the
committed snapshot. One theorem per fn / macro item, so a failing obligation names the item whose source moved;
`items_same` catches added or removed items. (Written by `extractors.literals.snapshot()`.)
-/
namespace LexVerif.Props.Literals.ParseFloatApi
open LexVerif

theorem items_same : Gen.Literals.ParseFloatApi.items = Spec.LiteralsExpected.ParseFloatApi.items := rfl
theorem k_float_from_lexical_macro : Gen.Literals.ParseFloatApi.k_float_from_lexical_macro = Spec.LiteralsExpected.ParseFloatApi.k_float_from_lexical_macro := rfl
theorem k_from_lexical : Gen.Literals.ParseFloatApi.k_from_lexical = Spec.LiteralsExpected.ParseFloatApi.k_from_lexical := rfl
theorem k_from_lexical_partial : Gen.Literals.ParseFloatApi.k_from_lexical_partial = Spec.LiteralsExpected.ParseFloatApi.k_from_lexical_partial := rfl
theorem k_from_lexical_with_options : Gen.Literals.ParseFloatApi.k_from_lexical_with_options = Spec.LiteralsExpected.ParseFloatApi.k_from_lexical_with_options := rfl
theorem k_from_lexical_partial_with_options : Gen.Literals.ParseFloatApi.k_from_lexical_partial_with_options = Spec.LiteralsExpected.ParseFloatApi.k_from_lexical_partial_with_options := rfl

end LexVerif.Props.Literals.ParseFloatApi
