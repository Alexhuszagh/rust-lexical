import LexVerif.Gen.Literals
import LexVerif.Spec.LiteralsExpected
/-!
# Literals.WriteIntegerCompact — lexical-write-integer/src/compact.rs still has the literals and token shape the models were transcribed from

`Gen.Literals.WriteIntegerCompact` is re-extracted from /repo's source text on every run; `Spec.LiteralsExpected.WriteIntegerCompact` is the
committed snapshot. One theorem per fn / macro item, so a failing obligation names the item whose source moved;
`items_same` catches added or removed items. (Written by `extractors.literals.snapshot()`.)
-/
namespace LexVerif.Props.Literals.WriteIntegerCompact
open LexVerif

theorem items_same : Gen.Literals.WriteIntegerCompact.items = Spec.LiteralsExpected.WriteIntegerCompact.items := rfl
theorem k_compact : Gen.Literals.WriteIntegerCompact.k_compact = Spec.LiteralsExpected.WriteIntegerCompact.k_compact := rfl
theorem k_compact_impl_macro : Gen.Literals.WriteIntegerCompact.k_compact_impl_macro = Spec.LiteralsExpected.WriteIntegerCompact.k_compact_impl_macro := rfl

end LexVerif.Props.Literals.WriteIntegerCompact
