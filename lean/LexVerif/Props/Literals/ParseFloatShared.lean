import LexVerif.Gen.Literals
import LexVerif.Spec.LiteralsExpected
/-!
# Literals.ParseFloatShared — lexical-parse-float/src/shared.rs still has the literals and token shape the models were transcribed from

`Gen.Literals.ParseFloatShared` is re-extracted from /repo's source text on every run; `Spec.LiteralsExpected.ParseFloatShared` is the
committed snapshot. One theorem per fn / macro item, so a failing obligation names the item whose source moved;
`items_same` catches added or removed items. (Written by `extractors.literals.snapshot()`.)
-/
namespace LexVerif.Props.Literals.ParseFloatShared
open LexVerif

theorem items_same : Gen.Literals.ParseFloatShared.items = Spec.LiteralsExpected.ParseFloatShared.items := rfl
theorem k_can_try_parse_multidigit_macro : Gen.Literals.ParseFloatShared.k_can_try_parse_multidigit_macro = Spec.LiteralsExpected.ParseFloatShared.k_can_try_parse_multidigit_macro := rfl
theorem k_calculate_shift : Gen.Literals.ParseFloatShared.k_calculate_shift = Spec.LiteralsExpected.ParseFloatShared.k_calculate_shift := rfl
theorem k_calculate_power2 : Gen.Literals.ParseFloatShared.k_calculate_power2 = Spec.LiteralsExpected.ParseFloatShared.k_calculate_power2 := rfl
theorem k_log2 : Gen.Literals.ParseFloatShared.k_log2 = Spec.LiteralsExpected.ParseFloatShared.k_log2 := rfl
theorem k_starts_with : Gen.Literals.ParseFloatShared.k_starts_with = Spec.LiteralsExpected.ParseFloatShared.k_starts_with := rfl
theorem k_starts_with_uncased : Gen.Literals.ParseFloatShared.k_starts_with_uncased = Spec.LiteralsExpected.ParseFloatShared.k_starts_with_uncased := rfl
theorem k_round : Gen.Literals.ParseFloatShared.k_round = Spec.LiteralsExpected.ParseFloatShared.k_round := rfl
theorem k_round_nearest_tie_even : Gen.Literals.ParseFloatShared.k_round_nearest_tie_even = Spec.LiteralsExpected.ParseFloatShared.k_round_nearest_tie_even := rfl
theorem k_round_down : Gen.Literals.ParseFloatShared.k_round_down = Spec.LiteralsExpected.ParseFloatShared.k_round_down := rfl

end LexVerif.Props.Literals.ParseFloatShared
