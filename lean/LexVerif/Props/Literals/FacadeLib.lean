import LexVerif.Gen.Literals
import LexVerif.Spec.LiteralsExpected
/-!
# Literals.FacadeLib — lexical/src/lib.rs still has the literals and token shape the models were transcribed from

`Gen.Literals.FacadeLib` is re-extracted from /repo's source text on every run; `Spec.LiteralsExpected.FacadeLib` is the
committed snapshot. One theorem per fn / macro item, so a failing obligation names the item whose source moved;
`items_same` catches added or removed items. (Written by `extractors.literals.snapshot()`.)
-/
namespace LexVerif.Props.Literals.FacadeLib
open LexVerif

theorem items_same : Gen.Literals.FacadeLib.items = Spec.LiteralsExpected.FacadeLib.items := rfl
theorem k_to_string : Gen.Literals.FacadeLib.k_to_string = Spec.LiteralsExpected.FacadeLib.k_to_string := rfl
theorem k_to_string_with_options : Gen.Literals.FacadeLib.k_to_string_with_options = Spec.LiteralsExpected.FacadeLib.k_to_string_with_options := rfl
theorem k_parse : Gen.Literals.FacadeLib.k_parse = Spec.LiteralsExpected.FacadeLib.k_parse := rfl
theorem k_parse_partial : Gen.Literals.FacadeLib.k_parse_partial = Spec.LiteralsExpected.FacadeLib.k_parse_partial := rfl
theorem k_parse_with_options : Gen.Literals.FacadeLib.k_parse_with_options = Spec.LiteralsExpected.FacadeLib.k_parse_with_options := rfl
theorem k_parse_partial_with_options : Gen.Literals.FacadeLib.k_parse_partial_with_options = Spec.LiteralsExpected.FacadeLib.k_parse_partial_with_options := rfl

end LexVerif.Props.Literals.FacadeLib
