import LexVerif.Gen.Literals
import LexVerif.Spec.LiteralsExpected
/-!
# Literals.UtilError — lexical-util/src/error.rs still has the literals and token shape the models were transcribed from

`Gen.Literals.UtilError` is re-extracted from /repo's source text on every run; `Spec.LiteralsExpected.UtilError` is the
committed snapshot. One theorem per fn / macro item, so a failing obligation names the item whose source moved;
`items_same` catches added or removed items. (Written by `extractors.literals.snapshot()`.)
-/
namespace LexVerif.Props.Literals.UtilError
open LexVerif

theorem items_same : Gen.Literals.UtilError.items = Spec.LiteralsExpected.UtilError.items := rfl
theorem k_is_error_type_macro : Gen.Literals.UtilError.k_is_error_type_macro = Spec.LiteralsExpected.UtilError.k_is_error_type_macro := rfl
theorem k_description : Gen.Literals.UtilError.k_description = Spec.LiteralsExpected.UtilError.k_description := rfl
theorem k_index : Gen.Literals.UtilError.k_index = Spec.LiteralsExpected.UtilError.k_index := rfl
theorem k_write_parse_error_macro : Gen.Literals.UtilError.k_write_parse_error_macro = Spec.LiteralsExpected.UtilError.k_write_parse_error_macro := rfl
theorem k_format_message_macro : Gen.Literals.UtilError.k_format_message_macro = Spec.LiteralsExpected.UtilError.k_format_message_macro := rfl
theorem k_options_message_macro : Gen.Literals.UtilError.k_options_message_macro = Spec.LiteralsExpected.UtilError.k_options_message_macro := rfl
theorem k_fmt : Gen.Literals.UtilError.k_fmt = Spec.LiteralsExpected.UtilError.k_fmt := rfl

end LexVerif.Props.Literals.UtilError
