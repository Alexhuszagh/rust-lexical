import LexVerif.Gen.Literals
import LexVerif.Spec.LiteralsExpected
/-!
# Literals.UtilFormat — lexical-util/src/format.rs still has the literals and token shape the models were transcribed from

`Gen.Literals.UtilFormat` is re-extracted from /repo's source text on every run; `Spec.LiteralsExpected.UtilFormat` is the
committed snapshot. One theorem per fn / macro item, so a failing obligation names the item whose source moved;
`items_same` catches added or removed items. (Written by `extractors.literals.snapshot()`.)
-/
namespace LexVerif.Props.Literals.UtilFormat
open LexVerif

theorem items_same : Gen.Literals.UtilFormat.items = Spec.LiteralsExpected.UtilFormat.items := rfl
theorem k_format_is_valid : Gen.Literals.UtilFormat.k_format_is_valid = Spec.LiteralsExpected.UtilFormat.k_format_is_valid := rfl
theorem k_format_error : Gen.Literals.UtilFormat.k_format_error = Spec.LiteralsExpected.UtilFormat.k_format_error := rfl
theorem k_verif_format_error : Gen.Literals.UtilFormat.k_verif_format_error = Spec.LiteralsExpected.UtilFormat.k_verif_format_error := rfl

end LexVerif.Props.Literals.UtilFormat
