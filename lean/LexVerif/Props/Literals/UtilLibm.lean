import LexVerif.Gen.Literals
import LexVerif.Spec.LiteralsExpected
/-!
# Literals.UtilLibm — lexical-util/src/libm.rs still has the literals and token shape the models were transcribed from

`Gen.Literals.UtilLibm` is re-extracted from /repo's source text on every run; `Spec.LiteralsExpected.UtilLibm` is the
committed snapshot. One theorem per fn / macro item, so a failing obligation names the item whose source moved;
`items_same` catches added or removed items. (Written by `extractors.literals.snapshot()`.)
-/
namespace LexVerif.Props.Literals.UtilLibm
open LexVerif

theorem items_same : Gen.Literals.UtilLibm.items = Spec.LiteralsExpected.UtilLibm.items := rfl
theorem k_volatile_macro : Gen.Literals.UtilLibm.k_volatile_macro = Spec.LiteralsExpected.UtilLibm.k_volatile_macro := rfl
theorem k_floord : Gen.Literals.UtilLibm.k_floord = Spec.LiteralsExpected.UtilLibm.k_floord := rfl
theorem k_floorf : Gen.Literals.UtilLibm.k_floorf = Spec.LiteralsExpected.UtilLibm.k_floorf := rfl
theorem k_logd : Gen.Literals.UtilLibm.k_logd = Spec.LiteralsExpected.UtilLibm.k_logd := rfl
theorem k_logf : Gen.Literals.UtilLibm.k_logf = Spec.LiteralsExpected.UtilLibm.k_logf := rfl

end LexVerif.Props.Literals.UtilLibm
