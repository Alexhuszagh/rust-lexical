import LexVerif.Gen.Literals
import LexVerif.Spec.LiteralsExpected
/-!
# Literals.WriteIntegerDigitCount — lexical-write-integer/src/digit_count.rs still has the literals and token shape the models were transcribed from

`Gen.Literals.WriteIntegerDigitCount` is re-extracted from /repo's source text on every run; `Spec.LiteralsExpected.WriteIntegerDigitCount` is the
committed snapshot. One theorem per fn / macro item, so a failing obligation names the item whose source moved;
`items_same` catches added or removed items. (Written by `extractors.literals.snapshot()`.)
-/
namespace LexVerif.Props.Literals.WriteIntegerDigitCount
open LexVerif

theorem items_same : Gen.Literals.WriteIntegerDigitCount.items = Spec.LiteralsExpected.WriteIntegerDigitCount.items := rfl
theorem k_fast_log2 : Gen.Literals.WriteIntegerDigitCount.k_fast_log2 = Spec.LiteralsExpected.WriteIntegerDigitCount.k_fast_log2 := rfl
theorem k_digit_count_macro : Gen.Literals.WriteIntegerDigitCount.k_digit_count_macro = Spec.LiteralsExpected.WriteIntegerDigitCount.k_digit_count_macro := rfl
theorem k_digit_log2 : Gen.Literals.WriteIntegerDigitCount.k_digit_log2 = Spec.LiteralsExpected.WriteIntegerDigitCount.k_digit_log2 := rfl
theorem k_digit_log4 : Gen.Literals.WriteIntegerDigitCount.k_digit_log4 = Spec.LiteralsExpected.WriteIntegerDigitCount.k_digit_log4 := rfl
theorem k_digit_log8 : Gen.Literals.WriteIntegerDigitCount.k_digit_log8 = Spec.LiteralsExpected.WriteIntegerDigitCount.k_digit_log8 := rfl
theorem k_digit_log16 : Gen.Literals.WriteIntegerDigitCount.k_digit_log16 = Spec.LiteralsExpected.WriteIntegerDigitCount.k_digit_log16 := rfl
theorem k_digit_log32 : Gen.Literals.WriteIntegerDigitCount.k_digit_log32 = Spec.LiteralsExpected.WriteIntegerDigitCount.k_digit_log32 := rfl
theorem k_digit_count : Gen.Literals.WriteIntegerDigitCount.k_digit_count = Spec.LiteralsExpected.WriteIntegerDigitCount.k_digit_count := rfl
theorem k_slow_digit_count : Gen.Literals.WriteIntegerDigitCount.k_slow_digit_count = Spec.LiteralsExpected.WriteIntegerDigitCount.k_slow_digit_count := rfl
theorem k_digit_impl_macro : Gen.Literals.WriteIntegerDigitCount.k_digit_impl_macro = Spec.LiteralsExpected.WriteIntegerDigitCount.k_digit_impl_macro := rfl

end LexVerif.Props.Literals.WriteIntegerDigitCount
