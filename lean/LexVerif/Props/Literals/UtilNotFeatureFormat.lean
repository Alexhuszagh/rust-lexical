import LexVerif.Gen.Literals
import LexVerif.Spec.LiteralsExpected
/-!
# Literals.UtilNotFeatureFormat — lexical-util/src/not_feature_format.rs still has the literals and token shape the models were transcribed from

`Gen.Literals.UtilNotFeatureFormat` is re-extracted from /repo's source text on every run; `Spec.LiteralsExpected.UtilNotFeatureFormat` is the
committed snapshot. One theorem per fn / macro item, so a failing obligation names the item whose source moved;
`items_same` catches added or removed items. (Written by `extractors.literals.snapshot()`.)
-/
namespace LexVerif.Props.Literals.UtilNotFeatureFormat
open LexVerif

theorem items_same : Gen.Literals.UtilNotFeatureFormat.items = Spec.LiteralsExpected.UtilNotFeatureFormat.items := rfl
theorem k_new : Gen.Literals.UtilNotFeatureFormat.k_new = Spec.LiteralsExpected.UtilNotFeatureFormat.k_new := rfl
theorem k_is_valid : Gen.Literals.UtilNotFeatureFormat.k_is_valid = Spec.LiteralsExpected.UtilNotFeatureFormat.k_is_valid := rfl
theorem k_error : Gen.Literals.UtilNotFeatureFormat.k_error = Spec.LiteralsExpected.UtilNotFeatureFormat.k_error := rfl
theorem k_is_valid_radix : Gen.Literals.UtilNotFeatureFormat.k_is_valid_radix = Spec.LiteralsExpected.UtilNotFeatureFormat.k_is_valid_radix := rfl
theorem k_error_radix : Gen.Literals.UtilNotFeatureFormat.k_error_radix = Spec.LiteralsExpected.UtilNotFeatureFormat.k_error_radix := rfl
theorem k_required_integer_digits : Gen.Literals.UtilNotFeatureFormat.k_required_integer_digits = Spec.LiteralsExpected.UtilNotFeatureFormat.k_required_integer_digits := rfl
theorem k_required_fraction_digits : Gen.Literals.UtilNotFeatureFormat.k_required_fraction_digits = Spec.LiteralsExpected.UtilNotFeatureFormat.k_required_fraction_digits := rfl
theorem k_required_exponent_digits : Gen.Literals.UtilNotFeatureFormat.k_required_exponent_digits = Spec.LiteralsExpected.UtilNotFeatureFormat.k_required_exponent_digits := rfl
theorem k_required_mantissa_digits : Gen.Literals.UtilNotFeatureFormat.k_required_mantissa_digits = Spec.LiteralsExpected.UtilNotFeatureFormat.k_required_mantissa_digits := rfl
theorem k_required_digits : Gen.Literals.UtilNotFeatureFormat.k_required_digits = Spec.LiteralsExpected.UtilNotFeatureFormat.k_required_digits := rfl
theorem k_no_positive_mantissa_sign : Gen.Literals.UtilNotFeatureFormat.k_no_positive_mantissa_sign = Spec.LiteralsExpected.UtilNotFeatureFormat.k_no_positive_mantissa_sign := rfl
theorem k_required_mantissa_sign : Gen.Literals.UtilNotFeatureFormat.k_required_mantissa_sign = Spec.LiteralsExpected.UtilNotFeatureFormat.k_required_mantissa_sign := rfl
theorem k_no_exponent_notation : Gen.Literals.UtilNotFeatureFormat.k_no_exponent_notation = Spec.LiteralsExpected.UtilNotFeatureFormat.k_no_exponent_notation := rfl
theorem k_no_positive_exponent_sign : Gen.Literals.UtilNotFeatureFormat.k_no_positive_exponent_sign = Spec.LiteralsExpected.UtilNotFeatureFormat.k_no_positive_exponent_sign := rfl
theorem k_required_exponent_sign : Gen.Literals.UtilNotFeatureFormat.k_required_exponent_sign = Spec.LiteralsExpected.UtilNotFeatureFormat.k_required_exponent_sign := rfl
theorem k_no_exponent_without_fraction : Gen.Literals.UtilNotFeatureFormat.k_no_exponent_without_fraction = Spec.LiteralsExpected.UtilNotFeatureFormat.k_no_exponent_without_fraction := rfl
theorem k_no_special : Gen.Literals.UtilNotFeatureFormat.k_no_special = Spec.LiteralsExpected.UtilNotFeatureFormat.k_no_special := rfl
theorem k_case_sensitive_special : Gen.Literals.UtilNotFeatureFormat.k_case_sensitive_special = Spec.LiteralsExpected.UtilNotFeatureFormat.k_case_sensitive_special := rfl
theorem k_no_integer_leading_zeros : Gen.Literals.UtilNotFeatureFormat.k_no_integer_leading_zeros = Spec.LiteralsExpected.UtilNotFeatureFormat.k_no_integer_leading_zeros := rfl
theorem k_no_float_leading_zeros : Gen.Literals.UtilNotFeatureFormat.k_no_float_leading_zeros = Spec.LiteralsExpected.UtilNotFeatureFormat.k_no_float_leading_zeros := rfl
theorem k_required_exponent_notation : Gen.Literals.UtilNotFeatureFormat.k_required_exponent_notation = Spec.LiteralsExpected.UtilNotFeatureFormat.k_required_exponent_notation := rfl
theorem k_case_sensitive_exponent : Gen.Literals.UtilNotFeatureFormat.k_case_sensitive_exponent = Spec.LiteralsExpected.UtilNotFeatureFormat.k_case_sensitive_exponent := rfl
theorem k_case_sensitive_base_prefix : Gen.Literals.UtilNotFeatureFormat.k_case_sensitive_base_prefix = Spec.LiteralsExpected.UtilNotFeatureFormat.k_case_sensitive_base_prefix := rfl
theorem k_case_sensitive_base_suffix : Gen.Literals.UtilNotFeatureFormat.k_case_sensitive_base_suffix = Spec.LiteralsExpected.UtilNotFeatureFormat.k_case_sensitive_base_suffix := rfl
theorem k_integer_internal_digit_separator : Gen.Literals.UtilNotFeatureFormat.k_integer_internal_digit_separator = Spec.LiteralsExpected.UtilNotFeatureFormat.k_integer_internal_digit_separator := rfl
theorem k_fraction_internal_digit_separator : Gen.Literals.UtilNotFeatureFormat.k_fraction_internal_digit_separator = Spec.LiteralsExpected.UtilNotFeatureFormat.k_fraction_internal_digit_separator := rfl
theorem k_exponent_internal_digit_separator : Gen.Literals.UtilNotFeatureFormat.k_exponent_internal_digit_separator = Spec.LiteralsExpected.UtilNotFeatureFormat.k_exponent_internal_digit_separator := rfl
theorem k_internal_digit_separator : Gen.Literals.UtilNotFeatureFormat.k_internal_digit_separator = Spec.LiteralsExpected.UtilNotFeatureFormat.k_internal_digit_separator := rfl
theorem k_integer_leading_digit_separator : Gen.Literals.UtilNotFeatureFormat.k_integer_leading_digit_separator = Spec.LiteralsExpected.UtilNotFeatureFormat.k_integer_leading_digit_separator := rfl
theorem k_fraction_leading_digit_separator : Gen.Literals.UtilNotFeatureFormat.k_fraction_leading_digit_separator = Spec.LiteralsExpected.UtilNotFeatureFormat.k_fraction_leading_digit_separator := rfl
theorem k_exponent_leading_digit_separator : Gen.Literals.UtilNotFeatureFormat.k_exponent_leading_digit_separator = Spec.LiteralsExpected.UtilNotFeatureFormat.k_exponent_leading_digit_separator := rfl
theorem k_leading_digit_separator : Gen.Literals.UtilNotFeatureFormat.k_leading_digit_separator = Spec.LiteralsExpected.UtilNotFeatureFormat.k_leading_digit_separator := rfl
theorem k_integer_trailing_digit_separator : Gen.Literals.UtilNotFeatureFormat.k_integer_trailing_digit_separator = Spec.LiteralsExpected.UtilNotFeatureFormat.k_integer_trailing_digit_separator := rfl
theorem k_fraction_trailing_digit_separator : Gen.Literals.UtilNotFeatureFormat.k_fraction_trailing_digit_separator = Spec.LiteralsExpected.UtilNotFeatureFormat.k_fraction_trailing_digit_separator := rfl
theorem k_exponent_trailing_digit_separator : Gen.Literals.UtilNotFeatureFormat.k_exponent_trailing_digit_separator = Spec.LiteralsExpected.UtilNotFeatureFormat.k_exponent_trailing_digit_separator := rfl
theorem k_trailing_digit_separator : Gen.Literals.UtilNotFeatureFormat.k_trailing_digit_separator = Spec.LiteralsExpected.UtilNotFeatureFormat.k_trailing_digit_separator := rfl
theorem k_integer_consecutive_digit_separator : Gen.Literals.UtilNotFeatureFormat.k_integer_consecutive_digit_separator = Spec.LiteralsExpected.UtilNotFeatureFormat.k_integer_consecutive_digit_separator := rfl
theorem k_fraction_consecutive_digit_separator : Gen.Literals.UtilNotFeatureFormat.k_fraction_consecutive_digit_separator = Spec.LiteralsExpected.UtilNotFeatureFormat.k_fraction_consecutive_digit_separator := rfl
theorem k_exponent_consecutive_digit_separator : Gen.Literals.UtilNotFeatureFormat.k_exponent_consecutive_digit_separator = Spec.LiteralsExpected.UtilNotFeatureFormat.k_exponent_consecutive_digit_separator := rfl
theorem k_consecutive_digit_separator : Gen.Literals.UtilNotFeatureFormat.k_consecutive_digit_separator = Spec.LiteralsExpected.UtilNotFeatureFormat.k_consecutive_digit_separator := rfl
theorem k_special_digit_separator : Gen.Literals.UtilNotFeatureFormat.k_special_digit_separator = Spec.LiteralsExpected.UtilNotFeatureFormat.k_special_digit_separator := rfl
theorem k_digit_separator : Gen.Literals.UtilNotFeatureFormat.k_digit_separator = Spec.LiteralsExpected.UtilNotFeatureFormat.k_digit_separator := rfl
theorem k_has_digit_separator : Gen.Literals.UtilNotFeatureFormat.k_has_digit_separator = Spec.LiteralsExpected.UtilNotFeatureFormat.k_has_digit_separator := rfl
theorem k_base_prefix : Gen.Literals.UtilNotFeatureFormat.k_base_prefix = Spec.LiteralsExpected.UtilNotFeatureFormat.k_base_prefix := rfl
theorem k_has_base_prefix : Gen.Literals.UtilNotFeatureFormat.k_has_base_prefix = Spec.LiteralsExpected.UtilNotFeatureFormat.k_has_base_prefix := rfl
theorem k_base_suffix : Gen.Literals.UtilNotFeatureFormat.k_base_suffix = Spec.LiteralsExpected.UtilNotFeatureFormat.k_base_suffix := rfl
theorem k_has_base_suffix : Gen.Literals.UtilNotFeatureFormat.k_has_base_suffix = Spec.LiteralsExpected.UtilNotFeatureFormat.k_has_base_suffix := rfl
theorem k_mantissa_radix : Gen.Literals.UtilNotFeatureFormat.k_mantissa_radix = Spec.LiteralsExpected.UtilNotFeatureFormat.k_mantissa_radix := rfl
theorem k_radix : Gen.Literals.UtilNotFeatureFormat.k_radix = Spec.LiteralsExpected.UtilNotFeatureFormat.k_radix := rfl
theorem k_radix2 : Gen.Literals.UtilNotFeatureFormat.k_radix2 = Spec.LiteralsExpected.UtilNotFeatureFormat.k_radix2 := rfl
theorem k_radix4 : Gen.Literals.UtilNotFeatureFormat.k_radix4 = Spec.LiteralsExpected.UtilNotFeatureFormat.k_radix4 := rfl
theorem k_radix8 : Gen.Literals.UtilNotFeatureFormat.k_radix8 = Spec.LiteralsExpected.UtilNotFeatureFormat.k_radix8 := rfl
theorem k_exponent_base : Gen.Literals.UtilNotFeatureFormat.k_exponent_base = Spec.LiteralsExpected.UtilNotFeatureFormat.k_exponent_base := rfl
theorem k_exponent_radix : Gen.Literals.UtilNotFeatureFormat.k_exponent_radix = Spec.LiteralsExpected.UtilNotFeatureFormat.k_exponent_radix := rfl
theorem k_flags : Gen.Literals.UtilNotFeatureFormat.k_flags = Spec.LiteralsExpected.UtilNotFeatureFormat.k_flags := rfl
theorem k_interface_flags : Gen.Literals.UtilNotFeatureFormat.k_interface_flags = Spec.LiteralsExpected.UtilNotFeatureFormat.k_interface_flags := rfl
theorem k_digit_separator_flags : Gen.Literals.UtilNotFeatureFormat.k_digit_separator_flags = Spec.LiteralsExpected.UtilNotFeatureFormat.k_digit_separator_flags := rfl
theorem k_exponent_flags : Gen.Literals.UtilNotFeatureFormat.k_exponent_flags = Spec.LiteralsExpected.UtilNotFeatureFormat.k_exponent_flags := rfl
theorem k_integer_digit_separator_flags : Gen.Literals.UtilNotFeatureFormat.k_integer_digit_separator_flags = Spec.LiteralsExpected.UtilNotFeatureFormat.k_integer_digit_separator_flags := rfl
theorem k_fraction_digit_separator_flags : Gen.Literals.UtilNotFeatureFormat.k_fraction_digit_separator_flags = Spec.LiteralsExpected.UtilNotFeatureFormat.k_fraction_digit_separator_flags := rfl
theorem k_exponent_digit_separator_flags : Gen.Literals.UtilNotFeatureFormat.k_exponent_digit_separator_flags = Spec.LiteralsExpected.UtilNotFeatureFormat.k_exponent_digit_separator_flags := rfl
theorem k_builder : Gen.Literals.UtilNotFeatureFormat.k_builder = Spec.LiteralsExpected.UtilNotFeatureFormat.k_builder := rfl
theorem k_rebuild : Gen.Literals.UtilNotFeatureFormat.k_rebuild = Spec.LiteralsExpected.UtilNotFeatureFormat.k_rebuild := rfl
theorem k_default : Gen.Literals.UtilNotFeatureFormat.k_default = Spec.LiteralsExpected.UtilNotFeatureFormat.k_default := rfl
theorem k_radix_error_impl : Gen.Literals.UtilNotFeatureFormat.k_radix_error_impl = Spec.LiteralsExpected.UtilNotFeatureFormat.k_radix_error_impl := rfl
theorem k_format_error_impl : Gen.Literals.UtilNotFeatureFormat.k_format_error_impl = Spec.LiteralsExpected.UtilNotFeatureFormat.k_format_error_impl := rfl

end LexVerif.Props.Literals.UtilNotFeatureFormat
