import LexVerif.Gen.Literals
import LexVerif.Spec.LiteralsExpected
/-!
# Literals.ParseFloatOptions — lexical-parse-float/src/options.rs still has the literals and token shape the models were transcribed from

`Gen.Literals.ParseFloatOptions` is re-extracted from /repo's source text on every run; `Spec.LiteralsExpected.ParseFloatOptions` is the
committed snapshot. One theorem per fn / macro item, so a failing obligation names the item whose source moved;
`items_same` catches added or removed items. (Written by `extractors.literals.snapshot()`.)
-/
namespace LexVerif.Props.Literals.ParseFloatOptions
open LexVerif

theorem items_same : Gen.Literals.ParseFloatOptions.items = Spec.LiteralsExpected.ParseFloatOptions.items := rfl
theorem k_new : Gen.Literals.ParseFloatOptions.k_new = Spec.LiteralsExpected.ParseFloatOptions.k_new := rfl
theorem k_get_lossy : Gen.Literals.ParseFloatOptions.k_get_lossy = Spec.LiteralsExpected.ParseFloatOptions.k_get_lossy := rfl
theorem k_get_exponent : Gen.Literals.ParseFloatOptions.k_get_exponent = Spec.LiteralsExpected.ParseFloatOptions.k_get_exponent := rfl
theorem k_get_decimal_point : Gen.Literals.ParseFloatOptions.k_get_decimal_point = Spec.LiteralsExpected.ParseFloatOptions.k_get_decimal_point := rfl
theorem k_get_nan_string : Gen.Literals.ParseFloatOptions.k_get_nan_string = Spec.LiteralsExpected.ParseFloatOptions.k_get_nan_string := rfl
theorem k_get_inf_string : Gen.Literals.ParseFloatOptions.k_get_inf_string = Spec.LiteralsExpected.ParseFloatOptions.k_get_inf_string := rfl
theorem k_get_infinity_string : Gen.Literals.ParseFloatOptions.k_get_infinity_string = Spec.LiteralsExpected.ParseFloatOptions.k_get_infinity_string := rfl
theorem k_lossy : Gen.Literals.ParseFloatOptions.k_lossy = Spec.LiteralsExpected.ParseFloatOptions.k_lossy := rfl
theorem k_exponent : Gen.Literals.ParseFloatOptions.k_exponent = Spec.LiteralsExpected.ParseFloatOptions.k_exponent := rfl
theorem k_decimal_point : Gen.Literals.ParseFloatOptions.k_decimal_point = Spec.LiteralsExpected.ParseFloatOptions.k_decimal_point := rfl
theorem k_nan_string : Gen.Literals.ParseFloatOptions.k_nan_string = Spec.LiteralsExpected.ParseFloatOptions.k_nan_string := rfl
theorem k_inf_string : Gen.Literals.ParseFloatOptions.k_inf_string = Spec.LiteralsExpected.ParseFloatOptions.k_inf_string := rfl
theorem k_infinity_string : Gen.Literals.ParseFloatOptions.k_infinity_string = Spec.LiteralsExpected.ParseFloatOptions.k_infinity_string := rfl
theorem k_nan_str_is_valid : Gen.Literals.ParseFloatOptions.k_nan_str_is_valid = Spec.LiteralsExpected.ParseFloatOptions.k_nan_str_is_valid := rfl
theorem k_inf_str_is_valid : Gen.Literals.ParseFloatOptions.k_inf_str_is_valid = Spec.LiteralsExpected.ParseFloatOptions.k_inf_str_is_valid := rfl
theorem k_infinity_string_is_valid : Gen.Literals.ParseFloatOptions.k_infinity_string_is_valid = Spec.LiteralsExpected.ParseFloatOptions.k_infinity_string_is_valid := rfl
theorem k_is_valid : Gen.Literals.ParseFloatOptions.k_is_valid = Spec.LiteralsExpected.ParseFloatOptions.k_is_valid := rfl
theorem k_build_unchecked : Gen.Literals.ParseFloatOptions.k_build_unchecked = Spec.LiteralsExpected.ParseFloatOptions.k_build_unchecked := rfl
theorem k_build_strict : Gen.Literals.ParseFloatOptions.k_build_strict = Spec.LiteralsExpected.ParseFloatOptions.k_build_strict := rfl
theorem k_build : Gen.Literals.ParseFloatOptions.k_build = Spec.LiteralsExpected.ParseFloatOptions.k_build := rfl
theorem k_default : Gen.Literals.ParseFloatOptions.k_default = Spec.LiteralsExpected.ParseFloatOptions.k_default := rfl
theorem k_from_radix : Gen.Literals.ParseFloatOptions.k_from_radix = Spec.LiteralsExpected.ParseFloatOptions.k_from_radix := rfl
theorem k_set_lossy : Gen.Literals.ParseFloatOptions.k_set_lossy = Spec.LiteralsExpected.ParseFloatOptions.k_set_lossy := rfl
theorem k_set_exponent : Gen.Literals.ParseFloatOptions.k_set_exponent = Spec.LiteralsExpected.ParseFloatOptions.k_set_exponent := rfl
theorem k_set_decimal_point : Gen.Literals.ParseFloatOptions.k_set_decimal_point = Spec.LiteralsExpected.ParseFloatOptions.k_set_decimal_point := rfl
theorem k_set_nan_string : Gen.Literals.ParseFloatOptions.k_set_nan_string = Spec.LiteralsExpected.ParseFloatOptions.k_set_nan_string := rfl
theorem k_set_inf_string : Gen.Literals.ParseFloatOptions.k_set_inf_string = Spec.LiteralsExpected.ParseFloatOptions.k_set_inf_string := rfl
theorem k_set_infinity_string : Gen.Literals.ParseFloatOptions.k_set_infinity_string = Spec.LiteralsExpected.ParseFloatOptions.k_set_infinity_string := rfl
theorem k_builder : Gen.Literals.ParseFloatOptions.k_builder = Spec.LiteralsExpected.ParseFloatOptions.k_builder := rfl
theorem k_rebuild : Gen.Literals.ParseFloatOptions.k_rebuild = Spec.LiteralsExpected.ParseFloatOptions.k_rebuild := rfl
theorem k_unwrap_str : Gen.Literals.ParseFloatOptions.k_unwrap_str = Spec.LiteralsExpected.ParseFloatOptions.k_unwrap_str := rfl

end LexVerif.Props.Literals.ParseFloatOptions
