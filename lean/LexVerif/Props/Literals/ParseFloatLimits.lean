import LexVerif.Gen.Literals
import LexVerif.Spec.LiteralsExpected
/-!
# Literals.ParseFloatLimits — lexical-parse-float/src/limits.rs still has the literals and token shape the models were transcribed from

`Gen.Literals.ParseFloatLimits` is re-extracted from /repo's source text on every run; `Spec.LiteralsExpected.ParseFloatLimits` is the
committed snapshot. One theorem per fn / macro item, so a failing obligation names the item whose source moved;
`items_same` catches added or removed items. (Written by `extractors.literals.snapshot()`.)
-/
namespace LexVerif.Props.Literals.ParseFloatLimits
open LexVerif

theorem items_same : Gen.Literals.ParseFloatLimits.items = Spec.LiteralsExpected.ParseFloatLimits.items := rfl
theorem k_exponent_limit : Gen.Literals.ParseFloatLimits.k_exponent_limit = Spec.LiteralsExpected.ParseFloatLimits.k_exponent_limit := rfl
theorem k_mantissa_limit : Gen.Literals.ParseFloatLimits.k_mantissa_limit = Spec.LiteralsExpected.ParseFloatLimits.k_mantissa_limit := rfl
theorem k_f32_exponent_limit : Gen.Literals.ParseFloatLimits.k_f32_exponent_limit = Spec.LiteralsExpected.ParseFloatLimits.k_f32_exponent_limit := rfl
theorem k_f32_mantissa_limit : Gen.Literals.ParseFloatLimits.k_f32_mantissa_limit = Spec.LiteralsExpected.ParseFloatLimits.k_f32_mantissa_limit := rfl
theorem k_f64_exponent_limit : Gen.Literals.ParseFloatLimits.k_f64_exponent_limit = Spec.LiteralsExpected.ParseFloatLimits.k_f64_exponent_limit := rfl
theorem k_f64_mantissa_limit : Gen.Literals.ParseFloatLimits.k_f64_mantissa_limit = Spec.LiteralsExpected.ParseFloatLimits.k_f64_mantissa_limit := rfl
theorem k_f128_exponent_limit : Gen.Literals.ParseFloatLimits.k_f128_exponent_limit = Spec.LiteralsExpected.ParseFloatLimits.k_f128_exponent_limit := rfl
theorem k_f128_mantissa_limit : Gen.Literals.ParseFloatLimits.k_f128_mantissa_limit = Spec.LiteralsExpected.ParseFloatLimits.k_f128_mantissa_limit := rfl
theorem k_u32_power_limit : Gen.Literals.ParseFloatLimits.k_u32_power_limit = Spec.LiteralsExpected.ParseFloatLimits.k_u32_power_limit := rfl
theorem k_u64_power_limit : Gen.Literals.ParseFloatLimits.k_u64_power_limit = Spec.LiteralsExpected.ParseFloatLimits.k_u64_power_limit := rfl
theorem k_max_digits : Gen.Literals.ParseFloatLimits.k_max_digits = Spec.LiteralsExpected.ParseFloatLimits.k_max_digits := rfl
theorem k_f32_max_digits : Gen.Literals.ParseFloatLimits.k_f32_max_digits = Spec.LiteralsExpected.ParseFloatLimits.k_f32_max_digits := rfl
theorem k_f64_max_digits : Gen.Literals.ParseFloatLimits.k_f64_max_digits = Spec.LiteralsExpected.ParseFloatLimits.k_f64_max_digits := rfl

end LexVerif.Props.Literals.ParseFloatLimits
