import LexVerif.Gen.Literals
import LexVerif.Spec.LiteralsExpected
/-!
# Literals.WriteFloatBinary — lexical-write-float/src/binary.rs still has the literals and token shape the models were transcribed from

`Gen.Literals.WriteFloatBinary` is re-extracted from /repo's source text on every run; `Spec.LiteralsExpected.WriteFloatBinary` is the
committed snapshot. One theorem per fn / macro item, so a failing obligation names the item whose source moved;
`items_same` catches added or removed items. (Written by `extractors.literals.snapshot()`.)
-/
namespace LexVerif.Props.Literals.WriteFloatBinary
open LexVerif

theorem items_same : Gen.Literals.WriteFloatBinary.items = Spec.LiteralsExpected.WriteFloatBinary.items := rfl
theorem k_write_float : Gen.Literals.WriteFloatBinary.k_write_float = Spec.LiteralsExpected.WriteFloatBinary.k_write_float := rfl
theorem k_write_float_scientific : Gen.Literals.WriteFloatBinary.k_write_float_scientific = Spec.LiteralsExpected.WriteFloatBinary.k_write_float_scientific := rfl
theorem k_write_float_negative_exponent : Gen.Literals.WriteFloatBinary.k_write_float_negative_exponent = Spec.LiteralsExpected.WriteFloatBinary.k_write_float_negative_exponent := rfl
theorem k_write_float_positive_exponent : Gen.Literals.WriteFloatBinary.k_write_float_positive_exponent = Spec.LiteralsExpected.WriteFloatBinary.k_write_float_positive_exponent := rfl
theorem k_fast_log2 : Gen.Literals.WriteFloatBinary.k_fast_log2 = Spec.LiteralsExpected.WriteFloatBinary.k_fast_log2 := rfl
theorem k_significant_bits : Gen.Literals.WriteFloatBinary.k_significant_bits = Spec.LiteralsExpected.WriteFloatBinary.k_significant_bits := rfl
theorem k_fast_ceildiv : Gen.Literals.WriteFloatBinary.k_fast_ceildiv = Spec.LiteralsExpected.WriteFloatBinary.k_fast_ceildiv := rfl
theorem k_inverse_remainder : Gen.Literals.WriteFloatBinary.k_inverse_remainder = Spec.LiteralsExpected.WriteFloatBinary.k_inverse_remainder := rfl
theorem k_calculate_shl : Gen.Literals.WriteFloatBinary.k_calculate_shl = Spec.LiteralsExpected.WriteFloatBinary.k_calculate_shl := rfl
theorem k_scale_sci_exp : Gen.Literals.WriteFloatBinary.k_scale_sci_exp = Spec.LiteralsExpected.WriteFloatBinary.k_scale_sci_exp := rfl
theorem k_truncate_and_round : Gen.Literals.WriteFloatBinary.k_truncate_and_round = Spec.LiteralsExpected.WriteFloatBinary.k_truncate_and_round := rfl
theorem k_truncate_and_round_digits : Gen.Literals.WriteFloatBinary.k_truncate_and_round_digits = Spec.LiteralsExpected.WriteFloatBinary.k_truncate_and_round_digits := rfl

end LexVerif.Props.Literals.WriteFloatBinary
