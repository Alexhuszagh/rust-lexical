import LexVerif.Gen.Literals
import LexVerif.Spec.LiteralsExpected
/-!
# Literals.UtilApi — lexical-util/src/api.rs still has the literals and token shape the models were transcribed from

`Gen.Literals.UtilApi` is re-extracted from /repo's source text on every run; `Spec.LiteralsExpected.UtilApi` is the
committed snapshot. One theorem per fn / macro item, so a failing obligation names the item whose source moved;
`items_same` catches added or removed items. (Written by `extractors.literals.snapshot()`.)
-/
namespace LexVerif.Props.Literals.UtilApi
open LexVerif

theorem items_same : Gen.Literals.UtilApi.items = Spec.LiteralsExpected.UtilApi.items := rfl
theorem k_from_lexical_macro : Gen.Literals.UtilApi.k_from_lexical_macro = Spec.LiteralsExpected.UtilApi.k_from_lexical_macro := rfl
theorem k_from_lexical : Gen.Literals.UtilApi.k_from_lexical = Spec.LiteralsExpected.UtilApi.k_from_lexical := rfl
theorem k_from_lexical_partial : Gen.Literals.UtilApi.k_from_lexical_partial = Spec.LiteralsExpected.UtilApi.k_from_lexical_partial := rfl
theorem k_from_lexical_with_options_macro : Gen.Literals.UtilApi.k_from_lexical_with_options_macro = Spec.LiteralsExpected.UtilApi.k_from_lexical_with_options_macro := rfl
theorem k_from_lexical_with_options : Gen.Literals.UtilApi.k_from_lexical_with_options = Spec.LiteralsExpected.UtilApi.k_from_lexical_with_options := rfl
theorem k_from_lexical_partial_with_options : Gen.Literals.UtilApi.k_from_lexical_partial_with_options = Spec.LiteralsExpected.UtilApi.k_from_lexical_partial_with_options := rfl
theorem k_to_lexical_macro : Gen.Literals.UtilApi.k_to_lexical_macro = Spec.LiteralsExpected.UtilApi.k_to_lexical_macro := rfl
theorem k_to_lexical : Gen.Literals.UtilApi.k_to_lexical = Spec.LiteralsExpected.UtilApi.k_to_lexical := rfl
theorem k_to_lexical_with_options_macro : Gen.Literals.UtilApi.k_to_lexical_with_options_macro = Spec.LiteralsExpected.UtilApi.k_to_lexical_with_options_macro := rfl
theorem k_to_lexical_with_options : Gen.Literals.UtilApi.k_to_lexical_with_options = Spec.LiteralsExpected.UtilApi.k_to_lexical_with_options := rfl

end LexVerif.Props.Literals.UtilApi
