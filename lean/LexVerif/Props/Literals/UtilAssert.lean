import LexVerif.Gen.Literals
import LexVerif.Spec.LiteralsExpected
/-!
# Literals.UtilAssert — lexical-util/src/assert.rs still has the literals and token shape the models were transcribed from

`Gen.Literals.UtilAssert` is re-extracted from /repo's source text on every run; `Spec.LiteralsExpected.UtilAssert` is the
committed snapshot. One theorem per fn / macro item, so a failing obligation names the item whose source moved;
`items_same` catches added or removed items. (Written by `extractors.literals.snapshot()`.)
-/
namespace LexVerif.Props.Literals.UtilAssert
open LexVerif

theorem items_same : Gen.Literals.UtilAssert.items = Spec.LiteralsExpected.UtilAssert.items := rfl
theorem k_debug_assert_radix : Gen.Literals.UtilAssert.k_debug_assert_radix = Spec.LiteralsExpected.UtilAssert.k_debug_assert_radix := rfl
theorem k_assert_buffer : Gen.Literals.UtilAssert.k_assert_buffer = Spec.LiteralsExpected.UtilAssert.k_assert_buffer := rfl

end LexVerif.Props.Literals.UtilAssert
