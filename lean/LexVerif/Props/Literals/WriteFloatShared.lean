import LexVerif.Gen.Literals
import LexVerif.Spec.LiteralsExpected
/-!
# Literals.WriteFloatShared — lexical-write-float/src/shared.rs still has the literals and token shape the models were transcribed from

`Gen.Literals.WriteFloatShared` is re-extracted from /repo's source text on every run; `Spec.LiteralsExpected.WriteFloatShared` is the
committed snapshot. One theorem per fn / macro item, so a failing obligation names the item whose source moved;
`items_same` catches added or removed items. (Written by `extractors.literals.snapshot()`.)
-/
namespace LexVerif.Props.Literals.WriteFloatShared
open LexVerif

theorem items_same : Gen.Literals.WriteFloatShared.items = Spec.LiteralsExpected.WriteFloatShared.items := rfl
theorem k_min_exact_digits : Gen.Literals.WriteFloatShared.k_min_exact_digits = Spec.LiteralsExpected.WriteFloatShared.k_min_exact_digits := rfl
theorem k_round_up : Gen.Literals.WriteFloatShared.k_round_up = Spec.LiteralsExpected.WriteFloatShared.k_round_up := rfl
theorem k_truncate_and_round_decimal : Gen.Literals.WriteFloatShared.k_truncate_and_round_decimal = Spec.LiteralsExpected.WriteFloatShared.k_truncate_and_round_decimal := rfl
theorem k_write_exponent_sign : Gen.Literals.WriteFloatShared.k_write_exponent_sign = Spec.LiteralsExpected.WriteFloatShared.k_write_exponent_sign := rfl
theorem k_write_exponent : Gen.Literals.WriteFloatShared.k_write_exponent = Spec.LiteralsExpected.WriteFloatShared.k_write_exponent := rfl
theorem k_write_float_macro : Gen.Literals.WriteFloatShared.k_write_float_macro = Spec.LiteralsExpected.WriteFloatShared.k_write_float_macro := rfl

end LexVerif.Props.Literals.WriteFloatShared
