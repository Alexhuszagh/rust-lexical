import LexVerif.Gen.Literals
import LexVerif.Spec.LiteralsExpected
/-!
# Literals.ParseIntegerAlgorithm — lexical-parse-integer/src/algorithm.rs still has the literals and token shape the models were transcribed from

`Gen.Literals.ParseIntegerAlgorithm` is re-extracted from /repo's source text on every run; `Spec.LiteralsExpected.ParseIntegerAlgorithm` is the
committed snapshot. One theorem per fn / macro item, so a failing obligation names the item whose source moved;
`items_same` catches added or removed items. (Written by `extractors.literals.snapshot()`.)
-/
namespace LexVerif.Props.Literals.ParseIntegerAlgorithm
open LexVerif

theorem items_same : Gen.Literals.ParseIntegerAlgorithm.items = Spec.LiteralsExpected.ParseIntegerAlgorithm.items := rfl
theorem k_can_try_parse_multidigits : Gen.Literals.ParseIntegerAlgorithm.k_can_try_parse_multidigits = Spec.LiteralsExpected.ParseIntegerAlgorithm.k_can_try_parse_multidigits := rfl
theorem k_required_digits_macro : Gen.Literals.ParseIntegerAlgorithm.k_required_digits_macro = Spec.LiteralsExpected.ParseIntegerAlgorithm.k_required_digits_macro := rfl
theorem k_into_ok_complete_macro : Gen.Literals.ParseIntegerAlgorithm.k_into_ok_complete_macro = Spec.LiteralsExpected.ParseIntegerAlgorithm.k_into_ok_complete_macro := rfl
theorem k_into_ok_partial_macro : Gen.Literals.ParseIntegerAlgorithm.k_into_ok_partial_macro = Spec.LiteralsExpected.ParseIntegerAlgorithm.k_into_ok_partial_macro := rfl
theorem k_invalid_digit_complete_macro : Gen.Literals.ParseIntegerAlgorithm.k_invalid_digit_complete_macro = Spec.LiteralsExpected.ParseIntegerAlgorithm.k_invalid_digit_complete_macro := rfl
theorem k_invalid_digit_partial_macro : Gen.Literals.ParseIntegerAlgorithm.k_invalid_digit_partial_macro = Spec.LiteralsExpected.ParseIntegerAlgorithm.k_invalid_digit_partial_macro := rfl
theorem k_into_error_macro : Gen.Literals.ParseIntegerAlgorithm.k_into_error_macro = Spec.LiteralsExpected.ParseIntegerAlgorithm.k_into_error_macro := rfl
theorem k_fmt_invalid_digit_macro : Gen.Literals.ParseIntegerAlgorithm.k_fmt_invalid_digit_macro = Spec.LiteralsExpected.ParseIntegerAlgorithm.k_fmt_invalid_digit_macro := rfl
theorem k_parse_sign_macro : Gen.Literals.ParseIntegerAlgorithm.k_parse_sign_macro = Spec.LiteralsExpected.ParseIntegerAlgorithm.k_parse_sign_macro := rfl
theorem k_parse_sign : Gen.Literals.ParseIntegerAlgorithm.k_parse_sign = Spec.LiteralsExpected.ParseIntegerAlgorithm.k_parse_sign := rfl
theorem k_is_4digits : Gen.Literals.ParseIntegerAlgorithm.k_is_4digits = Spec.LiteralsExpected.ParseIntegerAlgorithm.k_is_4digits := rfl
theorem k_parse_4digits : Gen.Literals.ParseIntegerAlgorithm.k_parse_4digits = Spec.LiteralsExpected.ParseIntegerAlgorithm.k_parse_4digits := rfl
theorem k_try_parse_4digits : Gen.Literals.ParseIntegerAlgorithm.k_try_parse_4digits = Spec.LiteralsExpected.ParseIntegerAlgorithm.k_try_parse_4digits := rfl
theorem k_is_8digits : Gen.Literals.ParseIntegerAlgorithm.k_is_8digits = Spec.LiteralsExpected.ParseIntegerAlgorithm.k_is_8digits := rfl
theorem k_parse_8digits : Gen.Literals.ParseIntegerAlgorithm.k_parse_8digits = Spec.LiteralsExpected.ParseIntegerAlgorithm.k_parse_8digits := rfl
theorem k_try_parse_8digits : Gen.Literals.ParseIntegerAlgorithm.k_try_parse_8digits = Spec.LiteralsExpected.ParseIntegerAlgorithm.k_try_parse_8digits := rfl
theorem k_parse_1digit_unchecked_macro : Gen.Literals.ParseIntegerAlgorithm.k_parse_1digit_unchecked_macro = Spec.LiteralsExpected.ParseIntegerAlgorithm.k_parse_1digit_unchecked_macro := rfl
theorem k_parse_1digit_checked_macro : Gen.Literals.ParseIntegerAlgorithm.k_parse_1digit_checked_macro = Spec.LiteralsExpected.ParseIntegerAlgorithm.k_parse_1digit_checked_macro := rfl
theorem k_parse_digits_unchecked_macro : Gen.Literals.ParseIntegerAlgorithm.k_parse_digits_unchecked_macro = Spec.LiteralsExpected.ParseIntegerAlgorithm.k_parse_digits_unchecked_macro := rfl
theorem k_parse_digits_checked_macro : Gen.Literals.ParseIntegerAlgorithm.k_parse_digits_checked_macro = Spec.LiteralsExpected.ParseIntegerAlgorithm.k_parse_digits_checked_macro := rfl
theorem k_algorithm_macro : Gen.Literals.ParseIntegerAlgorithm.k_algorithm_macro = Spec.LiteralsExpected.ParseIntegerAlgorithm.k_algorithm_macro := rfl
theorem k_algorithm_complete : Gen.Literals.ParseIntegerAlgorithm.k_algorithm_complete = Spec.LiteralsExpected.ParseIntegerAlgorithm.k_algorithm_complete := rfl
theorem k_algorithm_partial : Gen.Literals.ParseIntegerAlgorithm.k_algorithm_partial = Spec.LiteralsExpected.ParseIntegerAlgorithm.k_algorithm_partial := rfl

end LexVerif.Props.Literals.ParseIntegerAlgorithm
