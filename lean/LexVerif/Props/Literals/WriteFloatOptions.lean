import LexVerif.Gen.Literals
import LexVerif.Spec.LiteralsExpected
/-!
# Literals.WriteFloatOptions — lexical-write-float/src/options.rs still has the literals and token shape the models were transcribed from

`Gen.Literals.WriteFloatOptions` is re-extracted from /repo's source text on every run; `Spec.LiteralsExpected.WriteFloatOptions` is the
committed snapshot. One theorem per fn / macro item, so a failing obligation names the item whose source moved;
`items_same` catches added or removed items. (Written by `extractors.literals.snapshot()`.)
-/
namespace LexVerif.Props.Literals.WriteFloatOptions
open LexVerif

theorem items_same : Gen.Literals.WriteFloatOptions.items = Spec.LiteralsExpected.WriteFloatOptions.items := rfl
theorem k_max_macro : Gen.Literals.WriteFloatOptions.k_max_macro = Spec.LiteralsExpected.WriteFloatOptions.k_max_macro := rfl
theorem k_new : Gen.Literals.WriteFloatOptions.k_new = Spec.LiteralsExpected.WriteFloatOptions.k_new := rfl
theorem k_get_max_significant_digits : Gen.Literals.WriteFloatOptions.k_get_max_significant_digits = Spec.LiteralsExpected.WriteFloatOptions.k_get_max_significant_digits := rfl
theorem k_get_min_significant_digits : Gen.Literals.WriteFloatOptions.k_get_min_significant_digits = Spec.LiteralsExpected.WriteFloatOptions.k_get_min_significant_digits := rfl
theorem k_get_positive_exponent_break : Gen.Literals.WriteFloatOptions.k_get_positive_exponent_break = Spec.LiteralsExpected.WriteFloatOptions.k_get_positive_exponent_break := rfl
theorem k_get_negative_exponent_break : Gen.Literals.WriteFloatOptions.k_get_negative_exponent_break = Spec.LiteralsExpected.WriteFloatOptions.k_get_negative_exponent_break := rfl
theorem k_get_round_mode : Gen.Literals.WriteFloatOptions.k_get_round_mode = Spec.LiteralsExpected.WriteFloatOptions.k_get_round_mode := rfl
theorem k_get_trim_floats : Gen.Literals.WriteFloatOptions.k_get_trim_floats = Spec.LiteralsExpected.WriteFloatOptions.k_get_trim_floats := rfl
theorem k_get_exponent : Gen.Literals.WriteFloatOptions.k_get_exponent = Spec.LiteralsExpected.WriteFloatOptions.k_get_exponent := rfl
theorem k_get_decimal_point : Gen.Literals.WriteFloatOptions.k_get_decimal_point = Spec.LiteralsExpected.WriteFloatOptions.k_get_decimal_point := rfl
theorem k_get_nan_string : Gen.Literals.WriteFloatOptions.k_get_nan_string = Spec.LiteralsExpected.WriteFloatOptions.k_get_nan_string := rfl
theorem k_get_inf_string : Gen.Literals.WriteFloatOptions.k_get_inf_string = Spec.LiteralsExpected.WriteFloatOptions.k_get_inf_string := rfl
theorem k_get_infinity_string : Gen.Literals.WriteFloatOptions.k_get_infinity_string = Spec.LiteralsExpected.WriteFloatOptions.k_get_infinity_string := rfl
theorem k_max_significant_digits : Gen.Literals.WriteFloatOptions.k_max_significant_digits = Spec.LiteralsExpected.WriteFloatOptions.k_max_significant_digits := rfl
theorem k_min_significant_digits : Gen.Literals.WriteFloatOptions.k_min_significant_digits = Spec.LiteralsExpected.WriteFloatOptions.k_min_significant_digits := rfl
theorem k_positive_exponent_break : Gen.Literals.WriteFloatOptions.k_positive_exponent_break = Spec.LiteralsExpected.WriteFloatOptions.k_positive_exponent_break := rfl
theorem k_negative_exponent_break : Gen.Literals.WriteFloatOptions.k_negative_exponent_break = Spec.LiteralsExpected.WriteFloatOptions.k_negative_exponent_break := rfl
theorem k_round_mode : Gen.Literals.WriteFloatOptions.k_round_mode = Spec.LiteralsExpected.WriteFloatOptions.k_round_mode := rfl
theorem k_trim_floats : Gen.Literals.WriteFloatOptions.k_trim_floats = Spec.LiteralsExpected.WriteFloatOptions.k_trim_floats := rfl
theorem k_exponent : Gen.Literals.WriteFloatOptions.k_exponent = Spec.LiteralsExpected.WriteFloatOptions.k_exponent := rfl
theorem k_decimal_point : Gen.Literals.WriteFloatOptions.k_decimal_point = Spec.LiteralsExpected.WriteFloatOptions.k_decimal_point := rfl
theorem k_nan_string : Gen.Literals.WriteFloatOptions.k_nan_string = Spec.LiteralsExpected.WriteFloatOptions.k_nan_string := rfl
theorem k_inf_string : Gen.Literals.WriteFloatOptions.k_inf_string = Spec.LiteralsExpected.WriteFloatOptions.k_inf_string := rfl
theorem k_infinity_string : Gen.Literals.WriteFloatOptions.k_infinity_string = Spec.LiteralsExpected.WriteFloatOptions.k_infinity_string := rfl
theorem k_nan_str_is_valid : Gen.Literals.WriteFloatOptions.k_nan_str_is_valid = Spec.LiteralsExpected.WriteFloatOptions.k_nan_str_is_valid := rfl
theorem k_inf_str_is_valid : Gen.Literals.WriteFloatOptions.k_inf_str_is_valid = Spec.LiteralsExpected.WriteFloatOptions.k_inf_str_is_valid := rfl
theorem k_is_valid : Gen.Literals.WriteFloatOptions.k_is_valid = Spec.LiteralsExpected.WriteFloatOptions.k_is_valid := rfl
theorem k_build_unchecked : Gen.Literals.WriteFloatOptions.k_build_unchecked = Spec.LiteralsExpected.WriteFloatOptions.k_build_unchecked := rfl
theorem k_build_strict : Gen.Literals.WriteFloatOptions.k_build_strict = Spec.LiteralsExpected.WriteFloatOptions.k_build_strict := rfl
theorem k_build : Gen.Literals.WriteFloatOptions.k_build = Spec.LiteralsExpected.WriteFloatOptions.k_build := rfl
theorem k_default : Gen.Literals.WriteFloatOptions.k_default = Spec.LiteralsExpected.WriteFloatOptions.k_default := rfl
theorem k_from_radix : Gen.Literals.WriteFloatOptions.k_from_radix = Spec.LiteralsExpected.WriteFloatOptions.k_from_radix := rfl
theorem k_buffer_size_const : Gen.Literals.WriteFloatOptions.k_buffer_size_const = Spec.LiteralsExpected.WriteFloatOptions.k_buffer_size_const := rfl
theorem k_set_max_significant_digits : Gen.Literals.WriteFloatOptions.k_set_max_significant_digits = Spec.LiteralsExpected.WriteFloatOptions.k_set_max_significant_digits := rfl
theorem k_set_min_significant_digits : Gen.Literals.WriteFloatOptions.k_set_min_significant_digits = Spec.LiteralsExpected.WriteFloatOptions.k_set_min_significant_digits := rfl
theorem k_set_positive_exponent_break : Gen.Literals.WriteFloatOptions.k_set_positive_exponent_break = Spec.LiteralsExpected.WriteFloatOptions.k_set_positive_exponent_break := rfl
theorem k_set_negative_exponent_break : Gen.Literals.WriteFloatOptions.k_set_negative_exponent_break = Spec.LiteralsExpected.WriteFloatOptions.k_set_negative_exponent_break := rfl
theorem k_set_round_mode : Gen.Literals.WriteFloatOptions.k_set_round_mode = Spec.LiteralsExpected.WriteFloatOptions.k_set_round_mode := rfl
theorem k_set_trim_floats : Gen.Literals.WriteFloatOptions.k_set_trim_floats = Spec.LiteralsExpected.WriteFloatOptions.k_set_trim_floats := rfl
theorem k_set_exponent : Gen.Literals.WriteFloatOptions.k_set_exponent = Spec.LiteralsExpected.WriteFloatOptions.k_set_exponent := rfl
theorem k_set_decimal_point : Gen.Literals.WriteFloatOptions.k_set_decimal_point = Spec.LiteralsExpected.WriteFloatOptions.k_set_decimal_point := rfl
theorem k_set_nan_string : Gen.Literals.WriteFloatOptions.k_set_nan_string = Spec.LiteralsExpected.WriteFloatOptions.k_set_nan_string := rfl
theorem k_set_inf_string : Gen.Literals.WriteFloatOptions.k_set_inf_string = Spec.LiteralsExpected.WriteFloatOptions.k_set_inf_string := rfl
theorem k_builder : Gen.Literals.WriteFloatOptions.k_builder = Spec.LiteralsExpected.WriteFloatOptions.k_builder := rfl
theorem k_rebuild : Gen.Literals.WriteFloatOptions.k_rebuild = Spec.LiteralsExpected.WriteFloatOptions.k_rebuild := rfl
theorem k_buffer_size : Gen.Literals.WriteFloatOptions.k_buffer_size = Spec.LiteralsExpected.WriteFloatOptions.k_buffer_size := rfl
theorem k_unwrap_or_zero_macro : Gen.Literals.WriteFloatOptions.k_unwrap_or_zero_macro = Spec.LiteralsExpected.WriteFloatOptions.k_unwrap_or_zero_macro := rfl
theorem k_unwrap_or_max_usize : Gen.Literals.WriteFloatOptions.k_unwrap_or_max_usize = Spec.LiteralsExpected.WriteFloatOptions.k_unwrap_or_max_usize := rfl
theorem k_unwrap_str : Gen.Literals.WriteFloatOptions.k_unwrap_str = Spec.LiteralsExpected.WriteFloatOptions.k_unwrap_str := rfl

end LexVerif.Props.Literals.WriteFloatOptions
