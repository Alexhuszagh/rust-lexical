import LexVerif.Gen.Literals
import LexVerif.Spec.LiteralsExpected
/-!
# Literals.WriteFloatRadix — lexical-write-float/src/radix.rs still has the literals and token shape the models were transcribed from

`Gen.Literals.WriteFloatRadix` is re-extracted from /repo's source text on every run; `Spec.LiteralsExpected.WriteFloatRadix` is the
committed snapshot. One theorem per fn / macro item, so a failing obligation names the item whose source moved;
`items_same` catches added or removed items. (Written by `extractors.literals.snapshot()`.)
-/
namespace LexVerif.Props.Literals.WriteFloatRadix
open LexVerif

theorem items_same : Gen.Literals.WriteFloatRadix.items = Spec.LiteralsExpected.WriteFloatRadix.items := rfl
theorem k_write_float : Gen.Literals.WriteFloatRadix.k_write_float = Spec.LiteralsExpected.WriteFloatRadix.k_write_float := rfl
theorem k_write_float_scientific : Gen.Literals.WriteFloatRadix.k_write_float_scientific = Spec.LiteralsExpected.WriteFloatRadix.k_write_float_scientific := rfl
theorem k_write_float_nonscientific : Gen.Literals.WriteFloatRadix.k_write_float_nonscientific = Spec.LiteralsExpected.WriteFloatRadix.k_write_float_nonscientific := rfl
theorem k_truncate_and_round : Gen.Literals.WriteFloatRadix.k_truncate_and_round = Spec.LiteralsExpected.WriteFloatRadix.k_truncate_and_round := rfl

end LexVerif.Props.Literals.WriteFloatRadix
