import LexVerif.Gen.Literals
import LexVerif.Spec.LiteralsExpected
/-!
# Literals.UtilResult — lexical-util/src/result.rs still has the literals and token shape the models were transcribed from

`Gen.Literals.UtilResult` is re-extracted from /repo's source text on every run; `Spec.LiteralsExpected.UtilResult` is the
committed snapshot. One theorem per fn / macro item, so a failing obligation names the item whose source moved;
`items_same` catches added or removed items. (Written by `extractors.literals.snapshot()`.)
-/
namespace LexVerif.Props.Literals.UtilResult
open LexVerif

theorem items_same : Gen.Literals.UtilResult.items = Spec.LiteralsExpected.UtilResult.items := rfl

end LexVerif.Props.Literals.UtilResult
