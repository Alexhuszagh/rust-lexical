import LexVerif.Gen.Literals
import LexVerif.Spec.LiteralsExpected
/-!
# Literals.UtilFormatFlags — lexical-util/src/format_flags.rs still has the literals and token shape the models were transcribed from

`Gen.Literals.UtilFormatFlags` is re-extracted from /repo's source text on every run; `Spec.LiteralsExpected.UtilFormatFlags` is the
committed snapshot. One theorem per fn / macro item, so a failing obligation names the item whose source moved;
`items_same` catches added or removed items. (Written by `extractors.literals.snapshot()`.)
-/
namespace LexVerif.Props.Literals.UtilFormatFlags
open LexVerif

theorem items_same : Gen.Literals.UtilFormatFlags.items = Spec.LiteralsExpected.UtilFormatFlags.items := rfl
theorem k_check_subsequent_flags_macro : Gen.Literals.UtilFormatFlags.k_check_subsequent_flags_macro = Spec.LiteralsExpected.UtilFormatFlags.k_check_subsequent_flags_macro := rfl
theorem k_check_subsequent_masks_macro : Gen.Literals.UtilFormatFlags.k_check_subsequent_masks_macro = Spec.LiteralsExpected.UtilFormatFlags.k_check_subsequent_masks_macro := rfl
theorem k_check_mask_shifts_macro : Gen.Literals.UtilFormatFlags.k_check_mask_shifts_macro = Spec.LiteralsExpected.UtilFormatFlags.k_check_mask_shifts_macro := rfl
theorem k_check_masks_and_flags_macro : Gen.Literals.UtilFormatFlags.k_check_masks_and_flags_macro = Spec.LiteralsExpected.UtilFormatFlags.k_check_masks_and_flags_macro := rfl
theorem k_digit_separator : Gen.Literals.UtilFormatFlags.k_digit_separator = Spec.LiteralsExpected.UtilFormatFlags.k_digit_separator := rfl
theorem k_base_prefix : Gen.Literals.UtilFormatFlags.k_base_prefix = Spec.LiteralsExpected.UtilFormatFlags.k_base_prefix := rfl
theorem k_base_suffix : Gen.Literals.UtilFormatFlags.k_base_suffix = Spec.LiteralsExpected.UtilFormatFlags.k_base_suffix := rfl
theorem k_mantissa_radix : Gen.Literals.UtilFormatFlags.k_mantissa_radix = Spec.LiteralsExpected.UtilFormatFlags.k_mantissa_radix := rfl
theorem k_exponent_base : Gen.Literals.UtilFormatFlags.k_exponent_base = Spec.LiteralsExpected.UtilFormatFlags.k_exponent_base := rfl
theorem k_exponent_radix : Gen.Literals.UtilFormatFlags.k_exponent_radix = Spec.LiteralsExpected.UtilFormatFlags.k_exponent_radix := rfl
theorem k_radix_from_flags : Gen.Literals.UtilFormatFlags.k_radix_from_flags = Spec.LiteralsExpected.UtilFormatFlags.k_radix_from_flags := rfl
theorem k_is_valid_exponent_flags : Gen.Literals.UtilFormatFlags.k_is_valid_exponent_flags = Spec.LiteralsExpected.UtilFormatFlags.k_is_valid_exponent_flags := rfl
theorem k_is_valid_optional_control_radix : Gen.Literals.UtilFormatFlags.k_is_valid_optional_control_radix = Spec.LiteralsExpected.UtilFormatFlags.k_is_valid_optional_control_radix := rfl
theorem k_is_valid_optional_control : Gen.Literals.UtilFormatFlags.k_is_valid_optional_control = Spec.LiteralsExpected.UtilFormatFlags.k_is_valid_optional_control := rfl
theorem k_is_valid_control : Gen.Literals.UtilFormatFlags.k_is_valid_control = Spec.LiteralsExpected.UtilFormatFlags.k_is_valid_control := rfl
theorem k_is_valid_digit_separator : Gen.Literals.UtilFormatFlags.k_is_valid_digit_separator = Spec.LiteralsExpected.UtilFormatFlags.k_is_valid_digit_separator := rfl
theorem k_is_valid_base_prefix : Gen.Literals.UtilFormatFlags.k_is_valid_base_prefix = Spec.LiteralsExpected.UtilFormatFlags.k_is_valid_base_prefix := rfl
theorem k_is_valid_base_suffix : Gen.Literals.UtilFormatFlags.k_is_valid_base_suffix = Spec.LiteralsExpected.UtilFormatFlags.k_is_valid_base_suffix := rfl
theorem k_is_valid_punctuation : Gen.Literals.UtilFormatFlags.k_is_valid_punctuation = Spec.LiteralsExpected.UtilFormatFlags.k_is_valid_punctuation := rfl
theorem k_is_valid_options_punctuation : Gen.Literals.UtilFormatFlags.k_is_valid_options_punctuation = Spec.LiteralsExpected.UtilFormatFlags.k_is_valid_options_punctuation := rfl
theorem k_is_valid_radix : Gen.Literals.UtilFormatFlags.k_is_valid_radix = Spec.LiteralsExpected.UtilFormatFlags.k_is_valid_radix := rfl

end LexVerif.Props.Literals.UtilFormatFlags
