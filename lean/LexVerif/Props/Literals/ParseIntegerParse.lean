import LexVerif.Gen.Literals
import LexVerif.Spec.LiteralsExpected
/-!
# Literals.ParseIntegerParse — lexical-parse-integer/src/parse.rs still has the literals and token shape the models were transcribed from

`Gen.Literals.ParseIntegerParse` is re-extracted from /repo's source text on every run; `Spec.LiteralsExpected.ParseIntegerParse` is the
committed snapshot. One theorem per fn / macro item, so a failing obligation names the item whose source moved;
`items_same` catches added or removed items. (Written by `extractors.literals.snapshot()`.)
-/
namespace LexVerif.Props.Literals.ParseIntegerParse
open LexVerif

theorem items_same : Gen.Literals.ParseIntegerParse.items = Spec.LiteralsExpected.ParseIntegerParse.items := rfl
theorem k_parse_complete : Gen.Literals.ParseIntegerParse.k_parse_complete = Spec.LiteralsExpected.ParseIntegerParse.k_parse_complete := rfl
theorem k_parse_partial : Gen.Literals.ParseIntegerParse.k_parse_partial = Spec.LiteralsExpected.ParseIntegerParse.k_parse_partial := rfl
theorem k_parse_integer_impl_macro : Gen.Literals.ParseIntegerParse.k_parse_integer_impl_macro = Spec.LiteralsExpected.ParseIntegerParse.k_parse_integer_impl_macro := rfl

end LexVerif.Props.Literals.ParseIntegerParse
