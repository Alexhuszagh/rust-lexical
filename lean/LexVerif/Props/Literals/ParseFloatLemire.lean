import LexVerif.Gen.Literals
import LexVerif.Spec.LiteralsExpected
/-!
# Literals.ParseFloatLemire — lexical-parse-float/src/lemire.rs still has the literals and token shape the models were transcribed from

`Gen.Literals.ParseFloatLemire` is re-extracted from /repo's source text on every run; `Spec.LiteralsExpected.ParseFloatLemire` is the
committed snapshot. One theorem per fn / macro item, so a failing obligation names the item whose source moved;
`items_same` catches added or removed items. (Written by `extractors.literals.snapshot()`.)
-/
namespace LexVerif.Props.Literals.ParseFloatLemire
open LexVerif

theorem items_same : Gen.Literals.ParseFloatLemire.items = Spec.LiteralsExpected.ParseFloatLemire.items := rfl
theorem k_lemire : Gen.Literals.ParseFloatLemire.k_lemire = Spec.LiteralsExpected.ParseFloatLemire.k_lemire := rfl
theorem k_compute_float : Gen.Literals.ParseFloatLemire.k_compute_float = Spec.LiteralsExpected.ParseFloatLemire.k_compute_float := rfl
theorem k_compute_error : Gen.Literals.ParseFloatLemire.k_compute_error = Spec.LiteralsExpected.ParseFloatLemire.k_compute_error := rfl
theorem k_compute_error_scaled : Gen.Literals.ParseFloatLemire.k_compute_error_scaled = Spec.LiteralsExpected.ParseFloatLemire.k_compute_error_scaled := rfl
theorem k_power : Gen.Literals.ParseFloatLemire.k_power = Spec.LiteralsExpected.ParseFloatLemire.k_power := rfl
theorem k_verif_power : Gen.Literals.ParseFloatLemire.k_verif_power = Spec.LiteralsExpected.ParseFloatLemire.k_verif_power := rfl
theorem k_full_multiplication : Gen.Literals.ParseFloatLemire.k_full_multiplication = Spec.LiteralsExpected.ParseFloatLemire.k_full_multiplication := rfl
theorem k_compute_product_approx : Gen.Literals.ParseFloatLemire.k_compute_product_approx = Spec.LiteralsExpected.ParseFloatLemire.k_compute_product_approx := rfl

end LexVerif.Props.Literals.ParseFloatLemire
