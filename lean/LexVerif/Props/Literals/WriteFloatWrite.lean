import LexVerif.Gen.Literals
import LexVerif.Spec.LiteralsExpected
/-!
# Literals.WriteFloatWrite — lexical-write-float/src/write.rs still has the literals and token shape the models were transcribed from

`Gen.Literals.WriteFloatWrite` is re-extracted from /repo's source text on every run; `Spec.LiteralsExpected.WriteFloatWrite` is the
committed snapshot. One theorem per fn / macro item, so a failing obligation names the item whose source moved;
`items_same` catches added or removed items. (Written by `extractors.literals.snapshot()`.)
-/
namespace LexVerif.Props.Literals.WriteFloatWrite
open LexVerif

theorem items_same : Gen.Literals.WriteFloatWrite.items = Spec.LiteralsExpected.WriteFloatWrite.items := rfl
theorem k_write_special : Gen.Literals.WriteFloatWrite.k_write_special = Spec.LiteralsExpected.WriteFloatWrite.k_write_special := rfl
theorem k_write_nan : Gen.Literals.WriteFloatWrite.k_write_nan = Spec.LiteralsExpected.WriteFloatWrite.k_write_nan := rfl
theorem k_write_inf : Gen.Literals.WriteFloatWrite.k_write_inf = Spec.LiteralsExpected.WriteFloatWrite.k_write_inf := rfl
theorem k_check_buffer : Gen.Literals.WriteFloatWrite.k_check_buffer = Spec.LiteralsExpected.WriteFloatWrite.k_check_buffer := rfl
theorem k_write_float : Gen.Literals.WriteFloatWrite.k_write_float = Spec.LiteralsExpected.WriteFloatWrite.k_write_float := rfl
theorem k_write_float_impl_macro : Gen.Literals.WriteFloatWrite.k_write_float_impl_macro = Spec.LiteralsExpected.WriteFloatWrite.k_write_float_impl_macro := rfl
theorem k_write_float_as_f32_macro : Gen.Literals.WriteFloatWrite.k_write_float_as_f32_macro = Spec.LiteralsExpected.WriteFloatWrite.k_write_float_as_f32_macro := rfl

end LexVerif.Props.Literals.WriteFloatWrite
