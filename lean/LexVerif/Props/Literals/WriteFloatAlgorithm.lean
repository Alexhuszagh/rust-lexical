import LexVerif.Gen.Literals
import LexVerif.Spec.LiteralsExpected
/-!
# Literals.WriteFloatAlgorithm — lexical-write-float/src/algorithm.rs still has the literals and token shape the models were transcribed from

`Gen.Literals.WriteFloatAlgorithm` is re-extracted from /repo's source text on every run; `Spec.LiteralsExpected.WriteFloatAlgorithm` is the
committed snapshot. One theorem per fn / macro item, so a failing obligation names the item whose source moved;
`items_same` catches added or removed items. (Written by `extractors.literals.snapshot()`.)
-/
namespace LexVerif.Props.Literals.WriteFloatAlgorithm
open LexVerif

theorem items_same : Gen.Literals.WriteFloatAlgorithm.items = Spec.LiteralsExpected.WriteFloatAlgorithm.items := rfl
theorem k_write_float : Gen.Literals.WriteFloatAlgorithm.k_write_float = Spec.LiteralsExpected.WriteFloatAlgorithm.k_write_float := rfl
theorem k_write_float_scientific : Gen.Literals.WriteFloatAlgorithm.k_write_float_scientific = Spec.LiteralsExpected.WriteFloatAlgorithm.k_write_float_scientific := rfl
theorem k_write_float_negative_exponent : Gen.Literals.WriteFloatAlgorithm.k_write_float_negative_exponent = Spec.LiteralsExpected.WriteFloatAlgorithm.k_write_float_negative_exponent := rfl
theorem k_write_float_positive_exponent : Gen.Literals.WriteFloatAlgorithm.k_write_float_positive_exponent = Spec.LiteralsExpected.WriteFloatAlgorithm.k_write_float_positive_exponent := rfl
theorem k_to_decimal : Gen.Literals.WriteFloatAlgorithm.k_to_decimal = Spec.LiteralsExpected.WriteFloatAlgorithm.k_to_decimal := rfl
theorem k_compute_round_short : Gen.Literals.WriteFloatAlgorithm.k_compute_round_short = Spec.LiteralsExpected.WriteFloatAlgorithm.k_compute_round_short := rfl
theorem k_compute_round : Gen.Literals.WriteFloatAlgorithm.k_compute_round = Spec.LiteralsExpected.WriteFloatAlgorithm.k_compute_round := rfl
theorem k_compute_nearest_shorter : Gen.Literals.WriteFloatAlgorithm.k_compute_nearest_shorter = Spec.LiteralsExpected.WriteFloatAlgorithm.k_compute_nearest_shorter := rfl
theorem k_compute_nearest_normal : Gen.Literals.WriteFloatAlgorithm.k_compute_nearest_normal = Spec.LiteralsExpected.WriteFloatAlgorithm.k_compute_nearest_normal := rfl
theorem k_compute_left_closed_directed : Gen.Literals.WriteFloatAlgorithm.k_compute_left_closed_directed = Spec.LiteralsExpected.WriteFloatAlgorithm.k_compute_left_closed_directed := rfl
theorem k_compute_right_closed_directed : Gen.Literals.WriteFloatAlgorithm.k_compute_right_closed_directed = Spec.LiteralsExpected.WriteFloatAlgorithm.k_compute_right_closed_directed := rfl
theorem k_write_digits_u32 : Gen.Literals.WriteFloatAlgorithm.k_write_digits_u32 = Spec.LiteralsExpected.WriteFloatAlgorithm.k_write_digits_u32 := rfl
theorem k_write_digits_u64 : Gen.Literals.WriteFloatAlgorithm.k_write_digits_u64 = Spec.LiteralsExpected.WriteFloatAlgorithm.k_write_digits_u64 := rfl
theorem k_extended_float : Gen.Literals.WriteFloatAlgorithm.k_extended_float = Spec.LiteralsExpected.WriteFloatAlgorithm.k_extended_float := rfl
theorem k_floor_log2 : Gen.Literals.WriteFloatAlgorithm.k_floor_log2 = Spec.LiteralsExpected.WriteFloatAlgorithm.k_floor_log2 := rfl
theorem k_is_endpoint : Gen.Literals.WriteFloatAlgorithm.k_is_endpoint = Spec.LiteralsExpected.WriteFloatAlgorithm.k_is_endpoint := rfl
theorem k_is_right_endpoint : Gen.Literals.WriteFloatAlgorithm.k_is_right_endpoint = Spec.LiteralsExpected.WriteFloatAlgorithm.k_is_right_endpoint := rfl
theorem k_is_left_endpoint : Gen.Literals.WriteFloatAlgorithm.k_is_left_endpoint = Spec.LiteralsExpected.WriteFloatAlgorithm.k_is_left_endpoint := rfl
theorem k_umul128_upper64 : Gen.Literals.WriteFloatAlgorithm.k_umul128_upper64 = Spec.LiteralsExpected.WriteFloatAlgorithm.k_umul128_upper64 := rfl
theorem k_umul192_upper128 : Gen.Literals.WriteFloatAlgorithm.k_umul192_upper128 = Spec.LiteralsExpected.WriteFloatAlgorithm.k_umul192_upper128 := rfl
theorem k_umul192_lower128 : Gen.Literals.WriteFloatAlgorithm.k_umul192_lower128 = Spec.LiteralsExpected.WriteFloatAlgorithm.k_umul192_lower128 := rfl
theorem k_umul96_upper64 : Gen.Literals.WriteFloatAlgorithm.k_umul96_upper64 = Spec.LiteralsExpected.WriteFloatAlgorithm.k_umul96_upper64 := rfl
theorem k_umul96_lower64 : Gen.Literals.WriteFloatAlgorithm.k_umul96_lower64 = Spec.LiteralsExpected.WriteFloatAlgorithm.k_umul96_lower64 := rfl
theorem k_floor_log5_pow2 : Gen.Literals.WriteFloatAlgorithm.k_floor_log5_pow2 = Spec.LiteralsExpected.WriteFloatAlgorithm.k_floor_log5_pow2 := rfl
theorem k_floor_log10_pow2 : Gen.Literals.WriteFloatAlgorithm.k_floor_log10_pow2 = Spec.LiteralsExpected.WriteFloatAlgorithm.k_floor_log10_pow2 := rfl
theorem k_floor_log2_pow10 : Gen.Literals.WriteFloatAlgorithm.k_floor_log2_pow10 = Spec.LiteralsExpected.WriteFloatAlgorithm.k_floor_log2_pow10 := rfl
theorem k_floor_log5_pow2_minus_log5_3 : Gen.Literals.WriteFloatAlgorithm.k_floor_log5_pow2_minus_log5_3 = Spec.LiteralsExpected.WriteFloatAlgorithm.k_floor_log5_pow2_minus_log5_3 := rfl
theorem k_floor_log10_pow2_minus_log10_4_over_3 : Gen.Literals.WriteFloatAlgorithm.k_floor_log10_pow2_minus_log10_4_over_3 = Spec.LiteralsExpected.WriteFloatAlgorithm.k_floor_log10_pow2_minus_log10_4_over_3 := rfl
theorem k_pow32 : Gen.Literals.WriteFloatAlgorithm.k_pow32 = Spec.LiteralsExpected.WriteFloatAlgorithm.k_pow32 := rfl
theorem k_pow64 : Gen.Literals.WriteFloatAlgorithm.k_pow64 = Spec.LiteralsExpected.WriteFloatAlgorithm.k_pow64 := rfl
theorem k_count_factors : Gen.Literals.WriteFloatAlgorithm.k_count_factors = Spec.LiteralsExpected.WriteFloatAlgorithm.k_count_factors := rfl
theorem k_divide_by_pow10_32 : Gen.Literals.WriteFloatAlgorithm.k_divide_by_pow10_32 = Spec.LiteralsExpected.WriteFloatAlgorithm.k_divide_by_pow10_32 := rfl
theorem k_divide_by_pow10_64 : Gen.Literals.WriteFloatAlgorithm.k_divide_by_pow10_64 = Spec.LiteralsExpected.WriteFloatAlgorithm.k_divide_by_pow10_64 := rfl
theorem k_prefer_round_down : Gen.Literals.WriteFloatAlgorithm.k_prefer_round_down = Spec.LiteralsExpected.WriteFloatAlgorithm.k_prefer_round_down := rfl
theorem k_is_symmetric : Gen.Literals.WriteFloatAlgorithm.k_is_symmetric = Spec.LiteralsExpected.WriteFloatAlgorithm.k_is_symmetric := rfl
theorem k_include_left_endpoint : Gen.Literals.WriteFloatAlgorithm.k_include_left_endpoint = Spec.LiteralsExpected.WriteFloatAlgorithm.k_include_left_endpoint := rfl
theorem k_include_right_endpoint : Gen.Literals.WriteFloatAlgorithm.k_include_right_endpoint = Spec.LiteralsExpected.WriteFloatAlgorithm.k_include_right_endpoint := rfl
theorem k_compute_left_endpoint_u64 : Gen.Literals.WriteFloatAlgorithm.k_compute_left_endpoint_u64 = Spec.LiteralsExpected.WriteFloatAlgorithm.k_compute_left_endpoint_u64 := rfl
theorem k_compute_right_endpoint_u64 : Gen.Literals.WriteFloatAlgorithm.k_compute_right_endpoint_u64 = Spec.LiteralsExpected.WriteFloatAlgorithm.k_compute_right_endpoint_u64 := rfl
theorem k_compute_round_up_u64 : Gen.Literals.WriteFloatAlgorithm.k_compute_round_up_u64 = Spec.LiteralsExpected.WriteFloatAlgorithm.k_compute_round_up_u64 := rfl
theorem k_high : Gen.Literals.WriteFloatAlgorithm.k_high = Spec.LiteralsExpected.WriteFloatAlgorithm.k_high := rfl
theorem k_low : Gen.Literals.WriteFloatAlgorithm.k_low = Spec.LiteralsExpected.WriteFloatAlgorithm.k_low := rfl
theorem k_rotr32 : Gen.Literals.WriteFloatAlgorithm.k_rotr32 = Spec.LiteralsExpected.WriteFloatAlgorithm.k_rotr32 := rfl
theorem k_rotr64 : Gen.Literals.WriteFloatAlgorithm.k_rotr64 = Spec.LiteralsExpected.WriteFloatAlgorithm.k_rotr64 := rfl
theorem k_check_div_pow10_macro : Gen.Literals.WriteFloatAlgorithm.k_check_div_pow10_macro = Spec.LiteralsExpected.WriteFloatAlgorithm.k_check_div_pow10_macro := rfl
theorem k_div_pow10_macro : Gen.Literals.WriteFloatAlgorithm.k_div_pow10_macro = Spec.LiteralsExpected.WriteFloatAlgorithm.k_div_pow10_macro := rfl
theorem k_digit_count : Gen.Literals.WriteFloatAlgorithm.k_digit_count = Spec.LiteralsExpected.WriteFloatAlgorithm.k_digit_count := rfl
theorem k_write_digits : Gen.Literals.WriteFloatAlgorithm.k_write_digits = Spec.LiteralsExpected.WriteFloatAlgorithm.k_write_digits := rfl
theorem k_dragonbox_power : Gen.Literals.WriteFloatAlgorithm.k_dragonbox_power = Spec.LiteralsExpected.WriteFloatAlgorithm.k_dragonbox_power := rfl
theorem k_compute_left_endpoint : Gen.Literals.WriteFloatAlgorithm.k_compute_left_endpoint = Spec.LiteralsExpected.WriteFloatAlgorithm.k_compute_left_endpoint := rfl
theorem k_compute_right_endpoint : Gen.Literals.WriteFloatAlgorithm.k_compute_right_endpoint = Spec.LiteralsExpected.WriteFloatAlgorithm.k_compute_right_endpoint := rfl
theorem k_compute_round_up : Gen.Literals.WriteFloatAlgorithm.k_compute_round_up = Spec.LiteralsExpected.WriteFloatAlgorithm.k_compute_round_up := rfl
theorem k_compute_mul : Gen.Literals.WriteFloatAlgorithm.k_compute_mul = Spec.LiteralsExpected.WriteFloatAlgorithm.k_compute_mul := rfl
theorem k_compute_mul_parity : Gen.Literals.WriteFloatAlgorithm.k_compute_mul_parity = Spec.LiteralsExpected.WriteFloatAlgorithm.k_compute_mul_parity := rfl
theorem k_compute_delta : Gen.Literals.WriteFloatAlgorithm.k_compute_delta = Spec.LiteralsExpected.WriteFloatAlgorithm.k_compute_delta := rfl
theorem k_process_trailing_zeros : Gen.Literals.WriteFloatAlgorithm.k_process_trailing_zeros = Spec.LiteralsExpected.WriteFloatAlgorithm.k_process_trailing_zeros := rfl
theorem k_remove_trailing_zeros : Gen.Literals.WriteFloatAlgorithm.k_remove_trailing_zeros = Spec.LiteralsExpected.WriteFloatAlgorithm.k_remove_trailing_zeros := rfl
theorem k_divisible_by_pow2 : Gen.Literals.WriteFloatAlgorithm.k_divisible_by_pow2 = Spec.LiteralsExpected.WriteFloatAlgorithm.k_divisible_by_pow2 := rfl
theorem k_check_div_pow10 : Gen.Literals.WriteFloatAlgorithm.k_check_div_pow10 = Spec.LiteralsExpected.WriteFloatAlgorithm.k_check_div_pow10 := rfl
theorem k_div_pow10 : Gen.Literals.WriteFloatAlgorithm.k_div_pow10 = Spec.LiteralsExpected.WriteFloatAlgorithm.k_div_pow10 := rfl
theorem k_divide_by_pow10 : Gen.Literals.WriteFloatAlgorithm.k_divide_by_pow10 = Spec.LiteralsExpected.WriteFloatAlgorithm.k_divide_by_pow10 := rfl
theorem k_dragonbox_unimpl_macro : Gen.Literals.WriteFloatAlgorithm.k_dragonbox_unimpl_macro = Spec.LiteralsExpected.WriteFloatAlgorithm.k_dragonbox_unimpl_macro := rfl

end LexVerif.Props.Literals.WriteFloatAlgorithm
