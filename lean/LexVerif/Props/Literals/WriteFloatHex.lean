import LexVerif.Gen.Literals
import LexVerif.Spec.LiteralsExpected
/-!
# Literals.WriteFloatHex — lexical-write-float/src/hex.rs still has the literals and token shape the models were transcribed from

`Gen.Literals.WriteFloatHex` is re-extracted from /repo's source text on every run; `Spec.LiteralsExpected.WriteFloatHex` is the
committed snapshot. One theorem per fn / macro item, so a failing obligation names the item whose source moved;
`items_same` catches added or removed items. (Written by `extractors.literals.snapshot()`.)
-/
namespace LexVerif.Props.Literals.WriteFloatHex
open LexVerif

theorem items_same : Gen.Literals.WriteFloatHex.items = Spec.LiteralsExpected.WriteFloatHex.items := rfl
theorem k_write_float : Gen.Literals.WriteFloatHex.k_write_float = Spec.LiteralsExpected.WriteFloatHex.k_write_float := rfl
theorem k_write_float_scientific : Gen.Literals.WriteFloatHex.k_write_float_scientific = Spec.LiteralsExpected.WriteFloatHex.k_write_float_scientific := rfl
theorem k_scale_sci_exp : Gen.Literals.WriteFloatHex.k_scale_sci_exp = Spec.LiteralsExpected.WriteFloatHex.k_scale_sci_exp := rfl

end LexVerif.Props.Literals.WriteFloatHex
