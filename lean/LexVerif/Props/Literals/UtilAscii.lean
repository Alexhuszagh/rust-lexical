import LexVerif.Gen.Literals
import LexVerif.Spec.LiteralsExpected
/-!
# Literals.UtilAscii — lexical-util/src/ascii.rs still has the literals and token shape the models were transcribed from

`Gen.Literals.UtilAscii` is re-extracted from /repo's source text on every run; `Spec.LiteralsExpected.UtilAscii` is the
committed snapshot. One theorem per fn / macro item, so a failing obligation names the item whose source moved;
`items_same` catches added or removed items. (Written by `extractors.literals.snapshot()`.)
-/
namespace LexVerif.Props.Literals.UtilAscii
open LexVerif

theorem items_same : Gen.Literals.UtilAscii.items = Spec.LiteralsExpected.UtilAscii.items := rfl
theorem k_is_valid_ascii : Gen.Literals.UtilAscii.k_is_valid_ascii = Spec.LiteralsExpected.UtilAscii.k_is_valid_ascii := rfl
theorem k_is_valid_ascii_slice : Gen.Literals.UtilAscii.k_is_valid_ascii_slice = Spec.LiteralsExpected.UtilAscii.k_is_valid_ascii_slice := rfl
theorem k_is_valid_letter : Gen.Literals.UtilAscii.k_is_valid_letter = Spec.LiteralsExpected.UtilAscii.k_is_valid_letter := rfl
theorem k_is_valid_letter_slice : Gen.Literals.UtilAscii.k_is_valid_letter_slice = Spec.LiteralsExpected.UtilAscii.k_is_valid_letter_slice := rfl

end LexVerif.Props.Literals.UtilAscii
