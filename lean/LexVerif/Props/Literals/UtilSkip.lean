import LexVerif.Gen.Literals
import LexVerif.Spec.LiteralsExpected
/-!
# Literals.UtilSkip — lexical-util/src/skip.rs still has the literals and token shape the models were transcribed from

`Gen.Literals.UtilSkip` is re-extracted from /repo's source text on every run; `Spec.LiteralsExpected.UtilSkip` is the
committed snapshot. One theorem per fn / macro item, so a failing obligation names the item whose source moved;
`items_same` catches added or removed items. (Written by `extractors.literals.snapshot()`.)
-/
namespace LexVerif.Props.Literals.UtilSkip
open LexVerif

theorem items_same : Gen.Literals.UtilSkip.items = Spec.LiteralsExpected.UtilSkip.items := rfl
theorem k_indexing_macro : Gen.Literals.UtilSkip.k_indexing_macro = Spec.LiteralsExpected.UtilSkip.k_indexing_macro := rfl
theorem k_is_i_macro : Gen.Literals.UtilSkip.k_is_i_macro = Spec.LiteralsExpected.UtilSkip.k_is_i_macro := rfl
theorem k_is_ic_macro : Gen.Literals.UtilSkip.k_is_ic_macro = Spec.LiteralsExpected.UtilSkip.k_is_ic_macro := rfl
theorem k_is_l_macro : Gen.Literals.UtilSkip.k_is_l_macro = Spec.LiteralsExpected.UtilSkip.k_is_l_macro := rfl
theorem k_is_lc_macro : Gen.Literals.UtilSkip.k_is_lc_macro = Spec.LiteralsExpected.UtilSkip.k_is_lc_macro := rfl
theorem k_is_t_macro : Gen.Literals.UtilSkip.k_is_t_macro = Spec.LiteralsExpected.UtilSkip.k_is_t_macro := rfl
theorem k_is_tc_macro : Gen.Literals.UtilSkip.k_is_tc_macro = Spec.LiteralsExpected.UtilSkip.k_is_tc_macro := rfl
theorem k_is_il_macro : Gen.Literals.UtilSkip.k_is_il_macro = Spec.LiteralsExpected.UtilSkip.k_is_il_macro := rfl
theorem k_is_ilc_macro : Gen.Literals.UtilSkip.k_is_ilc_macro = Spec.LiteralsExpected.UtilSkip.k_is_ilc_macro := rfl
theorem k_is_it_macro : Gen.Literals.UtilSkip.k_is_it_macro = Spec.LiteralsExpected.UtilSkip.k_is_it_macro := rfl
theorem k_is_itc_macro : Gen.Literals.UtilSkip.k_is_itc_macro = Spec.LiteralsExpected.UtilSkip.k_is_itc_macro := rfl
theorem k_is_lt_macro : Gen.Literals.UtilSkip.k_is_lt_macro = Spec.LiteralsExpected.UtilSkip.k_is_lt_macro := rfl
theorem k_is_ltc_macro : Gen.Literals.UtilSkip.k_is_ltc_macro = Spec.LiteralsExpected.UtilSkip.k_is_ltc_macro := rfl
theorem k_is_ilt_macro : Gen.Literals.UtilSkip.k_is_ilt_macro = Spec.LiteralsExpected.UtilSkip.k_is_ilt_macro := rfl
theorem k_is_iltc_macro : Gen.Literals.UtilSkip.k_is_iltc_macro = Spec.LiteralsExpected.UtilSkip.k_is_iltc_macro := rfl
theorem k_peek_1_macro : Gen.Literals.UtilSkip.k_peek_1_macro = Spec.LiteralsExpected.UtilSkip.k_peek_1_macro := rfl
theorem k_peek_n_macro : Gen.Literals.UtilSkip.k_peek_n_macro = Spec.LiteralsExpected.UtilSkip.k_peek_n_macro := rfl
theorem k_peek_noskip_macro : Gen.Literals.UtilSkip.k_peek_noskip_macro = Spec.LiteralsExpected.UtilSkip.k_peek_noskip_macro := rfl
theorem k_peek_l_macro : Gen.Literals.UtilSkip.k_peek_l_macro = Spec.LiteralsExpected.UtilSkip.k_peek_l_macro := rfl
theorem k_peek_i_macro : Gen.Literals.UtilSkip.k_peek_i_macro = Spec.LiteralsExpected.UtilSkip.k_peek_i_macro := rfl
theorem k_peek_t_macro : Gen.Literals.UtilSkip.k_peek_t_macro = Spec.LiteralsExpected.UtilSkip.k_peek_t_macro := rfl
theorem k_peek_il_macro : Gen.Literals.UtilSkip.k_peek_il_macro = Spec.LiteralsExpected.UtilSkip.k_peek_il_macro := rfl
theorem k_peek_it_macro : Gen.Literals.UtilSkip.k_peek_it_macro = Spec.LiteralsExpected.UtilSkip.k_peek_it_macro := rfl
theorem k_peek_lt_macro : Gen.Literals.UtilSkip.k_peek_lt_macro = Spec.LiteralsExpected.UtilSkip.k_peek_lt_macro := rfl
theorem k_peek_ilt_macro : Gen.Literals.UtilSkip.k_peek_ilt_macro = Spec.LiteralsExpected.UtilSkip.k_peek_ilt_macro := rfl
theorem k_peek_lc_macro : Gen.Literals.UtilSkip.k_peek_lc_macro = Spec.LiteralsExpected.UtilSkip.k_peek_lc_macro := rfl
theorem k_peek_ic_macro : Gen.Literals.UtilSkip.k_peek_ic_macro = Spec.LiteralsExpected.UtilSkip.k_peek_ic_macro := rfl
theorem k_peek_tc_macro : Gen.Literals.UtilSkip.k_peek_tc_macro = Spec.LiteralsExpected.UtilSkip.k_peek_tc_macro := rfl
theorem k_peek_ilc_macro : Gen.Literals.UtilSkip.k_peek_ilc_macro = Spec.LiteralsExpected.UtilSkip.k_peek_ilc_macro := rfl
theorem k_peek_itc_macro : Gen.Literals.UtilSkip.k_peek_itc_macro = Spec.LiteralsExpected.UtilSkip.k_peek_itc_macro := rfl
theorem k_peek_ltc_macro : Gen.Literals.UtilSkip.k_peek_ltc_macro = Spec.LiteralsExpected.UtilSkip.k_peek_ltc_macro := rfl
theorem k_peek_iltc_macro : Gen.Literals.UtilSkip.k_peek_iltc_macro = Spec.LiteralsExpected.UtilSkip.k_peek_iltc_macro := rfl
theorem k_bytes : Gen.Literals.UtilSkip.k_bytes = Spec.LiteralsExpected.UtilSkip.k_bytes := rfl
theorem k_new : Gen.Literals.UtilSkip.k_new = Spec.LiteralsExpected.UtilSkip.k_new := rfl
theorem k_from_parts : Gen.Literals.UtilSkip.k_from_parts = Spec.LiteralsExpected.UtilSkip.k_from_parts := rfl
theorem k_integer_iter : Gen.Literals.UtilSkip.k_integer_iter = Spec.LiteralsExpected.UtilSkip.k_integer_iter := rfl
theorem k_fraction_iter : Gen.Literals.UtilSkip.k_fraction_iter = Spec.LiteralsExpected.UtilSkip.k_fraction_iter := rfl
theorem k_exponent_iter : Gen.Literals.UtilSkip.k_exponent_iter = Spec.LiteralsExpected.UtilSkip.k_exponent_iter := rfl
theorem k_special_iter : Gen.Literals.UtilSkip.k_special_iter = Spec.LiteralsExpected.UtilSkip.k_special_iter := rfl
theorem k_step_by_unchecked_impl : Gen.Literals.UtilSkip.k_step_by_unchecked_impl = Spec.LiteralsExpected.UtilSkip.k_step_by_unchecked_impl := rfl
theorem k_peek_many_unchecked_impl : Gen.Literals.UtilSkip.k_peek_many_unchecked_impl = Spec.LiteralsExpected.UtilSkip.k_peek_many_unchecked_impl := rfl
theorem k_get_buffer : Gen.Literals.UtilSkip.k_get_buffer = Spec.LiteralsExpected.UtilSkip.k_get_buffer := rfl
theorem k_cursor : Gen.Literals.UtilSkip.k_cursor = Spec.LiteralsExpected.UtilSkip.k_cursor := rfl
theorem k_set_cursor : Gen.Literals.UtilSkip.k_set_cursor = Spec.LiteralsExpected.UtilSkip.k_set_cursor := rfl
theorem k_current_count : Gen.Literals.UtilSkip.k_current_count = Spec.LiteralsExpected.UtilSkip.k_current_count := rfl
theorem k_step_by_unchecked : Gen.Literals.UtilSkip.k_step_by_unchecked = Spec.LiteralsExpected.UtilSkip.k_step_by_unchecked := rfl
theorem k_peek_many_unchecked : Gen.Literals.UtilSkip.k_peek_many_unchecked = Spec.LiteralsExpected.UtilSkip.k_peek_many_unchecked := rfl
theorem k_skip_iterator_macro : Gen.Literals.UtilSkip.k_skip_iterator_macro = Spec.LiteralsExpected.UtilSkip.k_skip_iterator_macro := rfl
theorem k_is_sign_macro : Gen.Literals.UtilSkip.k_is_sign_macro = Spec.LiteralsExpected.UtilSkip.k_is_sign_macro := rfl
theorem k_is_sign : Gen.Literals.UtilSkip.k_is_sign = Spec.LiteralsExpected.UtilSkip.k_is_sign := rfl
theorem k_is_digit_separator_macro : Gen.Literals.UtilSkip.k_is_digit_separator_macro = Spec.LiteralsExpected.UtilSkip.k_is_digit_separator_macro := rfl
theorem k_is_digit_separator : Gen.Literals.UtilSkip.k_is_digit_separator = Spec.LiteralsExpected.UtilSkip.k_is_digit_separator := rfl
theorem k_skip_iterator_impl_macro : Gen.Literals.UtilSkip.k_skip_iterator_impl_macro = Spec.LiteralsExpected.UtilSkip.k_skip_iterator_impl_macro := rfl
theorem k_take_n : Gen.Literals.UtilSkip.k_take_n = Spec.LiteralsExpected.UtilSkip.k_take_n := rfl
theorem k_skip_iterator_iterator_impl_macro : Gen.Literals.UtilSkip.k_skip_iterator_iterator_impl_macro = Spec.LiteralsExpected.UtilSkip.k_skip_iterator_iterator_impl_macro := rfl
theorem k_next : Gen.Literals.UtilSkip.k_next = Spec.LiteralsExpected.UtilSkip.k_next := rfl
theorem k_skip_iterator_iter_base_macro : Gen.Literals.UtilSkip.k_skip_iterator_iter_base_macro = Spec.LiteralsExpected.UtilSkip.k_skip_iterator_iter_base_macro := rfl
theorem k_skip_iterator_digits_iter_base_macro : Gen.Literals.UtilSkip.k_skip_iterator_digits_iter_base_macro = Spec.LiteralsExpected.UtilSkip.k_skip_iterator_digits_iter_base_macro := rfl
theorem k_is_consumed : Gen.Literals.UtilSkip.k_is_consumed = Spec.LiteralsExpected.UtilSkip.k_is_consumed := rfl
theorem k_skip_iterator_bytesiter_impl_macro : Gen.Literals.UtilSkip.k_skip_iterator_bytesiter_impl_macro = Spec.LiteralsExpected.UtilSkip.k_skip_iterator_bytesiter_impl_macro := rfl
theorem k_increment_count : Gen.Literals.UtilSkip.k_increment_count = Spec.LiteralsExpected.UtilSkip.k_increment_count := rfl
theorem k_peek : Gen.Literals.UtilSkip.k_peek = Spec.LiteralsExpected.UtilSkip.k_peek := rfl
theorem k_is_digit : Gen.Literals.UtilSkip.k_is_digit = Spec.LiteralsExpected.UtilSkip.k_is_digit := rfl

end LexVerif.Props.Literals.UtilSkip
