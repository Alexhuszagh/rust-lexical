import LexVerif.Gen.Literals
import LexVerif.Spec.LiteralsExpected
/-!
# Literals.ParseFloatFpu — lexical-parse-float/src/fpu.rs still has the literals and token shape the models were transcribed from

`Gen.Literals.ParseFloatFpu` is re-extracted from /repo's source text on every run; `Spec.LiteralsExpected.ParseFloatFpu` is the
committed snapshot. One theorem per fn / macro item, so a failing obligation names the item whose source moved;
`items_same` catches added or removed items. (Written by `extractors.literals.snapshot()`.)
-/
namespace LexVerif.Props.Literals.ParseFloatFpu
open LexVerif

theorem items_same : Gen.Literals.ParseFloatFpu.items = Spec.LiteralsExpected.ParseFloatFpu.items := rfl
theorem k_set_cw : Gen.Literals.ParseFloatFpu.k_set_cw = Spec.LiteralsExpected.ParseFloatFpu.k_set_cw := rfl
theorem k_set_precision : Gen.Literals.ParseFloatFpu.k_set_precision = Spec.LiteralsExpected.ParseFloatFpu.k_set_precision := rfl
theorem k_drop : Gen.Literals.ParseFloatFpu.k_drop = Spec.LiteralsExpected.ParseFloatFpu.k_drop := rfl

end LexVerif.Props.Literals.ParseFloatFpu
