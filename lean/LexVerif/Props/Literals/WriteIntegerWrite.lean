import LexVerif.Gen.Literals
import LexVerif.Spec.LiteralsExpected
/-!
# Literals.WriteIntegerWrite — lexical-write-integer/src/write.rs still has the literals and token shape the models were transcribed from

`Gen.Literals.WriteIntegerWrite` is re-extracted from /repo's source text on every run; `Spec.LiteralsExpected.WriteIntegerWrite` is the
committed snapshot. One theorem per fn / macro item, so a failing obligation names the item whose source moved;
`items_same` catches added or removed items. (Written by `extractors.literals.snapshot()`.)
-/
namespace LexVerif.Props.Literals.WriteIntegerWrite
open LexVerif

theorem items_same : Gen.Literals.WriteIntegerWrite.items = Spec.LiteralsExpected.WriteIntegerWrite.items := rfl
theorem k_write_mantissa_macro : Gen.Literals.WriteIntegerWrite.k_write_mantissa_macro = Spec.LiteralsExpected.WriteIntegerWrite.k_write_mantissa_macro := rfl
theorem k_write_mantissa : Gen.Literals.WriteIntegerWrite.k_write_mantissa = Spec.LiteralsExpected.WriteIntegerWrite.k_write_mantissa := rfl
theorem k_write_mantissa_signed : Gen.Literals.WriteIntegerWrite.k_write_mantissa_signed = Spec.LiteralsExpected.WriteIntegerWrite.k_write_mantissa_signed := rfl
theorem k_write_exponent_macro : Gen.Literals.WriteIntegerWrite.k_write_exponent_macro = Spec.LiteralsExpected.WriteIntegerWrite.k_write_exponent_macro := rfl
theorem k_write_exponent : Gen.Literals.WriteIntegerWrite.k_write_exponent = Spec.LiteralsExpected.WriteIntegerWrite.k_write_exponent := rfl
theorem k_write_exponent_signed : Gen.Literals.WriteIntegerWrite.k_write_exponent_signed = Spec.LiteralsExpected.WriteIntegerWrite.k_write_exponent_signed := rfl
theorem k_write_integer : Gen.Literals.WriteIntegerWrite.k_write_integer = Spec.LiteralsExpected.WriteIntegerWrite.k_write_integer := rfl
theorem k_write_integer_signed : Gen.Literals.WriteIntegerWrite.k_write_integer_signed = Spec.LiteralsExpected.WriteIntegerWrite.k_write_integer_signed := rfl
theorem k_write_integer_impl_macro : Gen.Literals.WriteIntegerWrite.k_write_integer_impl_macro = Spec.LiteralsExpected.WriteIntegerWrite.k_write_integer_impl_macro := rfl

end LexVerif.Props.Literals.WriteIntegerWrite
