import LexVerif.Proof.RoundNE
import LexVerif.Proof.LitBits
import LexVerif.Proof.Shortest
import LexVerif.Proof.ShortestUp
import LexVerif.Proof.Numeral
/-!
# Props.RoundNE — sanity theorems about the float oracles `Spec.roundNE`, `Spec.litBits`, `Spec.shortest`

`roundNE f num den` is what every string→float property is judged against.  The theorems below say that
it *means* "nearest float, ties to even, overflow to +∞ at the IEEE threshold", for every format with
`2 ≤ p`, `2 ≤ ebits` (`WF f`; instances `wf_f32`, `wf_f64`), every `num` and every `den > 0`.

`valQ f b` (`Proof/RoundNE.lean`) is the exact rational value `m·2^e` of `decode b`.
-/
namespace LexVerif.Props.RoundNE
open LexVerif.Spec LexVerif.Proof.RoundNE

variable {f : Fmt}

/-- (1) the result is a finite pattern or exactly `+∞` -/
theorem roundNE_finite_or_inf (hf : WF f) (num : Nat) {den : Nat} (hd : 0 < den) :
    roundNE f num den ≤ f.infBits := roundNE_le_infBits hf num hd

/-- (1') … in particular never a NaN pattern, and never negative -/
theorem roundNE_not_nan (hf : WF f) (num : Nat) {den : Nat} (hd : 0 < den) :
    f.isNaN (roundNE f num den) = false ∧ f.isNeg (roundNE f num den) = false := by
  have h := roundNE_le_infBits hf num hd
  exact ⟨isNaN_of_le_inf h, (isNeg_of_le_inf hf h).1⟩

/-- (2) no finite float is strictly nearer to `num/den` than the returned one -/
theorem roundNE_nearest (hf : WF f) (num : Nat) {den : Nat} (hd : 0 < den)
    (hb : roundNE f num den < f.infBits) (c : Nat) (hc : c < f.infBits) :
    |valQ f (roundNE f num den) - (num : ℚ) / den| ≤ |valQ f c - (num : ℚ) / den| := by
  have cell := inCell_roundNE hf num (Nat.ne_of_gt hd)
  rw [valQ_eq_ival hf hb, valQ_eq_ival hf hc, num_den_eq f num hd, ← sub_mul, ← sub_mul, abs_mul,
    abs_mul]
  exact mul_le_mul_of_nonneg_right (cell.nearest hd hb c) (abs_nonneg _)

/-- (3) ties go to even: if another finite float is equally near, the returned pattern has an even
mantissa field (equivalently, is an even number) -/
theorem roundNE_tie_even (hf : WF f) (num : Nat) {den : Nat} (hd : 0 < den)
    (hb : roundNE f num den < f.infBits) (c : Nat) (hc : c < f.infBits) (hne : c ≠ roundNE f num den)
    (heq : |valQ f (roundNE f num den) - (num : ℚ) / den| = |valQ f c - (num : ℚ) / den|) :
    f.manField (roundNE f num den) % 2 = 0 ∧ roundNE f num den % 2 = 0 := by
  have cell := inCell_roundNE hf num (Nat.ne_of_gt hd)
  rw [valQ_eq_ival hf hb, valQ_eq_ival hf hc, num_den_eq f num hd, ← sub_mul, ← sub_mul, abs_mul,
    abs_mul] at heq
  have hu : |unitQ f| ≠ 0 := by rw [abs_ne_zero]; exact ne_of_gt (unitQ_pos f)
  have h := cell.tie_even hd hb c hne (mul_right_cancel₀ hu heq)
  refine ⟨?_, h⟩
  obtain ⟨t, ht, _⟩ := T_even hf
  unfold Fmt.manField
  rw [Nat.mod_mod_of_dvd _ ⟨t, ht⟩]; exact h

/-- (4) overflow to `+∞` exactly from the IEEE threshold `(2 − 2^−p)·2^emax` upwards (the tie goes to
infinity because the largest finite float is odd) -/
theorem roundNE_overflow (hf : WF f) (num : Nat) {den : Nat} (hd : 0 < den) :
    roundNE f num den = f.infBits ↔ (2 - (2 : ℚ) ^ (-(f.p : ℤ))) * (2 : ℚ) ^ (f.bias : ℤ) ≤ (num : ℚ) / den :=
  (roundNE_eq_inf_iff hf num hd).trans (ovf_iff_thr hf num hd)

/-- (5) rounding an exactly representable value returns it -/
theorem roundNE_of_float (hf : WF f) {b : Nat} (hb : b < f.infBits) :
    roundNE f (f.decode b).toFrac.1 (f.decode b).toFrac.2 = b := roundNE_of_float' hf hb

/-- (6) monotone -/
theorem roundNE_mono (hf : WF f) {a b c d : Nat} (hb : 0 < b) (hd : 0 < d)
    (h : (a : ℚ) / b ≤ (c : ℚ) / d) : roundNE f a b ≤ roundNE f c d := by
  apply roundNE_mono' hf hb hd
  rw [div_le_div_iff₀ (by exact_mod_cast hb) (by exact_mod_cast hd)] at h
  exact_mod_cast h

/-- the result depends only on the rational number `num/den` -/
theorem roundNE_congr (hf : WF f) {a b c d : Nat} (hb : 0 < b) (hd : 0 < d)
    (h : (a : ℚ) / b = (c : ℚ) / d) : roundNE f a b = roundNE f c d :=
  Nat.le_antisymm (roundNE_mono hf hb hd (le_of_eq h)) (roundNE_mono hf hd hb (le_of_eq h.symm))

/-- (7) scale invariance -/
theorem roundNE_scale (hf : WF f) {k : Nat} (hk : 0 < k) (num : Nat) {den : Nat} (hd : 0 < den) :
    roundNE f (k * num) (k * den) = roundNE f num den := roundNE_scale' hf hk num hd

/-- (5') any fraction whose value is exactly that of a finite float rounds to that float -/
theorem roundNE_of_valQ (hf : WF f) {b : Nat} (hb : b < f.infBits) (num : Nat) {den : Nat} (hd : 0 < den)
    (h : (num : ℚ) / den = valQ f b) : roundNE f num den = b := by
  obtain ⟨h1, h2⟩ := toFrac_decode hf hb
  rw [← roundNE_of_float hf hb]
  apply roundNE_congr hf hd h2
  rw [h, valQ_eq_ival hf hb, num_den_eq f _ h2, h1]
  have : ((f.decode b).toFrac.2 : ℚ) ≠ 0 := by exact_mod_cast Nat.ne_of_gt h2
  push_cast; field_simp

/-- a literal whose digits are all zero is the signed zero, whatever its exponent -/
theorem litBits_zero (f : Fmt) (r b : Nat) (l : FloatLit)
    (h : ∀ d ∈ l.intDigits ++ l.fracDigits, d = 0) :
    litBits f r b l = if l.neg then f.signBit else 0 := by
  unfold litBits
  simp only [ofDigits_zeros r _ h, if_true]

/-- `litBits` never returns a NaN pattern -/
theorem litBits_not_nan (hf : WF f) {r b : Nat} (hr : 0 < r) (hb : 0 < b) (l : FloatLit) :
    f.isNaN (litBits f r b l) = false := by
  obtain ⟨x, hx, he⟩ := litBits_form hf hr hb l
  rw [he]
  split
  · rw [isNaN_add_signBit hf]; exact isNaN_of_le_inf hx
  · exact isNaN_of_le_inf hx

/-- the sign bit of `litBits` is the literal's sign (also for zero and infinity) -/
theorem litBits_sign (hf : WF f) {r b : Nat} (hr : 0 < r) (hb : 0 < b) (l : FloatLit) :
    f.isNeg (litBits f r b l) = l.neg := by
  obtain ⟨x, hx, he⟩ := litBits_form hf hr hb l
  obtain ⟨h1, h2⟩ := isNeg_of_le_inf hf hx
  rw [he]
  cases l.neg <;> simp [h1, h2]

/-- every decimal returned by `shortest` rounds back to `bits` -/
theorem shortest_roundtrips (hf : WF f) {bits : Nat} (h0 : 0 < bits) (hfin : bits < f.infBits)
    {D : Nat} {E : Int} (h : (D, E) ∈ shortest f bits) :
    roundNE f (decFrac D E).1 (decFrac D E).2 = bits :=
  ((cand_iff_roundNE hf h0 hfin D E).mp ((mem_shortestGo_iff _ _ _ _ _).mp h).2.2.2.1).2

/-- `shortest` uses the largest possible decimal exponent: every decimal `D'·10^E'` (`D' ≥ 1`) that
rounds to `bits` has `E' ≤ E`.  (`hsz` bounds the exponent range so that the `0.30103` estimate of the
search start is valid; it holds for `f32`, `f64`.) -/
theorem shortest_maximal_exponent (hf : WF f) (hsz : L f + 2 ≤ 200000) {bits : Nat} (h0 : 0 < bits)
    (hfin : bits < f.infBits) {D : Nat} {E : Int} (h : (D, E) ∈ shortest f bits)
    {D' : Nat} {E' : Int} (hD' : 1 ≤ D')
    (hrt : roundNE f (decFrac D' E').1 (decFrac D' E').2 = bits) : E' ≤ E := by
  have hc := (cand_iff_roundNE hf h0 hfin D' E').mpr ⟨hD', hrt⟩
  by_contra hlt
  exact ((mem_shortestGo_iff _ _ _ _ _).mp h).2.2.1 E' (by omega) (cand_le_up hf hsz hfin hc) D' hc

/-- **minimality**: no round-tripping decimal has fewer significant digits than the one returned by
`shortest` — stated as "whenever `D' < 10^n` (i.e. `D'` has at most `n` digits) also `D < 10^n`". -/
theorem shortest_minimal (hf : WF f) (hsz : L f + 2 ≤ 200000) {bits : Nat} (h0 : 0 < bits)
    (hfin : bits < f.infBits) {D : Nat} {E : Int} (h : (D, E) ∈ shortest f bits)
    {D' : Nat} {E' : Int} (hD' : 1 ≤ D')
    (hrt : roundNE f (decFrac D' E').1 (decFrac D' E').2 = bits) (n : Nat) (hn : D' < 10 ^ n) :
    D < 10 ^ n := by
  have hE := shortest_maximal_exponent hf hsz h0 hfin h hD' hrt
  have hrtD := shortest_roundtrips hf h0 hfin h
  by_contra hge
  have hge : 10 ^ n ≤ D := Nat.le_of_not_lt hge
  -- y = 1·10^(n+E) lies between D'·10^E' and D·10^E, hence rounds to `bits` as well
  have ten_pos : ∀ z : ℤ, (0 : ℚ) < (10 : ℚ) ^ z := fun z => by positivity
  have hy1 : ((decFrac D' E').1 : ℚ) / (decFrac D' E').2 ≤ ((decFrac 1 (n + E)).1 : ℚ) / (decFrac 1 (n + E)).2 := by
    rw [decFrac_Q, decFrac_Q, Nat.cast_one, one_mul, zpow_add₀ (by norm_num), zpow_natCast]
    have a1 : (D' : ℚ) ≤ 10 ^ n := by exact_mod_cast Nat.le_of_lt hn
    have a2 : (10 : ℚ) ^ E' ≤ 10 ^ E := zpow_le_zpow_right₀ (by norm_num) hE
    exact mul_le_mul a1 a2 (le_of_lt (ten_pos _)) (by positivity)
  have hy2 : ((decFrac 1 (n + E)).1 : ℚ) / (decFrac 1 (n + E)).2 ≤ ((decFrac D E).1 : ℚ) / (decFrac D E).2 := by
    rw [decFrac_Q, decFrac_Q, Nat.cast_one, one_mul, zpow_add₀ (by norm_num), zpow_natCast]
    have a1 : (10 : ℚ) ^ n ≤ D := by exact_mod_cast hge
    exact mul_le_mul_of_nonneg_right a1 (le_of_lt (ten_pos _))
  have m1 := roundNE_mono hf (decFrac_den_pos _ _) (decFrac_den_pos _ _) hy1
  have m2 := roundNE_mono hf (decFrac_den_pos _ _) (decFrac_den_pos _ _) hy2
  rw [hrt] at m1
  rw [hrtD] at m2
  have hy := shortest_maximal_exponent hf hsz h0 hfin h (le_refl 1) (Nat.le_antisymm m2 m1)
  have : n = 0 := by omega
  subst this
  omega

/-- `shortest` is total on finite positive patterns: the fuel `420` and the start exponent suffice
(for formats with `p ≤ 1000`, at most `100000` exponent values — in particular `f32`, `f64`) -/
theorem shortest_total (hf : WF f) (hp : f.p ≤ 1000) (hM : f.maxExpField ≤ 100000) {bits : Nat}
    (h0 : 0 < bits) (hfin : bits < f.infBits) : shortest f bits ≠ [] :=
  shortest_ne_nil hf hp hM h0 hfin

theorem shortest_total_f64 {bits : Nat} (h0 : 0 < bits) (hfin : bits < f64.infBits) :
    shortest f64 bits ≠ [] := shortest_total wf_f64 (by decide) (by decide) h0 hfin

theorem shortest_total_f32 {bits : Nat} (h0 : 0 < bits) (hfin : bits < f32.infBits) :
    shortest f32 bits ≠ [] := shortest_total wf_f32 (by decide) (by decide) h0 hfin

/-- **closeness**: among the round-tripping decimals `D'·10^E` with the same (maximal) exponent, the
returned `D` is nearest to the exact value of `bits` -/
theorem shortest_closest (hf : WF f) {bits : Nat} (h0 : 0 < bits) (hfin : bits < f.infBits)
    {D : Nat} {E : Int} (h : (D, E) ∈ shortest f bits) {D' : Nat}
    (hrt : roundNE f (decFrac D' E).1 (decFrac D' E).2 = bits) :
    |(D : ℚ) * (10 : ℚ) ^ E - valQ f bits| ≤ |(D' : ℚ) * (10 : ℚ) ^ E - valQ f bits| :=
  shortest_closest' hf h0 hfin h hrt

/-! ## Non-vacuity: concrete evaluations and instantiated hypotheses -/

example : roundNE f64 1 10 = 0x3fb999999999999a := by decide +kernel
example : roundNE f32 1 10 = 0x3dcccccd := by decide +kernel
-- subnormals: the smallest one; half of it (tie → 0, even); 1.5 of it (tie → 2, even)
example : roundNE f64 1 (2 ^ 1074) = 1 := by decide +kernel
example : roundNE f64 1 (2 ^ 1075) = 0 := by decide +kernel
example : roundNE f64 3 (2 ^ 1075) = 2 := by decide +kernel
-- exact ties in the normal range go to the even neighbour (down, then up)
example : roundNE f64 (2 ^ 53 + 1) 1 = 0x4340000000000000 := by decide +kernel
example : roundNE f64 (2 ^ 53 + 3) 1 = 0x4340000000000002 := by decide +kernel
-- the overflow edge: (2 − 2^−53)·2^1023 = (2^54 − 1)·2^970 goes to +∞, one below does not
example : roundNE f64 ((2 ^ 54 - 1) * 2 ^ 970) 1 = f64.infBits := by decide +kernel
example : roundNE f64 ((2 ^ 54 - 1) * 2 ^ 970 - 1) 1 = 0x7fefffffffffffff := by decide +kernel
example : roundNE f32 ((2 ^ 25 - 1) * 2 ^ 103) 1 = f32.infBits := by decide +kernel
example : shortest f64 0x3fb999999999999a = [(1, -1)] := by decide +kernel
example : shortest f64 1 = [(5, -324)] := by decide +kernel
example : shortest f64 0x7fefffffffffffff = [(17976931348623157, 292)] := by decide +kernel
example : shortest f64 0x4340000000000000 = [(9007199254740992, 0)] := by decide +kernel
example : shortest f32 0x3dcccccd = [(1, -1)] := by decide +kernel

/-- hypotheses of `roundNE_nearest` are satisfiable (0.1 against its lower neighbour) -/
example : |valQ f64 (roundNE f64 1 10) - ((1 : ℕ) : ℚ) / (10 : ℕ)| ≤
    |valQ f64 0x3fb9999999999999 - ((1 : ℕ) : ℚ) / (10 : ℕ)| :=
  roundNE_nearest wf_f64 1 (by decide) (by decide +kernel) _ (by decide +kernel)

theorem valQ_tie_example :
    valQ f64 0x4340000000000000 = 2 ^ 53 ∧ valQ f64 0x4340000000000001 = 2 ^ 53 + 2 := by
  have h0 : f64.decode 0x4340000000000000 = ⟨false, 2 ^ 52, 1⟩ := by decide +kernel
  have h1 : f64.decode 0x4340000000000001 = ⟨false, 2 ^ 52 + 1, 1⟩ := by decide +kernel
  constructor
  · simp only [valQ, h0]; norm_num
  · simp only [valQ, h1]; norm_num

/-- hypotheses of `roundNE_tie_even` are satisfiable: `2^53 + 1` is exactly half-way between
`2^53` (even pattern, returned) and `2^53 + 2` (odd pattern) -/
example : f64.manField (roundNE f64 (2 ^ 53 + 1) 1) % 2 = 0 ∧ roundNE f64 (2 ^ 53 + 1) 1 % 2 = 0 := by
  have hr : roundNE f64 (2 ^ 53 + 1) 1 = 0x4340000000000000 := by decide +kernel
  refine roundNE_tie_even wf_f64 _ (by decide) (by rw [hr]; decide +kernel) 0x4340000000000001
    (by decide +kernel) (by rw [hr]; decide) ?_
  rw [hr, valQ_tie_example.1, valQ_tie_example.2]
  norm_num

/-- `roundNE_overflow`, left to right, at the threshold itself -/
example : (2 - (2 : ℚ) ^ (-(f64.p : ℤ))) * (2 : ℚ) ^ (f64.bias : ℤ)
    ≤ (((2 ^ 54 - 1) * 2 ^ 970 : ℕ) : ℚ) / ((1 : ℕ) : ℚ) :=
  (roundNE_overflow wf_f64 _ (by decide)).mp (by decide +kernel)

example : roundNE f64 (f64.decode 0x3fb999999999999a).toFrac.1 (f64.decode 0x3fb999999999999a).toFrac.2
    = 0x3fb999999999999a := roundNE_of_float wf_f64 (by decide +kernel)

example : roundNE f64 1 10 ≤ roundNE f64 1 3 :=
  roundNE_mono wf_f64 (by decide) (by decide) (by norm_num)

example : roundNE f64 (7 * 1) (7 * 10) = roundNE f64 1 10 := roundNE_scale wf_f64 (by decide) 1 (by decide)

example : roundNE f64 (decFrac 1 (-1)).1 (decFrac 1 (-1)).2 = 0x3fb999999999999a :=
  shortest_roundtrips wf_f64 (by decide) (by decide +kernel) (by decide +kernel)

/-- `shortest_maximal_exponent` instantiated: 0.1 has a one-digit shortest form, so nothing shorter exists;
the 17-digit `D' = 10000000000000001, E' = -17` also round-trips and indeed has `E' ≤ -1` -/
example : (-17 : ℤ) ≤ -1 :=
  shortest_maximal_exponent wf_f64 (by decide) (by decide) (by decide +kernel)
    (bits := 0x3fb999999999999a) (D := 1) (by decide +kernel) (D' := 10000000000000001) (by decide)
    (by decide +kernel)

/-- `shortest_closest` instantiated: 2^-1074 prints as 5e-324; 4e-324 also round-trips but is farther -/
example : |((5 : ℕ) : ℚ) * (10 : ℚ) ^ (-324 : ℤ) - valQ f64 1| ≤
    |((4 : ℕ) : ℚ) * (10 : ℚ) ^ (-324 : ℤ) - valQ f64 1| :=
  shortest_closest wf_f64 (by decide) (by decide +kernel) (by decide +kernel) (by decide +kernel)

example : litBits f64 10 10 ⟨true, [0, 0], [0], 5⟩ = f64.signBit :=
  litBits_zero f64 10 10 _ (by decide)

end LexVerif.Props.RoundNE
