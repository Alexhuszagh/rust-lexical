import LexVerif.Proof.WriteBinaryOpts
/-!
# C14 for the power-of-two writers (`binary.rs`, `hex.rs`) under `max_significant_digits` — partial laws and witnesses

Model: `Model.WriteBinaryOpts`, with `pow2DigitFix = true` (the head comment and the docstring of `pow2DigitFix` in that file
describe /repo 2a1d05a, where `write_float` called the bit-counting function). `truncateAndRoundCur` = `binary::truncate_and_round` (counts bits; what `write_float` called
at /repo 2a1d05a, byte-exact with that implementation on every generated `wf` op); `truncateAndRoundFixed` =
`binary::truncate_and_round_digits`, which `write_float` calls in /repo (section "regressions", `fixed_value`).  With `bpd = bits_per_digit`, `mb` = significant bits of the mantissa
(53 / 24 for normal f64 / f32), `e` the binary exponent of the mantissa's lowest bit:

* `pow2_value_partial`: **if `bpd ∣ mb`** the written text denotes exactly the mantissa rounded half-even (or truncated)
  to `d · bpd` bits, times `2^e` — whatever notation, breaks, `min_significant_digits`, trim.
* `pow2_digits_partial`: **if `bpd ∣ e`** (the digit string needs no left shift) at most `d` significant digits are
  written.
* Both hold together exactly when the top bit is the top bit of a digit AND the lowest bit is the lowest bit of a digit
  (`bpd ∣ mb`, `bpd ∣ e`): radix 2 always; f32 in radix 4/8/16 for every `bpd`-th binade; **never for a normal f64 in
  radix 4/8/16/32** (53 is odd and not a multiple of 3, 4, 5), never for f32 in radix 32 (`5 ∤ 24`).
* `pow2_value_full` / `pow2_digits_full`: the laws without the alignment hypotheses. `pow2_digits_full_false` refutes the
  second; for the first the decided outputs `value_off_*` show it failing at those inputs, and no theorem
  `¬ pow2_value_full` is stated. Also `more_than_max_*` (findings C14-pow2-digit-options-value-off / -more-than-max), and
  `aligned_ok_*` non-vacuity examples for the partial laws.
-/
namespace LexVerif.Props.C14Pow2
open LexVerif.Spec LexVerif.Model LexVerif.Model.WriteBinary LexVerif.Model.Dragonbox
open LexVerif.Proof.WriteBinaryExact LexVerif.Proof.WriteBinaryOpts

/-- **value law, partial**: the bit count of the mantissa is a whole number of digits. -/
theorem pow2_value_partial (fmt : Format) (o : WOpts) {w bpd bpb m d : Nat} {e : ℤ}
    (hr : fmt.mantissaRadix = 2 ^ bpd) (hb : fmt.exponentBase = 2 ^ bpb)
    (h1 : 1 ≤ bpd) (h5 : bpd ≤ 5) (hpair : bpb = 1 ∨ (bpb = 2 ∧ bpd = 4) ∨ bpb = bpd)
    (hm : 0 < m) (hw : 5 ≤ w) (hw64 : w ≤ 64) (hmw : m * 16 < 2 ^ w) (he1 : -1900 ≤ e) (he2 : e ≤ 1900)
    (hd : o.maxDigits = some d) (hd1 : 1 ≤ d) (hlt : d * bpd < significantBits m)
    (halign : bpd ∣ significantBits m) :
    layoutQ (2 ^ bpd) (2 ^ bpb)
        (layoutMB fmt o w (truncateAndRoundCur w m (2 ^ bpd) o).1 (truncateAndRoundCur w m (2 ^ bpd) o).2 e) =
      (keptMantissa o m (significantBits m - d * bpd) : ℚ) * (2 : ℚ) ^ (e + ((significantBits m - d * bpd : Nat) : ℤ)) := by
  obtain ⟨s1, s2, s3⟩ := significantBits_spec hm
  have hmbw : significantBits m ≤ w := significantBits_le (by omega)
  obtain ⟨heq, hpos, hle⟩ := truncCur_spec o h1 h5 hm hmbw hw64 hd hd1 hlt
  rw [heq]
  have hal : bpd ∣ significantBits m - d * bpd := (Nat.dvd_sub halign (Dvd.intro_left d rfl))
  rw [layoutMB_shift fmt o _ e _ hr h1 h5 (by omega) (by omega) (by omega) hal]
  have hRm : keptMantissa o m (significantBits m - d * bpd) ≤ m := by
    have : 2 ^ (d * bpd) ≤ 2 ^ (significantBits m - 1) := Nat.pow_le_pow_right (by decide) (by omega)
    omega
  exact layoutME_exact fmt o hr hb h1 h5 hpair hpos hw (by omega)
    (by have : (2:Nat) ^ w ≤ 2 ^ 64 := Nat.pow_le_pow_right (by decide) hw64; omega) (by omega) (by omega)

/-- **digit-count law, partial**: the exponent of the lowest mantissa bit is a whole number of digits
(`calculate_shl = 0`): at most `d` significant digits reach the layouts. -/
theorem pow2_digits_partial (o : WOpts) {w bpd m d : Nat} {e : ℤ} (h1 : 1 ≤ bpd) (h5 : bpd ≤ 5) (hm : 0 < m)
    (hmw : significantBits m ≤ w) (hw64 : w ≤ 64) (he1 : -3000 ≤ e) (he2 : e ≤ 3000)
    (hd : o.maxDigits = some d) (hd1 : 1 ≤ d) (hlt : d * bpd < significantBits m)
    (halign : (bpd : ℤ) ∣ e) :
    (rtrimZeros (mantissaDigits w (2 ^ bpd) (truncateAndRoundCur w m (2 ^ bpd) o).1 e)).length ≤ d := by
  obtain ⟨heq, hpos, hle⟩ := truncCur_spec o h1 h5 hm hmw hw64 hd hd1 hlt
  rw [heq]
  generalize keptMantissa o m (significantBits m - d * bpd) = R at hpos hle
  have hb1 : (1 : ℤ) ≤ (bpd : ℤ) := by exact_mod_cast h1
  have hb5 : (bpd : ℤ) ≤ 5 := by exact_mod_cast h5
  have hRw : R < 2 ^ w := by
    have : (2 : Nat) ^ (d * bpd) < 2 ^ w := Nat.pow_lt_pow_right (by decide) (by omega)
    omega
  dsimp only
  rw [mantissaDigits_eq (s := 0) h1 h5 (by omega) (by omega) (by rw [Int.emod_eq_zero_of_dvd halign]; rfl)
    (by omega) (by rw [Nat.pow_zero, Nat.mul_one]; exact hRw), Nat.pow_zero, Nat.mul_one]
  have hr2 : 2 ≤ 2 ^ bpd := Nat.one_lt_two_pow (by omega)
  have hpow : (2 ^ bpd) ^ d = 2 ^ (d * bpd) := by rw [← Nat.pow_mul, Nat.mul_comm]
  by_cases hRlt : R < 2 ^ (d * bpd)
  · -- no carry out of the top digit: at most `d` digits even before trimming
    have hlen := LexVerif.Spec.toDigits_length_le (2 ^ bpd) R d hr2 hd1 (by rw [hpow]; exact hRlt)
    obtain ⟨k, _, hk⟩ := LexVerif.Proof.WriteBinaryDigits.rtrimZeros_spec (toDigits (2 ^ bpd) R)
    omega
  · -- carry: `R = radix^d`, the digit string is `1 0 … 0` and trims to `1`
    have hR : R = (2 ^ bpd) ^ d := by rw [hpow]; omega
    have hdig : toDigits (2 ^ bpd) R = 1 :: List.replicate d 0 := by
      symm
      apply LexVerif.Spec.toDigits_unique (2 ^ bpd) hr2
      · refine ⟨by simp, ?_, Or.inr (by simp)⟩
        intro x hx
        rcases List.mem_cons.mp hx with h | h
        · omega
        · have := (List.mem_replicate.mp h).2; omega
      · rw [hR, LexVerif.Spec.ofDigits_cons, LexVerif.Spec.ofDigits_replicate_zero]
        simp
    rw [hdig, LexVerif.Proof.WriteBinaryDigits.rtrimZeros_cons_ne_zero 1 _ (by decide),
      LexVerif.Proof.WriteBinaryDigits.rtrimZeros_replicate_zero]
    exact hd1

/-! ## the full laws and decided witnesses, on the model with `truncate_and_round` (`…With false`) -/

/-- value law without the alignment hypothesis; it fails at the inputs of `value_off_*` -/
def pow2_value_full : Prop :=
  ∀ (fmt : Format) (o : WOpts) (w bpd bpb m d : Nat) (e : ℤ),
    fmt.mantissaRadix = 2 ^ bpd → fmt.exponentBase = 2 ^ bpb → 1 ≤ bpd → bpd ≤ 5 →
    (bpb = 1 ∨ (bpb = 2 ∧ bpd = 4) ∨ bpb = bpd) → 0 < m → 5 ≤ w → w ≤ 64 → m * 16 < 2 ^ w → -1900 ≤ e → e ≤ 1900 →
    o.maxDigits = some d → 1 ≤ d → d * bpd < significantBits m →
    layoutQ (2 ^ bpd) (2 ^ bpb) (layoutMEOWith false fmt o w m e) =
      (keptMantissa o m (significantBits m - d * bpd) : ℚ) * (2 : ℚ) ^ (e + ((significantBits m - d * bpd : Nat) : ℤ))

/-- digit-count law without the alignment hypothesis — **false**: `more_than_max_*` -/
def pow2_digits_full : Prop :=
  ∀ (o : WOpts) (w bpd m d : Nat) (e : ℤ), 1 ≤ bpd → bpd ≤ 5 → 0 < m → significantBits m ≤ w → w ≤ 64 →
    -3000 ≤ e → e ≤ 3000 → o.maxDigits = some d → 1 ≤ d → d * bpd < significantBits m →
    (rtrimZeros (mantissaDigits w (2 ^ bpd) (truncateAndRoundSel false w m (2 ^ bpd) e o).1 e)).length ≤ d

def fmtR4 : Format := ⟨0x404040000000000000000000000000c⟩
def fmtR16 : Format := ⟨0x1010100000000000000000000000000c⟩
def pow2Feats : Features := { powerOfTwo := true }

/-- **value-off, minimal**: `1.0f64` in radix 4 with `max_significant_digits = 1` is written `2.0`
(`wf f64 404040000000000000000000000000c 3ff0000000000000 1 - - - r 0 101 46 4e614e 696e66 -`): 53 mantissa bits are cut to
2 bits (`10`), handed on as if still at exponent −52, whose `calculate_shl` is 0 — the digit `2`. -/
theorem value_off_one_radix4 :
    writeFloatOWith false fmtR4 pow2Feats { maxDigits := some 1 } .f64 0x3ff0000000000000 = some [50, 46, 48] := by decide +kernel

/-- **value-off**: `1.5f64` in radix 16, one digit: `C.0` (12 instead of 2) -/
theorem value_off_hex :
    writeFloatOWith false fmtR16 pow2Feats { maxDigits := some 1, exp := 94 } .f64 0x3ff8000000000000 = some [67, 46, 48] := by
  decide +kernel

/-- **value-off**: `255.9375f64` in radix 16, two digits: `800.0` (2048 instead of 256) -/
theorem value_off_hex_carry :
    writeFloatOWith false fmtR16 pow2Feats { maxDigits := some 2, exp := 94 } .f64 0x406ffe0000000000 =
      some [56, 48, 48, 46, 48] := by decide +kernel

/-- **more-than-max** (value right, `4 ∣ 24` but `4 ∤ e`): `1.5f32` in radix 16 with one digit is written `1.8` —
two significant digits (`wf f32 1010100000000000000000000000000c 3fc00000 1 - - - r 0 94 46 4e614e 696e66 -`) -/
theorem more_than_max_hex_f32 :
    writeFloatOWith false fmtR16 pow2Feats { maxDigits := some 1, exp := 94 } .f32 0x3fc00000 = some [49, 46, 56] := by
  decide +kernel

/-- **aligned, right** (non-vacuity of both partial laws: f32, `4 ∣ 24`, exponent −20): `8.75f32` in radix 16 with one
digit is `9.0`; `255.9375f32` with two digits carries to `100.0` -/
theorem aligned_ok_f32 :
    writeFloatOWith false fmtR16 pow2Feats { maxDigits := some 1, exp := 94 } .f32 0x410c0000 = some [57, 46, 48] ∧
    writeFloatOWith false fmtR16 pow2Feats { maxDigits := some 2, exp := 94 } .f32 0x437ff000 = some [49, 48, 48, 46, 48] ∧
    (4 : ℤ) ∣ FTy.exponent .f32 0x410c0000 ∧ 4 ∣ significantBits (FTy.mantissa .f32 0x410c0000) := by
  refine ⟨by decide +kernel, by decide +kernel, by decide +kernel, by decide +kernel⟩

/-! ## `truncate_and_round_digits` (`fixes/C14-pow2-digit-options.diff`, `truncateAndRoundFixed`): regressions -/

/-- the witnesses above under the repair: `1.0` → `1.0` (radix 4), `1.5` → `2.0`, `255.9375` → `100.0` (radix 16, f64),
`1.5f32` with one hex digit → `2.0` (tie to even) -/
theorem fixed_regressions :
    writeFloatOWith true fmtR4 pow2Feats { maxDigits := some 1 } .f64 0x3ff0000000000000 = some [49, 46, 48] ∧
    writeFloatOWith true fmtR16 pow2Feats { maxDigits := some 1, exp := 94 } .f64 0x3ff8000000000000 = some [50, 46, 48] ∧
    writeFloatOWith true fmtR16 pow2Feats { maxDigits := some 2, exp := 94 } .f64 0x406ffe0000000000 =
      some [49, 48, 48, 46, 48] ∧
    writeFloatOWith true fmtR16 pow2Feats { maxDigits := some 1, exp := 94 } .f32 0x3fc00000 = some [50, 46, 48] ∧
    writeFloatOWith true fmtR16 pow2Feats { maxDigits := some 1, exp := 94 } .f32 0x410c0000 = some [57, 46, 48] := by
  refine ⟨by decide +kernel, by decide +kernel, by decide +kernel, by decide +kernel, by decide +kernel⟩

/-- **value law for the repaired code, NO alignment hypothesis**: the text denotes exactly the mantissa rounded half-even
(or truncated) on the boundary of the `d`-th digit (`keptBits`: the leading digit holds `(sci mod bpd) + 1` bits), times
`2^e`. (`m·32 < 2^w`: the four spare bits of `layoutME_exact` and one for the carry of the rounding.) -/
theorem fixed_value (fmt : Format) (o : WOpts) {w bpd bpb m d : Nat} {e : ℤ}
    (hr : fmt.mantissaRadix = 2 ^ bpd) (hb : fmt.exponentBase = 2 ^ bpb)
    (h1 : 1 ≤ bpd) (h5 : bpd ≤ 5) (hpair : bpb = 1 ∨ (bpb = 2 ∧ bpd = 4) ∨ bpb = bpd)
    (hm : 0 < m) (hw : 6 ≤ w) (hw64 : w ≤ 64) (hmw : m * 32 < 2 ^ w) (he1 : -2000 ≤ e) (he2 : e ≤ 2000)
    (hd : o.maxDigits = some d) (hd1 : 1 ≤ d) (hd64 : d ≤ 64)
    (hlt : keptBits bpd d (significantBits m) e < significantBits m) :
    layoutQ (2 ^ bpd) (2 ^ bpb) (layoutMEOWith true fmt o w m e) =
      (keptMantissa o m (significantBits m - keptBits bpd d (significantBits m) e) : ℚ) *
        (2 : ℚ) ^ (e + ((significantBits m - keptBits bpd d (significantBits m) e : Nat) : ℤ)) := by
  obtain ⟨s1, s2, s3⟩ := significantBits_spec hm
  have hmbw : significantBits m < w := by
    have h2 : (2 : Nat) ^ w = 2 ^ (w - 5) * 32 := by rw [← Nat.pow_add 2 (w - 5) 5]; congr 1; omega
    have := significantBits_le (m := m) (k := w - 5) (by omega)
    omega
  obtain ⟨heq, hpos, hle, hK1⟩ := truncFixed_spec o e h1 h5 hm hmbw hd hd1 hd64 hlt
  unfold layoutMEOWith truncateAndRoundSel
  simp only [if_true, hr]
  rw [heq]
  dsimp only
  rw [← layoutME_eq]
  generalize hshr : significantBits m - keptBits bpd d (significantBits m) e = shr at *
  generalize hR : keptMantissa o m shr = R at *
  have hK : keptBits bpd d (significantBits m) e + shr = significantBits m := by omega
  have hM : R <<< shr ≤ 2 ^ significantBits m := by
    rw [Nat.shiftLeft_eq, ← hK, Nat.pow_add]
    exact Nat.mul_le_mul_right _ hle
  have hMpos : 0 < R <<< shr := by rw [Nat.shiftLeft_eq]; exact Nat.mul_pos hpos (Nat.two_pow_pos _)
  have h2m : 2 ^ significantBits m ≤ 2 * m := by
    have : (2 : Nat) ^ significantBits m = 2 * 2 ^ (significantBits m - 1) := by
      rw [← Nat.pow_succ']; congr 1; omega
    omega
  rw [layoutME_exact fmt o hr hb h1 h5 hpair hMpos (by omega) (by omega)
    (by have : (2:Nat) ^ w ≤ 2 ^ 64 := Nat.pow_le_pow_right (by decide) hw64; omega) (by omega) (by omega)]
  rw [Nat.shiftLeft_eq]
  push_cast
  rw [zpow_add₀ (by norm_num : (2 : ℚ) ≠ 0), zpow_natCast]
  ring

/-- digit-count law for the repaired code (all alignments) — statement only; the correspondence (`props/C14.py`
`radix_laws` on every generated op, `VERIF_REPO` = repaired tree) shows no violation -/
def fixed_digits_full : Prop :=
  ∀ (o : WOpts) (w bpd m d : Nat) (e : ℤ), 1 ≤ bpd → bpd ≤ 5 → 0 < m → significantBits m < w → w ≤ 64 →
    -3000 ≤ e → e ≤ 3000 → o.maxDigits = some d → 1 ≤ d →
    (rtrimZeros (mantissaDigits w (2 ^ bpd) (truncateAndRoundSel true w m (2 ^ bpd) e o).1 e)).length ≤ d

/-- the digit-count law is false in general (`more_than_max_hex_f32` at the level of the digit string) -/
theorem pow2_digits_full_false : ¬ pow2_digits_full := by
  intro h
  have := h { maxDigits := some 1 } 32 4 0xc00000 1 (-23) (by decide) (by decide) (by decide) (by decide +kernel)
    (by decide) (by decide) (by decide) rfl (by decide) (by decide +kernel)
  revert this
  decide +kernel

end LexVerif.Props.C14Pow2
