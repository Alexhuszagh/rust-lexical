import LexVerif.Gen.Literals
import LexVerif.Model.FastPath
import LexVerif.Model.Lemire
import LexVerif.Model.Binary
/-!
# Props.LiteralsModel — the literals the algorithm models carry are the literals of /repo's source

`Gen.Literals` is re-extracted from the source text of /repo on every run (`extractors/literals.py`: per
function the integer literals in source order). The hand-written models of the string→float algorithms keep
every literal of the transcribed function bodies as a named constant (`Model.Lemire.litSafeLo`,
`Model.Bellerophon.litExpCut`, `Model.Binary.litZeroCut`, …) and assemble them, in source order, into one list per
function. The theorems below equate those lists with the extracted ones: a changed, added or removed literal in
/repo breaks the theorem named after the function, and the statement names the model constant it has to be
compared with. (The *shape* of the source — tokens with literals abstracted — is tied by `Props/Literals/*.lean`.)
-/
namespace LexVerif.Props.LiteralsModel
open LexVerif.Model LexVerif.Gen.Literals

theorem lemire_compute_float : Lemire.computeFloatLiterals = ParseFloatLemire.k_compute_float.1 := by decide
theorem lemire_compute_product_approx :
    Lemire.computeProductApproxLiterals = ParseFloatLemire.k_compute_product_approx.1 := by decide
theorem lemire_power : Lemire.powerLiterals = ParseFloatLemire.k_power.1 := by decide
theorem lemire_compute_error_scaled :
    Lemire.computeErrorScaledLiterals = ParseFloatLemire.k_compute_error_scaled.1 := by decide
theorem lemire_compute_error : Lemire.computeErrorLiterals = ParseFloatLemire.k_compute_error.1 := by decide
theorem lemire_lemire : Lemire.lemireLiterals = ParseFloatLemire.k_lemire.1 := by decide
theorem lemire_full_multiplication :
    Lemire.fullMultiplicationLiterals = ParseFloatLemire.k_full_multiplication.1 := by decide

theorem bellerophon_bellerophon : Bellerophon.bellerophonLiterals = ParseFloatBellerophon.k_bellerophon.1 := by
  decide
theorem bellerophon_error_scale : Bellerophon.errorScaleLiterals = ParseFloatBellerophon.k_error_scale.1 := by
  decide

theorem binary_binary : Binary.binaryLiterals = ParseFloatBinary.k_binary.1 := by decide
theorem binary_slow_binary : Binary.slowBinaryLiterals = ParseFloatBinary.k_slow_binary.1 := by decide
theorem shared_calculate_power2 : Binary.calculatePower2Literals = ParseFloatShared.k_calculate_power2.1 := by
  decide
theorem shared_calculate_shift : Binary.calculateShiftLiterals = ParseFloatShared.k_calculate_shift.1 := by decide
theorem shared_log2 : Binary.log2Literals = ParseFloatShared.k_log2.1 := by decide

theorem number_try_fast_path : FastPath.tryFastPathLiterals = ParseFloatNumber.k_try_fast_path.1 := by decide
theorem number_is_fast_path : FastPath.isFastPathLiterals = ParseFloatNumber.k_is_fast_path.1 := by decide

/-- what a failing list theorem has to be compared with -/
example : Lemire.litAllOnes = 2 ^ 64 - 1 ∧ Lemire.litSafeLo = -27 ∧ Lemire.litSafeHi = 55 ∧ Lemire.litTieLo = 1 ∧
    Bellerophon.litExpCut = 0x1000 ∧ Bellerophon.litErrorScale = 8 ∧ Bellerophon.litManyShiftCap = 20 ∧
    Bellerophon.litZeroShift = 65 ∧ Binary.litZeroCut = 64 ∧ Binary.litShiftFull = 64 ∧
    Binary.litPower2Limit = 1073741823 := by decide

end LexVerif.Props.LiteralsModel
