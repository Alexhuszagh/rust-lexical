import LexVerif.Proof.ParseIntFormatTotal
import LexVerif.Proof.ParseIntFormatAgree
import LexVerif.Proof.ParseIntFormatGrammar2
import LexVerif.Props.C04
import LexVerif.Model.Ops.ParseInt
import LexVerif.Model.ParseNumber
import LexVerif.Proof.ParseNumberTotalMain
/-!
# C04 / C10 / C11 / C12 for the integer parser compiled WITH cargo feature `format` (property theorems)

Subject: `Model.ParseIntFormat.parseIntFormat` — the statement-by-statement model of the `#[cfg(feature = "format")]`
expansion of `algorithm!` (`lexical-parse-integer/src/algorithm.rs`) on the skip iterators of `Model.Iter`, tied to
the implementation by correspondence on every `pi` op of the C10 / C11 / C12 / C13 generators.

(a) is proved on plain formats and, as `parseIntFormat_simple_spec`, on the class `SimpleFmt`; (b) and (d) on every valid
format; (c) on `Simple` (base prefix and `no_integer_leading_zeros` arbitrary). `SimpleFmt`: release build, no INTEGER
separator flags (contiguous integer iterator), no base prefix, no base suffix, `no_integer_leading_zeros` off — any
combination of
`required_integer_digits`, `required_mantissa_digits`, `no_positive_mantissa_sign`, `required_mantissa_sign` (and of
the float-only flags, which the integer parser ignores), ANY digit-separator byte and any separator flags on the
fraction / exponent (`regression_sep_elsewhere`), every radix / type / `no_multi_digit` / input
admitted by C04 — inputs MAY contain the separator byte: it is an ordinary non-digit for a contiguous iterator.
Outside the class the full statements are stated as `def … : Prop`, and each known defect has a `decide`d witness on the
model (`known_findings.json`: C10-dbg-int-suffix-with-separator, C11-int-*, C12-base-prefix-swallows-leading-zero,
C12-no-digits-accepted-as-zero).

* (a) `parseIntFormat_plain_eq` / `parseIntFormat_plain_eq_spec`: on plain formats the `format` build computes exactly
  what the non-`format` build computes, hence the specification scan of C04 (release build).
* (b) `parseIntFormat_total` (C10, release, every valid format): never FAULT / PANIC, indices ≤ length
  (`parseIntFormat_total_full_holds`); debug build: `debug_panics_suffix_separator` ("1h_").
* (c) `int_accepts_iff_grammar_prefix` (C12): contiguous integer iterator, no base suffix, base prefix /
  `no_integer_leading_zeros` / sign flags arbitrary, digits required: the complete parser accepts iff
  `Spec.grammarIntComplete` derives the input, with the same value (`int_accepts_iff_grammar_partial`: the sub-class
  without prefix / leading-zero flag); with a base suffix: `int_accepts_iff_grammar_contig_full` (a `def`, exact exclusions);
  `int_accepts_iff_grammar_full` is FALSE (`not_int_accepts_iff_grammar_full`).
* (d) `int_format_complete_iff_partial` (C11 clause 1): EVERY valid format; regression I2, witnesses I3, I4 (clause 2).
-/
namespace LexVerif.Props.C04Format
open LexVerif LexVerif.Spec LexVerif.Model LexVerif.Model.ParseIntFormat LexVerif.Proof.PIF
open LexVerif.Proof.ParseInt (IsIntTy)

/-- the class of formats of (a) and of the `_partial` theorems (see the module doc) -/
structure SimpleFmt (c : Cfg) : Prop extends Simple c where
  pre : c.fmt.basePrefix = 0
  nolz : c.fmt.noIntegerLeadingZeros = false

/-- what C04 assumes about type, radix and feature set (`format.is_valid()` guarantees the radix part) -/
structure Admissible (e : Env) : Prop where
  ty : IsIntTy e.t
  r2 : 2 ≤ e.radix
  r36 : e.radix ≤ 36
  feat : e.c.feats.powerOfTwo = true ∨ e.radix = 10

theorem simpleFmt_of_plain (c : Cfg) (hf : c.feats.format = true) (hd : c.debug = false)
    (hp : Ops.ParseInt.isPlain c.fmt = true) :
    SimpleFmt c ∧ c.fmt.noPositiveMantissaSign = false ∧ c.fmt.requiredMantissaSign = false ∧
      c.fmt.requiredMantissaDigits = true := by
  simp only [Ops.ParseInt.isPlain, Bool.and_eq_true, decide_eq_true_eq, Format.flagBits] at hp
  obtain ⟨⟨⟨h12, hpre⟩, hsuf⟩, hsep⟩ := hp
  have bits : c.fmt.bit 3 = true ∧ c.fmt.bit 4 = false ∧ c.fmt.bit 5 = false ∧ c.fmt.bit 12 = false ∧
      c.fmt.bit 32 = false ∧ c.fmt.bit 35 = false ∧ c.fmt.bit 38 = false ∧ c.fmt.bit 41 = false := by
    simp only [Format.bit, decide_eq_true_eq, decide_eq_false_iff_not]
    have h12' := of_decide_eq_true h12
    simp only [Nat.reducePow] at h12' ⊢
    omega
  obtain ⟨b3, b4, b5, b12, b32, b35, b38, b41⟩ := bits
  refine ⟨⟨⟨hf, hd, ?_, hsuf⟩, hpre, b12⟩, b4, b5, b3⟩
  simp [Cfg.sepFlags, Cfg.flag, hf, SepFlags.none, Format.integerInternalSep, Format.integerLeadingSep,
    Format.integerTrailingSep, Format.integerConsecutiveSep, b32, b35, b38, b41]

/-- **(a)** plain format (`flags = REQUIRED_EXPONENT_DIGITS | REQUIRED_MANTISSA_DIGITS`, no prefix / suffix /
separator): the model of the `format` build equals the model of the non-`format` build, for EVERY input, type,
radix, `no_multi_digit`, complete and partial. -/
theorem parseIntFormat_plain_eq (e : Env) (hf : e.c.feats.format = true) (hd : e.c.debug = false)
    (hp : Ops.ParseInt.isPlain e.c.fmt = true) (s : List Nat) :
    parseIntFormat e s = ofM (ParseInt.parseInt e.c.feats e.t e.radix e.partial_ e.noMulti s) := by
  obtain ⟨hs, hnp, hrs, hrm⟩ := simpleFmt_of_plain e.c hf hd hp
  have hreq : e.requiredDigits = true := by
    simp [Env.requiredDigits, Cfg.requiredMantissaDigits, Cfg.flag, hf, hrm]
  rw [parseIntFormat_simple_eq e hs.toSimple hs.pre hs.nolz]
  simp [signGate, hnp, hrs, hreq]

/-- … hence equals the specification of C04 (`Spec.parseInt`): C04 for `format` builds on plain formats, release build. -/
theorem parseIntFormat_plain_eq_spec (e : Env) (hf : e.c.feats.format = true) (hd : e.c.debug = false)
    (hp : Ops.ParseInt.isPlain e.c.fmt = true) (ha : Admissible e) (s : List Nat) (hb : ∀ b ∈ s, b < 256) :
    parseIntFormat e s = ofM (.done (Spec.parseInt e.t e.radix e.partial_ s)) := by
  rw [parseIntFormat_plain_eq e hf hd hp,
    C04.parseInt_model_eq_spec e.c.feats e.t ha.ty e.radix ha.r2 ha.r36 ha.feat e.partial_ e.noMulti s hb]

/-- non-vacuity: a plain radix-10 format under `radix+format`, u8 "256" overflows at index 2 -/
example : parseIntFormat ⟨⟨{ powerOfTwo := true, radix := true, format := true }, Format.standard, false⟩,
    ⟨8, false⟩, false, false⟩ [50, 53, 54] = .error (.err "Overflow" 2) := by decide

/-- the complete parser's `Result<T>` drops the index the model keeps -/
theorem complete_ok_iff (c : Cfg) (t : IntTy) (nm : Bool) (s : List Nat) (v : Int) :
    complete c t nm s = .ok v ↔ ∃ k, parseIntFormat ⟨c, t, false, nm⟩ s = .ok (v, k) := by
  unfold complete
  cases parseIntFormat ⟨c, t, false, nm⟩ s with
  | error x => simp [Except.map]
  | ok p => obtain ⟨w, k⟩ := p; simp [Except.map]

theorem requiredDigits_eq (c : Cfg) (t : IntTy) (p nm : Bool) (hf : c.feats.format = true) :
    (⟨c, t, p, nm⟩ : Env).requiredDigits = (c.fmt.requiredIntegerDigits || c.fmt.requiredMantissaDigits) := by
  simp [Env.requiredDigits, Cfg.requiredIntegerDigits, Cfg.requiredMantissaDigits, Cfg.flag, hf]

/-- on `SimpleFmt` formats the model is: the two sign flags, then "no digit byte at all and no digits required ⇒ zero",
then the specification scan of C04 -/
theorem parseIntFormat_simple_spec (e : Env) (hs : SimpleFmt e.c) (ha : Admissible e) (s : List Nat)
    (hb : ∀ b ∈ s, b < 256) :
    parseIntFormat e s =
      signGate e s
        (if e.requiredDigits = false ∧ signLen e.t s = s.length then .ok (0, s.length)
         else ofM (.done (Spec.parseInt e.t e.radix e.partial_ s))) := by
  rw [parseIntFormat_simple_eq e hs.toSimple hs.pre hs.nolz,
    C04.parseInt_model_eq_spec e.c.feats e.t ha.ty e.radix ha.r2 ha.r36 ha.feat e.partial_ e.noMulti s hb]

/-- what `Both` says of the two scans of the specification is what `Out` says of the two runs of the model -/
theorem out_of_both {lo n : Nat} {x y : PRes} (h : Proof.ParseIntPartial.Both lo n x y) :
    Out n true (ofM (.done x)) (ofM (.done y)) := by
  cases h with
  | done v => exact .done v
  | stop v k _ h2 => exact .invOk v k h2
  | over k _ h2 => exact .err _ k (Nat.le_of_lt h2)
  | under k _ h2 => exact .err _ k (Nat.le_of_lt h2)
  | empty => exact .err _ n (Nat.le_refl _)

/-- the complete and the partial run on a `SimpleFmt` format, through the characterisation -/
theorem parseIntFormat_out_simple (c : Cfg) (t : IntTy) (nm : Bool) (hs : SimpleFmt c)
    (ha : Admissible ⟨c, t, false, nm⟩) (s : List Nat) (hb : ∀ b ∈ s, b < 256) :
    Out s.length true (parseIntFormat ⟨c, t, false, nm⟩ s) (parseIntFormat ⟨c, t, true, nm⟩ s) := by
  have ha' : Admissible ⟨c, t, true, nm⟩ := ⟨ha.ty, ha.r2, ha.r36, ha.feat⟩
  rw [parseIntFormat_simple_spec _ hs ha s hb, parseIntFormat_simple_spec _ hs ha' s hb]
  have hrq : (⟨c, t, true, nm⟩ : Env).requiredDigits = (⟨c, t, false, nm⟩ : Env).requiredDigits := rfl
  simp only [signGate, hrq]
  split
  · exact .err _ _ (Nat.zero_le _)
  · split
    · exact .err _ _ (Nat.zero_le _)
    · split
      · exact .done 0
      · exact out_of_both (Proof.ParseIntPartial.spec_both t _ s)

/-! `Total len r` (`Proof/ParseIntFormatTotal.lean`): `r` is `Ok` with a count `≤ len` or `Error::Kind(i)` with `i ≤ len`;
never the model's FAULT (unchecked step / slice / fuel) and never PANIC. -/

/-- **C10, full statement (release build)**: every format accepted by `format.is_valid()` — separators with any of the
15 skip predicates, base prefix, base suffix, `no_integer_leading_zeros` included. PROVED: `parseIntFormat_total`. -/
def parseIntFormat_total_full : Prop :=
  ∀ (e : Env) (s : List Nat), e.c.feats.format = true → e.c.debug = false →
    (formatError e.c.feats e.c.fmt).isNone = true → Admissible e → (∀ b ∈ s, b < 256) →
      Total s.length (parseIntFormat e s)

/-- **C10 (release) for the integer parser of `format` builds**: for every feature set, every format that passes
`format.is_valid()`, every integer type / radix / `no_multi_digit`, complete and partial, and EVERY byte list the model
returns `Ok` with a count `≤ length` or `Error::Kind(i)` with `i ≤ length`; the unchecked steps
(`step_unchecked`, `step_by_unchecked`, `take_n`'s `from_parts` / `set_cursor`) stay inside the buffer, no digit loop
runs out of fuel, the `usize` subtractions `cursor - zeros`, `cursor - 1`, `cursor - start_index` of the paths that
use their result as an index do not wrap, `unreachable!()` is not reached. (No hypothesis on type / radix / bytes is
needed: wrapping arithmetic is total.) -/
theorem parseIntFormat_total (e : Env) (hd : e.c.debug = false)
    (hv : (formatError e.c.feats e.c.fmt).isNone = true) (s : List Nat) : Total s.length (parseIntFormat e s) :=
  parseIntFormat_total_rel (LexVerif.Proof.PNTotal.rel_of_valid e.c hd hv) s

theorem parseIntFormat_total_full_holds : parseIntFormat_total_full :=
  fun e s _ hd hv _ _ => parseIntFormat_total e hd hv s

/-- non-vacuity: the format of the debug-panic witness below (prefix, suffix, separator with I+L+T+C) is valid -/
example : (formatError { powerOfTwo := true, radix := true, format := true }
    ⟨0x101010687800005f000002490000000c⟩).isNone = true := by decide

theorem parseIntFormat_total_partial (e : Env) (hs : SimpleFmt e.c) (ha : Admissible e) (s : List Nat)
    (hb : ∀ b ∈ s, b < 256) : Total s.length (parseIntFormat e s) := by
  obtain ⟨c, t, p, nm⟩ := e
  have ha' : Admissible ⟨c, t, false, nm⟩ := ⟨ha.ty, ha.r2, ha.r36, ha.feat⟩
  cases p
  · exact (parseIntFormat_out_simple c t nm hs ha' s hb).total.1
  · exact (parseIntFormat_out_simple c t nm hs ha' s hb).total.2

/-- radix 16, prefix `x`, suffix `h`, separator `_` with integer flags I+L+T+C (catalogue: `int_prefix_suffix_sep_iltc`) -/
def fmtSuffixSep : Format := ⟨0x101010687800005f000002490000000c⟩
def featsRF : Features := { powerOfTwo := true, radix := true, format := true }

/-- **debug-assertion build, known finding C10-dbg-int-suffix-with-separator**: `"1h_"` — after the non-digit `h`
`fmt_invalid_digit!` calls `step_unchecked()` on the skip iterator while the cursor is on a digit separator
(`debug_assert!(… != Some(&format.digit_separator()))` in `step_by_unchecked_impl`) -/
theorem debug_panics_suffix_separator :
    parseIntFormat ⟨⟨featsRF, fmtSuffixSep, true⟩, ⟨8, false⟩, false, false⟩ [0x31, 0x68, 0x5f]
      = .error (.panic "step_by: on digit separator") := by decide

/-- the release build steps over the separator and reports the index after it -/
theorem release_suffix_separator :
    parseIntFormat ⟨⟨featsRF, fmtSuffixSep, false⟩, ⟨8, false⟩, false, false⟩ [0x31, 0x68, 0x5f]
      = .error (.err "InvalidDigit" 2) := by decide

/-- **C10, debug-assertion build, full statement with the exact exclusion**: no panic unless the format combines a base
suffix with a separator-skipping integer iterator, or the separator equals a control character up to ASCII case (the
float-side finding C10-dbg-sep-case-equals-control-char, which `read_if_value` on the base prefix shares). Not proved
(correspondence: `tools/intfmt_corr.py --dbg`). -/
def parseIntFormat_no_panic_debug_full : Prop :=
  ∀ (e : Env) (s : List Nat), e.c.feats.format = true → e.c.debug = true →
    (formatError e.c.feats e.c.fmt).isNone = true → Admissible e → (∀ b ∈ s, b < 256) →
    (e.c.baseSuffix = 0 ∨ e.c.iterContiguous .integer = true) →
    (e.c.digitSeparator = 0 ∨ (lowerAscii e.c.digitSeparator ≠ lowerAscii e.c.basePrefix ∧
      lowerAscii e.c.digitSeparator ≠ lowerAscii e.c.baseSuffix)) →
      Total s.length (parseIntFormat e s)

/-- the exclusion is necessary -/
theorem not_no_panic_debug_without_exclusion :
    ¬ (∀ (e : Env) (s : List Nat), e.c.feats.format = true → e.c.debug = true →
        (formatError e.c.feats e.c.fmt).isNone = true → Admissible e → (∀ b ∈ s, b < 256) →
          Total s.length (parseIntFormat e s)) := by
  intro h
  have := h ⟨⟨featsRF, fmtSuffixSep, true⟩, ⟨8, false⟩, false, false⟩ [0x31, 0x68, 0x5f] rfl rfl (by decide)
    ⟨by unfold IsIntTy; decide, by decide, by decide, by decide⟩ (by decide)
  rw [debug_panics_suffix_separator] at this
  exact this

/-- **C12 for integers, full statement** (`DESIGN.md` §6 C12: every valid format, separator-free input):
the complete parser returns `Ok(v)` iff the documented grammar derives the input with value `v`.
FALSE on the current code — see `not_int_accepts_iff_grammar_full`. -/
def int_accepts_iff_grammar_full : Prop :=
  ∀ (c : Cfg) (t : IntTy) (nm : Bool) (s : List Nat) (v : Int), c.feats.format = true → c.debug = false →
    (formatError c.feats c.fmt).isNone = true → Admissible ⟨c, t, false, nm⟩ → (∀ b ∈ s, b < 256) →
    separatorFree c.fmt s = true →
      (complete c t nm s = .ok v ↔ grammarIntComplete c.feats c.fmt t s = .ok v)

/-- **(c) with base prefix and `no_integer_leading_zeros`**: formats with a contiguous integer iterator (no integer
separator flags; separator byte and the other components' flags arbitrary) and WITHOUT base suffix; base prefix (not
the byte `'0'` — `format.is_valid()` rejects digit prefixes), its case flag, `no_integer_leading_zeros`, the sign flags:
arbitrary; digits required. For every type, radix, `no_multi_digit` and input the complete parser returns `Ok(v)` iff
`Spec.grammarIntComplete` derives the input with value `v` — NO exclusion: without a base suffix the integer parser
has no prefix / leading-zero defect (C12-base-prefix-swallows-leading-zero needs the suffix, see
`witness_prefix_swallows_zero`, `witness_suffix_nolz_zero`). -/
theorem int_accepts_iff_grammar_prefix (c : Cfg) (t : IntTy) (nm : Bool) (hs : Simple c)
    (ha : Admissible ⟨c, t, false, nm⟩) (h48 : c.fmt.basePrefix ≠ 48)
    (hreq : (c.fmt.requiredIntegerDigits || c.fmt.requiredMantissaDigits) = true)
    (s : List Nat) (hb : ∀ b ∈ s, b < 256) (v : Int) :
    complete c t nm s = .ok v ↔ grammarIntComplete c.feats c.fmt t s = .ok v := by
  have hr2 : 2 ≤ c.fmt.mantissaRadix := by have := ha.r2; simpa [Env.radix, Cfg.mantissaRadix] using this
  have hcs : c.caseSensitiveBasePrefix = c.fmt.caseSensitiveBasePrefix := by
    simp [Cfg.caseSensitiveBasePrefix, Cfg.flag, hs.hf]
  rw [complete_ok_iff, prefix_acceptS ⟨c, t, false, nm⟩ hs rfl ha.ty ha.r2 ha.r36 ha.feat
      (by rw [requiredDigits_eq c t false nm hs.hf]; exact hreq) s hb v, grammarIntComplete,
    grammar_acceptS (Syn.of c.feats c.fmt) t (by simp [Syn.of, hs.hf]; omega) (by simp [Syn.of, hs.hf, hs.suf])
      (by simpa [Syn.of, hs.hf] using h48) (by simpa [Syn.of, hs.hf] using hreq) s v]
  simp [Syn.of, hs.hf, hcs, Env.radix, Cfg.mantissaRadix]

/-- **(c) on `SimpleFmt`** (the case `basePrefix = 0` of `int_accepts_iff_grammar_prefix`): formats without integer separator flags (any separator byte, any flags on fraction /
exponent; the input may contain the separator byte — both sides reject it as a non-digit), without base prefix and base
suffix, with `no_integer_leading_zeros` off, in which digits are required (`required_integer_digits` or
`required_mantissa_digits`; the complement is the excluded class "no digits accepted as zero"): for every type, radix,
`no_multi_digit` and input, acceptance and value of the complete parser are those of `Spec.grammarIntComplete`.
Missing towards the full statement: base suffix, integer-separator formats on separator-free inputs (both hold on
the correspondence streams); "no digits required" is genuinely false. -/
theorem int_accepts_iff_grammar_partial (c : Cfg) (t : IntTy) (nm : Bool) (hs : SimpleFmt c)
    (ha : Admissible ⟨c, t, false, nm⟩)
    (hreq : (c.fmt.requiredIntegerDigits || c.fmt.requiredMantissaDigits) = true)
    (s : List Nat) (hb : ∀ b ∈ s, b < 256) (v : Int) :
    complete c t nm s = .ok v ↔ grammarIntComplete c.feats c.fmt t s = .ok v :=
  int_accepts_iff_grammar_prefix c t nm hs.toSimple ha (by rw [hs.pre]; decide) hreq s hb v

def fmtPrefixXNoLZ : Format := ⟨0x1010100078000000000000000000100c⟩   -- radix 16, prefix `x`, no_integer_leading_zeros

theorem prefixXNoLZ_simple : Simple ⟨featsRF, fmtPrefixXNoLZ, false⟩ := ⟨rfl, rfl, by decide, by decide⟩

/-- non-vacuity of `int_accepts_iff_grammar_prefix`: `0x1f` = 31, `0x01` = 1 (leading zeros behind a prefix are
exempt), `01` rejected by both (`InvalidLeadingZeros`), `0` = 0, `0x` rejected by both -/
example :
    complete ⟨featsRF, fmtPrefixXNoLZ, false⟩ ⟨32, true⟩ false [0x30, 0x78, 0x31, 0x66] = .ok 31 ∧
    grammarIntComplete featsRF fmtPrefixXNoLZ ⟨32, true⟩ [0x30, 0x78, 0x31, 0x66] = .ok 31 ∧
    complete ⟨featsRF, fmtPrefixXNoLZ, false⟩ ⟨32, true⟩ false [0x30, 0x78, 0x30, 0x31] = .ok 1 ∧
    grammarIntComplete featsRF fmtPrefixXNoLZ ⟨32, true⟩ [0x30, 0x78, 0x30, 0x31] = .ok 1 ∧
    complete ⟨featsRF, fmtPrefixXNoLZ, false⟩ ⟨32, true⟩ false [0x30, 0x31] = .error (.err "InvalidLeadingZeros" 0) ∧
    grammarIntComplete featsRF fmtPrefixXNoLZ ⟨32, true⟩ [0x30, 0x31] = .err ∧
    complete ⟨featsRF, fmtPrefixXNoLZ, false⟩ ⟨32, true⟩ false [0x30] = .ok 0 ∧
    grammarIntComplete featsRF fmtPrefixXNoLZ ⟨32, true⟩ [0x30] = .ok 0 ∧
    complete ⟨featsRF, fmtPrefixXNoLZ, false⟩ ⟨32, true⟩ false [0x30, 0x78] = .error (.err "Empty" 2) ∧
    grammarIntComplete featsRF fmtPrefixXNoLZ ⟨32, true⟩ [0x30, 0x78] = .err := by decide

/-- the body (input behind the sign) is one or more `0` followed by a base-suffix byte: the class of the open findings
C12-base-prefix-swallows-leading-zero (integers) and "zero before the base suffix under no_integer_leading_zeros" -/
def zerosThenSuffix (c : Cfg) (t : IntTy) (s : List Nat) : Prop :=
  ∃ k h, 1 ≤ k ∧ isSuffixByte c h = true ∧ s.drop (signLen t s) = List.replicate k 48 ++ [h]

/-- **C12 for a contiguous integer iterator WITH base suffix, full statement under the exact exclusions** (not proved;
holds on every op of the correspondence streams): the complete parser accepts exactly the grammar unless digits are
not required (C12-no-digits-accepted-as-zero) or a base prefix / `no_integer_leading_zeros` is combined with a base
suffix and the body is zeros followed by the suffix (`witness_prefix_swallows_zero`, `witness_suffix_nolz_zero`).
The suffix-free half is `int_accepts_iff_grammar_prefix`. -/
def int_accepts_iff_grammar_contig_full : Prop :=
  ∀ (c : Cfg) (t : IntTy) (nm : Bool) (s : List Nat) (v : Int), c.feats.format = true → c.debug = false →
    (formatError c.feats c.fmt).isNone = true → c.sepFlags .integer = SepFlags.none →
    Admissible ⟨c, t, false, nm⟩ → (∀ b ∈ s, b < 256) →
    (c.fmt.requiredIntegerDigits || c.fmt.requiredMantissaDigits) = true →
    ¬ (c.fmt.baseSuffix ≠ 0 ∧ (c.fmt.basePrefix ≠ 0 ∨ c.fmt.noIntegerLeadingZeros = true) ∧ zerosThenSuffix c t s) →
      (complete c t nm s = .ok v ↔ grammarIntComplete c.feats c.fmt t s = .ok v)

def fmtPrefixDSuffixH : Format := ⟨0xa0a0a6864000000000000000000000c⟩  -- radix 10, prefix `d`, suffix `h`
def fmtNoReq : Format := ⟨0xa0a0a00000000000000000000000000⟩        -- radix 10, no digits required (int_noreq)

/-- **excluded class 1 (C12-base-prefix-swallows-leading-zero)**: with a base prefix configured the leading `0` is
consumed by `skip_zeros` and moves `start_index`; the integer `"0h"` (zero with the optional base suffix) is then
rejected because `cursor - start_index > 1` fails, although the grammar derives it -/
theorem witness_prefix_swallows_zero :
    complete ⟨featsRF, fmtPrefixDSuffixH, false⟩ ⟨32, true⟩ false [0x30, 0x68] = .error (.err "InvalidDigit" 1) ∧
    grammarIntComplete featsRF fmtPrefixDSuffixH ⟨32, true⟩ [0x30, 0x68] = .ok 0 := by decide

/-- **excluded class 2 (C12-no-digits-accepted-as-zero)**: the empty string and a bare sign are accepted as zero
when neither digit flag is set; the documentation keeps the empty string invalid -/
theorem witness_no_digits_zero :
    complete ⟨featsRF, fmtNoReq, false⟩ ⟨32, true⟩ false [] = .ok 0 ∧
    grammarIntComplete featsRF fmtNoReq ⟨32, true⟩ [] = .err := by decide

theorem not_int_accepts_iff_grammar_full : ¬ int_accepts_iff_grammar_full := by
  intro h
  have := (h ⟨featsRF, fmtNoReq, false⟩ ⟨32, true⟩ false [] 0 rfl rfl (by decide)
    ⟨by unfold IsIntTy; decide, by decide, by decide, by decide⟩ (by decide) (by decide)).1
    witness_no_digits_zero.1
  rw [witness_no_digits_zero.2] at this
  cases this

/-- non-vacuity of (c): `no_positive_mantissa_sign` (int_nopossign) rejects `+1`, accepts `-1` -/
def fmtNoPosSign : Format := ⟨0xa0a0a0000000000000000000000001c⟩
example : complete ⟨featsRF, fmtNoPosSign, false⟩ ⟨8, true⟩ false [0x2b, 0x31] = .error (.err "InvalidPositiveSign" 0) ∧
    grammarIntComplete featsRF fmtNoPosSign ⟨8, true⟩ [0x2b, 0x31] = .err ∧
    complete ⟨featsRF, fmtNoPosSign, false⟩ ⟨8, true⟩ false [0x2d, 0x31] = .ok (-1) ∧
    grammarIntComplete featsRF fmtNoPosSign ⟨8, true⟩ [0x2d, 0x31] = .ok (-1) := by decide

/-- **C11 clause 1 for the `format` build, full statement**: proved, `int_format_complete_iff_partial_full_holds`
(`"0"` under `no_integer_leading_zeros`: `regression_I2`). -/
def int_format_complete_iff_partial_full : Prop :=
  ∀ (c : Cfg) (t : IntTy) (nm : Bool) (s : List Nat) (v : Int), c.feats.format = true → c.debug = false →
    (formatError c.feats c.fmt).isNone = true → Admissible ⟨c, t, false, nm⟩ → (∀ b ∈ s, b < 256) →
      (complete c t nm s = .ok v ↔ partial_ c t nm s = .ok (v, s.length))

/-- **C11 clause 1, integers, `format` builds — every valid format** (digit separators with any flags, base prefix,
base suffix, `no_integer_leading_zeros`, any sign / digit flags), every type, radix, `no_multi_digit`, every byte list,
release build: the complete parser returns `Ok(v)` iff the partial parser returns `Ok((v, length))`.
Proof: `Agree.iff` on `parseIntFormat_agree` (`Proof/ParseIntFormatAgree.lean`). -/
theorem int_format_complete_iff_partial (c : Cfg) (t : IntTy) (nm : Bool) (hd : c.debug = false)
    (hv : (formatError c.feats c.fmt).isNone = true) (s : List Nat) (v : Int) :
    complete c t nm s = .ok v ↔ partial_ c t nm s = .ok (v, s.length) := by
  rw [complete_ok_iff]
  exact (parseIntFormat_agree (t := t) (nm := nm) (LexVerif.Proof.PNTotal.rel_of_valid c hd hv) s).iff v

theorem int_format_complete_iff_partial_full_holds : int_format_complete_iff_partial_full :=
  fun c t nm s v _ hd hv _ _ => int_format_complete_iff_partial c t nm hd hv s v

/-- non-vacuity on a format with everything at once (prefix `x`, suffix `h`, separator `_` I+L+T+C): `"0x1_fh"` -/
example : complete ⟨{ powerOfTwo := true, radix := true, format := true }, ⟨0x101010687800005f000002490000000c⟩, false⟩
      ⟨32, true⟩ false [0x30, 0x78, 0x31, 0x5f, 0x66, 0x68] = .ok 31 ∧
    partial_ ⟨{ powerOfTwo := true, radix := true, format := true }, ⟨0x101010687800005f000002490000000c⟩, false⟩
      ⟨32, true⟩ false [0x30, 0x78, 0x31, 0x5f, 0x66, 0x68] = .ok (31, 6) := by decide

/-- **C11 clause 2 for the `format` build, full statement** (a digit was consumed): FALSE (`witness_I3`, `witness_I4`). -/
def int_format_partial_prefix_full : Prop :=
  ∀ (c : Cfg) (t : IntTy) (nm : Bool) (s : List Nat) (v : Int) (n : Nat), c.feats.format = true → c.debug = false →
    (formatError c.feats c.fmt).isNone = true → Admissible ⟨c, t, false, nm⟩ → (∀ b ∈ s, b < 256) →
      partial_ c t nm s = .ok (v, n) → signLen t s < n → complete c t nm (s.take n) = .ok v

/-- clause 1 on `SimpleFmt` formats through the characterisation: not by the lockstep argument of
`int_format_complete_iff_partial` but through the specification scan (`spec_both`, carried over by `out_of_both`).
Clause 2 is false for base suffix (I3)
and base prefix (I4), and for separator formats (C11-partial-count-includes-trailing-separator). -/
theorem int_format_complete_iff_partial_partial (c : Cfg) (t : IntTy) (nm : Bool) (hs : SimpleFmt c)
    (ha : Admissible ⟨c, t, false, nm⟩) (s : List Nat) (hb : ∀ b ∈ s, b < 256) (v : Int) :
    complete c t nm s = .ok v ↔ partial_ c t nm s = .ok (v, s.length) := by
  rw [complete_ok_iff]
  exact (parseIntFormat_out_simple c t nm hs ha s hb).agree.iff v

def fmtNoLZ : Format := ⟨0xa0a0a0000000000000000000000100c⟩          -- no_integer_leading_zeros (int_nolz)
def fmtSuffixH : Format := ⟨0x1010106800000000000000000000000c⟩       -- radix 16, base suffix `h` (int_suffix_h)
def fmtPrefixX : Format := ⟨0x1010100078000000000000000000000c⟩       -- radix 16, base prefix `x` (int_prefix_x)

/-- **I2, regression (C11-int-no-leading-zeros-partial, repaired in /repo by "fix: partial integer parser must count the
lone zero under no_integer_leading_zeros")**: `"0"` under `no_integer_leading_zeros`: complete `Ok(0)` and partial
`Ok((0, 1))`. Before the repair the index handed to `into_ok!` was `cursor - zeros` and the partial parser returned
`Ok((0, 0))`, which refuted clause 1. -/
theorem regression_I2 :
    complete ⟨featsRF, fmtNoLZ, false⟩ ⟨32, true⟩ false [0x30] = .ok 0 ∧
    partial_ ⟨featsRF, fmtNoLZ, false⟩ ⟨32, true⟩ false [0x30] = .ok (0, 1) := by decide

/-- **I3 (C11-int-base-suffix-partial)**: `"1+1"` with a base suffix: partial `Ok((1, 2))` (the byte after the digits
is stepped over by `fmt_invalid_digit!`), complete `"1+"` → `InvalidDigit(1)` -/
theorem witness_I3 :
    partial_ ⟨featsRF, fmtSuffixH, false⟩ ⟨32, true⟩ false [0x31, 0x2b, 0x31] = .ok (1, 2) ∧
    complete ⟨featsRF, fmtSuffixH, false⟩ ⟨32, true⟩ false [0x31, 0x2b] = .error (.err "InvalidDigit" 1) := by decide

/-- **I4 (C11-int-base-prefix-without-digits)**: `"0xg"`: partial `Ok((0, 2))`, complete `"0x"` → `Empty(2)` -/
theorem witness_I4 :
    partial_ ⟨featsRF, fmtPrefixX, false⟩ ⟨32, true⟩ false [0x30, 0x78, 0x67] = .ok (0, 2) ∧
    complete ⟨featsRF, fmtPrefixX, false⟩ ⟨32, true⟩ false [0x30, 0x78] = .error (.err "Empty" 2) := by decide

theorem not_int_format_partial_prefix_full : ¬ int_format_partial_prefix_full := by
  intro h
  have := h ⟨featsRF, fmtSuffixH, false⟩ ⟨32, true⟩ false [0x31, 0x2b, 0x31] 1 2 rfl rfl (by decide)
    ⟨by unfold IsIntTy; decide, by decide, by decide, by decide⟩ (by decide) witness_I3.1 (by decide)
  have h2 := witness_I3.2
  simp only [List.take] at this
  rw [h2] at this
  cases this

/-! A regression and one further defect the model predicts and the implementation confirms (formats of
`fmtcat_intfmt.py`). -/

def fmtSepFractionOnly : Format := ⟨0xa0a0a000000005f000000020000000c⟩   -- separator `_`, fraction-internal flag only
def fmtSuffixHNoLZ : Format := ⟨0xa0a0a6800000000000000000000100c⟩       -- base suffix `h` + no_integer_leading_zeros

/-- **regression (`known_findings.json` C13-int-sep-elsewhere-rejects-all, fixed by repo commit 12a2453)**: a
digit-separator byte used by the fraction / exponent only. The integer iterator is contiguous; before the fix its `current_count()` was the per-buffer
digit count of the non-contiguous `Bytes` (never incremented, 0), `into_ok!` saw `count == 0` and EVERY integer was
rejected as `Empty` (`"123"` → `Empty(3)`). The count is the cursor: `"123"` → 123, as the grammar says; the
multi-digit path (i64, 9 digits; blocks counted, repo commit 7e8a135) agrees; a separator byte in the input is an invalid
digit for both sides. -/
theorem regression_sep_elsewhere :
    complete ⟨featsRF, fmtSepFractionOnly, false⟩ ⟨32, true⟩ false [0x31, 0x32, 0x33] = .ok 123 ∧
    grammarIntComplete featsRF fmtSepFractionOnly ⟨32, true⟩ [0x31, 0x32, 0x33] = .ok 123 ∧
    partial_ ⟨featsRF, fmtSepFractionOnly, false⟩ ⟨32, true⟩ false [0x31, 0x32, 0x33] = .ok (123, 3) ∧
    complete ⟨featsRF, fmtSepFractionOnly, false⟩ ⟨64, true⟩ false [0x31, 0x32, 0x33, 0x34, 0x35, 0x36, 0x37, 0x38, 0x39]
      = .ok 123456789 ∧
    complete ⟨featsRF, fmtSepFractionOnly, false⟩ ⟨32, true⟩ false [0x31, 0x5f, 0x32] = .error (.err "InvalidDigit" 1) ∧
    grammarIntComplete featsRF fmtSepFractionOnly ⟨32, true⟩ [0x31, 0x5f, 0x32] = .err ∧
    partial_ ⟨featsRF, fmtSepFractionOnly, false⟩ ⟨32, true⟩ false [0x31, 0x5f, 0x32] = .ok (1, 1) := by decide

/-- the format of the regression lies in `SimpleFmt`, although its digit-separator byte is not 0 -/
theorem sepFractionOnly_simpleFmt : SimpleFmt ⟨featsRF, fmtSepFractionOnly, false⟩ :=
  ⟨⟨rfl, rfl, by decide, by decide⟩, by decide, by decide⟩

example : (⟨featsRF, fmtSepFractionOnly, false⟩ : Cfg).digitSeparator = 0x5f ∧
    (⟨featsRF, fmtSepFractionOnly, false⟩ : Cfg).bytesContiguous = false ∧
    (⟨featsRF, fmtSepFractionOnly, false⟩ : Cfg).iterContiguous .fraction = false := by decide

/-- **the integer parser is blind to separators configured on the other components**: two `SimpleFmt` configurations
with the same feature set, radix and the four flags the integer parser reads (separator byte, fraction / exponent
separator flags and all float-only flags arbitrary on both sides) compute the same result on EVERY input — also on
inputs containing either separator byte. -/
theorem parseIntFormat_separator_irrelevant (e e2 : Env) (hs : SimpleFmt e.c) (hs2 : SimpleFmt e2.c)
    (hfeats : e.c.feats = e2.c.feats) (ht : e.t = e2.t) (hp : e.partial_ = e2.partial_) (hnm : e.noMulti = e2.noMulti)
    (hr : e.c.fmt.mantissaRadix = e2.c.fmt.mantissaRadix)
    (hri : e.c.fmt.requiredIntegerDigits = e2.c.fmt.requiredIntegerDigits)
    (hrm : e.c.fmt.requiredMantissaDigits = e2.c.fmt.requiredMantissaDigits)
    (hnp : e.c.fmt.noPositiveMantissaSign = e2.c.fmt.noPositiveMantissaSign)
    (hrs : e.c.fmt.requiredMantissaSign = e2.c.fmt.requiredMantissaSign) (s : List Nat) :
    parseIntFormat e s = parseIntFormat e2 s := by
  have hrad : e.radix = e2.radix := by simp [Env.radix, Cfg.mantissaRadix, hr]
  have hreq : e.requiredDigits = e2.requiredDigits := by
    obtain ⟨c, t, p, nm⟩ := e; obtain ⟨c2, t2, p2, nm2⟩ := e2
    rw [requiredDigits_eq c t p nm hs.hf, requiredDigits_eq c2 t2 p2 nm2 hs2.hf]
    simp only at hri hrm; rw [hri, hrm]
  rw [parseIntFormat_simple_eq e hs.toSimple hs.pre hs.nolz, parseIntFormat_simple_eq e2 hs2.toSimple hs2.pre hs2.nolz]
  simp only [signGate, hfeats, ht, hp, hnm, hrad, hreq, hnp, hrs]

theorem standard_simpleFmt : SimpleFmt ⟨featsRF, Format.standard, false⟩ :=
  ⟨⟨rfl, rfl, by decide, by decide⟩, by decide, by decide⟩

/-- non-vacuity: `fmtSepFractionOnly` against the plain radix-10 format `Format.standard` -/
example (t : IntTy) (p nm : Bool) (s : List Nat) :
    parseIntFormat ⟨⟨featsRF, fmtSepFractionOnly, false⟩, t, p, nm⟩ s =
      parseIntFormat ⟨⟨featsRF, Format.standard, false⟩, t, p, nm⟩ s :=
  parseIntFormat_separator_irrelevant ⟨⟨featsRF, fmtSepFractionOnly, false⟩, t, p, nm⟩
    ⟨⟨featsRF, Format.standard, false⟩, t, p, nm⟩ sepFractionOnly_simpleFmt standard_simpleFmt rfl rfl rfl rfl
    (by dsimp only; decide) (by dsimp only; decide) (by dsimp only; decide) (by dsimp only; decide)
    (by dsimp only; decide) s

/-- base suffix with `no_integer_leading_zeros` (no prefix): `"0h"` → `InvalidDigit(1)`; the grammar derives 0 -/
theorem witness_suffix_nolz_zero :
    complete ⟨featsRF, fmtSuffixHNoLZ, false⟩ ⟨32, true⟩ false [0x30, 0x68] = .error (.err "InvalidDigit" 1) ∧
    grammarIntComplete featsRF fmtSuffixHNoLZ ⟨32, true⟩ [0x30, 0x68] = .ok 0 := by decide

end LexVerif.Props.C04Format
