import LexVerif.Proof.Tables.LemireNeg
import LexVerif.Proof.Tables.LemirePos
import LexVerif.Proof.Tables.SmallRadix
import LexVerif.Proof.Tables.SmallCompact
import LexVerif.Proof.Tables.SmallDefault
import LexVerif.Proof.Tables.Limits
import LexVerif.Proof.Tables.LargePowers
import LexVerif.Proof.Tables.BellRadix
import LexVerif.Proof.Tables.BellCompact
import LexVerif.Proof.Tables.FloatConsts
/-!
# Props.TablesParse — the R tie of the string→float side (C01, C05, C19)

Every pre-computed table, `match radix` dispatch function, limit and constant the float parser depends
on — as the crate compiled from the *current* `/repo` contains it (`Gen.*`, regenerated on every run by
`extractors/parse_tables.py`) — equals its mathematical closed form (`Spec.PowerTables`, predicates in
`Proof/Tables/*Defs.lean`) on **every** row. The heavy kernel evaluations live in
`Proof/Tables/*.lean` (one module per chunk so that lake checks them in parallel); this module restates
them as `∀` statements. A changed table entry or dispatch arm makes the corresponding
`Proof.Tables` theorem fail; `#eval tableBad …` / `radixBad …` then names the row.

Feature sets: `radix` (= `std,radix`), `compact` (= `std,compact,radix`), `default` (= `std`).
Known deviations kept explicit: Bellerophon mantissas are
truncated rather than nearest (witness), `SMALLEST_POWER_OF_TEN` of `f32` is not tight.
-/
namespace LexVerif.Props.TablesParse
open LexVerif.Spec LexVerif.Spec.PowerTables LexVerif.Gen LexVerif.Proof.Tables

/-- All 651 rows of `POWER_OF_FIVE_128`: `row.0·2^64 + row.1 = lemireRow (−342 + i)`. -/
theorem lemire_table : ∀ i (h : i < Lemire.powerOfFive128.size),
    lemireRowOk i Lemire.powerOfFive128[i] = true :=
  of_tableAll_split 342 lemire_rows_neg lemire_rows_pos

theorem lemire_table_shape :
    Lemire.smallestPowerOfFive = -342 ∧ Lemire.largestPowerOfFive = 308 ∧ Lemire.nPowersOfFive = 651 ∧
    Lemire.powerOfFive128.size = 651 ∧ Lemire.powerTab.size = 651 := by decide +kernel

/-- `lemire::power(q) = ⌊q·log2 10⌋ + 63` for every `q ∈ [−342, 308]`. -/
theorem lemire_power : ∀ i (h : i < Lemire.powerTab.size),
    Lemire.powerTab[i] = floorLog2Pow 10 (Lemire.smallestPowerOfFive + i) + 63 := by
  intro i h
  have := of_tableAll lemire_power_all i h
  simpa [lemirePowerOk] using this

/-- `int_pow_fast_path(e, r) = r^e` for every entry of every radix; the table holds exactly
`0 ..= u64_power_limit(r)`, which covers `mantissa_limit(r)`. -/
def IntPowStmt (S : SmallSet) : Prop :=
    ∀ r ∈ S.intRadices, (S.intPow r).size = S.u64PowerLimit r + 1 ∧
      S.f64MantissaLimit r < ((S.intPow r).size : Int) ∧
      ∀ e (he : e < (S.intPow r).size), (S.intPow r)[e] = r ^ e ∧ (S.intPow r)[e] < 2 ^ 64

theorem intPow_of {S : SmallSet} (h : S.intRadices.all (intPowTableOk S) = true) : IntPowStmt S := by
  intro r hr
  have h1 := (List.all_eq_true.mp h) r hr
  simp only [intPowTableOk, Bool.and_eq_true, beq_iff_eq, decide_eq_true_eq] at h1
  refine ⟨h1.1.2, h1.2, ?_⟩
  intro e he
  have := of_tableAll h1.1.1 e he
  simpa [intPowOk] using this

/-- `pow_fast_path(e, r)`: the bit pattern is `roundNE (r^e)` and decodes to exactly `r^e` for
`e ≤ exponent_limit(r).1` (all of which the table holds), padding `0.0` beyond (`floatPowOk`). -/
def FloatPowStmt (S : SmallSet) (f : Fmt) : Prop :=
    ∀ r ∈ S.radices, (S.exponentLimit f r).2 < ((S.floatPow f r).size : Int) ∧
      ∀ e (he : e < (S.floatPow f r).size),
        floatPowOk f (S.exponentLimit f r).2 r e (S.floatPow f r)[e] = true

theorem floatPow_of {S : SmallSet} {f : Fmt} (h : S.radices.all (floatPowTableOk S f) = true) :
    FloatPowStmt S f := by
  intro r hr
  have h1 := (List.all_eq_true.mp h) r hr
  simp only [floatPowTableOk, Bool.and_eq_true, decide_eq_true_eq] at h1
  exact ⟨h1.2, of_tableAll h1.1⟩

theorem floatPowOk_inRange {f : Fmt} {hi : Int} {r e v : Nat} (h : floatPowOk f hi r e v = true)
    (he : (e : Int) ≤ hi) : roundNE f (r ^ e) 1 = v ∧ exactlyRepr f v (r ^ e) = true := by
  simpa [floatPowOk, he] using h

/-- `get_small_int_power`, feature set `radix` -/
theorem small_int_powers_radix : IntPowStmt SmallSet.Radix := intPow_of small_int_pow_radix
theorem small_f32_powers_radix : FloatPowStmt SmallSet.Radix f32 := floatPow_of small_f32_pow_radix
theorem small_f64_powers_radix : FloatPowStmt SmallSet.Radix f64 := floatPow_of small_f64_pow_radix
/-- `compact`: no tables; `wrapping_pow` / `powf` / `powd` evaluated on the same ranges give the same exact values. -/
theorem small_int_powers_compact : IntPowStmt SmallSet.CompactRadix := intPow_of small_int_pow_compact
theorem small_f32_powers_compact : FloatPowStmt SmallSet.CompactRadix f32 := floatPow_of small_f32_pow_compact
theorem small_f64_powers_compact : FloatPowStmt SmallSet.CompactRadix f64 := floatPow_of small_f64_pow_compact
theorem small_int_powers_default : IntPowStmt SmallSet.Default := intPow_of small_int_pow_default
theorem small_f32_powers_default : FloatPowStmt SmallSet.Default f32 := floatPow_of small_f32_pow_default
theorem small_f64_powers_default : FloatPowStmt SmallSet.Default f64 := floatPow_of small_f64_pow_default

/-- `exponent_limit`, `mantissa_limit`, `min/max_exponent_fast_path`, `max_exponent_disguised_fast_path`
for f32 and f64, every legal radix (closed forms: `exponentLimitOk`, `mantissaLimitOk`). -/
theorem limits_ok_radix : ∀ r ∈ SmallSet.Radix.radices,
    (limitsOk SmallSet.Radix f32 r && limitsOk SmallSet.Radix f64 r) = true := List.all_eq_true.mp limits_radix
theorem limits_ok_compact : ∀ r ∈ SmallSet.CompactRadix.radices,
    (limitsOk SmallSet.CompactRadix f32 r && limitsOk SmallSet.CompactRadix f64 r) = true := List.all_eq_true.mp limits_radix
theorem limits_ok_default : ∀ r ∈ SmallSet.Default.radices,
    (limitsOk SmallSet.Default f32 r && limitsOk SmallSet.Default f64 r) = true := List.all_eq_true.mp limits_default
/-- `u32_power_limit(r) = ⌊log_r(2^32−1)⌋`, `u64_power_limit(r) = ⌊log_r(2^64−1)⌋`. -/
theorem power_limits_ok_radix : ∀ r ∈ SmallSet.Radix.intRadices,
    (powerLimitOk 32 r (SmallSet.Radix.u32PowerLimit r) && powerLimitOk 64 r (SmallSet.Radix.u64PowerLimit r)) = true :=
  List.all_eq_true.mp power_limits_radix
theorem power_limits_ok_compact : ∀ r ∈ SmallSet.CompactRadix.intRadices,
    (powerLimitOk 32 r (SmallSet.CompactRadix.u32PowerLimit r) && powerLimitOk 64 r (SmallSet.CompactRadix.u64PowerLimit r)) = true :=
  List.all_eq_true.mp power_limits_radix
theorem power_limits_ok_default : ∀ r ∈ SmallSet.Default.intRadices,
    (powerLimitOk 32 r (SmallSet.Default.u32PowerLimit r) && powerLimitOk 64 r (SmallSet.Default.u64PowerLimit r)) = true :=
  List.all_eq_true.mp power_limits_default
/-- `u64_step(r) = ⌊log_r 2^64⌋`; `min_step`/`max_step` for 8…128 bits, signed and unsigned. -/
theorem steps_ok_radix : stepsOk SmallSet.Radix = true := steps_radix
theorem steps_ok_compact : stepsOk SmallSet.CompactRadix = true := steps_radix
theorem steps_ok_default : stepsOk SmallSet.Default = true := steps_default
/-- `max_digits(r)`: `None` for odd radices and powers of two, otherwise the documented formula, which
exceeds the significant-digit count of every midpoint by at least one. -/
theorem max_digits_ok_radix : ∀ r ∈ SmallSet.Radix.radices,
    (maxDigitsOk f32 r (SmallSet.Radix.f32MaxDigits r) && maxDigitsOk f64 r (SmallSet.Radix.f64MaxDigits r)) = true :=
  List.all_eq_true.mp max_digits_radix
theorem max_digits_ok_compact : ∀ r ∈ SmallSet.CompactRadix.radices,
    (maxDigitsOk f32 r (SmallSet.CompactRadix.f32MaxDigits r) && maxDigitsOk f64 r (SmallSet.CompactRadix.f64MaxDigits r)) = true :=
  List.all_eq_true.mp max_digits_radix
theorem max_digits_ok_default : ∀ r ∈ SmallSet.Default.radices,
    (maxDigitsOk f32 r (SmallSet.Default.f32MaxDigits r) && maxDigitsOk f64 r (SmallSet.Default.f64MaxDigits r)) = true :=
  List.all_eq_true.mp max_digits_default

/-- `split_radix(r) = (odd, shift)`: `odd·2^shift = r` (`(0, log2 r)` for powers of two) and the large
power selected for `odd` denotes `odd^step`, for all 35 radices (`split_radix(12) = (3, 2)`: an even first
component would select `35^60`, see the witness below). -/
theorem split_radix_ok : ∀ r, 2 ≤ r → r ≤ 36 → splitRadixOk LargeSet.Radix r = true :=
  of_radixAll split_radix_radix

/-- why the odd part matters: a base without its own arm selects the radix-35 power. -/
theorem large_power_fallthrough_witness :
    LargeSet.Radix.largeStep 6 = 60 ∧
    limbsVal 64 (LargeSet.Radix.largeLimbs 6).toList = 35 ^ 60 ∧
    limbsVal 64 (LargeSet.Radix.largeLimbs 6).toList ≠ 6 ^ 60 := by
  decide +kernel

theorem split_radix_ok_compact : ∀ r, 2 ≤ r → r ≤ 36 → splitRadixOk LargeSet.CompactRadix r = true :=
  of_radixAll split_radix_compact
theorem split_radix_ok_default : ∀ r ∈ [2, 5, 10], splitRadixOk LargeSet.Default r = true :=
  List.all_eq_true.mp split_radix_default
/-- every odd base 3, 5, …, 35: the limbs denote `base^step`. -/
theorem large_powers_ok : ∀ b, 3 ≤ b → b ≤ 36 → b % 2 = 1 → largeEntryOk LargeSet.Radix b = true := by
  intro b h3 h36 hodd
  apply (List.all_eq_true.mp large_powers_radix) b
  simp only [List.mem_filter, List.mem_range, Bool.and_eq_true, decide_eq_true_eq, beq_iff_eq]
  omega
/-- `integral_binary_factor(r) = ⌈log2 r⌉` (non powers of two). -/
theorem binary_factor_ok : ∀ r, 2 ≤ r → r ≤ 36 → binaryFactorOk LargeSet.Radix r = true :=
  of_radixAll binary_factor_radix
theorem binary_factor_ok_compact : ∀ r, 2 ≤ r → r ≤ 36 → binaryFactorOk LargeSet.CompactRadix r = true :=
  of_radixAll binary_factor_radix
theorem binary_factor_ok_default : binaryFactorOk LargeSet.Default 10 = true := binary_factor_default
theorem bigint_sizes :
    bigintSizeOk LargeSet.Radix SmallSet.Radix = true ∧
    bigintSizeOk LargeSet.CompactRadix SmallSet.CompactRadix = true ∧
    bigintSizeOk LargeSet.Default SmallSet.Default = true :=
  ⟨bigint_size_radix, bigint_size_compact, bigint_size_default⟩

/-- Every radix with a table (`radix` build: all but powers of two and 10): `small[i]`, `large[i]` are
the truncated normalised 64-bit mantissas of `r^i`, `r^(i·step−bias)`, the accessor exponents are the
true binary exponents, `small_int[i] = r^i`, `step = ⌊log_r 10^10⌋`, `step ∣ bias`, and the index range
covers binary64 (below: zero; above: infinity). Radices without a table get the empty tables. -/
theorem bellerophon_tables_radix :
    ∀ r, 2 ≤ r → r ≤ 36 → bellRadixOk false Bellerophon.Radix.powers r = true :=
  fun _ h2 h36 => bellRadixOk_radix h2 h36
/-- the same for `compact+radix`, which adds the decimal table. -/
theorem bellerophon_tables_compact :
    ∀ r, 2 ≤ r → r ≤ 36 → bellRadixOk true Bellerophon.CompactRadix.powers r = true := by
  intro r h2 h36
  by_cases h10 : r = 10
  · rw [h10]; exact bellRadixOk_compact_decimal
  · rw [bellRadixOk_compact h2 h36 h10]; exact bellerophon_tables_radix r h2 h36
/-- `(log2·k) >> log2_shift = ⌊k·log2 r⌋` for every `k` in `[−bias, large.len·step − bias)`. -/
theorem bellerophon_log2_radix :
    ∀ r, 2 ≤ r → r ≤ 36 → bellRadixLog2Ok false Bellerophon.Radix.powers r = true :=
  of_radixAll bell_log2_radix
theorem bellerophon_log2_compact :
    ∀ r, 2 ≤ r → r ≤ 36 → bellRadixLog2Ok true Bellerophon.CompactRadix.powers r = true := by
  intro r h2 h36
  by_cases h10 : r = 10
  · rw [h10]; exact bell_log2_compact_decimal
  · rw [bellRadixLog2Ok_compact h2 h36 h10]; exact bellerophon_log2_radix r h2 h36

theorem bellerophon_decimal_large : ∀ i (h : i < (Bellerophon.CompactRadix.powers 10).large.size),
    (Bellerophon.CompactRadix.powers 10).large[i] =
      (extTrunc (powQ 10 (i * 10 - 350)).1 (powQ 10 (i * 10 - 350)).2).1 := by
  have h := bellerophon_tables_compact 10 (by decide) (by decide)
  have hb : bellHasTable true 10 = true := by decide
  simp only [bellRadixOk, hb, if_true, Bool.and_eq_true] at h
  intro i hi
  have := of_tableAll h.1.2 i hi
  have hs : (Bellerophon.CompactRadix.powers 10).step = 10 := by decide
  have hbias : (Bellerophon.CompactRadix.powers 10).bias = 350 := by decide
  simpa [bellLargeOk, hs, hbias] using this

/-- the mantissas are truncations, **not** nearest (the table module's docs and `etc/bellerophon_table.py` say
"rounded perfectly, within 0.5 ULP"; the algorithm books half a unit per table multiplication). Witness: decimal
table, `large[0]` = `10^-350`; 38 of the 66 decimal rows differ from the nearest 64-bit value. -/
theorem bellerophon_truncated_witness :
    bellLargeOk (Bellerophon.CompactRadix.powers 10) 10 0 ((Bellerophon.CompactRadix.powers 10).large[0]!) = true ∧
    bellLargeNearestOk (Bellerophon.CompactRadix.powers 10) 10 0 ((Bellerophon.CompactRadix.powers 10).large[0]!) = false ∧
    bellNotNearestCount Bellerophon.CompactRadix.powers 10 = 38 := by
  unfold bellNotNearestCount bellLargeOk bellLargeNearestOk extTrunc extNearest ilog2Q bitlen
  rw [LexVerif.Proof.log2_eq_log2F]
  decide +kernel

theorem float_constants_f32 :
    layoutOk f32 FloatConstSet.F32 = true ∧ lemireConstsOk f32 FloatConstSet.F32 = true ∧
    fastPathConstsOk f32 FloatConstSet.F32 = true := by decide +kernel
theorem float_constants_f64 :
    layoutOk f64 FloatConstSet.F64 = true ∧ lemireConstsOk f64 FloatConstSet.F64 = true ∧
    fastPathConstsOk f64 FloatConstSet.F64 = true := by decide +kernel
/-- `lower_n_mask(n) = 2^n − 1` (`n ≤ 64`), `lower_n_halfway(n) = 2^(n−1)` (`0` for `n = 0`),
`nth_bit(n) = 2^n` (`n < 64`), `INVALID_FP = −2^15` -/
theorem mask_functions :
    tableAll (fun n v => v == 2 ^ n - 1) FloatConsts.lowerNMask = true ∧ FloatConsts.lowerNMask.size = 65 ∧
    tableAll (fun n v => v == if n = 0 then 0 else 2 ^ (n - 1)) FloatConsts.lowerNHalfway = true ∧
    FloatConsts.lowerNHalfway.size = 65 ∧
    tableAll (fun n v => v == 2 ^ n) FloatConsts.nthBit = true ∧ FloatConsts.nthBit.size = 64 ∧
    FloatConsts.invalidFp = -2 ^ 15 := by decide +kernel

/-! non-vacuity: the quantified sets are the ones expected -/
example : SmallSet.Radix.radices.length = 35 ∧ SmallSet.CompactRadix.radices.length = 35 ∧
    SmallSet.Default.radices = [10] ∧ SmallSet.Default.intRadices = [5, 10] ∧
    SmallSet.Radix.tabled = true ∧ SmallSet.CompactRadix.tabled = false ∧
    LargeSet.Radix.hasLarge = true ∧ LargeSet.CompactRadix.hasLarge = false ∧
    (Bellerophon.Radix.powers 3).large.size = 69 ∧ (Bellerophon.CompactRadix.powers 10).large.size = 66 := by
  decide +kernel

end LexVerif.Props.TablesParse
