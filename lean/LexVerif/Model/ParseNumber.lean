import LexVerif.Model.Iter
import LexVerif.Spec.StdFloat
/-!
# Model.ParseNumber — the float *syntax* layer of `lexical-parse-float/src/parse.rs`

`parse_mantissa_sign`, `parse_exponent_sign` (`parse_sign!`), `parse_number` (complete), `parse_digits`,
`parse_8digits`, `parse_u64_digits`, `parse_complete_number`, the special-value parsers, `starts_with*`,
the `parse_number!` fall-back, `parse_complete` / `parse_partial` up to the `Number`, `check_radix!` and
the validation of the API entry points (`api.rs`). The numeric conversion of a `Number` is *not* modelled
here: `parseFloatModel` uses the exact arithmetic of `Spec` (`litBits`).

Everything follows the Rust control flow statement by statement, including behaviour that looks wrong.
(Since /repo 7e8a135 `try_parse_8digits` counts the 8 digits it steps over with the `format` feature, and since
12a2453 a contiguous component iterator's `current_count()` is the cursor: `tryParse8`, `Bytes.iterCount`.)
-/
namespace LexVerif.Model
open LexVerif.Spec (POpts Fmt litBits FloatLit toHex toDigits)

def pow2_64 : Nat := 18446744073709551616

/-- `Number` of `number.rs`; `explicitExp` is extra (the `explicit_exponent` local, needed for the exact value) -/
structure Number where
  mantissa : Nat
  exponent : Int
  isNegative : Bool
  manyDigits : Bool
  integer : List Nat
  fraction : Option (List Nat)
  explicitExp : Int := 0
deriving Repr, DecidableEq

/-! ## small dispatch functions -/

/-- `shared::log2` -/
def log2Radix (r : Nat) : Int :=
  if r = 2 then 1 else if r = 4 then 2 else if r = 8 then 3 else if r = 16 then 4 else if r = 32 then 5 else 1

/-- `u64_step(radix)` = `min_step(radix, 64, false)` of `lexical-util/src/step.rs` (per feature set) -/
def u64StepTable : List Nat :=
  [64, 40, 32, 27, 24, 22, 21, 20, 19, 18, 17, 17, 16, 16, 16, 15, 15, 15, 14, 14, 14, 14, 13, 13, 13, 13, 13,
   13, 13, 12, 12, 12, 12, 12, 12]

def u64Step (feats : Features) (r : Nat) : Nat :=
  if feats.radix then (if 2 ≤ r ∧ r ≤ 36 then u64StepTable.getD (r - 2) 1 else 1)
  else if feats.powerOfTwo then
    (if r = 2 then 64 else if r = 4 then 32 else if r = 8 then 21 else if r = 10 then 19
     else if r = 16 then 16 else if r = 32 then 12 else 1)
  else 19

/-- `char_to_valid_digit_const` -/
def charToValidDigit (ch r : Nat) : Nat :=
  if r ≤ 10 then (ch + 256 - 48) % 256
  else if 48 ≤ ch ∧ ch ≤ 57 then ch - 48
  else if 65 ≤ ch ∧ ch ≤ 90 then ch - 55
  else if 97 ≤ ch ∧ ch ≤ 122 then ch - 87
  else 255

/-- `char_to_digit_const` -/
def charToDigit (ch r : Nat) : Option Nat :=
  let d := charToValidDigit ch r
  if d < r then some d else none

/-! ## signs -/

/-- `parse_sign!` with `is_signed = true` -/
def parseSign (c : Cfg) (noPositive required : Bool) (invalidPositive missing : String) (b : Bytes) :
    Except Err (Bool × Bytes) :=
  match b.first with
  | some 43 =>
    if !noPositive then do
      let b ← b.step c
      pure (false, b)
    else .error (.err invalidPositive b.index)
  | some 45 => do
    let b ← b.step c
    pure (true, b)
  | _ => if required then .error (.err missing b.index) else pure (false, b)

def parseMantissaSign (c : Cfg) (b : Bytes) : Except Err (Bool × Bytes) :=
  parseSign c c.noPositiveMantissaSign c.requiredMantissaSign "InvalidPositiveSign" "MissingSign" b

def parseExponentSign (c : Cfg) (b : Bytes) : Except Err (Bool × Bytes) :=
  parseSign c c.noPositiveExponentSign c.requiredExponentSign "InvalidPositiveExponentSign" "MissingExponentSign" b

/-! ## digits -/

/-- `parse_digits`: the digit values handed to the callback, and the iterator state afterwards -/
def parseDigitsLoop (c : Cfg) (k : Comp) (radix : Nat) : Nat → Bytes → Except Err (List Nat × Bytes)
  | 0, _ => .error (.fault "fuel")
  | fuel + 1, b => do
    let (v, b) ← peek c k b
    match v with
    | none => pure ([], b)
    | some ch =>
      match charToDigit ch radix with
      | none => pure ([], b)
      | some d => do
        let b ← iterStep c k b
        let (ds, b) ← parseDigitsLoop c k radix fuel (b.incCount c k)
        pure (d :: ds, b)

def parseDigits (c : Cfg) (k : Comp) (radix : Nat) (b : Bytes) : Except Err (List Nat × Bytes) :=
  parseDigitsLoop c k radix (b.slc.length + 1) b

/-- mantissa callback: `mantissa.wrapping_mul(radix).wrapping_add(digit)` -/
def foldMantissa (radix : Nat) (m : Nat) (ds : List Nat) : Nat :=
  ds.foldl (fun acc d => (acc * radix + d) % pow2_64) m

/-- exponent callback with the saturation at `0x10000000` -/
def foldExponent (radix : Nat) (e : Nat) (ds : List Nat) : Nat :=
  ds.foldl (fun acc d => if acc < 0x10000000 then acc * radix + d else acc) e

/-- `is_8digits` (bytewise form of the SWAR test) -/
def is8Digits (radix : Nat) (bs : List Nat) : Bool := bs.all fun x => 48 ≤ x && x < 48 + radix

/-- value of `algorithm::parse_8digits` on 8 digit bytes (Horner) -/
def val8Digits (radix : Nat) (bs : List Nat) : Nat := bs.foldl (fun acc x => acc * radix + (x - 48)) 0

/-- `algorithm::try_parse_8digits::<u64, _, FORMAT>` -/
def tryParse8 (c : Cfg) (k : Comp) (b : Bytes) : Except Err (Option Nat × Bytes) :=
  if c.debug && c.mantissaRadix > 10 then .error (.panic "try_parse_8digits: radix > 10")
  else if c.debug && !c.iterContiguous k then .error (.panic "try_parse_8digits: not contiguous")
  else
    match peekBytes c k 8 b with
    | none => pure (none, b)
    | some bs =>
      if is8Digits c.mantissaRadix bs then do
        let b ← b.stepBy c (c.iterContiguous k) 8
        -- `if cfg!(feature = "format") { for _ in 0..8 { iter.increment_count(); } }`
        let b := (List.range 8).foldl (fun b _ => b.incCount c k) b
        pure (some (val8Digits c.mantissaRadix bs), b)
      else pure (none, b)

/-- `can_try_parse_multidigit!` -/
def canMultidigit (c : Cfg) (k : Comp) : Bool :=
  c.iterContiguous k && (!c.feats.powerOfTwo || c.mantissaRadix ≤ 10)

/-- `format.radix8()` as used (`as u64` of a wrapping `u32` product) -/
def radix8 (r : Nat) : Nat :=
  let r2 := r * r % 2 ^ 32
  let r4 := r2 * r2 % 2 ^ 32
  r4 * r4 % 2 ^ 32

def parse8Loop (c : Cfg) (k : Comp) : Nat → Bytes → Nat → Except Err (Nat × Bytes)
  | 0, _, _ => .error (.fault "fuel")
  | fuel + 1, b, m => do
    let (v, b) ← tryParse8 c k b
    match v with
    | some x => parse8Loop c k fuel b ((m * radix8 c.mantissaRadix + x) % pow2_64)
    | none => pure (m, b)

/-- `parse_8digits` (absent with `compact`) -/
def parse8Digits (c : Cfg) (k : Comp) (b : Bytes) (m : Nat) : Except Err (Nat × Bytes) :=
  if c.feats.compact then pure (m, b)
  else if canMultidigit c k then
    if c.debug && c.mantissaRadix ≥ 16 then .error (.panic "parse_8digits: radix >= 16")
    else parse8Loop c k (b.slc.length + 1) b m
  else pure (m, b)

/-- 8-digit part of `parse_u64_digits`: `while *step > 8 { … }` -/
def u64Loop8 (c : Cfg) (k : Comp) : Nat → Bytes → Nat → Nat → Except Err (Bytes × Nat × Nat)
  | 0, _, _, _ => .error (.fault "fuel")
  | fuel + 1, b, m, step =>
    if step > 8 then do
      let (v, b) ← tryParse8 c k b
      match v with
      | some x => u64Loop8 c k fuel b ((m * radix8 c.mantissaRadix + x) % pow2_64) (step - 8)
      | none => pure (b, m, step)
    else pure (b, m, step)

/-- single-digit part of `parse_u64_digits` (`*mantissa * radix + digit` is overflow-checked in debug builds) -/
def u64Loop1 (c : Cfg) (k : Comp) : Nat → Bytes → Nat → Nat → Except Err (Bytes × Nat × Nat)
  | 0, _, _, _ => .error (.fault "fuel")
  | fuel + 1, b, m, step => do
    let (v, b) ← peek c k b
    match v with
    | none => pure (b, m, step)
    | some ch =>
      if step > 0 then
        let d := charToValidDigit ch c.mantissaRadix
        let m' := m * c.mantissaRadix + d
        if c.debug && m' ≥ pow2_64 then .error (.panic "parse_u64_digits: overflow")
        else do
          let b ← iterStep c k b
          u64Loop1 c k fuel (b.incCount c k) (m' % pow2_64) (step - 1)
      else pure (b, m, step)

/-- `parse_u64_digits` -/
def parseU64Digits (c : Cfg) (k : Comp) (b : Bytes) (m step : Nat) : Except Err (Bytes × Nat × Nat) := do
  let (b, m, step) ←
    if !c.feats.compact && canMultidigit c k then
      (if c.debug && c.mantissaRadix ≥ 16 then .error (.panic "parse_u64_digits: radix >= 16")
       else u64Loop8 c k (b.slc.length + 1) b m step)
    else pure (b, m, step)
  u64Loop1 c k (b.slc.length + 1) b m step

/-! ## `parse_number`, phase by phase -/

/-- SWITCH for the open finding C12-base-prefix-swallows-leading-zero (and its views C08/C11/C15-…).
`false` (default) = `parse_number` of the current /repo: a leading `0` is consumed as the start of a base prefix and
`is_prefix = true` even when the prefix character does not follow.
`true` = /repo with `fixes/C12-base-prefix-swallows-leading-zero.diff` applied: the cursor in front of the `0` is
remembered, `is_prefix = true` only when the prefix character follows, otherwise `iter.set_cursor(prefix_start)`.
The grammar and totality lemmas about `prefixPhase` are proved for both values (`Proof/PrefixRepair.lean`: `prefixPhase_closed`,
`prefixPhase_eq_repaired`); the truncation lemmas of C11 (`Proof/ParseNumberC11*.lean`) for the value it has. -/
def prefixRepair : Bool := true

/-- base-prefix handling before the repair (`prefixRepair = false`): the leading `0` stays consumed and `is_prefix = true`
whether or not the prefix character follows -/
def prefixPhaseCurrent (c : Cfg) (b : Bytes) : Except Err (Bool × Bytes) :=
  if c.feats.format && c.basePrefix ≠ 0 then do
    let (zero, b) ← readIfValueCased c .integer 48 b
    if zero then
      let (hit, b) ← readIfValue c .integer c.basePrefix c.caseSensitiveBasePrefix b
      if hit && b.isBufferEmpty && c.requiredIntegerDigits then .error (.err "EmptyInteger" b.index)
      else pure (true, b)
    else pure (false, b)
  else pure (false, b)

/-- base-prefix handling of the repaired `parse_number`: `let prefix_start = iter.cursor();` …
`if iter.read_if_value(base_prefix, …).is_some() { is_prefix = true; … } else { unsafe { iter.set_cursor(prefix_start) } }` -/
def prefixPhaseRepaired (c : Cfg) (b : Bytes) : Except Err (Bool × Bytes) :=
  if c.feats.format && c.basePrefix ≠ 0 then do
    let (zero, b1) ← readIfValueCased c .integer 48 b
    if zero then
      let (hit, b2) ← readIfValue c .integer c.basePrefix c.caseSensitiveBasePrefix b1
      if hit then
        if b2.isBufferEmpty && c.requiredIntegerDigits then .error (.err "EmptyInteger" b2.index) else pure (true, b2)
      else if b.index ≤ b2.slc.length then pure (false, { b2 with index := b.index })
      else if c.debug then .error (.panic "set_cursor: index > buffer_length") else .error (.fault "set_cursor")
    else pure (false, b1)
  else pure (false, b)

/-- base-prefix handling (`format` only). Returns `is_prefix` and the advanced `Bytes`. -/
def prefixPhase (c : Cfg) (b : Bytes) : Except Err (Bool × Bytes) :=
  if prefixRepair then prefixPhaseRepaired c b else prefixPhaseCurrent c b

/-- `start.as_slice().get_unchecked(..n)` with its `debug_assert` -/
def sliceTo (c : Cfg) (start : Bytes) (n : Nat) (tag : String) : Except Err (List Nat) :=
  if n ≤ start.asSlice.length then pure (start.asSlice.take n)
  else if c.debug then .error (.panic tag) else .error (.fault tag)

/-- scaling of the implicit exponent for mixed bases -/
def scaleExponent (c : Cfg) (implicit : Int) : Except Err Int :=
  if c.mantissaRadix = c.exponentBase then pure implicit
  else
    let bpd := log2Radix c.mantissaRadix
    let bpb := log2Radix c.exponentBase
    if c.debug && bpd % bpb ≠ 0 then .error (.panic "exponent must be a power of base")
    else pure (Int.tdiv (implicit * bpd) bpb)

structure IntPart where
  isPrefix : Bool
  start : Bytes
  byte : Bytes
  mantissa : Nat
  nDigits : Nat
  integerDigits : List Nat

def integerPhase (c : Cfg) (b : Bytes) : Except Err IntPart := do
  let (isPrefix, byte) ← prefixPhase c b
  let start := byte
  let (mantissa, byte) ← parse8Digits c .integer byte 0
  let (ds, byte) ← parseDigits c .integer c.mantissaRadix byte
  let mantissa := foldMantissa c.mantissaRadix mantissa ds
  let nDigits := byte.currentCount c - start.currentCount c
  if c.feats.format && c.requiredIntegerDigits && nDigits = 0 then .error (.err "EmptyInteger" byte.index)
  else
    let bDigits := if c.feats.format && !c.iterContiguous .integer then byte.index - start.index else nDigits
    let integerDigits ← sliceTo c start bDigits "integer get_unchecked(..b_digits)"
    if c.feats.format && !isPrefix && c.noFloatLeadingZeros
        && integerDigits.length > 1 && integerDigits.head? = some 48 then
      .error (.err "InvalidLeadingZeros" start.index)
    else pure ⟨isPrefix, start, byte, mantissa, nDigits, integerDigits⟩

structure FracPart where
  byte : Bytes
  mantissa : Nat
  nAfterDot : Nat
  exponent : Int
  fraction : Option (List Nat)
  hasDecimal : Bool

def fractionPhase (c : Cfg) (o : POpts) (byte : Bytes) (mantissa : Nat) : Except Err FracPart :=
  if byte.firstIsCased o.dp then do
    let byte ← byte.step c
    let before := byte
    let (mantissa, byte) ← parse8Digits c .fraction byte mantissa
    let (ds, byte) ← parseDigits c .fraction c.mantissaRadix byte
    let mantissa := foldMantissa c.mantissaRadix mantissa ds
    let nAfterDot := byte.currentCount c - before.currentCount c
    let bAfterDot := if c.feats.format && !c.iterContiguous .fraction then byte.index - before.index else nAfterDot
    let fractionDigits ← sliceTo c before bAfterDot "fraction get_unchecked(..b_after_dot)"
    let exponent ← scaleExponent c (-(nAfterDot : Int))
    if c.feats.format && c.requiredFractionDigits && nAfterDot = 0 then .error (.err "EmptyFraction" byte.index)
    else pure ⟨byte, mantissa, nAfterDot, exponent, some fractionDigits, true⟩
  else pure ⟨byte, mantissa, 0, 0, none, false⟩

structure ExpPart where
  byte : Bytes
  explicit : Int
  exponent : Int

def exponentPhase (c : Cfg) (hasExponent : Bool) (byte : Bytes) (fraction : Option (List Nat)) (exponent : Int) :
    Except Err ExpPart :=
  if hasExponent then do
    let byte ← byte.step c
    if c.feats.format && c.noExponentNotation then .error (.err "InvalidExponent" (byte.index - 1))
    else if c.feats.format && c.noExponentWithoutFraction && fraction.isNone then
      .error (.err "ExponentWithoutFraction" (byte.index - 1))
    else
      let (negExp, byte) ← parseExponentSign c byte
      let before := byte.currentCount c
      let (ds, byte) ← parseDigits c .exponent c.exponentRadix byte
      let mag := foldExponent c.exponentRadix 0 ds
      if c.requiredExponentDigits && byte.currentCount c - before = 0 then .error (.err "EmptyExponent" byte.index)
      else
        let explicit : Int := if negExp then -(mag : Int) else (mag : Int)
        pure ⟨byte, explicit, exponent + explicit⟩
  else if c.feats.format && c.requiredExponentNotation then .error (.err "MissingExponent" byte.index)
  else pure ⟨byte, 0, exponent⟩

/-- base-suffix handling (`format` only) -/
def suffixPhase (c : Cfg) (byte : Bytes) : Except Err Bytes :=
  if c.feats.format && c.baseSuffix ≠ 0 && byte.firstIs c.baseSuffix c.caseSensitiveBaseSuffix then byte.step c
  else pure byte

/-- the re-parse when more than `step` digits were seen -/
def manyDigitsPhase (c : Cfg) (o : POpts) (neg : Bool) (ip : IntPart) (fp : FracPart) (ep : ExpPart)
    (nDigits step : Nat) (exponent0 : Int) (endIdx : Nat) : Except Err (Number × Nat) := do
  let nd := nDigits - step
  let (zi, zeros) ← skipZeros c .integer ip.start
  let nd := nd - zi
  let zeros ← if zeros.firstIsCased o.dp then zeros.step c else pure zeros
  let (zf, _) ← skipZeros c .fraction zeros
  let nd := nd - zf
  if nd > 0 then
    let integer := Bytes.new ip.integerDigits
    let (_, integer) ← skipZeros c .integer integer
    let (integer, mantissa, step) ← parseU64Digits c .integer integer 0 step
    let (implicit, mantissa) : Int × Nat ←
      if step = 0 || (c.feats.format && !c.bytesContiguous && fp.fraction.isNone) then
        pure ((ip.nDigits : Int) - (integer.currentCount c : Int), mantissa)
      else
        match fp.fraction with
        | none => .error (.panic "fraction_digits.unwrap()")
        | some fd => do
          let fraction := Bytes.new fd
          let fraction ← if mantissa = 0 then (do let (_, f) ← skipZeros c .fraction fraction; pure f) else pure fraction
          let (fraction, mantissa, _) ← parseU64Digits c .fraction fraction mantissa step
          pure (-(fraction.currentCount c : Int), mantissa)
    let exponent ← scaleExponent c implicit
    pure (⟨mantissa, exponent + ep.explicit, neg, true, ip.integerDigits, fp.fraction, ep.explicit⟩, endIdx)
  else
    pure (⟨fp.mantissa, exponent0, neg, false, ip.integerDigits, fp.fraction, ep.explicit⟩, endIdx)

/-- `parse_number::<FORMAT, IS_PARTIAL>` -/
def parseNumber (c : Cfg) (isPartial : Bool) (o : POpts) (b : Bytes) (neg : Bool) (formatValid : Bool := true) :
    Except Err (Number × Nat) := do
  if c.debug && !formatValid then .error (.panic "debug_assert format.is_valid()")
  else if c.debug && b.isBufferEmpty then .error (.panic "debug_assert !is_buffer_empty()")
  else
    let ip ← integerPhase c b
    let fp ← fractionPhase c o ip.byte ip.mantissa
    let byte := fp.byte
    let hasExponent := byte.firstIs o.exp (c.caseSensitiveExponent && c.feats.format)
    let nDigits := ip.nDigits + fp.nAfterDot
    if c.requiredMantissaDigits && (nDigits = 0 || (c.feats.format && byte.currentCount c = 0)) then
      let (anyv, _) ← peek c .integer ip.start
      if fp.hasDecimal || hasExponent || anyv.isNone || isPartial then .error (.err "EmptyMantissa" byte.index)
      else .error (.err "InvalidDigit" ip.start.index)
    else
      let ep ← exponentPhase c hasExponent byte fp.fraction fp.exponent
      let byte ← suffixPhase c ep.byte
      let endIdx := byte.index
      let step := u64Step c.feats c.mantissaRadix
      let exponent : Int := if c.feats.format && !c.requiredMantissaDigits && nDigits = 0 then 0 else ep.exponent
      if nDigits ≤ step then
        pure (⟨fp.mantissa, exponent, neg, false, ip.integerDigits, fp.fraction, ep.explicit⟩, endIdx)
      else manyDigitsPhase c o neg ip fp ep nDigits step exponent endIdx

/-- `parse_complete_number` -/
def parseCompleteNumber (c : Cfg) (o : POpts) (b : Bytes) (neg : Bool) (formatValid : Bool := true) :
    Except Err Number := do
  let (n, count) ← parseNumber c false o b neg formatValid
  if count = b.bufferLength then pure n else .error (.err "InvalidDigit" count)

/-! ## specials -/

/-- `shared::starts_with(byte.special_iter(), string.iter())` -/
def startsWith (c : Cfg) : List Nat → Bytes → Except Err (Bool × Bytes)
  | [], b => pure (true, b)
  | y :: ys, b => do
    let (x, b) ← iterNext c .special b
    if x = some y then startsWith c ys b else pure (false, b)

/-- `shared::starts_with_uncased`: equal iff the XOR is 0 or 0x20 -/
def startsWithUncased (c : Cfg) : List Nat → Bytes → Except Err (Bool × Bytes)
  | [], b => pure (true, b)
  | y :: ys, b => do
    let (x, b) ← iterNext c .special b
    match x with
    | none => pure (false, b)
    | some xi =>
      let x := Nat.xor xi y
      if x ≠ 0 && x ≠ 32 then pure (false, b) else startsWithUncased c ys b

/-- `is_special_eq`: 0 = no match, otherwise the cursor after the match (and after trimming) -/
def isSpecialEq (c : Cfg) (b : Bytes) (s : List Nat) : Except Err Nat := do
  let (hit, b) ← if c.feats.format && c.caseSensitiveSpecial then startsWith c s b else startsWithUncased c s b
  if hit then
    let (_, b) ← peek c .special b
    pure b.index
  else pure 0

inductive Special where
  | nan | inf
deriving Repr, DecidableEq

/-- `parse_positive_special` -/
def parsePositiveSpecial (c : Cfg) (o : POpts) (b : Bytes) : Except Err (Option (Special × Nat)) :=
  if c.feats.format && c.noSpecial then pure none
  else do
    let length := b.bufferLength - b.index
    let try1 (str : Option (List Nat)) : Except Err Nat :=
      match str with
      | some s => if length ≥ s.length then isSpecialEq c b s else pure 0
      | none => pure 0
    let n ← try1 o.nan
    if n ≠ 0 then pure (some (.nan, n))
    else
      let n ← try1 o.infinity
      if n ≠ 0 then pure (some (.inf, n))
      else
        let n ← try1 o.inf
        if n ≠ 0 then pure (some (.inf, n)) else pure none

/-- `parse_special` (complete): the match must cover the buffer -/
def parseSpecialComplete (c : Cfg) (o : POpts) (b : Bytes) : Except Err (Option Special) := do
  match ← parsePositiveSpecial c o b with
  | some (s, n) => if n = b.bufferLength then pure (some s) else pure none
  | none => pure none

/-! ## `parse_complete` / `parse_partial` up to the `Number` -/

inductive Parsed where
  | zero (count : Nat)                       -- `Ok(F::ZERO)`: nothing after the sign, digits not required
  | number (n : Number) (count : Nat)
  | special (s : Special) (neg : Bool) (count : Nat)
deriving Repr, DecidableEq

/-- sign, emptiness test, `parse_number!` with its fall-back to the specials -/
def parseFloatSyntax (c : Cfg) (o : POpts) (isPartial : Bool) (input : List Nat) (formatValid : Bool := true) :
    Except Err Parsed := do
  let byte := Bytes.new input
  let (neg, byte) ← parseMantissaSign c byte
  let (consumed, byte) ← isConsumed c .integer byte
  if consumed then
    if c.requiredIntegerDigits || c.requiredMantissaDigits then .error (.err "Empty" byte.index)
    else pure (.zero byte.index)
  else if isPartial then
    match parseNumber c true o byte neg formatValid with
    | .ok (n, count) => pure (.number n count)
    | .error (.err k i) =>
      match ← parsePositiveSpecial c o byte with
      | some (s, count) => pure (.special s neg count)
      | none => .error (.err k i)
    | .error e => .error e
  else
    match parseCompleteNumber c o byte neg formatValid with
    | .ok n => pure (.number n input.length)
    | .error (.err k i) =>
      match ← parseSpecialComplete c o byte with
      | some s => pure (.special s neg input.length)
      | none => .error (.err k i)
    | .error e => .error e

/-! ## format / option validation of the entry points -/

def isValidAscii (x : Nat) : Bool := (9 ≤ x && x ≤ 13) || (32 ≤ x && x < 127)
def isValidLetter (x : Nat) : Bool := (65 ≤ x && x ≤ 90) || (97 ≤ x && x ≤ 122)

/-- `flags::is_valid_radix` -/
def isValidRadix (feats : Features) (r : Nat) : Bool :=
  if feats.radix then 2 ≤ r && r ≤ 36
  else if feats.powerOfTwo then r = 2 || r = 4 || r = 8 || r = 10 || r = 16 || r = 32
  else r = 10

/-- `is_valid_optional_control` -/
def isValidOptionalControl (fmt : Format) (v : Nat) : Bool :=
  let radix := if fmt.mantissaRadix > fmt.exponentRadix then fmt.mantissaRadix else fmt.exponentRadix
  (charToDigit v radix).isNone && v ≠ 43 && v ≠ 45 && (isValidAscii v || v = 0)

def isValidControl (fmt : Format) (v : Nat) : Bool := v ≠ 0 && isValidOptionalControl fmt v

def flagMask : Nat := (2 ^ 18 - 1) + (2 ^ 13 - 1) * 2 ^ 32

/-- `is_valid_punctuation` -/
def isValidPunctuation (feats : Features) (fmt : Format) : Bool :=
  if !feats.format && fmt.digitSeparator ≠ 0 then false
  else
    let s := fmt.digitSeparator
    let p := fmt.basePrefix
    let x := fmt.baseSuffix
    if (p = 0 && x = 0) || (s = 0 && x = 0) || (s = 0 && p = 0) then true
    else s ≠ p && s ≠ x && p ≠ x

/-- `NumberFormat::error()` = `format_error_impl` of `feature_format.rs` / `not_feature_format.rs`; `none` = Success -/
def formatError (feats : Features) (fmt : Format) : Option String :=
  let sepMaskIs (base : Nat) : Bool :=   -- component mask == consecutive flag alone
    !fmt.bit base && !fmt.bit (base + 3) && !fmt.bit (base + 6) && fmt.bit (base + 9)
  if !isValidRadix feats fmt.mantissaRadix then some "InvalidMantissaRadix"
  else if !isValidRadix feats fmt.exponentBase then some "InvalidExponentBase"
  else if !isValidRadix feats fmt.exponentRadix then some "InvalidExponentRadix"
  else if !(if feats.format then isValidOptionalControl fmt fmt.digitSeparator else fmt.digitSeparator = 0) then
    some "InvalidDigitSeparator"
  else if !(if feats.format && feats.powerOfTwo then isValidOptionalControl fmt fmt.basePrefix else fmt.basePrefix = 0) then
    some "InvalidBasePrefix"
  else if !(if feats.format && feats.powerOfTwo then isValidOptionalControl fmt fmt.baseSuffix else fmt.baseSuffix = 0) then
    some "InvalidBaseSuffix"
  else if !isValidPunctuation feats fmt then some "InvalidPunctuation"
  else if !feats.format then
    (if Nat.land fmt.raw flagMask ≠ 12 then some "InvalidFlags" else none)
  else if fmt.noExponentNotation && fmt.requiredExponentNotation then some "InvalidExponentFlags"
  else if fmt.noPositiveMantissaSign && fmt.requiredMantissaSign then some "InvalidMantissaSign"
  else if fmt.noPositiveExponentSign && fmt.requiredExponentSign then some "InvalidExponentSign"
  else if fmt.noSpecial && fmt.caseSensitiveSpecial then some "InvalidSpecial"
  else if fmt.noSpecial && fmt.specialSep then some "InvalidSpecial"
  else if sepMaskIs 32 then some "InvalidConsecutiveIntegerDigitSeparator"
  else if sepMaskIs 33 then some "InvalidConsecutiveFractionDigitSeparator"
  else if sepMaskIs 34 then some "InvalidConsecutiveExponentDigitSeparator"
  else none

/-- `is_valid_options_punctuation` -/
def isValidOptionsPunctuation (feats : Features) (fmt : Format) (exp dp : Nat) : Bool :=
  if !isValidControl fmt dp || !isValidControl fmt exp then false
  else if dp = exp then false
  else if feats.format && (fmt.digitSeparator = dp || fmt.digitSeparator = exp || fmt.basePrefix = dp
      || fmt.basePrefix = exp || fmt.baseSuffix = dp || fmt.baseSuffix = exp) then false
  else true

/-- `check_radix!`: `true` = passes -/
def checkRadix (feats : Features) (fmt : Format) : Bool :=
  if (formatError feats fmt).isSome then false
  else if feats.powerOfTwo && fmt.mantissaRadix ≠ fmt.exponentBase then
    let r := fmt.mantissaRadix
    let b := fmt.exponentBase
    (r = 4 && b = 2) || (r = 8 && b = 2) || (r = 16 && b = 2) || (r = 32 && b = 2) || (r = 16 && b = 4)
  else true

/-- `OptionsBuilder::build` of `lexical-parse-float/src/options.rs`; `none` = Ok -/
def optionsError (o : POpts) : Option String :=
  let strErr (s : List Nat) (a b : Nat) (invalid tooLong : String) : Option String :=
    if s.isEmpty || !(s.head? = some a || s.head? = some b) then some invalid
    else if !s.all isValidLetter then some invalid
    else if s.length > 50 then some tooLong
    else none
  if !isValidAscii o.exp then some "InvalidExponentSymbol"
  else if !isValidAscii o.dp then some "InvalidDecimalPoint"
  else
    match (match o.nan with | some s => strErr s 78 110 "InvalidNanString" "NanStringTooLong" | none => none) with
    | some e => some e
    | none =>
      if o.inf.isSome && o.infinity.isNone then some "InfinityStringTooShort"
      else
        match (match o.inf with | some s => strErr s 73 105 "InvalidInfString" "InfStringTooLong" | none => none) with
        | some e => some e
        | none =>
          match o.infinity with
          | some s =>
            (match strErr s 73 105 "InvalidInfinityString" "InfinityStringTooLong" with
             | some e => some e
             | none => if s.length < (o.inf.getD []).length then some "InfinityStringTooShort" else none)
          | none => none

/-! ## API level -/

/-- digits an iterator over a stored slice yields (separators skipped), as digit values; stops at a non-digit -/
def sliceDigits (c : Cfg) (k : Comp) (s : List Nat) : List Nat :=
  match parseDigits { c with debug := false } k c.mantissaRadix (Bytes.new s) with
  | .ok (ds, _) => ds
  | .error _ => []

/-- exact value of a parsed `Number` as IEEE bits (specification arithmetic) -/
def numberBits (c : Cfg) (f : Fmt) (n : Number) : Nat :=
  let r := c.mantissaRadix
  let b := c.exponentBase
  if n.manyDigits then
    litBits f r b ⟨n.isNegative, sliceDigits c .integer n.integer,
      (match n.fraction with | some fd => sliceDigits c .fraction fd | none => []), n.explicitExp⟩
  else
    litBits f r b ⟨n.isNegative, toDigits r n.mantissa, [], n.exponent⟩

def renderErr : Err → String
  | .err k i => s!"err {k} {i}"
  | .panic _ => "panic"
  | .fault _ => "fault"

def renderParsed (c : Cfg) (f : Fmt) (isPartial : Bool) (p : Parsed) : String :=
  let cnt (n : Nat) : String := if isPartial then toString n else "-"
  match p with
  | .zero n => s!"ok 0 {cnt n}"
  | .number n count => s!"ok {toHex (numberBits c f n)} {cnt count}"
  | .special .nan _ count => s!"ok nan {cnt count}"
  | .special .inf neg count => s!"ok {toHex (f.infBits + if neg then f.signBit else 0)} {cnt count}"

/-- `parse_with_options` / `parse_partial_with_options` of `lexical-core` for a float type, as the harness line -/
def parseFloatModel (feats : Features) (fmt : Format) (o : POpts) (isPartial : Bool) (f : Fmt) (input : List Nat)
    (debug : Bool := false) : String :=
  match optionsError o with
  | some e => s!"opterr {e} -"
  | none =>
    let fe := formatError feats fmt
    -- both entry points of `api.rs` validate (the partial one since /repo commit e9d14fa)
    if fe.isSome then s!"err {fe.getD ""} -"
    else if !isValidOptionsPunctuation feats fmt o.exp o.dp then "err InvalidPunctuation -"
    else if !checkRadix feats fmt then "err InvalidRadix -"
    else
      let c : Cfg := ⟨feats, fmt, debug⟩
      match parseFloatSyntax c o isPartial input fe.isNone with
      | .ok p => renderParsed c f isPartial p
      | .error e => renderErr e

/-- `parse` / `parse_partial` (no options, STANDARD format): only `check_radix!` -/
def parseFloatDefaultModel (feats : Features) (isPartial : Bool) (f : Fmt) (input : List Nat) (debug : Bool := false) : String :=
  let fmt := Format.standard
  if !checkRadix feats fmt then "err InvalidRadix -"
  else
    let c : Cfg := ⟨feats, fmt, debug⟩
    match parseFloatSyntax c {} isPartial input with
    | .ok p => renderParsed c f isPartial p
    | .error e => renderErr e

/-- component op `pn`: what `harness/src/comp.rs::op_pn` prints -/
def parseNumberOp (feats : Features) (fmt : Format) (o : POpts) (isPartial : Bool) (input : List Nat)
    (debug : Bool := false) : String :=
  match optionsError o with
  | some e => s!"opterr {e} -"
  | none =>
    let c : Cfg := ⟨feats, fmt, debug⟩
    let r : Except Err String := do
      let (neg, byte) ← parseMantissaSign c (Bytes.new input)
      let (consumed, byte) ← isConsumed c .integer byte
      if consumed then pure s!"empty {byte.index}"
      else
        let (n, count) ← parseNumber c isPartial o byte neg (formatError feats fmt).isNone
        let b01 (x : Bool) : String := if x then "1" else "0"
        let fr := match n.fraction with | some fd => Spec.hexBytes fd | none => "-"
        pure s!"ok {n.mantissa} {n.exponent} {b01 n.manyDigits} {b01 n.isNegative} {count} {Spec.hexBytes n.integer} {fr}"
    match r with
    | .ok s => s
    | .error e => renderErr e

end LexVerif.Model
