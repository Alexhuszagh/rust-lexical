-- Root of the `LexVerif` library: `lake build` checks every module. The property theorems (`Props/`) pull in the
-- specifications, models and proofs they rest on; the rest are the line-protocol handlers of the driver and the table diagnostics.
import LexVerif.Props.C01
import LexVerif.Props.C01Compact
import LexVerif.Props.C01Final
import LexVerif.Props.C01Main
import LexVerif.Props.C01Number
import LexVerif.Props.C01Slow
import LexVerif.Props.C01SlowDomain
import LexVerif.Props.C01SlowMain
import LexVerif.Props.C01Trunc
import LexVerif.Props.C02
import LexVerif.Props.C03
import LexVerif.Props.C03Tie
import LexVerif.Props.C04
import LexVerif.Props.C04Format
import LexVerif.Props.C05
import LexVerif.Props.C05Bytes
import LexVerif.Props.C05Final
import LexVerif.Props.C05Number
import LexVerif.Props.C05Syntax
import LexVerif.Props.C06
import LexVerif.Props.C07
import LexVerif.Props.C08
import LexVerif.Props.C08Decimal
import LexVerif.Props.C08Parser
import LexVerif.Props.C09
import LexVerif.Props.C10
import LexVerif.Props.C10Debug
import LexVerif.Props.C11
import LexVerif.Props.C11Int
import LexVerif.Props.C11Sep
import LexVerif.Props.C12
import LexVerif.Props.C12Full
import LexVerif.Props.C12Sep
import LexVerif.Props.C13
import LexVerif.Props.C13Gen
import LexVerif.Props.C14
import LexVerif.Props.C14Pow2
import LexVerif.Props.C14Radix
import LexVerif.Props.C15
import LexVerif.Props.C15Write
import LexVerif.Props.C16
import LexVerif.Props.C17
import LexVerif.Props.C18
import LexVerif.Props.C18Builder
import LexVerif.Props.C18Options
import LexVerif.Props.C19
import LexVerif.Props.C19Final
import LexVerif.Props.C19FinalExact
import LexVerif.Props.LiteralsModel
import LexVerif.Props.LiteralsModelWrite
import LexVerif.Props.RoundNE
import LexVerif.Props.TablesParse
import LexVerif.Props.TablesUtil
import LexVerif.Props.TablesWrite
import LexVerif.Props.Literals.CoreLib
import LexVerif.Props.Literals.FacadeLib
import LexVerif.Props.Literals.ParseFloatApi
import LexVerif.Props.Literals.ParseFloatBellerophon
import LexVerif.Props.Literals.ParseFloatBigint
import LexVerif.Props.Literals.ParseFloatBinary
import LexVerif.Props.Literals.ParseFloatFloat
import LexVerif.Props.Literals.ParseFloatFpu
import LexVerif.Props.Literals.ParseFloatLemire
import LexVerif.Props.Literals.ParseFloatLibm
import LexVerif.Props.Literals.ParseFloatLimits
import LexVerif.Props.Literals.ParseFloatMask
import LexVerif.Props.Literals.ParseFloatNumber
import LexVerif.Props.Literals.ParseFloatOptions
import LexVerif.Props.Literals.ParseFloatParse
import LexVerif.Props.Literals.ParseFloatShared
import LexVerif.Props.Literals.ParseFloatSlow
import LexVerif.Props.Literals.ParseIntegerAlgorithm
import LexVerif.Props.Literals.ParseIntegerApi
import LexVerif.Props.Literals.ParseIntegerOptions
import LexVerif.Props.Literals.ParseIntegerParse
import LexVerif.Props.Literals.UtilAlgorithm
import LexVerif.Props.Literals.UtilApi
import LexVerif.Props.Literals.UtilAscii
import LexVerif.Props.Literals.UtilAssert
import LexVerif.Props.Literals.UtilConstants
import LexVerif.Props.Literals.UtilDigit
import LexVerif.Props.Literals.UtilDiv128
import LexVerif.Props.Literals.UtilError
import LexVerif.Props.Literals.UtilExtendedFloat
import LexVerif.Props.Literals.UtilFeatureFormat
import LexVerif.Props.Literals.UtilFormat
import LexVerif.Props.Literals.UtilFormatBuilder
import LexVerif.Props.Literals.UtilFormatFlags
import LexVerif.Props.Literals.UtilIterator
import LexVerif.Props.Literals.UtilLibm
import LexVerif.Props.Literals.UtilMul
import LexVerif.Props.Literals.UtilNoskip
import LexVerif.Props.Literals.UtilNotFeatureFormat
import LexVerif.Props.Literals.UtilNum
import LexVerif.Props.Literals.UtilOptions
import LexVerif.Props.Literals.UtilResult
import LexVerif.Props.Literals.UtilSkip
import LexVerif.Props.Literals.UtilStep
import LexVerif.Props.Literals.WriteFloatAlgorithm
import LexVerif.Props.Literals.WriteFloatApi
import LexVerif.Props.Literals.WriteFloatBinary
import LexVerif.Props.Literals.WriteFloatCompact
import LexVerif.Props.Literals.WriteFloatFloat
import LexVerif.Props.Literals.WriteFloatHex
import LexVerif.Props.Literals.WriteFloatIndex
import LexVerif.Props.Literals.WriteFloatOptions
import LexVerif.Props.Literals.WriteFloatRadix
import LexVerif.Props.Literals.WriteFloatShared
import LexVerif.Props.Literals.WriteFloatWrite
import LexVerif.Props.Literals.WriteIntegerAlgorithm
import LexVerif.Props.Literals.WriteIntegerApi
import LexVerif.Props.Literals.WriteIntegerCompact
import LexVerif.Props.Literals.WriteIntegerDecimal
import LexVerif.Props.Literals.WriteIntegerDigitCount
import LexVerif.Props.Literals.WriteIntegerJeaiii
import LexVerif.Props.Literals.WriteIntegerOptions
import LexVerif.Props.Literals.WriteIntegerRadix
import LexVerif.Props.Literals.WriteIntegerWrite
import LexVerif.Model.Ops.FormatError
import LexVerif.Model.Ops.GrammarSpec
import LexVerif.Model.Ops.OptionsValid
import LexVerif.Model.Ops.ParseAlgos
import LexVerif.Model.Ops.ParseFloatAlgo
import LexVerif.Model.Ops.ParseIntFormat
import LexVerif.Model.Ops.Slow
import LexVerif.Model.Ops.WriteAlgos
import LexVerif.Model.Ops.WriteInt
import LexVerif.Model.Ops.WriteRadix
import LexVerif.Proof.Tables.Diag
